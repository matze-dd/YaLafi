/-
  The root of the library: the model (`Model/`), and with the property modules everything they rest on, so that
  `lake build` checks the whole development.  A check builds `driver` and its own `Properties/Cxx` only.
-/
import YalafiVerif.Model.Basic
import YalafiVerif.Model.Tables
import YalafiVerif.Model.Utils
import YalafiVerif.Model.Scanner
import YalafiVerif.Properties.C01
import YalafiVerif.Properties.C02
import YalafiVerif.Properties.C03
import YalafiVerif.Properties.C04
import YalafiVerif.Properties.C05
import YalafiVerif.Properties.C06
import YalafiVerif.Properties.C07
import YalafiVerif.Properties.C08
import YalafiVerif.Properties.C09
import YalafiVerif.Properties.C10
import YalafiVerif.Properties.C11
import YalafiVerif.Properties.C12
import YalafiVerif.Properties.C13
import YalafiVerif.Properties.C14
import YalafiVerif.Properties.C15
import YalafiVerif.Properties.C16
import YalafiVerif.Properties.C17
import YalafiVerif.Properties.C18
import YalafiVerif.Properties.C19
import YalafiVerif.Properties.C20
