/-
  Generated/Init.lean — `Parser.__init__` for the default options, evaluated by the kernel on
  the tables translated from /repo (re-evaluated whenever Generated/Tables.lean changes).
  It discharges the hypothesis `hinit` of the end-to-end theorems for the current code (every
  `_current` theorem with the default options): `initParser_default`.  (Hand-written file.)

  The initialisation is evaluated against a state that is written down (`withBuiltins`): without
  packages and classes `Parser.__init__` changes the initial state only in the two definition tables.
  The instances on the current tables with the default options and an empty file system rewrite `stDefault`
  and `tex2txt … defaultOptions … []` to that normal form (`stDefault_eq`, `tex2txt_default`) before they
  evaluate, so that they do not run the initialisation again.  An instance with another fuel, other options
  or files in the file system has a run of its own (`initParser_builtins`, `initParser_modules`).  Of every
  such run the scanner's part is the same, the tokens of `Parameters.macro_defs_latex`; it is evaluated
  once (`builtinToks`, `builtinScan`), and a run evaluates the expander loop over these tokens
  (`builtinsRun`; `initParser_of_loop` in Proofs/Top.lean).  Two test vectors with files evaluate `tex2txt`
  as a whole, initialisation included: the last run of `C08_fault_eval_current` (Properties/PlainFaultStmt.lean)
  and that of `C18_include_blank_current` (Properties/SystemIncludeStmt.lean); to compare the initialised state
  with its normal form costs about what the scanner's part saves.

  String literals: to the kernel `"…".toList` costs the square of the length of the literal (in the unit of
  `maxHeartbeats`: about 1,400 for 50 characters, 4,800 for 100), and it is paid again wherever the evaluation
  meets the literal (for a name that is looked up in a table the rewrite saves several times its decoding).
  Hence the parsed built-in definitions (`builtinLatexMacros`) are written as lists of characters, and the
  instances rewrite the literals of their goal to lists of characters before `decide +kernel`:
  `rw [String.toList_ofList]` (`rw` unifies the literal with `String.ofList [ … ]`: one rewrite per literal,
  `rw (occs := .pos [i])` for the `i`-th literal of the goal alone, `repeat` behind the `unfold` of a
  document that is written as a list of segments).  This is done for literals that are COMPARED with what the
  model computes, for names and keys, and for the documents of the side conditions (`segsOk`, `render`); not
  below `+` or `≤` on `Nat` (a fuel bound): to check such a rewrite the kernel evaluates both sides.  A
  literal that the filter READS (the source of a `tex2txt` or `parse` run) stays a literal: over the list of
  characters the run costs two to three times more than over the decoded literal, which is more than the
  decoding; a long source is split into shorter literals instead (`sedExample_eq` in
  Properties/CleverefStmt.lean).
-/
import YalafiVerif.Generated.Tables
import YalafiVerif.Proofs.Top
namespace Yalafi

-- so that the kernel can compare the state a run ends in with one that is written down (`endsIn`)
deriving instance DecidableEq for MacroDef, ItemGen, Rot, PState

namespace Generated
open Yalafi

/-- `Options()` of tex2txt: language 'en', no packages, no document class -/
def defaultOptions : Options := {}

/-- fuel of the `_current` instances: sources of up to 999 998 characters -/
def bigFuel : Nat := 1000000

def initResult : Outcome (Unit × PState) :=
  initParser theTables bigFuel defaultOptions (initialState theTables defaultOptions false [])

def stDefault : PState :=
  match initResult with
  | .ok (_, s) => s
  | _ => initialState theTables defaultOptions false []

private def tk (k : Kind) (p : Nat) (s : Str) : Tok := { kind := k, pos := p, txt := s }

private def lm (name args : Str) (repl : List Tok) (defaults : List (List Tok) := []) : MacroDef :=
  { name := name, args := args, repl := repl, defaults := defaults }

/-- what the parser makes of `Parameters.macro_defs_latex` (positions: offsets in that string) -/
def builtinLatexMacros : List MacroDef :=
  [lm ['\\', 'A', 'A'] [] [tk .text 27 ['Å']],
   lm ['\\', 'a', 'a'] [] [tk .text 55 ['å']],
   lm ['\\', 'A', 'E'] [] [tk .text 83 ['Æ']],
   lm ['\\', 'a', 'e'] [] [tk .text 111 ['æ']],
   lm ['\\', 'b', 'i', 'b', 'i', 't', 'e', 'm'] ['A'] [tk .item 147 ['\\', 'i', 't', 'e', 'm']],
   lm ['\\', 'b', 'i', 'b', 'l', 'i', 'o', 'g', 'r', 'a', 'p', 'h', 'y', 's', 't', 'y', 'l', 'e'] ['A'] [tk .void 196 []],
   lm ['\\', 'f', 'o', 'o', 't', 'n', 'o', 't', 'e', 'm', 'a', 'r', 'k'] ['O'] [tk .void 238 []] [[tk .void 236 []]],
   lm ['\\', 'h', 'f', 'i', 'l', 'l'] [] [tk .space 269 [' ']],
   lm ['\\', 'i', 'n', 'c', 'l', 'u', 'd', 'e'] ['A'] [tk .void 304 []],
   lm ['\\', 'i', 'n', 'd', 'e', 'x'] ['A'] [tk .void 337 []],
   lm ['\\', 'i', 'n', 'p', 'u', 't'] ['A'] [tk .void 370 []],
   lm ['\\', 'L'] [] [tk .text 397 ['Ł']],
   lm ['\\', 'l'] [] [tk .text 424 ['ł']],
   lm ['\\', 'l', 'a', 'b', 'e', 'l'] ['A'] [tk .void 457 []],
   lm ['\\', 'L', 'a', 'T', 'e', 'X'] [] [tk .text 488 ['L'], tk .text 489 ['a'], tk .text 490 ['T'], tk .text 491 ['e'], tk .text 492 ['X']],
   lm ['\\', 'n', 'e', 'w', 'l', 'i', 'n', 'e'] [] [tk .space 525 [' ']],
   lm ['\\', 'n', 'o', 'b', 'r', 'e', 'a', 'k', 's', 'p', 'a', 'c', 'e'] [] [tk .special 563 ['~']],
   lm ['\\', 'O'] [] [tk .text 590 ['Ø']],
   lm ['\\', 'o'] [] [tk .text 617 ['ø']],
   lm ['\\', 'O', 'E'] [] [tk .text 645 ['Œ']],
   lm ['\\', 'o', 'e'] [] [tk .text 673 ['œ']],
   lm ['\\', 'p', 'a', 'g', 'e', 'n', 'u', 'm', 'b', 'e', 'r', 'i', 'n', 'g'] ['A'] [tk .void 714 []],
   lm ['\\', 'p', 'a', 'g', 'e', 'r', 'e', 'f'] ['A'] [tk .text 750 ['0']],
   lm ['\\', 'p', 'a', 'g', 'e', 's', 't', 'y', 'l', 'e'] ['A'] [tk .void 787 []],
   lm ['\\', 'p', 'a', 'r'] [] [tk .par 816 ['\n', '\n']],
   lm ['\\', 'q', 'q', 'u', 'a', 'd'] [] [tk .special 848 ['\\', ';']],
   lm ['\\', 'q', 'u', 'a', 'd'] [] [tk .special 879 ['\\', ';']],
   lm ['\\', 'r', 'e', 'f'] ['A'] [tk .text 912 ['0']],
   lm ['\\', 'S'] [] [tk .text 939 ['§']],
   lm ['\\', 's', 's'] [] [tk .text 967 ['ß']],
   lm ['\\', 'T', 'e', 'X'] [] [tk .text 996 ['T'], tk .text 997 ['e'], tk .text 998 ['X']],
   lm ['\\', 't', 'e', 'x', 't', 'a', 's', 'c', 'i', 'i', 'c', 'i', 'r', 'c', 'u', 'm'] [] [tk (.verb false) 1045 ['^']],
   lm ['\\', 't', 'e', 'x', 't', 'a', 's', 'c', 'i', 'i', 't', 'i', 'l', 'd', 'e'] [] [tk (.verb false) 1107 ['~']],
   lm ['\\', 't', 'e', 'x', 't', 'b', 'a', 'c', 'k', 's', 'l', 'a', 's', 'h'] [] [tk (.verb false) 1169 ['\\']],
   lm ['\\', 't', 'h', 'i', 's', 'p', 'a', 'g', 'e', 's', 't', 'y', 'l', 'e'] ['A'] [tk .void 1232 []],
   lm ['\\', 'v', 'p', 'h', 'a', 'n', 't', 'o', 'm'] ['A'] [tk .void 1268 []]]

/-- the state `Parser.__init__` reaches from the initial state `st0` when neither a package nor a
    document class is loaded -/
def withBuiltins (st0 : PState) : PState :=
  { st0 with macros := theTables.macroDefsPython ++ builtinLatexMacros, envs := theTables.environmentDefs }

def stDefaultNF : PState := withBuiltins (initialState theTables defaultOptions false [])

def endsIn (r : Outcome (Unit × PState)) (s0 : PState) : Bool :=
  match r with
  | .ok (_, s) => decide (s = s0)
  | _ => false

theorem eq_ok_of_endsIn {r : Outcome (Unit × PState)} {s0 : PState} (h : endsIn r s0 = true) :
    r = .ok ((), s0) := by
  cases r with
  | ok p => obtain ⟨⟨⟩, s⟩ := p; simpa [endsIn] using h
  | fatal m => simp [endsIn] at h
  | crash c => simp [endsIn] at h
  | outOfFuel => simp [endsIn] at h

private def ncw : Str := ['\\', 'n', 'e', 'w', 'c', 'o', 'm', 'm', 'a', 'n', 'd']
private def ind : Str := ['\n', ' ', ' ', ' ', ' ', ' ', ' ', ' ', ' ']

/-- the tokens the scanner makes of `Parameters.macro_defs_latex` (`theTables.macroDefsLatex`), written down;
    `builtinScan` evaluates the scanner against them whenever the tables change -/
def builtinToks : List Tok :=
  [tk .par 0 ['\n', '\n', ' ', ' ', ' ', ' ', ' ', ' ', ' ', ' '], tk .xmacro 10 ncw, tk .special 21 ['{'],
   tk .xmacro 22 ['\\', 'A', 'A'], tk .special 25 ['}'], tk .special 26 ['{'], tk .text 27 ['Å'],
   tk .special 28 ['}'], tk .space 29 ind, tk .xmacro 38 ncw, tk .special 49 ['{'],
   tk .xmacro 50 ['\\', 'a', 'a'], tk .special 53 ['}'], tk .special 54 ['{'], tk .text 55 ['å'],
   tk .special 56 ['}'], tk .space 57 ind, tk .xmacro 66 ncw, tk .special 77 ['{'],
   tk .xmacro 78 ['\\', 'A', 'E'], tk .special 81 ['}'], tk .special 82 ['{'], tk .text 83 ['Æ'],
   tk .special 84 ['}'], tk .space 85 ind, tk .xmacro 94 ncw, tk .special 105 ['{'],
   tk .xmacro 106 ['\\', 'a', 'e'], tk .special 109 ['}'], tk .special 110 ['{'], tk .text 111 ['æ'],
   tk .special 112 ['}'], tk .space 113 ind, tk .xmacro 122 ncw, tk .special 133 ['{'],
   tk .xmacro 134 ['\\', 'b', 'i', 'b', 'i', 't', 'e', 'm'], tk .special 142 ['}'], tk .text 143 ['['],
   tk .text 144 ['1'], tk .text 145 [']'], tk .special 146 ['{'], tk .item 147 ['\\', 'i', 't', 'e', 'm'],
   tk .special 152 ['}'], tk .space 153 ind, tk .xmacro 162 ncw, tk .special 173 ['{'],
   tk .xmacro 174 ['\\', 'b', 'i', 'b', 'l', 'i', 'o', 'g', 'r', 'a', 'p', 'h', 'y', 's', 't', 'y', 'l', 'e'],
   tk .special 192 ['}'], tk .text 193 ['['], tk .text 194 ['1'], tk .text 195 [']'], tk .special 196 ['{'],
   tk .special 197 ['}'], tk .space 198 ind, tk .xmacro 207 ncw, tk .special 218 ['{'],
   tk .xmacro 219 ['\\', 'f', 'o', 'o', 't', 'n', 'o', 't', 'e', 'm', 'a', 'r', 'k'], tk .special 232 ['}'],
   tk .text 233 ['['], tk .text 234 ['1'], tk .text 235 [']'], tk .text 236 ['['], tk .text 237 [']'],
   tk .special 238 ['{'], tk .special 239 ['}'], tk .space 240 ind, tk .xmacro 249 ncw, tk .special 260 ['{'],
   tk .xmacro 261 ['\\', 'h', 'f', 'i', 'l', 'l'], tk .special 267 ['}'], tk .special 268 ['{'],
   tk .space 269 [' '], tk .special 270 ['}'], tk .space 271 ind, tk .xmacro 280 ncw, tk .special 291 ['{'],
   tk .xmacro 292 ['\\', 'i', 'n', 'c', 'l', 'u', 'd', 'e'], tk .special 300 ['}'], tk .text 301 ['['],
   tk .text 302 ['1'], tk .text 303 [']'], tk .special 304 ['{'], tk .special 305 ['}'], tk .space 306 ind,
   tk .xmacro 315 ncw, tk .special 326 ['{'], tk .xmacro 327 ['\\', 'i', 'n', 'd', 'e', 'x'],
   tk .special 333 ['}'], tk .text 334 ['['], tk .text 335 ['1'], tk .text 336 [']'], tk .special 337 ['{'],
   tk .special 338 ['}'], tk .space 339 ind, tk .xmacro 348 ncw, tk .special 359 ['{'],
   tk .xmacro 360 ['\\', 'i', 'n', 'p', 'u', 't'], tk .special 366 ['}'], tk .text 367 ['['],
   tk .text 368 ['1'], tk .text 369 [']'], tk .special 370 ['{'], tk .special 371 ['}'], tk .space 372 ind,
   tk .xmacro 381 ncw, tk .special 392 ['{'], tk .xmacro 393 ['\\', 'L'], tk .special 395 ['}'],
   tk .special 396 ['{'], tk .text 397 ['Ł'], tk .special 398 ['}'], tk .space 399 ind, tk .xmacro 408 ncw,
   tk .special 419 ['{'], tk .xmacro 420 ['\\', 'l'], tk .special 422 ['}'], tk .special 423 ['{'],
   tk .text 424 ['ł'], tk .special 425 ['}'], tk .space 426 ind, tk .xmacro 435 ncw, tk .special 446 ['{'],
   tk .xmacro 447 ['\\', 'l', 'a', 'b', 'e', 'l'], tk .special 453 ['}'], tk .text 454 ['['],
   tk .text 455 ['1'], tk .text 456 [']'], tk .special 457 ['{'], tk .special 458 ['}'], tk .space 459 ind,
   tk .xmacro 468 ncw, tk .special 479 ['{'], tk .xmacro 480 ['\\', 'L', 'a', 'T', 'e', 'X'],
   tk .special 486 ['}'], tk .special 487 ['{'], tk .text 488 ['L'], tk .text 489 ['a'], tk .text 490 ['T'],
   tk .text 491 ['e'], tk .text 492 ['X'], tk .special 493 ['}'], tk .space 494 ind, tk .xmacro 503 ncw,
   tk .special 514 ['{'], tk .xmacro 515 ['\\', 'n', 'e', 'w', 'l', 'i', 'n', 'e'], tk .special 523 ['}'],
   tk .special 524 ['{'], tk .space 525 [' '], tk .special 526 ['}'], tk .space 527 ind, tk .xmacro 536 ncw,
   tk .special 547 ['{'], tk .xmacro 548 ['\\', 'n', 'o', 'b', 'r', 'e', 'a', 'k', 's', 'p', 'a', 'c', 'e'],
   tk .special 561 ['}'], tk .special 562 ['{'], tk .special 563 ['~'], tk .special 564 ['}'],
   tk .space 565 ind, tk .xmacro 574 ncw, tk .special 585 ['{'], tk .xmacro 586 ['\\', 'O'],
   tk .special 588 ['}'], tk .special 589 ['{'], tk .text 590 ['Ø'], tk .special 591 ['}'], tk .space 592 ind,
   tk .xmacro 601 ncw, tk .special 612 ['{'], tk .xmacro 613 ['\\', 'o'], tk .special 615 ['}'],
   tk .special 616 ['{'], tk .text 617 ['ø'], tk .special 618 ['}'], tk .space 619 ind, tk .xmacro 628 ncw,
   tk .special 639 ['{'], tk .xmacro 640 ['\\', 'O', 'E'], tk .special 643 ['}'], tk .special 644 ['{'],
   tk .text 645 ['Œ'], tk .special 646 ['}'], tk .space 647 ind, tk .xmacro 656 ncw, tk .special 667 ['{'],
   tk .xmacro 668 ['\\', 'o', 'e'], tk .special 671 ['}'], tk .special 672 ['{'], tk .text 673 ['œ'],
   tk .special 674 ['}'], tk .space 675 ind, tk .xmacro 684 ncw, tk .special 695 ['{'],
   tk .xmacro 696 ['\\', 'p', 'a', 'g', 'e', 'n', 'u', 'm', 'b', 'e', 'r', 'i', 'n', 'g'],
   tk .special 710 ['}'], tk .text 711 ['['], tk .text 712 ['1'], tk .text 713 [']'], tk .special 714 ['{'],
   tk .special 715 ['}'], tk .space 716 ind, tk .xmacro 725 ncw, tk .special 736 ['{'],
   tk .xmacro 737 ['\\', 'p', 'a', 'g', 'e', 'r', 'e', 'f'], tk .special 745 ['}'], tk .text 746 ['['],
   tk .text 747 ['1'], tk .text 748 [']'], tk .special 749 ['{'], tk .text 750 ['0'], tk .special 751 ['}'],
   tk .space 752 ind, tk .xmacro 761 ncw, tk .special 772 ['{'],
   tk .xmacro 773 ['\\', 'p', 'a', 'g', 'e', 's', 't', 'y', 'l', 'e'], tk .special 783 ['}'],
   tk .text 784 ['['], tk .text 785 ['1'], tk .text 786 [']'], tk .special 787 ['{'], tk .special 788 ['}'],
   tk .space 789 ind, tk .xmacro 798 ncw, tk .special 809 ['{'], tk .xmacro 810 ['\\', 'p', 'a', 'r'],
   tk .special 814 ['}'], tk .special 815 ['{'], tk .par 816 ['\n', '\n'], tk .special 818 ['}'],
   tk .space 819 ind, tk .xmacro 828 ncw, tk .special 839 ['{'],
   tk .xmacro 840 ['\\', 'q', 'q', 'u', 'a', 'd'], tk .special 846 ['}'], tk .special 847 ['{'],
   tk .special 848 ['\\', ';'], tk .special 850 ['}'], tk .space 851 ind, tk .xmacro 860 ncw,
   tk .special 871 ['{'], tk .xmacro 872 ['\\', 'q', 'u', 'a', 'd'], tk .special 877 ['}'],
   tk .special 878 ['{'], tk .special 879 ['\\', ';'], tk .special 881 ['}'], tk .space 882 ind,
   tk .xmacro 891 ncw, tk .special 902 ['{'], tk .xmacro 903 ['\\', 'r', 'e', 'f'], tk .special 907 ['}'],
   tk .text 908 ['['], tk .text 909 ['1'], tk .text 910 [']'], tk .special 911 ['{'], tk .text 912 ['0'],
   tk .special 913 ['}'], tk .space 914 ind, tk .xmacro 923 ncw, tk .special 934 ['{'],
   tk .xmacro 935 ['\\', 'S'], tk .special 937 ['}'], tk .special 938 ['{'], tk .text 939 ['§'],
   tk .special 940 ['}'], tk .space 941 ind, tk .xmacro 950 ncw, tk .special 961 ['{'],
   tk .xmacro 962 ['\\', 's', 's'], tk .special 965 ['}'], tk .special 966 ['{'], tk .text 967 ['ß'],
   tk .special 968 ['}'], tk .space 969 ind, tk .xmacro 978 ncw, tk .special 989 ['{'],
   tk .xmacro 990 ['\\', 'T', 'e', 'X'], tk .special 994 ['}'], tk .special 995 ['{'], tk .text 996 ['T'],
   tk .text 997 ['e'], tk .text 998 ['X'], tk .special 999 ['}'], tk .space 1000 ind, tk .xmacro 1009 ncw,
   tk .special 1020 ['{'],
   tk .xmacro 1021 ['\\', 't', 'e', 'x', 't', 'a', 's', 'c', 'i', 'i', 'c', 'i', 'r', 'c', 'u', 'm'],
   tk .special 1037 ['}'], tk .special 1038 ['{'], tk (.verb false) 1045 ['^'], tk .special 1047 ['}'],
   tk .space 1048 [' '],
   tk .comment 1049 ['%', ' ', '\\', '^', ' ', 'i', 's', ' ', 'a', 'c', 'c', 'e', 'n', 't', '\n', ' ', ' ', ' ', ' ', ' ', ' ', ' ', ' '],
   tk .xmacro 1072 ncw, tk .special 1083 ['{'],
   tk .xmacro 1084 ['\\', 't', 'e', 'x', 't', 'a', 's', 'c', 'i', 'i', 't', 'i', 'l', 'd', 'e'],
   tk .special 1099 ['}'], tk .special 1100 ['{'], tk (.verb false) 1107 ['~'], tk .special 1109 ['}'],
   tk .space 1110 [' ', ' '],
   tk .comment 1112 ['%', ' ', '\\', '~', ' ', 'i', 's', ' ', 'a', 'c', 'c', 'e', 'n', 't', '\n', ' ', ' ', ' ', ' ', ' ', ' ', ' ', ' '],
   tk .xmacro 1135 ncw, tk .special 1146 ['{'],
   tk .xmacro 1147 ['\\', 't', 'e', 'x', 't', 'b', 'a', 'c', 'k', 's', 'l', 'a', 's', 'h'],
   tk .special 1161 ['}'], tk .special 1162 ['{'], tk (.verb false) 1169 ['\\'], tk .special 1171 ['}'],
   tk .space 1172 [' ', ' ', ' '],
   tk .comment 1175 ['%', ' ', '\\', '\\', ' ', 'i', 's', ' ', 'l', 'i', 'n', 'e', ' ', 'b', 'r', 'e', 'a', 'k', '\n', ' ', ' ', ' ', ' ', ' ', ' ', ' ', ' '],
   tk .xmacro 1202 ncw, tk .special 1213 ['{'],
   tk .xmacro 1214 ['\\', 't', 'h', 'i', 's', 'p', 'a', 'g', 'e', 's', 't', 'y', 'l', 'e'],
   tk .special 1228 ['}'], tk .text 1229 ['['], tk .text 1230 ['1'], tk .text 1231 [']'],
   tk .special 1232 ['{'], tk .special 1233 ['}'], tk .space 1234 ind, tk .xmacro 1243 ncw,
   tk .special 1254 ['{'], tk .xmacro 1255 ['\\', 'v', 'p', 'h', 'a', 'n', 't', 'o', 'm'],
   tk .special 1264 ['}'], tk .text 1265 ['['], tk .text 1266 ['1'], tk .text 1267 [']'],
   tk .special 1268 ['{'], tk .special 1269 ['}'],
   tk .par 1270 ['\n', '\n', ' ', ' ', ' ', ' ', ' ', ' ', ' ', ' ']]

theorem builtinScan : (scan theTables.toTables theTables.macroDefsLatex).toks = builtinToks ∧
    (scan theTables.toTables theTables.macroDefsLatex).diags = [] := by
  decide +kernel

/-- with `f` units of fuel the loop over the built-in definitions, started by `Parser.__init__` from `st0`,
    meets no skip region and ends in `withBuiltins st0` (decidable, for the kernel) -/
def builtinsRun (f : Nat) (o : Options) (st0 : PState) : Bool :=
  let W : PState := { builtinState theTables o st0 with latex := theTables.macroDefsLatex, nest := st0.nest + 1 }
  decide (skipPass W (builtinToks.length + 1) builtinToks [] = (builtinToks, none, [])) &&
  match expandSequence theTables f builtinToks none [] W with
  | .ok (_, s) => decide (s = { withBuiltins st0 with latex := theTables.macroDefsLatex, nest := st0.nest + 1 })
  | _ => false

theorem initParser_modules {f : Nat} {o : Options} {st0 : PState} (h : builtinsRun f o st0 = true) :
    initParser theTables (f + 3) o st0 = initModules theTables (f + 3) o (withBuiltins st0) := by
  simp only [builtinsRun, Bool.and_eq_true, decide_eq_true_eq] at h
  obtain ⟨hsp, hs⟩ := h
  split at hs
  · next rb s e =>
    rw [initParser_of_loop (by decide) builtinScan.1 builtinScan.2 hsp
      (e.trans (by rw [of_decide_eq_true hs]) : _ = Outcome.ok ((rb.1, rb.2), _))]
    simp only [withBuiltins, Nat.add_sub_cancel]
  · cases hs

theorem initParser_builtins {f : Nat} {o : Options} {st0 : PState} (hp : o.pack = []) (hd : o.dcls = [])
    (h : builtinsRun f o st0 = true) : initParser theTables (f + 3) o st0 = .ok ((), withBuiltins st0) := by
  rw [initParser_modules h, initModules_none hp hd]

theorem initResult_eq : initResult = .ok ((), stDefaultNF) :=
  initParser_builtins (f := 999997) rfl rfl (by decide +kernel)

-- by the equation lemma, not `unfold`: asked to compare `stDefault` with its body, the kernel unfolds the
-- `match` first and evaluates `initResult` to decide it
theorem stDefault_eq : stDefault = stDefaultNF := by
  rw [stDefault.eq_1, initResult_eq]

theorem initParser_default :
    initParser theTables bigFuel defaultOptions (initialState theTables defaultOptions false [])
      = .ok ((), stDefault) := by
  rw [stDefault_eq]; exact initResult_eq

theorem tex2txt_default (latex : Str) (thresh : Nat) :
    tex2txt theTables bigFuel latex defaultOptions false thresh []
      = finishT2T theTables defaultOptions false thresh (parse theTables bigFuel latex [] [] stDefaultNF) :=
  tex2txt_of_init initResult_eq latex thresh

end Generated
end Yalafi
