/-
  Proofs/SystemWordMix2.lean — SYSTEM LEVEL for the union grammar of fourteen construct kinds
  (`PlainMix2`, the grammar of `C03_mix2_e2e`): the filter's theorem composed with the shell's
  pipeline.

  In these documents NOT every output character is a copy (placeholders of formulas, references and
  citations, values of special sequences, the full stop of a heading, the line breaks around a
  footnote), and consecutive map entries alone do not make a copy (`a--`: `a–` is mapped to `a-`).
  The flagged word is therefore named on the document side:

  Marks level (`copied_run_marks` of Proofs/SystemWordRun.lean on the reference `PlainMix2.marks`;
      stated as `C14_copied_run_contiguous` in Properties/SystemStmt.lean): every run of character marks
      `some (c₀, p), some (c₁, p+1), …` of the reference without a text-less mark in
      between whose first and last characters are no white space appears in the plain text as a
      contiguous block at some offset `off`, and the map entries there are `p+1, p+2, …` (`RunAt`).
      This covers the text of `txt` segments, the contents of `\verb`, the notes of citations and the
      titles of headings.  `C14_copied_run_footnote`: the same for a stretch of a footnote body (`flows`).
  `flagged_word_mix2`: a stretch `w` of a `txt` segment (`segs = pre ++ .txt (a ++ w ++ b) :: post`,
      first and last character of `w` no white space), `p = |render pre| + |a|` its offset in the
      file:
      * `src[p … p+l) = w`;
      * it appears in the plain text at an offset `off` with `RunAt r.pos off l (p+1)`;
      * for EVERY offset `off` with `RunAt r.pos off l (p+1)` (the proofreader flags `l` characters
        whose map entries are those of the word) and every padding of the map:
        `map_match_position` yields offset `p`, length `l` (a text character is no backslash, the
        macro-name extension never applies), all reports are `WordReported src p l`, and the HTML
        highlight is the word (`HtmlWord`).

  NOT covered: what `PlainMix2` does not cover; flagged stretches that mix copied characters with
  replaced ones (`a–b`: the reports then name `a--b` — `mapMatch` takes the difference of the
  entries — but no theorem here says so).
-/
import YalafiVerif.Proofs.SystemWordGroup
import YalafiVerif.Proofs.PlainMix2Read
namespace Yalafi
namespace SystemWord

open PlainMacro Reports

/-! ### the reference of a document `pre ++ rest` -/

theorem render_append : ∀ (pre rest : List PlainMix2.Seg),
    PlainMix2.render (pre ++ rest) = PlainMix2.render pre ++ PlainMix2.render rest
  | [], _ => rfl
  | s :: pre, rest => by simp [PlainMix2.render, render_append pre rest]

theorem PlainMix2.segsOk_drop (T : PTables) (st : PState) (rest : List PlainMix2.Seg) :
    ∀ (pre : List PlainMix2.Seg), PlainMix2.segsOk T st (pre ++ rest) = true → PlainMix2.segsOk T st rest = true
  | [], h => h
  | s :: pre, h => by
    cases s <;>
      (simp only [List.cons_append, PlainMix2.segsOk, Bool.and_eq_true] at h; exact PlainMix2.segsOk_drop T st rest pre h.2)

theorem txt_not_backslash {T : PTables} {st : PState} {pre post : List PlainMix2.Seg} {a w b : Str}
    (h : PlainMix2.segsOk T st (pre ++ .txt (a ++ (w ++ b)) :: post) = true) : w.head? ≠ some '\\' := by
  have h1 := PlainMix2.segsOk_drop T st _ pre h
  simp only [PlainMix2.segsOk, Bool.and_eq_true] at h1
  exact head_not_backslash (tx := PlainMix.textOkU T st) (ok := PlainMix.okAtU T st) (fun _ _ _ => rfl)
    (fun _ _ h2 => not_backslash ((textChar_cases (Bool.and_eq_true_iff.mp h2).2).imp id And.left)) h1.1

theorem flagged_word_mix2 (T : PTables) (o : Options) (fs : FS) (thresh : Nat)
    (segs : List PlainMix2.Seg) (fuel : Nat) (st1 : PState) (repls : List Str)
    (hdefs : o.defs = []) (hextr : o.extr = []) (hrepl : o.hasRepl = false) (hunkn : o.unkn = false)
    (hinit : initParser T fuel o (initialState T o false fs) = .ok ((), st1))
    (hok : PlainMix2.SegsOk T st1 repls segs) (hf : (PlainMix2.render segs).length + 4 ≤ fuel)
    (pre post : List PlainMix2.Seg) (a w b : Str) (hsegs : segs = pre ++ .txt (a ++ (w ++ b)) :: post)
    (hw : wordEnds w = true) :
    FlaggedAt T o fs thresh fuel (PlainMix2.render segs) ((PlainMix2.render pre).length + a.length) w := by
  obtain ⟨r, h1, h2, h3, _⟩ :=
    PlainMix2.tex2txt_mix2 T o fs thresh segs fuel st1 repls hdefs hextr hrepl hunkn hinit hok hf
  refine flaggedAt_of_text h1 h2 h3 (L := PlainMix2.render pre) (R := PlainMix2.render post) (b := b) ?_ rfl ?_
    hw (txt_not_backslash (by rw [← hsegs]; exact hok.2.1))
  · rw [hsegs, render_append]; simp [PlainMix2.render, PlainMix2.Seg.render]
  · rw [hsegs, PlainMix2.marks_append, Nat.zero_add (PlainMix2.render pre).length]; exact ⟨_, _, rfl⟩

end SystemWord
end Yalafi
