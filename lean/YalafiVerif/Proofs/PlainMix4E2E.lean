/-
  Proofs/PlainMix4E2E.lean — C03 "hidden material never leaks" / C05 "text flow is preserved", end
  to end on the model, for the FOURTH union grammar: the twenty-two kinds of Proofs/PlainMix3E2E.lean
  PLUS twelve more, in any order and mixture (`PlainMix4.Seg`, 34 constructors).  The definitions
  of PlainMix4*.lean are those of PlainMix3*.lean with cases for the further kinds (the theorem of the third
  grammar is a corollary of the one here, Proofs/PlainMix3Emb.lean).

  Kinds beyond the third grammar
    (f) `ddef name n body`       `\def\name#1…#n{body}` (Proofs/PlainDefTex.lean): stores the same macro
                                 as `\newcommand{\name}[n]{body}`; a use `use name args` does not see
                                 the difference; either may redefine the other
    (a) `itemL ws label pc`      `\item ws [label]` (Proofs/PlainItemL.lean); `pc : Option Char` is the
                                 punctuation mark the model REPEATS behind the label — it is not part
                                 of the source text but DECLARED in the document and checked by the
                                 side condition `pvLive` (see below)
        `ubeg name`, `uen name`  `\begin{name}` / `\end{name}` of an UNDECLARED environment
                                 (`description` is not declared in the tables of /repo): one mark
                                 each; `name` (without backslash) goes to the unknowns
    (b) `call name body`         `\name{body}` for every macro declared like `\footnote`
                                 (`\footnote`, `\footnotetext`, `\caption`; Proofs/PlainFlows.lean)
        `callO name opt body`    `\name[opt]{body}`: nothing of `opt` is used
        `fbeg name ws`, `fbegN name placement`, `fen name`
                                 `\begin{figure}` + the white space it swallows, `\begin{figure}[ht]`,
                                 `\end{figure}` for the float environments (`figure`, `table`)
    (e) `ppar ws`                `\par` and the white space behind it (Proofs/PlainParEnv.lean)
        `pbeg name arg`, `pen name`   `\begin{name}{arg}` / `\end{name}` of the paragraph-forming
                                 environments with one mandatory argument (`minipage`,
                                 `thebibliography`); all three are stateless (`Item.fix`)
  Reference (`marks`, additions): `ddef` = a mark, the definition is in force behind it; `itemL` =
  `itemLMarks`: a blank at the backslash, two marks, the label at its own positions, a mark, `pc` (if
  any) and a blank, both at the start of the last token of the label (at `[` for `\item[]`); NO default
  label, the label generators are not touched; `ubeg` / `uen` = a mark; `call` / `callO` = a mark,
  the body goes to `flows` (three line breaks, the body at its own positions, a line break), in
  source order with the footnotes; `fbeg` / `fbegN` = two marks (the swallowed white space is gone),
  `fen` = a mark; `ppar` = a mark and two line breaks at the backslash, `pbeg` = two line breaks at
  the backslash and a mark, `pen` = two line breaks at the backslash.  `unknowns`: also the names of
  the undeclared environments, without backslash (`unkNames`).

  The repeated punctuation.  `expand_item` looks at the output of the running loop: if the last token
  whose text is not blank ends with a character of `item_punctuation`, that character is repeated
  behind the label (`x:⏎\item[a] one.⏎\item[b] two` gives `x:⏎ a:  one.⏎ b.  two`).  The loop
  lemma carries the invariant `PvOk` (the `pc` recorded in every `itemL` piece is what the model finds
  in the output so far); the computable side condition `pvLive T st stk k 0 segs` threads what the
  REFERENCE knows about that character (`k : PvK`: `some v` = known, `none` = unknown): a text
  character that is no white space makes it known; a construct that leaves only marks / white space
  keeps it; a construct that leaves visible characters that are not copied from the source (a
  formula, a use, a reference, a citation, a heading, an accent, a generated item label, …) makes it
  UNKNOWN until the next visible text character (the token boundaries of such output are not part of
  the reference); at `itemL ws label pc` it must be known and `pc` = that character if it is in
  `item_punctuation`, `none` otherwise (`pcOk`).

  Side conditions of these kinds (in `SegsOk`, decidable)
    `ddef`            `PlainDefTex.ddefOk`
    `itemL`           `itemLOkV` = `PlainItemL.itemLOk` (no special sequence at the backslash, `ws` white
                      space with at most one line break, `[label]`: brackets scanned as text tokens, the
                      label inert and without `]`), the blank is no active character, `PlainItemL.punctOk`
                      (the punctuation marks are harmless tokens); `pcIn`: `pc` is in `item_punctuation`;
                      `pvLive` (above)
    `ubeg`, `uen`     `PlainItemL.ubegOk` / `uendOk` (the name inert, NOT declared as an environment)
    `call`, `callO`   `PlainFlows.callOk` / `callOOk` and `PlainFlows.stateOk`
    `fbeg`            `fbegOk` = `PlainFlows.begOk` and the conditions `itemOkV` has on what follows (a
                      visible character other than `[` and `%`, first token not `[`)
    `fbegN`, `fen`    `PlainFlows.begNOk` / `endOk`
    `ppar`            `parOkV`: `PlainParEnv.parOkS` (`\par` is one macro token; `ws` is white space with
                      at most one line break, the WHOLE run; what follows does not start with
                      skippable white space — a paragraph break is fine), `PlainParEnv.parOk st1`
                      (`\par` declared without arguments, replacement = one paragraph token), what
                      follows is no comment (`skip_space` would pass it)
    `pbeg`, `pen`     `PlainParEnv.begOk` / `endOk` (scanned as such, not `\begin{verbatim}`; name and
                      argument non-empty strings of inert characters in braces; the name declared
                      with `parEnvOk`: `add_pars`, one mandatory argument, no replacement, no handlers)
    fuel              `inserted` counts one more token for every `itemL`
  NOT covered (of these kinds): `\def` with white space / delimited parameters; labels with macros, braces,
  maths, `]`; a labelled item directly behind output whose last visible character the reference does
  not know (`$x$ \item[a]`, `\item \item[a]`); flows with macros / maths in the body, white space
  between name and `[` / `{`; a paragraph break directly behind `\begin{figure}`; `\newtheorem` and
  theorem environments, macros with optional argument and default, LT-SKIP regions (left out: the
  first two change `st.envs` resp. the macro record, which the invariant `PlainMacroArgs.StOk` keeps fixed).

  BELOW: the twenty-two kinds of the third grammar, as Proofs/PlainMix3E2E.lean describes them, and
  the structure of the proof.

  Kinds that are in (`PlainMix4.Seg`)
    thirteen kinds of Proofs/PlainMix2E2E.lean, unchanged:
      `txt s`, `spc k`, `opn`, `cls` (hence groups `grp body` and undeclared control words with
      braced arguments `mac name args` at any depth), `cw name sp`, `van name key`, `com body`,
      `verb d s`, `ref name key`, `cite name key`, `citeN name note key`, `foot body`,
      `head name title`
    (a) `math par body`  an inline formula `$…$` (`par = false`) or `\(…\)` of the RICH class of
                         Proofs/PlainMathRichE2E.lean (instead of the simple class): letters, digits,
                         operators, `^` `_`, braces, undeclared control words (`\alpha`, `\frac`),
                         maths space (`\,` `\;` `~`), punctuation
        `acc name ws bo l`   an accent call `\name ws {l}` / `\name ws l` (`\"a`, `\'{e}`, `\c c`)
    (b) `defn name n body`   `\newcommand{\name}[n]{body}`, body = inert text and `#k`
        `use name args`      `\name{a1}…{am}` for a name that is not declared in the initialised
                             parser: a use of the definition IN FORCE at that point (the latest
                             earlier one), or — before any definition — an unknown control word
                             followed by groups
    (c) `disp body`          a simple displayed equation `\[body\]` (Proofs/PlainDisplay.lean)
        `denv name body`     … `\begin{name}body\end{name}` for an equation environment
    (d) `beg name`, `item ws`, `en name`   `\begin{name}`, `\item` + white space, `\end{name}` for
                             list environments (`enumerate`, `itemize`), in ANY order and nesting
                             (Proofs/PlainItem.lean, general form), with anything of the grammar
                             between them

  Structure.  The state changes along the document, so the meaning of the token buffer cannot be
  read off while scanning.  Stages (`Link` as in Proofs/PlainMacroArgs.lean):
    * ONE scanner lemma `scanAll_mix4` (run by run through the source): the pieces of the buffer,
      their STATIC conditions `PiecesOk T st1 ps` (relative to the initialised state) and the
      structural `Link T st1 ps items` to the items of the source;
    * ONE semantic lemma `link_sem` (induction over the link), threading the rotating collections
      of placeholders, the current state (macro table, `itemStack`) and the ENVIRONMENT of the
      definitions in force (`PlainMacroArgs.Rel`): marks, simplicity, `Live`, fuel, names, flows;
    * ONE loop lemma `seqRun_mix4` (induction over the pieces; invariant `PlainMacroArgs.StOk T st1 st`: declared
      macros keep their meaning, every other macro is a user macro with a good body; dispatches to
      twenty-odd step lemmas of the single-construct files);
    * `tex2txt_mix4`: the three put together, lifted through `PlainSetup.of_run` (Proofs/LinesRef.lean),
      and the reference of the items read on the segments (`refMarks_itemsOf`, …).

  The end-to-end statement `tex2txt_mix4`.  `tex2txt` succeeds; text and (1-based) positions are
  `delLines (marks T st1 repls drepls [] st1.itemStack 0 0 0 segs) ++ flows 0 segs`:
    * `marks` (Proofs/PlainMix4Src.lean), `env` = the definitions in force, `stk` = the label
      generators, `k` / `k2` = the number of formulas / displayed equations in front: the thirteen
      kinds of it as in `PlainMix2.marks`; the `k+1`-st formula = a mark, `PlainMathRich.fTxt T
      (placeholder repls (k+1)) m` (`[blank] placeholder [punctuation] [blank]`) with every character
      pinned to the position of the first maths token, a mark; an accent call = the character(s) of
      the accent table at the backslash (NO mark); a definition = a mark, and it is in force behind
      it; a use = a mark, the body of the definition in force with `#k` replaced by the `k`-th
      argument AT ITS OWN POSITIONS (`PlainMacroArgs.bodyMarks`), the surplus groups (`groupMarks`: a
      mark, the argument, a mark, each); a use of an undefined name = a mark and all its groups;
      the `k2+1`-st displayed equation = `dispMarks`: a mark, two blanks at the backslash, `placeholder
      drepls (k2+1)` at the first ELEMENT character of the body, the closing punctuation at the first
      visible character of the body, a mark (two more marks in front for `\begin{name}`);
      `\begin{name}` of a list = the marks of `add_pars` (two line breaks at the backslash, or a
      mark) and a mark, a generator is pushed; `\item` = `itemMarks`: a mark, a blank, the next
      label of the innermost generator, a blank, all at the backslash, the counter advances;
      `\end{name}` = the marks of `add_pars`, the generator is popped (never the last one);
    * `delLines` = `remove_pure_action_lines`, exactly;
    * `flows`: the footnote bodies (and the bodies of `call` / `callO`) behind the main text, as in
      `PlainMix2.flows`;
    * `unknowns` = `unkNames [] segs`, each once, in order of first use: the undeclared control
      words AND the uses of names that are not (yet) defined; no diagnostic.

  Side conditions (all in `SegsOk T st1 repls drepls segs`, decidable; `st1` = state after
  `Parser.__init__`)
    the `PlainMix2` kinds      as in Proofs/PlainMix2E2E.lean, with `okAtV` for `okAtU` in text: the
                               short-macro test looks at the exact text of the next scanner token,
                               which may be an accent token (`\"`) or `\[`
    `math`                     `PlainMathRich.mathOk` (delimiters scanned as such, parts `mpartsOk`,
                               at least one maths token that is no maths space)
    `acc`                      `PlainAccent.accOk` (an accent macro of the tables, not `\begin` … ;
                               white space without paragraph break; the letter in braces or not; the
                               pair has an entry in the accent table) and `accNlOk` (the value has no
                               line break or is blank: the blank-line removal is described character
                               by character)
    `defn`                     `PlainMacroArgs.defOk` (see there: `\name` a control word not declared
                               in `st1`, not protected; `n ≤ 9`; body not empty, inert characters and
                               `#k` with `1 ≤ k ≤ n`) and `PlainMacro.ncOk` (`\newcommand` is declared
                               as in `parameters.py`)
    `use`                      `PlainMacroArgs.useOk` (name not declared in `st1`, not protected; at
                               least one group; arguments non-empty strings of inert characters)
    `disp`, `denv`             `PlainDisplay.dispOk` / `envOk` (see there: `\[`, `\]`, `\begin`, `\end`
                               and the braces scanned as such; `math_default_env` resp. `name`
                               declared as an equation environment that is not removed; body as for
                               simple inline formulas, no `&`, at least one element character) and
                               `st1.displayedSimple = false` (not `--seqs`)
    `beg`, `en`                `PlainItem.begOk` / `endOk` (scanned as such, not `\begin{verbatim}`;
                               the name a non-empty string of inert characters, declared as a list
                               environment `listEnvOk`)
    `item`                     `itemOkV`: `PlainItem.itemOk` (no special sequence at the backslash;
                               white space with at most one line break; what follows is the end of
                               the source or a visible character other than `[`), what follows is no
                               comment (`skip_space` would pass it), its first token does not have
                               the text `[` (a `\verb|[|` would be taken for a label), the blank is no
                               active character (the blanks around the label are copied by the loop)
    `liveOk T st1 [] st1.itemStack 0 segs`   the conditions that depend on the state at that point:
                               an "undeclared" control word — `cw`, or in a formula — is not
                               user-defined there (else it would be a use: write `use`); a use has at
                               least as many groups as the definition in force has parameters; an
                               `\item` finds a label on the current stack of generators and the label
                               is fine (`PlainItem.labelAt`: exists, none of `$ \( $$ \[ \\ { }`, no
                               active character, no line break)
    `noEmptyActive`, `mathReady` (only if there is a formula), `dispReady` (only if there is a
                               displayed equation: the display collection of the language is `drepls`,
                               not empty, no placeholder with a line break unless blank; the language
                               settings exist)
    options                    no --defs, --extr, --repl, --unkn; single-language mode
    fuel                       `(render segs).length + inserted [] 0 segs + 6 ≤ fuel`: the tokens a
                               use inserts are visited by the loop again (`inserted`, computable)

  NOT covered (of these kinds): `\renewcommand`, `\newcommand*`, definitions without `[n]` or with a default
  value; bodies / arguments with anything but inert text (no macros, maths, braces there); uses
  without groups (`\name` alone, also for `n = 0`: the token-level lemma asks for one group);
  redefinition of a DECLARED macro; user macros inside formulas, equations, footnotes, headings;
  accents in formulas, arguments, titles; accent calls whose argument is more than one character;
  displayed equations with `&`, `\\`, macros, `\text`, maths space, `$$ … $$`;
  list environments with arguments; everything PlainMix2E2E.lean lists as not covered, except
  accents; multi-language mode.

  Model behaviour worth knowing: a definition leaves an Action token, so a line that holds only a
  `\newcommand` disappears with its line break; the characters a use takes from the body carry the
  position of the use (before the first `#k`) resp. of the last token of the argument substituted
  last; a use before its definition is reported as unknown and its groups are read as plain groups;
  an accent call leaves NO Action token (its result is a position-fixed text token); the placeholder
  of a displayed equation maps to the first element of the body, its punctuation to the first
  visible character (not monotone for `\[= a.\]`); `\begin{enumerate}` / `\end{enumerate}` alone on a
  line disappear with the line; `\end{name}` never pops the last generator, and an `\end{itemize}`
  closes whatever list is innermost (the model does not compare the names).
-/
import YalafiVerif.Proofs.PlainMix4Sem
namespace Yalafi
namespace PlainMix4

open M
open PlainMacro hiding useSt useBody userMacro defSt Rel_init Rel
open PlainMix (MathSt ReplOk mathReady mathReady_facts)
open PlainFootnote (flowToks)
open PlainMacroArgs (argsStr_length Rel_init)

theorem OkSrc_len {T : PTables} {st : PState} {p : Nat} {s : Str} {items : List Item}
    (h : OkSrc T st p s items) : itemsLen items = s.length := by
  refine h.len itemsLen (by rintro _ rfl; rfl) (fun _ _ _ => Nat.add_comm ..) ?_
  intro _ _ _ _ _ _ hc
  cases hc with
  | math k c tl X _ m _ _ _ hm _ =>
    have := PlainMathRich.MOk_len hm
    simp only [itemsLen, List.length_cons, List.length_append]; omega
  | acc name ws bo l _ _ _ _ =>
    simp only [itemsLen, List.length_cons, List.length_append, PlainAccent.accLen]
    cases bo <;> simp [PlainAccent.argStr] <;> omega
  | defn name n body _ _ _ _ =>
    simp only [itemsLen, List.length_cons, List.length_append, ncName_eq]; simp; omega
  | ddef name n body _ _ _ =>
    simp only [itemsLen, List.length_cons, List.length_append, PlainDefTex.defName_eq,
      PlainDefTex.paramStr_length]; simp; omega
  | _ =>
    simp only [itemsLen, List.length_cons, List.length_append, List.length_nil, PlainVanish.vanLen,
      PlainRef.callLen, PlainRef.callNLen, PlainParEnv.parName_len, PlainItem.nBegin, PlainItem.nEnd,
      PlainItem.nItem, PlainDisplay.endSrc, argsStr_length]
    omega


theorem refMarks_itemsOf (T : PTables) (st1 : PState) (repls drepls : List Str) :
    ∀ (segs : List Seg) (l : Colls) (env : Env) (stk : List ItemGen) (k k2 p : Nat),
      (nFormulas segs ≠ 0 → repls ≠ [] ∧ l.1 = PlainMath.rotN k repls) →
      (nDisplays segs ≠ 0 → drepls ≠ [] ∧ l.2 = PlainMath.rotN k2 drepls) →
      refMarks T l env stk (itemsOf T st1 p segs) = marks T st1 repls drepls env stk k k2 p segs
  | [], _, _, _, _, _, _, _, _ => rfl
  | seg :: rest, l, env, stk, k, k2, p, h1, h2 => by
    cases seg with
    | txt s =>
      simp only [itemsOf, marks, refMarks_chrItems,
        refMarks_itemsOf T st1 repls drepls rest l env stk k k2 _ h1 h2]
    | ddef name n body =>
      simp only [itemsOf, marks, refMarks,
        refMarks_itemsOf T st1 repls drepls rest l ((name, n, body) :: env) stk k k2 _ h1 h2]
    | defn name n body =>
      simp only [itemsOf, marks, refMarks,
        refMarks_itemsOf T st1 repls drepls rest l ((name, n, body) :: env) stk k k2 _ h1 h2]
    | math _ _ =>
      obtain ⟨hne, hl⟩ := h1 (by simp [nFormulas])
      have e1 : rotL l.1 = PlainMath.rotN (k + 1) repls := by rw [hl, PlainMath.rotN_succ]
      simp only [itemsOf, marks, refMarks]
      rw [refMarks_itemsOf T st1 repls drepls rest (rotL l.1, l.2) env stk (k + 1) k2 _
        (fun _ => ⟨hne, e1⟩) h2, e1, PlainMath.rotN_headD repls hne]
    | disp _ =>
      obtain ⟨hne, hl⟩ := h2 (by simp [nDisplays])
      have e1 : rotL l.2 = PlainMath.rotN (k2 + 1) drepls := by rw [hl, PlainMath.rotN_succ]
      simp only [itemsOf, marks, refMarks]
      rw [refMarks_itemsOf T st1 repls drepls rest (l.1, rotL l.2) env stk k (k2 + 1) _
        h1 (fun _ => ⟨hne, e1⟩), e1, PlainMath.rotN_headD drepls hne]
    | denv _ _ =>
      obtain ⟨hne, hl⟩ := h2 (by simp [nDisplays])
      have e1 : rotL l.2 = PlainMath.rotN (k2 + 1) drepls := by rw [hl, PlainMath.rotN_succ]
      simp only [itemsOf, marks, refMarks]
      rw [refMarks_itemsOf T st1 repls drepls rest (l.1, rotL l.2) env stk k (k2 + 1) _
        h1 (fun _ => ⟨hne, e1⟩), e1, PlainMath.rotN_headD drepls hne]
    | beg name =>
      simp only [itemsOf, marks, refMarks, List.append_assoc, List.singleton_append,
        refMarks_itemsOf T st1 repls drepls rest l env _ k k2 _ h1 h2]
    | _ => simp only [itemsOf, marks, refMarks, refMarks_itemsOf T st1 repls drepls rest l env _ k k2 _ h1 h2]

theorem refNames_itemsOf (T : PTables) (st1 : PState) : ∀ (segs : List Seg) (env : Env) (p : Nat),
    refNames env (itemsOf T st1 p segs) = unkNames env segs
  | [], _, _ => rfl
  | seg :: rest, env, p => by
    cases seg with
    | txt s => simp only [itemsOf, unkNames, chrItems_skip (refNames env) (fun _ _ _ => rfl), refNames_itemsOf T st1 rest]
    | _ => simp only [itemsOf, unkNames, refNames, refNames_itemsOf T st1 rest]

theorem refOk_itemsOf (T : PTables) (st1 : PState) :
    ∀ (segs : List Seg) (env : Env) (stk : List ItemGen) (p : Nat),
      refOk env stk (itemsOf T st1 p segs) = liveOk T st1 env stk p segs
  | [], _, _, _ => rfl
  | seg :: rest, env, stk, p => by
    cases seg with
    | txt s =>
      simp only [itemsOf, liveOk, chrItems_skip (refOk env stk) (fun _ _ _ => rfl), refOk_itemsOf T st1 rest, Seg.len,
        Seg.render]
    | _ => simp only [itemsOf, liveOk, refOk, Bool.true_and, refOk_itemsOf T st1 rest]

theorem refPv_itemsOf (T : PTables) (st1 : PState) :
    ∀ (segs : List Seg) (stk : List ItemGen) (k : PvK) (p : Nat),
      refPv T stk k (itemsOf T st1 p segs) = pvLive T st1 stk k p segs
  | [], _, _, _ => rfl
  | seg :: rest, stk, k, p => by
    cases seg with
    | txt s => simp only [itemsOf, pvLive, refPv_chrItems, refPv_itemsOf T st1 rest]
    | _ => simp only [itemsOf, pvLive, refPv, refPv_itemsOf T st1 rest]

theorem refIns_itemsOf (T : PTables) (st1 : PState) : ∀ (segs : List Seg) (env : Env) (p : Nat),
    refIns env (itemsOf T st1 p segs) = inserted env p segs
  | [], _, _ => rfl
  | seg :: rest, env, p => by
    cases seg with
    | txt s =>
      simp only [itemsOf, inserted, chrItems_skip (refIns env) (fun _ _ _ => rfl), refIns_itemsOf T st1 rest, Seg.len,
        Seg.render]
    | _ => simp only [itemsOf, inserted, refIns, refIns_itemsOf T st1 rest]

theorem refFlows_itemsOf (T : PTables) (st1 : PState) : ∀ (segs : List Seg) (p : Nat),
    refFlows (itemsOf T st1 p segs) = flows p segs
  | [], _ => rfl
  | seg :: rest, p => by
    cases seg with
    | txt s =>
      simp only [itemsOf, flows, chrItems_skip refFlows (fun _ _ _ => rfl), refFlows_itemsOf T st1 rest, Seg.len,
        Seg.render]
    | _ => simp only [itemsOf, flows, refFlows, refFlows_itemsOf T st1 rest]

theorem refNF_itemsOf (T : PTables) (st1 : PState) : ∀ (segs : List Seg) (p : Nat),
    refNF (itemsOf T st1 p segs) = nFormulas segs
  | [], _ => rfl
  | seg :: rest, p => by
    cases seg with
    | txt s => simp only [itemsOf, nFormulas, chrItems_skip refNF (fun _ _ _ => rfl), refNF_itemsOf T st1 rest]
    | _ => simp only [itemsOf, nFormulas, refNF, refNF_itemsOf T st1 rest]

theorem refND_itemsOf (T : PTables) (st1 : PState) : ∀ (segs : List Seg) (p : Nat),
    refND (itemsOf T st1 p segs) = nDisplays segs
  | [], _ => rfl
  | seg :: rest, p => by
    cases seg with
    | txt s => simp only [itemsOf, nDisplays, chrItems_skip refND (fun _ _ _ => rfl), refND_itemsOf T st1 rest]
    | _ => simp only [itemsOf, nDisplays, refND, refND_itemsOf T st1 rest]


def dispReady (T : PTables) (st : PState) (drepls : List Str) : Bool :=
  (rotOf st (curSettings st)).map (·.disp) == some drepls && !drepls.isEmpty &&
  (settingsOf T (curSettings st)).isSome && drepls.all (fun r => !hasNl r || isBlank r)

theorem dispReady_facts {T : PTables} {st : PState} {drepls : List Str}
    (h : dispReady T st drepls = true) :
    ∃ rot ls, DispSt T st rot ls ∧ rot.disp = drepls ∧ ∀ r ∈ drepls, ReplOk r := by
  simp only [dispReady, Bool.and_eq_true, beq_iff_eq, Bool.not_eq_true', List.isEmpty_eq_false_iff,
    List.all_eq_true, Bool.or_eq_true] at h
  obtain ⟨⟨⟨h1, h2⟩, h3⟩, h4⟩ := h
  obtain ⟨ls, hls⟩ := Option.isSome_iff_exists.mp h3
  cases hrot : rotOf st (curSettings st) with
  | none => rw [hrot] at h1; simp at h1
  | some rot =>
    rw [hrot] at h1
    have hd : rot.disp = drepls := by simpa using h1
    refine ⟨rot, ls, ⟨hrot, by rw [hd]; exact h2, hls⟩, hd, ?_⟩
    intro r hr hn
    rcases h4 r hr with h | h
    · rw [hn] at h; cases h
    · exact h

def SegsOk (T : PTables) (st : PState) (repls drepls : List Str) (segs : List Seg) : Prop :=
  noEmptyActive T st = true ∧ segsOk T st segs = true ∧
  liveOk T st [] st.itemStack 0 segs = true ∧ pvLive T st st.itemStack (some none) 0 segs = true ∧
  (nFormulas segs = 0 ∨ mathReady T st repls = true) ∧
  (nDisplays segs = 0 ∨ dispReady T st drepls = true)

instance (T : PTables) (st : PState) (repls drepls : List Str) (segs : List Seg) :
    Decidable (SegsOk T st repls drepls segs) := by
  unfold SegsOk; infer_instance

/-- the rotation record both kinds of formulas use -/
theorem rot_facts {T : PTables} {st : PState} {repls drepls : List Str} {nf nd : Nat}
    (hmath : nf = 0 ∨ mathReady T st repls = true) (hdisp : nd = 0 ∨ dispReady T st drepls = true) :
    ∃ rot ls, RotOk T st rot ls nf nd ∧ CollOk (rot.inl, rot.disp) nf nd ∧
      (nf ≠ 0 → repls ≠ [] ∧ rot.inl = repls) ∧ (nd ≠ 0 → drepls ≠ [] ∧ rot.disp = drepls) := by
  rcases hmath with h0 | hmr
  · rcases hdisp with d0 | hdr
    · exact ⟨{ code := [], inl := [], disp := [], chg := [] }, default,
        ⟨fun h => absurd h0 h, fun h => absurd d0 h⟩, ⟨fun h => absurd h0 h, fun h => absurd d0 h⟩,
        fun h => absurd h0 h, fun h => absurd d0 h⟩
    · obtain ⟨rot, ls, hst, hd, hro⟩ := dispReady_facts hdr
      exact ⟨rot, ls, ⟨fun h => absurd h0 h, fun _ => hst⟩,
        ⟨fun h => absurd h0 h, fun _ => by rw [hd]; exact hro⟩, fun h => absurd h0 h,
        fun _ => ⟨by rw [← hd]; exact hst.2.1, hd⟩⟩
  · obtain ⟨rot, ls, hst, hinl, hro⟩ := mathReady_facts hmr
    rcases hdisp with d0 | hdr
    · exact ⟨rot, ls, ⟨fun _ => hst, fun h => absurd d0 h⟩,
        ⟨fun _ => by rw [hinl]; exact hro, fun h => absurd d0 h⟩,
        fun _ => ⟨by rw [← hinl]; exact hst.2.1, hinl⟩, fun h => absurd d0 h⟩
    · obtain ⟨rot', ls', hst', hd, hro'⟩ := dispReady_facts hdr
      have e1 : rot' = rot := Option.some.inj (hst'.1.symm.trans hst.1)
      have e2 : ls' = ls := Option.some.inj (hst'.2.2.symm.trans hst.2.2)
      subst e1 e2
      exact ⟨rot', ls', ⟨fun _ => hst, fun _ => hst'⟩,
        ⟨fun _ => by rw [hinl]; exact hro, fun _ => by rw [hd]; exact hro'⟩,
        fun _ => ⟨by rw [← hinl]; exact hst.2.1, hinl⟩, fun _ => ⟨by rw [← hd]; exact hst'.2.1, hd⟩⟩

theorem tex2txt_mix4 (T : PTables) (o : Options) (fs : FS) (thresh : Nat) (segs : List Seg)
    (fuel : Nat) (st1 : PState) (repls drepls : List Str)
    (hdefs : o.defs = []) (hextr : o.extr = []) (hrepl : o.hasRepl = false) (hunkn : o.unkn = false)
    (hinit : initParser T fuel o (initialState T o false fs) = .ok ((), st1))
    (hok : SegsOk T st1 repls drepls segs)
    (hf : (render segs).length + inserted [] 0 segs + 6 ≤ fuel) :
    ∃ r, tex2txt T fuel (render segs) o false thresh fs = .ok r ∧
      r.txt = (delLines (marks T st1 repls drepls [] st1.itemStack 0 0 0 segs)
                ++ flows 0 segs).map (·.1) ∧
      r.pos = (delLines (marks T st1 repls drepls [] st1.itemStack 0 0 0 segs)
                ++ flows 0 segs).map (·.2 + 1) ∧
      r.unknowns = (unkNames [] segs).eraseDups ∧ r.diags = st1.diags ∧ r.parts = [] := by
  obtain ⟨ha, hsegs, hlive, hpvl, hmath, hdisp⟩ := hok
  have R : PlainSetup T o fs fuel st1 := ⟨⟨hdefs, hextr, hinit⟩, hrepl, hunkn⟩
  have hsrc := OkSrc_of_segsOk T st1 segs 0 hsegs
  obtain ⟨rot, ls, hrot, hcoll, hr1, hr2⟩ := rot_facts (T := T) (st := st1) hmath hdisp
  have F := scanAll_mix4 T st1 (render segs) 0 (render segs) _ hsrc
  obtain ⟨ps, hflat, hpok, hlink⟩ := F.pieces
  let st' := startState st1 (render segs)
  have hst' : PlainMacroArgs.StOk T st1 st' := (PlainMacroArgs.StOk.refl T st1).reads (.startState st1 _)
  have S := link_sem T st1 hlink hpok (rot.inl, rot.disp) st' [] (some none) hst' (Rel_init st1 st' rfl)
    ((BS.refl st1).of_macros rfl) (by rw [refOk_itemsOf]; exact hlive) (by rw [refPv_itemsOf]; exact hpvl)
  have hnf := S.nmath.trans (refNF_itemsOf T st1 segs 0)
  have hnd := S.ndisp.trans (refND_itemsOf T st1 segs 0)
  obtain ⟨st2, hs, hst2⟩ := seqRun_mix4 T none rfl ls st1 ha ps.length ps (Nat.le_refl _) [] st' rot
    hpok S.live hst' (by rw [hnf, hnd]; exact RotOk.congr (st := st1) rfl rfl hrot)
    (S.pvok [] (by intro v hv; cases hv; rfl))
  have hcost := S.cost
  rw [OkSrc_len hsrc, refIns_itemsOf] at hcost
  obtain ⟨res, hres, ht, hp, hpa, hu, hd, _⟩ := R.of_run thresh F.ok hflat hpok.noBegin hs (by decide)
    (by omega) (S.simple (by rw [hnf, hnd]; exact hcoll))
  obtain ⟨g1, g2, g3⟩ := finalSt_fields ps st'
  have hm : refMarks T (rot.inl, rot.disp) [] st'.itemStack (itemsOf T st1 0 segs)
      = marks T st1 repls drepls [] st1.itemStack 0 0 0 segs :=
    refMarks_itemsOf T st1 repls drepls segs (rot.inl, rot.disp) [] st1.itemStack 0 0 0
      (fun h => by obtain ⟨a, b⟩ := hr1 h; exact ⟨a, b⟩) (fun h => by obtain ⟨a, b⟩ := hr2 h; exact ⟨a, b⟩)
  rw [hst2] at ht hp hu hd
  rw [S.marks, hm, g2,
    show charsOf (flowsToks (st'.extracted ++ flowsOf ps)) = refFlows (itemsOf T st1 0 segs) from S.flows,
    refFlows_itemsOf] at ht hp
  exact ⟨res, hres, ht, hp,
    hu.trans (g1.trans (by rw [S.names, refNames_itemsOf]; exact foldl_addU_nil _)), hd.trans g3, hpa⟩

end PlainMix4
end Yalafi
