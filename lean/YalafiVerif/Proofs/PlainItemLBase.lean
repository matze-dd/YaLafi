/-
  Proofs/PlainItemLBase.lean — the expander half of Proofs/PlainItemL.lean (see the header there): a
  LABELLED item `\item[label]` in `expandItem` (`expandItem_label`), the punctuation `expand_item`
  repeats behind the label (`pvOf`, `punctOf`), the step of the loop (the call, then its tokens, each of
  which is copied: `seqRun_itemL`) and the loop on token buffers that mix plain tokens, list
  environments with labelled and unlabelled items, and undeclared environments (`seqRun_listL`).
-/
import YalafiVerif.Proofs.PlainItem
import YalafiVerif.Proofs.PlainUnkn2
import YalafiVerif.Proofs.PlainFlowsBase
namespace Yalafi
namespace PlainItemL

open M
open PlainMacro (lbr rbr NoBrace)
open PlainRef (chTok chTok_brace lastPos)
open PlainFlows (OptToks)
open PlainItem (begTok endTok itemTok spTok labTok NameToks listEnvAt begStk itemStk endStk labOf
  labelAt envOf envOut labOk labOk_facts spTok_plain skipSpace_sp skippedLangs_sp StOk
  listEnvAt_facts)

/-! ### `[label]` as the optional argument of `\item` -/

/-- the argument `arg_buffer` returns for `[label]`: the label tokens, or one void token at the
    position of `[` for the empty label `[]` -/
def labArg (b1 : Nat) (lab : List Tok) : List Tok := if lab.isEmpty then [mkVoid b1] else lab

theorem labArg_ne (b1 : Nat) (lab : List Tok) : labArg b1 lab ≠ [] := by
  unfold labArg; split
  · simp
  · rename_i h; intro e; rw [e] at h; simp at h

def headPos (a : List Tok) : Nat := (a.head?.map (·.pos)).getD 0

theorem collectArgs_itemL (T : PTables) (sp : Buf) (b1 b2 : Nat) (lab : List Tok) (rest : Buf)
    (start : Nat) (st : PState)
    (hsp : ∀ t ∈ sp, isSpaceTok t = true ∧ isLangK t = false)
    (hlab : ∀ t ∈ lab, NoBrace t ∧ t.txt ≠ [']']) :
    collectArgs T Call.itemDecl ['O'] 0 (sp ++ chTok b1 '[' :: (lab ++ chTok b2 ']' :: rest)) start {} st
      = .ok (({ args := [labArg b1 lab], extr := [labArg b1 lab], langs := [] }, rest), st) := by
  have hns : ∀ t, (chTok b1 '[' :: (lab ++ chTok b2 ']' :: rest)).head? = some t → isSpaceTok t = false :=
    fun t ht => by cases ht; rfl
  rw [Call.collectArgs_O T Call.itemDecl [] 0 start {} st
      ⟨skipSpace_sp sp _ (fun t ht => (hsp t ht).1) hns, skippedLangs_sp sp _ hsp hns⟩ rfl
      (Call.argBuffer_bracketed T.toTables (chTok_brace b1 '[') (chTok_brace b2 ']') lab rest b1 st hlab),
    Call.collectArgs_nil]
  rfl

/-- what `expand_arguments` returns for `\item[label]`: the Action token of the call, and the
    argument between two Action tokens (the replacement `#1`) -/
def itemArgOut (p : Nat) (a : List Tok) : List Tok :=
  mkAction p :: mkAction (headPos a) :: (a ++ [mkAction (lastPos a)])

theorem genRepl_item (a : List Tok) (hne : a ≠ []) (start : Nat) :
    generateReplacements [a] Call.itemDecl.repl start
      = some (mkAction (headPos a) :: (a ++ [mkAction (lastPos a)])) := by
  obtain ⟨h, hh⟩ : ∃ h, a.head? = some h := by
    cases a with
    | nil => exact absurd rfl hne
    | cons x _ => exact ⟨x, rfl⟩
  obtain ⟨l, hl⟩ := Call.getLast?_of_ne hne
  simp [generateReplacements, initCurPos, genReplLoop, Call.itemDecl, argRef, pyIndex, hh, hl, headPos, lastPos]

theorem expandArguments_itemL (T : PTables) (fuel : Nat) (sp : Buf) (b1 b2 : Nat) (lab : List Tok)
    (rest : Buf) (start : Nat) (st : PState)
    (hsp : ∀ t ∈ sp, isSpaceTok t = true ∧ isLangK t = false)
    (hlab : ∀ t ∈ lab, NoBrace t ∧ t.txt ≠ [']']) :
    expandArguments T (fuel + 1) (sp ++ chTok b1 '[' :: (lab ++ chTok b2 ']' :: rest)) Call.itemDecl start st
      = .ok ((itemArgOut start (labArg b1 lab), rest), st) := by
  rw [Call.expandArguments_noExtr fuel (collectArgs_itemL T sp b1 b2 lab rest start st hsp hlab) rfl,
    Call.finishArgs_repl fuel rfl (genRepl_item _ (labArg_ne b1 lab) start), List.append_nil]
  rfl

/-! ### the punctuation `expand_item` repeats behind a label -/

/-- the last character of the last token of the output so far whose text is not blank -/
def pvOf (out : List Tok) : Option Char :=
  (out.reverse.find? (fun t => !isBlank t.txt)).bind (·.txt.getLast?)

def pstep (pv : Option Char) (t : Tok) : Option Char := if isBlank t.txt then pv else t.txt.getLast?

def pvAfter (pv : Option Char) (ts : List Tok) : Option Char := ts.foldl pstep pv

theorem pvOf_snoc (out : List Tok) (t : Tok) : pvOf (out ++ [t]) = pstep (pvOf out) t := by
  unfold pvOf pstep
  rw [List.reverse_append]
  simp only [List.reverse_cons, List.reverse_nil, List.nil_append, List.singleton_append, List.find?_cons]
  cases hb : isBlank t.txt <;> simp

theorem pvOf_append (out : List Tok) : ∀ ts : List Tok, pvOf (out ++ ts) = pvAfter (pvOf out) ts
  | [] => by simp [pvAfter]
  | t :: ts => by
    have := pvOf_append (out ++ [t]) ts
    rw [List.append_assoc, List.singleton_append] at this
    rw [this, pvOf_snoc]
    rfl

theorem pvAfter_append (pv : Option Char) (a b : List Tok) :
    pvAfter pv (a ++ b) = pvAfter (pvAfter pv a) b := by
  simp [pvAfter, List.foldl_append]

/-- the punctuation character that is repeated: the last visible character so far, if it is in
    `item_punctuation` -/
def punctOf (T : PTables) (pv : Option Char) : Option Char :=
  match pv with
  | some c => if T.itemPunctuation.contains [c] then some c else none
  | none => none

def punctToks (pc : Option Char) (q : Nat) : List Tok :=
  match pc with
  | some c => [mkFix .text q [c]]
  | none => []

/-- **what `expand_item` returns for `\item[label]`**: a blank at the position of `\item`, the
    Action token of the call, the label between two Action tokens, the repeated punctuation and a
    blank, both pinned at the last token of the label -/
def itemLOut (p : Nat) (a : List Tok) (pc : Option Char) : List Tok :=
  spTok p :: (itemArgOut p a ++ (punctToks pc (lastPos a) ++ [spTok (lastPos a)]))

theorem getLast_itemArgOut (p : Nat) (a : List Tok) :
    (itemArgOut p a).getLast? = some (mkAction (lastPos a)) := by
  have : itemArgOut p a = (mkAction p :: mkAction (headPos a) :: a) ++ [mkAction (lastPos a)] := by
    simp [itemArgOut]
  rw [this, List.getLast?_append]
  simp

theorem not_all_action (p : Nat) (a : List Tok) (hne : a ≠ [])
    (ha : ∀ t ∈ a, (t.kind == Kind.action || isLangK t) = false) :
    ((itemArgOut p a).all fun t => t.kind == Kind.action || isLangK t) = false := by
  cases a with
  | nil => exact absurd rfl hne
  | cons x xs =>
    have := ha x (List.mem_cons_self ..)
    simp only [itemArgOut, List.cons_append, List.all_cons, this, Bool.false_and, Bool.and_false]

theorem expandItem_label (T : PTables) (fuel : Nat) (sp : Buf) (b1 b2 : Nat) (lab : List Tok)
    (rest : Buf) (tok : Tok) (out : List Tok) (st : PState)
    (hsp : ∀ t ∈ sp, isSpaceTok t = true ∧ isLangK t = false)
    (hlab : ∀ t ∈ lab, NoBrace t ∧ t.txt ≠ [']'])
    (hna : ∀ t ∈ labArg b1 lab, (t.kind == Kind.action || isLangK t) = false) :
    expandItem T (fuel + 2) (sp ++ chTok b1 '[' :: (lab ++ chTok b2 ']' :: rest)) tok out st
      = .ok ((itemLOut tok.pos (labArg b1 lab) (punctOf T (pvOf out)), rest), st) := by
  rw [Call.expandItem_label out (expandArguments_itemL T fuel sp b1 b2 lab rest tok.pos st hsp hlab)
    (not_all_action tok.pos _ (labArg_ne b1 lab) hna)]
  congr 2
  unfold itemLOut punctOf pvOf punctToks Call.itemPunct Call.itemLast
  cases hprev : out.reverse.find? (fun t => !isBlank t.txt) with
  | none => simp [getLast_itemArgOut, spTok, mkAction]
  | some pt =>
    cases hl : pt.txt.getLast? with
    | none => simp [hl, getLast_itemArgOut, spTok, mkAction]
    | some c =>
      by_cases hc : [c] ∈ T.itemPunctuation
      · simp [hl, hc, getLast_itemArgOut, spTok, mkFix, mkAction]
      · simp [hl, hc, getLast_itemArgOut, spTok, mkAction]

/-! ### the steps of `expandSequence` -/

theorem labArg_not_action {T : PTables} {st : PState} (b1 : Nat) {lab : List Tok} (hlab : OptToks T st lab) :
    ∀ t ∈ labArg b1 lab, (t.kind == Kind.action || isLangK t) = false := by
  intro t ht
  unfold labArg at ht
  split at ht
  · simp only [List.mem_singleton] at ht
    subst ht; rfl
  · rcases (hlab t ht).1.plain.kind with k | k | k <;> simp [k, isLangK]

/-- the punctuation marks are harmless tokens: none of the texts the loop dispatches on, no active
    character, no line break -/
def punctOk (T : PTables) (st : PState) : Bool := T.itemPunctuation.all (labOk T st)

theorem punctOf_ok {T : PTables} {st : PState} (h : punctOk T st = true) {pv : Option Char} {c : Char}
    (hc : punctOf T pv = some c) : labOk T st [c] = true := by
  unfold punctOf at hc
  cases pv with
  | none => cases hc
  | some d =>
    simp only at hc
    split at hc
    · rename_i hm
      cases hc
      simp only [punctOk, List.all_eq_true] at h
      exact h _ (List.contains_iff_mem.mp hm)
    · cases hc

theorem punctToks_length (pc : Option Char) (q : Nat) : (punctToks pc q).length ≤ 1 := by
  cases pc <;> simp [punctToks]

theorem copied_itemLOut {T : PTables} {st : PState} (p b1 : Nat) {lab : List Tok}
    (hlab : OptToks T st lab) (ha : noEmptyActive T st = true)
    (hb : (activeChars T st).contains [' '] = false) (hpu : punctOk T st = true) (pv : Option Char) :
    ∀ t ∈ itemLOut p (labArg b1 lab) (punctOf T pv), ∀ r, CopiedTok T st t r := by
  have hsp : ∀ q r, CopiedTok T st (spTok q) r := fun q _ => .of_plain (spTok_plain q) (Or.inl hb)
  have hact : ∀ q r, CopiedTok T st (mkAction q) r := fun q _ => .action (notActive_nil ha) q
  intro t ht
  simp only [itemLOut, itemArgOut, List.mem_cons, List.mem_append, List.not_mem_nil, or_false] at ht
  rcases ht with rfl | (rfl | rfl | ht | rfl) | ht | rfl
  · exact hsp p
  · exact hact p
  · exact hact _
  · unfold labArg at ht
    split at ht
    · rw [List.mem_singleton.mp ht]
      exact fun _ => .nil rfl rfl rfl (notActive_nil ha)
    · exact fun _ => .of_plain (hlab t ht).1.plain (Or.inl (hlab t ht).1.nact)
  · exact hact _
  · cases hpc : punctOf T pv with
    | none => rw [hpc] at ht; cases ht
    | some c =>
      rw [hpc] at ht
      rw [List.mem_singleton.mp ht]
      obtain ⟨l1, l2, _⟩ := labOk_facts (punctOf_ok hpu hpc) (lastPos (labArg b1 lab))
      exact fun _ => .of_plain l1 (Or.inl l2)
  · exact hsp _

/-- **`\item[label]` in the loop**: the call of `\item` (one iteration, two units below it), then the
    tokens it leaves, one iteration each: five, the label, and at most one punctuation mark -/
theorem seqRun_itemL (T : PTables) (p : Nat) (sp : Buf) (b1 b2 : Nat) (lab : List Tok)
    (rest : Buf) (envStop : Option Str) (out : List Tok) (st : PState)
    (hsp : ∀ t ∈ sp, isSpaceTok t = true ∧ isLangK t = false) (hlab : OptToks T st lab)
    (ha : noEmptyActive T st = true) (hb : (activeChars T st).contains [' '] = false)
    (hpu : punctOk T st = true) :
    SeqRun T envStop 1 ((labArg b1 lab).length + 7)
      (itemTok p :: (sp ++ chTok b1 '[' :: (lab ++ chTok b2 ']' :: rest))) out st rest
      (out ++ itemLOut p (labArg b1 lab) (punctOf T (pvOf out))) st := by
  have hpl := punctToks_length (punctOf T (pvOf out)) (lastPos (labArg b1 lab))
  have hlen : (itemLOut p (labArg b1 lab) (punctOf T (pvOf out))).length = (labArg b1 lab).length + 5
      + (punctToks (punctOf T (pvOf out)) (lastPos (labArg b1 lab))).length := by
    simp only [itemLOut, itemArgOut, List.length_cons, List.length_append, List.length_nil]
    omega
  have call : SeqRun T envStop 2 1 (itemTok p :: (sp ++ chTok b1 '[' :: (lab ++ chTok b2 ']' :: rest))) out st
      (itemLOut p (labArg b1 lab) (punctOf T (pvOf out)) ++ rest) out st :=
    .intro fun g => by
      rw [loop_item rfl, M.bind_ok _ _ _ _ _ (expandItem_label T g sp b1 b2 lab rest (itemTok p) out st hsp
        hlab.nb (labArg_not_action b1 hlab))]
      rfl
  exact (call.trans (seqRun_copied (.of_forall (copied_itemLOut p b1 hlab ha hb hpu _)) out)
    (by omega)).weaken (by omega) (by omega)

/-! ### the token buffers -/

/-- the pieces of a token buffer: a token that is copied; `\begin { name }` of a list environment;
    `\item` and white space; `\item`, white space, `[ label ]`; `\end { name }` of a list environment;
    `\begin { name }` / `\end { name }` of an UNDECLARED environment -/
inductive Piece where
  | tok (t : Tok)
  | beg (p q1 q2 : Nat) (nt : List Tok)
  | item (p : Nat) (sp : List Tok)
  | itemL (p : Nat) (sp : List Tok) (b1 b2 : Nat) (lab : List Tok)
  | en (p q1 q2 : Nat) (nt : List Tok)
  | ubeg (p q1 q2 : Nat) (nt : List Tok)
  | uen (p q1 q2 : Nat) (nt : List Tok)

def Piece.toks : Piece → List Tok
  | .tok t => [t]
  | .beg p q1 q2 nt => begTok p :: lbr q1 :: (nt ++ [rbr q2])
  | .item p sp => itemTok p :: sp
  | .itemL p sp b1 b2 lab => itemTok p :: (sp ++ chTok b1 '[' :: (lab ++ [chTok b2 ']']))
  | .en p q1 q2 nt => endTok p :: lbr q1 :: (nt ++ [rbr q2])
  | .ubeg p q1 q2 nt => begTok p :: lbr q1 :: (nt ++ [rbr q2])
  | .uen p q1 q2 nt => endTok p :: lbr q1 :: (nt ++ [rbr q2])

def flat : List Piece → List Tok
  | [] => []
  | p :: ps => p.toks ++ flat ps

open PlainMacro (bodyTxt)

def PiecesOk (T : PTables) (st1 : PState) : List ItemGen → List Piece → Prop
  | _, [] => True
  | stk, .tok t :: rest => PlainTok t ∧ PassTok T st1 t (flat rest) ∧ PiecesOk T st1 stk rest
  | stk, .beg _ _ _ nt :: rest =>
    NameToks T st1 nt ∧ listEnvAt st1 (bodyTxt nt) = true ∧
      PiecesOk T st1 (begStk st1 stk (bodyTxt nt)) rest
  | stk, .item _ sp :: rest =>
    (∀ t ∈ sp, t.kind = .space) ∧ PlainItem.HeadOk (flat rest) ∧
      labelAt T st1 stk = true ∧ PiecesOk T st1 (itemStk stk) rest
  | stk, .itemL _ sp _ _ lab :: rest =>
    (∀ t ∈ sp, t.kind = .space) ∧ OptToks T st1 lab ∧ PiecesOk T st1 stk rest
  | stk, .en _ _ _ nt :: rest =>
    NameToks T st1 nt ∧ listEnvAt st1 (bodyTxt nt) = true ∧ PiecesOk T st1 (endStk stk) rest
  | stk, .ubeg _ _ _ nt :: rest =>
    NameToks T st1 nt ∧ lookupEnv st1 (bodyTxt nt) = none ∧ PiecesOk T st1 stk rest
  | stk, .uen _ _ _ nt :: rest =>
    NameToks T st1 nt ∧ lookupEnv st1 (bodyTxt nt) = none ∧ PiecesOk T st1 stk rest

def itemOut (p : Nat) (lab : Str) : List Tok := [mkAction p, spTok p, labTok p lab, spTok p]

/-- what `expandSequence` emits for the pieces before the blank-line removal; `pv` = the last
    character of the last non-blank token of the output so far (`pvOf`) -/
def outP (T : PTables) (st1 : PState) : Option Char → List ItemGen → List Piece → List Tok
  | _, _, [] => []
  | pv, stk, .tok t :: rest => t :: outP T st1 (pstep pv t) stk rest
  | pv, stk, .beg p _ _ nt :: rest =>
    envOut (envOf st1 (bodyTxt nt)) p :: mkAction p :: outP T st1 pv (begStk st1 stk (bodyTxt nt)) rest
  | pv, stk, .item p _ :: rest =>
    itemOut p (labOf T stk) ++ outP T st1 (pvAfter pv (itemOut p (labOf T stk))) (itemStk stk) rest
  | pv, stk, .itemL p _ b1 _ lab :: rest =>
    itemLOut p (labArg b1 lab) (punctOf T pv)
      ++ outP T st1 (pvAfter pv (itemLOut p (labArg b1 lab) (punctOf T pv))) stk rest
  | pv, stk, .en p _ _ nt :: rest => envOut (envOf st1 (bodyTxt nt)) p :: outP T st1 pv (endStk stk) rest
  | pv, stk, .ubeg p _ _ _ :: rest => mkAction p :: outP T st1 pv stk rest
  | pv, stk, .uen p _ _ _ :: rest => mkAction p :: outP T st1 pv stk rest

/-- the generators after the pieces (a labelled item does not advance the counter) -/
def finalStk (st1 : PState) : List ItemGen → List Piece → List ItemGen
  | stk, [] => stk
  | stk, .beg _ _ _ nt :: rest => finalStk st1 (begStk st1 stk (bodyTxt nt)) rest
  | stk, .item _ _ :: rest => finalStk st1 (itemStk stk) rest
  | stk, .en _ _ _ _ :: rest => finalStk st1 (endStk stk) rest
  | stk, _ :: rest => finalStk st1 stk rest

def names : List Piece → List Str
  | [] => []
  | .ubeg _ _ _ nt :: rest => bodyTxt nt :: names rest
  | _ :: rest => names rest

/-- iterations of `expandSequence` (plus the nested calls that read an environment name) -/
def cost : List Piece → Nat
  | [] => 0
  | .tok _ :: rest => 1 + cost rest
  | .beg _ _ _ nt :: rest => 3 + nt.length + cost rest
  | .item _ _ :: rest => 5 + cost rest
  | .itemL _ _ b1 _ lab :: rest => (labArg b1 lab).length + 7 + cost rest
  | .en _ _ _ nt :: rest => 2 + nt.length + cost rest
  | .ubeg _ _ _ nt :: rest => 5 + nt.length + cost rest
  | .uen _ _ _ nt :: rest => 5 + nt.length + cost rest

theorem envOut_blank (env : MacroDef) (p : Nat) : isBlank (envOut env p).txt = true := by
  unfold envOut; split <;> rfl

theorem pstep_envOut (pv : Option Char) (env : MacroDef) (p : Nat) : pstep pv (envOut env p) = pv := by
  simp [pstep, envOut_blank]

theorem pstep_action (pv : Option Char) (p : Nat) : pstep pv (mkAction p) = pv := rfl

def endState (st1 : PState) (st : PState) (stk : List ItemGen) (ps : List Piece) : PState :=
  { st with itemStack := finalStk st1 stk ps, unknowns := (names ps).foldl addU st.unknowns }

theorem spaceToks {sp : List Tok} (h : ∀ t ∈ sp, t.kind = .space) :
    ∀ t ∈ sp, isSpaceTok t = true ∧ isLangK t = false :=
  fun t ht => by simp [isSpaceTok, isLangK, h t ht]

theorem pvAfter_env (pv : Option Char) (env : MacroDef) (p : Nat) (ts : List Tok) :
    pvAfter pv (envOut env p :: ts) = pvAfter pv ts := by
  rw [pvAfter, List.foldl_cons, pstep_envOut]
  rfl

/-- `cost` iterations; reading an environment name needs three units below the loop. -/
theorem seqRun_listL (T : PTables) (st1 : PState) (ha : noEmptyActive T st1 = true)
    (hb : (activeChars T st1).contains [' '] = false) (hpu : punctOk T st1 = true) :
    ∀ (ps : List Piece) (out : List Tok) (st : PState) (stk : List ItemGen) (pv : Option Char),
      pvOf out = pv → PiecesOk T st1 stk ps → StOk st1 st stk →
      SeqRun T none 3 (cost ps) (flat ps) out st [] (out ++ outP T st1 pv stk ps) (endState st1 st stk ps)
  | [], out, st, _, _, _, _, ⟨_, rfl⟩ => by
    rw [outP, List.append_nil]
    exact SeqRun.refl.mono (Nat.zero_le 3) (Nat.le_refl _)
  | .tok t :: ps, out, st, stk, _, rfl, hok, hst =>
    (seqRun_copiedTok (.of_plain hok.1 (hst.ext.passTok hok.2.1))).app
      (seqRun_listL T st1 ha hb hpu ps _ st stk _ (pvOf_snoc ..) hok.2.2 hst) (Nat.zero_le _)
  | .beg p q1 q2 nt :: ps, out, st, _, _, rfl, ⟨hn, hle, hrest⟩, ⟨hE, rfl⟩ => by
    obtain ⟨e1, e2, e3⟩ := listEnvAt_facts hle
    simp only [flat, Piece.toks, List.cons_append, List.append_assoc, List.nil_append]
    exact (PlainItem.seqRun_beg T p q1 q2 nt (flat ps) none out st _ _ (hn.ext hE)
        ((hE.lookupEnv _).trans e1) e2 e3 (hE.noEmptyActive ha)).app
      (seqRun_listL T st1 ha hb hpu ps _ _ _ _ (by rw [pvOf_append, pvAfter_env]; rfl) hrest
        ⟨hE.reads ⟨rfl, rfl⟩, rfl⟩)
      (by omega)
  | .item p sp :: ps, out, st, _, _, rfl, ⟨hsp, hhd, hlab, hrest⟩, ⟨hE, rfl⟩ =>
    (PlainItem.seqRun_item T st1 p sp (flat ps) none out st hE hsp hhd hlab ha hb).app
      (seqRun_listL T st1 ha hb hpu ps _ _ _ _ (pvOf_append ..) hrest ⟨hE.reads ⟨rfl, rfl⟩, rfl⟩) (Nat.zero_le _)
  | .itemL p sp b1 b2 lab :: ps, out, st, stk, _, rfl, ⟨hsp, hlab, hrest⟩, hst => by
    have hlo : labOk T st = labOk T st1 := funext (PlainItem.labOk_ext hst.ext)
    simp only [flat, Piece.toks, List.cons_append, List.append_assoc, List.nil_append]
    exact (seqRun_itemL T p sp b1 b2 lab (flat ps) none out st (spaceToks hsp) (hlab.ext hst.ext)
        (hst.ext.noEmptyActive ha) (by rw [hst.ext.activeChars]; exact hb)
        (by rw [← hpu]; simp only [punctOk, hlo])).app
      (seqRun_listL T st1 ha hb hpu ps _ st stk _ (pvOf_append ..) hrest hst) (by omega)
  | .en p q1 q2 nt :: ps, out, st, _, _, rfl, ⟨hn, hle, hrest⟩, ⟨hE, rfl⟩ => by
    obtain ⟨e1, e2, _⟩ := listEnvAt_facts hle
    simp only [flat, Piece.toks, List.cons_append, List.append_assoc, List.nil_append]
    exact (PlainItem.seqRun_end T p q1 q2 nt (flat ps) out st _ (hn.ext hE)
        ((hE.lookupEnv _).trans e1) e2 (hE.noEmptyActive ha)).app
      (seqRun_listL T st1 ha hb hpu ps _ _ _ _ (by rw [pvOf_append, pvAfter_env]; rfl) hrest
        ⟨hE.reads ⟨rfl, rfl⟩, rfl⟩)
      (Nat.le_add_right ..)
  | .ubeg p q1 q2 nt :: ps, out, st, stk, _, rfl, ⟨hn, hun, hrest⟩, hst => by
    simp only [flat, Piece.toks, List.cons_append, List.append_assoc, List.nil_append]
    exact (PlainUnkn2.seqRun_ubeg T none (d := 3) (c := 5 + nt.length) (hn.ext hst.ext)
        ((hst.ext.lookupEnv _).trans hun) (hst.ext.noEmptyActive ha) (by omega) (by omega)).app
      (seqRun_listL T st1 ha hb hpu ps _ _ stk _ (pvOf_snoc ..) hrest ⟨hst.ext.reads ⟨rfl, rfl⟩, hst.stack⟩)
      (Nat.le_add_right ..)
  | .uen p q1 q2 nt :: ps, out, st, stk, _, rfl, ⟨hn, hun, hrest⟩, hst => by
    simp only [flat, Piece.toks, List.cons_append, List.append_assoc, List.nil_append]
    exact (PlainUnkn2.seqRun_uend T (d := 3) (c := 5 + nt.length) (hn.ext hst.ext)
        ((hst.ext.lookupEnv _).trans hun) (hst.ext.noEmptyActive ha) (by omega) (by omega)).app
      (seqRun_listL T st1 ha hb hpu ps _ st stk _ (pvOf_snoc ..) hrest hst) (Nat.le_add_right ..)

theorem PiecesOk.noCom {T : PTables} {st : PState} : ∀ {ps : List Piece} {stk : List ItemGen},
    PiecesOk T st stk ps → NoCom (flat ps)
  | [], _, _ => .nil
  | .tok _ :: _, _, h => .cons h.1.notComment (noCom h.2.2)
  | .beg p q1 q2 _ :: _, _, h => .append (NoCom.cmdBraced nofun nofun nofun h.1.notComment) (noCom h.2.2)
  | .item _ sp :: _, _, h =>
    .append (.cons nofun fun t ht => NoCom.of_kind (h.1 t ht)) (noCom h.2.2.2)
  | .itemL _ sp _ _ lab :: _, _, h =>
    .append (.cons nofun (.append (fun t ht => NoCom.of_kind (h.1 t ht))
      (.cons nofun (.append (fun t ht => (h.2.1 t ht).1.plain.notComment) (.cons nofun .nil))))) (noCom h.2.2)
  | .en p q1 q2 _ :: _, _, h => .append (NoCom.cmdBraced nofun nofun nofun h.1.notComment) (noCom h.2.2)
  | .ubeg p q1 q2 _ :: _, _, h => .append (NoCom.cmdBraced nofun nofun nofun h.1.notComment) (noCom h.2.2)
  | .uen p q1 q2 _ :: _, _, h => .append (NoCom.cmdBraced nofun nofun nofun h.1.notComment) (noCom h.2.2)

end PlainItemL
end Yalafi
