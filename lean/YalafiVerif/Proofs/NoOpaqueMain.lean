/-
  Proofs/NoOpaqueMain.lean — the induction on fuel for the NoOpaque bundle, and `initParser`, `parse`, `tex2txt`:
  under `TOk T` (no opaque module, no opaque handler in the tables) the filter model never ends in
  `.crash "opaque module (not modelled)"` or `.crash "opaque handler (not modelled)"`.
-/
import YalafiVerif.Proofs.NoOpaqueStep
import YalafiVerif.Proofs.NoOpaqueHandler
set_option linter.unusedVariables false
namespace Yalafi
namespace NoOpaque
open M

variable {T : PTables}

theorem allGood_zero : AllGood T 0 := by
  refine { seq := ?_, text := ?_, envName := ?_, begin_ := ?_, end_ := ?_, macro_ := ?_, args := ?_, item := ?_, accent := ?_, work := ?_, init := ?_, modParams := ?_, keyvals := ?_, value := ?_, expandKv := ?_, modDesc := ?_, handler := ?_, mathSec := ?_, inline := ?_, dispLoop := ?_, display := ?_ }
  · intros; rw [expandSequence.eq_1]; exact Good_outOfFuel
  · intros; rw [getTextExpanded.eq_1]; exact Good_outOfFuel
  · intros; rw [getEnvironmentName.eq_1]; exact Good_outOfFuel
  · intros; rw [beginEnvironment.eq_1]; exact Good_outOfFuel
  · intros; rw [endEnvironment.eq_1]; exact Good_outOfFuel
  · intros; rw [expandMacro.eq_1]; exact Good_outOfFuel
  · intros; rw [expandArguments.eq_1]; exact Good_outOfFuel
  · intros; rw [expandItem.eq_1]; exact Good_outOfFuel
  · intros; rw [expandAccent.eq_1]; exact Good_outOfFuel
  · intros; rw [parserWork.eq_1]; exact Good_outOfFuel
  · intros; rw [initPackage.eq_1]; exact Good_outOfFuel
  · intros; rw [modifyParameters.eq_1]; exact Good_outOfFuel
  · intros; rw [parseKeyvals.eq_1]; exact Good_outOfFuel
  · intros; rw [parseValue.eq_1]; exact Good_outOfFuel
  · intros; rw [expandKeyvals.eq_1]; exact Good_outOfFuel
  · intros; rw [modifyDescription.eq_1]; exact Good_outOfFuel
  · intros; rw [callHandler.eq_1]; exact Good_outOfFuel
  · intros; rw [expandMathSection.eq_1]; exact Good_outOfFuel
  · intros; rw [expandInlineMath.eq_1]; exact Good_outOfFuel
  · intros; rw [displayLoop.eq_1]; exact Good_outOfFuel
  · intros; rw [expandDisplayMath.eq_1]; exact Good_outOfFuel

theorem allGood (hT : TOk T) : ∀ fuel, AllGood T fuel := by
  intro fuel
  induction fuel with
  | zero => exact allGood_zero
  | succ fuel IH =>
    exact {
      seq := seq_step fuel IH,
      text := text_step fuel IH,
      envName := envName_step fuel IH,
      begin_ := begin_step fuel IH,
      end_ := end_step fuel IH,
      macro_ := macro_step fuel IH,
      args := args_step fuel IH,
      item := item_step fuel IH,
      accent := accent_step fuel IH,
      work := work_step fuel IH,
      init := init_step hT fuel IH,
      modParams := modParams_step fuel IH,
      keyvals := keyvals_step fuel IH,
      value := value_step fuel IH,
      expandKv := expandKv_step fuel IH,
      modDesc := modDesc_step fuel IH,
      handler := handler_step hT fuel IH,
      mathSec := mathSec_step fuel IH,
      inline := inline_step fuel IH,
      dispLoop := dispLoop_step fuel IH,
      display := display_step fuel IH }

theorem initialState_StOk (o : Options) (multi : Bool) (fs : FS) : StOk (initialState T o multi fs) :=
  ⟨AOk_nil, AOk_nil⟩

theorem builtinModule_ModOk (hT : TOk T) (o : Options) : ModOk (builtinModule T o) := by
  refine ⟨rfl, ?_, ?_⟩
  · intro d hd
    apply hT.defs d
    simp only [builtinModule, List.mem_append] at hd
    rcases hd with hd | hd
    · simp [hd]
    · split at hd
      · simp [hd]
      · cases hd
  · intro d hd
    apply hT.defs d
    simp only [builtinModule] at hd
    simp [hd]

theorem getPackages_ModOk (hT : TOk T) (cls : Bool) (packs : Str) :
    ∀ nm ∈ getPackages T cls packs, ModOk nm.2 := by
  intro nm hnm
  unfold getPackages at hnm
  split at hnm
  · cases hnm
  · simp only [List.mem_flatten, List.mem_map] at hnm
    obtain ⟨l, ⟨p, hp, rfl⟩, hl⟩ := hnm
    split at hl
    · obtain ⟨m, hm, rfl⟩ := List.mem_map.1 hl
      exact findModule_ModOk hT cls m
    · simp only [List.mem_singleton] at hl
      subst hl
      exact findModule_ModOk hT cls p

theorem run_StOk (hT : TOk T) (fuel : Nat) (latex : Str) (o : Options) (multi : Bool) (fs : FS) :
    PostC (fun c => c ≠ mMod ∧ c ≠ mHan) (runT2T T fuel latex o multi fs) (fun _ s => StOk s) :=
  have A := allGood hT fuel
  PostC.bind
    (initParser_inv StOk ModOk
      (fun name md b hmd st hs => (GoodO_iff _).1 ((A.init name md b [] 0 hmd).run st hs))
      (builtinModule_ModOk hT o) (getPackages_ModOk hT) _ (initialState_StOk o multi fs))
    fun _ s hs => parse_inv StOk (fun latex st hs => (GoodO_iff _).1 ((A.work latex).run st hs))
      (fun st ex hs => StOk_initExtractions T st ex hs)
      (fun _ hs => StOk_same hs rfl rfl) (fun _ hs => StOk_same hs rfl rfl) _ _ _ s hs

theorem tex2txt_noOpaque (hT : TOk T) (fuel : Nat) (latex : Str) (o : Options) (multi : Bool) (thresh : Nat)
    (fs : FS) :
    tex2txt T fuel latex o multi thresh fs ≠ .crash mMod ∧ tex2txt T fuel latex o multi thresh fs ≠ .crash mHan :=
  have key := fun c (h : tex2txt T fuel latex o multi thresh fs = .crash c) =>
    tex2txt_crash_of_run (C := fun c => c ≠ mMod ∧ c ≠ mHan) (by simp [mMod, mHan])
      ((run_StOk hT fuel latex o multi fs).mono fun _ _ _ => trivial) h
  ⟨fun h => (key _ h).1 rfl, fun h => (key _ h).2 rfl⟩

end NoOpaque
end Yalafi
