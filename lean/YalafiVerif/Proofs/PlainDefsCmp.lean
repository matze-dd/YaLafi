/-
  Proofs/PlainDefsCmp.lean — C09, last sentence: the definitions in the document versus the
  definitions in the file given with `--defs`: SAME TEXT, POSITIONS SHIFTED BY THE LENGTH OF THE
  DEFINITIONS TEXT.  Document class: Proofs/PlainMacroArgs.lean; the `--defs` run: Proofs/PlainDefs.lean.

    `defLines ds`               the definitions text: `\newcommand{\name}[n]{body}⏎` for every entry of
                                `ds`, each definition on a line of its own
    `sh`, `shM`, `delGo_shift`, `delLines_shift`   the blank-line removal commutes with a shift of
                                the positions
    `bodyIn`, `inRange`, `segMarks_shift`           the reference output of a document that starts at
                                position `p + k` is that of the document that starts at `p`, shifted by
                                `k` — provided every `#j` of a body that is expanded has an argument
                                (otherwise the model pins the following literal text to position 0)
    `inRange_of_ok`             … which follows from `segsOk` and `arityOk`
    `delLines_defLines`         the lines of the definitions text are deleted by `delLines`
    `tex2txt_defs_vs_document`  both runs succeed; `r0` (source `D ++ X`, no `--defs`) and `r1` (source
                                `X`, `--defs D`) have the same text, unknowns and diagnostics, and
                                `r0.pos = r1.pos.map (· + |D|)`

  Side conditions (`CmpOk T st1 ds X`, decidable): `noEmptyActive`, `ncOk`;
  `segsOk T st1 (defLines ds)` (the definitions text alone: nothing follows the last line break) AND
  `segsOk T st1 (defLines ds ++ X)` (the definitions in front of the document) — the conditions on a
  text segment depend on what follows it, so neither implies the other;
  `arityOk [] (defLines ds ++ X)`; fuel as for the in-document run.
-/
import YalafiVerif.Proofs.PlainDefs
namespace Yalafi
namespace PlainMacroArgs

open M
open PlainMacro (Mark delLines delGo)

/-! ### shifting positions -/

/-- shift the position of a character / of a mark by `k` -/
def sh (k : Nat) (cp : Char × Nat) : Char × Nat := (cp.1, cp.2 + k)
def shM (k : Nat) (m : Mark) : Mark := m.map (sh k)

theorem delGo_shift (k : Nat) : ∀ (ms : List Mark) (cur : List (Char × Nat)) (b a : Bool),
    delGo (cur.map (sh k)) b a (ms.map (shM k)) = (delGo cur b a ms).map (sh k)
  | [], cur, b, a => by
    simp only [List.map_nil, delGo]
    split <;> simp
  | none :: xs, cur, b, a => by
    simp only [List.map_cons, shM, Option.map_none, delGo]
    exact delGo_shift k xs cur b true
  | some cp :: xs, cur, b, a => by
    have h1 := delGo_shift k xs [] true false
    have h2 := delGo_shift k xs (cur ++ [cp]) (b && isSpace cp.1) a
    simp only [List.map_nil, List.map_append, List.map_cons] at h1 h2
    simp only [List.map_cons, shM, Option.map_some, delGo, sh] at h1 h2 ⊢
    split
    · rw [h1]
      split <;> simp [sh]
    · rw [h2]

theorem delLines_shift (k : Nat) (ms : List Mark) :
    delLines (ms.map (shM k)) = (delLines ms).map (sh k) := by
  have := delGo_shift k ms [] true false
  simpa [delLines] using this

theorem posText_shift (k : Nat) : ∀ (s : Str) (p : Nat), posText (p + k) s = (posText p s).map (sh k)
  | [], _ => rfl
  | c :: cs, p => by
    have := posText_shift k cs (p + 1)
    rw [show p + 1 + k = p + k + 1 by omega] at this
    simp only [posText, List.map_cons, this, sh]

def shSpan (k : Nat) (sp : Nat × Str) : Nat × Str := (sp.1 + k, sp.2)

theorem argSpans_shift (k : Nat) : ∀ (args : List Str) (q : Nat),
    argSpans (q + k) args = (argSpans q args).map (shSpan k)
  | [], _ => rfl
  | a :: as, q => by
    have := argSpans_shift k as (q + a.length + 2)
    rw [show q + a.length + 2 + k = q + k + a.length + 2 by omega] at this
    simp only [argSpans, List.map_cons, this, shSpan]
    rw [show q + k + 1 = q + 1 + k by omega]

theorem argSpans_length : ∀ (args : List Str) (q : Nat), (argSpans q args).length = args.length
  | [], _ => rfl
  | a :: as, q => by simp [argSpans, argSpans_length as]

theorem spanAt_shift (k : Nat) (spans : List (Nat × Str)) (j : Nat) (h1 : 1 ≤ j) (h2 : j ≤ spans.length) :
    spanAt (spans.map (shSpan k)) j = shSpan k (spanAt spans j) := by
  have hlt : j - 1 < spans.length := by omega
  simp only [spanAt, List.getElem?_map, List.getElem?_eq_getElem hlt, Option.map_some, Option.getD_some]

theorem spanAt_shift_snd (k : Nat) (spans : List (Nat × Str)) (j : Nat) :
    (spanAt (spans.map (shSpan k)) j).2 = (spanAt spans j).2 := by
  simp only [spanAt, List.getElem?_map]
  cases spans[j - 1]? <;> rfl

theorem spanEnd_shift (k : Nat) (sp : Nat × Str) : spanEnd (shSpan k sp) = spanEnd sp + k := by
  simp only [spanEnd, shSpan]; omega

theorem argMarks_shift (k : Nat) (sp : Nat × Str) : argMarks (shSpan k sp) = (argMarks sp).map (shM k) := by
  simp only [argMarks, shSpan, posText_shift, List.map_cons, List.map_append, List.map_map, List.map_nil, shM,
    Option.map_none]
  congr 1

/-- every reference `#j` of the body has `1 ≤ j ≤ m` -/
def bodyIn (m : Nat) : List BP → Bool
  | [] => true
  | .lit _ :: rest => bodyIn m rest
  | .par j :: rest => decide (1 ≤ j) && decide (j ≤ m) && bodyIn m rest

theorem startCur_shift (k : Nat) (spans : List (Nat × Str)) : ∀ (body : List BP) (cur : Nat),
    bodyIn spans.length body = true →
    startCur (spans.map (shSpan k)) (cur + k) body = startCur spans cur body + k
  | [], _, _ => rfl
  | .lit _ :: rest, cur, h => by
    simp only [startCur]
    exact startCur_shift k spans rest cur h
  | .par j :: rest, cur, h => by
    simp only [bodyIn, Bool.and_eq_true, decide_eq_true_eq] at h
    simp only [startCur]
    rw [spanAt_shift k spans j h.1.1 h.1.2]
    exact startCur_shift k spans rest (spanAt spans j).1 h.2

theorem bodyMarks_shift (k : Nat) (spans : List (Nat × Str)) : ∀ (body : List BP) (cur : Nat),
    bodyIn spans.length body = true →
    bodyMarks (spans.map (shSpan k)) (cur + k) body = (bodyMarks spans cur body).map (shM k)
  | [], _, _ => rfl
  | .lit s :: rest, cur, h => by
    simp only [bodyMarks, List.map_append, List.map_map]
    rw [bodyMarks_shift k spans rest cur h]
    rfl
  | .par j :: rest, cur, h => by
    simp only [bodyIn, Bool.and_eq_true, decide_eq_true_eq] at h
    simp only [bodyMarks, List.map_append]
    rw [spanAt_shift k spans j h.1.1 h.1.2, argMarks_shift, spanEnd_shift,
      bodyMarks_shift k spans rest _ h.2]

theorem groupMarks_shift (k : Nat) : ∀ spans : List (Nat × Str),
    groupMarks (spans.map (shSpan k)) = (groupMarks spans).map (shM k)
  | [] => rfl
  | sp :: rest => by
    simp only [List.map_cons, groupMarks, List.map_append, argMarks_shift, groupMarks_shift k rest]

/-- every body that is expanded finds all its arguments: for every use, the references of the body
    in force lie within the number of groups of the use -/
def inRange : Env → List Seg → Bool
  | _, [] => true
  | env, .txt _ :: rest => inRange env rest
  | env, .defn name n body :: rest => inRange ((name, n, body) :: env) rest
  | env, .use name args :: rest => bodyIn args.length (defOf env name).2 && inRange env rest

theorem segMarks_shift (k : Nat) : ∀ (segs : List Seg) (env : Env) (p : Nat), inRange env segs = true →
    segMarks env (p + k) segs = (segMarks env p segs).map (shM k)
  | [], _, _, _ => rfl
  | .txt s :: rest, env, p, h => by
    simp only [inRange] at h
    have := segMarks_shift k rest env (p + s.length) h
    rw [show p + s.length + k = p + k + s.length by omega] at this
    simp only [segMarks, List.map_append, List.map_map, posText_shift, this]
    rfl
  | .defn name n body :: rest, env, p, h => by
    simp only [inRange] at h
    have := segMarks_shift k rest ((name, n, body) :: env) (p + (name.length + (bodyStr body).length + 19)) h
    rw [show p + (name.length + (bodyStr body).length + 19) + k
      = p + k + (name.length + (bodyStr body).length + 19) by omega] at this
    simp only [segMarks, List.map_cons, this]
    rfl
  | .use name args :: rest, env, p, h => by
    simp only [inRange, Bool.and_eq_true] at h
    have := segMarks_shift k rest env (p + (name.length + 1 + argsLen args)) h.2
    rw [show p + (name.length + 1 + argsLen args) + k = p + k + (name.length + 1 + argsLen args) by omega]
      at this
    have hb : bodyIn (argSpans (p + name.length + 1) args).length (defOf env name).2 = true := by
      rw [argSpans_length]; exact h.1
    simp only [segMarks, List.map_cons, List.map_append, this]
    rw [show p + k + name.length + 1 = p + name.length + 1 + k by omega, argSpans_shift,
      startCur_shift k _ _ p hb, bodyMarks_shift k _ _ _ hb, ← List.map_drop, groupMarks_shift]
    rfl

theorem bodyInserted_shift (k : Nat) (spans : List (Nat × Str)) : ∀ body : List BP,
    bodyInserted (spans.map (shSpan k)) body = bodyInserted spans body
  | [] => rfl
  | .lit s :: rest => by simp only [bodyInserted, bodyInserted_shift k spans rest]
  | .par j :: rest => by simp only [bodyInserted, bodyInserted_shift k spans rest, spanAt_shift_snd]

/-- the fuel bound does not depend on where the document starts -/
theorem segInserted_shift (k : Nat) : ∀ (segs : List Seg) (env : Env) (p : Nat),
    segInserted env (p + k) segs = segInserted env p segs
  | [], _, _ => rfl
  | .txt s :: rest, env, p => by
    have := segInserted_shift k rest env (p + s.length)
    rw [show p + s.length + k = p + k + s.length by omega] at this
    simp only [segInserted, this]
  | .defn name n body :: rest, env, p => by
    have := segInserted_shift k rest ((name, n, body) :: env) (p + (name.length + (bodyStr body).length + 19))
    rw [show p + (name.length + (bodyStr body).length + 19) + k
      = p + k + (name.length + (bodyStr body).length + 19) by omega] at this
    simp only [segInserted, this]
  | .use name args :: rest, env, p => by
    have := segInserted_shift k rest env (p + (name.length + 1 + argsLen args))
    rw [show p + (name.length + 1 + argsLen args) + k = p + k + (name.length + 1 + argsLen args) by omega]
      at this
    simp only [segInserted, this]
    rw [show p + k + name.length + 1 = p + name.length + 1 + k by omega, argSpans_shift, bodyInserted_shift]

/-! ### `inRange` follows from the side conditions -/

theorem bodyIn_mono {m m' : Nat} (hm : m ≤ m') : ∀ body : List BP, bodyIn m body = true → bodyIn m' body = true
  | [], _ => rfl
  | .lit _ :: rest, h => bodyIn_mono hm rest h
  | .par j :: rest, h => by
    simp only [bodyIn, Bool.and_eq_true, decide_eq_true_eq] at h ⊢
    exact ⟨⟨h.1.1, Nat.le_trans h.1.2 hm⟩, bodyIn_mono hm rest h.2⟩

theorem bodyIn_of_bpOk (T : PTables) (st : PState) (n : Nat) : ∀ body : List BP,
    body.all (bpOk T st n) = true → bodyIn n body = true
  | [], _ => rfl
  | .lit _ :: rest, h => by
    simp only [List.all_cons, Bool.and_eq_true] at h
    exact bodyIn_of_bpOk T st n rest h.2
  | .par j :: rest, h => by
    simp only [List.all_cons, Bool.and_eq_true, bpOk, decide_eq_true_eq] at h
    simp only [bodyIn, Bool.and_eq_true, decide_eq_true_eq]
    exact ⟨⟨h.1.1.1, h.1.1.2⟩, bodyIn_of_bpOk T st n rest h.2⟩

/-- the bodies of the environment refer to their own parameters only -/
def EnvIn (env : Env) : Prop := ∀ e ∈ env, bodyIn e.2.1 e.2.2 = true

theorem EnvIn.cons {env : Env} (h : EnvIn env) (name : Str) (n : Nat) (body : List BP)
    (hb : bodyIn n body = true) : EnvIn ((name, n, body) :: env) := by
  intro e he
  rcases List.mem_cons.mp he with rfl | he
  · exact hb
  · exact h e he

theorem EnvIn.defOf {env : Env} (h : EnvIn env) (name : Str) :
    bodyIn (defOf env name).1 (defOf env name).2 = true := by
  unfold PlainMacroArgs.defOf lookupDef
  cases hf : env.find? (·.1 == name) with
  | none => rfl
  | some e => exact h e (List.mem_of_find?_eq_some hf)

theorem defBody_ok {T : PTables} {st : PState} {name : Str} {n : Nat} {body : List BP} {R : Str}
    (h : defOk T st name n body R = true) : bodyIn n body = true :=
  bodyIn_of_bpOk T st n body (defFacts h).bok

theorem inRange_of_ok (T : PTables) (st : PState) : ∀ (segs : List Seg) (env : Env), EnvIn env →
    segsOk T st segs = true → arityOk env segs = true → inRange env segs = true
  | [], _, _, _, _ => rfl
  | .txt s :: rest, env, he, h, ha => by
    simp only [segsOk, Bool.and_eq_true] at h
    exact inRange_of_ok T st rest env he h.2 ha
  | .defn name n body :: rest, env, he, h, ha => by
    simp only [segsOk, Bool.and_eq_true] at h
    exact inRange_of_ok T st rest _ (he.cons name n body (defBody_ok h.1)) h.2 ha
  | .use name args :: rest, env, he, h, ha => by
    simp only [segsOk, Bool.and_eq_true] at h
    simp only [arityOk, Bool.and_eq_true, decide_eq_true_eq] at ha
    simp only [inRange, Bool.and_eq_true]
    exact ⟨bodyIn_mono ha.1 _ (he.defOf name), inRange_of_ok T st rest env he h.2 ha.2⟩

theorem EnvIn_envAfter (T : PTables) (st : PState) : ∀ (segs : List Seg) (env : Env), EnvIn env →
    segsOk T st segs = true → EnvIn (envAfter env segs)
  | [], _, he, _ => he
  | .txt s :: rest, env, he, h => by
    simp only [segsOk, Bool.and_eq_true] at h
    exact EnvIn_envAfter T st rest env he h.2
  | .defn name n body :: rest, env, he, h => by
    simp only [segsOk, Bool.and_eq_true] at h
    exact EnvIn_envAfter T st rest _ (he.cons name n body (defBody_ok h.1)) h.2
  | .use name args :: rest, env, he, h => by
    simp only [segsOk, Bool.and_eq_true] at h
    exact EnvIn_envAfter T st rest env he h.2

theorem segsOk_append_right (T : PTables) (st : PState) : ∀ (A B : List Seg),
    segsOk T st (A ++ B) = true → segsOk T st B = true
  | [], _, h => h
  | .txt s :: A, B, h => by
    simp only [List.cons_append, segsOk, Bool.and_eq_true] at h
    exact segsOk_append_right T st A B h.2
  | .defn name n body :: A, B, h => by
    simp only [List.cons_append, segsOk, Bool.and_eq_true] at h
    exact segsOk_append_right T st A B h.2
  | .use name args :: A, B, h => by
    simp only [List.cons_append, segsOk, Bool.and_eq_true] at h
    exact segsOk_append_right T st A B h.2

/-! ### the definitions text -/

/-- the definitions text: every definition followed by a line break -/
def defLines : List (Str × Nat × List BP) → List Seg
  | [] => []
  | d :: ds => .defn d.1 d.2.1 d.2.2 :: .txt [nl] :: defLines ds

theorem envAfter_defLines : ∀ (ds : List (Str × Nat × List BP)) (env : Env),
    envAfter env (defLines ds) = ds.reverse ++ env
  | [], _ => rfl
  | d :: ds, env => by
    simp only [defLines, envAfter, envAfter_defLines ds, List.reverse_cons, List.append_assoc,
      List.singleton_append]

theorem delLines_defline (q : Nat) (B : List Mark) : delLines (none :: some (nl, q) :: B) = delLines B := by
  simp [delLines, delGo]

/-- **the lines of the definitions text disappear** -/
theorem delLines_defLines (X : List Seg) : ∀ (ds : List (Str × Nat × List BP)) (env : Env) (p : Nat),
    delLines (segMarks env p (defLines ds ++ X))
      = delLines (segMarks (envAfter env (defLines ds)) (p + (render (defLines ds)).length) X)
  | [], _, _ => by simp [defLines, envAfter, render]
  | d :: ds, env, p => by
    have hl := render_defn_length d.1 d.2.1 d.2.2
    have ih := delLines_defLines X ds ((d.1, d.2.1, d.2.2) :: env)
      (p + (d.1.length + (bodyStr d.2.2).length + 19) + 1)
    have hr : (Seg.txt [nl]).render = [nl] := rfl
    simp only [defLines, List.cons_append, segMarks, posText, List.map_cons, List.map_nil,
      List.nil_append, List.length_cons, List.length_nil, Nat.zero_add, envAfter, render,
      List.length_append, hl, hr]
    rw [delLines_defline, ih]
    congr 2
    omega

/-! ### the comparison -/

def CmpOk (T : PTables) (st : PState) (ds : List (Str × Nat × List BP)) (X : List Seg) : Prop :=
  noEmptyActive T st = true ∧ PlainMacro.ncOk st = true ∧ segsOk T st (defLines ds) = true ∧
  segsOk T st (defLines ds ++ X) = true ∧ arityOk [] (defLines ds ++ X) = true

instance (T : PTables) (st : PState) (ds : List (Str × Nat × List BP)) (X : List Seg) :
    Decidable (CmpOk T st ds X) := by
  unfold CmpOk; infer_instance

/-- **C09: definitions in the document versus `--defs`.**  `r0`: the definitions text `D = defLines ds`
    in front of the document `X`; `r1`: `X` alone, `D` given as `--defs`.  Same text, unknowns and
    diagnostics; every position of `r0` is the corresponding position of `r1` plus `|D|`. -/
theorem tex2txt_defs_vs_document (T : PTables) (o : Options) (fs : FS) (thresh : Nat)
    (ds : List (Str × Nat × List BP)) (X : List Seg) (fuel : Nat) (st1 : PState)
    (hdefs : o.defs = []) (hextr : o.extr = []) (hrepl : o.hasRepl = false) (hunkn : o.unkn = false)
    (hinit : initParser T fuel o (initialState T o false fs) = .ok ((), st1))
    (hok : CmpOk T st1 ds X)
    (hf : (render (defLines ds ++ X)).length + segInserted [] 0 (defLines ds ++ X) + 6 ≤ fuel) :
    ∃ r0 r1,
      tex2txt T fuel (render (defLines ds ++ X)) o false thresh fs = .ok r0 ∧
      tex2txt T fuel (render X) { o with defs := render (defLines ds) } false thresh fs = .ok r1 ∧
      r0.txt = r1.txt ∧ r0.pos = r1.pos.map (· + (render (defLines ds)).length) ∧
      r0.unknowns = r1.unknowns ∧ r0.diags = r1.diags ∧
      r1.txt = (delLines (segMarks (ds.reverse) 0 X)).map (·.1) ∧
      r1.pos = (delLines (segMarks (ds.reverse) 0 X)).map (·.2 + 1) := by
  obtain ⟨ha, hnc, hsD, hsDX, harDX⟩ := hok
  have hsX := segsOk_append_right T st1 _ _ hsDX
  have har := harDX
  rw [arityOk_append, Bool.and_eq_true] at har
  have hfs := hf
  rw [render_append, List.length_append, segInserted_append] at hfs
  have hshift := segInserted_shift (render (defLines ds)).length X (envAfter [] (defLines ds)) 0
  rw [Nat.zero_add] at hshift hfs
  rw [hshift] at hfs
  obtain ⟨r0, h0, t0, p0, u0, d0, _⟩ := tex2txt_newcommand_args T o fs thresh (defLines ds ++ X) fuel st1
    hdefs hextr hrepl hunkn hinit ⟨ha, hnc, hsDX, harDX⟩ hf
  obtain ⟨r1, h1, t1, p1, u1, d1, _⟩ := tex2txt_defs_route T { o with defs := render (defLines ds) } fs thresh
    (defLines ds) X fuel st1 rfl hextr hrepl hunkn hinit ⟨ha, hnc, hsD, hsX, har.1, har.2⟩
    (by omega) (by omega)
  have henv : EnvIn (envAfter [] (defLines ds)) :=
    EnvIn_envAfter T st1 _ [] (fun e he => by simp at he) hsD
  have hin := inRange_of_ok T st1 X _ henv hsX har.2
  have hkey : delLines (segMarks [] 0 (defLines ds ++ X))
      = (delLines (segMarks (envAfter [] (defLines ds)) 0 X)).map (sh (render (defLines ds)).length) := by
    rw [delLines_defLines, ← delLines_shift, ← segMarks_shift _ X _ 0 hin]
  refine ⟨r0, r1, h0, h1, ?_, ?_, u0.trans u1.symm, d0.trans d1.symm, ?_, ?_⟩
  · rw [t0, t1, hkey, List.map_map]; rfl
  · rw [p0, p1, hkey, List.map_map, List.map_map]
    apply List.map_congr_left
    intro cp _
    simp only [Function.comp, sh]; omega
  · rw [t1, envAfter_defLines, List.append_nil]
  · rw [p1, envAfter_defLines, List.append_nil]

end PlainMacroArgs
end Yalafi
