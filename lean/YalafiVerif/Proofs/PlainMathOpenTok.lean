/-
  Proofs/PlainMathOpenTok.lean — token level of Proofs/PlainMathOpen.lean (C08 "an unterminated
  inline formula yields exactly one diagnostic at the line and column of its `$` and the complete
  error mark at that position; nothing behind the end of its paragraph is lost"): the mark tokens,
  the section parser and `expandInlineMath` on an open formula, the expander loop, the blank-line
  removal.  Source level and statements: Proofs/PlainMathOpen.lean.

  Documents: sequences of
    * inert text (as in Proofs/PlainUnknown.lean / Proofs/PlainMath.lean),
    * simple inline formulas `$body$` (as in Proofs/PlainMath.lean), and
    * OPEN formulas `$body w`: a `$` that is never closed; `body` is simple maths material, `w` is
      the paragraph break (a maximal run of white space with at least two line breaks) that cuts the
      formula, or `w = []` and the formula runs to the end of the text.

  What the model (and `mathparser.py:expand_math_section`) does with an open formula
    * the section parser reads maths tokens until it meets the end of the buffer or a paragraph
      token; it then calls `latex_error('missing end of maths', start)` with `start` = position of
      the opening `$`, puts the mark tokens IN FRONT of the maths tokens collected so far, and
      CONSUMES the paragraph token (`buf.next()`);
    * `expand_inline_math` then replaces the maths tokens behind the mark as for a closed formula:
      placeholder + closing punctuation, pinned to the first maths token; if there is no maths token
      (`$` directly followed by the paragraph break, or only white space up to the end of the text)
      nothing follows the mark and the placeholder collection is not rotated;
    * consequence (follows the model, differs from the wording of C08): the paragraph break `w` itself
      is LOST — the text behind it is glued to the placeholder (`"Abc $x\n\nNext"` ↦
      `"Abc  LATEXXXERROR C-C-CNext"`); everything behind `w` is kept with its own positions.
-/
import YalafiVerif.Proofs.PlainMath
import YalafiVerif.Proofs.PlainVerb
namespace Yalafi
namespace PlainMathOpen

open M PlainMath

def errMathEnd : Str := "missing end of maths".toList

/-! ### the tokens of the error mark -/

theorem latexErrorToks_kind (T : Tables) (err : Str) (p n : Nat) :
    ∀ t ∈ latexErrorToks T err p n, t.kind = .text ∧ t.fix = true := by
  intro t ht
  unfold latexErrorToks at ht
  simp only [] at ht
  split at ht
  · simp only [List.mem_cons, List.not_mem_nil, or_false] at ht
    rcases ht with rfl | rfl <;> exact ⟨rfl, rfl⟩
  · simp only [List.mem_cons, List.not_mem_nil, or_false] at ht
    subst ht; exact ⟨rfl, rfl⟩

theorem latexErrorToks_noNl (T : Tables) (err : Str) (p n : Nat)
    (hnl : hasNl (errMark T err) = false) :
    ∀ t ∈ latexErrorToks T err p n, hasNl t.txt = false := by
  intro t ht
  have hsub : ∀ k, List.Sublist ((errMark T err).take k) (errMark T err) ∧
      List.Sublist ((errMark T err).drop k) (errMark T err) :=
    fun k => ⟨List.take_sublist _ _, List.drop_sublist _ _⟩
  unfold latexErrorToks at ht
  simp only [] at ht
  split at ht
  · simp only [List.mem_cons, List.not_mem_nil, or_false] at ht
    rcases ht with rfl | rfl
    · exact hasNl_false_of_sublist (hsub _).1 hnl
    · exact hasNl_false_of_sublist (hsub _).2 hnl
  · simp only [List.mem_cons, List.not_mem_nil, or_false] at ht
    subst ht
    exact hasNl_false_of_sublist (hsub _).1 hnl

/-- the positions of the characters of the mark for a problem at offset `p` of a source of length
    `n` (`utils.latex_error`): the first `mx = min |mark| (n - p)` characters sit at `p`, what does
    not fit in front of the end of the source at `p + mx - 1` -/
def markPos (T : Tables) (err : Str) (n p : Nat) : List Nat :=
  List.replicate (min (errMark T err).length (n - p)) p
    ++ List.replicate ((errMark T err).length - min (errMark T err).length (n - p))
        (p + min (errMark T err).length (n - p) - 1)

theorem latexErrorToks_txtpos (T : Tables) (err : Str) (p n : Nat) :
    getTxtPos (latexErrorToks T err p n) = (errMark T err, markPos T err n p) := by
  unfold latexErrorToks markPos
  simp only []
  have hmx : min (errMark T err).length (n - p) ≤ (errMark T err).length := Nat.min_le_left _ _
  generalize min (errMark T err).length (n - p) = mx at hmx
  generalize errMark T err = mark at hmx
  split
  · simp [getTxtPos, tokPositions, Nat.min_eq_left hmx]
  · rename_i h
    have h1 : mark.length ≤ mx := by omega
    simp [getTxtPos, tokPositions, Nat.le_antisymm hmx h1]

theorem markPos_length (T : Tables) (err : Str) (n p : Nat) :
    (markPos T err n p).length = (errMark T err).length := by
  unfold markPos
  have : min (errMark T err).length (n - p) ≤ (errMark T err).length := Nat.min_le_left _ _
  simp only [List.length_append, List.length_replicate]
  omega

theorem isBlank_getTxtPos (l : List Tok) (h : ∀ t ∈ l, isBlank t.txt = true) :
    isBlank (getTxtPos l).1 = true := by
  induction l with
  | nil => rfl
  | cons t ts ih =>
    simp only [getTxtPos, isBlank_append, h t (by simp), ih (fun x hx => h x (by simp [hx])),
      Bool.and_self]

/-- a run of text tokens without line break in the line automaton: visible text closes the line -/
theorem lineRun_texts : ∀ (l : List Tok) (σ : Option Bool) (tail : List LItem),
    (∀ t ∈ l, t.kind = .text ∧ hasNl t.txt = false) → tail ≠ [] →
    lineRun σ ((l.filter keepIn).map evalTok ++ tail)
      = lineRun (if l.all (fun t => isBlank t.txt) then σ else none) tail
  | [], σ, tail, _, _ => by simp
  | t :: ts, σ, tail, h, ht => by
    have ih := lineRun_texts ts
    by_cases hk : keepIn t = true
    · simp only [List.filter_cons, hk, if_true, List.map_cons, List.cons_append]
      rw [lineRun_txt t (h t (by simp)).1 (h t (by simp)).2 σ _ (by simp [ht]),
        ih _ tail (fun x hx => h x (by simp [hx])) ht]
      cases hb : isBlank t.txt <;> simp [hb]
    · have hk' : keepIn t = false := by simpa using hk
      have he := keepIn_txt t hk'
      simp only [List.filter_cons, hk', Bool.false_eq_true, if_false]
      rw [ih σ tail (fun x hx => h x (by simp [hx])) ht]
      simp [he, isBlank_nil]

theorem latexErrorToks_notBlank (T : Tables) (err : Str) (p n : Nat)
    (hvis : isBlank (errMark T err) = false) :
    (latexErrorToks T err p n).all (fun t => isBlank t.txt) = false := by
  refine Bool.eq_false_iff.mpr (fun hall => ?_)
  have := isBlank_getTxtPos _ (List.all_eq_true.mp hall)
  rw [latexErrorToks_txtpos, hvis] at this
  cases this

/-- the mark tokens make their line visible -/
theorem lineRun_mark (T : Tables) (err : Str) (p n : Nat)
    (hnl : hasNl (errMark T err) = false) (hvis : isBlank (errMark T err) = false)
    (σ : Option Bool) (tail : List LItem) (ht : tail ≠ []) :
    lineRun σ (((latexErrorToks T err p n).filter keepIn).map evalTok ++ tail) = lineRun none tail := by
  rw [lineRun_texts _ σ tail
    (fun t h => ⟨(latexErrorToks_kind T err p n t h).1, latexErrorToks_noNl T err p n hnl t h⟩) ht,
    latexErrorToks_notBlank T err p n hvis]
  rfl

/-! ### the section parser on an open formula -/

def OpenTail (tl : Buf) : Prop := tl = [] ∨ ∃ pt rest, tl = pt :: rest ∧ pt.kind = .par

theorem finFilter_mark (T : Tables) (err : Str) (p n : Nat) (out : List Tok)
    (ho : ∀ t ∈ out, isMathTok t = true) :
    (latexErrorToks T err p n ++ out).filter (fun t => !(t.kind == Kind.void || t.kind == Kind.action))
      = latexErrorToks T err p n ++ out := by
  rw [List.filter_append, finFilter_math out ho]
  congr 1
  rw [List.filter_eq_self]
  intro t ht
  simp [(latexErrorToks_kind T err p n t ht).1]

/-- the section parser on the body of an open formula: one maths token per character that is no
    white space; at the end of the buffer / at the paragraph token the error is reported, the mark
    tokens are put in front, the paragraph token is consumed -/
theorem mathSection_open (T : PTables) (st : PState) (start : Nat) (tl : Buf) (htl : OpenTail tl)
    (body : List Tok) (fuel : Nat) (out : List Tok) (hf : body.length + 1 ≤ fuel)
    (hb : ∀ t ∈ body, BodyItem T t) (ho : ∀ t ∈ out, isMathTok t = true) :
    expandMathSection T fuel (body ++ tl) start ["$".toList, "\\)".toList] none out st
      = .ok ({ out := latexErrorToks T.toTables errMathEnd start st.latex.length
                        ++ (out ++ (mathToks body).map (mathTokOf st)),
               term := tl.head?, buf := tl.tail },
             { st with diags := st.diags ++ [latexErrorDiag errMathEnd start st.latex] }) := by
  have hl : (mathToks body).length ≤ body.length := List.length_filter_le _ _
  obtain ⟨f, rfl⟩ : ∃ f, fuel = (f + 1) + (mathToks body).length :=
    ⟨fuel - (mathToks body).length - 1, by omega⟩
  have ho' : ∀ t ∈ out ++ (mathToks body).map (mathTokOf st), isMathTok t = true := by
    intro t ht
    rcases List.mem_append.mp ht with ht | ht
    · exact ho t ht
    · exact map_mathTokOf_math st _ t ht
  rw [mathSection_chars T st _ none tl start body (f + 1) out hb (fun t _ h => h.nstop_inline),
    expandMathSection.eq_2]
  rcases htl with rfl | ⟨pt, rest, rfl, hk⟩
  · simp only [skipSpace, List.dropWhile_nil]
    show M.bind' (latexError T.toTables errMathEnd start) _ st = _
    simp only [M.bind', latexError]
    show Outcome.ok _ = _
    simp only [List.head?_nil, List.tail_nil]
    rw [finFilter_mark _ _ _ _ _ ho']
  · have hsk : skipSpace (pt :: rest) = pt :: rest := by
      simp [skipSpace, isSpaceTok, hk]
    rw [hsk]
    simp only [hk, beq_self_eq_true, if_true]
    show M.bind' (latexError T.toTables errMathEnd start) _ st = _
    simp only [M.bind', latexError]
    show Outcome.ok _ = _
    simp only [List.head?_cons, List.tail_cons]
    rw [finFilter_mark _ _ _ _ _ ho']

/-! ### `expandInlineMath` on an open formula -/

theorem detectMathParts_text_prefix (e ts : List Tok) (he : ∀ t ∈ e, isMathTok t = false) :
    detectMathParts (e ++ ts) [] = e.map SecItem.tok ++ detectMathParts ts [] := by
  induction e with
  | nil => rfl
  | cons t e ih =>
    simp only [List.cons_append, detectMathParts, he t (by simp), Bool.false_eq_true, if_false,
      List.isEmpty_nil, if_true, List.nil_append, List.map_cons]
    rw [ih (fun x hx => he x (by simp [hx]))]

/-- non-maths tokens of a section are copied by `replace_section`; the placeholder collection is
    not touched -/
theorem replaceSteps_toks (T : PTables) (opText : List (Str × Str)) (opDefault : Option Str) :
    ∀ (e : List Tok) (s : RsState),
      ∃ s', (e.map SecItem.tok).foldlM (replaceStep T opText opDefault true) s = some s' ∧
        s'.out = s.out ++ e ∧ s'.repls = s.repls
  | [], s => ⟨s, rfl, by simp, rfl⟩
  | t :: e, s => by
    simp only [List.map_cons, List.foldlM_cons, replaceStep]
    obtain ⟨s', h1, h2, h3⟩ := replaceSteps_toks T opText opDefault e
      (if !isBlank t.txt then { s with out := s.out ++ [t], firstPart := false, nextRepl := true }
       else { s with out := s.out ++ [t] })
    refine ⟨s', ?_, ?_, ?_⟩
    · exact h1
    · rw [h2]; split <;> simp
    · rw [h3]; split <;> rfl

/-- what replaces the maths tokens `mb` of an open formula behind the mark: nothing if there are
    none, else the placeholder `ph` and the closing punctuation mark, pinned to the first token -/
def openShape (T : PTables) (ph : Str) (mb : List Tok) : List Tok :=
  if mb = [] then []
  else [mkFix .text (firstPos mb) ph]
    ++ (match punctChar T (bodyTxt mb) with | some c => [mkFix .text (firstPos mb) [c]] | none => [])

/-- the placeholder collection after an open formula: rotated iff there was a maths token -/
def openRot (mb : List Tok) (l : List Str) : List Str := if mb = [] then l else rotL l

/-- what `expand_inline_math` returns for an open formula whose `$` sits at `p`, in a source of
    length `n`: an Action token, the tokens of the error mark, the replacement of the maths tokens,
    an Action token at the position of the last of these tokens -/
def openCore (T : PTables) (n : Nat) (ph : Str) (p : Nat) (mb : List Tok) : List Tok :=
  mkAction p :: (latexErrorToks T.toTables errMathEnd p n ++ openShape T ph mb)

def openOut (T : PTables) (n : Nat) (ph : Str) (p : Nat) (mb : List Tok) : List Tok :=
  openCore T n ph p mb ++ [mkAction (((openCore T n ph p mb).getLast?.map (·.pos)).getD p)]

/-- **C08 on `expandInlineMath`.**  For an open formula (buffer = body tokens, then the end of the
    buffer or a paragraph token) the call reports `missing end of maths` at the position of the
    opening `$`, returns `openOut` and the buffer behind the paragraph token; the state changes
    in the diagnostics and the rotation record only. -/
theorem inlineMath_open (T : PTables) (st : PState) (fuel : Nat) (d1 : Tok) (body : List Tok)
    (tl : Buf) (rot : Rot) (ls : LangSettings) (r0 : Str)
    (htl : OpenTail tl) (hb : ∀ t ∈ body, BodyItem T t)
    (hf : body.length + 1 ≤ fuel)
    (hrot : rotOf st (curSettings st) = some rot) (hls : settingsOf T (curSettings st) = some ls)
    (hr : (rotL rot.inl).head? = some r0) :
    expandInlineMath T (fuel + 1) (body ++ tl) d1 st
      = .ok ((openOut T st.latex.length r0 d1.pos (mathToks body), tl.tail),
             setRot { st with diags := st.diags ++ [latexErrorDiag errMathEnd d1.pos st.latex] }
               { rot with inl := openRot (mathToks body) rot.inl }) := by
  have hsec := mathSection_open T st d1.pos tl htl body fuel [] hf hb (by simp)
  rw [List.nil_append] at hsec
  have hbm := mathToks_body T body hb
  generalize mathToks body = mb at hsec hbm
  generalize hst2 : ({ st with diags := st.diags ++ [latexErrorDiag errMathEnd d1.pos st.latex] } : PState)
    = st2 at hsec
  have hrot2 : rotOf st2 (curSettings st2) = some rot := by rw [← hst2]; exact hrot
  have hls2 : settingsOf T (curSettings st2) = some ls := by rw [← hst2]; exact hls
  generalize he : latexErrorToks T.toTables errMathEnd d1.pos st.latex.length = e at hsec
  have hem : ∀ t ∈ e, isMathTok t = false := by
    intro t ht
    rw [← he] at ht
    simp [isMathTok, (latexErrorToks_kind _ _ _ _ t ht).1]
  have hmath : ∀ t ∈ mb.map (mathTokOf st), isMathTok t = true := by
    intro t ht
    obtain ⟨u, _, rfl⟩ := List.mem_map.mp ht
    exact isMathTok_mathTokOf st u
  have hrs : ∃ rs, replaceSection T ls.opText ls.opDefault true
        (detectMathParts (e ++ mb.map (mathTokOf st)) []) true true rot.inl = some rs ∧
      rs.repls = openRot mb rot.inl ∧ rs.out = e ++ openShape T r0 mb := by
    rw [detectMathParts_text_prefix e _ hem]
    unfold replaceSection
    rw [List.foldlM_append]
    obtain ⟨s', h1, h2, h3⟩ := replaceSteps_toks T ls.opText ls.opDefault e
      { firstPart := !true, nextRepl := true, repls := rot.inl, out := [] }
    rw [h1]
    simp only [Option.bind_eq_bind, Option.bind_some]
    cases mb with
    | nil =>
      refine ⟨s', ?_, ?_, ?_⟩
      · simp [detectMathParts]
      · rw [h3]; simp [openRot]
      · rw [h2]; simp [openShape]
    | cons t ts =>
      have hmne : (t :: ts).map (mathTokOf st) ≠ [] := List.cons_ne_nil _ _
      rw [detectMathParts_single _ hmath hmne]
      have hns : ((t :: ts).map (mathTokOf st)).all (·.kind == .mathSpace) = false := by
        simp [mathTokOf_notSpace st t]
      obtain ⟨nr, hstep⟩ := replaceStep_inline_part T ls.opText ls.opDefault s'
        ((t :: ts).map (mathTokOf st)) (mathTokOf st t)
        (((t :: ts).map (mathTokOf st)).getLast hmne) r0 rfl
        (List.getLast?_eq_some_getLast hmne) hns (by rw [h3]; exact hr)
      refine ⟨{ firstPart := s'.firstPart, nextRepl := nr, repls := rotL s'.repls,
                out := s'.out ++ inlineShape T ((t :: ts).map (mathTokOf st))
                  (mathTokOf st t) (((t :: ts).map (mathTokOf st)).getLast hmne) r0 },
              ?_, ?_, ?_⟩
      · simp only [List.foldlM_cons, List.foldlM_nil, hstep]
        rfl
      · simp [openRot, h3]
      · have hlk : ¬ (((t :: ts).map (mathTokOf st)).getLast hmne).kind = .mathSpace := by
          obtain ⟨u, _, hu⟩ := List.mem_map.mp (List.getLast_mem hmne)
          rw [← hu]; exact mathTokOf_notSpace st u
        simp only [h2, List.nil_append]
        unfold inlineShape openShape
        rw [partPunct_mathToks T st (t :: ts) hbm, if_neg (mathTokOf_notSpace st t), if_neg hlk,
          if_neg (List.cons_ne_nil t ts)]
        cases punctChar T (bodyTxt (t :: ts)) <;> rfl
  obtain ⟨rs, hrs1, hrs2, hrs3⟩ := hrs
  rw [expandInlineMath.eq_2]
  refine (M.bind_ok _ _ _ _ _ hsec).trans ?_
  refine (M.bind_ok _ _ _ _ _ (rfl : M.get st2 = _)).trans ?_
  simp only [hrot2, hls2, hrs1]
  refine (M.bind_ok _ _ _ _ _ (rfl : M.modify _ _ = _)).trans ?_
  show Outcome.ok _ = _
  rw [hrs2, hrs3]
  simp only [openOut, openCore, he]

/-! ### `expandSequence` on plain tokens, simple formulas and open formulas -/

/-- the pieces of a token buffer: a token that is copied, a simple formula, or an open formula
    (`par` = the paragraph token that cuts it; `none`: it runs to the end of the buffer) -/
inductive OPiece where
  | tok (t : Tok)
  | math (d1 : Tok) (body : List Tok) (d2 : Tok)
  | opn (d1 : Tok) (body : List Tok) (par : Option Tok)

def OPiece.toks : OPiece → List Tok
  | .tok t => [t]
  | .math d1 b d2 => d1 :: (b ++ [d2])
  | .opn d1 b par => d1 :: (b ++ par.toList)

def oflat : List OPiece → List Tok
  | [] => []
  | p :: ps => p.toks ++ oflat ps

/-- a buffer of plain tokens (copied by `expandSequence`), simple formulas and open formulas; an
    open formula without paragraph token is the last piece -/
def OPiecesOk (T : PTables) (st : PState) : List OPiece → Prop
  | [] => True
  | .tok t :: rest => PlainTok t ∧ PassTok T st t (oflat rest) ∧ TokShape t ∧ OPiecesOk T st rest
  | .math d1 b d2 :: rest =>
    DollarTok d1 ∧ mathToks b ≠ [] ∧ (∀ t ∈ b, BodyItem T t) ∧ DollarTok d2 ∧ OPiecesOk T st rest
  | .opn d1 b par :: rest =>
    DollarTok d1 ∧ (∀ t ∈ b, BodyItem T t) ∧
    (match par with | some pt => pt.kind = .par | none => rest = []) ∧ OPiecesOk T st rest

/-- what `expandSequence` emits for the pieces before the blank-line removal; `n` = length of the
    source, `l` = the stored placeholder collection -/
def ooutP (T : PTables) (n : Nat) : List Str → List OPiece → List Tok
  | _, [] => []
  | l, .tok t :: rest => t :: ooutP T n l rest
  | l, .math d1 b _ :: rest =>
    formulaOut T ((rotL l).headD []) d1.pos (firstPos (mathToks b)) (bodyTxt (mathToks b))
      ++ ooutP T n (rotL l) rest
  | l, .opn d1 b _ :: rest =>
    openOut T n ((rotL l).headD []) d1.pos (mathToks b) ++ ooutP T n (openRot (mathToks b) l) rest

def diagsP (src : Str) : List OPiece → List Diag
  | [] => []
  | .opn d1 _ _ :: rest => latexErrorDiag errMathEnd d1.pos src :: diagsP src rest
  | _ :: rest => diagsP src rest

/-- number of rotations of the placeholder collection: one per formula with a maths token -/
def nRot : List OPiece → Nat
  | [] => 0
  | .tok _ :: rest => nRot rest
  | .math .. :: rest => nRot rest + 1
  | .opn _ b _ :: rest => nRot rest + (if mathToks b = [] then 0 else 1)

theorem openRot_ne_nil (mb : List Tok) (l : List Str) (h : l ≠ []) : openRot mb l ≠ [] := by
  unfold openRot
  split
  · exact h
  · exact rotL_ne_nil l h

/-- the loop on an open formula: one iteration, whose call of `expandInlineMath` needs a unit per body
    token and two more (the last one sees what ends the formula); charged as one unit per body token
    and one for the `$`, so that two must remain behind -/
theorem seqRun_opening {T : PTables} {envStop : Option Str} {st : PState} {d1 : Tok} {b : List Tok}
    {rot : Rot} {ls : LangSettings} (tl : Buf) (out : List Tok) (hd1 : DollarTok d1)
    (hb : ∀ t ∈ b, BodyItem T t) (htl : OpenTail tl)
    (hrot : rotOf st (curSettings st) = some rot) (hne : rot.inl ≠ [])
    (hls : settingsOf T (curSettings st) = some ls) :
    SeqRun T envStop 2 (b.length + 1) (d1 :: (b ++ tl)) out st tl.tail
      (out ++ openOut T st.latex.length ((rotL rot.inl).headD []) d1.pos (mathToks b))
      (setRot { st with diags := st.diags ++ [latexErrorDiag errMathEnd d1.pos st.latex] }
        { rot with inl := openRot (mathToks b) rot.inl }) :=
  .of_eq (m := b.length + 1) (k := 2) (j := 1) (fun f hf => by
    rw [loop_inline hd1.kind hd1.inline]
    exact M.bind_ok _ _ _ _ _ (inlineMath_open T st f d1 b tl rot ls _ htl hb hf hrot hls
      (headD_of_ne_nil _ (rotL_ne_nil _ hne)))) (by omega) (by omega)

/-- the loop on a buffer of plain tokens, simple formulas and open formulas: it emits `ooutP`; the
    state changes in the rotation records and the diagnostics only.  One iteration per token or less;
    `d`, the depth the calls inside may use: one level, two if a formula is open. -/
theorem seqRun_open (T : PTables) (envStop : Option Str) (ls : LangSettings) (d : Nat) (h1 : 1 ≤ d)
    {st0 : PState} :
    ∀ (ps : List OPiece) (out : List Tok) (st : PState) (rot : Rot), Ext st0 st →
      (diagsP st.latex ps ≠ [] → 2 ≤ d) → OPiecesOk T st0 ps →
      rotOf st (curSettings st) = some rot → rot.inl ≠ [] →
      settingsOf T (curSettings st) = some ls →
      ∃ st', SeqRun T envStop d (oflat ps).length (oflat ps) out st []
          (out ++ ooutP T st.latex.length rot.inl ps) st' ∧
        st' = { st with rots := st'.rots, diags := st.diags ++ diagsP st.latex ps } := by
  intro ps
  induction ps with
  | nil =>
    intro out st rot _ _ _ _ _ _
    exact ⟨st, by rw [ooutP, List.append_nil]; exact SeqRun.refl.mono (Nat.zero_le _) (Nat.le_refl _),
      by simp [diagsP]⟩
  | cons p ps ih =>
    intro out st rot hr hd hok hrot hne hls
    cases p with
    | tok t =>
      obtain ⟨st', r, h2⟩ := ih (out ++ [t]) st rot hr hd hok.2.2.2 hrot hne hls
      exact ⟨st', (seqRun_plainTok hok.1 (hr.passTok hok.2.1)).app_comm r (Nat.zero_le _), h2⟩
    | math d1 b d2 =>
      obtain ⟨hd1, hbne, hb, hd2, hrest⟩ := hok
      have r1 := seqRun_formula (envStop := envStop) (oflat ps) out hd1 hbne hb hd2 hrot hne hls
      obtain ⟨st', r, h2⟩ := ih _ (setRot st { rot with inl := rotL rot.inl }) _ (hr.reads ⟨rfl, rfl⟩) hd hrest
        (rotOf_setRot st _ rot _ hrot) (rotL_ne_nil _ hne) hls
      have hflat : oflat (OPiece.math d1 b d2 :: ps) = d1 :: (b ++ d2 :: oflat ps) := by
        simp [oflat, OPiece.toks]
      rw [hflat]
      exact ⟨st', (r1.app r (by omega)).mono (Nat.le_refl _) (by simp; omega), h2.trans rfl⟩
    | opn d1 b par =>
      obtain ⟨hd1, hb, hpar, hrest⟩ := hok
      have hd2 : 2 ≤ d := hd (List.cons_ne_nil _ _)
      have htl : OpenTail (par.toList ++ oflat ps) ∧ (par.toList ++ oflat ps).tail = oflat ps := by
        cases par with
        | none => simp only [] at hpar; subst hpar; exact ⟨.inl rfl, rfl⟩
        | some pt => exact ⟨.inr ⟨pt, oflat ps, rfl, hpar⟩, rfl⟩
      have r1 := seqRun_opening (envStop := envStop) _ out hd1 hb htl.1 hrot hne hls
      rw [htl.2] at r1
      let st2 : PState := { st with diags := st.diags ++ [latexErrorDiag errMathEnd d1.pos st.latex] }
      obtain ⟨st', r, h2⟩ := ih _ (setRot st2 { rot with inl := openRot (mathToks b) rot.inl }) _
        (hr.reads ⟨rfl, rfl⟩) (fun _ => hd2) hrest
        (rotOf_setRot st2 (curSettings st2) rot _ hrot) (openRot_ne_nil _ _ hne) hls
      have hflat : oflat (OPiece.opn d1 b par :: ps) = d1 :: (b ++ (par.toList ++ oflat ps)) := by
        simp [oflat, OPiece.toks]
      rw [hflat]
      refine ⟨st', (r1.app r (by omega)).mono (Nat.le_refl _) (by simp; omega), ?_⟩
      rw [h2]
      simp [st2, setRot, diagsP, List.append_assoc]

theorem OPiecesOk.noCom {T : PTables} {st : PState} :
    ∀ {ps : List OPiece}, OPiecesOk T st ps → NoCom (oflat ps)
  | [], _ => .nil
  | .tok _ :: _, h => .cons h.1.notComment (noCom h.2.2.2)
  | .math .. :: _, h =>
    .append (.cons h.1.notComment (.append (noCom_body h.2.2.1) (.cons h.2.2.2.1.notComment .nil)))
      (noCom h.2.2.2.2)
  | .opn _ _ par :: _, h =>
    .append (.cons h.1.notComment (.append (noCom_body h.2.1) (by
      cases par with
      | none => exact .nil
      | some pt => exact .cons (NoCom.of_kind h.2.2.1) .nil))) (noCom h.2.2.2)

/-! ### the blank-line removal deletes nothing -/

/-- the mark of `missing end of maths` is a visible one-line text (true whenever `T.mark` is) -/
def markVisible (T : Tables) : Bool :=
  !hasNl (errMark T errMathEnd) && !isBlank (errMark T errMathEnd)

theorem openShape_texts (T : PTables) (ph : Str) (mb : List Tok) (hph : hasNl ph = false)
    (hs : ∀ c ∈ bodyTxt mb, isSpace c = false) :
    ∀ t ∈ openShape T ph mb, t.kind = .text ∧ hasNl t.txt = false := by
  intro t ht
  unfold openShape at ht
  split at ht
  · simp at ht
  · cases hp : punctChar T (bodyTxt mb) with
    | none =>
      simp only [hp, List.append_nil, List.mem_singleton] at ht
      subst ht; exact ⟨rfl, hph⟩
    | some c =>
      simp only [hp, List.mem_append, List.mem_singleton] at ht
      rcases ht with rfl | rfl
      · exact ⟨rfl, hph⟩
      · exact ⟨rfl, PlainMacro.hasNl_single c (hs c (punctChar_mem T _ c hp))⟩

theorem lineTo_mark (T : Tables) (err : Str) (p n : Nat)
    (hnl : hasNl (errMark T err) = false) (hvis : isBlank (errMark T err) = false) :
    LineTo LAny LVis (latexErrorToks T err p n) :=
  fun σ tail ht _ => ⟨none, rfl, lineRun_mark T err p n hnl hvis σ tail ht⟩

theorem lineTo_open (T : PTables) (n : Nat) (ph : Str) (p : Nat) (mb : List Tok)
    (hm : markVisible T.toTables = true)
    (hph : hasNl ph = false) (hs : ∀ c ∈ bodyTxt mb, isSpace c = false) :
    LineTo LAny LVis (openOut T n ph p mb) := by
  simp only [markVisible, Bool.and_eq_true, Bool.not_eq_true'] at hm
  unfold openOut openCore
  exact ((LineTo.actionAny (t := mkAction p) rfl).cons ((lineTo_mark _ _ p n hm.1 hm.2).append
    (.all fun t ht => .textVis (openShape_texts T ph mb hph hs t ht).1 (openShape_texts T ph mb hph hs t ht).2))).append
    (.actionVis (t := mkAction _) rfl)

theorem lineTo_ooutP (T : PTables) (st : PState) (n : Nat) (src : Str) :
    ∀ (ps : List OPiece) (l : List Str), (diagsP src ps ≠ [] → markVisible T.toTables = true) →
      OPiecesOk T st ps → VisibleRepls l → l ≠ [] → LineTo LOk LOk (ooutP T n l ps)
  | [], _, _, _, _, _ => .nil
  | .tok _ :: ps, l, hm, hok, hl, hne =>
    (lineTo_tokShape hok.2.2.1).cons (lineTo_ooutP T st n src ps l hm hok.2.2.2 hl hne)
  | .math d1 b _ :: ps, l, hm, hok, hl, hne =>
    (lineTo_formula T _ d1.pos _ _ (hl.next hne) (bodyTxt_nonspace T _ (mathToks_body T b hok.2.2.1))).ok.append
      (lineTo_ooutP T st n src ps (rotL l) hm hok.2.2.2.2 hl.rotL (rotL_ne_nil l hne))
  | .opn d1 b _ :: ps, l, hm, hok, hl, hne => by
    have hl' : VisibleRepls (openRot (mathToks b) l) := by
      unfold openRot; split
      · exact hl
      · exact hl.rotL
    exact (lineTo_open T n _ d1.pos (mathToks b) (hm (List.cons_ne_nil _ _)) (hl.next hne).1
      (bodyTxt_nonspace T _ (mathToks_body T b hok.2.1))).ok.append
      (lineTo_ooutP T st n src ps _ (fun _ => hm (List.cons_ne_nil _ _)) hok.2.2.2 hl'
        (openRot_ne_nil _ l hne))

theorem removeLines_ooutP (T : PTables) (st : PState) (n : Nat) (src : Str) (ps : List OPiece)
    (hm : diagsP src ps ≠ [] → markVisible T.toTables = true) (l : List Str)
    (hok : OPiecesOk T st ps) (hl : VisibleRepls l) (hne : l ≠ []) :
    removeLines (ooutP T n l ps) = some ((ooutP T n l ps).filter keepOut) :=
  (lineTo_ooutP T st n src ps l hm hok hl hne).removeLines

end PlainMathOpen
end Yalafi
