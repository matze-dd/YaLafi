/-
  Proofs/PlainMathOpen.lean — C08 "LaTeX problems yield the full error mark at the right place" at
  UNTERMINATED INLINE MATHS, end to end on the model: a `$` that is never closed yields exactly one
  diagnostic `missing end of maths` at the line and column of the `$`, the complete error mark in the
  plain text with its first character mapped to the `$`, and everything behind the paragraph break
  that cuts the formula is kept with its own positions.
  (Token level — mark tokens, section parser, `expandInlineMath`, expander loop, blank-line removal:
  Proofs/PlainMathOpenTok.lean; statements for Properties: Properties/PlainMathOpenStmt.lean.)

  Documents
    `OSeg`, `orender`          text segment | simple formula `$body$` | OPEN formula `$body w`
                               (`w` = the paragraph break that cuts it, or `[]` at the end of the text)
    `openOk`, `osegsOk`, `OSegsOk`   well-formedness (computable); text and simple formulas as in
                               Proofs/PlainMath.lean (`textOk`, `mathOk`)
  What the model (= `mathparser.py:expand_math_section` / `expand_inline_math`) does with `$body w`
    * maths tokens are collected as for a closed formula; at the end of the buffer or at a paragraph
      token it calls `latex_error('missing end of maths', start)` with `start` = position of the `$`,
      puts the mark tokens IN FRONT of the collected maths tokens and CONSUMES the paragraph token;
    * the maths tokens behind the mark are replaced as usual: placeholder + closing punctuation
      pinned to the first maths token; without any maths token nothing follows the mark and the
      placeholder collection is not rotated;
    * so the paragraph break `w` is LOST: the text behind it is glued to the placeholder (or mark).
      C08 says "no text beyond the end of its paragraph is lost": true for the text, not for the
      paragraph separation.  The theorems follow the model.
  Source level (this file)
    `OItem`, `oitemsOf`, `orefItems`, `odiagsItems`, `OOkSrc`    the source character by character
    `Boundary`, `PlainMath.scans_body`, `PlainMath.scans_opening`   (in Proofs/PlainMath.lean) the scanner on `$`
                               and a formula body in front of `$`, the end of the text or a paragraph break
    `orefSegs`, `odiagsSegs`, `tex2txt_open`, `tex2txt_math_open_segs`   general end-to-end statement
                               (`tex2txt_open`: the visible mark and the third unit of fuel are asked for
                               only if a formula is open)
    `ofMath`, `ofMath_doc`, `osegsOk_ofMath`, `PlainMath.tex2txt_inline_math`   the class of
                               Proofs/PlainMath.lean: the documents without an open formula
    `tex2txt_math_unterminated` (+ `_end`, `tex2txt_math_mark_complete`, `tex2txt_math_text_kept`)
                               one open formula between documents of the class of Proofs/PlainMath.lean

  Side conditions of `tex2txt_math_unterminated` / `tex2txt_math_open_segs` (reasons)
    options / initialisation   as in `tex2txt_inline_math`: no --defs, --extr, --repl, --unkn,
                               single-language mode, `st1` = state after `Parser.__init__`
    `OSegsOk T st1 segs`       text: `textOk` (inert in its right context; the token behind an active
                               character may be `$`); simple formula: `mathOk`; open formula `openOk`:
        `dollarAt`             the `$` is scanned as the token `$` (a body starting with `$` makes `$$`)
        `bodyOk`               simple maths material: every character that is no white space is
                               admissible in its right context (`mathAt`: none of `% # \ $ { }`, not in
                               `math_ignore` / `math_space`, no special sequence matches there — `_ ^ & ~`
                               and `--` are special sequences of the real tables), every run of white
                               space has at most one line break;
        `w`                    all white space; at least two line breaks (else it is a space token and
                               part of the formula) or empty with nothing behind it; maximal: the body
                               does not end and the following text does not start with white space
                               (the scanner makes ONE token of a white-space run; this is no restriction
                               on the documents, only on how they are cut into segments)
    `markVisible T`            the mark `errMark` (" " ++ mark ++ " ", plus message if verbose) has no
                               line break and is not blank — else the blank-line removal could delete
                               or split the line with the mark (the formula emits Action tokens)
    `rotOf … = some rot`, `rot.inl = repls`, `repls ≠ []`, `VisibleRepls repls`,
    `(settingsOf …).isSome`    as in `tex2txt_inline_math` (`IndexError` / `KeyError` otherwise; a
                               blank placeholder could make a pure Action line)
    fuel                       `src.length + 3 ≤ fuel` (tight: `$ab` needs 6)
  NOT covered: maths material beyond `bodyOk` (macros such as `\alpha`, braces, subscripts and superscripts,
  `\text{…}`, environments) in an open formula; `\(` as opening token; displayed maths (`$$`, `\[`);
  an open formula inside a macro argument; multi-language mode; the options excluded above.
  Positions: the mark is anchored at the `$` (0-based `P`, reported `P + 1`); the part of the mark that
  does not fit in front of the end of the source at the last source position (`utils.latex_error`); the
  placeholder at the first body character that is no white space (`P + 2 + leadBlanks body`, 1-based).
  With a mark longer than the rest of the source the position list is not monotone.
-/
import YalafiVerif.Proofs.PlainMathOpenTok
namespace Yalafi
namespace PlainMathOpen

open M PlainMath

/-! ### the documents -/

inductive OSeg where
  | txt (s : Str)
  | math (body : Str)
  | opn (body w : Str)
deriving Repr, DecidableEq

def OSeg.render : OSeg → Str
  | .txt s => s
  | .math body => '$' :: (body ++ ['$'])
  | .opn body w => '$' :: (body ++ w)

def orender : List OSeg → Str
  | [] => []
  | s :: rest => s.render ++ orender rest

/-- the open formula `$body w`, followed by `R`: the `$` is scanned as the token `$`; the body is
    admissible (`bodyOk` of Proofs/PlainMath.lean: simple maths characters, white-space runs with at
    most one line break — so the body does not end in white space if `w` follows); `w` is the
    maximal run of white space behind the body and has at least two line breaks, or it is empty and
    nothing follows -/
def openOk (T : PTables) (body w R : Str) : Bool :=
  dollarAt T (body ++ (w ++ R)) && bodyOk T body (w ++ R) && w.all isSpace &&
  (if w.isEmpty then R.isEmpty else decide (2 ≤ countNl w)) &&
  R.head?.all (fun c => !isSpace c)

def osegsOk (T : PTables) (st : PState) : List OSeg → Bool
  | [] => true
  | .txt s :: rest => textOk T st s (orender rest) && osegsOk T st rest
  | .math body :: rest => mathOk T body (orender rest) && osegsOk T st rest
  | .opn body w :: rest => openOk T body w (orender rest) && osegsOk T st rest

/-- the source as a list of text characters (with their positions), formulas and open formulas
    (with the position of the opening `$`) -/
inductive OItem where
  | chr (c : Char) (p : Nat)
  | math (p : Nat) (body : Str)
  | opn (p : Nat) (body : Str)

def ochrItems : Nat → Str → List OItem
  | _, [] => []
  | p, c :: cs => .chr c p :: ochrItems (p + 1) cs

def oitemsOf : Nat → List OSeg → List OItem
  | _, [] => []
  | p, .txt s :: rest => ochrItems p s ++ oitemsOf (p + s.length) rest
  | p, .math body :: rest => .math p body :: oitemsOf (p + (body.length + 2)) rest
  | p, .opn body w :: rest => .opn p body :: oitemsOf (p + (body.length + 1 + w.length)) rest

def visBody (body : Str) : Str := body.filter (fun c => !isSpace c)

/-- what replaces the body of an open formula behind the mark, `l` being the stored collection:
    nothing if the body is blank, else the head of the rotated collection and the closing
    punctuation mark -/
def openRepl (T : PTables) (l : List Str) (body : Str) : Str :=
  if visBody body = [] then [] else (rotL l).headD [] ++ (punctChar T (visBody body)).toList

/-- the collection behind an open formula -/
def openRotS (body : Str) (l : List Str) : List Str := if visBody body = [] then l else rotL l

/-- the reference output (text, 0-based positions) for a list of items of a source of length `n`,
    `l` being the stored placeholder collection -/
def orefItems (T : PTables) (n : Nat) : List Str → List OItem → Str × List Nat
  | _, [] => ([], [])
  | l, .chr c p :: rest => (c :: (orefItems T n l rest).1, p :: (orefItems T n l rest).2)
  | l, .math p body :: rest =>
    let t := (rotL l).headD [] ++ (punctChar T (visBody body)).toList
    (t ++ (orefItems T n (rotL l) rest).1,
     List.replicate t.length (p + 1 + (body.takeWhile isSpace).length) ++ (orefItems T n (rotL l) rest).2)
  | l, .opn p body :: rest =>
    (errMark T.toTables errMathEnd ++ (openRepl T l body ++ (orefItems T n (openRotS body l) rest).1),
     markPos T.toTables errMathEnd n p
       ++ (List.replicate (openRepl T l body).length (p + 1 + (body.takeWhile isSpace).length)
       ++ (orefItems T n (openRotS body l) rest).2))

def odiagsItems (src : Str) : List OItem → List Diag
  | [] => []
  | .opn p _ :: rest => latexErrorDiag errMathEnd p src :: odiagsItems src rest
  | _ :: rest => odiagsItems src rest

def onRot : List OItem → Nat
  | [] => 0
  | .chr .. :: rest => onRot rest
  | .math .. :: rest => onRot rest + 1
  | .opn _ body :: rest => onRot rest + (if visBody body = [] then 0 else 1)

theorem onRot_chrItems (items : List OItem) : ∀ (s : Str) (p : Nat),
    onRot (ochrItems p s ++ items) = onRot items
  | [], _ => rfl
  | c :: cs, p => by simp only [ochrItems, List.cons_append, onRot, onRot_chrItems items cs (p + 1)]

theorem odiags_chrItems (src : Str) (items : List OItem) : ∀ (s : Str) (p : Nat),
    odiagsItems src (ochrItems p s ++ items) = odiagsItems src items
  | [], _ => rfl
  | c :: cs, p => by
    simp only [ochrItems, List.cons_append, odiagsItems, odiags_chrItems src items cs (p + 1)]

theorem orefItems_chrItems (T : PTables) (n : Nat) (l : List Str) (items : List OItem) :
    ∀ (s : Str) (p : Nat), orefItems T n l (ochrItems p s ++ items)
      = (s ++ (orefItems T n l items).1, List.range' p s.length ++ (orefItems T n l items).2)
  | [], _ => rfl
  | c :: cs, p => by
    simp only [ochrItems, List.cons_append, orefItems, orefItems_chrItems T n l items cs (p + 1),
      List.length_cons, List.range'_succ]

/-- a formula, closed or open, at the head of the source -/
inductive OCon (T : PTables) : Nat → Str → List OItem → Nat → Str → List OItem → Prop
  | math (p : Nat) (body R : Str) (items : List OItem) : mathOk T body R = true →
      OCon T p ('$' :: (body ++ '$' :: R)) (.math p body :: items) (p + (body.length + 2)) R items
  | opn (p : Nat) (body w R : Str) (items : List OItem) : openOk T body w R = true →
      OCon T p ('$' :: (body ++ (w ++ R))) (.opn p body :: items) (p + (body.length + 1 + w.length)) R items

theorem OCon.vis (T : PTables) : ConVis (OCon T) := by
  rintro _ _ _ _ _ _ ⟨⟩ <;> exact ⟨_, _, rfl, rfl⟩

abbrev OOkSrc (T : PTables) (st : PState) : Nat → Str → List OItem → Prop :=
  OkSrcG (okAt T st) (fun c p l => OItem.chr c p :: l) (· = []) (OCon T)

theorem chrs_ochr (items : List OItem) : ∀ (s : Str) (p : Nat),
    chrs (fun c p l => OItem.chr c p :: l) p s items = ochrItems p s ++ items
  | [], _ => rfl
  | c :: cs, p => by rw [chrs, chrs_ochr items cs (p + 1)]; rfl

theorem OOkSrc_of_segsOk (T : PTables) (st : PState) :
    ∀ (segs : List OSeg) (p : Nat), osegsOk T st segs = true →
      OOkSrc T st p (orender segs) (oitemsOf p segs)
  | [], p, _ => .nil p _ rfl
  | .txt s :: rest, p, h => by
    simp only [osegsOk, Bool.and_eq_true, textOk_eq] at h
    have := OkSrcG.text _ _ s p (OOkSrc_of_segsOk T st rest _ h.2) h.1
    rwa [chrs_ochr] at this
  | .math body :: rest, p, h => by
    simp only [osegsOk, Bool.and_eq_true] at h
    have := OkSrcG.con (OCon.math p body (orender rest) _ h.1) (OOkSrc_of_segsOk T st rest _ h.2)
    simpa [orender, OSeg.render, oitemsOf] using this
  | .opn body w :: rest, p, h => by
    simp only [osegsOk, Bool.and_eq_true] at h
    have := OkSrcG.con (OCon.opn p body w (orender rest) _ h.1) (OOkSrc_of_segsOk T st rest _ h.2)
    simpa [orender, OSeg.render, oitemsOf] using this

/-! ### text and positions of the output for an open formula -/

/-- the text that replaces the maths tokens of an open formula -/
def shapeTxt (T : PTables) (ph : Str) (mb : List Tok) : Str :=
  if mb = [] then [] else ph ++ (punctChar T (bodyTxt mb)).toList

theorem getTxtPos_openShape (T : PTables) (ph : Str) (mb : List Tok) :
    getTxtPos (openShape T ph mb)
      = (shapeTxt T ph mb, List.replicate (shapeTxt T ph mb).length (firstPos mb)) := by
  unfold openShape shapeTxt
  split
  · rfl
  · cases punctChar T (bodyTxt mb) <;>
      simp [getTxtPos, tokPositions, mkFix, List.replicate_succ']

theorem getTxtPos_openOut (T : PTables) (n : Nat) (ph : Str) (p : Nat) (mb : List Tok) (rest : List Tok) :
    getTxtPos (openOut T n ph p mb ++ rest)
      = (errMark T.toTables errMathEnd ++ (shapeTxt T ph mb ++ (getTxtPos rest).1),
         markPos T.toTables errMathEnd n p
           ++ (List.replicate (shapeTxt T ph mb).length (firstPos mb) ++ (getTxtPos rest).2)) := by
  generalize hq : ((openCore T n ph p mb).getLast?.map (·.pos)).getD p = q
  have h1 : getTxtPos (openOut T n ph p mb)
      = (errMark T.toTables errMathEnd ++ shapeTxt T ph mb,
         markPos T.toTables errMathEnd n p ++ List.replicate (shapeTxt T ph mb).length (firstPos mb)) := by
    unfold openOut
    rw [hq]
    unfold openCore
    rw [getTxtPos_append]
    have h2 : getTxtPos (mkAction p :: (latexErrorToks T.toTables errMathEnd p n ++ openShape T ph mb))
        = getTxtPos (latexErrorToks T.toTables errMathEnd p n ++ openShape T ph mb) := by
      simp [getTxtPos, tokPositions, mkAction]
    rw [h2, getTxtPos_append, latexErrorToks_txtpos, getTxtPos_openShape]
    simp [getTxtPos, tokPositions, mkAction]
  rw [getTxtPos_append, h1]
  simp [List.append_assoc]

theorem bodyTxt_nil_iff (T : PTables) (mb : List Tok) (h : ∀ t ∈ mb, BodyTok T t) :
    bodyTxt mb = [] ↔ mb = [] := by
  constructor
  · intro e
    cases mb with
    | nil => rfl
    | cons t ts =>
      obtain ⟨c, hc, _⟩ := (h t (by simp)).one
      simp [bodyTxt, hc] at e
  · intro e; subst e; rfl

theorem visBody_any (body : Str) : body.any (fun c => !isSpace c) = true ↔ visBody body ≠ [] := by
  unfold visBody
  rw [List.any_eq_true, Ne, List.filter_eq_nil_iff]
  constructor
  · rintro ⟨c, hc, h⟩ hall
    exact hall c hc h
  · intro h
    by_cases hex : ∃ c, c ∈ body ∧ (!isSpace c) = true
    · exact hex
    · exfalso; apply h
      intro c hc hn
      exact hex ⟨c, hc, hn⟩

theorem mathToks_nil_iff (T : PTables) (pos : Nat) (body : Str) (steps : List ScanStep)
    (B : BodyRun T pos body steps) :
    mathToks (steps.map (·.tok)) = [] ↔ visBody body = [] := by
  rw [← bodyTxt_nil_iff T _ (mathToks_body T _ B.items), show bodyTxt _ = visBody body from B.txt]

theorem getTxtPos_open (T : PTables) (n : Nat) (l : List Str) (pos : Nat) (body : Str)
    (steps : List ScanStep) (B : BodyRun T (pos + 1) body steps)
    (hiff : mathToks (steps.map (·.tok)) = [] ↔ visBody body = []) (rest : List Tok) :
    getTxtPos (openOut T n ((rotL l).headD []) pos (mathToks (steps.map (·.tok))) ++ rest)
      = (errMark T.toTables errMathEnd ++ (openRepl T l body ++ (getTxtPos rest).1),
         markPos T.toTables errMathEnd n pos
           ++ (List.replicate (openRepl T l body).length (pos + 1 + (body.takeWhile isSpace).length)
           ++ (getTxtPos rest).2)) := by
  have hs : shapeTxt T ((rotL l).headD []) (mathToks (steps.map (·.tok))) = openRepl T l body := by
    simp only [shapeTxt, openRepl, hiff, show bodyTxt _ = visBody body from B.txt]
  rw [getTxtPos_openOut, hs]
  by_cases hv : visBody body = []
  · simp [openRepl, hv]
  · rw [B.first ((visBody_any body).mpr hv)]

/-! ### the scanner loop -/

/-- what the scanner loop yields on a well-formed source (`n`: the length used for the mark
    positions, `dsrc`: the source the diagnostics refer to) -/
structure OScanFacts (T : PTables) (st : PState) (n : Nat) (dsrc : Str) (rest : Str)
    (items : List OItem) (steps : List ScanStep) : Prop where
  ok : ∀ s ∈ steps, s.diag = none ∧ s.extra = []
  pieces : ∃ ps, steps.map (·.tok) = oflat ps ∧ OPiecesOk T st ps ∧
    (∀ l, getTxtPos (ooutP T n l ps) = orefItems T n l items) ∧ nRot ps = onRot items ∧
    diagsP dsrc ps = odiagsItems dsrc items
  first : ∀ s ss, steps = s :: ss → s.tok.txt = firstTokTxtM rest
  len : steps.length ≤ rest.length

theorem OScanFacts_nil (T : PTables) (st : PState) (n : Nat) (dsrc : Str) :
    OScanFacts T st n dsrc [] [] [] :=
  ⟨by simp, ⟨[], by simp [oflat], trivial, fun l => rfl, rfl, rfl⟩, by simp, by simp⟩

theorem oflat_eq_nil : ∀ {ps : List OPiece}, oflat ps = [] → ps = []
  | [], _ => rfl
  | p :: _, h => by cases p <;> simp [oflat, OPiece.toks] at h

/-- a piece `pc` in front of a scanned rest; `ss` are the steps of the scanner through its tokens -/
theorem OScanFacts.cons {T : PTables} {st : PState} {N : Nat} {dsrc src : Str} {p p' : Nat} {W R : Str}
    {ss rs : List ScanStep} {items' items : List OItem} (pc : OPiece) {t0 : Tok} {ts0 : List Tok}
    (r : Scans T.toTables src p W ss p' R) (I : OScanFacts T st N dsrc R items' rs)
    (htoks : ss.map (·.tok) = pc.toks) (hhd : pc.toks = t0 :: ts0)
    (hpc : ∀ ps, rs.map (·.tok) = oflat ps → OPiecesOk T st ps → OPiecesOk T st (pc :: ps))
    (hout : ∀ ps, (∀ l, getTxtPos (ooutP T N l ps) = orefItems T N l items') →
      ∀ l, getTxtPos (ooutP T N l (pc :: ps)) = orefItems T N l items)
    (hn : ∀ ps, nRot ps = onRot items' → nRot (pc :: ps) = onRot items)
    (hd : ∀ ps, diagsP dsrc ps = odiagsItems dsrc items' → diagsP dsrc (pc :: ps) = odiagsItems dsrc items)
    (hfirst : t0.txt = firstTokTxtM W) : OScanFacts T st N dsrc W items (ss ++ rs) := by
  obtain ⟨ps, hflat, hpok, ho, hnm, hdg⟩ := I.pieces
  refine ⟨fun s hs => (List.mem_append.mp hs).elim (r.clean s) (I.ok s),
    ⟨pc :: ps, by rw [List.map_append, htoks, hflat]; rfl, hpc ps hflat hpok, hout ps ho, hn ps hnm,
      hd ps hdg⟩, ?_, ?_⟩
  · intro s ss' he
    rw [headTok_of_append htoks hhd he]; exact hfirst
  · have := r.len
    have := I.len
    simp only [List.length_append]
    omega

theorem scanAll_open (T : PTables) (st : PState) (src : Str) (N : Nat) (dsrc : Str) (pos : Nat)
    (rest : Str) (items : List OItem) (h : OOkSrc T st pos rest items) :
      OScanFacts T st N dsrc rest items (scanAll T.toTables src pos rest).1 := by
  refine scanAll_okSrc T st firstTokTxtM src (OScanFacts T st N dsrc) (fun _ _ h => h)
    (fun c cs h => firstTokTxtM_of_text c cs (h.imp id (·.1))) (OCon.vis T) (fun _ _ _ I => I.first)
    (by rintro _ rfl; exact OScanFacts_nil T st N dsrc) ?_ ?_ pos rest items h
  · intro pos c cs s rs items' K I
    rw [chrs_ochr]
    refine OScanFacts.cons (.tok s.tok) K.run I rfl rfl
      (fun ps hflat hpok => ⟨K.step.tok, hflat ▸ K.pass, K.tokShape, hpok⟩) (fun ps hout l => ?_)
      (fun ps hnm => by rw [onRot_chrItems]; exact hnm)
      (fun ps hdg => by rw [odiags_chrItems]; exact hdg) K.first
    rw [orefItems_chrItems]
    simp only [ooutP]
    rw [getTxtPos_cons_plain _ _ K.step.fix, hout l, K.step.pos, K.step.txt]
  intro pos _ _ _ R items' hc
  cases hc with
  | math body _ _ hm =>
    simp only [mathOk, Bool.and_eq_true] at hm
    obtain ⟨⟨⟨hbne, hd1⟩, hbody⟩, hd2⟩ := hm
    obtain ⟨k1, k2, bs, hk1, hk2, B, r⟩ := scans_formula T src pos hd1 hbody hd2
    refine ⟨_, by simp, r, fun rs _ I => ?_⟩
    refine OScanFacts.cons (.math { kind := k1, pos := pos, txt := ['$'] } (bs.map (·.tok))
        { kind := k2, pos := pos + 1 + body.length, txt := ['$'] }) r I (by simp [OPiece.toks]) rfl
      (fun ps _ hpok => ⟨⟨hk1, rfl⟩, B.ne hbne, B.items, ⟨hk2, rfl⟩, hpok⟩) (fun ps hout l => ?_)
      (fun ps hnm => by simp only [nRot, onRot, hnm])
      (fun ps hdg => by simp only [diagsP, odiagsItems, hdg]) rfl
    simp only [ooutP, orefItems, visBody]
    rw [getTxtPos_formulaOut, hout (rotL l), B.txt, B.first hbne]
  | opn body w _ _ hm =>
    simp only [openOk, Bool.and_eq_true] at hm
    obtain ⟨⟨⟨⟨hd1, hbody⟩, hwsp⟩, hwc⟩, hRh⟩ := hm
    have hwsp' : ∀ d ∈ w, isSpace d = true := by simpa using hwsp
    have hbd : Boundary (w ++ R) := by
      cases w with
      | nil =>
        obtain rfl : R = [] := by simpa using hwc
        exact boundary_nil
      | cons c w' => exact boundary_par _ R hwsp' (by simpa using hwc)
    obtain ⟨k1, bs, hk1, B, r1⟩ := scans_opening T src pos hbd hd1 hbody
    have hiff := mathToks_nil_iff T (pos + 1) body bs B
    have hout : ∀ par ps, (∀ l, getTxtPos (ooutP T N l ps) = orefItems T N l items') → ∀ l,
        getTxtPos (ooutP T N l (.opn { kind := k1, pos := pos, txt := ['$'] } (bs.map (·.tok)) par :: ps))
          = orefItems T N l (.opn pos body :: items') := by
      intro par ps hout l
      simp only [ooutP, orefItems]
      rw [getTxtPos_open T N l pos body bs B hiff, hout]
      simp only [openRot, openRotS, hiff]
    cases w with
    | nil =>
      obtain rfl : R = [] := by simpa using hwc
      refine ⟨_, by simp, r1.to (by simp only [List.length_nil]; omega), fun rs hnil I => ?_⟩
      exact OScanFacts.cons (.opn { kind := k1, pos := pos, txt := ['$'] } (bs.map (·.tok)) none) r1 I
        (by simp [OPiece.toks]) rfl
        (fun ps hflat hpok => ⟨⟨hk1, rfl⟩, B.items, oflat_eq_nil (by rw [← hflat, hnil rfl]; rfl), hpok⟩)
        (by exact hout none) (fun ps hnm => by simp only [nRot, onRot, hiff, hnm])
        (fun ps hdg => by simp only [diagsP, odiagsItems, hdg]) rfl
    | cons c w' =>
      have r := r1.append (wsTok_par (by simpa using hwc) ▸ Scans.ws T.toTables src (pos + 1 + body.length)
        (hwsp' c (List.mem_cons_self ..)) (fun d hd => hwsp' d (List.mem_cons_of_mem _ hd)) hRh)
      refine ⟨_, by simp, r.to (by simp only [List.length_cons]; omega), fun rs _ I => ?_⟩
      exact OScanFacts.cons (.opn { kind := k1, pos := pos, txt := ['$'] } (bs.map (·.tok))
          (some { kind := .par, pos := pos + 1 + body.length, txt := c :: w' })) r I
        (by simp [OPiece.toks]) rfl (fun ps _ hpok => ⟨⟨hk1, rfl⟩, B.items, rfl, hpok⟩)
        (by exact hout _) (fun ps hnm => by simp only [nRot, onRot, hiff, hnm])
        (fun ps hdg => by simp only [diagsP, odiagsItems, hdg]) rfl

/-! ### the reference output of a document -/

/-- what follows the mark of an open formula, `k` formulas having taken a placeholder before:
    nothing if the body is blank, else `placeholder repls (k + 1)` and the closing punctuation -/
def openText (T : PTables) (repls : List Str) (k : Nat) (body : Str) : Str :=
  if visBody body = [] then [] else placeholder repls (k + 1) ++ punctOf T body

/-- the number of placeholders used behind an open formula -/
def openNext (k : Nat) (body : Str) : Nat := if visBody body = [] then k else k + 1

/-- the reference output (text, 0-based positions) of the segments that start at offset `p` of a
    source of length `n`, `k` formulas having taken a placeholder before: text is copied with its
    positions; a simple formula is replaced as in `PlainMath.refMath`; an open formula is replaced by
    the complete error mark (`errMark`: `' ' ++ T.mark ++ ' '`, plus the message in verbose mode), its
    characters at `markPos … p` — the offset `p` of the `$` for all characters that fit in front of
    the end of the source — followed by `openText`, pinned to the first character of the body that is
    no white space; the paragraph break `w` is dropped -/
def orefSegs (T : PTables) (n : Nat) (repls : List Str) : Nat → Nat → List OSeg → Str × List Nat
  | _, _, [] => ([], [])
  | k, p, .txt s :: rest =>
    (s ++ (orefSegs T n repls k (p + s.length) rest).1,
     List.range' p s.length ++ (orefSegs T n repls k (p + s.length) rest).2)
  | k, p, .math body :: rest =>
    ((placeholder repls (k + 1) ++ punctOf T body)
        ++ (orefSegs T n repls (k + 1) (p + (body.length + 2)) rest).1,
     List.replicate (placeholder repls (k + 1) ++ punctOf T body).length (p + 1 + leadBlanks body)
        ++ (orefSegs T n repls (k + 1) (p + (body.length + 2)) rest).2)
  | k, p, .opn body w :: rest =>
    (errMark T.toTables errMathEnd ++ (openText T repls k body
        ++ (orefSegs T n repls (openNext k body) (p + (body.length + 1 + w.length)) rest).1),
     markPos T.toTables errMathEnd n p
        ++ (List.replicate (openText T repls k body).length (p + 1 + leadBlanks body)
        ++ (orefSegs T n repls (openNext k body) (p + (body.length + 1 + w.length)) rest).2))

/-- the expected diagnostics: one `missing end of maths` per open formula, at the offset of its `$` -/
def odiagsSegs (src : Str) : Nat → List OSeg → List Diag
  | _, [] => []
  | p, .txt s :: rest => odiagsSegs src (p + s.length) rest
  | p, .math body :: rest => odiagsSegs src (p + (body.length + 2)) rest
  | p, .opn body w :: rest =>
    latexErrorDiag errMathEnd p src :: odiagsSegs src (p + (body.length + 1 + w.length)) rest

theorem orefItems_itemsOf (T : PTables) (n : Nat) (repls : List Str) (hne : repls ≠ []) :
    ∀ (segs : List OSeg) (k p : Nat),
      orefItems T n (rotN k repls) (oitemsOf p segs) = orefSegs T n repls k p segs
  | [], _, _ => rfl
  | .txt s :: rest, k, p => by
    simp only [oitemsOf, orefItems_chrItems, orefSegs, orefItems_itemsOf T n repls hne rest k]
  | .math body :: rest, k, p => by
    simp only [oitemsOf, orefItems, orefSegs, ← rotN_succ, rotN_headD repls hne,
      orefItems_itemsOf T n repls hne rest (k + 1), punctOf, leadBlanks, visBody]
  | .opn body w :: rest, k, p => by
    by_cases hv : visBody body = []
    · simp only [oitemsOf, orefItems, orefSegs, openRepl, openRotS, openText, openNext, hv, if_true,
        orefItems_itemsOf T n repls hne rest k, leadBlanks]
    · simp only [oitemsOf, orefItems, orefSegs, openRepl, openRotS, openText, openNext, if_neg hv]
      simp only [← rotN_succ, rotN_headD repls hne, orefItems_itemsOf T n repls hne rest (k + 1), punctOf,
        leadBlanks, visBody]

theorem odiagsItems_itemsOf (src : Str) : ∀ (segs : List OSeg) (p : Nat),
    odiagsItems src (oitemsOf p segs) = odiagsSegs src p segs
  | [], _ => rfl
  | .txt s :: rest, p => by
    simp only [oitemsOf, odiags_chrItems, odiagsSegs, odiagsItems_itemsOf src rest]
  | .math body :: rest, p => by
    simp only [oitemsOf, odiagsItems, odiagsSegs, odiagsItems_itemsOf src rest]
  | .opn body w :: rest, p => by
    simp only [oitemsOf, odiagsItems, odiagsSegs, odiagsItems_itemsOf src rest]

def OSegsOk (T : PTables) (st : PState) (segs : List OSeg) : Prop := osegsOk T st segs = true

instance (T : PTables) (st : PState) (segs : List OSeg) : Decidable (OSegsOk T st segs) := by
  unfold OSegsOk; infer_instance

/-- **End to end with the sharp bounds**: only a document with an open formula needs a visible mark
    and the third unit of fuel (the section parser goes one level deeper to see the end of the buffer
    or the paragraph token). -/
theorem tex2txt_open (T : PTables) (o : Options) (fs : FS) (thresh : Nat)
    (segs : List OSeg) (fuel : Nat) (st1 : PState) (rot : Rot)
    (hdefs : o.defs = []) (hextr : o.extr = []) (hrepl : o.hasRepl = false) (hunkn : o.unkn = false)
    (hinit : initParser T fuel o (initialState T o false fs) = .ok ((), st1))
    (hok : OSegsOk T st1 segs)
    (hrot : rotOf st1 (curSettings st1) = some rot) (hne : rot.inl ≠ []) (hvis : VisibleRepls rot.inl)
    (hls : (settingsOf T (curSettings st1)).isSome = true)
    (hf : (orender segs).length + 2 ≤ fuel)
    (hopen : odiagsSegs (orender segs) 0 segs ≠ [] →
      markVisible T.toTables = true ∧ (orender segs).length + 3 ≤ fuel) :
    ∃ r, tex2txt T fuel (orender segs) o false thresh fs = .ok r ∧
      r.txt = (orefSegs T (orender segs).length rot.inl 0 0 segs).1 ∧
      r.pos = (orefSegs T (orender segs).length rot.inl 0 0 segs).2.map (· + 1) ∧
      r.unknowns = [] ∧ r.diags = st1.diags ++ odiagsSegs (orender segs) 0 segs := by
  have R : PlainSetup T o fs fuel st1 := ⟨⟨hdefs, hextr, hinit⟩, hrepl, hunkn⟩
  obtain ⟨ls, hls⟩ := Option.isSome_iff_exists.mp hls
  generalize hsrc : orender segs = src at hf hopen
  have F := scanAll_open T st1 src src.length src 0 _ _ (hsrc ▸ OOkSrc_of_segsOk T st1 segs 0 hok)
  obtain ⟨ps, hflat, hpok, hout, _, hdg⟩ := F.pieces
  rw [odiagsItems_itemsOf] at hdg
  have hlen : (oflat ps).length ≤ src.length := by rw [← hflat, List.length_map]; exact F.len
  -- the calls inside the loop may go as deep as the tokens leave fuel
  obtain ⟨st2, run, h2⟩ := seqRun_open T none ls (fuel - 1 - (oflat ps).length) (by omega) ps []
    (startState st1 src) rot (Reads.startState st1 src).ext (fun h => by have := (hopen (hdg ▸ h)).2; omega) hpok
    hrot hne hls
  have h := R.of_lines thresh ((scan_of_scanAll F.ok).imp_right (·.trans hflat)) (hpok.noCom.noBegin _)
    (by omega) (run.finish (by omega) (by omega))
    (removeLines_ooutP T _ src.length src ps (fun h => (hopen (hdg ▸ h)).1) rot.inl hpok hvis hne)
  have he : flowsToks st2.extracted = [] := by rw [h2]; rfl
  have href : orefItems T src.length rot.inl _ = _ := orefItems_itemsOf T src.length rot.inl hne segs 0 0
  rw [he, List.append_nil, getTxtPos_filter_keepOut, hout, href] at h
  exact ⟨_, h, rfl, rfl, by rw [h2]; rfl, by rw [h2]; exact congrArg (st1.diags ++ ·) hdg⟩

/-- **C08 at inline maths, end to end, general form.**  The document is a sequence of inert text
    segments, simple inline formulas `$body$` and open formulas `$body w` (`OSegsOk`); `st1` is the state
    after `Parser.__init__`; no `--defs`, `--extr`, `--repl`, `--unkn`; single-language mode; `repls` is
    the inline placeholder collection of the current language (not empty, every entry a visible one-line
    text); the mark is a visible one-line text; the language settings exist.  With one unit of fuel per
    source character plus three, `tex2txt` succeeds and text, positions and diagnostics are exactly
    `orefSegs` and `odiagsSegs`: one `missing end of maths` per open formula. -/
theorem tex2txt_math_open_segs (T : PTables) (o : Options) (fs : FS) (thresh : Nat)
    (segs : List OSeg) (fuel : Nat) (st1 : PState) (rot : Rot) (repls : List Str)
    (hdefs : o.defs = []) (hextr : o.extr = []) (hrepl : o.hasRepl = false) (hunkn : o.unkn = false)
    (hinit : initParser T fuel o (initialState T o false fs) = .ok ((), st1))
    (hok : OSegsOk T st1 segs)
    (hm : markVisible T.toTables = true)
    (hrot : rotOf st1 (curSettings st1) = some rot) (hrepls : rot.inl = repls)
    (hne : repls ≠ []) (hvis : VisibleRepls repls)
    (hls : (settingsOf T (curSettings st1)).isSome = true)
    (hf : (orender segs).length + 3 ≤ fuel) :
    ∃ r, tex2txt T fuel (orender segs) o false thresh fs = .ok r ∧
      r.txt = (orefSegs T (orender segs).length repls 0 0 segs).1 ∧
      r.pos = (orefSegs T (orender segs).length repls 0 0 segs).2.map (· + 1) ∧
      r.unknowns = [] ∧ r.diags = st1.diags ++ odiagsSegs (orender segs) 0 segs := by
  subst hrepls
  exact tex2txt_open T o fs thresh segs fuel st1 rot hdefs hextr hrepl hunkn hinit hok hrot hne hvis hls
    (by omega) (fun _ => ⟨hm, hf⟩)

/-! ### one open formula between documents of the class of Proofs/PlainMath.lean -/

/-- a segment of Proofs/PlainMath.lean as a segment of this file -/
def ofMath : PlainMath.Seg → OSeg
  | .txt s => .txt s
  | .math b => .math b

def nForm : List PlainMath.Seg → Nat
  | [] => 0
  | .txt _ :: rest => nForm rest
  | .math _ :: rest => nForm rest + 1

theorem orender_ofMath (rest : List OSeg) : ∀ pre : List PlainMath.Seg,
    orender (pre.map ofMath ++ rest) = PlainMath.render pre ++ orender rest
  | [] => rfl
  | .txt s :: pre => by
    simp only [List.map_cons, List.cons_append, orender, ofMath, OSeg.render, PlainMath.render,
      PlainMath.Seg.render, orender_ofMath rest pre, List.append_assoc]
  | .math b :: pre => by
    simp only [List.map_cons, List.cons_append, orender, ofMath, OSeg.render, PlainMath.render,
      PlainMath.Seg.render, orender_ofMath rest pre, List.append_assoc, List.cons_append]

theorem orefSegs_ofMath (T : PTables) (n : Nat) (repls : List Str) (rest : List OSeg) :
    ∀ (pre : List PlainMath.Seg) (k p : Nat),
      orefSegs T n repls k p (pre.map ofMath ++ rest)
        = ((refMath T repls k p pre).1
            ++ (orefSegs T n repls (k + nForm pre) (p + (PlainMath.render pre).length) rest).1,
           (refMath T repls k p pre).2
            ++ (orefSegs T n repls (k + nForm pre) (p + (PlainMath.render pre).length) rest).2)
  | [], k, p => by simp [refMath, nForm, PlainMath.render]
  | .txt s :: pre, k, p => by
    have ih := orefSegs_ofMath T n repls rest pre k (p + s.length)
    have e2 : p + s.length + (PlainMath.render pre).length
        = p + (PlainMath.render (.txt s :: pre)).length := by
      simp [PlainMath.render, PlainMath.Seg.render]; omega
    rw [e2] at ih
    simp only [List.map_cons, List.cons_append, ofMath, orefSegs, refMath, nForm, ih, List.append_assoc]
  | .math b :: pre, k, p => by
    have ih := orefSegs_ofMath T n repls rest pre (k + 1) (p + (b.length + 2))
    have e1 : k + 1 + nForm pre = k + nForm (.math b :: pre) := by simp [nForm]; omega
    have e2 : p + (b.length + 2) + (PlainMath.render pre).length
        = p + (PlainMath.render (.math b :: pre)).length := by
      simp [PlainMath.render, PlainMath.Seg.render]; omega
    rw [e1, e2] at ih
    simp only [List.map_cons, List.cons_append, ofMath, orefSegs, refMath, ih, List.append_assoc]

theorem odiagsSegs_ofMath (src : Str) (rest : List OSeg) :
    ∀ (pre : List PlainMath.Seg) (p : Nat),
      odiagsSegs src p (pre.map ofMath ++ rest)
        = odiagsSegs src (p + (PlainMath.render pre).length) rest
  | [], p => by simp [PlainMath.render]
  | .txt s :: pre, p => by
    have ih := odiagsSegs_ofMath src rest pre (p + s.length)
    have e2 : p + s.length + (PlainMath.render pre).length
        = p + (PlainMath.render (.txt s :: pre)).length := by
      simp [PlainMath.render, PlainMath.Seg.render]; omega
    rw [e2] at ih
    simp only [List.map_cons, List.cons_append, ofMath, odiagsSegs, ih]
  | .math b :: pre, p => by
    have ih := odiagsSegs_ofMath src rest pre (p + (b.length + 2))
    have e2 : p + (b.length + 2) + (PlainMath.render pre).length
        = p + (PlainMath.render (.math b :: pre)).length := by
      simp [PlainMath.render, PlainMath.Seg.render]; omega
    rw [e2] at ih
    simp only [List.map_cons, List.cons_append, ofMath, odiagsSegs, ih]

theorem ofMath_doc (T : PTables) (n : Nat) (repls : List Str) (src : Str) (segs : List PlainMath.Seg) :
    orender (segs.map ofMath) = PlainMath.render segs ∧
    orefSegs T n repls 0 0 (segs.map ofMath) = refMath T repls 0 0 segs ∧
    odiagsSegs src 0 (segs.map ofMath) = [] := by
  have h1 := orender_ofMath [] segs
  have h2 := orefSegs_ofMath T n repls [] segs 0 0
  have h3 := odiagsSegs_ofMath src [] segs 0
  simp only [List.append_nil, orender, orefSegs, odiagsSegs] at h1 h2 h3
  exact ⟨h1, h2, h3⟩

theorem osegsOk_ofMath (T : PTables) (st : PState) : ∀ segs : List PlainMath.Seg,
    osegsOk T st (segs.map ofMath) = PlainMath.segsOk T st segs
  | [] => rfl
  | .txt s :: rest => by
    simp only [List.map_cons, ofMath, osegsOk, PlainMath.segsOk, (ofMath_doc T 0 [] [] rest).1,
      osegsOk_ofMath T st rest]
  | .math b :: rest => by
    simp only [List.map_cons, ofMath, osegsOk, PlainMath.segsOk, (ofMath_doc T 0 [] [] rest).1,
      osegsOk_ofMath T st rest]

/-- the positions of the mark, 1-based: the first `mx = min |mark| (n - p)` characters at the
    problem, the others (if the mark is longer than the rest of the source) at the last position -/
theorem markPos_succ (T : Tables) (err : Str) (n p : Nat) (hp : p < n) :
    (markPos T err n p).map (· + 1)
      = List.replicate (min (errMark T err).length (n - p)) (p + 1)
        ++ List.replicate ((errMark T err).length - min (errMark T err).length (n - p))
            (p + min (errMark T err).length (n - p)) := by
  have h2 := errMark_length_pos T err
  have hmx : 1 ≤ min (errMark T err).length (n - p) := by omega
  unfold markPos
  generalize min (errMark T err).length (n - p) = mx at hmx
  simp only [List.map_append, List.map_replicate]
  congr 2
  omega

theorem markPos_head (T : Tables) (err : Str) (n p : Nat) (hp : p < n) :
    (markPos T err n p).head? = some p := by
  have h2 := errMark_length_pos T err
  obtain ⟨m, hm⟩ : ∃ m, min (errMark T err).length (n - p) = m + 1 :=
    ⟨min (errMark T err).length (n - p) - 1, by omega⟩
  unfold markPos
  rw [hm]
  simp [List.replicate_succ]

/-- **C08 at an unterminated inline formula, end to end.**
    `src = render pre ++ "$" ++ body ++ w ++ render post`: `pre`, `post` are documents of the class of
    Proofs/PlainMath.lean (inert text and simple inline formulas), the `$` opens a formula with simple
    maths material `body` that is never closed: it is cut by the paragraph break `w` (white space with
    at least two line breaks), or `w = []`, `post = []` and it runs to the end of the text.
    Then `tex2txt` succeeds and

    * the output text is the output of `pre`, the complete mark `errMark` (" " ++ `T.mark` ++ " ", plus
      the message in verbose mode), the placeholder and closing punctuation for the maths material read
      so far (`openText`: nothing if `body` is blank), and the output of `post` — the paragraph break
      `w` itself is dropped;
    * the first `mx = min |mark| (|body w post| + 1)` characters of the mark are mapped to the `$`
      (1-based `P + 1`), the others, if the mark is longer than the rest of the source, to the last
      position; the placeholder to the first character of `body` that is no white space; `post` to its
      own positions;
    * exactly one diagnostic is added: "missing end of maths", line = number of line breaks in front of
      the `$` + 1, column = number of characters between the last line break and the `$` + 1;
    * nothing is reported as unknown. -/
theorem tex2txt_math_unterminated (T : PTables) (o : Options) (fs : FS) (thresh : Nat)
    (pre : List PlainMath.Seg) (body w : Str) (post : List PlainMath.Seg)
    (fuel : Nat) (st1 : PState) (rot : Rot) (repls : List Str)
    (hdefs : o.defs = []) (hextr : o.extr = []) (hrepl : o.hasRepl = false) (hunkn : o.unkn = false)
    (hinit : initParser T fuel o (initialState T o false fs) = .ok ((), st1))
    (hok : OSegsOk T st1 (pre.map ofMath ++ .opn body w :: post.map ofMath))
    (hm : markVisible T.toTables = true)
    (hrot : rotOf st1 (curSettings st1) = some rot) (hrepls : rot.inl = repls)
    (hne : repls ≠ []) (hvis : VisibleRepls repls)
    (hls : (settingsOf T (curSettings st1)).isSome = true)
    (hf : (PlainMath.render pre ++ '$' :: (body ++ (w ++ PlainMath.render post))).length + 3 ≤ fuel) :
    let src := PlainMath.render pre ++ '$' :: (body ++ (w ++ PlainMath.render post))
    let P := (PlainMath.render pre).length
    let mark := errMark T.toTables errMathEnd
    let mx := min mark.length (body.length + w.length + (PlainMath.render post).length + 1)
    let k := nForm pre
    let d := latexErrorDiag errMathEnd P src
    ∃ r, tex2txt T fuel src o false thresh fs = .ok r ∧
      r.txt = (refMath T repls 0 0 pre).1 ++ mark ++ openText T repls k body
        ++ (refMath T repls (openNext k body) (P + (body.length + 1 + w.length)) post).1 ∧
      r.pos = (refMath T repls 0 0 pre).2.map (· + 1)
        ++ List.replicate mx (P + 1) ++ List.replicate (mark.length - mx) (P + mx)
        ++ List.replicate (openText T repls k body).length (P + 2 + leadBlanks body)
        ++ (refMath T repls (openNext k body) (P + (body.length + 1 + w.length)) post).2.map (· + 1) ∧
      r.unknowns = [] ∧
      r.diags = st1.diags ++ [d] ∧
      d.msg = errMathEnd ∧ d.line = countNl (PlainMath.render pre) + 1 ∧
      d.col = (afterLastNl (PlainMath.render pre)).length + 1 := by
  intro src P mark mx k d
  have hsrc : orender (pre.map ofMath ++ .opn body w :: post.map ofMath) = src := by
    rw [orender_ofMath]
    have h0 := orender_ofMath [] post
    simp only [List.append_nil, orender] at h0
    simp only [orender, OSeg.render, h0, List.cons_append, List.append_assoc]
    rfl
  obtain ⟨r, h, h1, h2, h3, h4⟩ := tex2txt_math_open_segs T o fs thresh
    (pre.map ofMath ++ .opn body w :: post.map ofMath) fuel st1 rot repls hdefs hextr hrepl hunkn hinit
    hok hm hrot hrepls hne hvis hls (by rw [hsrc]; exact hf)
  rw [hsrc] at h h1 h2 h4
  have hpost := orefSegs_ofMath T src.length repls [] post (openNext (nForm pre) body)
    ((PlainMath.render pre).length + (body.length + 1 + w.length))
  simp only [List.append_nil, orefSegs] at hpost
  have hdp := odiagsSegs_ofMath src [] post ((PlainMath.render pre).length + (body.length + 1 + w.length))
  simp only [List.append_nil, odiagsSegs] at hdp
  have e3 : (PlainMath.render pre).length + 1 + leadBlanks body + 1
      = (PlainMath.render pre).length + 2 + leadBlanks body := by omega
  have hn : src.length - P = body.length + w.length + (PlainMath.render post).length + 1 := by
    simp only [src, P, List.length_append, List.length_cons]
    omega
  have hPn : P < src.length := by omega
  obtain ⟨hl, hc⟩ := lineCol_after (PlainMath.render pre) ('$' :: (body ++ (w ++ PlainMath.render post)))
  refine ⟨r, h, ?_, ?_, h3, ?_, rfl, hl, hc⟩
  · rw [h1, orefSegs_ofMath]
    simp only [orefSegs, Nat.zero_add, hpost, List.append_assoc]
    rfl
  · rw [h2, orefSegs_ofMath]
    simp only [orefSegs, Nat.zero_add, hpost, List.map_append, List.append_assoc, List.map_replicate]
    have := markPos_succ T.toTables errMathEnd src.length P hPn
    rw [hn] at this
    rw [this, e3]
    simp only [List.append_assoc]
    rfl
  · rw [h4, odiagsSegs_ofMath]
    simp only [odiagsSegs, Nat.zero_add, hdp]
    rfl

/-- the formula runs to the end of the text: `src = render pre ++ "$" ++ body` -/
theorem tex2txt_math_unterminated_end (T : PTables) (o : Options) (fs : FS) (thresh : Nat)
    (pre : List PlainMath.Seg) (body : Str)
    (fuel : Nat) (st1 : PState) (rot : Rot) (repls : List Str)
    (hdefs : o.defs = []) (hextr : o.extr = []) (hrepl : o.hasRepl = false) (hunkn : o.unkn = false)
    (hinit : initParser T fuel o (initialState T o false fs) = .ok ((), st1))
    (hok : OSegsOk T st1 (pre.map ofMath ++ [.opn body []]))
    (hm : markVisible T.toTables = true)
    (hrot : rotOf st1 (curSettings st1) = some rot) (hrepls : rot.inl = repls)
    (hne : repls ≠ []) (hvis : VisibleRepls repls)
    (hls : (settingsOf T (curSettings st1)).isSome = true)
    (hf : (PlainMath.render pre ++ '$' :: body).length + 3 ≤ fuel) :
    let src := PlainMath.render pre ++ '$' :: body
    let P := (PlainMath.render pre).length
    let mark := errMark T.toTables errMathEnd
    let mx := min mark.length (body.length + 1)
    let k := nForm pre
    let d := latexErrorDiag errMathEnd P src
    ∃ r, tex2txt T fuel src o false thresh fs = .ok r ∧
      r.txt = (refMath T repls 0 0 pre).1 ++ mark ++ openText T repls k body ∧
      r.pos = (refMath T repls 0 0 pre).2.map (· + 1)
        ++ List.replicate mx (P + 1) ++ List.replicate (mark.length - mx) (P + mx)
        ++ List.replicate (openText T repls k body).length (P + 2 + leadBlanks body) ∧
      r.unknowns = [] ∧
      r.diags = st1.diags ++ [d] ∧
      d.msg = errMathEnd ∧ d.line = countNl (PlainMath.render pre) + 1 ∧
      d.col = (afterLastNl (PlainMath.render pre)).length + 1 := by
  have e : body ++ ([] ++ PlainMath.render []) = body := by simp [PlainMath.render]
  have h := tex2txt_math_unterminated T o fs thresh pre body [] [] fuel st1 rot repls hdefs hextr hrepl
    hunkn hinit hok hm hrot hrepls hne hvis hls (by rw [e]; exact hf)
  simp only [refMath, List.append_nil, List.map_nil, List.length_nil, Nat.add_zero,
    PlainMath.render] at h
  exact h

theorem refMath_length (T : PTables) (repls : List Str) : ∀ (segs : List PlainMath.Seg) (k p : Nat),
    (refMath T repls k p segs).1.length = (refMath T repls k p segs).2.length
  | [], _, _ => rfl
  | .txt s :: rest, k, p => by
    simp [refMath, refMath_length T repls rest]
  | .math b :: rest, k, p => by
    simp [refMath, refMath_length T repls rest, Nat.add_assoc]

/-- **the mark is complete and sits at the problem**: in the situation of
    `tex2txt_math_unterminated` the plain text contains the whole mark `errMark` (which starts with
    `" " ++ T.mark ++ " "`) as one contiguous piece; the first of its characters is mapped to the `$`,
    all of them into the range from the `$` to the end of the source -/
theorem tex2txt_math_mark_complete (T : PTables) (o : Options) (fs : FS) (thresh : Nat)
    (pre : List PlainMath.Seg) (body w : Str) (post : List PlainMath.Seg)
    (fuel : Nat) (st1 : PState) (rot : Rot) (repls : List Str)
    (hdefs : o.defs = []) (hextr : o.extr = []) (hrepl : o.hasRepl = false) (hunkn : o.unkn = false)
    (hinit : initParser T fuel o (initialState T o false fs) = .ok ((), st1))
    (hok : OSegsOk T st1 (pre.map ofMath ++ .opn body w :: post.map ofMath))
    (hm : markVisible T.toTables = true)
    (hrot : rotOf st1 (curSettings st1) = some rot) (hrepls : rot.inl = repls)
    (hne : repls ≠ []) (hvis : VisibleRepls repls)
    (hls : (settingsOf T (curSettings st1)).isSome = true)
    (hf : (PlainMath.render pre ++ '$' :: (body ++ (w ++ PlainMath.render post))).length + 3 ≤ fuel) :
    let src := PlainMath.render pre ++ '$' :: (body ++ (w ++ PlainMath.render post))
    let P := (PlainMath.render pre).length
    ∃ r a b pa pm pb, tex2txt T fuel src o false thresh fs = .ok r ∧
      r.txt = a ++ errMark T.toTables errMathEnd ++ b ∧ r.pos = pa ++ pm ++ pb ∧
      pa.length = a.length ∧ pm.length = (errMark T.toTables errMathEnd).length ∧
      pm.head? = some (P + 1) ∧ (∀ q ∈ pm, P + 1 ≤ q ∧ q ≤ src.length) ∧
      (∃ v, errMark T.toTables errMathEnd = ' ' :: (T.mark ++ ' ' :: v)) := by
  intro src P
  obtain ⟨r, h, h1, h2, _⟩ := tex2txt_math_unterminated T o fs thresh pre body w post fuel st1 rot repls
    hdefs hextr hrepl hunkn hinit hok hm hrot hrepls hne hvis hls hf
  have hl2 := errMark_length_pos T.toTables errMathEnd
  have hmx : min (errMark T.toTables errMathEnd).length
      (body.length + w.length + (PlainMath.render post).length + 1) ≤ (errMark T.toTables errMathEnd).length :=
    Nat.min_le_left _ _
  have hmx1 : 1 ≤ min (errMark T.toTables errMathEnd).length
      (body.length + w.length + (PlainMath.render post).length + 1) := by omega
  have hmx2 : min (errMark T.toTables errMathEnd).length
      (body.length + w.length + (PlainMath.render post).length + 1)
      ≤ body.length + w.length + (PlainMath.render post).length + 1 := Nat.min_le_right _ _
  have hlen : src.length = P + (body.length + w.length + (PlainMath.render post).length + 1) := by
    simp only [src, P, List.length_append, List.length_cons]; omega
  generalize hmxv : min (errMark T.toTables errMathEnd).length
      (body.length + w.length + (PlainMath.render post).length + 1) = mx at hmx hmx1 hmx2 h2
  refine ⟨r, (refMath T repls 0 0 pre).1,
    openText T repls (nForm pre) body
      ++ (refMath T repls (openNext (nForm pre) body) (P + (body.length + 1 + w.length)) post).1,
    (refMath T repls 0 0 pre).2.map (· + 1),
    List.replicate mx (P + 1) ++ List.replicate ((errMark T.toTables errMathEnd).length - mx) (P + mx),
    List.replicate (openText T repls (nForm pre) body).length (P + 2 + leadBlanks body)
      ++ (refMath T repls (openNext (nForm pre) body) (P + (body.length + 1 + w.length)) post).2.map (· + 1),
    h, ?_, ?_, ?_, ?_, ?_, ?_, ?_⟩
  · rw [h1]; simp only [List.append_assoc]; rfl
  · rw [h2]; simp only [List.append_assoc]; rfl
  · simp [refMath_length]
  · simp only [List.length_append, List.length_replicate]; omega
  · obtain ⟨m, rfl⟩ : ∃ m, mx = m + 1 := ⟨mx - 1, by omega⟩
    simp [List.replicate_succ]
  · intro q hq
    simp only [List.mem_append, List.mem_replicate] at hq
    rcases hq with ⟨_, rfl⟩ | ⟨_, rfl⟩ <;> omega
  · unfold errMark
    cases T.toTables.markVerbose <;> simp

/-- **no text behind the paragraph break is lost**: if inert text `s` follows the paragraph break
    that cuts the open formula, every character of `s` is in the output, at its own position -/
theorem tex2txt_math_text_kept (T : PTables) (o : Options) (fs : FS) (thresh : Nat)
    (pre : List PlainMath.Seg) (body w s : Str)
    (fuel : Nat) (st1 : PState) (rot : Rot) (repls : List Str)
    (hdefs : o.defs = []) (hextr : o.extr = []) (hrepl : o.hasRepl = false) (hunkn : o.unkn = false)
    (hinit : initParser T fuel o (initialState T o false fs) = .ok ((), st1))
    (hok : OSegsOk T st1 (pre.map ofMath ++ [.opn body w, .txt s]))
    (hm : markVisible T.toTables = true)
    (hrot : rotOf st1 (curSettings st1) = some rot) (hrepls : rot.inl = repls)
    (hne : repls ≠ []) (hvis : VisibleRepls repls)
    (hls : (settingsOf T (curSettings st1)).isSome = true)
    (hf : (PlainMath.render pre ++ '$' :: (body ++ (w ++ s))).length + 3 ≤ fuel) :
    let src := PlainMath.render pre ++ '$' :: (body ++ (w ++ s))
    ∃ r a pa, tex2txt T fuel src o false thresh fs = .ok r ∧
      r.txt = a ++ s ∧ r.pos = pa ++ List.range' (src.length - s.length + 1) s.length ∧
      pa.length = a.length := by
  intro src
  have e : PlainMath.render [.txt s] = s := by simp [PlainMath.render, PlainMath.Seg.render]
  have h := tex2txt_math_unterminated T o fs thresh pre body w [.txt s] fuel st1 rot repls hdefs hextr
    hrepl hunkn hinit hok hm hrot hrepls hne hvis hls (by rw [e]; exact hf)
  simp only [e] at h
  obtain ⟨r, h0, h1, h2, _⟩ := h
  have hq : src.length - s.length = (PlainMath.render pre).length + (body.length + 1 + w.length) := by
    simp only [src, List.length_append, List.length_cons]; omega
  generalize hmxv : min (errMark T.toTables errMathEnd).length (body.length + w.length + s.length + 1)
    = mx at h2
  have hmx : mx ≤ (errMark T.toTables errMathEnd).length := by rw [← hmxv]; exact Nat.min_le_left _ _
  refine ⟨r, (refMath T repls 0 0 pre).1 ++ errMark T.toTables errMathEnd ++ openText T repls (nForm pre) body,
    (refMath T repls 0 0 pre).2.map (· + 1)
      ++ List.replicate mx ((PlainMath.render pre).length + 1)
      ++ List.replicate ((errMark T.toTables errMathEnd).length - mx) ((PlainMath.render pre).length + mx)
      ++ List.replicate (openText T repls (nForm pre) body).length
          ((PlainMath.render pre).length + 2 + leadBlanks body),
    h0, ?_, ?_, ?_⟩
  · rw [h1]
    simp only [refMath, List.append_nil]
  · rw [h2, hq]
    simp only [refMath, List.append_nil]
    congr 1
    simp [List.range'_eq_map_range, Nat.add_comm, Nat.add_left_comm, Function.comp_def]
  · simp only [List.length_append, List.length_map, List.length_replicate, refMath_length]
    omega

/-! ### the hypotheses can be met -/

namespace OpenExample
open PlainExample MathExample

/-- `"Let $x + 1$ be\nopen $ y, z\n\nNext $u$."` on the tiny tables of Proofs/PlainMath.lean -/
def preE : List PlainMath.Seg := [.txt "Let ".toList, .math "x + 1".toList, .txt " be\nopen ".toList]
def postE : List PlainMath.Seg := [.txt "Next ".toList, .math "u".toList, .txt ".".toList]
def segsE : List OSeg := preE.map ofMath ++ .opn " y, z".toList "\n\n".toList :: postE.map ofMath

example : orender segsE = "Let $x + 1$ be\nopen $ y, z\n\nNext $u$.".toList := by decide

theorem segsE_ok : OSegsOk tinyM stM segsE := by decide

theorem mark_visible : markVisible tinyM.toTables = true := by decide

/-- the end-to-end statement applies (39 characters, fuel 45): the first formula takes `C-C-C`, the
    open one `D-D-D` (no closing punctuation: the last maths character is `z`) behind the complete
    mark, which sits at the `$` of line 2, column 6 (offset 20); the placeholder at `y` (offset 22);
    the paragraph break is dropped; the formula behind it takes `B-B-B` -/
example : ∃ r, tex2txt tinyM 45 "Let $x + 1$ be\nopen $ y, z\n\nNext $u$.".toList oEn false 0 [] = .ok r ∧
    r.txt = "Let C-C-C be\nopen  LTERROR D-D-DNext B-B-B.".toList ∧
    r.pos = [1, 2, 3, 4, 6, 6, 6, 6, 6, 12, 13, 14, 15, 16, 17, 18, 19, 20,
             21, 21, 21, 21, 21, 21, 21, 21, 21, 23, 23, 23, 23, 23,
             29, 30, 31, 32, 33, 35, 35, 35, 35, 35, 37] ∧
    r.unknowns = [] ∧
    r.diags = [{ line := 2, col := 6, msg := "missing end of maths".toList }] := by
  obtain ⟨r, h, h1, h2, h3, h4, _⟩ := tex2txt_math_unterminated tinyM oEn [] 0 preE " y, z".toList
    "\n\n".toList postE 45 stM _ MathExample.repls rfl rfl rfl rfl
    (by with_unfolding_all rfl) segsE_ok mark_visible stM_rot rfl (by decide) repls_visible (by decide)
    (by decide)
  refine ⟨r, h, ?_, ?_, h3, ?_⟩
  · rw [h1]; decide
  · rw [h2]; decide
  · rw [h4]; decide

/-- the side conditions reject what they should: a paragraph break that is not maximal (white space
    left in front of it in the body, or behind it in the following text), a single line break as
    "paragraph break", an open formula without paragraph break that is not the last segment, maths
    material outside the class (`_`, `\\alpha`, `{`); they admit an empty body (a lone `$`), a
    blank body at the end of the text, white space and single line breaks in the body, several open
    formulas -/
example : osegsOk tinyM stM [.opn "x ".toList "\n\n".toList, .txt "y".toList] = false := by decide
example : osegsOk tinyM stM [.opn "x".toList "\n\n".toList, .txt " y".toList] = false := by decide
example : osegsOk tinyM stM [.opn "x".toList "\n".toList, .txt "y".toList] = false := by decide
example : osegsOk tinyM stM [.opn "x".toList [], .txt "y".toList] = false := by decide
example : osegsOk tinyM stM [.opn "x_1".toList []] = false := by decide
example : osegsOk tinyM stM [.opn "\\alpha".toList []] = false := by decide
example : osegsOk tinyM stM [.opn "{x".toList []] = false := by decide
example : osegsOk tinyM stM [.txt "Price: 5 ".toList, .opn [] []] = true := by decide
example : osegsOk tinyM stM [.txt "a ".toList, .opn " ".toList []] = true := by decide
example : osegsOk tinyM stM [.opn [] "\n\n".toList, .txt "y".toList] = true := by decide
example : osegsOk tinyM stM [.opn "a + b\n =c".toList " \n\t\n ".toList, .txt "y".toList] = true := by decide
example : osegsOk tinyM stM
    [.opn "x".toList "\n\n".toList, .opn "y".toList "\n\n".toList, .opn "z".toList []] = true := by decide

/-
  Recorded `#eval`s (real tables: `Generated.theTables`, `Generated.stDefault`, default options;
  the same texts and positions come out of /repo's `tex2txt.tex2txt`).

  * `"Abc $x+1 def ghi"` ↦ `"Abc  LATEXXXERROR C-C-C"`, positions
    `[1,2,3,4, 5×12, 16,16, 6×5]`, one diagnostic (line 1, column 5): the mark (14 characters) is
    longer than the rest of the source (12 characters), its last two characters are mapped to the last
    position 16 — the position list is NOT monotone (16, 16, 6, …).
  * `"Abc $x+1 def\n\nNext para."` ↦ `"Abc  LATEXXXERROR C-C-CNext para."`, positions
    `[1,2,3,4, 5×14, 6×5, 15,…,24]`: the paragraph break is dropped, `Next para.` keeps its positions.
  * `"Abc $"` ↦ `"Abc  LATEXXXERROR "` (positions `5×14`: one token `" "` at 5 and, as the rest of the
    source has one character only, a second token `"LATEXXXERROR "` at 5 + 1 - 1); `"Abc $ "` the same
    text with the positions `5, 5, 6×12`; `"Abc $\n\nNext para."` ↦ `"Abc  LATEXXXERROR Next para."`:
    no placeholder, the collection is not rotated.
  * `"Abc $a$\nfoo $x+1 def,\n\nNext $y$ para."` ↦ `"Abc C-C-C\nfoo  LATEXXXERROR D-D-D,Next E-E-E para."`
    = `orefSegs` (see `C08_math_unterminated_current` in Properties/PlainMathOpenStmt.lean).
  * `"$x\n\n$y\n\n$z"` ↦ `" LATEXXXERROR C-C-C LATEXXXERROR D-D-D LATEXXXERROR E-E-E"`, three diagnostics
    (lines 1, 3, 5, column 1) = `orefSegs` / `odiagsSegs`.
  * the fuel bound is tight: `parserWork T 5 "$ab" st1 = outOfFuel`, `parserWork T 6 "$ab" st1` is `ok`
    (one unit more than for `$ab$`: the section parser needs a further iteration to see the end of the
    buffer, and the loop one for the empty rest).
-/

end OpenExample

end PlainMathOpen

/-! ### the documents without an open formula: the class of Proofs/PlainMath.lean -/

namespace PlainMath
open PlainMathOpen

/-- **C10 end to end.**  The document is a sequence of inert text segments and simple inline
    formulas `$body$` (`SegsOk`); `st1` is the state after `Parser.__init__`; no `--defs`,
    `--extr`, `--repl`, `--unkn`; single-language mode; `repls` is the inline placeholder
    collection stored for the current language, not empty, every entry a visible one-line text; the
    language settings exist.  With one unit of fuel per source character plus two, `tex2txt` succeeds
    and

    * the output text is the text segments with the `k`-th formula (k = 1, 2, …) replaced by
      `placeholder repls k ++ punctOf T body` — entry `k mod length` of the collection, followed by
      the last character of the body that is no white space if that is a punctuation mark; nothing
      else of the formula survives;
    * every text character maps to its own source position, every character of a replacement to the
      position of the first character of the formula's body that is no white space (`refMath`:
      0-based `p + 1 + leadBlanks body`, `p` the offset of the opening `$`; reported 1-based);
    * nothing is reported as unknown and no diagnostic is added. -/
theorem tex2txt_inline_math (T : PTables) (o : Options) (fs : FS) (thresh : Nat)
    (segs : List Seg) (fuel : Nat) (st1 : PState) (rot : Rot) (repls : List Str)
    (hdefs : o.defs = []) (hextr : o.extr = []) (hrepl : o.hasRepl = false) (hunkn : o.unkn = false)
    (hinit : initParser T fuel o (initialState T o false fs) = .ok ((), st1))
    (hok : SegsOk T st1 segs)
    (hrot : rotOf st1 (curSettings st1) = some rot) (hrepls : rot.inl = repls)
    (hne : repls ≠ []) (hvis : VisibleRepls repls)
    (hls : (settingsOf T (curSettings st1)).isSome = true)
    (hf : (render segs).length + 2 ≤ fuel) :
    ∃ r, tex2txt T fuel (render segs) o false thresh fs = .ok r ∧
      r.txt = (refMath T repls 0 0 segs).1 ∧
      r.pos = (refMath T repls 0 0 segs).2.map (· + 1) ∧
      r.unknowns = [] ∧ r.diags = st1.diags := by
  subst hrepls
  obtain ⟨hr, href, hd⟩ := ofMath_doc T (render segs).length rot.inl (render segs) segs
  have h := tex2txt_open T o fs thresh (segs.map ofMath) fuel st1 rot hdefs hextr hrepl hunkn hinit
    ((osegsOk_ofMath T st1 segs).trans hok) hrot hne hvis hls (by rw [hr]; exact hf)
    (fun h => absurd (by rw [hr]; exact hd) h)
  rw [hr, href, hd, List.append_nil] at h
  exact h

namespace MathExample
open PlainExample

/-- the end-to-end statement applies (30 characters, fuel 40) -/
example : ∃ r, tex2txt tinyM 40 (render segs) oEn false 0 [] = .ok r ∧
    r.txt = "Let C-C-C and D-D-D, be B-B-B.".toList ∧
    r.pos = [1, 2, 3, 4, 6, 6, 6, 6, 6, 12, 13, 14, 15, 16, 19, 19, 19, 19, 19, 19, 23, 24, 25, 26,
             28, 28, 28, 28, 28, 30] ∧
    r.unknowns = [] ∧ r.diags = [] := by
  obtain ⟨r, h1, h2, h3, h4, h5⟩ := tex2txt_inline_math tinyM oEn [] 0 segs 40 stM _ repls
    rfl rfl rfl rfl initParser_tinyM segs_ok stM_rot rfl (by decide) repls_visible (by decide)
    (by decide)
  refine ⟨r, h1, ?_, ?_, h4, h5⟩
  · rw [h2, segs_ref]
  · rw [h3, segs_ref]; rfl

end MathExample

end PlainMath
end Yalafi
