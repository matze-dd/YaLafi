/-
  Proofs/LineCol.lean — lines and columns: the begin of the last line of a text,
  `lastLineStart s = s.rfind('\n') + 1`, and the list of line starts `get_line_starts`.

  The model writes the first function four times (`Reports.lastLineStart`, `lineStart` of
  Model/Basic.lean through `rfindNl`, `colIdx` of Model/Shell.lean, `afterLastNl` of Model/Lines.lean
  for the text behind it).  Its facts are proved once, from the right (`lastLineStart_snoc`); the other
  three are rewritten to it (`lineStart_eq`, `colIdx_eq`, `afterLastNl_eq`).  The entry of
  `get_line_starts` for the line that holds offset `b` is the same number once more
  (`starts_eq_lastLineStart`: ties Model/Reports to Model/Html).  On top of that:
  `linecol_roundtrip` (`textLineCol` is THE line and column of an offset: existence and uniqueness)
  and, for the diagnostics of the scanner, `lineCol_after` and `lineCol_correct`.
-/
import YalafiVerif.Model.Reports
import YalafiVerif.Model.Lines
import YalafiVerif.Proofs.Utils
namespace Yalafi
namespace Reports

theorem snoc_induction {α} {P : List α → Prop} (hnil : P []) (hsnoc : ∀ l a, P l → P (l ++ [a])) : ∀ l, P l := by
  intro l
  have h : ∀ r : List α, P r.reverse := by
    intro r
    induction r with
    | nil => exact hnil
    | cons a r ih => rw [List.reverse_cons]; exact hsnoc _ _ ih
  have := h l.reverse
  rwa [List.reverse_reverse] at this

theorem lastLineStart_nil : lastLineStart [] = 0 := by simp [lastLineStart]

theorem lastLineStart_snoc (s : Str) (c : Char) :
    lastLineStart (s ++ [c]) = if c = '\n' then s.length + 1 else lastLineStart s := by
  unfold lastLineStart
  rw [List.reverse_append, List.reverse_singleton, List.singleton_append, List.idxOf?_cons]
  by_cases hc : c = '\n'
  · simp [hc]
  · have : (c == '\n') = false := by simpa using hc
    simp only [this, hc, if_false, Bool.false_eq_true]
    cases h : List.idxOf? '\n' s.reverse with
    | none => simp
    | some k => simp [List.length_append] <;> omega

theorem lastLineStart_le (s : Str) : lastLineStart s ≤ s.length := by
  induction s using snoc_induction with
  | hnil => simp [lastLineStart_nil]
  | hsnoc l a ih => rw [lastLineStart_snoc]; split <;> simp <;> omega

theorem lastLineStart_take_le (tex : Str) (o : Nat) : lastLineStart (tex.take o) ≤ o := by
  have := lastLineStart_le (tex.take o)
  simp only [List.length_take] at this
  omega

theorem lastLineStart_no_nl (s : Str) : '\n' ∉ s.drop (lastLineStart s) := by
  induction s using snoc_induction with
  | hnil => simp
  | hsnoc l a ih =>
    rw [lastLineStart_snoc]
    split
    · simp
    · rename_i hc
      rw [List.drop_append_of_le_length (lastLineStart_le l)]
      simp only [List.mem_append, List.mem_singleton, not_or]
      exact ⟨ih, fun h => hc h.symm⟩

theorem lastLineStart_prev (s : Str) : lastLineStart s = 0 ∨ s[lastLineStart s - 1]? = some '\n' := by
  induction s using snoc_induction with
  | hnil => simp [lastLineStart_nil]
  | hsnoc l a ih =>
    rw [lastLineStart_snoc]
    split
    · rename_i hc
      right; simp [hc]
    · rcases ih with h | h
      · left; exact h
      · right
        have := lastLineStart_le l
        have hl : lastLineStart l - 1 < l.length := (List.getElem?_eq_some_iff.mp h).1
        rw [List.getElem?_append_left hl]; exact h

theorem colIdx_eq (tex : Str) (o : Nat) : colIdx tex o = o - lastLineStart (tex.take o) := by
  simp only [colIdx, lastLineStart, List.length_take]
  cases List.idxOf? '\n' (List.take o tex).reverse <;> rfl

end Reports

namespace Html

theorem aux_mem (i : Nat) (s : Str) : ∀ p ∈ lineStartsAux i s, i < p ∧ s[p - i - 1]? = some '\n' := by
  induction s generalizing i with
  | nil => simp [lineStartsAux]
  | cons c cs ih =>
    have tl : ∀ p ∈ lineStartsAux (i + 1) cs, i < p ∧ (c :: cs)[p - i - 1]? = some '\n' := by
      intro p hp
      have ⟨h1, h2⟩ := ih (i + 1) p hp
      have : p - i - 1 = (p - (i + 1) - 1) + 1 := by omega
      rw [this, List.getElem?_cons_succ]
      exact ⟨by omega, h2⟩
    intro p hp
    simp only [lineStartsAux] at hp
    split at hp
    · rename_i hc
      rcases List.mem_cons.mp hp with h | h
      · have : p - i - 1 = 0 := by omega
        rw [this]
        exact ⟨by omega, by simpa using hc⟩
      · exact tl p h
    · exact tl p hp

theorem aux_pairwise (i : Nat) (s : Str) : (lineStartsAux i s).Pairwise (· < ·) := by
  induction s generalizing i with
  | nil => simp [lineStartsAux]
  | cons c cs ih =>
    simp only [lineStartsAux]
    split
    · exact List.pairwise_cons.mpr ⟨fun p hp => (aux_mem (i + 1) cs p hp).1, ih (i + 1)⟩
    · exact ih (i + 1)

theorem aux_length (i : Nat) (s : Str) : (lineStartsAux i s).length = s.count '\n' := by
  induction s generalizing i with
  | nil => simp [lineStartsAux]
  | cons c cs ih =>
    simp only [lineStartsAux, List.count_cons]
    split <;> simp_all

theorem aux_append (i : Nat) (a b : Str) :
    lineStartsAux i (a ++ b) = lineStartsAux i a ++ lineStartsAux (i + a.length) b := by
  induction a generalizing i with
  | nil => simp [lineStartsAux]
  | cons c cs ih =>
    simp only [List.cons_append, lineStartsAux, List.length_cons]
    have : i + (cs.length + 1) = i + 1 + cs.length := by omega
    split <;> simp [ih, this]

theorem starts_pairwise (s : Str) : (getLineStarts s).Pairwise (· < ·) := by
  unfold getLineStarts
  exact List.pairwise_cons.mpr ⟨fun p hp => by have := (aux_mem 0 s p hp).1; omega, aux_pairwise 0 s⟩

theorem starts_length (s : Str) : (getLineStarts s).length = s.count '\n' + 1 := by
  simp [getLineStarts, aux_length]

theorem starts_zero (s : Str) : (getLineStarts s).getD 0 0 = 0 := by simp [getLineStarts]

theorem starts_split (s : Str) (b : Nat) :
    getLineStarts s = getLineStarts (s.take b) ++ lineStartsAux (s.take b).length (s.drop b) := by
  have := aux_append 0 (s.take b) (s.drop b)
  rw [List.take_append_drop, Nat.zero_add] at this
  simp only [getLineStarts, this, List.cons_append]

end Html
namespace Reports
open Html

theorem starts_getLast (p : Str) : (0 :: lineStartsAux 0 p).getLast? = some (lastLineStart p) := by
  induction p using snoc_induction with
  | hnil => simp [lineStartsAux, lastLineStart_nil]
  | hsnoc l a ih =>
    rw [aux_append, lastLineStart_snoc]
    by_cases hc : a = '\n'
    · subst hc
      simp only [lineStartsAux, beq_self_eq_true, if_true, Nat.zero_add]
      rw [← List.cons_append, List.getLast?_append]
      simp
    · have : (a == '\n') = false := by simpa using hc
      simp only [lineStartsAux, this, hc, if_false, Bool.false_eq_true, List.append_nil]
      exact ih

/-- **line start = begin of the last line of the prefix**: the entry of `get_line_starts` for the
    line that holds offset `b` is `tex.rfind('\n', 0, b) + 1` -/
theorem starts_eq_lastLineStart (tex : Str) (b : Nat) :
    (getLineStarts tex).getD ((tex.take b).count '\n') 0 = lastLineStart (tex.take b) := by
  have h : (getLineStarts (tex.take b)).getLast? = some (lastLineStart (tex.take b)) := starts_getLast (tex.take b)
  rw [List.getLast?_eq_getElem?, starts_length, Nat.add_sub_cancel] at h
  rw [starts_split tex b, List.getD_eq_getElem?_getD, List.getElem?_append_left (by rw [starts_length]; omega), h]
  rfl

end Reports
namespace Html
open Reports

theorem getD_eq_getElem (l : List Nat) (k : Nat) (h : k < l.length) : l.getD k 0 = l[k] := by
  simp [List.getD, List.getElem?_eq_getElem h]

theorem getElem?_getD (l : List Nat) (k : Nat) (h : k < l.length) : l[k]? = some (l.getD k 0) := by
  rw [getD_eq_getElem l k h]; exact List.getElem?_eq_getElem h

theorem starts_lt (s : Str) (j k : Nat) (hjk : j < k) (hk : k < (getLineStarts s).length) :
    (getLineStarts s).getD j 0 < (getLineStarts s).getD k 0 := by
  rw [getD_eq_getElem _ _ hk, getD_eq_getElem _ _ (by omega)]
  exact List.pairwise_iff_getElem.mp (starts_pairwise s) j k (by omega) hk hjk

theorem starts_mono (s : Str) (j k : Nat) (hjk : j ≤ k) (hk : k < (getLineStarts s).length) :
    (getLineStarts s).getD j 0 ≤ (getLineStarts s).getD k 0 := by
  rcases Nat.lt_or_eq_of_le hjk with h | h
  · exact Nat.le_of_lt (starts_lt s j k h hk)
  · subst h; exact Nat.le_refl _

theorem count_take_le (s : Str) (n : Nat) : (s.take n).count '\n' ≤ s.count '\n' :=
  List.Sublist.count_le '\n' (List.take_sublist n s)

theorem starts_le (s : Str) (b : Nat) : (getLineStarts s).getD ((s.take b).count '\n') 0 ≤ b := by
  rw [starts_eq_lastLineStart]; exact lastLineStart_take_le s b

theorem starts_gt (s : Str) (e : Nat) (h : (s.take e).count '\n' + 1 < (getLineStarts s).length) :
    e < (getLineStarts s).getD ((s.take e).count '\n' + 1) 0 := by
  have he : e < s.length := by
    rcases Nat.lt_or_ge e s.length with h' | h'
    · exact h'
    · rw [List.take_of_length_le h', starts_length] at h; omega
  have hp := getElem?_getD _ _ h
  generalize (getLineStarts s).getD ((s.take e).count '\n' + 1) 0 = p at hp ⊢
  rw [starts_split s e, List.getElem?_append_right (by rw [starts_length]; omega)] at hp
  have := (aux_mem _ _ p (List.mem_of_getElem? hp)).1
  rw [List.length_take] at this
  omega

theorem starts_count_take (s : Str) (k : Nat) (hk : k < (getLineStarts s).length) :
    (s.take ((getLineStarts s).getD k 0)).count '\n' = k := by
  generalize hp : (getLineStarts s).getD k 0 = p
  have hc : (s.take p).count '\n' < (getLineStarts s).length := by
    have := count_take_le s p; rw [starts_length]; omega
  have h1 := starts_le s p
  -- offset `p` lies neither on a line in front of line `k` nor on one behind it
  rcases Nat.lt_trichotomy ((s.take p).count '\n') k with h | h | h
  · have h2 := starts_gt s p (by omega)
    have h3 := starts_mono s ((s.take p).count '\n' + 1) k h hk
    omega
  · exact h
  · have := starts_lt s k _ h hc
    omega

theorem starts_prev (s : Str) (k : Nat) (hk : k + 1 < (getLineStarts s).length) :
    s[(getLineStarts s).getD (k + 1) 0 - 1]? = some '\n' := by
  have hp := getElem?_getD _ _ hk
  generalize (getLineStarts s).getD (k + 1) 0 = p at hp ⊢
  rw [getLineStarts, List.getElem?_cons_succ] at hp
  exact (aux_mem 0 s p (List.mem_of_getElem? hp)).2

theorem count_take_add (s : Str) (a b : Nat) (hab : a ≤ b) :
    (s.take b).count '\n' = (s.take a).count '\n' + (slice s a b).count '\n' := by
  have h : s.take b = s.take a ++ slice s a b := by
    unfold slice
    have : s.take a = (s.take b).take a := by rw [List.take_take, Nat.min_eq_left hab]
    rw [this, List.take_append_drop]
  rw [h, List.count_append]

end Html
namespace Reports
open Html

/-! ### (a) the line and column of the text report are THE line and column of the offset -/

theorem linecol_roundtrip (tex : Str) (offset : Nat) :
    let lc := textLineCol tex offset
    let starts := getLineStarts tex
    1 ≤ lc.1 ∧ lc.1 ≤ starts.length ∧ 1 ≤ lc.2 ∧
    starts.getD (lc.1 - 1) 0 + (lc.2 - 1) = offset ∧
    '\n' ∉ slice tex (starts.getD (lc.1 - 1) 0) offset ∧
    ∀ l c, 1 ≤ l → l ≤ starts.length → 1 ≤ c → starts.getD (l - 1) 0 + (c - 1) = offset →
      '\n' ∉ slice tex (starts.getD (l - 1) 0) offset → (l, c) = lc := by
  intro lc starts
  have hle := lastLineStart_take_le tex offset
  have hst : starts.getD (lc.1 - 1) 0 = lastLineStart (tex.take offset) := by
    simp only [lc, starts, textLineCol, lineIdx, Nat.add_sub_cancel]
    exact starts_eq_lastLineStart tex offset
  have hc : lc.2 = offset - lastLineStart (tex.take offset) + 1 := by
    simp only [lc, textLineCol, colIdx_eq]
  refine ⟨by simp [lc, textLineCol], ?_, by simp [lc, textLineCol], ?_, ?_, ?_⟩
  · have := count_take_le tex offset
    simp only [lc, starts, textLineCol, lineIdx, starts_length]
    omega
  · rw [hst, hc]; omega
  · rw [hst]
    exact lastLineStart_no_nl (tex.take offset)
  · intro l c hl1 hl2 hc1 hsum hno
    have hk : (tex.take (starts.getD (l - 1) 0)).count '\n' = l - 1 := starts_count_take tex (l - 1) (by simp only [starts] at hl2; omega)
    have := count_take_add tex (starts.getD (l - 1) 0) offset (by omega)
    rw [List.count_eq_zero.mpr hno] at this
    have hl : l = lc.1 := by
      simp only [lc, textLineCol, lineIdx]; omega
    subst hl
    rw [hst] at hsum
    refine Prod.ext rfl ?_
    simp only [hc]; omega

end Reports
namespace LineCol
open Reports

theorem idxOf?_nl (l : Str) : l.idxOf? '\n' = findNl l := by
  unfold findNl
  induction l with
  | nil => rfl
  | cons c cs ih =>
    rw [List.idxOf?_cons, ih]
    by_cases hc : c = '\n'
    · simp [hc, hasNl, idxOf, nl]
    · have h1 : (c == '\n') = false := by simpa using hc
      have h2 : ('\n' == c) = false := by simpa using fun e : '\n' = c => hc e.symm
      simp only [hasNl, nl, List.contains_cons, h1, h2, idxOf, Bool.false_or, Bool.false_eq_true, if_false]
      by_cases hh : cs.contains '\n' = true <;> simp

theorem lineStart_eq (src : Str) (pos : Nat) : lineStart src pos = lastLineStart (src.take pos) := by
  unfold lineStart lastLineStart rfindNl
  generalize src.take pos = s
  have hr : hasNl s.reverse = hasNl s := by simp [hasNl]
  rw [idxOf?_nl, findNl, hr]
  by_cases h : hasNl s = true
  · have hk := idxOf_lt_of_any (· == nl) s.reverse (by simpa [hasNl] using h)
    rw [List.length_reverse] at hk
    simp only [h, if_true]
    omega
  · simp only [h, Bool.false_eq_true, if_false]

theorem afterLastNl_eq (s : Str) : afterLastNl s = s.drop (lastLineStart s) := by
  induction s using snoc_induction with
  | hnil => rfl
  | hsnoc l a ih =>
    have hs : afterLastNl (l ++ [a]) = if a = '\n' then [] else afterLastNl l ++ [a] := by
      simp only [afterLastNl, List.reverse_append, List.reverse_singleton, List.singleton_append,
        List.takeWhile_cons, nl]
      by_cases ha : a = '\n' <;> simp [ha]
    rw [hs, lastLineStart_snoc]
    split
    · simp
    · rw [List.drop_append_of_le_length (lastLineStart_le l), ih]

end LineCol

open Reports LineCol in
theorem lineCol_after (pre rest : Str) :
    lineOf (pre ++ rest) pre.length = countNl pre + 1 ∧
    colOf (pre ++ rest) pre.length = (afterLastNl pre).length + 1 := by
  have ht : (pre ++ rest).take pre.length = pre := by simp
  simp only [lineOf, colOf, lineStart_eq, ht, afterLastNl_eq, List.length_drop, true_and]

open Reports LineCol in
/-- `(line, col)` is the unique pair with: `line - 1` line breaks before `pos`, the line
    starts at `lineStart`, and `pos = lineStart + col - 1` with no line break in between -/
theorem lineCol_correct (src : Str) (pos : Nat) (hp : pos ≤ src.length) :
    lineStart src pos ≤ pos ∧
    colOf src pos = pos - lineStart src pos + 1 ∧
    lineOf src pos = countNl (src.take pos) + 1 ∧
    countNl ((src.take pos).drop (lineStart src pos)) = 0 ∧
    (lineStart src pos = 0 ∨ src.getD (lineStart src pos - 1) ' ' = nl) := by
  have hle := lastLineStart_take_le src pos
  refine ⟨?_, rfl, rfl, ?_, ?_⟩ <;> rw [lineStart_eq]
  · exact hle
  · exact List.count_eq_zero.mpr (lastLineStart_no_nl _)
  refine (lastLineStart_prev (src.take pos)).imp_right fun h => ?_
  have hlt := (List.getElem?_eq_some_iff.mp h).1
  rw [List.getElem?_take_of_lt (by simp only [List.length_take] at hlt; omega)] at h
  simp [List.getD_eq_getElem?_getD, h, nl]

end Yalafi
