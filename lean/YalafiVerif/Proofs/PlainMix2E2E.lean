/-
  Proofs/PlainMix2E2E.lean — C03 "hidden material never leaks" / C05 "text flow is preserved", end
  to end on the model, for the ENLARGED union grammar: documents whose segments are drawn from
  FOURTEEN kinds at once (files: Proofs/PlainMix2.lean = token level, Proofs/PlainMix2Src.lean =
  documents / reference / side conditions, Proofs/PlainMix2Scan.lean = the scanner lemma, this file =
  lifts and end-to-end theorem, Proofs/PlainMix2Read.lean = readings; statements:
  Properties/PlainMix2Stmt.lean).

  Kinds that are in (`PlainMix2.Seg`)
    the seven kinds of Proofs/PlainMixE2E.lean, unchanged:
      `txt s`, `spc k`, `cw name sp`, `van name key`, `com body`, `verb d s`, `math body`
    (1) `opn`, `cls`     braces as flat atoms — hence groups `{…}` (`grp body`) and undeclared control
                         words with braced arguments `\name{a1}…{an}` (`mac name args`) at ANY nesting
                         depth, and with anything of the grammar inside: `\textbf{bold \emph{and $x$
                         nested}}`, `{\foo a--b \label{k}}`; the braces need not even be balanced
    (2) `ref name key`   `\ref{key}`, `\pageref{key}` (any macro declared like them)
        `cite name key`, `citeN name note key`   `\cite{key}`, `\cite[note]{key}`
    (3) `foot body`      `\footnote{body}` — the body is detached: it is appended behind the main
                         text (`flows`)
    (4) `head name title`   `\section{title}`, `\subsection`, `\chapter`, `\title`, … (any macro
                         declared with `h_heading`)

  Structure: as in Proofs/PlainMixE2E.lean — ONE loop lemma `seqRun_mix2` (induction over the pieces;
  dispatches to thirteen step lemmas of the single-construct files), ONE scanner lemma
  `scanAll_mix2` (a run of the scanner per kind of segment), and the way to `tex2txt`
  (`tex2txt_mix2_src`, `tex2txt_mix2`, through `PlainSetup.of_run`).

  The end-to-end statement `tex2txt_mix2`.  `tex2txt` succeeds; text and (1-based) positions are
  `delLines (marks T st1 repls 0 0 segs) ++ flows 0 segs`:
    * `marks` (Proofs/PlainMix2Src.lean): the seven kinds of `PlainMix.marks` as there; a brace = a text-less mark;
      a reference = a mark and the placeholder (`0`) at the backslash; a citation = a mark, `[0]` at
      the backslash, a mark, resp. a mark, `[0, ` at the backslash, the note at its OWN positions,
      `]` at the start of the last token of the note, a mark; a footnote = a mark; a heading = a
      mark, the title at its own positions, a full stop (unless the title ends with `!` / `?`) at
      the start of the last token of the title;
    * `delLines` = `remove_pure_action_lines`, exactly: every line of the MAIN flow is deleted, with
      its line break, that consists of white space only and holds at least one text-less mark;
    * `flows`: behind the main text, for every footnote in order: three line breaks pinned to the
      first body character, the body at its own positions, a line break pinned to the start of the
      last token of the body;
    * `unknowns` = the undeclared control words, each once, in order of first use; no diagnostic.

  Side conditions (all in `SegsOk T st1 repls segs`, decidable; `st1` = state after `Parser.__init__`)
    the seven `PlainMix` kinds as in Proofs/PlainMixE2E.lean (`textOkU`, `spcOk`, `cwOkU`,
                               `PlainVanish.vanOk`, `comOk`, `verbOkU`, `PlainMath.mathOk`,
                               `noEmptyActive`, `mathReady` only if there is a formula)
    `opn`, `cls`               `PlainMacro.braceAt`: the scanner makes the one-character special token
                               of the brace
    `ref`                      `PlainRef.refOk` (declared with `A`, no handler, replacement = one or
                               two visible text tokens; key `PlainVanish.keyOk`; `{` directly behind
                               the name)
    `cite`, `citeN`            `PlainRef.citeOk` / `citeNOk` (declared with `OA` and `h_cite`; note not
                               empty, without `]`, inert text) and `PlainRef.stateOk` (blank and `]`
                               are no active characters)
    `foot`                     `PlainFootnote.footOk` (body not empty, inert text without active
                               characters, visible text on its first and on its last line) and
                               `PlainFootnote.stateOk` (`\footnote` declared with `OA`, extraction `#2`;
                               single-language state)
    `head`                     `PlainHeading.headOk` (declared with `*OA` and `h_heading`; title
                               inert text, no line break, not blank) and `PlainHeading.stateOk`
                               (`.` is no active character)
    The conditions on the state are only asked for where the construct occurs.
    options                    no --defs, --extr, --repl, --unkn; single-language mode
    fuel                       `(render segs).length + 4 ≤ fuel` (two more than in Proofs/PlainMixE2E.lean:
                               the handler of a heading works below the loop)

  NOT covered: bodies of footnotes, titles of headings, notes of citations with anything but inert
  text (no macros, braces, maths, special sequences there: the single-construct theorems do not
  cover it either); `\footnote[n]{…}`, `\section*{…}`, `\section[short]{…}`; white space between a
  declared macro name and `{` / `[`; environments, `\item`, `\newcommand`, displayed maths, accents,
  `\\`, `#`; unterminated `\verb`; formulas with macros or groups; multi-language mode.

  Model behaviour worth knowing: see Proofs/PlainMixE2E.lean (lines of white space and blank special
  values are deleted); braces leave Action tokens, so a line that consists of `{` or `}` and white
  space only disappears with its line break; a footnote leaves an Action token in the main flow (a
  line with nothing but `\footnote{…}` disappears from the main text).
-/
import YalafiVerif.Proofs.PlainMix2Scan
namespace Yalafi
namespace PlainMix2

open M
open PlainMacro
open PlainMix (MathSt ReplOk mathReady mathReady_facts)
open PlainFootnote (flowToks)

/-! ### from the scanner and the loop to `tex2txt` -/

/-- `tex2txt` on a well-formed source (no `--defs`, `--extr`, `--repl`, `--unkn`; single-language mode):
    the scanner lemma, the loop lemma from the start state, `PlainSetup.of_run` -/
theorem tex2txt_mix2_src {T : PTables} {o : Options} {fs : FS} {fuel : Nat} {st1 : PState}
    (R : PlainSetup T o fs fuel st1) (thresh : Nat) (src : Str) (ms : List Str → List Mark) (nms : List Str)
    (nf : Nat) (fl : List (Char × Nat)) (rot : Rot) (ls : LangSettings)
    (ha : noEmptyActive T st1 = true) (h : OkSrc T st1 0 src ms nms nf fl)
    (hm : nf ≠ 0 → MathSt T st1 rot ls) (hr : ∀ r ∈ rot.inl, ReplOk r)
    (hf : src.length + 4 ≤ fuel) :
    ∃ res, tex2txt T fuel src o false thresh fs = .ok res ∧
      res.txt = (delLines (ms rot.inl) ++ fl).map (·.1) ∧
      res.pos = (delLines (ms rot.inl) ++ fl).map (·.2 + 1) ∧ res.parts = [] ∧
      res.unknowns = nms.eraseDups ∧ res.diags = st1.diags := by
  have F := scanAll_mix2 T st1 src 0 src ms nms nf fl h
  obtain ⟨ps, hflat, hpok, hmarks, hsimple, hcost, hnames, hnf, hfl⟩ := F.pieces
  let st' := startState st1 src
  obtain ⟨st2, hs, hst2⟩ := seqRun_mix2 T none ls ha ps.length ps (Nat.le_refl _) [] st' rot
    (.startState st1 src) hpok (fun h0 => hm (hnf ▸ h0))
  obtain ⟨res, hres, ht, hp, hpa, hu, hd, _⟩ := R.of_run thresh F.ok hflat hpok.nobegin hs (by decide)
    (by omega) (hsimple rot.inl hr)
  have he : charsOf (flowsToks st2.extracted) = fl := by rw [hst2, ← hfl]; rfl
  rw [hmarks, he] at ht hp
  refine ⟨res, hres, ht, hp, hpa, ?_, ?_⟩
  · rw [hu, hst2, ← hnames]; exact foldl_addU_nil _
  · rw [hd, hst2]; rfl

/-! ### the end-to-end theorem -/

/-- all side conditions on the tables, the initialised parser state and the document -/
def SegsOk (T : PTables) (st : PState) (repls : List Str) (segs : List Seg) : Prop :=
  noEmptyActive T st = true ∧ segsOk T st segs = true ∧
  (nFormulas segs = 0 ∨ mathReady T st repls = true)

instance (T : PTables) (st : PState) (repls : List Str) (segs : List Seg) :
    Decidable (SegsOk T st repls segs) := by
  unfold SegsOk; infer_instance

theorem tex2txt_mix2 (T : PTables) (o : Options) (fs : FS) (thresh : Nat) (segs : List Seg)
    (fuel : Nat) (st1 : PState) (repls : List Str)
    (hdefs : o.defs = []) (hextr : o.extr = []) (hrepl : o.hasRepl = false) (hunkn : o.unkn = false)
    (hinit : initParser T fuel o (initialState T o false fs) = .ok ((), st1))
    (hok : SegsOk T st1 repls segs) (hf : (render segs).length + 4 ≤ fuel) :
    ∃ r, tex2txt T fuel (render segs) o false thresh fs = .ok r ∧
      r.txt = (delLines (marks T st1 repls 0 0 segs) ++ flows 0 segs).map (·.1) ∧
      r.pos = (delLines (marks T st1 repls 0 0 segs) ++ flows 0 segs).map (·.2 + 1) ∧
      r.unknowns = (cwNames segs).eraseDups ∧ r.diags = st1.diags ∧ r.parts = [] := by
  obtain ⟨ha, hsegs, hmath⟩ := hok
  have R : PlainSetup T o fs fuel st1 := ⟨⟨hdefs, hextr, hinit⟩, hrepl, hunkn⟩
  have hsrc := OkSrc_of_segsOk T st1 segs 0 hsegs
  rcases hmath with h0 | hmr
  · obtain ⟨r, h, ht, hp, hpa, hu, hd⟩ := tex2txt_mix2_src R thresh _ _ _ _ _
      { code := [], inl := [], disp := [], chg := [] } default ha hsrc (fun h => absurd h0 h) (by simp) hf
    simp only [marks_nomath T st1 [] repls segs 0 0 0 h0] at ht hp
    exact ⟨r, h, ht, hp, hu, hd, hpa⟩
  · obtain ⟨rot, ls, hst, hinl, hro⟩ := mathReady_facts hmr
    obtain ⟨r, h, ht, hp, hpa, hu, hd⟩ := tex2txt_mix2_src R thresh _ _ _ _ _ rot ls ha hsrc
      (fun _ => hst) (by rw [hinl]; exact hro) hf
    rw [hinl] at ht hp
    exact ⟨r, h, ht, hp, hu, hd, hpa⟩

end PlainMix2
end Yalafi
