/-
  Proofs/Shell.lean — lemmas about the pure part of the shell (Model/Shell.lean).
-/
import YalafiVerif.Model.Shell
namespace Yalafi

/-! ### map_match_position (C14, C15) -/

/-- a position map is *contiguous* on `[o, o+l)`: a copied word -/
def Contiguous (cm : List Int) (o l : Nat) : Prop :=
  o + l ≤ cm.length ∧ ∀ i, i < l → cm[o + i]? = (cm[o]?).map (· + (i : Int))
theorem pyGet_nonneg (xs : List Int) (i : Int) (h : 0 ≤ i) : pyGet xs i = xs[i.toNat]? := by
  simp [pyGet, h]

theorem pyGet_mem {xs : List Int} {i x : Int} (h : pyGet xs i = some x) : x ∈ xs := by
  unfold pyGet at h
  split at h
  · exact List.mem_of_getElem? h
  · split at h
    · exact List.mem_of_getElem? h
    · simp at h

theorem iabs_pos (c : Int) (h : 0 ≤ c) : iabs c = c := by
  unfold iabs; split <;> omega

/-- C14: for a copied word the mapped match is the word itself: offset `cm[o] − 1`, length `l`
    (up to the documented macro-name correction, which applies to a lone backslash only) -/
theorem mapMatch_word (cm : List Int) (latex : Str) (o l : Nat) (c : Int)
    (hl : 1 ≤ l) (hc : Contiguous cm o l) (h0 : cm[o]? = some c) (hpos : 1 ≤ c) :
    mapMatch cm latex (o : Int) (some (.int l)) = .ok (c - 1, correctMarkMacroname (c - 1) l latex) := by
  obtain ⟨hlen, hcont⟩ := hc
  have h1 := hcont (l - 1) (by omega)
  rw [h0] at h1
  simp only [Option.map_some] at h1
  have hb : min (max 0 (o : Int)) ((cm.length : Int) - 1) = (o : Int) := by omega
  have he : min (max 0 ((o : Int) + (l : Int) - 1)) ((cm.length : Int) - 1) = ((o + (l - 1) : Nat) : Int) := by omega
  simp only [mapMatch, Json.asInt, hb, he]
  rw [pyGet_nonneg _ _ (by omega), pyGet_nonneg _ _ (by omega)]
  simp only [Int.toNat_natCast, h0, h1]
  rw [iabs_pos c (by omega), iabs_pos _ (by omega)]
  have : c + ((l - 1 : Nat) : Int) - c + 1 = (l : Int) := by omega
  rw [this]

/-- C15: with an integer length and a non-empty map the function never raises -/
theorem mapMatch_total (cm : List Int) (latex : Str) (offset len : Int) (h : cm ≠ []) :
    ∃ r, mapMatch cm latex offset (some (.int len)) = .ok r := by
  have hn : 0 < cm.length := List.length_pos_iff.mpr h
  simp only [mapMatch, Json.asInt]
  rw [pyGet_nonneg _ _ (by omega), pyGet_nonneg _ _ (by omega)]
  have h1 : (min (max 0 offset) ((cm.length : Int) - 1)).toNat < cm.length := by omega
  have h2 : (min (max 0 (min (max 0 offset) ((cm.length : Int) - 1) + len - 1)) ((cm.length : Int) - 1)).toNat < cm.length := by omega
  rw [List.getElem?_eq_getElem h1, List.getElem?_eq_getElem h2]
  exact ⟨_, rfl⟩

theorem length_takeWhile_le' {α} (p : α → Bool) (l : List α) : (l.takeWhile p).length ≤ l.length :=
  (List.takeWhile_prefix p).length_le

theorem macroNameLen_le (s : Str) (n : Nat) (h : macroNameLen s = some n) : n ≤ s.length := by
  unfold macroNameLen at h
  split at h
  · simp only at h
    split at h
    · simp at h
    · simp only [Option.some.injEq] at h
      have := length_takeWhile_le' (fun c => ('a' ≤ c && c ≤ 'z') || ('A' ≤ c && c ≤ 'Z')) (by assumption)
      simp only [List.length_cons]; omega
  · simp at h

/-- the macro-name correction never leaves the text: the result is `length`, or the length of a
    macro name that stands at `offset` -/
theorem correctMarkMacroname_le (offset length : Int) (latex : Str) (h0 : 0 ≤ offset)
    (hl : offset + length ≤ latex.length) :
    offset + correctMarkMacroname offset length latex ≤ latex.length := by
  unfold correctMarkMacroname
  split
  · rename_i hc
    split
    · rename_i n hn
      have := macroNameLen_le _ _ hn
      simp only [List.length_drop] at this
      simp only [Bool.and_eq_true, decide_eq_true_eq] at hc
      omega
    · exact hl
  · exact hl

/-- what `map_match_position` returns when it returns: two entries of the map give offset and length -/
theorem mapMatch_ok (cm : List Int) (latex : Str) (offset len : Int) (r : Int × Int)
    (h : mapMatch cm latex offset (some (.int len)) = .ok r) :
    ∃ cb ∈ cm, ∃ ce ∈ cm, r = (iabs cb - 1, correctMarkMacroname (iabs cb - 1) (iabs ce - iabs cb + 1) latex) := by
  simp only [mapMatch, Json.asInt] at h
  split at h
  · rename_i cb ce hb he
    simp only [SOut.ok.injEq] at h
    exact ⟨cb, pyGet_mem hb, ce, pyGet_mem he, h.symm⟩
  · simp at h

/-- C15: if every map entry lies in `1 … |latex|` (C01), the reported offset lies inside the file
    and `offset + length` does not pass its end — for every offset and every integer length the
    proofreader may send -/
theorem mapMatch_in_file (cm : List Int) (latex : Str) (offset len : Int) (r : Int × Int)
    (hcm : ∀ p ∈ cm, 1 ≤ iabs p ∧ iabs p ≤ latex.length)
    (h : mapMatch cm latex offset (some (.int len)) = .ok r) :
    0 ≤ r.1 ∧ r.1 < latex.length ∧ r.1 + r.2 ≤ latex.length := by
  obtain ⟨cb, hcb, ce, hce, rfl⟩ := mapMatch_ok cm latex offset len r h
  have h1 := hcm cb hcb
  have h2 := hcm ce hce
  exact ⟨by simp only; omega, by simp only; omega, correctMarkMacroname_le _ _ _ (by omega) (by omega)⟩

/-! ### typed JSON access (C15), assembly and sorting (C14) -/

theorem jsonGet_typed (dic : Json) (item : Str) (typ : JType) (v : Json) (h : jsonGet dic item typ = .ok v) :
    v.hasType typ = true ∧ dic.get item = some v := by
  unfold jsonGet at h
  split at h
  · split at h
    · split at h
      · simp only [SOut.ok.injEq] at h; subst h; exact ⟨by assumption, by assumption⟩
      · simp at h
    · simp at h
  · simp at h

theorem jsonGet_no_crash (dic : Json) (item : Str) (typ : JType) : ∀ s, jsonGet dic item typ ≠ .crash s := by
  intro s h
  unfold jsonGet at h
  split at h
  · split at h
    · split at h <;> simp at h
    · simp at h
  · simp at h

theorem insertByKey_perm (key : RawMatch → Int) (m : RawMatch) (l : List RawMatch) :
    (insertByKey key m l).Perm (m :: l) := by
  induction l with
  | nil => simp [insertByKey]
  | cons x xs ih =>
    simp only [insertByKey]
    split
    · exact List.Perm.refl _
    · exact (List.Perm.cons x ih).trans (List.Perm.swap m x xs)

theorem insertByKey_sorted (key : RawMatch → Int) (m : RawMatch) (l : List RawMatch)
    (h : l.Pairwise (fun a b => key a ≤ key b)) :
    (insertByKey key m l).Pairwise (fun a b => key a ≤ key b) := by
  induction l with
  | nil => simp [insertByKey]
  | cons x xs ih =>
    simp only [insertByKey]
    rw [List.pairwise_cons] at h
    split
    · rename_i hlt
      rw [List.pairwise_cons]
      refine ⟨?_, List.pairwise_cons.mpr h⟩
      intro a ha
      rcases List.mem_cons.mp ha with rfl | ha
      · omega
      · have := h.1 a ha; omega
    · rename_i hge
      rw [List.pairwise_cons]
      refine ⟨?_, ih h.2⟩
      intro a ha
      have := (insertByKey_perm key m xs).mem_iff.mp ha
      rcases List.mem_cons.mp this with rfl | ha
      · omega
      · exact h.1 a ha

theorem foldl_insertByKey (key : RawMatch → Int) (ms acc : List RawMatch)
    (h : acc.Pairwise (fun a b => key a ≤ key b)) :
    (ms.foldl (fun acc m => insertByKey key m acc) acc).Perm (ms ++ acc) ∧
    (ms.foldl (fun acc m => insertByKey key m acc) acc).Pairwise (fun a b => key a ≤ key b) := by
  induction ms generalizing acc with
  | nil => exact ⟨List.Perm.refl _, h⟩
  | cons m ms ih =>
    simp only [List.foldl_cons]
    obtain ⟨h1, h2⟩ := ih (insertByKey key m acc) (insertByKey_sorted key m acc h)
    refine ⟨h1.trans ?_, h2⟩
    refine ((insertByKey_perm key m acc).append_left ms).trans ?_
    exact List.perm_middle

/-- C14: the messages come out ordered by position in the LaTeX file, none lost or invented -/
theorem sortMatches_sorted (cmt : List Int) (ms out : List RawMatch) (h : sortMatches cmt ms = .ok out) :
    out.Perm ms ∧
    out.Pairwise (fun a b => iabs ((cmt[a.offset.toNat]?).getD 0) ≤ iabs ((cmt[b.offset.toNat]?).getD 0)) ∧
    ∀ m ∈ out, 0 ≤ m.offset ∧ m.offset < cmt.length := by
  unfold sortMatches at h
  split at h
  · simp at h
  · rename_i hany
    simp only [SOut.ok.injEq] at h
    subst h
    obtain ⟨h1, h2⟩ := foldl_insertByKey (fun m => iabs ((cmt[m.offset.toNat]?).getD 0)) ms [] List.Pairwise.nil
    simp only [List.append_nil] at h1
    refine ⟨h1, h2, ?_⟩
    intro m hm
    have hm' := h1.mem_iff.mp hm
    simp only [List.any_eq_true, Bool.or_eq_true, decide_eq_true_eq, not_exists, not_and, not_or] at hany
    have := hany m hm'
    omega

theorem assembleStep_lengths (a : Assembled) (p : Part × List RawMatch)
    (h : p.1.plain.length = p.1.charmap.length) (ha : a.plainTot.length = a.charmapTot.length) :
    (assembleStepNB a p).plainTot.length = (assembleStepNB a p).charmapTot.length := by
  simp [assembleStepNB, h, ha]

theorem foldl_assemble_lengths (ps : List (Part × List RawMatch)) (a : Assembled)
    (h : ∀ p ∈ ps, p.1.plain.length = p.1.charmap.length) (ha : a.plainTot.length = a.charmapTot.length) :
    (ps.foldl assembleStepNB a).plainTot.length = (ps.foldl assembleStepNB a).charmapTot.length := by
  induction ps generalizing a with
  | nil => exact ha
  | cons p ps ih =>
    simp only [List.foldl_cons]
    apply ih
    · intro q hq; exact h q (List.mem_cons_of_mem _ hq)
    · exact assembleStep_lengths a p (h p List.mem_cons_self) ha

/-- C14: text and map stay in lock step through the assembly -/
theorem assemble_lengths (ps : List (Part × List RawMatch)) (h : ∀ p ∈ ps, p.1.plain.length = p.1.charmap.length) :
    (assembleNB ps).plainTot.length = (assembleNB ps).charmapTot.length := by
  exact foldl_assemble_lengths ps _ h rfl

/-- C14: the offsets of the matches of the first part are unchanged, those of a later part are
    shifted by the length of everything before it (text plus the two-character delimiter) -/
theorem assemble_append (ps : List (Part × List RawMatch)) (p : Part × List RawMatch) :
    assembleNB (ps ++ [p]) =
      { plainTot := (assembleNB ps).plainTot ++ p.1.plain ++ ['\n', '\n'],
        charmapTot := ((assembleNB ps).charmapTot ++ p.1.charmap) ++
          [(((assembleNB ps).charmapTot ++ p.1.charmap).getLast?).getD 0, (((assembleNB ps).charmapTot ++ p.1.charmap).getLast?).getD 0],
        hits := (assembleNB ps).hits ++ p.2.map (fun m => { m with offset := m.offset + ((assembleNB ps).plainTot.length : Int) }) } := by
  simp [assembleNB, List.foldl_append, assembleStepNB]

/-! ### blank parts are not submitted (`if not plain.strip(): continue`) -/

theorem foldl_assembleStep_filter (ps : List (Part × List RawMatch)) (a : Assembled) :
    ps.foldl assembleStep a = (ps.filter (fun p => !isBlank p.1.plain)).foldl assembleStepNB a := by
  induction ps generalizing a with
  | nil => rfl
  | cons p ps ih =>
    by_cases hb : isBlank p.1.plain = true
    · simp [List.foldl_cons, assembleStep, hb, ih]
    · have hb' : isBlank p.1.plain = false := by simpa using hb
      simp [List.foldl_cons, assembleStep, hb', ih]

/-- C14: the loop over the parts is the assembly of the non-blank parts, in order -/
theorem assemble_eq_filter (ps : List (Part × List RawMatch)) :
    assemble ps = assembleNB (ps.filter (fun p => !isBlank p.1.plain)) := by
  simp [assemble, assembleNB, foldl_assembleStep_filter]

theorem assemble_nonblank (ps : List (Part × List RawMatch)) (h : ∀ p ∈ ps, isBlank p.1.plain = false) :
    assemble ps = assembleNB ps := by
  rw [assemble_eq_filter]
  congr 1
  apply List.filter_eq_self.mpr
  intro p hp; simp [h p hp]

/-! ### HTML escaping (C16) -/

/-- character-wise replacement by a table: the value of the first entry for `c`, else `c` itself -/
def escBy : List (Char × Str) → Char → Str
  | [], c => [c]
  | (k, v) :: t, c => if c == k then v else escBy t c

/-- case analysis for a table: its entries, and the characters that are no key, which are kept -/
theorem escBy_cases {P : Char → Str → Prop} (tbl : List (Char × Str)) (c : Char)
    (hrepl : ∀ p ∈ tbl, P p.1 p.2) (hkeep : (∀ k ∈ tbl.map Prod.fst, c ≠ k) → P c [c]) : P c (escBy tbl c) := by
  induction tbl with
  | nil => exact hkeep (fun _ h => absurd h List.not_mem_nil)
  | cons p t ih =>
    rw [escBy]
    split
    · rename_i h
      rw [beq_iff_eq] at h; subst h
      exact hrepl p List.mem_cons_self
    · rename_i h
      refine ih (fun q hq => hrepl q (List.mem_cons_of_mem _ hq)) (fun hk => hkeep ?_)
      intro k hk'
      rcases List.mem_cons.1 hk' with e | e
      · subst e; simpa using h
      · exact hk k e

def phTable : List (Char × Str) :=
  [('&', "&amp;".toList), ('"', "&quot;".toList), ('<', "&lt;".toList), ('>', "&gt;".toList),
   ('\t', (List.replicate 8 "&ensp;".toList).flatten), (' ', "&ensp;".toList), ('\n', "<br>\n".toList)]

def phStep (c : Char) : Str := escBy phTable c

theorem protectHtml_eq (s : Str) : protectHtml s = s.flatMap phStep := rfl

/-- the image of any character but the line break is free of the characters that matter in HTML -/
theorem phStep_plain (c : Char) (hc : c ≠ '\n') : ∀ d ∈ phStep c, d ≠ '<' ∧ d ≠ '>' ∧ d ≠ '\n' ∧ d ≠ '"' := by
  refine escBy_cases (P := fun c s => c ≠ '\n' → ∀ d ∈ s, d ≠ '<' ∧ d ≠ '>' ∧ d ≠ '\n' ∧ d ≠ '"') phTable c (by decide) ?_ hc
  intro h _ d hd
  rw [List.mem_singleton] at hd
  subst hd
  exact ⟨h _ (by decide), h _ (by decide), hc, h _ (by decide)⟩

theorem protectHtml_plain (s : Str) (h : '\n' ∉ s) : ∀ d ∈ protectHtml s, d ≠ '<' ∧ d ≠ '>' ∧ d ≠ '\n' ∧ d ≠ '"' :=
  List.forall_mem_flatMap.2 (fun c hc => phStep_plain c (fun e => h (e ▸ hc)))

/-- no double quote survives; `<` and `>` occur only as part of the `<br>` that stands for a line break -/
theorem protectHtml_no_quote (s : Str) : '"' ∉ protectHtml s := by
  refine fun hq => List.forall_mem_flatMap (p := (· ≠ '"')).2 (fun c _ => ?_) _ hq rfl
  by_cases hc : c = '\n'
  · subst hc; decide
  · exact fun d hd => (phStep_plain c hc d hd).2.2.2

theorem phStep_count (c : Char) :
    (phStep c).count '<' = (if c = '\n' then 1 else 0) ∧ (phStep c).count '>' = (if c = '\n' then 1 else 0) := by
  by_cases hc : c = '\n'
  · subst hc; decide
  · rw [if_neg hc]
    exact ⟨List.count_eq_zero.mpr (fun h => (phStep_plain c hc _ h).1 rfl),
      List.count_eq_zero.mpr (fun h => (phStep_plain c hc _ h).2.1 rfl)⟩

theorem count_flatMap_ite {α β} [DecidableEq α] [BEq β] (f : α → List β) (a : β) (b : α) (s : List α)
    (h : ∀ c, (f c).count a = if c = b then 1 else 0) : (s.flatMap f).count a = s.count b := by
  induction s with
  | nil => simp
  | cons c cs ih =>
    simp only [List.flatMap_cons, List.count_append, ih, h, List.count_cons, beq_iff_eq]
    omega

theorem protectHtml_lt_count (s : Str) :
    (protectHtml s).count '<' = s.count '\n' ∧ (protectHtml s).count '>' = s.count '\n' :=
  ⟨count_flatMap_ite _ _ _ s (fun c => (phStep_count c).1), count_flatMap_ite _ _ _ s (fun c => (phStep_count c).2)⟩

theorem protectHtml_append (a b : Str) : protectHtml (a ++ b) = protectHtml a ++ protectHtml b := by
  rw [protectHtml_eq, protectHtml_eq, protectHtml_eq, List.flatMap_append]

/-! ### `.tex` is appended iff missing (C18; the `--include` work list: Proofs/SystemIncludeLoop.lean) -/

theorem addTex_suffix (f : Str) : (addTex f).drop ((addTex f).length - 4) = ".tex".toList ∧
    (addTex f = f ∨ addTex f = f ++ ".tex".toList) := by
  unfold addTex
  simp only
  split
  · rename_i h
    simp only [Bool.and_eq_true, beq_iff_eq] at h
    exact ⟨h.2, Or.inl rfl⟩
  · refine ⟨?_, Or.inr rfl⟩
    have : (".tex".toList).length = 4 := by decide
    rw [List.length_append, this, Nat.add_sub_cancel, List.drop_left]

/-! ### --single-letters and the context excerpt (C20) -/

theorem singleLetters_ge (T : Tables) (plain : Str) (prev : Option Char) (base i : Nat)
    (h : i ∈ singleLetters T prev base plain) : base ≤ i := by
  induction plain generalizing prev base with
  | nil => simp [singleLetters] at h
  | cons c cs ih =>
    simp only [singleLetters, List.mem_append] at h
    rcases h with h | h
    · split at h
      · simp only [List.mem_singleton] at h; omega
      · simp at h
    · have := ih _ _ h; omega

/-- the scan reports exactly the isolated letters: `i` is reported iff the character at `i` is
    letter-like and neither neighbour is a word character -/
theorem singleLetters_exact (T : Tables) (plain : Str) (prev : Option Char) (base i : Nat) :
    i ∈ singleLetters T prev base plain ↔
      base ≤ i ∧ i - base < plain.length ∧
      singleAt T (if i = base then prev else plain[i - base - 1]?) (plain.getD (i - base) ' ') (plain[i - base + 1]?) = true := by
  induction plain generalizing prev base with
  | nil => simp [singleLetters]
  | cons c cs ih =>
    simp only [singleLetters, List.mem_append, ih]
    by_cases hib : i = base
    · subst hib
      have : ¬ (i + 1 ≤ i) := by omega
      simp only [this, false_and, or_false, Nat.le_refl, Nat.sub_self, List.length_cons,
        Nat.zero_lt_succ, if_true, true_and, List.getD_cons_zero, Nat.zero_add, List.getElem?_cons_succ]
      rw [← List.head?_eq_getElem?]
      split <;> simp_all
    · have h1 : ¬ (i ∈ (if singleAt T prev c cs.head? = true then [base] else [])) := by
        split <;> simp [hib]
      simp only [h1, false_or, hib, if_false]
      by_cases hlt : base + 1 ≤ i
      · obtain ⟨k, rfl⟩ : ∃ k, i = base + 1 + k := ⟨i - (base + 1), by omega⟩
        have e1 : base + 1 + k - (base + 1) = k := by omega
        have e2 : base + 1 + k - base = k + 1 := by omega
        simp only [e1, e2, List.length_cons, Nat.add_lt_add_iff_right, List.getD_cons_succ,
          List.getElem?_cons_succ, Nat.add_sub_cancel]
        have : base ≤ base + 1 + k := by omega
        simp only [hlt, this, true_and]
        cases k with
        | zero => simp
        | succ k =>
          have : ¬ (base + 1 + (k + 1) = base + 1) := by omega
          simp only [this, if_false, List.getElem?_cons_succ, Nat.add_sub_cancel]
      · have : ¬ (base ≤ i) := by omega
        simp [hlt, this]

/-- each offset is reported once, in increasing order -/
theorem singleLetters_sorted (T : Tables) (plain : Str) (prev : Option Char) (base : Nat) :
    (singleLetters T prev base plain).Pairwise (· < ·) := by
  induction plain generalizing prev base with
  | nil => simp [singleLetters]
  | cons c cs ih =>
    simp only [singleLetters]
    rw [List.pairwise_append]
    refine ⟨by split <;> simp, ih _ _, ?_⟩
    intro a ha b hb
    have := singleLetters_ge T cs _ _ _ hb
    split at ha
    · simp only [List.mem_singleton] at ha; omega
    · simp at ha

/-- accepted patterns: a letter is suppressed iff it lies inside a hit of the accept scan -/
theorem singleLetterOffsets_spec (T : Tables) (plain : Str) (hits : List (Nat × Nat)) (i : Nat) :
    i ∈ singleLetterOffsets T plain hits ↔
      i ∈ singleLetters T none 0 plain ∧ ∀ h ∈ hits, ¬ (h.1 ≤ i ∧ i < h.2) := by
  simp [singleLetterOffsets, notCovered, List.mem_filter]

/-- the context excerpt marks the same characters as offset/length select in the text
    (tabs and line breaks shown as blanks), also at both ends of the text -/
theorem createContext_marks (txt : Str) (offset length : Nat) (h : offset + length ≤ txt.length) :
    let c := createContext txt offset length
    ((c.text.drop c.offset).take c.length) =
      ((txt.drop offset).take length).map (fun ch => if ch == '\t' || ch == '\n' then ' ' else ch) := by
  simp only [createContext]
  have h3 : ("...".toList).length = 3 := by decide
  rw [List.append_assoc, Nat.add_comm, ← List.drop_drop, List.drop_left' h3]
  have hle : offset - (offset - 45) ≤ (List.map (fun c => if (c == '\t' || c == '\n') = true then ' ' else c)
      (List.drop (offset - 45) (List.take (min (max (offset + 45) (offset + length)) txt.length) txt))).length := by
    simp only [List.length_map, List.length_drop, List.length_take]; omega
  rw [List.drop_append_of_le_length hle, List.take_append_of_le_length]
  · rw [← List.map_drop, ← List.map_take, List.drop_drop]
    have e : offset - 45 + (offset - (offset - 45)) = offset := by omega
    rw [e, List.drop_take, List.take_take]
    congr 2
    omega
  · simp only [List.length_drop, List.length_map, List.length_take]; omega

theorem natToStr_digits (n : Nat) : ∀ c ∈ natToStr n, c.isDigit = true := by
  intro c hc
  have : natToStr n = Nat.toDigits 10 n := by simp [natToStr, Nat.toString_eq_repr, Nat.toList_repr]
  rw [this] at hc
  exact Nat.isDigit_of_mem_toDigits (by decide) (by decide) hc

end Yalafi
