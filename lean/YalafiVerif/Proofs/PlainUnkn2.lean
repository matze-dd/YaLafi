/-
  Proofs/PlainUnkn2.lean — C19 "the unknowns list", expander level, for token buffers that mix
  plain tokens, undeclared control words, `\begin{name}` / `\end{name}` of undeclared environments,
  calls of declared (vanishing) macros, inline formulas whose body may contain undeclared control
  words and special tokens, and comments.  (The source level — documents, side conditions,
  scanner, `tex2txt` — is Proofs/PlainUnkn2Src.lean; the statements are in
  Properties/PlainUnkn2Stmt.lean.)

  What the model does
    * `\name`, undeclared, in text: `expand_macro` records `\name` (with backslash) in `unknowns`
      unless it is there already, leaves an Action token and skips the white space AND the comments
      behind the name (`skip_space(stop_lang, stop_action)`; Proofs/PlainUnknown.lean);
    * `\begin{name}`, `name` undeclared: `begin_environment` reads the name (`arg_buffer`, then a
      nested `expand_sequence` on the name tokens), records `name` — WITHOUT backslash — and leaves an
      Action token; the body is expanded as ordinary text; `\end{name}` leaves an Action token and
      records nothing;
    * `\name{key}`, declared as a vanishing macro (`\label`, …; Proofs/PlainVanish.lean): nothing is
      recorded;
    * `$ … \alpha … $`: the section parser of `mathparser.py` calls `expand_macro(…, math=True)` for
      the control word: `add_unknown(name, math)` does nothing in maths mode; the control word
      becomes one maths token (operator or element) followed by an Action token that `skip_space`
      drops; special tokens (`^`, `_`, `&`, …) become maths tokens with the text of their table
      entry, those of `math_ignore` (`{`, `}`) vanish; the formula is replaced by the next
      placeholder of the rotating collection — the only change of state;
    * `% …`: the comment token is dropped by `expand_sequence`; nothing inside is looked at.

  Contents
    `beginEnvironment_unknown`, `endEnvironment_unknown`   the two calls, the name in braces (instances of
                                          `Call.beginEnvironment_undeclared` / `Call.endEnvironment_undeclared`)
    `MItem`, `mvis`, `MItem.rich`, `vis_rich`, `seqRun_math`
                                          a formula whose body holds control words is a formula of the
                                          rich class (Proofs/PlainMathRich.lean, where the token classes
                                          `McwTok`, `SpecTok`, `IgnTok` and `mcost` are at home):
                                          `expandInlineMath` succeeds and rotates the collection once
    `seqRun_u2`                           the loop `expandSequence` (envStop = none): it reaches the end
                                          of the buffer, `unknowns := (names ps).foldl addU unknowns`,
                                          besides that only the rotation records change.  The output
                                          tokens are left existential (no reference for the text).
  Fuel (`cost`): 1 per copied token / comment, 2 per control word, 4 per call of a vanishing macro,
  `#name tokens + 5` per `\begin` / `\end` (two iterations, the rest for the nested calls that read
  the name), `mcost + 2` per formula (`mcost`: 2 per control word, 1 per other token, 0 for white
  space); everything is bounded by the number of source characters.
-/
import YalafiVerif.Proofs.PlainUnknown
import YalafiVerif.Proofs.PlainVanish
import YalafiVerif.Proofs.PlainItem
import YalafiVerif.Proofs.PlainMath
import YalafiVerif.Proofs.PlainComment
import YalafiVerif.Proofs.PlainMathRich
namespace Yalafi
namespace PlainUnkn2

open M
open PlainMacro (lbr rbr NoBrace bodyTxt)
open PlainItem (begTok endTok NameToks getEnvironmentName_braced)
open PlainVanish (VanName seqRun_van_step replOf)
open PlainMath (DollarTok BodyTok)

theorem beginEnvironment_unknown (T : PTables) (fuel : Nat) (p q : Nat) (nt : List Tok) (rest : Buf)
    (tok : Tok) (st : PState) (h : NameToks T st nt) (hf : nt.length + 1 ≤ fuel)
    (hl : lookupEnv st (bodyTxt nt) = none) :
    beginEnvironment T (fuel + 3) (lbr p :: (nt ++ rbr q :: rest)) tok false st
      = .ok (([mkAction tok.pos], rest), { st with unknowns := addU st.unknowns (bodyTxt nt) }) := by
  rw [Call.beginEnvironment_undeclared false (getEnvironmentName_braced T fuel p q nt rest tok st h hf) hl]
  exact M.bind_ok _ _ _ _ _ (Call.addUnknown_text _ st)

theorem endEnvironment_unknown (T : PTables) (fuel : Nat) (p q : Nat) (nt : List Tok) (rest : Buf)
    (tok : Tok) (st : PState) (h : NameToks T st nt) (hf : nt.length + 1 ≤ fuel)
    (hl : lookupEnv st (bodyTxt nt) = none) :
    endEnvironment T (fuel + 3) (lbr p :: (nt ++ rbr q :: rest)) tok none st
      = .ok ((([mkAction tok.pos], false), rest), st) :=
  Call.endEnvironment_undeclared none (getEnvironmentName_braced T fuel p q nt rest tok st h hf) hl

/-- two iterations, and `#name tokens + 3` units below them for the calls that read the name.  `c`
    and `d` as the loop lemma of the class counts them -/
theorem seqRun_ubeg (T : PTables) (envStop : Option Str) {p q1 q2 : Nat} {nt : List Tok} {rest : Buf}
    {out : List Tok} {st : PState} {d c : Nat} (h : NameToks T st nt)
    (hl : lookupEnv st (bodyTxt nt) = none) (ha : noEmptyActive T st = true)
    (hc : 2 ≤ c) (hd : nt.length + 5 ≤ c + d) :
    SeqRun T envStop d c (begTok p :: lbr q1 :: (nt ++ rbr q2 :: rest)) out st rest
      (out ++ [mkAction p]) { st with unknowns := addU st.unknowns (bodyTxt nt) } := by
  refine .of_eq (m := nt.length + 3) (k := 2) (j := 0) (fun g hg => ?_) hc hd
  obtain ⟨f, rfl⟩ : ∃ f, g = f + 2 := ⟨g - 2, by omega⟩
  rw [loop_begin rfl]
  refine (M.bind_ok _ _ _ _ _ (beginEnvironment_unknown T f q1 q2 nt rest (begTok p) st h
    (by omega) hl)).trans ?_
  have ha' : noEmptyActive T { st with unknowns := addU st.unknowns (bodyTxt nt) } = true := ha
  exact (CopiedTok.action (notActive_nil ha') p).step (f + 2) envStop out

theorem seqRun_uend (T : PTables) {p q1 q2 : Nat} {nt : List Tok} {rest : Buf}
    {out : List Tok} {st : PState} {d c : Nat} (h : NameToks T st nt)
    (hl : lookupEnv st (bodyTxt nt) = none) (ha : noEmptyActive T st = true)
    (hc : 2 ≤ c) (hd : nt.length + 5 ≤ c + d) :
    SeqRun T none d c (endTok p :: lbr q1 :: (nt ++ rbr q2 :: rest)) out st rest
      (out ++ [mkAction p]) st := by
  refine .of_eq (m := nt.length + 3) (k := 2) (j := 0) (fun g hg => ?_) hc hd
  obtain ⟨f, rfl⟩ : ∃ f, g = f + 2 := ⟨g - 2, by omega⟩
  rw [loop_end rfl]
  refine (M.bind_ok _ _ _ _ _ (endEnvironment_unknown T f q1 q2 nt rest (endTok p) st h
    (by omega) hl)).trans ?_
  exact (CopiedTok.action (notActive_nil ha) p).step (f + 2) none out

/-! ### formulas with control words: a special case of the rich formulas of Proofs/PlainMathRich.lean -/

def MItem (T : PTables) (st : PState) (t : Tok) : Prop :=
  BodyTok T t ∨ t.kind = .space ∨ McwTok T st t ∨ SpecTok T t ∨ IgnTok T t

def mvis (T : PTables) (t : Tok) : Bool :=
  !(t.kind == .space) && !(t.kind == .special && T.mathIgnore.contains t.txt)

theorem MItem.rich {T : PTables} {st : PState} {t : Tok} (h : MItem T st t) : PlainMathRich.MItem T st t :=
  h.imp_right (·.imp_right (·.imp_right (·.imp_right Or.inl)))

theorem vis_rich {T : PTables} {st : PState} {b : List Tok} (hb : ∀ t ∈ b, MItem T st t)
    (hne : b.any (mvis T) = true) : (b.flatMap (PlainMathRich.mt T)).any (fun x => !x.sp) = true := by
  obtain ⟨t, ht, hv⟩ := List.any_eq_true.mp hne
  rw [List.any_flatMap]
  refine List.any_eq_true.mpr ⟨t, ht, ?_⟩
  rcases hb t ht with h | h | h | h | h
  · simp [PlainMathRich.mt, h.kind]
  · simp [mvis, h] at hv
  · simp [PlainMathRich.mt, h.kind]
  · unfold PlainMathRich.mt
    rw [h.nIgnore, h.nSpace]
    simp [h.kind]
  · unfold mvis at hv
    rw [h.ignore] at hv
    simp [h.kind] at hv

theorem seqRun_math (T : PTables) (envStop : Option Str) {d1 d2 : Tok} {body : List Tok} {rest : Buf}
    {out : List Tok} {st : PState} {rot : Rot} {ls : LangSettings}
    (hd1 : DollarTok d1) (hd2 : DollarTok d2) (hne : body.any (mvis T) = true)
    (hb : ∀ t ∈ body, MItem T st t)
    (hrot : rotOf st (curSettings st) = some rot) (hls : settingsOf T (curSettings st) = some ls)
    (hr : rot.inl ≠ []) :
    ∃ o, SeqRun T envStop 1 (mcost body + 2) (d1 :: (body ++ d2 :: rest)) out st rest (out ++ o)
      (setRot st { rot with inl := rotL rot.inl }) :=
  ⟨_, PlainMathRich.seqRun_formula T envStop ⟨hd1.kind, Or.inl hd1.txt⟩ ⟨hd2.kind, by rw [hd2.txt]; rfl⟩
    (vis_rich hb hne) (fun t ht => (hb t ht).rich) hrot hls (List.head?_eq_some_head (rotL_ne_nil _ hr))⟩

inductive Piece where
  | tok (t : Tok)
  | cw (t : Tok)
  | beg (p q1 q2 : Nat) (nt : List Tok)
  | en (p q1 q2 : Nat) (nt : List Tok)
  | van (p q1 q2 : Nat) (name : Str) (key : List Tok)
  | math (d1 : Tok) (body : List Tok) (d2 : Tok)
  | com (t : Tok)

def Piece.toks : Piece → List Tok
  | .tok t => [t]
  | .cw t => [t]
  | .beg p q1 q2 nt => begTok p :: lbr q1 :: (nt ++ [rbr q2])
  | .en p q1 q2 nt => endTok p :: lbr q1 :: (nt ++ [rbr q2])
  | .van p q1 q2 name key => cwTok p name :: lbr q1 :: (key ++ [rbr q2])
  | .math d1 b d2 => d1 :: (b ++ [d2])
  | .com t => [t]

def flat : List Piece → List Tok
  | [] => []
  | p :: ps => p.toks ++ flat ps

def PiecesOk (T : PTables) (st : PState) : List Piece → Prop
  | [] => True
  | .tok t :: rest => PlainTok t ∧ PassTok T st t (flat rest) ∧ PiecesOk T st rest
  | .cw t :: rest => CwTokOk st t ∧ PiecesOk T st rest
  | .beg _ _ _ nt :: rest =>
    NameToks T st nt ∧ lookupEnv st (bodyTxt nt) = none ∧ PiecesOk T st rest
  | .en _ _ _ nt :: rest =>
    NameToks T st nt ∧ lookupEnv st (bodyTxt nt) = none ∧ PiecesOk T st rest
  | .van _ _ _ name key :: rest =>
    VanName st name ∧ (∀ t ∈ key, NoBrace t ∧ t.kind ≠ .comment) ∧ PiecesOk T st rest
  | .math d1 b d2 :: rest =>
    DollarTok d1 ∧ b.any (mvis T) = true ∧ (∀ t ∈ b, MItem T st t) ∧ DollarTok d2 ∧
      PiecesOk T st rest
  | .com t :: rest => Comment.ComTok T st t ∧ PiecesOk T st rest

/-- the names `expandSequence` hands to `addUnknown` (in text mode), in order: the control words
    with backslash, the environment names of `\begin` without -/
def names : List Piece → List Str
  | [] => []
  | .cw t :: rest => t.txt :: names rest
  | .beg _ _ _ nt :: rest => bodyTxt nt :: names rest
  | _ :: rest => names rest

def cost : List Piece → Nat
  | [] => 0
  | .tok _ :: rest => 1 + cost rest
  | .cw _ :: rest => 2 + cost rest
  | .beg _ _ _ nt :: rest => nt.length + 5 + cost rest
  | .en _ _ _ nt :: rest => nt.length + 5 + cost rest
  | .van .. :: rest => 4 + cost rest
  | .math _ b _ :: rest => mcost b + 2 + cost rest
  | .com _ :: rest => 1 + cost rest

/-- the state is ready for formulas: the language settings and a non-empty collection of inline
    placeholders exist (Python: `KeyError` / `IndexError` otherwise); and the empty string is no
    active character -/
structure Ready (T : PTables) (st : PState) (ls : LangSettings) : Prop where
  active : noEmptyActive T st = true
  settings : settingsOf T (curSettings st) = some ls
  rot : ∃ rot, rotOf st (curSettings st) = some rot ∧ rot.inl ≠ []

/-- the fields of the state the side conditions depend on -/
structure Same (st st' : PState) : Prop where
  lang : st'.langStack = st.langStack
  macros : st'.macros = st.macros
  envs : st'.envs = st.envs
  mtm : st'.mathTextMacros = st.mathTextMacros
  skipB : st'.skipBegin = st.skipBegin

theorem Same.of_reads {st st' : PState} (h : Reads st st') : Same st st' :=
  ⟨h.ext.lang, h.macros, h.ext.envs, h.ext.mtm, h.ext.skipB⟩

theorem MItem.congr {T : PTables} {st st' : PState} (h : Same st st') {t : Tok} :
    MItem T st t → MItem T st' t := by
  rintro (hb | hs | hc | hx)
  · exact Or.inl hb
  · exact Or.inr (Or.inl hs)
  · refine Or.inr (Or.inr (Or.inl ⟨hc.kind, hc.nStop, ?_, ?_, hc.nSpace, hc.nIgnore⟩))
    · rw [h.mtm]; exact hc.nText
    · have := hc.undecl; simpa [lookupMacro, h.macros] using this
  · exact Or.inr (Or.inr (Or.inr hx))

/-- what is left of the buffer behind an undeclared control word: `skip_space` drops the white
    space and the comments -/
def dropSp : List Piece → List Piece
  | .tok t :: rest => if isSpaceTok t then dropSp rest else .tok t :: rest
  | .com _ :: rest => dropSp rest
  | ps => ps

theorem skip_flat {T : PTables} {st : PState} : ∀ {ps : List Piece}, PiecesOk T st ps →
    skipSpaceStopLangAct (flat ps) = flat (dropSp ps) ∧ PiecesOk T st (dropSp ps) ∧
    names (dropSp ps) = names ps ∧ cost (dropSp ps) ≤ cost ps ∧ (dropSp ps).length ≤ ps.length
  | [], _ => ⟨rfl, trivial, rfl, Nat.le_refl _, Nat.le_refl _⟩
  | .tok t :: rest, hp => by
    have hl : isLangK t = false := by
      rcases hp.1.kind with hk | hk | hk <;> simp [isLangK, hk]
    have hac : (t.kind == Kind.action) = false := by
      rcases hp.1.kind with hk | hk | hk <;> simp [hk]
    by_cases hs : isSpaceTok t = true
    · obtain ⟨i1, i2, i3, i4, i5⟩ := skip_flat hp.2.2
      simp only [skipSpaceStopLangAct] at i1
      simp only [dropSp, hs, if_true, flat, Piece.toks, List.singleton_append, skipSpaceStopLangAct,
        List.dropWhile_cons, hl, hac, Bool.not_false, Bool.and_self, names, cost, List.length_cons]
      exact ⟨i1, i2, i3, by omega, by omega⟩
    · have hs' : isSpaceTok t = false := by simpa using hs
      simp only [dropSp, hs', Bool.false_eq_true, if_false, flat, Piece.toks, List.singleton_append,
        skipSpaceStopLangAct, List.dropWhile_cons, Bool.false_and]
      exact ⟨trivial, hp, trivial, Nat.le_refl _, Nat.le_refl _⟩
  | .com t :: rest, hp => by
    obtain ⟨i1, i2, i3, i4, i5⟩ := skip_flat hp.2
    simp only [skipSpaceStopLangAct] at i1
    have hk := hp.1.kind
    simp only [dropSp, flat, Piece.toks, List.singleton_append, skipSpaceStopLangAct,
      List.dropWhile_cons, isSpaceTok, isLangK, hk, Bool.not_false,
      Bool.and_self, names, cost, List.length_cons]
    exact ⟨i1, i2, i3, by omega, by omega⟩
  | .cw t :: rest, hp =>
    ⟨Call.skipSpaceStopLangAct_cons (by simp [isSpaceTok, hp.1.kind]), hp, rfl, Nat.le_refl _, Nat.le_refl _⟩
  | .beg .. :: rest, hp => ⟨Call.skipSpaceStopLangAct_cons rfl, hp, rfl, Nat.le_refl _, Nat.le_refl _⟩
  | .en .. :: rest, hp => ⟨Call.skipSpaceStopLangAct_cons rfl, hp, rfl, Nat.le_refl _, Nat.le_refl _⟩
  | .van .. :: rest, hp => ⟨Call.skipSpaceStopLangAct_cons rfl, hp, rfl, Nat.le_refl _, Nat.le_refl _⟩
  | .math d1 b d2 :: rest, hp =>
    ⟨Call.skipSpaceStopLangAct_cons (by rcases hp.1.kind with hk | hk <;> simp [isSpaceTok, hk]), hp, rfl,
      Nat.le_refl _, Nat.le_refl _⟩

theorem MItem.notComment {T : PTables} {st : PState} {t : Tok} (h : MItem T st t) :
    t.kind ≠ .comment :=
  h.rich.notComment

theorem Same.refl (st : PState) : Same st st := ⟨rfl, rfl, rfl, rfl, rfl⟩

theorem Ready.unknowns {T : PTables} {st : PState} {ls : LangSettings} (h : Ready T st ls)
    (u : List Str) : Ready T { st with unknowns := u } ls :=
  ⟨h.active, h.settings, h.rot⟩

/-- **the loop on a mixed buffer**, in a state `st` that reads as the state `st0` of the conditions.  The
    run reaches the end of the buffer; the names of the undeclared control words and of the undeclared
    environments are recorded in order, each once (`addU`); nothing from formulas, declared macros or
    comments; besides `unknowns` only the rotation records change. -/
theorem seqRun_u2 (T : PTables) (ls : LangSettings) {st0 : PState} :
    ∀ (n : Nat) (ps : List Piece), ps.length ≤ n → ∀ (out : List Tok) (st : PState),
      Reads st0 st → PiecesOk T st0 ps → Ready T st ls →
      ∃ o st', SeqRun T none 1 (cost ps) (flat ps) out st [] (out ++ o) st' ∧
        st' = { st with unknowns := (names ps).foldl addU st.unknowns, rots := st'.rots } := by
  have hnil : ∀ (out : List Tok) (st : PState),
      ∃ o st', SeqRun T none 1 (cost []) (flat []) out st [] (out ++ o) st' ∧
        st' = { st with unknowns := (names []).foldl addU st.unknowns, rots := st'.rots } := fun out st =>
    ⟨[], st, by rw [List.append_nil]; exact SeqRun.refl.mono (Nat.zero_le _) (Nat.le_refl _), rfl⟩
  intro n
  induction n with
  | zero =>
    intro ps hn out st _ _ _
    cases ps with
    | nil => exact hnil out st
    | cons => simp at hn
  | succ n ih =>
    intro ps hn out st hR hok hr
    cases ps with
    | nil => exact hnil out st
    | cons pc ps =>
      have hn' : ps.length ≤ n := by simpa using hn
      have hE := hR.ext
      cases pc with
      | tok t =>
        obtain ⟨o, st', h1, h2⟩ := ih ps hn' (out ++ [t]) st hR hok.2.2 hr
        exact ⟨t :: o, st', (seqRun_plainTok hok.1 (hE.passTok hok.2.1)).app h1 (Nat.zero_le _),
          by simpa [names] using h2⟩
      | com t =>
        obtain ⟨o, st', h1, h2⟩ := ih ps hn' out st hR hok.2 hr
        exact ⟨o, st', (Comment.seqRun_comTok (hok.1.ext hE)).trans h1 (Nat.zero_le _), by simpa [names] using h2⟩
      | cw t =>
        obtain ⟨e1, e2, e3, e4, e5⟩ := skip_flat hok.2
        obtain ⟨o, st', h1, h2⟩ := ih (dropSp ps) (by omega) (out ++ [mkAction t.pos])
          { st with unknowns := addU st.unknowns t.txt } (hR.trans ⟨rfl, rfl⟩) e2 (hr.unknowns _)
        rw [← e1] at h1
        refine ⟨mkAction t.pos :: o, st', (seqRun_cw (hok.1.reads hR) hr.active).app (h1.mono (Nat.le_refl _) e4)
          (Nat.zero_le _), ?_⟩
        rw [h2, e3]; simp [names]
      | beg p q1 q2 nt =>
        obtain ⟨o, st', h1, h2⟩ := ih ps hn' (out ++ [mkAction p])
          { st with unknowns := addU st.unknowns (bodyTxt nt) } (hR.trans ⟨rfl, rfl⟩) hok.2.2 (hr.unknowns _)
        refine ⟨mkAction p :: o, st', ?_, by rw [h2]; simp [names]⟩
        simp only [flat, Piece.toks, List.cons_append, List.append_assoc, List.nil_append]
        exact (seqRun_ubeg T none (c := nt.length + 5) (d := 0) (hok.1.ext hE) ((hE.lookupEnv _).trans hok.2.1)
          hr.active (by omega) (by omega)).app h1 (Nat.zero_le _)
      | en p q1 q2 nt =>
        obtain ⟨o, st', h1, h2⟩ := ih ps hn' (out ++ [mkAction p]) st hR hok.2.2 hr
        refine ⟨mkAction p :: o, st', ?_, by simpa [names] using h2⟩
        simp only [flat, Piece.toks, List.cons_append, List.append_assoc, List.nil_append]
        exact (seqRun_uend T (c := nt.length + 5) (d := 0) (hok.1.ext hE) ((hE.lookupEnv _).trans hok.2.1)
          hr.active (by omega) (by omega)).app h1 (Nat.zero_le _)
      | van p q1 q2 name key =>
        obtain ⟨hn0, hkey, hrest⟩ := hok
        have hn1 := (hn0.ext hE).1
        have hlen := hn1.repl.2
        obtain ⟨o, st', h1, h2⟩ := ih ps hn'
          (out ++ mkAction p :: (replOf st name).map (PlainMacro.restamp p)) st hR hrest hr
        refine ⟨mkAction p :: ((replOf st name).map (PlainMacro.restamp p) ++ o), st', ?_,
          by simpa [names] using h2⟩
        simp only [flat, Piece.toks, List.cons_append, List.append_assoc, List.nil_append]
        exact ((seqRun_van_step T p q1 q2 name key (flat ps) none out st hn1 (fun t ht => (hkey t ht).1)
          hr.active).mono (Nat.le_refl _) (by omega : 2 + (replOf st name).length ≤ 4)).app h1
          (Nat.le_add_right ..)
      | math d1 b d2 =>
        obtain ⟨hd1, hbne, hb, hd2, hrest⟩ := hok
        obtain ⟨rot, hrot, hne⟩ := hr.rot
        obtain ⟨o1, r1⟩ := seqRun_math T none (rest := flat ps) (out := out) hd1 hd2 hbne
          (fun t ht => MItem.congr (.of_reads hR) (hb t ht)) hrot hr.settings hne
        have hr' : Ready T (setRot st { rot with inl := rotL rot.inl }) ls :=
          ⟨hr.active, hr.settings,
            ⟨_, PlainMath.rotOf_setRot st (curSettings st) rot (rotL rot.inl) hrot, rotL_ne_nil _ hne⟩⟩
        obtain ⟨o, st', h1, h2⟩ := ih ps hn' (out ++ o1) (setRot st { rot with inl := rotL rot.inl })
          (hR.trans ⟨rfl, rfl⟩) hrest hr'
        refine ⟨o1 ++ o, st', ?_, by rw [h2]; simp [names, setRot]⟩
        simp only [flat, Piece.toks, List.cons_append, List.append_assoc, List.nil_append]
        exact r1.app h1 (Nat.le_add_right ..)

end PlainUnkn2
end Yalafi
