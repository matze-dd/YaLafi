/-
  Proofs/SystemWordGroup.lean — SYSTEM LEVEL for documents of inert text, brace groups and
  undeclared control words with braced arguments at any depth (`PlainGroup`, the grammar of
  `C03_unknown_args_e2e` / `C02_unknown_args_positions`): the filter's theorem composed with the
  shell's pipeline.

  For these documents EVERY output character is a copy of the source character at its position
  (C02).  Hence the only hypothesis on the flagged stretch is that its map entries are consecutive
  (`RunAt`: no markup was removed inside the stretch) — `flagged_run_group`:
  for every plain offset `off` and length `l ≥ 1` with `RunAt r.pos off l (p + 1)`
    * the flagged text `r.txt[off … off+l)` IS the source text `src[p … p+l)`;
    * `map_match_position` (on the map padded in any way) yields offset `p` and length `l` — the
      macro-name extension never applies, a text character is no backslash;
    * all reports are those of the source word: `WordReported src p l`;
    * the HTML highlight is the source word: `HtmlWord` (for a padding without negative entries).
  `copied_run_group` (`copied_run_marks` for this grammar): every stretch `w` of text
  characters of the flattened document (`atoms doc = A ++ w.map .chr ++ B`: inside one run of text,
  no brace or control word in between) whose first and last character are no white space appears
  in the plain text, as a run that is mapped to its own source offset `|renderA A|`.

  NOT covered here: what `PlainGroup` does not cover.  The hypothesis `wordEnds` is needed: white
  space at the ends of a stretch may be deleted by `skip_space` behind a control word or with a
  blank line of markup.
-/
import YalafiVerif.Proofs.SystemWordRun
import YalafiVerif.Proofs.PlainGroup
namespace Yalafi
namespace SystemWord

open PlainMacro Reports


theorem take_drop_eq_of_get {α} (a b : List α) (o p l : Nat) (h : ∀ i, i < l → a[o + i]? = b[p + i]?) :
    (a.drop o).take l = (b.drop p).take l := by
  apply List.ext_getElem?
  intro i
  rcases Nat.lt_or_ge i l with hi | hi
  · rw [List.getElem?_take_of_lt hi, List.getElem?_take_of_lt hi, List.getElem?_drop, List.getElem?_drop]
    exact h i hi
  · rw [List.getElem?_eq_none (by simp; omega), List.getElem?_eq_none (by simp; omega)]

theorem run_is_source_word (src : Str) (out : List (Char × Nat)) (off l p : Nat) (hl : 1 ≤ l)
    (hrun : RunAt (out.map (·.2 + 1)) off l (p + 1))
    (hcopy : ∀ cp ∈ out, src[cp.2]? = some cp.1) :
    p + l ≤ src.length ∧ ((out.map (·.1)).drop off).take l = (src.drop p).take l ∧
    ∃ c, src[p]? = some c ∧ (c, p) ∈ out := by
  have hget : ∀ i, i < l → ∃ cp, out[off + i]? = some cp ∧ cp.2 = p + i ∧ src[p + i]? = some cp.1 := by
    intro i hi
    have h1 := hrun.get i hi
    rw [List.getElem?_map] at h1
    cases ho : out[off + i]? with
    | none => rw [ho] at h1; cases h1
    | some cp =>
      rw [ho] at h1
      simp only [Option.map_some, Option.some.injEq] at h1
      have h2 : cp.2 = p + i := by omega
      refine ⟨cp, rfl, h2, ?_⟩
      rw [← h2]
      exact hcopy cp (List.mem_of_getElem? ho)
  refine ⟨?_, ?_, ?_⟩
  · obtain ⟨cp, _, _, h3⟩ := hget (l - 1) (by omega)
    have := (List.getElem?_eq_some_iff.mp h3).1
    omega
  · apply take_drop_eq_of_get
    intro i hi
    obtain ⟨cp, h1, _, h3⟩ := hget i hi
    rw [List.getElem?_map, h1, h3]
    rfl
  · obtain ⟨cp, h1, h2, h3⟩ := hget 0 (by omega)
    refine ⟨cp.1, by simpa using h3, ?_⟩
    have : cp = (cp.1, p) := by rw [← (show cp.2 = p by simpa using h2)]
    rw [← this]
    exact List.mem_of_getElem? h1

/-! ### the reference of `PlainGroup`: every character is a copy, no character is a backslash -/

theorem group_copy (T : PTables) (st1 : PState) (doc : List PlainGroup.Item)
    (hok : PlainGroup.DocOk T st1 doc) :
    ∀ cp ∈ delLines (PlainGroup.marks 0 doc),
      (PlainGroup.render doc)[cp.2]? = some cp.1 ∧ cp.1 ≠ '\\' := by
  intro cp hcp
  have hm := PlainVanish.delLines_mem hcp
  obtain ⟨_, hsrc⟩ := PlainGroup.marksA_src (c := cp.1) (q := cp.2) hm
  refine ⟨by rw [PlainGroup.render_eq]; simpa using hsrc, ?_⟩
  exact (PlainGroup.not_markup (PlainGroup.atomsOk_chr hok.2 (PlainGroup.marksA_text hm))).1

theorem flagged_run_group (T : PTables) (o : Options) (fs : FS) (thresh : Nat)
    (doc : List PlainGroup.Item) (fuel : Nat) (st1 : PState)
    (hdefs : o.defs = []) (hextr : o.extr = []) (hrepl : o.hasRepl = false) (hunkn : o.unkn = false)
    (hinit : initParser T fuel o (initialState T o false fs) = .ok ((), st1))
    (hok : PlainGroup.DocOk T st1 doc) (hf : (PlainGroup.render doc).length + 2 ≤ fuel) :
    ∃ r, tex2txt T fuel (PlainGroup.render doc) o false thresh fs = .ok r ∧
      r.txt.length = r.pos.length ∧
      ∀ (off l p : Nat) (pad : List Int), 1 ≤ l → RunAt r.pos off l (p + 1) →
        p + l ≤ (PlainGroup.render doc).length ∧
        (r.txt.drop off).take l = ((PlainGroup.render doc).drop p).take l ∧
        mapMatch (natMap r.pos ++ pad) (PlainGroup.render doc) (off : Int) (some (.int l))
          = .ok ((p : Int), (l : Int)) ∧
        reportAll (natMap r.pos ++ pad) (PlainGroup.render doc) (off : Int) (some (.int l))
          = .ok (locate (PlainGroup.render doc) p l) ∧
        WordReported (PlainGroup.render doc) p l (locate (PlainGroup.render doc) p l) ∧
        ((∀ c ∈ pad, 0 ≤ c) → HtmlWord (PlainGroup.render doc) (natMap r.pos ++ pad) off l p) := by
  obtain ⟨r, h1, h2, h3, _⟩ :=
    PlainGroup.tex2txt_groups T o fs thresh doc fuel st1 hdefs hextr hrepl hunkn hinit hok hf
  refine ⟨r, h1, by rw [h2, h3]; simp, ?_⟩
  intro off l p pad hl hrun
  have hc := group_copy T st1 doc hok
  have hrun' := hrun
  rw [h3] at hrun'
  obtain ⟨a1, a2, c, a3, a4⟩ := run_is_source_word (PlainGroup.render doc) _ off l p hl hrun'
    (fun cp hcp => (hc cp hcp).1)
  have hbs : ¬ (l = 1 ∧ (PlainGroup.render doc)[p]? = some '\\') := by
    rintro ⟨_, hb⟩
    rw [a3] at hb
    cases hb
    exact (hc _ a4).2 rfl
  rw [← h2] at a2
  exact ⟨a1, a2, run_reported _ r.pos pad off l p hl hrun a1 hbs⟩

/-! ### a copied run is contiguous, for `PlainGroup` -/

theorem dropWhile_stop {α} (q : α → Bool) (m : α) (M' : List α) (hm : q m = false) :
    ∀ X : List α, ∃ X', (X ++ m :: M').dropWhile q = X' ++ m :: M'
  | [] => ⟨[], by simp [hm]⟩
  | x :: xs => by
    obtain ⟨X', hX⟩ := dropWhile_stop q m M' hm xs
    simp only [List.cons_append, List.dropWhile_cons]
    split
    · exact ⟨X', hX⟩
    · exact ⟨x :: xs, rfl⟩

theorem dropSp_stop (X : List Mark) (m : Mark) (M' : List Mark) (hm : PlainGroup.spMark m = false) :
    ∃ X', PlainGroup.dropSp (X ++ m :: M') = X' ++ m :: M' := by
  unfold PlainGroup.dropSp
  split
  · exact dropWhile_stop _ m M' hm X
  · exact ⟨X, rfl⟩

/-- the marks of a document `A ++ R` end with the marks of `R` at its own position, if these begin
    with a visible character (else `skip_space` behind a control word of `A` may take white space
    of `R`) -/
theorem marksA_append_stop (R : List PlainGroup.Atom) :
    ∀ (A : List PlainGroup.Atom) (p : Nat) (m : Mark) (M' : List Mark),
      PlainGroup.marksA (p + (PlainGroup.renderA A).length) R = m :: M' → PlainGroup.spMark m = false →
      ∃ X, PlainGroup.marksA p (A ++ R) = X ++ m :: M'
  | [], p, m, M', h, _ => ⟨[], by simpa [PlainGroup.renderA] using h⟩
  | .chr c :: A, p, m, M', h, hm => by
    obtain ⟨X, hX⟩ := marksA_append_stop R A (p + 1) m M'
      (by rw [← h]; simp [PlainGroup.renderA, PlainGroup.Atom.render]; congr 1; omega) hm
    exact ⟨some (c, p) :: X, by simp [PlainGroup.marksA, hX]⟩
  | .opn :: A, p, m, M', h, hm => by
    obtain ⟨X, hX⟩ := marksA_append_stop R A (p + 1) m M'
      (by rw [← h]; simp [PlainGroup.renderA, PlainGroup.Atom.render]; congr 1; omega) hm
    exact ⟨none :: X, by simp [PlainGroup.marksA, hX]⟩
  | .cls :: A, p, m, M', h, hm => by
    obtain ⟨X, hX⟩ := marksA_append_stop R A (p + 1) m M'
      (by rw [← h]; simp [PlainGroup.renderA, PlainGroup.Atom.render]; congr 1; omega) hm
    exact ⟨none :: X, by simp [PlainGroup.marksA, hX]⟩
  | .cw name :: A, p, m, M', h, hm => by
    obtain ⟨X, hX⟩ := marksA_append_stop R A (p + (name.length + 1)) m M'
      (by rw [← h]; simp [PlainGroup.renderA, PlainGroup.Atom.render]; congr 1; omega) hm
    obtain ⟨X', hX'⟩ := dropSp_stop X m M' hm
    exact ⟨none :: X', by simp [PlainGroup.marksA, hX, hX']⟩

theorem marksA_chr (B : List PlainGroup.Atom) : ∀ (w : Str) (p : Nat),
    PlainGroup.marksA p (w.map .chr ++ B) = (posText p w).map some ++ PlainGroup.marksA (p + w.length) B
  | [], p => by simp [posText]
  | c :: w, p => by
    simp only [List.map_cons, List.cons_append, PlainGroup.marksA, posText, marksA_chr B w (p + 1),
      List.length_cons]
    rw [show p + 1 + w.length = p + (w.length + 1) by omega]

theorem copied_run_group (T : PTables) (o : Options) (fs : FS) (thresh : Nat)
    (doc : List PlainGroup.Item) (fuel : Nat) (st1 : PState)
    (hdefs : o.defs = []) (hextr : o.extr = []) (hrepl : o.hasRepl = false) (hunkn : o.unkn = false)
    (hinit : initParser T fuel o (initialState T o false fs) = .ok ((), st1))
    (hok : PlainGroup.DocOk T st1 doc) (hf : (PlainGroup.render doc).length + 2 ≤ fuel)
    (A B : List PlainGroup.Atom) (w : Str) (hdoc : PlainGroup.atoms doc = A ++ (w.map .chr ++ B))
    (hw : wordEnds w = true) :
    ((PlainGroup.render doc).drop (PlainGroup.renderA A).length).take w.length = w ∧
    ∃ r, tex2txt T fuel (PlainGroup.render doc) o false thresh fs = .ok r ∧
      ∃ off, off + w.length ≤ r.txt.length ∧
        RunAt r.pos off w.length ((PlainGroup.renderA A).length + 1) ∧
        (r.txt.drop off).take w.length = w := by
  refine ⟨?_, ?_⟩
  · rw [PlainGroup.render_eq, hdoc, PlainGroup.renderA_append, PlainGroup.renderA_append,
      PlainGroup.renderA_chr, List.drop_left, List.take_left]
  obtain ⟨r, h1, h2, h3, _⟩ :=
    PlainGroup.tex2txt_groups T o fs thresh doc fuel st1 hdefs hextr hrepl hunkn hinit hok hf
  refine ⟨r, h1, ?_⟩
  obtain ⟨⟨w0, W', hW0, hw0⟩, _⟩ := posText_word (PlainGroup.renderA A).length hw
  have hm : PlainGroup.marksA (0 + (PlainGroup.renderA A).length) (w.map .chr ++ B)
      = some w0 :: (W'.map some ++ PlainGroup.marksA (0 + (PlainGroup.renderA A).length + w.length) B) := by
    rw [marksA_chr, Nat.zero_add, hW0]; simp
  obtain ⟨X, hX⟩ := marksA_append_stop _ A 0 _ _ hm (by simpa [PlainGroup.spMark] using hw0)
  have hmarks : PlainGroup.marks 0 doc
      = X ++ ((posText (PlainGroup.renderA A).length w).map some
          ++ PlainGroup.marksA (0 + (PlainGroup.renderA A).length + w.length) B) := by
    unfold PlainGroup.marks
    rw [hdoc, hX, hW0]; simp
  exact (copied_run_marks (F := []) (by simpa using h2) (by simpa using h3) X _ _ w hmarks hw).2

end SystemWord
end Yalafi
