/-
  Proofs/PlainVerb.lean — `\verb`, end to end on the model: where C02/C03 ("verbatim material is
  copied literally, every character at its own position") and C08 ("an unterminated `\verb`
  yields exactly one diagnostic and the complete error mark at the position of the problem")
  meet.

  Documents: sequences of inert text segments (as in Proofs/Plain.lean), complete `\verb d s d`
  and unterminated `\verb d s` (no closing delimiter before the end of the line).

  Model facts used: `scanVerb` (Model/Scanner.lean) returns a `.verb false` token with the content
  at the position of the content, or the tokens of `latexErrorToks … errBadVerb` and the
  diagnostic `latexErrorDiag`; the `.verb` branch of `expandSequence` emits an Action token and a
  position-counting *text* token with the content — no re-scanning, no state change; the mark
  tokens are fixed text tokens that `expandSequence` copies.

  `VAtom`, `renderA`, `atomsOk`      : the documents, character by character (what the proofs use)
  `VSeg`, `renderV`, `vsegsOk`       : the documents as segments (what the statements use)
  `outV`, `diagsV`, `markOut`        : expected output characters with positions, expected diagnostics
  `lineA`, `vlinesOK`                : the line automaton of the blank-line removal on the source
  `scanAll_verb` (`VFacts`)          : the scanner loop (by its own induction: the step of an unterminated
                                       `\verb` carries a diagnostic, so it is no run in the sense of `Scans`)
  `tex2txt_verb_atoms` / `_segs`     : the general end-to-end statement (complete result record; of the
                                       state only `diags` grows)
  `tex2txt_verb_wellformed`          : (A)  C02/C03 at `\verb`
  `tex2txt_verb_unterminated`        : (B)  C08 at `\verb`
  `vsegsOk_of_simple`, `vlinesOK_of_visible` : simple sufficient conditions

  Side conditions (reasons)
    delimiter `d`: `macroChar d = false` — after a letter or `@` the scanner reads the control word
        `\verbd…`, not `\verb`; every other character is admitted by `scan_verb`, also `*`
        (`\verb*a*` has the delimiter `*`) and white space; a complete `\verb` needs `d ≠ '\n'`
        (the search for the end stops at a line break, which is then reported as the error);
    content `s`: ANY characters except `d` and the line break (`$ { } % # \ ~ &` … included);
    no special sequence of the tables matches at the backslash of `\verb` (`next_token` tests
        the special sequences first; `verbSpecialFree` is the table-level condition);
    text characters: `chrOk` = `inertAt` of Proofs/Plain.lean; the token behind an active
        character of the language settings is looked at by `expand_short_macro` — if it is a
        `\verb` token, its *content* is used: `"\verb|a|` yields `ä` for 'de' (rejected by `chrOk`);
    unterminated `\verb`: followed by the end of the source or a line break; `markOk`: the mark
        starts with a visible character and has no line break (else the mark itself could be
        deleted or split by the blank-line removal); the blank is no active character (the mark
        tokens start / end with a blank);
    `vlinesOK`: no line consists only of white space and `\verb`s with blank content — the Action
        token emitted for a `\verb` makes such a line a "pure action line", which is deleted
        together with the blank content (examples at the end);
    options / fuel as in `tex2txt_plain_text`: no --defs, --extr, --repl, --unkn, single-language
        mode, `src.length + 2 ≤ fuel`.
  Not covered: `\verb` as the very last characters of the source (no delimiter at all; the model
  reports the same error with length 5).
-/
import YalafiVerif.Proofs.Plain
import YalafiVerif.Proofs.PlainSpecial
import YalafiVerif.Proofs.PlainUnknown
import YalafiVerif.Proofs.LineCol
namespace Yalafi

open M

inductive VAtom where
  | chr (c : Char)
  | verb (d : Char) (s : Str)
  | bad (d : Char) (s : Str)
deriving Repr, DecidableEq

def VAtom.render : VAtom → Str
  | .chr c => [c]
  | .verb d s => sVerb ++ d :: (s ++ [d])
  | .bad d s => sVerb ++ d :: s

def renderA : List VAtom → Str
  | [] => []
  | a :: r => a.render ++ renderA r

def followOk (T : PTables) (st : PState) (c : Char) : List VAtom → Bool
  | [] => true
  | .chr d :: r => !(shortKeys T st).contains (c :: firstTokTxt (d :: renderA r))
  | .verb _ s :: _ => !(shortKeys T st).contains (c :: s)
  | .bad _ _ :: _ => false

/-- the text character `c` in front of the atoms `r` is inert (`inertAt` of Proofs/Plain.lean; the
    token behind `c` may be verbatim material, whose text is the *content*) -/
def chrOk (T : PTables) (st : PState) (c : Char) (r : List VAtom) : Bool :=
  (!(activeChars T st).contains [c] || (!isSpace c && followOk T st c r)) &&
  (isSpace c || (!structuralChar c && (matchSpecial T.toTables (c :: renderA r)).isNone))

def verbOk (T : Tables) (d : Char) (s : Str) (r : List VAtom) : Bool :=
  !macroChar d && d != nl && s.all (fun c => c != d && c != nl) &&
  (matchSpecial T (sVerb ++ d :: (s ++ d :: renderA r))).isNone

def markOk (T : Tables) : Bool :=
  (match T.mark with | c :: _ => !isSpace c | [] => false) && !hasNl T.mark

def badOk (T : PTables) (st : PState) (d : Char) (s : Str) (r : List VAtom) : Bool :=
  !macroChar d && s.all (fun c => c != d && c != nl) &&
  (match r with | [] => true | .chr c :: _ => c == nl | _ => false) &&
  (matchSpecial T.toTables (sVerb ++ d :: (s ++ renderA r))).isNone &&
  markOk T.toTables && !(activeChars T st).contains [' ']

def atomsOk (T : PTables) (st : PState) : List VAtom → Bool
  | [] => true
  | .chr c :: r => chrOk T st c r && atomsOk T st r
  | .verb d s :: r => verbOk T.toTables d s r && atomsOk T st r
  | .bad d s :: r => badOk T st d s r && atomsOk T st r

/-- the characters of the error mark with their positions, for a problem at offset `p` of a
    source of length `n` (`utils.latex_error`: what does not fit in front of the end of the
    source is mapped to the last position) -/
def markOut (T : Tables) (n p : Nat) : List (Char × Nat) :=
  let mark := errMark T errBadVerb
  let mx := min mark.length (n - p)
  (mark.take mx).map (fun c => (c, p)) ++ (mark.drop mx).map (fun c => (c, p + mx - 1))

/-- output characters with their (0-based) source positions; `p` = offset of the first atom -/
def outA (T : Tables) (n : Nat) : Nat → List VAtom → List (Char × Nat)
  | _, [] => []
  | p, .chr c :: r => (c, p) :: outA T n (p + 1) r
  | p, .verb _ s :: r => posText (p + 6) s ++ outA T n (p + (s.length + 7)) r
  | p, .bad _ s :: r => markOut T n p ++ outA T n (p + (s.length + 6)) r

def diagsA (src : Str) : Nat → List VAtom → List Diag
  | _, [] => []
  | p, .chr _ :: r => diagsA src (p + 1) r
  | p, .verb _ s :: r => diagsA src (p + (s.length + 7)) r
  | p, .bad _ s :: r => latexErrorDiag errBadVerb p src :: diagsA src (p + (s.length + 6)) r

/-- the line automaton (see `lineStateA` of Proofs/PlainSpecial.lean).  State `some a`: the
    current line consists of white space and `\verb` with blank content so far, `a` = there was
    such a `\verb`; `none`: the line has a visible character. -/
def lineA : Option Bool → List VAtom → Option (Option Bool)
  | σ, [] => some σ
  | σ, .chr c :: r =>
    if c == nl then (if σ == some true then none else lineA (some false) r)
    else if isSpace c then lineA σ r
    else lineA none r
  | σ, .verb _ s :: r => lineA (if isBlank s then σ.map (fun _ => true) else none) r
  | _, .bad _ _ :: r => lineA none r

/-- no line consists only of white space and `\verb` with blank content, with at least one `\verb` -/
def linesOKA (atoms : List VAtom) : Bool :=
  match lineA (some false) atoms with
  | some s => s != some true
  | none => false

theorem idxOf_append_stop (f : Char → Bool) (x : Char) (R : Str) :
    ∀ s : Str, (∀ c ∈ s, f c = false) → f x = true → idxOf f (s ++ x :: R) = s.length
  | [], _, hx => by simp [idxOf, hx]
  | c :: cs, hs, hx => by
    have := idxOf_append_stop f x R cs (fun y hy => hs y (List.mem_cons_of_mem _ hy)) hx
    simp [idxOf, hs c (List.mem_cons_self ..), this]

theorem idxOf_all_false (f : Char → Bool) :
    ∀ s : Str, (∀ c ∈ s, f c = false) → idxOf f s = s.length
  | [], _ => rfl
  | c :: cs, hs => by
    have := idxOf_all_false f cs (fun y hy => hs y (List.mem_cons_of_mem _ hy))
    simp [idxOf, hs c (List.mem_cons_self ..), this]

theorem nextToken_sVerb (T : Tables) (src : Str) (pos : Nat) (d : Char) (X : Str)
    (hd : macroChar d = false) (hm : matchSpecial T (sVerb ++ d :: X) = none) :
    nextToken T src pos (sVerb ++ d :: X) = scanVerb T src pos (sVerb ++ d :: X) := by
  have hlen : macroLen (sVerb ++ d :: X) = 5 := by
    simp [macroLen, sVerb, hd, show macroChar 'v' = true by decide,
      show macroChar 'e' = true by decide, show macroChar 'r' = true by decide,
      show macroChar 'b' = true by decide]
  have htake : (sVerb ++ d :: X).take 5 = sVerb := by simp [sVerb]
  have hm' : matchSpecial T ('\\' :: 'v' :: 'e' :: 'r' :: 'b' :: d :: X) = none := hm
  show nextToken T src pos ('\\' :: 'v' :: 'e' :: 'r' :: 'b' :: d :: X) = _
  unfold nextToken
  simp only [show isSpace '\\' = false by decide, Bool.false_eq_true, if_false,
    show ('\\' == '%') = false by decide, show ('\\' == '#') = false by decide, hm',
    beq_self_eq_true, if_true]
  show scanMacro T src pos (sVerb ++ d :: X) = _
  simp only [scanMacro, hlen, htake, show (sVerb == sBegin) = false by decide,
    show (sVerb == sEnd) = false by decide, show (sVerb == sItem) = false by decide,
    beq_self_eq_true, Bool.false_eq_true, if_false, if_true]

theorem nextToken_verb (T : Tables) (src : Str) (pos : Nat) (d : Char) (s R : Str)
    (hd : macroChar d = false) (hnl : d ≠ nl) (hs : ∀ c ∈ s, c ≠ d ∧ c ≠ nl)
    (hm : matchSpecial T (sVerb ++ d :: (s ++ d :: R)) = none) :
    nextToken T src pos (sVerb ++ d :: (s ++ d :: R))
      = { tok := { kind := .verb false, pos := pos + 6, txt := s }, len := s.length + 7 } := by
  rw [nextToken_sVerb T src pos d _ hd hm]
  have hdrop : (sVerb ++ d :: (s ++ d :: R)).drop 5 = d :: (s ++ d :: R) := by simp [sVerb]
  have hj : idxOf (fun c => c == d || c == nl) (s ++ d :: R) = s.length :=
    idxOf_append_stop _ d R s (fun c hc => by simp [(hs c hc).1, (hs c hc).2]) (by simp)
  have hdn : (d == nl) = false := by simpa using hnl
  simp only [scanVerb, hdrop, hj, List.drop_left, hdn, Bool.false_eq_true, if_false,
    List.take_left]
  congr 1
  omega

theorem drop_verb (d : Char) (s R : Str) : (sVerb ++ d :: (s ++ d :: R)).drop (s.length + 7) = R := by
  have e : sVerb ++ d :: (s ++ d :: R) = (sVerb ++ d :: (s ++ [d])) ++ R := by simp
  rw [e, List.drop_left']
  simp [sVerb]

theorem scans_verb (T : Tables) (src : Str) (pos : Nat) (d : Char) (s R : Str)
    (hd : macroChar d = false) (hnl : d ≠ nl) (hs : ∀ c ∈ s, c ≠ d ∧ c ≠ nl)
    (hm : matchSpecial T (sVerb ++ d :: (s ++ d :: R)) = none) :
    Scans T src pos (sVerb ++ d :: (s ++ d :: R))
      [{ tok := { kind := .verb false, pos := pos + 6, txt := s }, len := s.length + 7 }]
      (pos + (s.length + 7)) R :=
  Scans.step (c := '\\') (cs := 'v' :: 'e' :: 'r' :: 'b' :: d :: (s ++ d :: R))
    (nextToken_verb T src pos d s R hd hnl hs hm) (drop_verb d s R)

def badStep (T : Tables) (src : Str) (pos : Nat) (k : Nat) : ScanStep :=
  { tok := (latexErrorToks T errBadVerb pos src.length).headD default,
    len := k, diag := some (latexErrorDiag errBadVerb pos src),
    extra := (latexErrorToks T errBadVerb pos src.length).tail }

theorem nextToken_bad (T : Tables) (src : Str) (pos : Nat) (d : Char) (s R : Str)
    (hd : macroChar d = false) (hs : ∀ c ∈ s, c ≠ d ∧ c ≠ nl)
    (hR : R = [] ∨ ∃ R', R = nl :: R')
    (hm : matchSpecial T (sVerb ++ d :: (s ++ R)) = none) :
    nextToken T src pos (sVerb ++ d :: (s ++ R)) = badStep T src pos (s.length + 6) := by
  rw [nextToken_sVerb T src pos d _ hd hm]
  have hdrop : (sVerb ++ d :: (s ++ R)).drop 5 = d :: (s ++ R) := by simp [sVerb]
  have hf : ∀ c ∈ s, (c == d || c == nl) = false := fun c hc => by simp [(hs c hc).1, (hs c hc).2]
  rcases hR with rfl | ⟨R', rfl⟩
  · have hj : idxOf (fun c => c == d || c == nl) (s ++ []) = s.length := by
      rw [List.append_nil]; exact idxOf_all_false _ s hf
    simp only [scanVerb, hdrop, hj, List.drop_left, badStep]
    congr 1
    omega
  · have hj : idxOf (fun c => c == d || c == nl) (s ++ nl :: R') = s.length :=
      idxOf_append_stop _ nl R' s hf (by simp)
    simp only [scanVerb, hdrop, hj, List.drop_left, beq_self_eq_true, if_true, badStep]
    congr 1
    omega


theorem hasNl_false_of_sublist {a b : Str} (h : List.Sublist a b) (hb : hasNl b = false) :
    hasNl a = false := by
  cases ha : hasNl a with
  | false => rfl
  | true =>
    have : hasNl b = true := by
      simp only [hasNl, List.contains_iff_mem] at ha ⊢
      exact h.subset ha
    rw [hb] at this; cases this

theorem errMark_shape (T : Tables) (hm : markOk T = true) :
    ∃ (c : Char) (Y : Str), errMark T errBadVerb = ' ' :: c :: (Y ++ [' ']) ∧ isSpace c = false ∧
      hasNl (errMark T errBadVerb) = false := by
  unfold markOk at hm
  cases hmk : T.mark with
  | nil => rw [hmk] at hm; simp at hm
  | cons c m =>
    rw [hmk] at hm
    simp only [Bool.and_eq_true, Bool.not_eq_true'] at hm
    obtain ⟨hc, hn⟩ := hm
    refine ⟨c, m ++ (if T.markVerbose then ' ' :: '(' :: (errBadVerb ++ [')']) else []), ?_, hc, ?_⟩
    · unfold errMark
      rw [hmk]
      cases T.markVerbose <;> simp
    · unfold errMark
      rw [hmk]
      have he : hasNl errBadVerb = false := by decide
      cases T.markVerbose <;>
        simp only [hasNl_append, hn, he, Bool.false_eq_true, if_false, if_true] <;> decide

theorem latexErrorToks_cases (T : Tables) (p n : Nat) (hk : 2 ≤ n - p) (hm : markOk T = true) :
    ∃ (c : Char) (u : Str), isSpace c = false ∧
      (latexErrorToks T errBadVerb p n = [{ kind := .text, pos := p, txt := ' ' :: c :: u, fix := true }] ∨
       ∃ (q : Nat) (v : Str), latexErrorToks T errBadVerb p n =
         [{ kind := .text, pos := p, txt := ' ' :: c :: u, fix := true },
          { kind := .text, pos := q, txt := v ++ [' '], fix := true }]) ∧
      (∀ t ∈ latexErrorToks T errBadVerb p n, hasNl t.txt = false) := by
  obtain ⟨c, Y, hsh, hc, hnl⟩ := errMark_shape T hm
  have hlen : (errMark T errBadVerb).length = Y.length + 3 := by rw [hsh]; simp
  obtain ⟨j, hj⟩ : ∃ j, min (errMark T errBadVerb).length (n - p) = j + 2 :=
    ⟨min (errMark T errBadVerb).length (n - p) - 2, by omega⟩
  refine ⟨c, (Y ++ [' ']).take j, hc, ?_, ?_⟩
  · unfold latexErrorToks
    simp only [hj]
    split
    · rename_i hlt
      right
      refine ⟨p + (j + 2) - 1, Y.drop j, ?_⟩
      rw [hsh]
      have : j ≤ Y.length := by omega
      simp [List.drop_append_of_le_length this]
    · left
      rw [hsh]
      simp
  · intro t ht
    have hsub : ∀ k, List.Sublist ((errMark T errBadVerb).take k) (errMark T errBadVerb) ∧
        List.Sublist ((errMark T errBadVerb).drop k) (errMark T errBadVerb) :=
      fun k => ⟨List.take_sublist _ _, List.drop_sublist _ _⟩
    unfold latexErrorToks at ht
    simp only [] at ht
    split at ht
    · simp only [List.mem_cons, List.not_mem_nil, or_false] at ht
      rcases ht with rfl | rfl
      · exact hasNl_false_of_sublist (hsub _).1 hnl
      · exact hasNl_false_of_sublist (hsub _).2 hnl
    · simp only [List.mem_cons, List.not_mem_nil, or_false] at ht
      subst ht
      exact hasNl_false_of_sublist (hsub _).1 hnl

theorem latexErrorToks_txtpos (T : Tables) (p n : Nat) :
    getTxtPos (latexErrorToks T errBadVerb p n)
      = ((markOut T n p).map (·.1), (markOut T n p).map (·.2)) := by
  unfold latexErrorToks markOut
  simp only []
  have hmx : min (errMark T errBadVerb).length (n - p) ≤ (errMark T errBadVerb).length := Nat.min_le_left _ _
  generalize min (errMark T errBadVerb).length (n - p) = mx at hmx
  generalize errMark T errBadVerb = mark at hmx
  split
  · simp [getTxtPos, tokPositions, Function.comp_def, List.map_const', Nat.min_eq_left hmx]
  · rename_i h
    have h1 : mark.length ≤ mx := by omega
    simp [getTxtPos, tokPositions, Function.comp_def, List.take_of_length_le h1,
      List.drop_of_length_le h1, List.map_const']

/-- what `expandSequence` emits for one scanner token: the token of a `\verb` becomes an Action
    token and a text token with the content, at the position of the content -/
def expTokV (t : Tok) : List Tok :=
  if t.kind == .verb false then
    [mkAction t.pos, { kind := .text, pos := t.pos, txt := t.txt, fix := t.fix }]
  else [t]

def VSeq (T : PTables) (st : PState) : List Tok → Prop
  | [] => True
  | t :: rest => ((PlainTok t ∧ PassTok T st t rest) ∨ t.kind = .verb false) ∧ VSeq T st rest

theorem VSeq.notComment {T : PTables} {st : PState} : ∀ {toks : List Tok}, VSeq T st toks →
    ∀ t ∈ toks, t.kind ≠ .comment
  | [], _, _, h => nomatch h
  | _ :: _, hs, x, hx => by
    rcases List.mem_cons.mp hx with rfl | hx
    · rcases hs.1 with ⟨h1, _⟩ | h
      · exact h1.notComment
      · rw [h]; simp
    · exact VSeq.notComment hs.2 x hx

theorem VSeq_append_plain {T : PTables} {st : PState} : ∀ (a b : List Tok),
    (∀ t ∈ a, PlainTok t ∧ (activeChars T st).contains t.txt = false) → VSeq T st b →
    VSeq T st (a ++ b)
  | [], _, _, hb => hb
  | t :: a, b, ha, hb =>
    ⟨Or.inl ⟨(ha t (List.mem_cons_self ..)).1, Or.inl (ha t (List.mem_cons_self ..)).2⟩,
      VSeq_append_plain a b (fun x hx => ha x (List.mem_cons_of_mem _ hx)) hb⟩

theorem expTokV_plain (t : Tok) (h : PlainTok t) : expTokV t = [t] := by
  unfold expTokV
  rcases h.kind with hk | hk | hk <;> simp [hk]

theorem seqRun_verbTok {T : PTables} {tok : Tok} {rest : Buf} {envStop : Option Str} {out : List Tok}
    {st : PState} (hk : tok.kind = .verb false) :
    SeqRun T envStop 0 1 (tok :: rest) out st rest (out ++ expTokV tok) st := by
  refine .one fun f => ?_
  rw [loop_verb hk]
  simp only [expTokV, hk, beq_self_eq_true, if_true]

theorem seqRun_verb (T : PTables) {st0 st : PState} (hr : Ext st0 st) (envStop : Option Str) :
    ∀ (toks : List Tok) (out : List Tok), VSeq T st0 toks →
      SeqRun T envStop 0 toks.length toks out st [] (out ++ toks.flatMap expTokV) st
  | [], out, _ => by rw [List.flatMap_nil, List.append_nil]; exact .refl
  | t :: ts, out, hp => by
    have S : SeqRun T envStop 0 1 (t :: ts) out st ts (out ++ expTokV t) st := by
      rcases hp.1 with ⟨h1, h2⟩ | h
      · rw [expTokV_plain _ h1]; exact seqRun_plainTok h1 (hr.passTok h2)
      · exact seqRun_verbTok h
    rw [List.flatMap_cons]
    exact S.app_comm (seqRun_verb T hr envStop ts (out ++ expTokV t) hp.2) (Nat.zero_le _)

def stepToks (steps : List ScanStep) : List Tok := (steps.map (fun s => s.tok :: s.extra)).flatten
def stepDiags (steps : List ScanStep) : List Diag := (steps.map (·.diag.toList)).flatten

theorem stepToks_cons (s : ScanStep) (ss : List ScanStep) :
    stepToks (s :: ss) = (s.tok :: s.extra) ++ stepToks ss := rfl

theorem stepDiags_cons (s : ScanStep) (ss : List ScanStep) :
    stepDiags (s :: ss) = s.diag.toList ++ stepDiags ss := rfl

structure VFacts (T : PTables) (st : PState) (src : Str) (pos : Nat) (atoms : List VAtom)
    (steps : List ScanStep) : Prop where
  seq : VSeq T st (stepToks steps)
  first : ∀ t ts c, stepToks steps = t :: ts → followOk T st c atoms = true →
    (shortKeys T st).contains (c :: t.txt) = false
  txt : getTxtPos ((stepToks steps).flatMap expTokV)
    = ((outA T.toTables src.length pos atoms).map (·.1), (outA T.toTables src.length pos atoms).map (·.2))
  diags : stepDiags steps = diagsA src pos atoms
  len : (stepToks steps).length ≤ (renderA atoms).length
  lines : LineSim ((stepToks steps).flatMap expTokV) (lineA · atoms)

theorem VFacts_nil (T : PTables) (st : PState) (src : Str) (pos : Nat) : VFacts T st src pos [] [] where
  seq := trivial
  first := by intro t ts c h; cases h
  txt := rfl
  diags := rfl
  len := Nat.le_refl _
  lines := LineSim.nil

theorem VFacts.cons {T : PTables} {st : PState} {src : Str} {pos : Nat} {atoms r' : List VAtom}
    (s : ScanStep) (ss : List ScanStep) (k : Nat) (A : List (Char × Nat))
    (I : VFacts T st src (pos + k) r' ss)
    (hseq : VSeq T st ((s.tok :: s.extra) ++ stepToks ss))
    (hfirst : ∀ c, followOk T st c atoms = true → (shortKeys T st).contains (c :: s.tok.txt) = false)
    (hout : getTxtPos ((s.tok :: s.extra).flatMap expTokV) = (A.map (·.1), A.map (·.2)))
    (houtA : outA T.toTables src.length pos atoms = A ++ outA T.toTables src.length (pos + k) r')
    (hdiag : diagsA src pos atoms = s.diag.toList ++ diagsA src (pos + k) r')
    (hlen : (s.tok :: s.extra).length + (renderA r').length ≤ (renderA atoms).length)
    {δ : Option Bool → Option (Option Bool)} (hl1 : LineSim ((s.tok :: s.extra).flatMap expTokV) δ)
    (hl2 : ∀ σ, lineA σ atoms = match δ σ with
        | none => none
        | some σ' => lineA σ' r') :
    VFacts T st src pos atoms (s :: ss) where
  seq := by rw [stepToks_cons]; exact hseq
  first := by
    intro t ts c he hc
    rw [stepToks_cons] at he
    simp only [List.cons_append, List.cons.injEq] at he
    rw [← he.1]; exact hfirst c hc
  txt := by
    rw [stepToks_cons, List.flatMap_append, getTxtPos_append, hout, I.txt, houtA]
    simp
  diags := by rw [stepDiags_cons, I.diags, hdiag]
  len := by
    have := I.len
    rw [stepToks_cons, List.length_append]
    omega
  lines := by
    rw [stepToks_cons, List.flatMap_append]
    exact hl1.cons I.lines hl2

def FirstOk (T : PTables) (st : PState) (r : List VAtom) (nxt : List Tok) : Prop :=
  ∀ t ts c, nxt = t :: ts → followOk T st c r = true → (shortKeys T st).contains (c :: t.txt) = false

/-- the link between one scanner step and the specification functions; `r'` = the atoms behind
    the step -/
structure VStep (T : PTables) (st : PState) (src : Str) (pos : Nat) (atoms r' : List VAtom)
    (s : ScanStep) : Prop where
  len_pos : 1 ≤ s.len
  len_le : s.len ≤ (renderA atoms).length
  drop : (renderA atoms).drop s.len = renderA r'
  ok : atomsOk T st r' = true
  tokn : (s.tok :: s.extra).length ≤ s.len
  seq : ∀ nxt, FirstOk T st r' nxt → VSeq T st nxt → VSeq T st ((s.tok :: s.extra) ++ nxt)
  first : ∀ c, followOk T st c atoms = true → (shortKeys T st).contains (c :: s.tok.txt) = false
  out : ∃ A, getTxtPos ((s.tok :: s.extra).flatMap expTokV) = (A.map (·.1), A.map (·.2)) ∧
    outA T.toTables src.length pos atoms = A ++ outA T.toTables src.length (pos + s.len) r'
  diag : diagsA src pos atoms = s.diag.toList ++ diagsA src (pos + s.len) r'
  lines : ∃ δ, LineSim ((s.tok :: s.extra).flatMap expTokV) δ ∧
    ∀ σ, lineA σ atoms = match δ σ with
      | none => none
      | some σ' => lineA σ' r'

theorem VFacts.step {T : PTables} {st : PState} {src : Str} {pos : Nat} {atoms r' : List VAtom}
    (s : ScanStep) (ss : List ScanStep) (L : VStep T st src pos atoms r' s)
    (I : VFacts T st src (pos + s.len) r' ss) : VFacts T st src pos atoms (s :: ss) := by
  obtain ⟨A, ho1, ho2⟩ := L.out
  obtain ⟨δ, d1, d2⟩ := L.lines
  refine VFacts.cons s ss s.len A I (L.seq _ I.first I.seq) L.first ho1 ho2 L.diag ?_ d1 d2
  have h1 := L.tokn
  have h2 := congrArg List.length L.drop
  have h3 := L.len_le
  simp only [List.length_drop] at h2
  omega

theorem renderA_chr (c : Char) (r : List VAtom) : renderA (.chr c :: r) = c :: renderA r := rfl

theorem renderA_verb (d : Char) (s : Str) (r : List VAtom) :
    renderA (.verb d s :: r) = sVerb ++ d :: (s ++ d :: renderA r) := by
  simp [renderA, VAtom.render]

theorem renderA_bad (d : Char) (s : Str) (r : List VAtom) :
    renderA (.bad d s :: r) = sVerb ++ d :: (s ++ renderA r) := by
  simp [renderA, VAtom.render]

theorem atoms_space_run (T : PTables) (st : PState) (n : Nat) (src : Str) :
    ∀ (k : Nat) (atoms : List VAtom), k ≤ (renderA atoms).length →
      (∀ x ∈ (renderA atoms).take k, isSpace x = true) → atomsOk T st atoms = true →
      ∃ r', renderA r' = (renderA atoms).drop k ∧ atomsOk T st r' = true ∧
        (∀ p, outA T.toTables n p atoms
          = posText p ((renderA atoms).take k) ++ outA T.toTables n (p + k) r') ∧
        (∀ p, diagsA src p atoms = diagsA src (p + k) r') ∧
        (∀ σ, lineA σ atoms = if hasNl ((renderA atoms).take k) then
            (if σ == some true then none else lineA (some false) r') else lineA σ r')
  | 0, atoms, _, _, h => ⟨atoms, by simp, h, by simp [posText], by simp, by simp [hasNl]⟩
  | k + 1, [], hk, _, _ => by simp [renderA] at hk
  | k + 1, .chr c :: r, hk, hsp, h => by
    simp only [atomsOk, Bool.and_eq_true] at h
    rw [renderA_chr] at hk hsp ⊢
    have hc : isSpace c = true := hsp c (by simp)
    obtain ⟨r', e1, e2, e3, e4, e5⟩ := atoms_space_run T st n src k r (by simpa using hk)
      (fun x hx => hsp x (by simp [hx])) h.2
    refine ⟨r', by simpa using e1, e2, ?_, ?_, ?_⟩
    · intro p
      simp only [outA, List.take_succ_cons, posText, e3, List.cons_append]
      rw [show p + 1 + k = p + (k + 1) by omega]
    · intro p
      simp only [diagsA, e4]
      rw [show p + 1 + k = p + (k + 1) by omega]
    · intro σ
      simp only [lineA, List.take_succ_cons, e5]
      by_cases hn : c = nl
      · subst hn
        have : hasNl (nl :: (renderA r).take k) = true := by simp [hasNl]
        simp only [beq_self_eq_true, if_true, this]
        cases σ with
        | none => simp
        | some a => cases a <;> simp
      · have h1 : (c == nl) = false := by simpa using hn
        have h2 : hasNl (c :: (renderA r).take k) = hasNl ((renderA r).take k) := by
          simp only [hasNl, List.contains_cons]
          have : (nl == c) = false := by simpa using fun e : nl = c => hn e.symm
          rw [this, Bool.false_or]
        simp only [h1, Bool.false_eq_true, if_false, hc, if_true, h2]
  | k + 1, .verb d s :: r, _, hsp, _ => by
    rw [renderA_verb] at hsp
    exact absurd (hsp '\\' (by simp [sVerb])) (by decide)
  | k + 1, .bad d s :: r, _, hsp, _ => by
    rw [renderA_bad] at hsp
    exact absurd (hsp '\\' (by simp [sVerb])) (by decide)

theorem vstep_char (T : PTables) (st : PState) (src : Str) (pos : Nat) (c : Char) (r : List VAtom)
    (hsp : isSpace c = false) (hok : atomsOk T st (.chr c :: r) = true) :
    VStep T st src pos (.chr c :: r) r (nextToken T.toTables src pos (renderA (.chr c :: r))) := by
  simp only [atomsOk, Bool.and_eq_true] at hok
  obtain ⟨hc, hr⟩ := hok
  obtain ⟨hact, hsnd⟩ := Bool.and_eq_true_iff.mp hc
  simp only [Bool.or_eq_true, Bool.and_eq_true, Bool.not_eq_true', hsp, Bool.not_false, true_and] at hact
  obtain ⟨s, hs, hp, hone, -, X, -⟩ := Scans.text T src pos c (renderA r) (textChar_cases hsnd)
  rw [renderA_chr, hs]
  obtain ⟨hlen, hkind⟩ := hone hsp
  have htxt : s.tok.txt = [c] := by rw [hp.txt, hlen]; rfl
  have hexp : expTokV s.tok = [s.tok] := expTokV_plain _ hp.tok
  have hcn : c ≠ nl := by
    intro e
    rw [e] at hsp
    exact absurd hsp (by decide)
  have hnb : isBlank [c] = false := by simp [isBlank, hsp]
  refine ⟨hp.len_pos, hp.len_le, by rw [hlen]; rfl, hr, by rw [hp.extra, hlen]; exact Nat.le_refl _,
    ?_, ?_, ?_, ?_, ?_⟩
  · intro nxt hF hV
    rw [hp.extra]
    exact ⟨Or.inl ⟨hp.tok, PlainMacro.passTok_text T st X (fun h => (hone h).1) nxt
      (hact.imp id (fun h => ⟨hsp, fun t ts e => hF t ts c e h⟩))⟩, hV⟩
  · intro c' hc'
    rw [htxt]
    simpa [followOk, firstTokTxt, hsp] using hc'
  · refine ⟨[(c, pos)], ?_, by rw [hlen]; rfl⟩
    rw [hp.extra]
    simp [hexp, getTxtPos, tokPositions, htxt, hp.fix, hp.pos]
  · rw [hp.diag, hlen]; rfl
  · have hl := lineSim_txt hkind X.ne (by rw [htxt]; exact PlainMacro.hasNl_single c hsp)
    rw [← hexp, ← List.flatMap_singleton (f := expTokV), ← hp.extra] at hl
    exact ⟨_, hl, fun σ => by simp [lineA, hcn, hsp, htxt, hnb]⟩

theorem vstep_ws (T : PTables) (st : PState) (src : Str) (pos : Nat) (c : Char) (r : List VAtom)
    (hsp : isSpace c = true) (hok : atomsOk T st (.chr c :: r) = true) :
    ∃ r', VStep T st src pos (.chr c :: r) r'
      (nextToken T.toTables src pos (renderA (.chr c :: r))) := by
  have hok0 := hok
  simp only [atomsOk, Bool.and_eq_true] at hok
  have hact := (Bool.and_eq_true_iff.mp hok.1).1
  simp only [Bool.or_eq_true, Bool.and_eq_true, Bool.not_eq_true', hsp, Bool.not_true,
    Bool.false_eq_true, false_and, or_false] at hact
  have hnsp : isSpace c = false → False := fun h => by rw [hsp] at h; cases h
  obtain ⟨s, hs, hp, -, hk, X, -⟩ := Scans.text T src pos c (renderA r) (Or.inl hsp)
  have hkind := hk hsp
  rw [renderA_chr, hs]
  have hblank : isBlank s.tok.txt = true := X.blankOrOne.resolve_right (fun h => hnsp h.2)
  obtain ⟨r', e1, e2, e3, e4, e5⟩ := atoms_space_run T st src.length src s.len (.chr c :: r)
    hp.len_le (X.blank hsp) hok0
  rw [renderA_chr, ← hp.txt] at e3 e5
  have hexp : expTokV s.tok = [s.tok] := expTokV_plain _ hp.tok
  refine ⟨r', hp.len_pos, hp.len_le, e1.symm, e2, by rw [hp.extra]; exact hp.len_pos, ?_, ?_, ?_, ?_, ?_⟩
  · intro nxt _ hV
    rw [hp.extra]
    exact ⟨Or.inl ⟨hp.tok, PlainMacro.passTok_text T st X (fun h => (hnsp h).elim) nxt (Or.inl hact)⟩, hV⟩
  · intro c' hc'
    rw [hp.first]
    simpa [followOk] using hc'
  · refine ⟨posText pos s.tok.txt, ?_, e3 pos⟩
    rw [hp.extra]
    simp only [List.flatMap_cons, List.flatMap_nil, List.append_nil, hexp]
    rw [getTxtPos_cons_plain _ _ hp.fix, hp.pos, posText_fst, posText_snd]
    simp [getTxtPos]
  · rw [hp.diag]; exact e4 pos
  · have hl := lineSim_ws hkind X.ne hblank
    rw [← hexp, ← List.flatMap_singleton (f := expTokV), ← hp.extra] at hl
    refine ⟨_, hl, fun σ => ?_⟩
    rw [e5 σ]
    cases hasNl s.tok.txt
    · simp
    · by_cases hσ : (σ == some true) = true <;> simp [hσ]

theorem verb_all_facts {d : Char} {s : Str} (h : s.all (fun c => c != d && c != nl) = true) :
    (∀ c ∈ s, c ≠ d ∧ c ≠ nl) ∧ hasNl s = false := by
  rw [List.all_eq_true] at h
  have h1 : ∀ c ∈ s, c ≠ d ∧ c ≠ nl := by
    intro c hc
    have := h c hc
    simpa using this
  refine ⟨h1, ?_⟩
  cases hn : hasNl s with
  | false => rfl
  | true =>
    simp only [hasNl, List.contains_iff_mem] at hn
    exact absurd rfl (h1 nl hn).2

theorem drop_bad (d : Char) (s R : Str) : (sVerb ++ d :: (s ++ R)).drop (s.length + 6) = R := by
  have e : sVerb ++ d :: (s ++ R) = (sVerb ++ d :: s) ++ R := by simp
  rw [e, List.drop_left']
  simp [sVerb]

theorem vstep_verb (T : PTables) (st : PState) (src : Str) (pos : Nat) (d : Char) (s : Str)
    (r : List VAtom) (hok : atomsOk T st (.verb d s :: r) = true) :
    VStep T st src pos (.verb d s :: r) r
      (nextToken T.toTables src pos (renderA (.verb d s :: r))) := by
  simp only [atomsOk, Bool.and_eq_true] at hok
  obtain ⟨hv, hr⟩ := hok
  simp only [verbOk, Bool.and_eq_true, Bool.not_eq_true', bne_iff_ne, ne_eq,
    Option.isNone_iff_eq_none] at hv
  obtain ⟨⟨⟨hd, hdn⟩, hall⟩, hms⟩ := hv
  obtain ⟨hs, hsn⟩ := verb_all_facts hall
  rw [renderA_verb, nextToken_verb T.toTables src pos d s (renderA r) hd hdn hs hms]
  refine ⟨by simp, ?_, ?_, hr, by simp, ?_, ?_, ?_, ?_, ?_⟩
  · rw [renderA_verb]; simp [sVerb]
  · rw [renderA_verb]; exact drop_verb d s _
  · intro nxt _ hV
    exact ⟨Or.inr rfl, hV⟩
  · intro c' hc'
    simpa [followOk] using hc'
  · refine ⟨posText (pos + 6) s, ?_, rfl⟩
    simp [expTokV, getTxtPos, tokPositions, mkAction, posText_fst, posText_snd,
      List.range'_eq_map_range]
  · rfl
  · exact ⟨_, lineSim_action_text (pos + 6) s false hsn, fun _ => rfl⟩

theorem append_blank_ne (v x : Str) (hx : x.getLast? ≠ some ' ') : (v ++ [' '] == x) = false := by
  cases h : v ++ [' '] == x with
  | false => rfl
  | true =>
    rw [beq_iff_eq] at h
    rw [← h] at hx
    simp at hx

theorem plainTok_of_last (t : Tok) (v : Str) (ht : t.txt = v ++ [' ']) (hk : t.kind = .text) :
    PlainTok t := by
  refine ⟨Or.inl hk, ?_, ?_, ?_, ?_, ?_, ?_, ?_⟩ <;>
    (simp only [txtIs, ht]; exact append_blank_ne v _ (by decide))

theorem vstep_bad (T : PTables) (st : PState) (src : Str) (pos : Nat) (d : Char) (s : Str)
    (r : List VAtom) (hpos : pos + (renderA (.bad d s :: r)).length ≤ src.length)
    (hok : atomsOk T st (.bad d s :: r) = true) :
    VStep T st src pos (.bad d s :: r) r
      (nextToken T.toTables src pos (renderA (.bad d s :: r))) := by
  simp only [atomsOk, Bool.and_eq_true] at hok
  obtain ⟨hv, hr⟩ := hok
  simp only [badOk, Bool.and_eq_true, Bool.not_eq_true', Option.isNone_iff_eq_none] at hv
  obtain ⟨⟨⟨⟨⟨hd, hall⟩, hR⟩, hms⟩, hmark⟩, hblank⟩ := hv
  obtain ⟨hs, _⟩ := verb_all_facts hall
  have hR' : renderA r = [] ∨ ∃ R', renderA r = nl :: R' := by
    cases r with
    | nil => exact Or.inl rfl
    | cons a r2 =>
      cases a with
      | chr c =>
        have : c = nl := by simpa using hR
        subst this
        exact Or.inr ⟨renderA r2, rfl⟩
      | verb _ _ => simp at hR
      | bad _ _ => simp at hR
  have hk : 2 ≤ src.length - pos := by
    rw [renderA_bad] at hpos
    simp [sVerb] at hpos
    omega
  rw [renderA_bad, nextToken_bad T.toTables src pos d s (renderA r) hd hs hR' hms]
  obtain ⟨c, u, hc, hcases, hnl⟩ := latexErrorToks_cases T.toTables pos src.length hk hmark
  have htp := latexErrorToks_txtpos T.toTables pos src.length
  have htoks : (badStep T.toTables src pos (s.length + 6)).tok ::
      (badStep T.toTables src pos (s.length + 6)).extra
        = latexErrorToks T.toTables errBadVerb pos src.length := by
    rcases hcases with h | ⟨q, v, h⟩ <;> simp [badStep, h]
  have hlen : (badStep T.toTables src pos (s.length + 6)).len = s.length + 6 := rfl
  have hdiag : (badStep T.toTables src pos (s.length + 6)).diag
      = some (latexErrorDiag errBadVerb pos src) := rfl
  have htxt1 : ∀ c', followOk T st c' (.bad d s :: r) = true →
      (shortKeys T st).contains (c' :: (badStep T.toTables src pos (s.length + 6)).tok.txt) = false := by
    intro c' h; simp [followOk] at h
  generalize badStep T.toTables src pos (s.length + 6) = b at htoks hlen hdiag htxt1
  generalize hE : latexErrorToks T.toTables errBadVerb pos src.length = E at htoks hcases hnl htp
  have hplain : ∀ t ∈ E, PlainTok t ∧ (activeChars T st).contains t.txt = false ∧ t.kind = .text ∧
      t.txt ≠ [] := by
    have h1 : PlainTok ({ kind := .text, pos := pos, txt := ' ' :: c :: u, fix := true } : Tok) ∧
        (activeChars T st).contains (' ' :: c :: u) = false :=
      ⟨plainTok_of_head _ ' ' (c :: u) rfl (Or.inl rfl) (by decide), not_active_cons T st ' ' _ hblank⟩
    have h2 : ∀ (q : Nat) (v : Str),
        PlainTok ({ kind := .text, pos := q, txt := v ++ [' '], fix := true } : Tok) ∧
        (activeChars T st).contains (v ++ [' ']) = false := by
      intro q v
      refine ⟨plainTok_of_last _ v rfl rfl, ?_⟩
      cases v with
      | nil => exact hblank
      | cons a v' =>
        cases hcn : (activeChars T st).contains (a :: v' ++ [' ']) with
        | false => rfl
        | true =>
          have := activeChars_length T st _ (List.contains_iff_mem.mp hcn)
          simp at this
    intro t ht
    rcases hcases with h | ⟨q, v, h⟩
    · rw [h] at ht
      simp only [List.mem_cons, List.not_mem_nil, or_false] at ht
      subst ht
      exact ⟨h1.1, h1.2, rfl, by simp⟩
    · rw [h] at ht
      simp only [List.mem_cons, List.not_mem_nil, or_false] at ht
      rcases ht with rfl | rfl
      · exact ⟨h1.1, h1.2, rfl, by simp⟩
      · exact ⟨(h2 q v).1, (h2 q v).2, rfl, by simp⟩
  have hexp : E.flatMap expTokV = E := by
    have : ∀ l : List Tok, (∀ t ∈ l, PlainTok t) → l.flatMap expTokV = l := by
      intro l
      induction l with
      | nil => intro _; rfl
      | cons t l ih =>
        intro h
        rw [List.flatMap_cons, expTokV_plain t (h t (List.mem_cons_self ..)),
          ih (fun x hx => h x (List.mem_cons_of_mem _ hx))]
        rfl
    exact this E (fun t ht => (hplain t ht).1)
  have hElen : E.length ≤ 2 := by
    rcases hcases with h | ⟨q, v, h⟩ <;> simp [h]
  refine ⟨by omega, ?_, ?_, hr, ?_, ?_, htxt1, ?_, ?_, ?_⟩
  · rw [renderA_bad, hlen]; simp [sVerb]
  · rw [renderA_bad, hlen]; exact drop_bad d s _
  · rw [htoks, hlen]; omega
  · intro nxt _ hV
    rw [htoks]
    exact VSeq_append_plain E nxt (fun t ht => ⟨(hplain t ht).1, (hplain t ht).2.1⟩) hV
  · refine ⟨markOut T.toTables src.length pos, ?_, ?_⟩
    · rw [htoks, hexp, htp]
    · rw [hlen]; rfl
  · rw [hdiag, hlen]; rfl
  · have hnb : isBlank (' ' :: c :: u) = false := by simp [isBlank, hc]
    have l1 : hasNl (' ' :: c :: u) = false →
        LineSim [({ kind := .text, pos := pos, txt := ' ' :: c :: u, fix := true } : Tok)] (fun _ => some none) :=
      fun hn => by
        simpa only [hnb, Bool.false_eq_true, if_false] using
          lineSim_txt (t := { kind := .text, pos := pos, txt := ' ' :: c :: u, fix := true }) rfl
            (List.cons_ne_nil _ _) hn
    refine ⟨fun _ => some none, ?_, fun _ => rfl⟩
    rw [htoks, hexp]
    rcases hcases with rfl | ⟨q, v, rfl⟩
    · exact l1 (hnl _ (List.mem_cons_self ..))
    · exact (l1 (hnl _ (List.mem_cons_self ..))).cons
        (lineSim_txt (t := { kind := .text, pos := q, txt := v ++ [' '], fix := true }) rfl (by simp)
          (hnl _ (List.mem_cons_of_mem _ (List.mem_cons_self ..)))) (fun _ => by simp)

theorem render_ne_nil (a : VAtom) (r : List VAtom) : ∃ x xs, renderA (a :: r) = x :: xs := by
  cases a with
  | chr c => exact ⟨c, _, rfl⟩
  | verb d s => exact ⟨'\\', _, by rw [renderA_verb]; rfl⟩
  | bad d s => exact ⟨'\\', _, by rw [renderA_bad]; rfl⟩

theorem nextToken_vstep (T : PTables) (st : PState) (src : Str) (pos : Nat) (a : VAtom)
    (r : List VAtom) (hpos : pos + (renderA (a :: r)).length ≤ src.length)
    (hok : atomsOk T st (a :: r) = true) :
    ∃ r', VStep T st src pos (a :: r) r' (nextToken T.toTables src pos (renderA (a :: r))) := by
  cases a with
  | chr c =>
    cases hsp : isSpace c with
    | true => exact vstep_ws T st src pos c r hsp hok
    | false => exact ⟨r, vstep_char T st src pos c r hsp hok⟩
  | verb d s => exact ⟨r, vstep_verb T st src pos d s r hok⟩
  | bad d s => exact ⟨r, vstep_bad T st src pos d s r hpos hok⟩

/-- the scanner loop on a well-formed document (`n` bounds the length of the source that is left) -/
theorem scanAll_verb (T : PTables) (st : PState) (src : Str) :
    ∀ (n pos : Nat) (atoms : List VAtom), (renderA atoms).length ≤ n →
      pos + (renderA atoms).length ≤ src.length → atomsOk T st atoms = true →
      VFacts T st src pos atoms (scanAll T.toTables src pos (renderA atoms)).1 := by
  intro n
  induction n with
  | zero =>
    intro pos atoms hf _ _
    cases atoms with
    | nil => exact VFacts_nil T st src pos
    | cons a r =>
      obtain ⟨x, xs, hx⟩ := render_ne_nil a r
      rw [hx] at hf; simp at hf
  | succ n ih =>
    intro pos atoms hf hpos hok
    cases atoms with
    | nil => exact VFacts_nil T st src pos
    | cons a r =>
      obtain ⟨r', L⟩ := nextToken_vstep T st src pos a r hpos hok
      obtain ⟨x, xs, hx⟩ := render_ne_nil a r
      rw [hx] at L hf hpos ⊢
      generalize hs : nextToken T.toTables src pos (x :: xs) = s at L
      have h1 := L.len_pos
      have h2 := L.len_le
      have hd := L.drop
      rw [hx] at h2 hd
      rw [scanAll_step T.toTables src pos x xs s hs (by omega), hd]
      have hl : (renderA r').length = (x :: xs).length - s.len := by
        rw [← hd, List.length_drop]
      have I := ih (pos + s.len) r' (by rw [hl]; simp only [List.length_cons] at hf h2 ⊢; omega)
        (by rw [hl]; simp only [List.length_cons] at hpos h2 ⊢; omega) L.ok
      exact VFacts.step s _ L I

/-- the tokens of the result: the scanner tokens, each `\verb` token replaced by a text token with
    its content (empty contents dropped) -/
def verbOut (T : Tables) (src : Str) : List Tok :=
  ((scan T src).toks.flatMap expTokV).filter keepOut

theorem scan_verb (T : PTables) (st : PState) (atoms : List VAtom)
    (hok : atomsOk T st atoms = true) :
    (scan T.toTables (renderA atoms)).diags = diagsA (renderA atoms) 0 atoms ∧
    VSeq T st (scan T.toTables (renderA atoms)).toks ∧
    getTxtPos ((scan T.toTables (renderA atoms)).toks.flatMap expTokV)
      = ((outA T.toTables (renderA atoms).length 0 atoms).map (·.1),
         (outA T.toTables (renderA atoms).length 0 atoms).map (·.2)) ∧
    (scan T.toTables (renderA atoms)).toks.length ≤ (renderA atoms).length ∧
    LineSim ((scan T.toTables (renderA atoms)).toks.flatMap expTokV) (lineA · atoms) := by
  have F := scanAll_verb T st (renderA atoms) (renderA atoms).length 0 atoms (Nat.le_refl _)
    (by simp) hok
  exact ⟨F.diags, F.seq, F.txt, F.len, F.lines⟩

/-- **`tex2txt` on a well-formed document, complete result record.**  `st1` is the state after
    `Parser.__init__`; no `--defs`, `--extr`, `--repl`, `--unkn`; single-language mode.  The result
    tokens are the scanner tokens with every `\verb` token replaced by its content; the diagnostics of
    the unterminated `\verb`s are appended to `diags`; nothing else in the state changes. -/
theorem tex2txt_verb_atoms (T : PTables) (o : Options) (fs : FS) (thresh : Nat) (atoms : List VAtom)
    (fuel : Nat) (st1 : PState)
    (hdefs : o.defs = []) (hextr : o.extr = []) (hrepl : o.hasRepl = false)
    (hunkn : o.unkn = false)
    (hinit : initParser T fuel o (initialState T o false fs) = .ok ((), st1))
    (hok : atomsOk T st1 atoms = true) (hlines : linesOKA atoms = true)
    (hf : (renderA atoms).length + 2 ≤ fuel) :
    tex2txt T fuel (renderA atoms) o false thresh fs
      = .ok { toks := verbOut T.toTables (renderA atoms),
              txt := (outA T.toTables (renderA atoms).length 0 atoms).map (·.1),
              pos := (outA T.toTables (renderA atoms).length 0 atoms).map (·.2 + 1),
              parts := [], unknowns := [],
              diags := st1.diags ++ diagsA (renderA atoms) 0 atoms, foreign := false } := by
  obtain ⟨f, rfl⟩ : ∃ f, fuel = f + 1 := ⟨fuel - 1, by omega⟩
  obtain ⟨hd, hseq, htp, hlen, hlin⟩ := scan_verb T st1 atoms hok
  have hr : Ext st1 (workState (rootState st1) (renderA atoms) (scan T.toTables (renderA atoms)).diags) :=
    Reads.ext ⟨rfl, rfl⟩
  have hs := ((seqRun_verb T hr none _ [] hseq).mono
    (Nat.zero_le 1) (Nat.le_refl _)).finish (Nat.le_refl _) (fuel := f) (by omega)
  rw [List.nil_append, removeLines_of_source hlin hlines] at hs
  refine ((⟨⟨hdefs, hextr, hinit⟩, hrepl, hunkn⟩ : PlainSetup T o fs (f + 1) st1).of_loop_diags thresh
    ⟨rfl, rfl⟩ (NoCom.noBegin hseq.notComment _) (Nat.succ_pos f) hs).trans ?_
  simp [rootState, workState, flowsToks, verbOut, getTxtPos_filter_keepOut, htp, hd]

inductive VSeg where
  | txt (s : Str)
  | verb (d : Char) (s : Str)
  | bad (d : Char) (s : Str)
deriving Repr, DecidableEq

def VSeg.render : VSeg → Str
  | .txt s => s
  | .verb d s => sVerb ++ d :: (s ++ [d])
  | .bad d s => sVerb ++ d :: s

def renderV : List VSeg → Str
  | [] => []
  | a :: r => a.render ++ renderV r

def VSeg.atoms : VSeg → List VAtom
  | .txt s => s.map .chr
  | .verb d s => [.verb d s]
  | .bad d s => [.bad d s]

def atomsOf (segs : List VSeg) : List VAtom := segs.flatMap VSeg.atoms

def vsegsOk (T : PTables) (st : PState) (segs : List VSeg) : Bool := atomsOk T st (atomsOf segs)

def vlinesOK (segs : List VSeg) : Bool := linesOKA (atomsOf segs)

/-- the expected output: every character of a text segment and of the content of a complete
    `\verb` with its own (0-based) source position; the error mark for an unterminated `\verb`
    (`n` = length of the source, `p` = offset of the first segment) -/
def outV (T : Tables) (n : Nat) : Nat → List VSeg → List (Char × Nat)
  | _, [] => []
  | p, .txt s :: r => posText p s ++ outV T n (p + s.length) r
  | p, .verb _ s :: r => posText (p + 6) s ++ outV T n (p + (s.length + 7)) r
  | p, .bad _ s :: r => markOut T n p ++ outV T n (p + (s.length + 6)) r

def diagsV (src : Str) : Nat → List VSeg → List Diag
  | _, [] => []
  | p, .txt s :: r => diagsV src (p + s.length) r
  | p, .verb _ s :: r => diagsV src (p + (s.length + 7)) r
  | p, .bad _ s :: r => latexErrorDiag errBadVerb p src :: diagsV src (p + (s.length + 6)) r

theorem renderA_append : ∀ a b : List VAtom, renderA (a ++ b) = renderA a ++ renderA b
  | [], _ => rfl
  | x :: a, b => by simp [renderA, renderA_append a b]

theorem renderA_chrs : ∀ s : Str, renderA (s.map .chr) = s
  | [] => rfl
  | c :: cs => by simp [renderA, VAtom.render, renderA_chrs cs]

theorem atomsOf_cons (a : VSeg) (r : List VSeg) : atomsOf (a :: r) = a.atoms ++ atomsOf r :=
  List.flatMap_cons ..

theorem renderA_atomsOf : ∀ segs : List VSeg, renderA (atomsOf segs) = renderV segs
  | [] => rfl
  | a :: r => by
    rw [atomsOf_cons, renderA_append, renderA_atomsOf r, renderV]
    cases a <;> simp [VSeg.atoms, VSeg.render, renderA, VAtom.render, renderA_chrs]

theorem outA_chrs (T : Tables) (n : Nat) (r : List VAtom) : ∀ (s : Str) (p : Nat),
    outA T n p (s.map .chr ++ r) = posText p s ++ outA T n (p + s.length) r
  | [], p => by simp [posText]
  | c :: cs, p => by
    simp only [List.map_cons, List.cons_append, outA, posText, outA_chrs T n r cs (p + 1),
      List.length_cons]
    rw [show p + 1 + cs.length = p + (cs.length + 1) by omega]

theorem diagsA_chrs (src : Str) (r : List VAtom) : ∀ (s : Str) (p : Nat),
    diagsA src p (s.map .chr ++ r) = diagsA src (p + s.length) r
  | [], p => by simp
  | c :: cs, p => by
    simp only [List.map_cons, List.cons_append, diagsA, diagsA_chrs src r cs (p + 1),
      List.length_cons]
    rw [show p + 1 + cs.length = p + (cs.length + 1) by omega]

theorem outA_atomsOf (T : Tables) (n : Nat) : ∀ (segs : List VSeg) (p : Nat),
    outA T n p (atomsOf segs) = outV T n p segs
  | [], _ => rfl
  | .txt s :: r, p => by
    simp only [atomsOf_cons, VSeg.atoms, outA_chrs, outA_atomsOf T n r, outV]
  | .verb d s :: r, p => by
    simp only [atomsOf_cons, VSeg.atoms, List.singleton_append, outA, outA_atomsOf T n r, outV]
  | .bad d s :: r, p => by
    simp only [atomsOf_cons, VSeg.atoms, List.singleton_append, outA, outA_atomsOf T n r, outV]

theorem diagsA_atomsOf (src : Str) : ∀ (segs : List VSeg) (p : Nat),
    diagsA src p (atomsOf segs) = diagsV src p segs
  | [], _ => rfl
  | .txt s :: r, p => by
    simp only [atomsOf_cons, VSeg.atoms, diagsA_chrs, diagsA_atomsOf src r, diagsV]
  | .verb d s :: r, p => by
    simp only [atomsOf_cons, VSeg.atoms, List.singleton_append, diagsA, diagsA_atomsOf src r, diagsV]
  | .bad d s :: r, p => by
    simp only [atomsOf_cons, VSeg.atoms, List.singleton_append, diagsA, diagsA_atomsOf src r, diagsV]

/-- **The general end-to-end statement.**  The document is a sequence of text segments, complete
    `\verb`s and unterminated `\verb`s (each of the latter at the end of its line); `st1` is the
    state after `Parser.__init__`; no `--defs`, `--extr`, `--repl`, `--unkn`; single-language mode.
    With one unit of fuel per source character plus two, `tex2txt` succeeds; text and positions
    are `outV` (positions 1-based), nothing is unknown, and the diagnostics are those of the
    unterminated `\verb`s, in order. -/
theorem tex2txt_verb_segs (T : PTables) (o : Options) (fs : FS) (thresh : Nat) (segs : List VSeg)
    (fuel : Nat) (st1 : PState)
    (hdefs : o.defs = []) (hextr : o.extr = []) (hrepl : o.hasRepl = false)
    (hunkn : o.unkn = false)
    (hinit : initParser T fuel o (initialState T o false fs) = .ok ((), st1))
    (hok : vsegsOk T st1 segs = true) (hlines : vlinesOK segs = true)
    (hf : (renderV segs).length + 2 ≤ fuel) :
    ∃ r, tex2txt T fuel (renderV segs) o false thresh fs = .ok r ∧
      r.txt = (outV T.toTables (renderV segs).length 0 segs).map (·.1) ∧
      r.pos = (outV T.toTables (renderV segs).length 0 segs).map (·.2 + 1) ∧
      r.unknowns = [] ∧
      r.diags = st1.diags ++ diagsV (renderV segs) 0 segs := by
  have h := tex2txt_verb_atoms T o fs thresh (atomsOf segs) fuel st1 hdefs hextr hrepl hunkn hinit
    hok hlines (by rw [renderA_atomsOf]; exact hf)
  rw [renderA_atomsOf, outA_atomsOf, diagsA_atomsOf] at h
  exact ⟨_, h, rfl, rfl, rfl, rfl⟩

/-! ### (A) well-formed documents: verbatim material is copied literally -/

def verbOnly : List VSeg → Bool
  | [] => true
  | .bad _ _ :: _ => false
  | _ :: r => verbOnly r

def contentText : List VSeg → Str
  | [] => []
  | .txt s :: r => s ++ contentText r
  | .verb _ s :: r => s ++ contentText r
  | .bad _ _ :: r => contentText r

def outW : Nat → List VSeg → List (Char × Nat)
  | _, [] => []
  | p, .txt s :: r => posText p s ++ outW (p + s.length) r
  | p, .verb _ s :: r => posText (p + 6) s ++ outW (p + (s.length + 7)) r
  | p, .bad _ s :: r => outW (p + (s.length + 6)) r

theorem outV_verbOnly (T : Tables) (n : Nat) : ∀ (segs : List VSeg) (p : Nat), verbOnly segs = true →
    outV T n p segs = outW p segs
  | [], _, _ => rfl
  | .txt s :: r, p, h => by simp only [outV, outW, outV_verbOnly T n r _ h]
  | .verb d s :: r, p, h => by simp only [outV, outW, outV_verbOnly T n r _ h]
  | .bad d s :: r, p, h => nomatch h

theorem diagsV_verbOnly (src : Str) : ∀ (segs : List VSeg) (p : Nat), verbOnly segs = true →
    diagsV src p segs = []
  | [], _, _ => rfl
  | .txt s :: r, p, h => by simp only [diagsV, diagsV_verbOnly src r _ h]
  | .verb d s :: r, p, h => by simp only [diagsV, diagsV_verbOnly src r _ h]
  | .bad d s :: r, p, h => nomatch h

theorem outW_fst : ∀ (segs : List VSeg) (p : Nat), verbOnly segs = true →
    (outW p segs).map (·.1) = contentText segs
  | [], _, _ => rfl
  | .txt s :: r, p, h => by
    simp only [outW, contentText, List.map_append, posText_fst, outW_fst r _ h]
  | .verb d s :: r, p, h => by
    simp only [outW, contentText, List.map_append, posText_fst, outW_fst r _ h]
  | .bad d s :: r, p, h => nomatch h

theorem posText_own : ∀ (s pre post : Str) (p : Nat), pre.length = p →
    ∀ cp ∈ posText p s, (pre ++ (s ++ post))[cp.2]? = some cp.1
  | [], _, _, _, _, _, h => by simp [posText] at h
  | c :: cs, pre, post, p, hp, cp, h => by
    simp only [posText, List.mem_cons] at h
    rcases h with rfl | h
    · simp [← hp]
    · have := posText_own cs (pre ++ [c]) post (p + 1) (by simp [hp]) cp h
      simpa using this

/-- every character of the expected output stands, in the source, at the position it is mapped to -/
theorem outW_own : ∀ (segs : List VSeg) (pre : Str) (p : Nat), pre.length = p →
    ∀ cp ∈ outW p segs, (pre ++ renderV segs)[cp.2]? = some cp.1
  | [], _, _, _, _, h => by simp [outW] at h
  | .txt s :: r, pre, p, hp, cp, h => by
    simp only [outW, List.mem_append] at h
    simp only [renderV, VSeg.render]
    rcases h with h | h
    · exact posText_own s pre (renderV r) p hp cp h
    · have := outW_own r (pre ++ s) (p + s.length) (by simp [hp]) cp h
      simpa using this
  | .verb d s :: r, pre, p, hp, cp, h => by
    simp only [outW, List.mem_append] at h
    simp only [renderV, VSeg.render]
    rcases h with h | h
    · have := posText_own s (pre ++ (sVerb ++ [d])) (d :: renderV r) (p + 6) (by simp [hp, sVerb]) cp h
      simpa using this
    · have := outW_own r (pre ++ (sVerb ++ d :: (s ++ [d]))) (p + (s.length + 7))
        (by simp [hp, sVerb]) cp h
      simpa using this
  | .bad d s :: r, pre, p, hp, cp, h => by
    simp only [outW] at h
    simp only [renderV, VSeg.render]
    have := outW_own r (pre ++ (sVerb ++ d :: s)) (p + (s.length + 6)) (by simp [hp, sVerb]) cp h
    simpa using this

/-- **(A) C02/C03 at `\verb`, end to end.**  The document consists of text segments and complete
    `\verb d s d` (`verbOnly`); the side conditions `vsegsOk` say: every text character is inert
    in its context (`chrOk`), every delimiter `d` is no letter and no `@` (otherwise the scanner
    reads the control word `\verbd…`) and no line break, the content `s` is ANY string without `d`
    and without line break, and no special sequence of the tables matches at the backslash;
    `vlinesOK`: no line consists only of white space and `\verb`s with blank content (such a line
    is deleted by the blank-line removal, examples below).  Then `tex2txt` succeeds and

    * the output text is the source with every `\verb d s d` replaced by `s`;
    * every output character (text and verbatim content alike) is mapped to its own source
      position (1-based): `r.pos` is `outW` + 1, and each `(c, q)` of `outW` satisfies `src[q] = c`;
    * nothing is reported as unknown and no diagnostic is added. -/
theorem tex2txt_verb_wellformed (T : PTables) (o : Options) (fs : FS) (thresh : Nat)
    (segs : List VSeg) (fuel : Nat) (st1 : PState)
    (hdefs : o.defs = []) (hextr : o.extr = []) (hrepl : o.hasRepl = false)
    (hunkn : o.unkn = false)
    (hinit : initParser T fuel o (initialState T o false fs) = .ok ((), st1))
    (hwf : verbOnly segs = true) (hok : vsegsOk T st1 segs = true) (hlines : vlinesOK segs = true)
    (hf : (renderV segs).length + 2 ≤ fuel) :
    ∃ r, tex2txt T fuel (renderV segs) o false thresh fs = .ok r ∧
      r.txt = contentText segs ∧
      r.txt = (outW 0 segs).map (·.1) ∧
      r.pos = (outW 0 segs).map (·.2 + 1) ∧
      (∀ cp ∈ outW 0 segs, (renderV segs)[cp.2]? = some cp.1) ∧
      r.unknowns = [] ∧ r.diags = st1.diags := by
  obtain ⟨r, h, h1, h2, h3, h4⟩ := tex2txt_verb_segs T o fs thresh segs fuel st1 hdefs hextr hrepl
    hunkn hinit hok hlines hf
  rw [outV_verbOnly _ _ _ _ hwf] at h1 h2
  rw [diagsV_verbOnly _ _ _ hwf, List.append_nil] at h4
  refine ⟨r, h, ?_, h1, h2, ?_, h3, h4⟩
  · rw [h1, outW_fst _ _ hwf]
  · intro cp hcp
    have := outW_own segs [] 0 rfl cp hcp
    simpa using this

/-! ### (B) an unterminated `\verb`: one diagnostic, the complete mark -/

/-- text in front of an unterminated `\verb` never ends a line that could be deleted -/
theorem lineA_chrs (r : List VAtom) : ∀ (s : Str) (σ : Option Bool), σ ≠ some true →
    ∃ σ', σ' ≠ some true ∧ lineA σ (s.map .chr ++ r) = lineA σ' r
  | [], σ, h => ⟨σ, h, rfl⟩
  | c :: cs, σ, h => by
    simp only [List.map_cons, List.cons_append, lineA]
    have hσ : (σ == some true) = false := by
      cases σ with
      | none => rfl
      | some a => cases a <;> simp_all
    rw [hσ]
    simp only [Bool.false_eq_true, if_false]
    split
    · exact lineA_chrs r cs (some false) (by simp)
    · split
      · exact lineA_chrs r cs σ h
      · exact lineA_chrs r cs none (by simp)

theorem vlinesOK_bad (pre : Str) (d : Char) (content : Str) :
    vlinesOK [.txt pre, .bad d content] = true := by
  obtain ⟨σ', _, e⟩ := lineA_chrs [.bad d content] pre (some false) (by simp)
  simp only [vlinesOK, linesOKA, atomsOf, List.flatMap_cons, List.flatMap_nil, VSeg.atoms,
    List.append_nil, e, lineA]
  rfl

/-- **(B) C08 at `\verb`, end to end.**  `src = pre ++ "\verb" ++ [d] ++ content`, where `pre` is
    inert text and `content` contains neither `d` nor a line break and runs to the end of the
    source (all side conditions: `vsegsOk T st1 [.txt pre, .bad d content]`, i.e. `chrOk` for
    the characters of `pre` and `badOk`).  Then `tex2txt` succeeds and

    * exactly one diagnostic is added, `latexErrorDiag errBadVerb pre.length src`: message
      "bad \verb argument", line = number of line breaks in `pre` + 1, column = number of
      characters behind the last line break of `pre` + 1 — the line / column of the backslash;
    * the output text is `pre` (unchanged, every character at its own position) followed by the
      complete mark `errMark T errBadVerb` (" " ++ `T.mark` ++ " ", plus the message in verbose mode);
    * the first `mx = min |mark| (|content| + 6)` characters of the mark are mapped to the position
      of the backslash (1-based: `pre.length + 1`); if the mark is longer than `\verb d content`,
      the other characters are mapped to the last position of the source (`utils.latex_error`);
    * `content` is dropped; nothing is reported as unknown. -/
theorem tex2txt_verb_unterminated (T : PTables) (o : Options) (fs : FS) (thresh : Nat)
    (pre : Str) (d : Char) (content : Str) (fuel : Nat) (st1 : PState)
    (hdefs : o.defs = []) (hextr : o.extr = []) (hrepl : o.hasRepl = false)
    (hunkn : o.unkn = false)
    (hinit : initParser T fuel o (initialState T o false fs) = .ok ((), st1))
    (hok : vsegsOk T st1 [.txt pre, .bad d content] = true)
    (hf : (pre ++ (sVerb ++ d :: content)).length + 2 ≤ fuel) :
    ∃ r, tex2txt T fuel (pre ++ (sVerb ++ d :: content)) o false thresh fs = .ok r ∧
      r.txt = pre ++ errMark T.toTables errBadVerb ∧
      r.pos = List.range' 1 pre.length
        ++ List.replicate (min (errMark T.toTables errBadVerb).length (content.length + 6)) (pre.length + 1)
        ++ List.replicate ((errMark T.toTables errBadVerb).length
              - min (errMark T.toTables errBadVerb).length (content.length + 6))
            (pre.length + min (errMark T.toTables errBadVerb).length (content.length + 6)) ∧
      r.unknowns = [] ∧
      r.diags = st1.diags ++ [latexErrorDiag errBadVerb pre.length (pre ++ (sVerb ++ d :: content))] ∧
      (latexErrorDiag errBadVerb pre.length (pre ++ (sVerb ++ d :: content))).msg = errBadVerb ∧
      (latexErrorDiag errBadVerb pre.length (pre ++ (sVerb ++ d :: content))).line = countNl pre + 1 ∧
      (latexErrorDiag errBadVerb pre.length (pre ++ (sVerb ++ d :: content))).col
        = (afterLastNl pre).length + 1 := by
  have hsrc : renderV [.txt pre, .bad d content] = pre ++ (sVerb ++ d :: content) := by
    simp [renderV, VSeg.render]
  obtain ⟨r, h, h1, h2, h3, h4⟩ := tex2txt_verb_segs T o fs thresh [.txt pre, .bad d content] fuel
    st1 hdefs hextr hrepl hunkn hinit hok (vlinesOK_bad pre d content) (by rw [hsrc]; exact hf)
  rw [hsrc] at h h1 h2 h4
  have hn : (pre ++ (sVerb ++ d :: content)).length - (0 + pre.length) = content.length + 6 := by
    simp [sVerb]
  have hmx : min (errMark T.toTables errBadVerb).length (content.length + 6)
      ≤ (errMark T.toTables errBadVerb).length := Nat.min_le_left _ _
  have hl2 := errMark_length_pos T.toTables errBadVerb
  obtain ⟨hl, hc⟩ := lineCol_after pre (sVerb ++ d :: content)
  refine ⟨r, h, ?_, ?_, h3, ?_, rfl, hl, hc⟩
  · rw [h1]
    simp only [outV, markOut, hn, List.map_append, posText_fst, List.map_map, List.append_nil]
    simp [Function.comp_def]
  · rw [h2]
    simp only [outV, markOut, hn, List.map_append, List.map_map, List.append_nil]
    have e1 : (posText 0 pre).map (fun x => x.2 + 1) = List.range' 1 pre.length := by
      have e0 : (posText 0 pre).map (fun x => x.2 + 1) = ((posText 0 pre).map (·.2)).map (· + 1) := by
        simp [List.map_map, Function.comp_def]
      rw [e0, posText_snd 0 pre]
      simp [List.range'_eq_map_range, Nat.add_comm]
    rw [e1]
    have hmx2 : 2 ≤ min (errMark T.toTables errBadVerb).length (content.length + 6) := by omega
    generalize min (errMark T.toTables errBadVerb).length (content.length + 6) = mx at hmx hmx2
    simp [Function.comp_def, List.map_const', Nat.min_eq_left hmx, List.append_assoc]
    omega
  · rw [h4]; simp [diagsV]

/-! ### simpler sufficient conditions

  `vsegsOk` is context dependent; the following per-character / per-segment conditions imply it. -/

/-- no special sequence of the tables is empty, a lone backslash, or starts with `\v` (true for the
    tables of the repository); then none matches at the backslash of a `\verb` -/
def verbSpecialFree (T : Tables) : Bool :=
  T.specialSorted.all (fun t => match t with
    | [] => false
    | [c] => c != '\\'
    | c :: e :: _ => !(c == '\\' && e == 'v'))

theorem matchSpecial_sVerb_none (T : Tables) (h : verbSpecialFree T = true) (X : Str) :
    matchSpecial T (sVerb ++ X) = none := by
  unfold matchSpecial
  rw [List.find?_eq_none]
  intro t ht
  have := (List.all_eq_true.mp h) t ht
  match t, this with
  | [c], h1 =>
    have : c ≠ '\\' := by simpa using h1
    simp [startsWith, sVerb, Ne.symm this]
  | c :: e :: ds, h1 =>
    simp only [Bool.not_eq_true', Bool.and_eq_false_iff, beq_eq_false_iff_ne] at h1
    rcases h1 with h1 | h1
    · simp [startsWith, sVerb, Ne.symm h1]
    · simp [startsWith, sVerb, Ne.symm h1]

def vsegSimple (T : PTables) (st : PState) : List VSeg → Bool
  | [] => true
  | .txt s :: r => s.all (inertChar T st) && vsegSimple T st r
  | .verb d s :: r =>
    !macroChar d && d != nl && s.all (fun c => c != d && c != nl) && vsegSimple T st r
  | .bad d s :: r =>
    !macroChar d && s.all (fun c => c != d && c != nl) && (renderV r).head?.all (· == nl) &&
    markOk T.toTables && !(activeChars T st).contains [' '] && vsegSimple T st r

theorem chrOk_of_inertChar (T : PTables) (st : PState) (c : Char) (r : List VAtom)
    (h : inertChar T st c = true) : chrOk T st c r = true := by
  obtain ⟨h1, h2⟩ := PlainMacro.inertChar_facts h (renderA r)
  simp only [chrOk, Bool.and_eq_true, Bool.or_eq_true, Bool.not_eq_true', Option.isNone_iff_eq_none]
  exact ⟨Or.inl h1, h2⟩

theorem atomsOk_chrs (T : PTables) (st : PState) (R : List VAtom) (hR : atomsOk T st R = true) :
    ∀ s : Str, s.all (inertChar T st) = true → atomsOk T st (s.map .chr ++ R) = true
  | [], _ => hR
  | c :: cs, h => by
    simp only [List.all_cons, Bool.and_eq_true] at h
    simp only [List.map_cons, List.cons_append, atomsOk, Bool.and_eq_true]
    exact ⟨chrOk_of_inertChar T st c _ h.1, atomsOk_chrs T st R hR cs h.2⟩

theorem head_atoms : ∀ atoms : List VAtom, (renderA atoms).head?.all (· == nl) = true →
    (match atoms with | [] => true | .chr c :: _ => c == nl | _ => false) = true
  | [], _ => rfl
  | .chr c :: r, h => by simpa [renderA_chr] using h
  | .verb d s :: r, h => by
    rw [renderA_verb] at h
    exact absurd h (by simp [sVerb]; decide)
  | .bad d s :: r, h => by
    rw [renderA_bad] at h
    exact absurd h (by simp [sVerb]; decide)

theorem vsegsOk_of_simple (T : PTables) (st : PState) (hs : verbSpecialFree T.toTables = true) :
    ∀ segs : List VSeg, vsegSimple T st segs = true → vsegsOk T st segs = true
  | [], _ => rfl
  | .txt s :: r, h => by
    simp only [vsegSimple, Bool.and_eq_true] at h
    exact atomsOk_chrs T st _ (vsegsOk_of_simple T st hs r h.2) s h.1
  | .verb d s :: r, h => by
    simp only [vsegSimple, Bool.and_eq_true] at h
    obtain ⟨⟨⟨h1, h2⟩, h3⟩, h4⟩ := h
    simp only [vsegsOk, atomsOf_cons, VSeg.atoms, List.singleton_append, atomsOk, verbOk,
      Bool.and_eq_true]
    exact ⟨⟨⟨⟨h1, h2⟩, h3⟩, by rw [matchSpecial_sVerb_none _ hs]; rfl⟩, vsegsOk_of_simple T st hs r h4⟩
  | .bad d s :: r, h => by
    simp only [vsegSimple, Bool.and_eq_true] at h
    obtain ⟨⟨⟨⟨⟨h1, h2⟩, h3⟩, h4⟩, h5⟩, h6⟩ := h
    have h3' := head_atoms (atomsOf r) (by rw [renderA_atomsOf]; exact h3)
    simp only [vsegsOk, atomsOf_cons, VSeg.atoms, List.singleton_append, atomsOk, badOk,
      Bool.and_eq_true]
    exact ⟨⟨⟨⟨⟨⟨h1, h2⟩, h3'⟩, by rw [matchSpecial_sVerb_none _ hs]; rfl⟩, h4⟩, h5⟩,
      vsegsOk_of_simple T st hs r h6⟩

def contentsVisible : List VSeg → Bool
  | [] => true
  | .verb _ s :: r => !isBlank s && contentsVisible r
  | _ :: r => contentsVisible r

theorem lineA_visible : ∀ (segs : List VSeg) (σ : Option Bool), contentsVisible segs = true →
    σ ≠ some true → ∃ σ', σ' ≠ some true ∧ lineA σ (atomsOf segs) = some σ'
  | [], σ, _, h => ⟨σ, h, rfl⟩
  | .txt s :: r, σ, hv, h => by
    obtain ⟨σ1, h1, e1⟩ := lineA_chrs (atomsOf r) s σ h
    obtain ⟨σ2, h2, e2⟩ := lineA_visible r σ1 (by simpa [contentsVisible] using hv) h1
    refine ⟨σ2, h2, ?_⟩
    rw [atomsOf_cons, VSeg.atoms, e1, e2]
  | .verb d s :: r, σ, hv, _ => by
    simp only [contentsVisible, Bool.and_eq_true, Bool.not_eq_true'] at hv
    obtain ⟨σ2, h2, e2⟩ := lineA_visible r none hv.2 (by simp)
    refine ⟨σ2, h2, ?_⟩
    simp only [atomsOf_cons, VSeg.atoms, List.singleton_append, lineA, hv.1]
    exact e2
  | .bad d s :: r, σ, hv, _ => by
    obtain ⟨σ2, h2, e2⟩ := lineA_visible r none (by simpa [contentsVisible] using hv) (by simp)
    refine ⟨σ2, h2, ?_⟩
    simp only [atomsOf_cons, VSeg.atoms, List.singleton_append, lineA]
    exact e2

theorem vlinesOK_of_visible (segs : List VSeg) (h : contentsVisible segs = true) :
    vlinesOK segs = true := by
  obtain ⟨σ', h1, e⟩ := lineA_visible segs (some false) h (by simp)
  simp only [vlinesOK, linesOKA, e]
  simpa using h1

/-! ### the hypotheses can be met -/

namespace VerbExample
open PlainExample

theorem initParser_tinyV : initParser tinyT 40 oEn (initialState tinyT oEn false []) = .ok ((), stEn) := by
  with_unfolding_all rfl

def segsA : List VSeg := [.txt "Use ".toList, .verb '|' "a$b{".toList, .txt " here.".toList]

example : renderV segsA = "Use \\verb|a$b{| here.".toList := by decide
theorem segsA_ok : vsegsOk tinyT stEn segsA = true := by decide
theorem segsA_lines : vlinesOK segsA = true := by decide
example : vsegSimple tinyT stEn segsA = true ∧ verbSpecialFree tinyT.toTables = true ∧
    contentsVisible segsA = true := by decide

/-- (A) on the example: the content `a$b{` is copied, the characters keep their positions (1-based:
    `a` is the 11th character of the source), `\verb` and the delimiters (positions 5–10, 15) vanish -/
example : ∃ r, tex2txt tinyT 40 "Use \\verb|a$b{| here.".toList oEn false 0 [] = .ok r ∧
    r.txt = "Use a$b{ here.".toList ∧
    r.pos = [1, 2, 3, 4, 11, 12, 13, 14, 16, 17, 18, 19, 20, 21] ∧
    r.unknowns = [] ∧ r.diags = [] := by
  obtain ⟨r, h, h1, _, h3, _, h5, h6⟩ := tex2txt_verb_wellformed tinyT oEn [] 0 segsA 40 stEn
    rfl rfl rfl rfl initParser_tinyV (by decide) segsA_ok segsA_lines (by decide)
  exact ⟨r, h, by rw [h1]; decide, by rw [h3]; decide, h5, h6⟩

theorem bad_ok : vsegsOk tinyT stEn [.txt "Bad ".toList, .bad '|' "abc".toList] = true := by decide

/-- (B) on the example: one diagnostic at line 1, column 5; the text in front is unchanged; the
    complete mark `" LTERROR "` (9 characters = the length of `\verb|abc`) stands at position 5 -/
example : ∃ r, tex2txt tinyT 40 "Bad \\verb|abc".toList oEn false 0 [] = .ok r ∧
    r.txt = "Bad  LTERROR ".toList ∧
    r.pos = [1, 2, 3, 4, 5, 5, 5, 5, 5, 5, 5, 5, 5] ∧
    r.unknowns = [] ∧
    r.diags = [{ line := 1, col := 5, msg := "bad \\verb argument".toList }] := by
  obtain ⟨r, h, h1, h2, h3, h4, _⟩ := tex2txt_verb_unterminated tinyT oEn [] 0 "Bad ".toList '|'
    "abc".toList 40 stEn rfl rfl rfl rfl initParser_tinyV bad_ok (by decide)
  exact ⟨r, h, by rw [h1]; decide, by rw [h2]; decide, h3, by rw [h4]; decide⟩

/-- a mark that is longer than the rest of the source is split: the first 7 characters (the length
    of `\verb|a`) are mapped to the backslash, the others to the last character of the source -/
example : ∃ r, tex2txt tinyT 40 "Bad \\verb|a".toList oEn false 0 [] = .ok r ∧
    r.txt = "Bad  LTERROR ".toList ∧ r.pos = [1, 2, 3, 4, 5, 5, 5, 5, 5, 5, 5, 11, 11] := by
  obtain ⟨r, h, h1, h2, _⟩ := tex2txt_verb_unterminated tinyT oEn [] 0 "Bad ".toList '|'
    "a".toList 40 stEn rfl rfl rfl rfl initParser_tinyV (by decide) (by decide)
  exact ⟨r, h, by rw [h1]; decide, by rw [h2]; decide⟩

/-- the general statement: two unterminated `\verb`s, each at the end of its line, a complete one
    in between — two diagnostics, in order, with line and column -/
def segsC : List VSeg :=
  [.txt "Bad ".toList, .bad '|' "abc".toList, .txt "\nok ".toList, .verb '+' "x|y".toList,
   .txt " next ".toList, .bad '+' "x".toList]

example : ∃ r, tex2txt tinyT 60 (renderV segsC) oEn false 0 [] = .ok r ∧
    r.txt = "Bad  LTERROR \nok x|y next  LTERROR ".toList ∧
    r.diags = [{ line := 1, col := 5, msg := errBadVerb }, { line := 2, col := 20, msg := errBadVerb }] := by
  obtain ⟨r, h, h1, _, _, h4⟩ := tex2txt_verb_segs tinyT oEn [] 0 segsC 60 stEn rfl rfl rfl rfl
    (by with_unfolding_all rfl) (by decide) (by decide) (by decide)
  exact ⟨r, h, by rw [h1]; decide, by rw [h4]; decide⟩

/-- the side conditions reject what they should:
    a letter as delimiter (`\verbxax` is the control word `\verbxax`), a line break as delimiter of
    a complete `\verb`, a delimiter or a line break in the content, text behind an unterminated
    `\verb` on the same line; `--` in front of `\verb` (a special sequence);
    an active character of the language settings (`"` for 'de') in front of a `\verb` whose
    content completes a short macro: `"\verb|a|` yields `ä` in the model -/
example : vsegsOk tinyT stEn [.verb 'x' "a".toList] = false := by decide
example : vsegsOk tinyT stEn [.verb '\n' "a".toList] = false := by decide
example : vsegsOk tinyT stEn [.verb '|' "a|b".toList] = false := by decide
example : vsegsOk tinyT stEn [.verb '|' "a\nb".toList] = false := by decide
example : vsegsOk tinyT stEn [.bad '|' "a".toList, .txt " b".toList] = false := by decide
example : vsegsOk tinyT stEn [.bad '|' "a".toList, .txt "\n b".toList] = true := by decide
example : vsegsOk tinyT stEn [.txt "--".toList, .verb '|' "a".toList] = false := by decide
example : vsegsOk tinyT stEn [.txt "-".toList, .verb '|' "-".toList] = true := by decide
example : vsegsOk tinyT stDe [.txt "\"".toList, .verb '|' "a".toList] = false := by decide
example : vsegsOk tinyT stDe [.txt "\"".toList, .verb '|' "b".toList] = true := by decide
example : vsegsOk tinyT stEn [.verb '*' "a".toList, .verb ' ' "b".toList, .verb '+' "%#{ $$ \\begin\\".toList] = true := by
  decide

/-- `vlinesOK` is needed: a line that holds only white space and `\verb`s with blank content is
    deleted by the blank-line removal (the Action token of the `\verb` makes it a "pure action line") -/
example : vlinesOK [.txt "x\n ".toList, .verb '|' " ".toList, .txt " \ny".toList] = false := by decide
example : vlinesOK [.txt "x\n ".toList, .verb '|' [], .txt " \ny".toList] = false := by decide
example : vlinesOK [.txt "x\n ".toList, .verb '|' [], .txt "a \ny".toList] = true := by decide
example : vlinesOK [.txt "x\n ".toList, .verb '|' "a".toList, .txt " \ny".toList] = true := by decide

/-
  Recorded `#eval`s.

  * tiny tables (`tinyT`, mark `LTERROR`):
      `tex2txt tinyT 40 "Use \verb|a$b{| here." oEn false 0 []` : text `"Use a$b{ here."`,
        positions `[1,2,3,4,11,12,13,14,16,17,18,19,20,21]`, no unknowns, no diagnostics;
      `tex2txt tinyT 40 "Bad \verb|abc" oEn false 0 []` : text `"Bad  LTERROR "`,
        positions `[1,2,3,4,5,5,5,5,5,5,5,5,5]`, diagnostic `(line 1, col 5, "bad \verb argument")`.
  * real tables (`import YalafiVerif.Generated.Tables`, `T := Generated.theTables`,
    `o := { lang := "en".toList }`, `st1` = the state after `initParser T 2000 o`, mark
    `LATEXXXERROR`): for each of the following documents `vsegsOk T st1`, `vlinesOK` are `true`
    and text, positions (`outV` + 1) and diagnostics (`st1.diags ++ diagsV`) of
    `tex2txt T 2000 (renderV segs) o false 0 []` agree with the statement:
      "Use \verb|a$b{| here."  ↦ "Use a$b{ here.", positions as above;
      "Bad \verb|abc"  ↦ "Bad  LATEXXXERROR ", positions `[1,2,3,4] ++ [5]*9 ++ [13]*5`, one diagnostic (1, 5);
      "Bad \verb|abc\nnext \verb+x"  ↦ "Bad  LATEXXXERROR \nnext  LATEXXXERROR ", two diagnostics;
      "x\n \verb||a \ny" ↦ "x\n a \ny";   "-\verb|b|-" ↦ "-b-";   "a\n\n\verb|b|\n\n\n c" unchanged but for the `\verb`;
      "\verb\na" (line break as delimiter, unterminated) ↦ the mark;   "\verb|" ↦ the mark.
    `vlinesOK` is sharp on the examples tried: "x\n \verb| | \ny" and "x\n \verb|| \ny" (in the
    class, not `vlinesOK`) yield "x\ny" — the line is deleted, the blank content with it.
    Rejected by `vsegsOk` (and the output differs from `outV`): "\verbxax" (unknown macro
    `\verbxax`, empty output); `[.bad '|' "a", .txt " b"]` (the content of an unterminated `\verb`
    runs to the end of the line: the document is `[.bad '|' "a b"]`); "--\verb|b|" ↦ "–b";
    with 'de': "\"\verb|a|" ↦ "ä" (the short macro `"a` fires on the verbatim token), while
    "\"\verb|b|" ↦ "\"b" is in the class.
  * the fuel bound `src.length + 2` is the one of `tex2txt_plain_text`; a `\verb` token costs one
    iteration of `expandSequence`, an unterminated `\verb` at most two tokens for at least six
    characters.
-/

end VerbExample

end Yalafi
