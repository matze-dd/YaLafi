/-
  Proofs/NoOpaqueDefs.lean — the THIRD invariant of C07 over the mutual block of Model/Expander.lean:
  no macro or environment definition of the parser state has handler or `end_func` `.opaqueH _`.

  * `opq`          the test "is `.opaqueH _`"
  * `DOk d`        neither `d.handler` nor `d.endFunc` is opaque
  * `StOk st`      every definition in `st.macros` and `st.envs` is `DOk` (no other field of `PState`
                   stores a definition: `glossary` stores token lists, `packages` option lists)
  * `ModOk md`     `md.isOpaque = false`, all its macros / environments `DOk`
  * `TOk T`        the decidable table condition `noOpaqueB T = true` as a Prop
  * `Good x`       for every `StOk` state: `x` ends in `ok` with an `StOk` state, or in a crash that is none of the
                   two `opaque …` markers, or in `fatal` / `outOfFuel` (nothing claimed)
  * `AllGood T fuel`  the 21 specifications (one per function of the mutual block)
  * `Leaf T fuel x`   `x` is a call whose specification is at hand: a leaf function, or one of the 21 at `fuel`
                   (`AllGood.leaf`)
  * tactic `good`  unfolds the monadic structure (`bind`, `get`, `pure`, `crash`, `if`, `match`)
-/
import YalafiVerif.Model.Tex2txt
import YalafiVerif.Proofs.Run
set_option linter.unusedVariables false
namespace Yalafi
namespace NoOpaque
open M

def mMod : String := "opaque module (not modelled)"
def mHan : String := "opaque handler (not modelled)"

def opq : Handler → Bool
  | .opaqueH _ => true
  | _ => false

def dOkB (d : MacroDef) : Bool := !opq d.handler && !opq d.endFunc
def modOkB (md : ModuleDef) : Bool := !md.isOpaque && md.macros.all dOkB && md.envs.all dOkB

/-- the decidable table condition: no module is marked opaque, and no macro or environment declared in the
    tables or in a module has an opaque handler / `end_func` -/
def noOpaqueB (T : PTables) : Bool :=
  (T.packageModules ++ T.classModules).all modOkB
  && (T.macroDefsPython ++ T.noSpecialsMacros ++ T.environmentDefs).all dOkB

def DOk (d : MacroDef) : Prop := opq d.handler = false ∧ opq d.endFunc = false
def AOk (ds : List MacroDef) : Prop := ∀ d ∈ ds, DOk d

structure StOk (st : PState) : Prop where
  macros : AOk st.macros
  envs : AOk st.envs

structure ModOk (md : ModuleDef) : Prop where
  notOpaque : md.isOpaque = false
  macros : AOk md.macros
  envs : AOk md.envs

theorem dOkB_DOk (d : MacroDef) (h : dOkB d = true) : DOk d := by
  simpa [dOkB, DOk] using h

theorem modOkB_ModOk (md : ModuleDef) (h : modOkB md = true) : ModOk md := by
  simp only [modOkB, Bool.and_eq_true, Bool.not_eq_true', List.all_eq_true] at h
  exact ⟨h.1.1, fun d hd => dOkB_DOk d (h.1.2 d hd), fun d hd => dOkB_DOk d (h.2 d hd)⟩

@[simp] theorem AOk_nil : AOk [] := fun _ h => by cases h
theorem AOk_append {a b : List MacroDef} (ha : AOk a) (hb : AOk b) : AOk (a ++ b) := by
  intro d hd
  rcases List.mem_append.1 hd with h | h
  · exact ha d h
  · exact hb d h

theorem AOk_setMacro {ms : List MacroDef} {m : MacroDef} (h : AOk ms) (hm : DOk m) : AOk (setMacro ms m) := by
  unfold setMacro
  split
  · intro d hd
    obtain ⟨x, hx, rfl⟩ := List.mem_map.1 hd
    split
    · exact hm
    · exact h x hx
  · exact AOk_append h (fun d hd => by simp only [List.mem_singleton] at hd; subst hd; exact hm)

theorem AOk_foldl_setMacro (ds : List MacroDef) (hd : AOk ds) : ∀ (ms : List MacroDef), AOk ms →
    AOk (ds.foldl setMacro ms) := by
  induction ds with
  | nil => intro ms h; exact h
  | cons d rest ih =>
    intro ms h
    exact ih (fun x hx => hd x (List.mem_cons_of_mem _ hx)) _
      (AOk_setMacro h (hd d (List.mem_cons_self ..)))


structure TOk (T : PTables) : Prop where
  mods : ∀ md ∈ T.packageModules ++ T.classModules, ModOk md
  defs : AOk (T.macroDefsPython ++ T.noSpecialsMacros ++ T.environmentDefs)

theorem noOpaqueB_TOk (T : PTables) (h : noOpaqueB T = true) : TOk T := by
  simp only [noOpaqueB, Bool.and_eq_true, List.all_eq_true] at h
  exact ⟨fun md hmd => modOkB_ModOk md (h.1 md hmd), fun d hd => dOkB_DOk d (h.2 d hd)⟩

theorem emptyModule_ModOk (name : Str) : ModOk (emptyModule name) :=
  ⟨rfl, AOk_nil, AOk_nil⟩

theorem findModule_ModOk {T : PTables} (h : TOk T) (cls : Bool) (name : Str) :
    ModOk ((findModule T cls name).getD (emptyModule name)) := by
  unfold findModule
  split
  · exact emptyModule_ModOk name
  · cases hf : (if cls = true then T.classModules else T.packageModules).find? (·.name == _) with
    | none => exact emptyModule_ModOk name
    | some md =>
      have hm := List.mem_of_find?_eq_some hf
      apply h.mods md
      cases cls <;> simp_all

def GoodO {α} (x : Outcome (α × PState)) : Prop :=
  match x with
  | .ok r => StOk r.2
  | .crash c => c ≠ mMod ∧ c ≠ mHan
  | _ => True

theorem GoodO_iff {α} (x : Outcome (α × PState)) :
    GoodO x ↔ PostC (fun c => c ≠ mMod ∧ c ≠ mHan) x (fun _ s => StOk s) := by
  rcases x with ⟨a, s⟩ | _ | _ | _ <;> exact Iff.rfl

structure Good {α} (x : M α) : Prop where
  run : ∀ st, StOk st → GoodO (x st)

theorem Good_pure {α} (a : α) : Good (pure a : M α) := ⟨fun st h => h⟩

theorem Good_bind {α β} {x : M α} {f : α → M β} (hx : Good x) (hf : ∀ a, Good (f a)) : Good (x >>= f) :=
  ⟨fun st hs => (GoodO_iff _).2
    (PostC.bind ((GoodO_iff _).1 (hx.run st hs)) (fun a s h => (GoodO_iff _).1 ((hf a).run s h)))⟩

theorem Good_get_bind {β} {f : PState → M β} (h : ∀ s, StOk s → Good (f s)) : Good (M.get >>= f) := by
  refine ⟨fun st hs => ?_⟩
  exact (h st hs).run st hs

theorem Good_get : Good M.get := ⟨fun st h => h⟩
theorem Good_modify {f : PState → PState} (h : ∀ s, StOk s → StOk (f s)) : Good (M.modify f) :=
  ⟨fun st hs => h st hs⟩
theorem Good_crash {α} (s : String) (h : s ≠ mMod ∧ s ≠ mHan) : Good (M.crash s : M α) := ⟨fun _ _ => h⟩
theorem Good_fatal {α} (msg : Str) : Good (M.fatal msg : M α) := ⟨fun _ _ => trivial⟩
theorem Good_outOfFuel {α} : Good (M.outOfFuel : M α) := ⟨fun _ _ => trivial⟩
theorem Good_catchAll {α} {x : M α} (msg : Str) (h : Good x) : Good (catchAll x msg) :=
  ⟨fun st hs => (GoodO_iff _).2 (PostC.catchAll ((GoodO_iff _).1 (h.run st hs)))⟩

theorem Good_ite {α} {c : Prop} [Decidable c] {x y : M α} (hx : Good x) (hy : Good y) :
    Good (if c then x else y) := by
  split
  · exact hx
  · exact hy

theorem Good_foldlM {α β} (f : β → α → M β) (h : ∀ b a, Good (f b a)) (l : List α) (b : β) : Good (l.foldlM f b) :=
  ⟨fun st hs => (GoodO_iff _).2
    (PostC.foldlM (I := fun _ s => StOk s) l b st hs (fun b a s _ hs' => (GoodO_iff _).1 ((h b a).run s hs')))⟩

theorem Good_forM {α} (f : α → M PUnit) (h : ∀ a, Good (f a)) (l : List α) : Good (l.forM f) :=
  ⟨fun st hs => (GoodO_iff _).2 (PostC.forM l (fun a _ s hs' => (GoodO_iff _).1 ((h a).run s hs')) st hs)⟩

theorem StOk_same {s s' : PState} (h : StOk s) (hm : s'.macros = s.macros) (he : s'.envs = s.envs) : StOk s' :=
  ⟨by rw [hm]; exact h.macros, by rw [he]; exact h.envs⟩

theorem StOk_withMacros {s : PState} (hs : StOk s) {ms : List MacroDef} (h : AOk ms) :
    StOk { s with macros := ms } := ⟨h, hs.envs⟩
theorem StOk_withEnvs {s : PState} (hs : StOk s) {ms : List MacroDef} (h : AOk ms) :
    StOk { s with envs := ms } := ⟨hs.macros, h⟩

theorem Good_latexError (T : Tables) (err : Str) (pos : Nat) : Good (latexError T err pos) :=
  ⟨fun st hs => StOk_same hs rfl rfl⟩

theorem Good_addUnknown (name : Str) (math : Bool) : Good (addUnknown name math) := by
  unfold addUnknown
  apply Good_modify
  intro s hs
  split
  · exact hs
  · exact StOk_same hs rfl rfl

theorem Good_argBuffer (T : Tables) (buf : Buf) (start : Nat) (endBrace : Bool) :
    Good (argBuffer T buf start endBrace) := by
  unfold argBuffer
  dsimp only
  split
  · exact Good_pure _
  · apply Good_bind (Good_latexError ..)
    intro e
    split <;> exact Good_pure _

theorem Good_parseNewlineOption (T : PTables) (buf : Buf) (skip : Bool) : Good (parseNewlineOption T buf skip) := by
  unfold parseNewlineOption
  dsimp only
  split
  · split
    · exact Good_bind (Good_argBuffer ..) (fun _ => Good_pure _)
    · exact Good_pure _
  · exact Good_pure _

theorem Good_collectArgs (T : PTables) (mac : MacroDef) (codes : List Char) (n : Nat) (buf : Buf) (pos : Nat)
    (acc : Args) : Good (collectArgs T mac codes n buf pos acc) := by
  refine ⟨fun st hs => (GoodO_iff _).2 (PostC.mono (Q := fun r s => StOk s ∧ ArgsAll (fun _ => True) (fun _ => True) r.1 ∧
    ∀ t ∈ r.2, True) ?_ (fun _ _ h => h.1))⟩
  refine collectArgs_all T _ _ (fun _ => True) StOk mac ?_ (fun _ _ => trivial) (fun _ _ _ => trivial)
    (fun _ _ => trivial) (fun _ _ _ _ _ _ => trivial) codes n buf pos acc st hs (fun _ _ => trivial) trivial
    ⟨fun _ _ _ _ => trivial, fun _ _ _ _ => trivial, fun _ _ => trivial⟩
  intro b p eb s hs' _ _
  exact PostC.mono ((GoodO_iff _).1 ((Good_argBuffer T.toTables b p eb).run s hs'))
    (fun _ _ h => ⟨h, fun _ _ => trivial, fun _ _ => trivial⟩)

theorem Good_parseDefMacro (T : PTables) (buf : Buf) (start : Nat) : Good (parseDefMacro T buf start) := by
  simp only [parseDefMacro]
  repeat' first
    | exact Good_pure _
    | exact Good_bind (Good_latexError ..) (fun _ => Good_pure _)
    | split
  all_goals
    refine Good_bind (Good_argBuffer ..) ?_
    intro r
    repeat' first
      | exact Good_pure _
      | exact Good_bind (Good_latexError ..) (fun _ => Good_pure _)
      | (refine Good_bind (Good_modify ?_) (fun _ => Good_pure _); intro s hs;
         exact StOk_withMacros hs (AOk_setMacro hs.macros ⟨rfl, rfl⟩))
      | split

theorem Good_defineSedMacro (T : PTables) (m : Cleveref.SedMacro) : Good (defineSedMacro T m) := by
  unfold defineSedMacro
  dsimp only
  refine Good_bind (Good_modify ?_) ?_
  · intro s hs; exact StOk_same hs rfl rfl
  intro _
  split
  · exact Good_fatal _
  · apply Good_modify
    intro s hs
    exact StOk_withMacros hs (AOk_setMacro hs.macros ⟨rfl, rfl⟩)

theorem AOk_crefMacros (ls : List Cleveref.SedLine) : AOk (crefMacros ls) := by
  intro d hd
  simp only [crefMacros, List.mem_cons, List.not_mem_nil, or_false] at hd
  rcases hd with rfl | rfl | rfl | rfl <;> exact ⟨rfl, rfl⟩

theorem Good_readSedText (T : PTables) (sed : Str) : Good (readSedText T sed) := by
  unfold readSedText
  dsimp only
  apply Good_bind (Good_forM _ (fun m => Good_defineSedMacro T m) _)
  intro _
  apply Good_modify
  intro s hs
  exact StOk_withMacros hs (AOk_foldl_setMacro _ (AOk_crefMacros _) _ hs.macros)

theorem Good_crefToks (T : PTables) (str : Str) (pos : Nat) : Good (crefToks T str pos) := by
  unfold crefToks
  dsimp only
  refine Good_bind (Good_modify ?_) (fun _ => Good_pure _)
  intro s hs; exact StOk_same hs rfl rfl

theorem StOk_changeParserLang (T : PTables) (s : PState) (l : Str) (back hard : Bool) (h : StOk s) :
    StOk (changeParserLang T s l back hard) := by
  unfold changeParserLang
  repeat' split
  all_goals first | exact h | exact StOk_same h rfl rfl

theorem StOk_setRot (s : PState) (r : Rot) (h : StOk s) : StOk (setRot s r) := StOk_same h rfl rfl

theorem StOk_initExtractions (T : PTables) (st : PState) (extracts : List Str) (h : StOk st) :
    StOk (initExtractions T st extracts) := by
  unfold initExtractions
  refine ⟨?_, h.envs⟩
  dsimp only
  apply AOk_append
  · intro d hd
    obtain ⟨x, hx, rfl⟩ := List.mem_map.1 hd
    have := h.macros x hx
    split
    · exact ⟨rfl, this.2⟩
    · exact ⟨rfl, this.2⟩
  · intro d hd
    obtain ⟨x, hx, rfl⟩ := List.mem_map.1 hd
    exact ⟨rfl, rfl⟩

section
variable (T : PTables)

structure AllGood (fuel : Nat) : Prop where
  seq : ∀ buf envStop out, Good (expandSequence T fuel buf envStop out)
  text : ∀ toks, Good (getTextExpanded T fuel toks)
  envName : ∀ buf tok, Good (getEnvironmentName T fuel buf tok)
  begin_ : ∀ buf tok math, Good (beginEnvironment T fuel buf tok math)
  end_ : ∀ buf tok envStop, Good (endEnvironment T fuel buf tok envStop)
  macro_ : ∀ buf tok math, Good (expandMacro T fuel buf tok math)
  args : ∀ buf mac start, DOk mac → Good (expandArguments T fuel buf mac start)
  item : ∀ buf tok out, Good (expandItem T fuel buf tok out)
  accent : ∀ buf tok, Good (expandAccent T fuel buf tok)
  work : ∀ latex, Good (parserWork T fuel latex)
  init : ∀ name md builtin options position, ModOk md → Good (initPackage T fuel name md builtin options position)
  modParams : ∀ md options position, ModOk md → Good (modifyParameters T fuel md options position)
  keyvals : ∀ buf acc, Good (parseKeyvals T fuel buf acc)
  value : ∀ buf val, Good (parseValue T fuel buf val)
  expandKv : ∀ kvs, Good (expandKeyvals T fuel kvs)
  modDesc : ∀ toks, Good (modifyDescription T fuel toks)
  handler : ∀ h buf mac args pos, opq h = false → Good (callHandler T fuel h buf mac args pos)
  mathSec : ∀ buf start toksStop envStop out, Good (expandMathSection T fuel buf start toksStop envStop out)
  inline : ∀ buf tok, Good (expandInlineMath T fuel buf tok)
  dispLoop : ∀ buf start envName first next out, Good (displayLoop T fuel buf start envName first next out)
  display : ∀ buf tok envName remove, Good (expandDisplayMath T fuel buf tok envName remove)

end

inductive Leaf (T : PTables) (fuel : Nat) : {α : Type} → M α → Prop
  | fatal {α} (msg : Str) : Leaf T fuel (M.fatal msg : M α)
  | outOfFuel {α} : Leaf T fuel (M.outOfFuel : M α)
  | latexError (T' : Tables) (err : Str) (pos : Nat) : Leaf T fuel (latexError T' err pos)
  | argBuffer (T' : Tables) (buf : Buf) (start : Nat) (endBrace : Bool) : Leaf T fuel (argBuffer T' buf start endBrace)
  | addUnknown (name : Str) (math : Bool) : Leaf T fuel (addUnknown name math)
  | parseNewlineOption (buf : Buf) (skip : Bool) : Leaf T fuel (parseNewlineOption T buf skip)
  | collectArgs (mac : MacroDef) (codes : List Char) (n : Nat) (buf : Buf) (pos : Nat) (acc : Args) :
      Leaf T fuel (collectArgs T mac codes n buf pos acc)
  | parseDefMacro (buf : Buf) (start : Nat) : Leaf T fuel (parseDefMacro T buf start)
  | crefToks (str : Str) (pos : Nat) : Leaf T fuel (crefToks T str pos)
  | readSedText (sed : Str) : Leaf T fuel (readSedText T sed)
  | seq buf envStop out : Leaf T fuel (expandSequence T fuel buf envStop out)
  | text toks : Leaf T fuel (getTextExpanded T fuel toks)
  | envName buf tok : Leaf T fuel (getEnvironmentName T fuel buf tok)
  | begin_ buf tok math : Leaf T fuel (beginEnvironment T fuel buf tok math)
  | end_ buf tok envStop : Leaf T fuel (endEnvironment T fuel buf tok envStop)
  | macro_ buf tok math : Leaf T fuel (expandMacro T fuel buf tok math)
  | args buf mac start : DOk mac → Leaf T fuel (expandArguments T fuel buf mac start)
  | item buf tok out : Leaf T fuel (expandItem T fuel buf tok out)
  | accent buf tok : Leaf T fuel (expandAccent T fuel buf tok)
  | work latex : Leaf T fuel (parserWork T fuel latex)
  | init name md builtin options position : ModOk md → Leaf T fuel (initPackage T fuel name md builtin options position)
  | modParams md options position : ModOk md → Leaf T fuel (modifyParameters T fuel md options position)
  | keyvals buf acc : Leaf T fuel (parseKeyvals T fuel buf acc)
  | value buf val : Leaf T fuel (parseValue T fuel buf val)
  | expandKv kvs : Leaf T fuel (expandKeyvals T fuel kvs)
  | modDesc toks : Leaf T fuel (modifyDescription T fuel toks)
  | handler h buf mac args pos : opq h = false → Leaf T fuel (callHandler T fuel h buf mac args pos)
  | mathSec buf start toksStop envStop out : Leaf T fuel (expandMathSection T fuel buf start toksStop envStop out)
  | inline buf tok : Leaf T fuel (expandInlineMath T fuel buf tok)
  | dispLoop buf start envName first next out : Leaf T fuel (displayLoop T fuel buf start envName first next out)
  | display buf tok envName remove : Leaf T fuel (expandDisplayMath T fuel buf tok envName remove)

theorem AllGood.leaf {T : PTables} {fuel : Nat} (IH : AllGood T fuel) {α : Type} {x : M α} (h : Leaf T fuel x) :
    Good x := by
  cases h with
  | fatal msg => exact Good_fatal msg
  | outOfFuel => exact Good_outOfFuel
  | latexError T' err pos => exact Good_latexError T' err pos
  | argBuffer T' buf start endBrace => exact Good_argBuffer T' buf start endBrace
  | addUnknown name math => exact Good_addUnknown name math
  | parseNewlineOption buf skip => exact Good_parseNewlineOption T buf skip
  | collectArgs mac codes n buf pos acc => exact Good_collectArgs T mac codes n buf pos acc
  | parseDefMacro buf start => exact Good_parseDefMacro T buf start
  | crefToks str pos => exact Good_crefToks T str pos
  | readSedText sed => exact Good_readSedText T sed
  | seq buf envStop out => exact IH.seq buf envStop out
  | text toks => exact IH.text toks
  | envName buf tok => exact IH.envName buf tok
  | begin_ buf tok math => exact IH.begin_ buf tok math
  | end_ buf tok envStop => exact IH.end_ buf tok envStop
  | macro_ buf tok math => exact IH.macro_ buf tok math
  | args buf mac start h => exact IH.args buf mac start h
  | item buf tok out => exact IH.item buf tok out
  | accent buf tok => exact IH.accent buf tok
  | work latex => exact IH.work latex
  | init name md builtin options position h => exact IH.init name md builtin options position h
  | modParams md options position h => exact IH.modParams md options position h
  | keyvals buf acc => exact IH.keyvals buf acc
  | value buf val => exact IH.value buf val
  | expandKv kvs => exact IH.expandKv kvs
  | modDesc toks => exact IH.modDesc toks
  | handler h buf mac args pos hq => exact IH.handler h buf mac args pos hq
  | mathSec buf start toksStop envStop out => exact IH.mathSec buf start toksStop envStop out
  | inline buf tok => exact IH.inline buf tok
  | dispLoop buf start envName first next out => exact IH.dispLoop buf start envName first next out
  | display buf tok envName remove => exact IH.display buf tok envName remove

/-- marker for side goals the tactic `good` leaves to the user -/
structure Stop (p : Prop) : Prop where
  out : p

theorem Good_modify_stop {f : PState → PState} (h : Stop (∀ s, StOk s → StOk (f s))) : Good (M.modify f) :=
  Good_modify h.out

theorem lookupMacro_DOk' {st : PState} {name : Str} {m : MacroDef}
    (hm : lookupMacro st name = some m) (h : StOk st) : DOk m := h.macros m (List.mem_of_find?_eq_some hm)
theorem lookupEnv_DOk' {st : PState} {name : Str} {m : MacroDef}
    (hm : lookupEnv st name = some m) (h : StOk st) : DOk m := h.envs m (List.mem_of_find?_eq_some hm)

/-- a state update that does not touch `macros` / `envs` -/
syntax "good_mod" : tactic
macro_rules
  | `(tactic| good_mod) => `(tactic| (intro s hs; first
      | exact hs
      | exact StOk_same hs rfl rfl
      | exact StOk_changeParserLang _ _ _ _ _ hs
      | exact StOk_setRot _ _ hs))

/-- side conditions of the induction hypotheses -/
syntax "good_side" : tactic
macro_rules
  | `(tactic| good_side) => `(tactic| first
      | exact lookupMacro_DOk' (by assumption) (by assumption)
      | exact lookupEnv_DOk' (by assumption) (by assumption)
      | exact (lookupEnv_DOk' (by assumption) (by assumption)).2
      | exact (lookupMacro_DOk' (by assumption) (by assumption)).1
      | exact (lookupEnv_DOk' (by assumption) (by assumption)).1
      | exact ⟨rfl, rfl⟩
      | exact rfl
      | assumption)

/-- unfold the monadic structure; `IH` is the bundle for the smaller fuel.  Every lemma is tried with reducible
    transparency only (otherwise a failing attempt unfolds the functions of the mutual block).  A failing attempt
    is not free, so the alternatives stand in the order of how often they apply; `split` must stay last, and
    `Good_ite`, which is the slowest to fail, is kept for the goals nothing else fits.  A crash site is told from the
    two markers by `String.reduceEq` (it points at the first character that differs; `decide` would have the kernel
    decode both literals).  A call (`Leaf`) is closed
    by `AllGood.leaf`; its side condition by `good_side`, or it is left to the user as a `Stop` goal. -/
syntax "good " term : tactic
macro_rules
  | `(tactic| good $IH) => `(tactic| repeat' first
      | with_reducible exact Good_pure _
      | ((with_reducible refine Good_get_bind ?_); intro _ _)
      | (with_reducible refine Good_bind ?_ ?_)
      | intro _
      | ((with_reducible refine Good_crash _ ?_); simp only [mMod, mHan, ne_eq, String.reduceEq, not_false_eq_true, and_self])
      | ((with_reducible refine Good_modify ?_); good_mod)
      | (with_reducible refine Good_modify_stop ?_)
      | ((refine AllGood.leaf $IH ?_); (with_reducible constructor); all_goals (first | good_side | refine Stop.out ?_))
      | (with_reducible refine Good_catchAll _ ?_)
      | (with_reducible refine Good_ite ?_ ?_)
      | split)

end NoOpaque
end Yalafi
