/-
  Proofs/PlainFlowsRead.lean — readings of the reference output `refOut` of Proofs/PlainFlows.lean
  (`delLines (marks 0 segs) ++ flows 0 segs`), read segment by segment (Proofs/SegFold.lean: `gather`,
  `marks` and `flows` are folds; what a segment contributes lies in its source interval, `inSpan_*`).
-/
import YalafiVerif.Proofs.PlainFlows
namespace Yalafi
namespace PlainFlows

open PlainMacro
open PlainFootnote (lastTokOff flowOut)
open PlainItem (nBegin nEnd)
open PlainVanish (delLines_mem)

def Seg.text : Seg → Nat → List (Char × Nat)
  | .txt s, p => posText p s
  | _, _ => []

/-- the call of a segment at `p`: offset of the first body character, and the body -/
def Seg.body : Seg → Nat → List (Nat × Str)
  | .call name body, p => [(p + name.length + 2, body)]
  | .callO name opt body, p => [(p + name.length + opt.length + 4, body)]
  | _, _ => []

/-- the source span `(start, length)` of the hidden optional material of a segment at `p`: `[opt]`
    resp. `[placement]`, brackets included -/
def Seg.opt : Seg → Nat → List (Nat × Nat)
  | .callO name opt _, p => [(p + name.length + 1, opt.length + 2)]
  | .begN name note, p => [(p + name.length + 8, note.length + 2)]
  | _, _ => []

def gather {α} (f : Seg → Nat → List α) : Nat → List Seg → List α
  | _, [] => []
  | p, s :: rest => f s p ++ gather f (p + s.len) rest

def textChars (p : Nat) (segs : List Seg) : List (Char × Nat) := gather Seg.text p segs

def bodies (p : Nat) (segs : List Seg) : List (Nat × Str) := gather Seg.body p segs

def optSpans (p : Nat) (segs : List Seg) : List (Nat × Nat) := gather Seg.opt p segs

/-- the spans of the bodies, each with its closing brace -/
def bodySpans (p : Nat) (segs : List Seg) : List (Nat × Nat) :=
  (bodies p segs).map (fun b => (b.1, b.2.length + 1))

def totalLen : List Seg → Nat
  | [] => 0
  | s :: rest => s.len + totalLen rest

theorem Seg.len_eq (s : Seg) : s.render.length = s.len := by
  cases s <;> simp only [Seg.render, Seg.len, nBegin, nEnd, List.length_cons, List.length_append,
    List.length_nil] <;> omega

theorem render_length : ∀ segs : List Seg, (render segs).length = totalLen segs
  | [] => rfl
  | s :: rest => by simp [render, totalLen, Seg.len_eq, render_length rest]

theorem fold_gather {α} (f : Seg → Nat → List α) : SegFold (fun p (s : Seg) => p + s.len) (gather f) :=
  ⟨fun _ => rfl, fun p s rest => by simp [gather]⟩

theorem fold_marks : SegFold (fun p (s : Seg) => p + s.len) marks :=
  ⟨fun _ => rfl, fun p s rest => by cases s <;> simp [marks, Seg.len]⟩

theorem fold_flows : SegFold (fun p (s : Seg) => p + s.len) flows :=
  ⟨fun _ => rfl, fun p s rest => by cases s <;> simp [flows, Seg.len]⟩

theorem flows_eq_bodies (segs : List Seg) (p : Nat) :
    flows p segs = (bodies p segs).flatMap (fun b => flowOut b.1 b.2) :=
  fold_flows.hom (fold_gather Seg.body) (f := id)
    (g := List.flatMap fun b : Nat × Str => flowOut b.1 b.2)
    (fun _ _ => rfl) (fun _ _ => List.flatMap_append) rfl
    (fun p s => by cases s <;> simp [flows, gather, Seg.body]) segs p

theorem marks_chars (segs : List Seg) (p : Nat) : (marks p segs).filterMap id = textChars p segs :=
  fold_marks.hom (fold_gather Seg.text) (f := List.filterMap id) (g := id)
    (fun _ _ => List.filterMap_append) (fun _ _ => rfl) rfl
    (fun p s => by cases s <;> simp [marks, gather, Seg.text]) segs p

theorem marks_some {cp : Char × Nat} {segs : List Seg} {p : Nat} (h : some cp ∈ marks p segs) :
    cp ∈ textChars p segs :=
  marks_chars segs p ▸ List.mem_filterMap.mpr ⟨_, h, rfl⟩

/-- **the main flow only holds text**: every character the blank-line removal leaves is a character
    of a text segment, at its own position -/
theorem main_sub_text {cp : Char × Nat} {segs : List Seg} {p : Nat} (h : cp ∈ delLines (marks p segs)) :
    cp ∈ textChars p segs :=
  marks_some (delLines_mem h)

theorem Seg.text_range {s : Seg} {p : Nat} {cp : Char × Nat} (h : cp ∈ s.text p) :
    p ≤ cp.2 ∧ cp.2 < p + s.len := by
  cases s <;> simp only [Seg.text, List.not_mem_nil] at h
  exact mem_posText h

theorem Seg.body_range {s : Seg} {p : Nat} {b : Nat × Str} (h : b ∈ s.body p) :
    p ≤ b.1 ∧ b.1 + b.2.length < p + s.len := by
  cases s <;> simp only [Seg.body, List.not_mem_nil, List.mem_singleton] at h
  · subst h; simp only [Seg.len]; omega
  · subst h; simp only [Seg.len]; omega

theorem Seg.opt_range {s : Seg} {p : Nat} {x : Nat × Nat} (h : x ∈ s.opt p) :
    p ≤ x.1 ∧ x.1 + x.2 ≤ p + s.len := by
  cases s <;> simp only [Seg.opt, List.not_mem_nil, List.mem_singleton] at h
  · subst h; simp only [Seg.len]; omega
  · subst h; simp only [Seg.len]; omega

theorem mem_flowOut {q : Nat} {body : Str} {cp : Char × Nat} (h : cp ∈ flowOut q body) :
    q ≤ cp.2 ∧ cp.2 ≤ q + body.length := by
  simp only [flowOut, List.mem_append, List.mem_cons, List.not_mem_nil, or_false] at h
  have hl : lastTokOff body ≤ body.length := by unfold lastTokOff; omega
  rcases h with ((rfl | rfl | rfl) | h) | rfl
  · simp
  · simp
  · simp
  · have := mem_posText h; omega
  · simp only; omega

theorem inSpan_gather {α} {f : Seg → Nat → List α} {iv : α → Option (Nat × Nat)}
    (hf : ∀ s p a i, a ∈ f s p → iv a = some i → p ≤ i.1 ∧ i.1 + i.2 ≤ p + s.len) :
    SegFold.InSpan id Seg.len (fun _ _ => True) iv (gather f) :=
  fun p s x i _ hx hi => hf s p x i (by simpa [gather] using hx) hi

theorem inSpan_text : SegFold.InSpan id Seg.len (fun _ _ => True) (fun cp : Char × Nat => some (cp.2, 1))
    (gather Seg.text) :=
  inSpan_gather fun s p cp i h hi => by cases hi; have := Seg.text_range h; simp only; omega

/-- a body with its closing brace -/
theorem inSpan_body : SegFold.InSpan id Seg.len (fun _ _ => True)
    (fun b : Nat × Str => some (b.1, b.2.length + 1)) (gather Seg.body) :=
  inSpan_gather fun s p b i h hi => by cases hi; have := Seg.body_range h; simp only; omega

theorem inSpan_opt : SegFold.InSpan id Seg.len (fun _ _ => True) some (gather Seg.opt) :=
  inSpan_gather fun s p x i h hi => by cases hi; exact Seg.opt_range h

theorem inSpan_flows : SegFold.InSpan id Seg.len (fun _ _ => True) (fun cp : Char × Nat => some (cp.2, 1))
    flows := by
  intro p s cp i _ h hi
  cases hi
  cases s <;> simp only [flows, List.append_nil, List.not_mem_nil] at h <;>
    (have := mem_flowOut h; simp only [id, Seg.len]; omega)

theorem along_true {segs : List Seg} {p : Nat} :
    SegFold.Along (fun p (s : Seg) => p + s.len) (fun _ _ => True) p segs :=
  fun _ _ _ _ => trivial

theorem drop_append_len {α} (l1 l2 : List α) (k : Nat) : (l1 ++ l2).drop (l1.length + k) = l2.drop k := by
  rw [List.drop_append, List.drop_eq_nil_of_le (by omega)]
  simp

/-- **the source has the body there**: for every call, the source text from the recorded offset on
    starts with the body -/
theorem bodies_in_source : ∀ (segs : List Seg) (p : Nat) (b : Nat × Str), b ∈ bodies p segs →
    p ≤ b.1 ∧ ((render segs).drop (b.1 - p)).take b.2.length = b.2
  | [], _, _, h => by simp [bodies, gather] at h
  | s :: rest, p, b, h => by
    simp only [bodies, gather, List.mem_append] at h
    rcases h with h | h
    · refine ⟨(Seg.body_range h).1, ?_⟩
      cases s <;> simp only [Seg.body, List.not_mem_nil, List.mem_singleton] at h
      · subst h
        rename_i name body
        have e : p + name.length + 2 - p = ('\\' :: (name ++ ['{'])).length + 0 := by simp; omega
        have r : render (Seg.call name body :: rest)
            = ('\\' :: (name ++ ['{'])) ++ (body ++ '}' :: render rest) := by
          simp [render, Seg.render]
        rw [e, r, drop_append_len]
        simp
      · subst h
        rename_i name opt body
        have e : p + name.length + opt.length + 4 - p
            = ('\\' :: (name ++ '[' :: (opt ++ [']', '{']))).length + 0 := by simp; omega
        have r : render (Seg.callO name opt body :: rest)
            = ('\\' :: (name ++ '[' :: (opt ++ [']', '{']))) ++ (body ++ '}' :: render rest) := by
          simp [render, Seg.render]
        rw [e, r, drop_append_len]
        simp
    · obtain ⟨h1, h2⟩ := bodies_in_source rest _ b h
      refine ⟨by omega, ?_⟩
      have e : b.1 - p = s.render.length + (b.1 - (p + s.len)) := by rw [Seg.len_eq]; omega
      show ((s.render ++ render rest).drop (b.1 - p)).take b.2.length = b.2
      rw [e, drop_append_len]
      exact h2

theorem textChars_in_source : ∀ (segs : List Seg) (p : Nat) (cp : Char × Nat), cp ∈ textChars p segs →
    p ≤ cp.2 ∧ (render segs)[cp.2 - p]? = some cp.1 := fun _ _ _ h =>
  (fold_gather Seg.text).in_source (pos := id) (rend := Seg.render) (fun _ _ => rfl)
    (fun p s => by rw [Seg.len_eq]; rfl)
    (fun p s cp h => by
      cases s <;> simp only [gather, Seg.text, List.append_nil, List.not_mem_nil] at h
      exact posText_getElem _ p cp h) h

/-- **source order**: the calls are listed with increasing offsets, and a body ends before the next
    one starts -/
theorem bodies_sorted : ∀ (segs : List Seg) (p : Nat),
    (bodies p segs).Pairwise (fun a b => a.1 + a.2.length < b.1)
  | [], _ => by simp [bodies, gather]
  | s :: rest, p => by
    simp only [bodies, gather]
    rw [List.pairwise_append]
    refine ⟨?_, bodies_sorted rest _, ?_⟩
    · cases s <;> simp [Seg.body]
    · intro a ha b hb
      have h1 := Seg.body_range ha
      have h2 := SegFold.ge (fold_gather Seg.body) (pos := id) (fun _ _ => rfl) inSpan_body along_true hb rfl
      simp only [id] at h2
      omega

/-- **no text character lies inside a body**: the positions of the main flow avoid the spans of the
    bodies (closing brace included) -/
theorem text_avoids_bodies (segs : List Seg) (p : Nat) (cp : Char × Nat) (x : Nat × Nat)
    (h : cp ∈ textChars p segs) (hx : x ∈ bodySpans p segs) : cp.2 < x.1 ∨ x.1 + x.2 ≤ cp.2 := by
  obtain ⟨b, hb, rfl⟩ := List.mem_map.mp hx
  have := SegFold.disjoint (fold_gather Seg.text) (fold_gather Seg.body) (pos := id) (fun _ _ => rfl)
    inSpan_text inSpan_body
    (fun p s x q i j _ hx hq _ _ => by cases s <;> simp [gather, Seg.text, Seg.body] at hx hq)
    (x := cp) (q := b) rfl rfl along_true h hb
  show cp.2 < b.1 ∨ b.1 + (b.2.length + 1) ≤ cp.2
  omega

/-- **nothing of an optional argument appears**: no output position — of the main flow or of a
    flow — lies inside `[opt]` or `[placement]` (brackets included) -/
theorem out_avoids_opt (segs : List Seg) (p : Nat) (cp : Char × Nat) (x : Nat × Nat)
    (h : cp ∈ delLines (marks p segs) ++ flows p segs) (hx : x ∈ optSpans p segs) :
    cp.2 < x.1 ∨ x.1 + x.2 ≤ cp.2 := by
  have key : cp.2 + 1 ≤ x.1 ∨ x.1 + x.2 ≤ cp.2 := by
    rcases List.mem_append.mp h with h | h
    · exact SegFold.disjoint (fold_gather Seg.text) (fold_gather Seg.opt) (pos := id) (fun _ _ => rfl)
        inSpan_text inSpan_opt
        (fun p s x q i j _ hx hq _ _ => by cases s <;> simp [gather, Seg.text, Seg.opt] at hx hq)
        (x := cp) (q := x) rfl rfl along_true (main_sub_text h) hx
    · refine SegFold.disjoint fold_flows (fold_gather Seg.opt) (pos := id) (fun _ _ => rfl)
        inSpan_flows inSpan_opt ?_ (x := cp) (q := x) rfl rfl along_true h hx
      -- within `\name[opt]{body}` the flow carries positions of the body, which stands behind `[opt]`
      intro p s c q i j _ hc hq hi hj
      cases hi; cases hj
      cases s <;> simp only [gather, Seg.opt, flows, List.append_nil, List.not_mem_nil,
        List.mem_singleton] at hc hq
      subst hq
      have := mem_flowOut hc
      right; simp only; omega
  omega

/-- **each flow is complete and appears exactly once**: for every call (`b` = offset of the first body
    character and body) the output is `A ++ flowOut b.1 b.2 ++ B` — three line breaks, the body at its
    own positions, one line break — and NO other entry of the output, neither of the main flow nor of
    another flow, has a position in the span of the body (closing brace included) -/
theorem flow_block (segs : List Seg) (p : Nat) (b : Nat × Str) (hb : b ∈ bodies p segs) :
    ∃ A B, delLines (marks p segs) ++ flows p segs = A ++ flowOut b.1 b.2 ++ B ∧
      (∀ cp ∈ A, cp.2 < b.1 ∨ b.1 + b.2.length < cp.2) ∧
      (∀ cp ∈ B, cp.2 < b.1 ∨ b.1 + b.2.length < cp.2) := by
  obtain ⟨L, Rr, hsplit⟩ := List.append_of_mem hb
  have hsorted := bodies_sorted segs p
  rw [hsplit, List.pairwise_append] at hsorted
  obtain ⟨_, hR, hLR⟩ := hsorted
  rw [List.pairwise_cons] at hR
  refine ⟨delLines (marks p segs) ++ L.flatMap (fun b => flowOut b.1 b.2),
    Rr.flatMap (fun b => flowOut b.1 b.2), ?_, ?_, ?_⟩
  · rw [flows_eq_bodies, hsplit]
    simp [List.flatMap_append]
  · intro cp hcp
    rcases List.mem_append.mp hcp with h | h
    · have := text_avoids_bodies segs p cp (b.1, b.2.length + 1) (main_sub_text h)
        (by simp only [bodySpans, List.mem_map]; exact ⟨b, hb, rfl⟩)
      simp only at this; omega
    · obtain ⟨a, ha, hcpa⟩ := List.mem_flatMap.mp h
      have h1 := hLR a ha b (by simp)
      have h2 := mem_flowOut hcpa
      left; omega
  · intro cp hcp
    obtain ⟨c, hc, hcpc⟩ := List.mem_flatMap.mp hcp
    have h1 := hR.1 c hc
    have h2 := mem_flowOut hcpc
    right; omega

theorem flows_text (segs : List Seg) (p : Nat) :
    (flows p segs).map (·.1) = (bodies p segs).flatMap (fun b => [nl, nl, nl] ++ b.2 ++ [nl]) := by
  rw [flows_eq_bodies, List.map_flatMap]
  congr 1
  funext b
  simp [flowOut, posText_fst]

end PlainFlows
end Yalafi
