/-
  Proofs/HtmlText.lean — the theorems about the text of the HTML report that Properties/C16.lean states:
  `title_safe`, `href_safe` (a), `tags_from_templates` (b), `highlight_pieces`, `generateHighlight_ok` (d);
  (c) is `unprotect_protectHtml` of Proofs/HtmlTextEsc.lean.  For (b): every literal piece of `reportPieces` is one
  of the string constants of `genhtml.py` (`templates`), a style string of `vars` or a decimal number; the only
  `raw` pieces are the file name (`allOk_reportPieces`).
-/
import YalafiVerif.Proofs.HtmlTextRows
namespace Yalafi
namespace HtmlText
open Html

/-- every string constant of `genhtml.py` that goes into the report of one file -/
def templates : List String :=
  ["<span style=\"", "\" title=\"", "\">", "\n", "Suggestion: ", "Context: ", "<a href=\"", "\" target=\"_blank\">",
   "</a>", "</span>", "<tr>\n<td style=\"", "\" align=\"right\" valign=\"top\">", "&nbsp;&nbsp;</td>\n<td>",
   "</td>\n</tr>\n", "<table cellspacing=\"0\">\n", "</table>\n", "<tr><td style=\"", "&nbsp;&nbsp;</td><td>",
   "</td></tr>\n", "<a id=\"", "\"></a><H3>", "</H3>\n", "<a href=\"#", "-@@@", "<H3>Overlapping message(s) found:",
   " see here</H3></a>\n", " overlapping message(s)</H3>\n"]

def litOk (V : Vars) (s : Str) : Prop :=
  s ∈ templates.map String.toList ∨ s = V.highlightStyle ∨ V.highlightStyleUnsure = some s ∨ s = V.numberStyle ∨
  (∀ c ∈ s, c.isDigit = true)

def pieceOk (V : Vars) (file : Str) : TPiece → Prop
  | .lit s => litOk V s
  | .raw s => s = file
  | _ => True

def AllOk (V : Vars) (file : Str) (ps : List TPiece) : Prop := ∀ p ∈ ps, pieceOk V file p

theorem AllOk.append {V : Vars} {file : Str} {a b : List TPiece} (ha : AllOk V file a) (hb : AllOk V file b) :
    AllOk V file (a ++ b) := by
  intro p hp; rcases List.mem_append.1 hp with h | h
  · exact ha p h
  · exact hb p h

theorem AllOk.nil {V : Vars} {file : Str} : AllOk V file [] := by intro p hp; simp at hp

theorem AllOk.cons {V : Vars} {file : Str} {p : TPiece} {ps : List TPiece} (hp : pieceOk V file p) (hps : AllOk V file ps) :
    AllOk V file (p :: ps) := by
  intro q hq; rcases List.mem_cons.1 hq with h | h
  · subst h; exact hp
  · exact hps q h

theorem AllOk.tmpl {V : Vars} {file : Str} {s : String} {ps : List TPiece} (h : s ∈ templates)
    (hps : AllOk V file ps) : AllOk V file (L s :: ps) :=
  AllOk.cons (Or.inl (List.mem_map.2 ⟨s, h, rfl⟩)) hps

theorem litOk_numberStyle (V : Vars) : litOk V V.numberStyle := Or.inr (Or.inr (Or.inr (Or.inl rfl)))

theorem litOk_digits (V : Vars) (s : Str) (h : ∀ c ∈ s, c.isDigit = true) : litOk V s :=
  Or.inr (Or.inr (Or.inr (Or.inr h)))

theorem allOk_titlePieces (V : Vars) (file : Str) (d : MatchData) (lin : Int) (unsure : Bool) :
    AllOk V file (titlePieces d lin unsure) :=
  .cons trivial (.tmpl (by decide) (.cons trivial (.cons trivial (.tmpl (by decide) (.tmpl (by decide)
    (.cons trivial (.tmpl (by decide) (.tmpl (by decide) (.cons trivial .nil)))))))))

theorem beginMatch_allOk (V : Vars) (file : Str) (m : Json) (lin : Int) (unsure : Bool) (t : Tag)
    (h : beginMatch V m lin unsure = .ok t) : AllOk V file t.1 ∧ AllOk V file (t.2 ++ endMatch) := by
  obtain ⟨d, style, url, _, hs, _, rfl⟩ := beginMatch_ok V m lin unsure t h
  have hst : pieceOk V file (.lit style) := by
    cases unsure with
    | true => exact Or.inr (Or.inr (Or.inl (by simpa using hs)))
    | false =>
      simp only [Bool.false_eq_true, ↓reduceIte, Option.some.injEq] at hs
      exact Or.inr (Or.inl hs.symm)
  constructor
  · apply AllOk.append
    · unfold spanOpen
      refine AllOk.append (AllOk.append ?_ (allOk_titlePieces V file d lin unsure)) (.tmpl (by decide) .nil)
      exact .tmpl (by decide) (.cons hst (.tmpl (by decide) .nil))
    · cases url with
      | none => exact .nil
      | some u => exact .tmpl (by decide) (.cons trivial (.tmpl (by decide) .nil))
  · apply AllOk.append
    · cases url with
      | none => exact .nil
      | some u => exact .tmpl (by decide) .nil
    · exact .tmpl (by decide) .nil

theorem allOk_closed (V : Vars) (file : Str) : Closed (AllOk V file) := ⟨.nil, .append⟩

theorem allOk_numberCell (V : Vars) (file : Str) (a b : String) (lbl : Str) (ha : a ∈ templates) (hb : b ∈ templates)
    (hl : ∀ c ∈ lbl, c.isDigit = true) :
    AllOk V file [L a, .lit V.numberStyle, L "\" align=\"right\" valign=\"top\">", .lit lbl, L b] :=
  .tmpl ha (.cons (litOk_numberStyle V) (.tmpl (by decide) (.cons (litOk_digits V _ hl) (.tmpl hb .nil))))

theorem allOk_reportPieces (V : Vars) (file : Str) (n : Nat) (rep : Report) (tags : List Tag)
    (ht : ∀ t ∈ tags, AllOk V file t.1 ∧ AllOk V file (t.2 ++ endMatch)) :
    AllOk V file (reportPieces V file n rep tags) := by
  refine (allOk_closed V file).report V file n rep tags (fun _ => .cons trivial .nil) (forall_getD (fun t => AllOk V file t.1 ∧ AllOk V file (t.2 ++ endMatch))
      ⟨.nil, .tmpl (by decide) .nil⟩ tags ht)
    (fun b => ?_) (.tmpl (by decide) .nil) (.tmpl (by decide) .nil)
    (fun k => allOk_numberCell V file _ _ _ (by decide) (by decide) ?_) (.tmpl (by decide) .nil)
    (fun k => allOk_numberCell V file _ _ _ (by decide) (by decide) (natToStr_digits k)) (.tmpl (by decide) .nil)
    ?_ (.tmpl (by decide) .nil)
  · unfold prefixPieces
    refine AllOk.append (.tmpl (by decide) (.cons rfl (.tmpl (by decide) (.cons trivial (.tmpl (by decide) .nil))))) ?_
    split
    · exact .tmpl (by decide) (.cons rfl (.tmpl (by decide) (.tmpl (by decide) (.tmpl (by decide)
        (.tmpl (by decide) .nil)))))
    · exact .nil
  · unfold lineLabel
    split
    · exact natToStr_digits _
    · simp
  · exact .tmpl (by decide) (.cons rfl (.tmpl (by decide) (.tmpl (by decide) (.cons trivial
      (.tmpl (by decide) (.tmpl (by decide) .nil))))))


/-- the `title` attribute: what the pieces are, and which characters the value contains -/
theorem title_safe (V : Vars) (m : Json) (lin : Int) (unsure : Bool) (t : Tag)
    (h : beginMatch V m lin unsure = .ok t) :
    ∃ d style url, matchData m = .ok d ∧
      t.1 = spanOpen style (titlePieces d lin unsure) ++ linkOpen url ∧ t.2 = linkClose url ∧
      (∀ p ∈ titlePieces d lin unsure,
          (∃ s, p = .escTitle s) ∨ p = L "\n" ∨ p = L "Suggestion: " ∨ p = L "Context: ") ∧
      (∀ c ∈ renderPieces (titlePieces d lin unsure), c ≠ '"' ∧ c ≠ '<' ∧ c ≠ '>') ∧
      (renderPieces (titlePieces d lin unsure)).count '\n' = 3 := by
  obtain ⟨d, style, url, hd, _, _, rfl⟩ := beginMatch_ok V m lin unsure t h
  have hps : ∀ p ∈ titlePieces d lin unsure,
      (∃ s, p = .escTitle s) ∨ p = L "\n" ∨ p = L "Suggestion: " ∨ p = L "Context: " := by
    intro p hp
    simp only [titlePieces, List.mem_cons, List.not_mem_nil, or_false] at hp
    rcases hp with h | h | h | h | h | h | h | h | h | h <;> subst h <;> simp
  refine ⟨d, style, url, hd, rfl, rfl, hps, ?_, ?_⟩
  · intro c hc
    simp only [renderPieces, List.mem_flatMap] at hc
    obtain ⟨p, hp, hc⟩ := hc
    rcases hps p hp with ⟨s, rfl⟩ | rfl | rfl | rfl
    · have := protectTitle_safe s c hc
      exact ⟨this.1, this.2.1, this.2.2.1⟩
    · exact (by decide : ∀ c ∈ "\n".toList, c ≠ '"' ∧ c ≠ '<' ∧ c ≠ '>') c hc
    · exact (by decide : ∀ c ∈ "Suggestion: ".toList, c ≠ '"' ∧ c ≠ '<' ∧ c ≠ '>') c hc
    · exact (by decide : ∀ c ∈ "Context: ".toList, c ≠ '"' ∧ c ≠ '<' ∧ c ≠ '>') c hc
  · have z : ∀ s, (protectTitle s).count '\n' = 0 :=
      fun s => List.count_eq_zero.2 (fun hm => (protectTitle_safe s _ hm).2.2.2 rfl)
    simp only [titlePieces, renderPieces, List.flatMap_cons, List.flatMap_nil, TPiece.render, L, List.append_nil,
      List.count_append, z]
    decide

/-- the `href` attribute of `--link` -/
theorem href_safe (u : Str) :
    linkOpen (some u) = [L "<a href=\"", .escAttr u, L "\" target=\"_blank\">"] ∧
    ∀ c ∈ htmlEscape u, c ≠ '"' ∧ c ≠ '<' ∧ c ≠ '>' ∧ c ≠ '\'' :=
  ⟨rfl, htmlEscape_safe u⟩

/-! ### (b) the tags of the report of one file -/

/-- the report of one file is the rendering of `reportPieces`; every literal in it is a template of the
    program, every data piece stands where it is harmless; its tags are computed from the literals and the
    numbers of line breaks alone (`skel`), and are the same for any other data of the same shape -/
theorem tags_from_templates (T : Tables) (V : Vars) (tex : Str) (charmap : List Int) (ms : List Json) (file : Str)
    (context : Nat) (r : FileReport) (hV : VarsOk V) (hf : file.all (· != '"') = true)
    (h : generateHtmlText T V tex charmap ms file context = .ok r) :
    ∃ rep tags, generateHtml T tex charmap (olPrefix ms) context = .ok rep ∧ matchTags V ms rep.hdata = .ok tags ∧
      r.body = renderPieces (reportPieces V file ms.length rep tags) ∧
      AllOk V file (reportPieces V file ms.length rep tags) ∧
      flow .text (reportPieces V file ms.length rep tags) = some .text ∧
      scan .text r.body = (.text, skel .text (reportPieces V file ms.length rep tags)) ∧
      (∀ qs, qs.map TPiece.shape = (reportPieces V file ms.length rep tags).map TPiece.shape →
        tagsOf (renderPieces qs) = tagsOf r.body) ∧
      tagsOf (renderPieces ((reportPieces V file ms.length rep tags).map TPiece.blank)) = tagsOf r.body := by
  obtain ⟨rep, _, hrep, hasm⟩ := generateHtmlText_ok T V tex charmap ms file context r h
  obtain ⟨tags, htags, hbody, _, _, _⟩ := assemble_pieces V hV ms file rep r hasm
  have hfl := flow_reportPieces V hV file hf ms.length rep tags (matchTags_tagOk V hV ms rep.hdata tags htags)
  refine ⟨rep, tags, hrep, htags, hbody, ?_, hfl, ?_, ?_, ?_⟩
  · exact allOk_reportPieces V file ms.length rep tags (matchTags_forall V _ (beginMatch_allOk V file) ms rep.hdata tags htags)
  · rw [hbody]; exact scan_render _ _ _ hfl
  · intro qs hqs; rw [hbody]; exact tagsOf_shape _ _ _ hfl hqs
  · rw [hbody]; exact tagsOf_blank _ _ hfl

/-- `generate_highlight`: one tag pair per line piece of the text; the text between a tag pair contains no
    line break and no `<`/`>`; the line pieces are the text cut at its line breaks (only the last piece can
    lack the line break, and then it is not empty); without the tags the result is the protected text -/
theorem highlight_pieces (pre post s : Str) :
    highlightWith pre post s = (hlLines s).flatMap (fun l => pre ++ protectHtml l.1 ++ post ++ brGroup2 l.2) ∧
    (∀ l ∈ hlLines s, '\n' ∉ l.1 ∧ ∀ c ∈ protectHtml l.1, c ≠ '<' ∧ c ≠ '>' ∧ c ≠ '\n' ∧ c ≠ '"') ∧
    joinLines (hlLines s) = s ∧
    ((hlLines s).filter (·.2)).length = s.count '\n' ∧
    (∃ (ls : List Str) (last : Str),
        hlLines s = ls.map (fun l => (l, true)) ++ (if last.isEmpty then [] else [(last, false)])) ∧
    highlightWith [] [] s = protectHtml s := by
  refine ⟨highlightWith_eq pre post s, ?_, ?_, hlLinesAux_count [] s, hlLinesAux_shape [] s, highlightWith_strip s⟩
  · intro l hl
    have := hlLinesAux_no_nl [] s (by simp) l hl
    exact ⟨this, protectHtml_plain l.1 this⟩
  · have := hlLinesAux_join [] s
    simpa [hlLines] using this

theorem generateHighlight_ok (V : Vars) (m : Json) (s : Str) (lin : Int) (unsure : Bool) (out : Str)
    (h : generateHighlight V m s lin unsure = .ok out) :
    ∃ t, beginMatch V m lin unsure = .ok t ∧ out = highlightWith (Tag.pre t) (Tag.post t) s := by
  unfold generateHighlight at h
  split at h
  · rename_i t ht; cases h; exact ⟨t, ht, rfl⟩
  · cases h
  · cases h

end HtmlText
end Yalafi
