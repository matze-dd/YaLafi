/-
  Proofs/UnknGeneral.lean — C19 on `tex2txt` for EVERY source text: the option `--unkn` changes nothing in the run of
  the filter (`initParser` and `parse` do not look at it); it only replaces the returned text by the collected list
  of unknown names, one per line, in the order of `Parser.get_unknowns()` (= order of first use), and the position list
  by as many copies of the dummy number (0 in Python, the `+ 1` of the one-based output applied).  So everything the
  end-to-end theorems state about `r.unknowns` (proved with `unkn = false`) is a statement about the OUTPUT of `--unkn`.
  `tex2txt_same_run` (also used by Proofs/ReplGeneral.lean): two option records that the run does not tell apart.
-/
import YalafiVerif.Proofs.Top
namespace Yalafi

theorem tex2txt_same_run (T : PTables) (fuel : Nat) (latex : Str) (o o' : Options) (multi : Bool)
    (thresh : Nat) (fs : FS)
    (hrun : (initParser T fuel o' >>= fun _ => parse T fuel latex o'.defs (extrOf o')) (initialState T o' multi fs)
      = (initParser T fuel o >>= fun _ => parse T fuel latex o.defs (extrOf o)) (initialState T o multi fs)) :
    ∃ res, tex2txt T fuel latex o multi thresh fs = finishT2T T o multi thresh res ∧
      tex2txt T fuel latex o' multi thresh fs = finishT2T T o' multi thresh res :=
  ⟨_, tex2txt_eq_finish .., by rw [tex2txt_eq_finish, hrun]⟩

/-- the text printed by `--unkn`: each name followed by a line break … (Python: `'\n'.join(unknowns) + '\n'`) -/
def unknText (names : List Str) : Str := strJoin [nl] names ++ [nl]

theorem tex2txt_unkn_commutes (T : PTables) (fuel : Nat) (latex : Str) (o : Options) (thresh : Nat) (fs : FS)
    (r0 : T2TResult)
    (h0 : tex2txt T fuel latex { o with unkn := false } false thresh fs = .ok r0) :
    tex2txt T fuel latex { o with unkn := true } false thresh fs =
      .ok { r0 with txt := unknText r0.unknowns, pos := List.replicate (unknText r0.unknowns).length 1 } := by
  obtain ⟨res, e0, e1⟩ := tex2txt_same_run T fuel latex { o with unkn := false } { o with unkn := true }
    false thresh fs rfl
  rw [e0] at h0
  rw [e1]
  cases res with
  | ok p =>
    simp only [finishT2T, Bool.not_false, if_true, Bool.false_eq_true, if_false] at h0 ⊢
    injection h0 with h0
    subst h0
    simp [unknText, List.map_replicate]
  | _ => cases h0

theorem tex2txt_unkn_output (T : PTables) (fuel : Nat) (latex : Str) (o : Options) (thresh : Nat) (fs : FS)
    (r : T2TResult) (hu : o.unkn = true)
    (h : tex2txt T fuel latex o false thresh fs = .ok r) :
    r.txt = unknText r.unknowns ∧ r.pos = List.replicate r.txt.length 1 := by
  rw [tex2txt_eq_finish] at h
  generalize (initParser T fuel o >>= fun _ => parse T fuel latex o.defs (extrOf o)) (initialState T o false fs)
    = res at h
  cases res with
  | ok p =>
    simp only [finishT2T, Bool.not_false, if_true, hu] at h
    injection h with h
    subst h
    simp [unknText, List.map_replicate]
  | _ => cases h

end Yalafi
