/-
  Proofs/ReplGeneral.lean — C13 on `tex2txt` for EVERY source text: the option `--repl` does
  nothing but apply `replace_phrases` to the text and the position list that the filter returns
  without it.  (`parse` and `initParser` do not look at `repl`.)  Together with
  `replacePhrases_ok` and C01 this gives: with a replacement list, text and positions still have
  equal length and every position is a position of the run without replacements.
-/
import YalafiVerif.Proofs.UnknGeneral
import YalafiVerif.Proofs.Replace
namespace Yalafi

/-- with `hasRepl := true` the result is `replacePhrases` applied to text and (0-based) positions of the
    result with `hasRepl := false`; everything else is the same -/
theorem tex2txt_repl_commutes (T : PTables) (fuel : Nat) (latex : Str) (o : Options) (thresh : Nat) (fs : FS)
    (r0 : T2TResult) (hunkn : o.unkn = false)
    (h0 : tex2txt T fuel latex { o with hasRepl := false } false thresh fs = .ok r0) :
    tex2txt T fuel latex { o with hasRepl := true } false thresh fs =
      .ok { r0 with
            txt := (replacePhrases T.toTables r0.txt (r0.pos.map (· - 1)) o.repl).1,
            pos := (replacePhrases T.toTables r0.txt (r0.pos.map (· - 1)) o.repl).2.map (· + 1) } := by
  obtain ⟨res, e0, e1⟩ := tex2txt_same_run T fuel latex { o with hasRepl := false } { o with hasRepl := true }
    false thresh fs rfl
  rw [e0] at h0
  rw [e1]
  cases res with
  | ok p =>
    simp only [finishT2T, Bool.not_false, if_true, hunkn, Bool.false_eq_true, if_false] at h0 ⊢
    injection h0 with h0
    subst h0
    simp [List.map_map, Function.comp_def]
  | _ => cases h0

/-- **C13 / C01 for every source**: with a replacement list, text and position list of the result
    have equal length and every reported position is a position reported without the list -/
theorem tex2txt_repl_ok (T : PTables) (fuel : Nat) (latex : Str) (o : Options) (thresh : Nat) (fs : FS)
    (r0 : T2TResult) (hunkn : o.unkn = false)
    (h0 : tex2txt T fuel latex { o with hasRepl := false } false thresh fs = .ok r0)
    (hlen : r0.txt.length = r0.pos.length) :
    ∃ r, tex2txt T fuel latex { o with hasRepl := true } false thresh fs = .ok r ∧
      r.txt.length = r.pos.length ∧ (∀ p ∈ r.pos, p - 1 ∈ r0.pos.map (· - 1)) ∧
      r.unknowns = r0.unknowns ∧ r.diags = r0.diags := by
  refine ⟨_, tex2txt_repl_commutes T fuel latex o thresh fs r0 hunkn h0, ?_, ?_, rfl, rfl⟩
  · have := (replacePhrases_ok T.toTables r0.txt (r0.pos.map (· - 1)) o.repl (by simpa using hlen)).1
    simpa using this
  · intro p hp
    simp only [List.mem_map] at hp
    obtain ⟨q, hq, rfl⟩ := hp
    have := (replacePhrases_ok T.toTables r0.txt (r0.pos.map (· - 1)) o.repl (by simpa using hlen)).2 q hq
    simpa using this

/-- what `--repl` does to one entry of a multi-language result (positions are one-based there): only the parts of
    the MAIN language are rewritten, each piece by `replace_phrases` on its own text and map -/
def replPart (T : PTables) (o : Options) (e : Str × List (Str × List Nat)) : Str × List (Str × List Nat) :=
  if e.1 == o.lang then
    (e.1, e.2.map (fun tp =>
      ((replacePhrases T.toTables tp.1 (tp.2.map (· - 1)) o.repl).1,
       (replacePhrases T.toTables tp.1 (tp.2.map (· - 1)) o.repl).2.map (· + 1))))
  else e

/-- **multi-language mode, every source text**: `--repl` does nothing but apply `replace_phrases` to the pieces of the main
    language of the result obtained without it; the pieces of all other languages, unknowns and diagnostics are the same -/
theorem tex2txt_repl_commutes_ml (T : PTables) (fuel : Nat) (latex : Str) (o : Options) (thresh : Nat) (fs : FS)
    (r0 : T2TResult)
    (h0 : tex2txt T fuel latex { o with hasRepl := false } true thresh fs = .ok r0) :
    tex2txt T fuel latex { o with hasRepl := true } true thresh fs =
      .ok { r0 with parts := r0.parts.map (replPart T o) } := by
  obtain ⟨res, e0, e1⟩ := tex2txt_same_run T fuel latex { o with hasRepl := false } { o with hasRepl := true }
    true thresh fs rfl
  rw [e0] at h0
  rw [e1]
  cases res with
  | ok p =>
    obtain ⟨toks, st⟩ := p
    simp only [finishT2T, Bool.not_true, Bool.false_eq_true, if_false] at h0 ⊢
    cases hml : getTxtPosML toks o.lang thresh (st.rots.map (fun r => (r.code, r.chg))) with
    | none => simp [hml] at h0
    | some pr =>
      simp only [hml] at h0 ⊢
      injection h0 with h0
      subst h0
      simp only [Bool.false_and, Bool.true_and, if_false, List.map_map, Outcome.ok.injEq, T2TResult.mk.injEq, true_and, and_true,
        List.map_id']
      apply List.map_congr_left
      intro e _
      by_cases he : e.1 = o.lang
      · simp [replPart, he, List.map_map, Function.comp_def]
      · simp [replPart, he]
  | _ => cases h0

end Yalafi
