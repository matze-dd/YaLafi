/-
  Proofs/PlainMixSrc.lean — source level of the UNION grammar (header with the end-to-end statement
  and all side conditions: Proofs/PlainMixE2E.lean).

  `Seg`, `render`, `cwNames`, `nFormulas`   the documents
  `marks`, `mathMarks`            the reference: the document as a list of `PlainMacro.Mark`s (closed
                                  form: the `k`-th formula takes `PlainMath.placeholder repls k`);
                                  `marks_congr`, `marks_rotL`, `marks_nomath`: the collection
                                  matters only through these placeholders (the model keeps it rotated)
  `firstTokTxtU`, `okAtU`, `textOkU`, `spcOk`, `cwOkU`, `comOk`, `verbOkU`, `segsOk`
                                  the side conditions (computable); `PlainVanish.vanOk` and
                                  `PlainMath.mathOk` are reused as they are
  `Con`, `OkSrc`                  the same on the source text (what the proofs use; `OkSrcG` over the
                                  constructs `Con`): position, source, and as the meaning the marks (as a
                                  function of the stored collection; `fnChr`, `chrs_fn`: what a text adds
                                  to them), the unknown names, the number of formulas
  `SpcFacts`, `ComFacts`, `CwUFacts`, `VerbFacts`   the side conditions as facts; `firstTokTxtU_*`: the
                                  text of the first token
  `commentLen_rest`               behind a comment token there is no white space that `skip_space`
                                  would drop (so comments may follow a control word)
  `ScanFacts`                     the common invariant "the token buffer is the scan of the rest of
                                  the document": `flat ps`, `PiecesOk`, marks of `outP`, `Simple`,
                                  cost, names, formulas; text and droppability of the first token
  `ScanFacts.cons`                a piece in front of a scanned rest
  `TextTok.of_droppable`, `firstK_text`, `scans_cwU`   the token of a text character and `skip_space`; the run
                                  of the scanner through a control word with its white space; `marksOf_*`,
                                  `simple_*`: what the output of a piece spells; `firstK_head`: the
                                  first token (used by Proofs/PlainMix2Scan.lean as well)
  `scanAll_mix`                   ONE scanner lemma, from `scanAll_okSrc`
-/
import YalafiVerif.Proofs.PlainMix
namespace Yalafi
namespace PlainMix

open M
open PlainMacro


inductive Seg where
  | txt (s : Str)
  /-- a special sequence `k` of the table (`--`, `~`, `\%`, `\&`, `` `` ``, …) -/
  | spc (k : Str)
  /-- an undeclared control word `\name` and the white space `sp` that `skip_space` drops behind it -/
  | cw (name sp : Str)
  /-- a call `\name{key}` of a vanishing macro -/
  | van (name key : Str)
  /-- a comment `%body` — `body` is everything the scanner takes: the text up to the line break and,
      unless a blank line follows, the line break and the indentation of the next line -/
  | com (body : Str)
  /-- a complete `\verb d s d` -/
  | verb (d : Char) (s : Str)
  /-- a simple inline formula `$body$` -/
  | math (body : Str)
deriving Repr, DecidableEq

def Seg.render : Seg → Str
  | .txt s => s
  | .spc k => k
  | .cw name sp => '\\' :: (name ++ sp)
  | .van name key => '\\' :: (name ++ '{' :: (key ++ ['}']))
  | .com body => '%' :: body
  | .verb d s => '\\' :: 'v' :: 'e' :: 'r' :: 'b' :: d :: (s ++ [d])
  | .math body => '$' :: (body ++ ['$'])

def render : List Seg → Str
  | [] => []
  | s :: rest => s.render ++ render rest

def cwNames : List Seg → List Str
  | [] => []
  | .cw name _ :: rest => ('\\' :: name) :: cwNames rest
  | _ :: rest => cwNames rest

def nFormulas : List Seg → Nat
  | [] => 0
  | .math _ :: rest => nFormulas rest + 1
  | _ :: rest => nFormulas rest

/-- the marks of a formula `$body$` that starts at position `p` and is replaced by the placeholder
    `ph`: an Action mark (for the opening `$`), the placeholder and the closing punctuation mark
    of the body (`PlainMath.punctOf`), every character pinned to the position of the first
    character of the body that is no white space, and another Action mark -/
def mathMarks (T : PTables) (ph : Str) (p : Nat) (body : Str) : List Mark :=
  none :: ((ph ++ PlainMath.punctOf T body).map
      (fun c => some (c, p + 1 + PlainMath.leadBlanks body)) ++ [none])

/-- **the reference**: the document, which starts at position `p`, as a list of marks —
    `some (c, pos)` for an output character with its position, `none` where the model leaves an
    Action token; `repls` is the collection of inline placeholders of the language, `k` the number
    of formulas in front:
    * a text character: itself, at its own position;
    * a special sequence: a mark, then its table value at the positions `p, p+1, …` from the first
      character of the sequence on (all keys of the real table have values of length ≤ 1);
    * an undeclared control word (with the white space dropped behind it): a mark;
    * a call of a vanishing macro: a mark;
    * a comment: nothing (no Action token: its line break is simply gone);
    * `\verb d s d`: a mark, then the content `s`, every character at its own position;
    * the `k+1`-st formula: `mathMarks` with the placeholder `PlainMath.placeholder repls (k+1)`
      (entry `(k+1) mod length` of the collection). -/
def marks (T : PTables) (repls : List Str) : Nat → Nat → List Seg → List Mark
  | _, _, [] => []
  | k, p, .txt s :: rest => (posText p s).map some ++ marks T repls k (p + s.length) rest
  | k, p, .spc key :: rest =>
    none :: ((posText p (specialValD T.toTables key)).map some ++ marks T repls k (p + key.length) rest)
  | k, p, .cw name sp :: rest => none :: marks T repls k (p + (name.length + 1 + sp.length)) rest
  | k, p, .van name key :: rest => none :: marks T repls k (p + PlainVanish.vanLen name key) rest
  | k, p, .com body :: rest => marks T repls k (p + (body.length + 1)) rest
  | k, p, .verb _ s :: rest =>
    none :: ((posText (p + 6) s).map some ++ marks T repls k (p + (s.length + 7)) rest)
  | k, p, .math body :: rest =>
    mathMarks T (PlainMath.placeholder repls (k + 1)) p body
      ++ marks T repls (k + 1) (p + (body.length + 2)) rest

theorem marks_congr (T : PTables) {l l' : List Str} : ∀ (segs : List Seg) (k k' p : Nat),
    (∀ j, j < nFormulas segs →
      PlainMath.placeholder l (k + j + 1) = PlainMath.placeholder l' (k' + j + 1)) →
    marks T l k p segs = marks T l' k' p segs
  | [], _, _, _, _ => rfl
  | .txt s :: rest, k, k', p, h => by simp only [marks, marks_congr T rest k k' _ h]
  | .spc key :: rest, k, k', p, h => by simp only [marks, marks_congr T rest k k' _ h]
  | .cw name sp :: rest, k, k', p, h => by simp only [marks, marks_congr T rest k k' _ h]
  | .van name key :: rest, k, k', p, h => by simp only [marks, marks_congr T rest k k' _ h]
  | .com body :: rest, k, k', p, h => by simp only [marks, marks_congr T rest k k' _ h]
  | .verb d s :: rest, k, k', p, h => by simp only [marks, marks_congr T rest k k' _ h]
  | .math body :: rest, k, k', p, h => by
    have h0 : PlainMath.placeholder l (k + 1) = PlainMath.placeholder l' (k' + 1) := h 0 (Nat.succ_pos _)
    have hr : ∀ j, j < nFormulas rest →
        PlainMath.placeholder l (k + 1 + j + 1) = PlainMath.placeholder l' (k' + 1 + j + 1) := fun j hj => by
      have := h (j + 1) (Nat.succ_lt_succ hj)
      rwa [show k + (j + 1) + 1 = k + 1 + j + 1 by omega,
        show k' + (j + 1) + 1 = k' + 1 + j + 1 by omega] at this
    simp only [marks, h0, marks_congr T rest (k + 1) (k' + 1) _ hr]

theorem marks_rotL (T : PTables) (l : List Str) (segs : List Seg) (k p : Nat) :
    marks T (rotL l) k p segs = marks T l (k + 1) p segs :=
  marks_congr T segs k (k + 1) p fun j _ => by
    rw [PlainMath.rotL_placeholder, show k + 1 + j + 1 = k + j + 1 + 1 by omega]

theorem marks_nomath (T : PTables) (l l' : List Str) (segs : List Seg) (k k' p : Nat)
    (h : nFormulas segs = 0) : marks T l k p segs = marks T l' k' p segs :=
  marks_congr T segs k k' p fun j hj => absurd hj (by omega)


/-- the text of the first scanner token of a well-formed source: a run of white space, a comment,
    a special sequence, a control word, the content of a `\verb`, or one character -/
def firstTokTxtU (T : Tables) : Str → Str
  | [] => []
  | d :: ds =>
    if isSpace d then (d :: ds).takeWhile isSpace
    else if d == '%' then (d :: ds).take (commentLen (d :: ds))
    else match matchSpecial T (d :: ds) with
      | some t => t
      | none =>
        if d == '\\' then
          (if d :: ds.takeWhile macroChar == sVerb then (scanVerb T [] 0 (d :: ds)).tok.txt
           else d :: ds.takeWhile macroChar)
        else [d]

/-- the text character `c`, followed by `cs` (the *whole* rest of the source), is inert; this is
    `inertAt` of Proofs/Plain.lean, except that the token behind `c` may be any token of the
    union grammar:
    * `c` is not an active character of the current language settings, or it is no white space
      and does not form a short macro with the token behind it (or nothing is behind it), and
    * it is white space, or an ordinary character at which no special sequence matches -/
def okAtU (T : PTables) (st : PState) (c : Char) (cs : Str) : Bool :=
  (!(activeChars T st).contains [c] ||
    (!isSpace c && (cs.isEmpty || !(shortKeys T st).contains (c :: firstTokTxtU T.toTables cs)))) &&
  (isSpace c || (!structuralChar c && (matchSpecial T.toTables (c :: cs)).isNone))

def textOkU (T : PTables) (st : PState) : Str → Str → Bool
  | [], _ => true
  | c :: cs, R => okAtU T st c (cs ++ R) && textOkU T st cs R

/-- the special sequence `k`, followed by `R`:
    * the scanner matches exactly `k` here (the first = longest entry of the sorted table);
    * `k` reaches the `.special` branch of `expand_sequence` (`plainSpecialKey` of
      Proofs/PlainSpecial.lean: it does not start with white space, `%` or `#`, it is none of
      `$ \( $$ \[ \\ { }`, and it has a value);
    * its value contains no line break or is blank (real table: no value has a line break) -/
def spcOk (T : PTables) (k R : Str) : Bool :=
  matchSpecial T.toTables (k ++ R) == some k && plainSpecialKey T.toTables k &&
  (!hasNl (specialValD T.toTables k) || isBlank (specialValD T.toTables k))

/-- the control word `\name`, followed by the white space `sp` and `R`:
    * `cwOk` of Proofs/PlainUnknown.lean (one macro token of the scanner, undeclared);
    * `sp` is white space with at most one line break (one SpaceToken: dropped by `skip_space`;
      white space with two line breaks is a paragraph token, which is NOT dropped);
    * `R` does not start with white space (`sp` is ALL the white space behind the name), unless
      `sp` is empty and the white space in front of `R` holds two line breaks (`\name⏎⏎`: the
      paragraph break stays).  `R` may start with comments: `skip_space` drops them too, which
      changes nothing, because a comment never leaves droppable white space behind it. -/
def cwOkU (T : PTables) (st : PState) (name sp R : Str) : Bool :=
  cwOk T st name (sp ++ R) && sp.all isSpace && decide (countNl sp < 2) &&
  R.head?.all (fun d => !isSpace d || (sp.isEmpty && decide (2 ≤ countNl (R.takeWhile isSpace))))

/-- the comment `%body`, followed by `R`: the scanner takes exactly `%body` as the comment token
    (`scan_comment`), and the token is an ordinary comment (`comTokOk` of Proofs/PlainComment.lean:
    not the marker `%%% LT-SKIP-BEGIN`, no active character) -/
def comOk (T : PTables) (st : PState) (body R : Str) : Bool :=
  commentLen ('%' :: (body ++ R)) == body.length + 1 && Comment.comTokOk T st ('%' :: body)

/-- `\verb d s d`, followed by `R` (`verbOk` of Proofs/PlainVerb.lean): the delimiter is no letter
    or `@` (else the scanner reads the control word `\verbd…`) and no line break; the content
    contains neither the delimiter nor a line break; no special sequence matches at the backslash -/
def verbOkU (T : PTables) (d : Char) (s R : Str) : Bool :=
  !macroChar d && d != nl && s.all (fun c => c != d && c != nl) &&
  (matchSpecial T.toTables ('\\' :: 'v' :: 'e' :: 'r' :: 'b' :: d :: (s ++ d :: R))).isNone

/-- well-formed documents: every segment is fine in front of the rendering of the following ones -/
def segsOk (T : PTables) (st : PState) : List Seg → Bool
  | [] => true
  | .txt s :: rest => textOkU T st s (render rest) && segsOk T st rest
  | .spc k :: rest => spcOk T k (render rest) && segsOk T st rest
  | .cw name sp :: rest => cwOkU T st name sp (render rest) && segsOk T st rest
  | .van name key :: rest => PlainVanish.vanOk T st name key (render rest) && segsOk T st rest
  | .com body :: rest => comOk T st body (render rest) && segsOk T st rest
  | .verb d s :: rest => verbOkU T d s (render rest) && segsOk T st rest
  | .math body :: rest => PlainMath.mathOk T body (render rest) && segsOk T st rest


/-- what a text character adds to a meaning whose first component is the marks, as a function of the stored
    placeholder collection -/
def fnChr {β : Type} : Char → Nat → (List Str → List Mark) × β → (List Str → List Mark) × β :=
  fun c p a => (fun l => some (c, p) :: a.1 l, a.2)

theorem chrs_fn {β : Type} (a : (List Str → List Mark) × β) : ∀ (s : Str) (p : Nat),
    chrs fnChr p s a = (fun l => (posText p s).map some ++ a.1 l, a.2)
  | [], _ => rfl
  | c :: cs, p => by rw [chrs, chrs_fn a cs (p + 1)]; rfl

theorem textOkU_eq (T : PTables) (st : PState) : ∀ (s R : Str), textOkU T st s R = textOkG (okAtU T st) s R
  | [], _ => rfl
  | c :: cs, R => by rw [textOkU, textOkG, textOkU_eq T st cs R]

theorem spcOk_head {T : PTables} {c : Char} {tl R : Str} (h : spcOk T (c :: tl) R = true) :
    isSpace c = false ∧ c ≠ '%' ∧ c ≠ '#' := by
  simp only [spcOk, plainSpecialKey, Bool.and_eq_true, Bool.not_eq_true', bne_iff_ne, ne_eq] at h
  exact ⟨h.1.2.1.1.1.1, h.1.2.1.1.1.2, h.1.2.1.1.2⟩

/-- a construct at the head of the source, in front of the rest `R`; the meaning is the marks (as a function
    of the stored placeholder collection), the unknown names and the number of formulas -/
inductive Con (T : PTables) (st : PState) : Nat → Str → (List Str → List Mark) × List Str × Nat →
    Nat → Str → (List Str → List Mark) × List Str × Nat → Prop
  | spc (p : Nat) (c : Char) (tl R : Str) (ms : List Str → List Mark) (nms : List Str) (nf : Nat) :
      spcOk T (c :: tl) R = true →
      Con T st p (c :: (tl ++ R))
        (fun l => none :: ((posText p (specialValD T.toTables (c :: tl))).map some ++ ms l), nms, nf)
        (p + (tl.length + 1)) R (ms, nms, nf)
  | cw (p : Nat) (name sp R : Str) (ms : List Str → List Mark) (nms : List Str) (nf : Nat) :
      cwOkU T st name sp R = true →
      Con T st p ('\\' :: (name ++ (sp ++ R))) (fun l => none :: ms l, ('\\' :: name) :: nms, nf)
        (p + (name.length + 1 + sp.length)) R (ms, nms, nf)
  | van (p : Nat) (name key R : Str) (ms : List Str → List Mark) (nms : List Str) (nf : Nat) :
      PlainVanish.vanOk T st name key R = true →
      Con T st p ('\\' :: (name ++ '{' :: (key ++ '}' :: R))) (fun l => none :: ms l, nms, nf)
        (p + PlainVanish.vanLen name key) R (ms, nms, nf)
  | com (p : Nat) (body R : Str) (ms : List Str → List Mark) (nms : List Str) (nf : Nat) :
      comOk T st body R = true →
      Con T st p ('%' :: (body ++ R)) (ms, nms, nf) (p + (body.length + 1)) R (ms, nms, nf)
  | verb (p : Nat) (d : Char) (s R : Str) (ms : List Str → List Mark) (nms : List Str) (nf : Nat) :
      verbOkU T d s R = true →
      Con T st p ('\\' :: 'v' :: 'e' :: 'r' :: 'b' :: d :: (s ++ d :: R))
        (fun l => none :: ((posText (p + 6) s).map some ++ ms l), nms, nf) (p + (s.length + 7)) R (ms, nms, nf)
  | math (p : Nat) (body R : Str) (ms : List Str → List Mark) (nms : List Str) (nf : Nat) :
      PlainMath.mathOk T body R = true →
      Con T st p ('$' :: (body ++ '$' :: R))
        (fun l => mathMarks T ((rotL l).headD []) p body ++ ms (rotL l), nms, nf + 1)
        (p + (body.length + 2)) R (ms, nms, nf)

theorem Con.vis (T : PTables) (st : PState) : ConVis (Con T st) := by
  rintro _ _ _ _ _ _ ⟨⟩
  case spc hd => exact ⟨_, _, rfl, (spcOk_head hd).1⟩
  all_goals exact ⟨_, _, rfl, rfl⟩

/-- the source text, which starts at position `p`, with its marks (as a function of the stored
    placeholder collection), its unknown names and its number of formulas -/
abbrev OkSrc (T : PTables) (st : PState) (p : Nat) (W : Str) (ms : List Str → List Mark) (nms : List Str)
    (nf : Nat) : Prop :=
  OkSrcG (okAtU T st) fnChr (· = (fun _ => [], [], 0)) (Con T st) p W (ms, nms, nf)

theorem spcOk_ne {T : PTables} {k R : Str} (h : spcOk T k R = true) : k ≠ [] := by
  rintro rfl
  simp [spcOk, plainSpecialKey] at h

theorem OkSrc_of_segsOk (T : PTables) (st : PState) :
    ∀ (segs : List Seg) (p : Nat), segsOk T st segs = true →
      OkSrc T st p (render segs) (fun l => marks T l 0 p segs) (cwNames segs) (nFormulas segs)
  | [], p, _ => .nil p _ rfl
  | .txt s :: rest, p, h => by
    simp only [segsOk, Bool.and_eq_true, textOkU_eq] at h
    have := OkSrcG.text _ _ s p (OkSrc_of_segsOk T st rest _ h.2) h.1
    rwa [chrs_fn] at this
  | .spc k :: rest, p, h => by
    simp only [segsOk, Bool.and_eq_true] at h
    cases k with
    | nil => exact absurd rfl (spcOk_ne h.1)
    | cons c tl =>
      have := OkSrcG.con (Con.spc p c tl (render rest) _ _ _ h.1) (OkSrc_of_segsOk T st rest _ h.2)
      simpa [render, Seg.render, marks, cwNames, nFormulas] using this
  | .cw name sp :: rest, p, h => by
    simp only [segsOk, Bool.and_eq_true] at h
    have := OkSrcG.con (Con.cw p name sp (render rest) _ _ _ h.1) (OkSrc_of_segsOk T st rest _ h.2)
    simpa [render, Seg.render, marks, cwNames, nFormulas] using this
  | .van name key :: rest, p, h => by
    simp only [segsOk, Bool.and_eq_true] at h
    have := OkSrcG.con (Con.van p name key (render rest) _ _ _ h.1) (OkSrc_of_segsOk T st rest _ h.2)
    simpa [render, Seg.render, marks, cwNames, nFormulas] using this
  | .com body :: rest, p, h => by
    simp only [segsOk, Bool.and_eq_true] at h
    have := OkSrcG.con (Con.com p body (render rest) _ _ _ h.1) (OkSrc_of_segsOk T st rest _ h.2)
    simpa [render, Seg.render, marks, cwNames, nFormulas] using this
  | .verb d s :: rest, p, h => by
    simp only [segsOk, Bool.and_eq_true] at h
    have := OkSrcG.con (Con.verb p d s (render rest) _ _ _ h.1) (OkSrc_of_segsOk T st rest _ h.2)
    simpa [render, Seg.render, marks, cwNames, nFormulas] using this
  | .math body :: rest, p, h => by
    simp only [segsOk, Bool.and_eq_true] at h
    have := OkSrcG.con (Con.math p body (render rest) _ _ _ h.1) (OkSrc_of_segsOk T st rest _ h.2)
    simp only [PlainMath.rotL_headD, marks_rotL] at this
    simpa [render, Seg.render, marks, cwNames, nFormulas] using this


structure SpcFacts (T : PTables) (c : Char) (tl R : Str) : Prop where
  ms : matchSpecial T.toTables (c :: (tl ++ R)) = some (c :: tl)
  key : plainSpecialKey T.toTables (c :: tl) = true
  val : hasNl (specialValD T.toTables (c :: tl)) = true → isBlank (specialValD T.toTables (c :: tl)) = true
  nsp : isSpace c = false
  npc : c ≠ '%'
  nha : c ≠ '#'

theorem spcFacts {T : PTables} {c : Char} {tl R : Str} (h : spcOk T (c :: tl) R = true) :
    SpcFacts T c tl R := by
  obtain ⟨h1, h2, h3⟩ := spcOk_head h
  simp only [spcOk, Bool.and_eq_true, Bool.or_eq_true, Bool.not_eq_true', beq_iff_eq] at h
  refine ⟨by simpa using h.1.1, h.1.2, ?_, h1, h2, h3⟩
  intro hn
  rcases h.2 with h | h
  · rw [h] at hn; cases hn
  · exact h

structure ComFacts (T : PTables) (st : PState) (body R : Str) : Prop where
  len : commentLen ('%' :: (body ++ R)) = body.length + 1
  nskip : startsWith ('%' :: body) st.skipBegin = false
  nact : (activeChars T st).contains ('%' :: body) = false

theorem comFacts {T : PTables} {st : PState} {body R : Str} (h : comOk T st body R = true) :
    ComFacts T st body R := by
  simp only [comOk, Comment.comTokOk, Bool.and_eq_true, Bool.not_eq_true', beq_iff_eq] at h
  exact ⟨h.1, h.2.1, h.2.2⟩

structure CwUFacts (T : PTables) (st : PState) (name sp R : Str) : Prop where
  cw : CwFacts T st name (sp ++ R)
  white : ∀ x ∈ sp, isSpace x = true
  nls : countNl sp < 2
  head : ∀ d ds, R = d :: ds → isSpace d = true → sp = [] ∧ 2 ≤ countNl (R.takeWhile isSpace)

theorem cwUFacts {T : PTables} {st : PState} {name sp R : Str} (h : cwOkU T st name sp R = true) :
    CwUFacts T st name sp R := by
  simp only [cwOkU, Bool.and_eq_true, List.all_eq_true, decide_eq_true_eq] at h
  obtain ⟨⟨⟨h1, h2⟩, h3⟩, h4⟩ := h
  refine ⟨cwFacts h1, h2, h3, ?_⟩
  intro d ds hR
  subst hR
  simp only [List.head?_cons, Option.all_some, Bool.and_eq_true, Bool.or_eq_true,
    Bool.not_eq_true', List.isEmpty_iff, decide_eq_true_eq] at h4
  intro hd
  rcases h4 with h | h
  · rw [h] at hd; cases hd
  · exact h

structure VerbFacts (T : PTables) (d : Char) (s R : Str) : Prop where
  nmc : macroChar d = false
  nnl : d ≠ nl
  body : ∀ c ∈ s, c ≠ d ∧ c ≠ nl
  noNl : hasNl s = false
  ms : matchSpecial T.toTables ('\\' :: 'v' :: 'e' :: 'r' :: 'b' :: d :: (s ++ d :: R)) = none

theorem verbFacts {T : PTables} {d : Char} {s R : Str} (h : verbOkU T d s R = true) :
    VerbFacts T d s R := by
  simp only [verbOkU, Bool.and_eq_true, Bool.not_eq_true', bne_iff_ne, ne_eq,
    Option.isNone_iff_eq_none] at h
  obtain ⟨⟨⟨h1, h2⟩, h3⟩, h4⟩ := h
  obtain ⟨h5, h6⟩ := verb_all_facts h3
  exact ⟨h1, h2, h5, h6, h4⟩

theorem firstTokTxtU_verb (T : PTables) (d : Char) (s R : Str) (h : VerbFacts T d s R) :
    firstTokTxtU T.toTables ('\\' :: 'v' :: 'e' :: 'r' :: 'b' :: d :: (s ++ d :: R)) = s := by
  have h1 := nextToken_sVerb T.toTables [] 0 d (s ++ d :: R) h.nmc h.ms
  have h2 := nextToken_verb T.toTables [] 0 d s R h.nmc h.nnl h.body h.ms
  have h3 : scanVerb T.toTables [] 0 ('\\' :: 'v' :: 'e' :: 'r' :: 'b' :: d :: (s ++ d :: R))
      = { tok := { kind := .verb false, pos := 0 + 6, txt := s }, len := s.length + 7 } :=
    h1.symm.trans h2
  have htw : ('v' :: 'e' :: 'r' :: 'b' :: d :: (s ++ d :: R)).takeWhile macroChar
      = ['v', 'e', 'r', 'b'] := by
    simp [h.nmc, show macroChar 'v' = true by decide, show macroChar 'e' = true by decide,
      show macroChar 'r' = true by decide, show macroChar 'b' = true by decide]
  have hv : (['\\', 'v', 'e', 'r', 'b'] == sVerb) = true := by decide
  simp only [firstTokTxtU, show isSpace '\\' = false by decide, Bool.false_eq_true, if_false,
    show ('\\' == '%') = false by decide, h.ms, beq_self_eq_true, if_true, htw, hv, h3]

theorem firstTokTxtU_cw (T : Tables) (name X : Str) (htw : (name ++ X).takeWhile macroChar = name)
    (hm : matchSpecial T ('\\' :: (name ++ X)) = none) (hv : ('\\' :: name) ≠ sVerb) :
    firstTokTxtU T ('\\' :: (name ++ X)) = '\\' :: name := by
  have hv' : (('\\' :: name) == sVerb) = false := beq_eq_false_iff_ne.mpr hv
  simp only [firstTokTxtU, show isSpace '\\' = false by decide, Bool.false_eq_true, if_false,
    show ('\\' == '%') = false by decide, hm, beq_self_eq_true, if_true, htw, hv']

theorem firstTokTxtU_of_text (T : Tables) (c : Char) (cs : Str)
    (h : isSpace c = true ∨ (structuralChar c = false ∧ matchSpecial T (c :: cs) = none)) :
    firstTokTxtU T (c :: cs) = firstTokTxt (c :: cs) := by
  unfold firstTokTxtU firstTokTxt
  by_cases hsp : isSpace c = true
  · simp [hsp]
  · rcases h with h | ⟨h, hm⟩
    · exact absurd h hsp
    · have h1 : c ≠ '\\' := by
        intro e; subst e; exact absurd h (by decide)
      have h2 : c ≠ '%' := by
        intro e; subst e; exact absurd h (by decide)
      simp [hsp, h1, h2, hm]


def dropComToks (toks : List Tok) : List Tok := toks.dropWhile (fun t => t.kind == .comment)

theorem dropComToks_cons (t : Tok) (ts : List Tok) (h : t.kind ≠ .comment) :
    dropComToks (t :: ts) = t :: ts := by
  simp [dropComToks, h]

theorem dropComToks_com (t : Tok) (ts : List Tok) (h : t.kind = .comment) :
    dropComToks (t :: ts) = dropComToks ts := by
  simp [dropComToks, h]

theorem flat_dropComs (T : PTables) (st : PState) : ∀ ps : List Piece, PiecesOk T st ps →
    flat (dropComs ps) = dropComToks (flat ps)
  | [], _ => rfl
  | .com t :: rest, h => by
    simp only [dropComs, flat, Piece.toks, List.singleton_append]
    rw [dropComToks_com _ _ h.1.kind]
    exact flat_dropComs T st rest h.2
  | .tok t :: rest, h => by
    simp only [dropComs, flat, Piece.toks, List.singleton_append]
    rw [dropComToks_cons _ _ h.1.notComment]
  | .spc t :: rest, h => by
    simp only [dropComs, flat, Piece.toks, List.singleton_append]
    rw [dropComToks_cons _ _ (by rw [h.1.1]; simp)]
  | .cw p name sk :: rest, h => by
    simp only [dropComs, flat, Piece.toks, List.cons_append]
    rw [dropComToks_cons _ _ (by simp [cwTok])]
  | .van p q1 q2 name key repl :: rest, h => by
    simp only [dropComs, flat, Piece.toks, List.cons_append]
    rw [dropComToks_cons _ _ (by simp [cwTok])]
  | .verb t :: rest, h => by
    simp only [dropComs, flat, Piece.toks, List.singleton_append]
    rw [dropComToks_cons _ _ (by rw [h.1]; simp)]
  | .math d1 b d2 :: rest, h => by
    simp only [dropComs, flat, Piece.toks, List.cons_append]
    rw [dropComToks_cons _ _ h.1.notComment]

/-- behind a comment token there is no white space that `skip_space` would drop: the comment has
    swallowed it, or it holds two line breaks (a paragraph token) -/
theorem commentLen_rest (body R : Str) (h : commentLen ('%' :: (body ++ R)) = body.length + 1) :
    ∀ c cs, R = c :: cs → isSpace c = true → 2 ≤ countNl (R.takeWhile isSpace) := by
  intro c cs hR hc
  subst hR
  rw [← Comment.commentSpan_eq_commentLen] at h
  simp only [Comment.commentSpan, List.tail_cons] at h
  have hsplit := List.takeWhile_append_dropWhile (p := (· != nl)) (l := body ++ c :: cs)
  have hlen := congrArg List.length hsplit
  simp only [List.length_append, List.length_cons] at hlen
  cases hdw : (body ++ c :: cs).dropWhile (· != nl) with
  | nil =>
    rw [hdw] at h hlen
    simp only [List.length_nil] at hlen
    simp only [] at h
    omega
  | cons x more =>
    rw [hdw] at h hlen hsplit
    simp only [List.length_cons] at hlen
    have hx : x = nl := by
      have := @List.head_dropWhile_not _ (· != nl) (body ++ c :: cs) (by rw [hdw]; simp)
      simp only [hdw, List.head_cons] at this
      simpa using this
    simp only [] at h
    by_cases hnl : hasNl (more.takeWhile isSpace) = true
    · simp only [hnl, if_true] at h
      -- the comment is `%body`: `c` is the line break, a blank line follows
      have hl : ((body ++ c :: cs).takeWhile (· != nl)).length = body.length := by omega
      have := List.append_inj hsplit hl
      obtain ⟨_, h2⟩ := this
      simp only [List.cons.injEq] at h2
      obtain ⟨rfl, rfl⟩ := h2
      rw [hx]
      have h1 : isSpace nl = true := by decide
      have h2 : (nl :: more).takeWhile isSpace = nl :: more.takeWhile isSpace := by simp [h1]
      have h3 : 0 < List.count nl (List.takeWhile isSpace more) := by
        rw [List.count_pos_iff]
        simpa [hasNl] using hnl
      rw [h2]
      simp only [countNl, List.count_cons_self]
      omega
    · exfalso
      simp only [hnl, Bool.false_eq_true, if_false] at h
      -- the comment has swallowed the white space: `c` is no white space
      have hsp := List.takeWhile_append_dropWhile (p := isSpace) (l := more)
      have hl : ((body ++ c :: cs).takeWhile (· != nl) ++ x :: more.takeWhile isSpace).length
          = body.length := by
        simp only [List.length_append, List.length_cons]; omega
      have hsplit' : ((body ++ c :: cs).takeWhile (· != nl) ++ x :: more.takeWhile isSpace)
          ++ more.dropWhile isSpace = body ++ c :: cs := by
        rw [List.append_assoc, List.cons_append, hsp]; exact hsplit
      obtain ⟨_, h2⟩ := List.append_inj hsplit' hl
      have : isSpace c = false := by
        have := @List.head_dropWhile_not _ isSpace more (by rw [h2]; simp)
        simp only [h2, List.head_cons] at this
        simpa using this
      rw [this] at hc; cases hc

/-- a placeholder that the blank-line removal can handle character by character: no line break,
    or blank -/
def ReplOk (r : Str) : Prop := hasNl r = true → isBlank r = true

structure ScanFacts (T : PTables) (st : PState) (rest : Str) (ms : List Str → List Mark)
    (nms : List Str) (nf : Nat) (steps : List ScanStep) : Prop where
  ok : ∀ s ∈ steps, s.diag = none ∧ s.extra = []
  pieces : ∃ ps, steps.map (·.tok) = flat ps ∧ PiecesOk T st ps ∧
    (∀ l, marksOf (outP T l ps) = ms l) ∧
    (∀ l, (∀ r ∈ l, ReplOk r) → ∀ t ∈ outP T l ps, Simple t) ∧
    cost ps ≤ rest.length ∧ names ps = nms ∧ nMath ps = nf
  first : ∀ s ss, steps = s :: ss → s.tok.txt = firstTokTxtU T.toTables rest
  firstK : ∀ t ts, dropComToks (steps.map (·.tok)) = t :: ts → droppable t = true →
    ∃ c cs, rest = c :: cs ∧ isSpace c = true ∧ countNl (rest.takeWhile isSpace) < 2

theorem ScanFacts_nil (T : PTables) (st : PState) : ScanFacts T st [] (fun _ => []) [] 0 [] :=
  ⟨by simp, ⟨[], rfl, trivial, fun _ => rfl, by simp [outP], by simp [cost], rfl, rfl⟩, by simp,
    by simp [dropComToks]⟩

theorem replOk_rotN (k : Nat) {l : List Str} (hl : ∀ r ∈ l, ReplOk r) : ∀ r ∈ PlainMath.rotN k l, ReplOk r :=
  fun r hr => hl r (PlainMath.mem_rotN k _ r hr)

/-- a piece in front of a scanned rest: `ss` are the steps of the scanner through the tokens of the
    piece `pc`, which holds `k` formulas and emits `h l` when `l` is the stored collection -/
theorem ScanFacts.cons {T : PTables} {st : PState} {W R : Str} {ss rs : List ScanStep}
    {ms' ms : List Str → List Mark} {nms' nms : List Str} {nf' : Nat} (pc : Piece) (h : List Str → List Tok)
    (k : Nat) {t0 : Tok} {ts0 : List Tok}
    (hclean : ∀ s ∈ ss, s.diag = none ∧ s.extra = []) (I : ScanFacts T st R ms' nms' nf' rs)
    (htoks : ss.map (·.tok) = pc.toks) (hhd : pc.toks = t0 :: ts0)
    (hpc : ∀ ps, rs.map (·.tok) = flat ps → PiecesOk T st ps → PiecesOk T st (pc :: ps))
    (hout : ∀ l ps, outP T l (pc :: ps) = h l ++ outP T (PlainMath.rotN k l) ps)
    (hm : ∀ l, marksOf (h l) ++ ms' (PlainMath.rotN k l) = ms l)
    (hs : ∀ l, (∀ r ∈ l, ReplOk r) → ∀ t ∈ h l, Simple t)
    (hcost : ∀ ps, cost (pc :: ps) + R.length ≤ cost ps + W.length)
    (hnames : ∀ ps, names ps = nms' → names (pc :: ps) = nms)
    (hnf : ∀ ps, nMath (pc :: ps) = nMath ps + k)
    (hfirst : t0.txt = firstTokTxtU T.toTables W)
    (hK : ∀ t ts, dropComToks ((ss ++ rs).map (·.tok)) = t :: ts → droppable t = true →
      ∃ c cs, W = c :: cs ∧ isSpace c = true ∧ countNl (W.takeWhile isSpace) < 2) :
    ScanFacts T st W ms nms (nf' + k) (ss ++ rs) := by
  obtain ⟨ps, hflat, hpok, hmarks, hsimple, hc, hn, hf⟩ := I.pieces
  refine ⟨List.forall_mem_append.mpr ⟨hclean, I.ok⟩,
    ⟨pc :: ps, ?_, hpc ps hflat hpok, ?_, ?_, ?_, hnames ps hn, by rw [hnf, hf]⟩, ?_, hK⟩
  · rw [List.map_append, htoks, hflat]; rfl
  · intro l
    rw [hout, marksOf_append, hmarks, hm]
  · intro l hl
    rw [hout]; exact List.forall_mem_append.mpr ⟨hs l hl, hsimple _ (replOk_rotN k hl)⟩
  · have := hcost ps; omega
  · intro s ss' he
    rw [headTok_of_append htoks hhd he]; exact hfirst

/-- a first token that is neither a comment nor dropped by `skip_space` -/
theorem firstK_head {s : ScanStep} {ss : List ScanStep} {P : Prop} (hc : s.tok.kind ≠ .comment)
    (hd : droppable s.tok = false) (t : Tok) (ts : List Tok)
    (he : dropComToks ((s :: ss).map (·.tok)) = t :: ts) (hdr : droppable t = true) : P := by
  rw [List.map_cons, dropComToks_cons _ _ hc] at he
  rw [← (List.cons.inj he).1, hd] at hdr
  cases hdr

theorem firstK_cw {p : Nat} {name : Str} {s : ScanStep} {ss : List ScanStep} {P : Prop}
    (hs : s.tok = cwTok p name) (t : Tok) (ts : List Tok)
    (he : dropComToks ((s :: ss).map (·.tok)) = t :: ts) (hdr : droppable t = true) : P :=
  firstK_head (by rw [hs]; nofun) (by rw [hs]; rfl) t ts he hdr

/-- the first token that is no comment behind a control word (and the white space `sp` behind it)
    is not dropped by `skip_space` -/
theorem head_not_droppable {T : PTables} {st : PState} {R : Str} {ms : List Str → List Mark}
    {nms : List Str} {nf : Nat}
    {steps : List ScanStep} (I : ScanFacts T st R ms nms nf steps) {ps : List Piece}
    (hflat : steps.map (·.tok) = flat ps) (hpok : PiecesOk T st ps)
    (hR : ∀ d ds, R = d :: ds → isSpace d = true → 2 ≤ countNl (R.takeWhile isSpace)) :
    ∀ t ts, flat (dropComs ps) = t :: ts → droppable t = false := by
  intro t ts hft
  cases hb : droppable t with
  | false => rfl
  | true =>
    exfalso
    rw [flat_dropComs T st ps hpok, ← hflat] at hft
    obtain ⟨d, ds, hRd, h1, h2⟩ := I.firstK t ts hft hb
    have := hR d ds hRd h1
    omega


/-- the token of a text character is dropped by `skip_space` only if it is a SpaceToken: a run of white
    space with two line breaks is a paragraph token, which is not dropped -/
theorem _root_.Yalafi.TextTok.of_droppable {T : PTables} {st : PState} {ftt : Str → Str} {src : Str} {pos : Nat}
    {c : Char} {cs : Str} {s : ScanStep} {rs : List ScanStep} (K : TextTok T st ftt src pos c cs s rs)
    (hdr : droppable s.tok = true) : isSpace c = true ∧ countNl ((c :: cs).takeWhile isSpace) < 2 := by
  by_cases hsp : isSpace c = true
  · rw [← K.eq, nextToken_white T.toTables src pos hsp rfl] at hdr
    refine ⟨hsp, Decidable.byContradiction fun hlt => ?_⟩
    simp [droppable, isSpaceTok, wsTok, hlt] at hdr
  · simp [droppable, isSpaceTok, (K.one (by simpa using hsp)).2] at hdr

theorem firstK_text {T : PTables} {st : PState} {ftt : Str → Str} {src : Str} {pos : Nat} {c : Char} {cs : Str}
    {s : ScanStep} {rs : List ScanStep} (K : TextTok T st ftt src pos c cs s rs) (t : Tok) (ts : List Tok)
    (he : dropComToks ((s :: rs).map (·.tok)) = t :: ts) (hdr : droppable t = true) :
    ∃ c' cs', c :: cs = c' :: cs' ∧ isSpace c' = true ∧ countNl ((c :: cs).takeWhile isSpace) < 2 := by
  rw [List.map_cons, dropComToks_cons _ _ K.step.tok.notComment] at he
  exact ⟨c, cs, rfl, K.of_droppable ((List.cons.inj he).1 ▸ hdr)⟩

theorem firstTokTxtU_spc {T : PTables} {c : Char} {tl R : Str} (S : SpcFacts T c tl R) :
    firstTokTxtU T.toTables (c :: (tl ++ R)) = c :: tl := by
  simp [firstTokTxtU, S.nsp, S.npc, S.ms]

theorem firstTokTxtU_com {T : PTables} {st : PState} {body R : Str} (C : ComFacts T st body R) :
    firstTokTxtU T.toTables ('%' :: (body ++ R)) = '%' :: body := by
  simp [firstTokTxtU, C.len, show isSpace '%' = false by decide]

/-- a control word and the white space behind it: the macro token, then the steps `sk` — one
    SpaceToken, or none if `sp` is empty -/
theorem scans_cwU (T : PTables) (st : PState) (src : Str) (pos : Nat) {name sp R : Str}
    (C : CwUFacts T st name sp R) :
    ∃ sk : List ScanStep, (∀ s ∈ sk, droppable s.tok = true ∧ s.tok.kind ≠ .comment) ∧
      Scans T.toTables src pos ('\\' :: (name ++ (sp ++ R)))
        ({ tok := cwTok pos name, len := name.length + 1 } :: sk) (pos + (name.length + 1 + sp.length)) R := by
  have r1 := scans_cw T src pos C.cw
  cases sp with
  | nil => exact ⟨[], by simp, r1⟩
  | cons x xs =>
    have hX : R.head?.all (fun d => !isSpace d) = true := by
      cases R with
      | nil => rfl
      | cons d ds =>
        cases hd' : isSpace d with
        | false => simp [hd']
        | true => exact absurd (C.head d ds rfl hd').1 (List.cons_ne_nil _ _)
    have r2 := Scans.ws T.toTables src (pos + (name.length + 1)) (C.white x (List.mem_cons_self ..))
      (fun d hd => C.white d (List.mem_cons_of_mem _ hd)) hX
    rw [wsTok_space C.nls] at r2
    refine ⟨[_], ?_, (r1.append r2).to (by simp only [List.length_cons]; omega)⟩
    intro s hs
    rw [List.mem_singleton.mp hs]
    exact ⟨by simp [droppable, isSpaceTok, isLangK], by simp⟩


theorem marksOf_formulaOut (T : PTables) (ph : Str) (p q : Nat) (s : Str) :
    marksOf (PlainMath.formulaOut T ph p q s)
      = none :: ((ph ++ (PlainMath.punctChar T s).toList).map (fun c => some (c, q)) ++ [none]) := by
  unfold PlainMath.formulaOut
  cases PlainMath.punctChar T s <;>
    simp [tokMarks_mkAction, tokMarks_mkFix, marksOf]

theorem simple_special_val (p : Nat) (v : Str) (f : Bool) (h : hasNl v = true → isBlank v = true) :
    Simple { kind := .text, pos := p, txt := v, fix := f } :=
  ⟨by simp [isAction], by simp [isLang], h⟩

theorem simple_formulaOut (T : PTables) (ph : Str) (p q : Nat) (s : Str) (h : ReplOk ph) :
    ∀ t ∈ PlainMath.formulaOut T ph p q s, Simple t := by
  intro t ht
  unfold PlainMath.formulaOut at ht
  have hpunct : ∀ c : Char, Simple (mkFix .text q [c]) := by
    intro c
    refine ⟨by simp [isAction, mkFix], by simp [isLang, mkFix], ?_⟩
    intro hn
    have : nl = c := by simpa [hasNl, mkFix] using hn
    subst this
    rfl
  have hph : Simple (mkFix .text q ph) := ⟨by simp [isAction, mkFix], by simp [isLang, mkFix], h⟩
  cases hpc : PlainMath.punctChar T s with
  | none =>
    simp only [hpc, List.append_nil, List.cons_append, List.nil_append, List.mem_cons,
      List.not_mem_nil, or_false] at ht
    rcases ht with rfl | rfl | rfl
    · exact simple_mkAction p
    · exact hph
    · exact simple_mkAction q
  | some c =>
    simp only [hpc, List.cons_append, List.nil_append, List.mem_cons,
      List.not_mem_nil, or_false] at ht
    rcases ht with rfl | rfl | rfl | rfl
    · exact simple_mkAction p
    · exact hph
    · exact hpunct c
    · exact simple_mkAction q

theorem firstTokTxtU_dollar (T : PTables) (rest : Str) (h : PlainMath.dollarAt T rest = true) :
    firstTokTxtU T.toTables ('$' :: rest) = ['$'] := by
  unfold PlainMath.dollarAt at h
  simp only [firstTokTxtU, show isSpace '$' = false by decide, Bool.false_eq_true, if_false,
    show ('$' == '%') = false by decide, show ('$' == '\\') = false by decide]
  cases hm : matchSpecial T.toTables ('$' :: rest) with
  | none => rfl
  | some t =>
    rw [hm] at h
    simpa using h

theorem marksOf_expTok_special (T : Tables) (p : Nat) (k : Str) :
    marksOf (expTok T { kind := .special, pos := p, txt := k })
      = none :: (posText p (specialValD T k)).map some := by
  simp only [expTok, beq_self_eq_true, if_true]
  rw [marksOf_cons, tokMarks_mkAction, marksOf_cons, tokMarks_nonaction _ rfl, tokChars_nofix _ rfl]
  exact congrArg _ (List.append_nil _)

theorem simple_expTok_special (T : Tables) (p : Nat) (k : Str)
    (h : hasNl (specialValD T k) = true → isBlank (specialValD T k) = true) :
    ∀ t ∈ expTok T { kind := .special, pos := p, txt := k }, Simple t := by
  intro t ht
  simp only [expTok, beq_self_eq_true, if_true, List.mem_cons, List.not_mem_nil, or_false] at ht
  rcases ht with rfl | rfl
  · exact simple_mkAction p
  · exact simple_special_val _ _ _ h

theorem marksOf_expTokV (p : Nat) (s : Str) :
    marksOf (expTokV { kind := .verb false, pos := p, txt := s }) = none :: (posText p s).map some := by
  simp only [expTokV, beq_self_eq_true, if_true]
  rw [marksOf_cons, tokMarks_mkAction, marksOf_cons, tokMarks_nonaction _ rfl, tokChars_nofix _ rfl]
  exact congrArg _ (List.append_nil _)

theorem simple_expTokV (p : Nat) (s : Str) (h : hasNl s = false) :
    ∀ t ∈ expTokV { kind := .verb false, pos := p, txt := s }, Simple t := by
  intro t ht
  simp only [expTokV, beq_self_eq_true, if_true, List.mem_cons, List.not_mem_nil, or_false] at ht
  rcases ht with rfl | rfl
  · exact simple_mkAction p
  · exact simple_special_val _ _ _ (fun h' => by rw [h] at h'; cases h')

theorem marksOf_vanOut (p : Nat) (repl : List Tok) (h : ∀ t ∈ repl, t.kind = .void ∧ t.txt = []) :
    marksOf (mkAction p :: repl.map (restamp p)) = [none] := by
  rw [marksOf_cons, tokMarks_mkAction, PlainVanish.marksOf_voids _ _ h]
  rfl

theorem simple_vanOut (p : Nat) (repl : List Tok) (h : ∀ t ∈ repl, t.kind = .void ∧ t.txt = []) :
    ∀ t ∈ mkAction p :: repl.map (restamp p), Simple t := by
  intro t ht
  rcases List.mem_cons.mp ht with rfl | ht
  · exact simple_mkAction p
  · obtain ⟨u, hu, rfl⟩ := List.mem_map.mp ht
    exact PlainVanish.simple_void p u (h u hu)

theorem marksOf_mathOut (T : PTables) (ph : Str) (pos : Nat) {body : Str} {bs : List ScanStep}
    (B : PlainMath.BodyRun T (pos + 1) body bs) (hbne : body.any (fun c => !isSpace c) = true) :
    marksOf (PlainMath.formulaOut T ph pos (PlainMath.firstPos (PlainMath.mathToks (bs.map (·.tok))))
        (PlainMath.bodyTxt (PlainMath.mathToks (bs.map (·.tok)))))
      = mathMarks T ph pos body := by
  rw [marksOf_formulaOut, B.txt, B.first hbne]
  simp [mathMarks, PlainMath.punctOf, PlainMath.leadBlanks]

/-- the placeholder the next formula takes is one of the collection -/
theorem replOk_rotL_head {l : List Str} (hl : ∀ r ∈ l, ReplOk r) : ReplOk ((rotL l).headD []) := by
  cases hr : rotL l with
  | nil => intro h; simp [hasNl] at h
  | cons a t => exact hl a (PlainMath.mem_rotL l a (by rw [hr]; exact List.mem_cons_self ..))

theorem scanAll_mix (T : PTables) (st : PState) (src : Str) (pos : Nat) (rest : Str)
    (ms : List Str → List Mark) (nms : List Str) (nf : Nat) (h : OkSrc T st pos rest ms nms nf) :
      ScanFacts T st rest ms nms nf (scanAll T.toTables src pos rest).1 := by
  refine scanAll_okSrc T st (firstTokTxtU T.toTables) src (fun W a ss => ScanFacts T st W a.1 a.2.1 a.2.2 ss)
    (fun _ _ h => h) (firstTokTxtU_of_text T.toTables) (Con.vis T st) (fun _ _ _ I => I.first)
    (by rintro _ rfl; exact ScanFacts_nil T st) ?_ ?_ pos rest (ms, nms, nf) h
  · rintro pos c cs s rs ⟨ms', nms, nf⟩ K I
    rw [chrs_fn]
    exact ScanFacts.cons (.tok s.tok) (fun _ => [s.tok]) 0 K.run.clean I rfl rfl
      (fun ps hflat hpok => ⟨K.step.tok, hflat ▸ K.pass, hpok⟩) (fun _ _ => rfl) (fun l => by rw [K.marks]; rfl)
      (fun _ _ => K.simple) (fun ps => by have := K.len; simp only [cost, List.length_cons] at this ⊢; omega)
      (fun _ h => h) (fun _ => rfl) K.first (firstK_text K)
  intro pos _ _ _ R _ hc
  cases hc with
  | spc c tl _ ms' nms nf hd =>
    have S := spcFacts hd
    have r := Scans.special T.toTables src pos S.nsp S.npc S.nha S.ms (List.drop_left' rfl)
    refine ⟨_, by simp, r, fun rs _ I => ?_⟩
    refine ScanFacts.cons (.spc { kind := .special, pos := pos, txt := c :: tl })
      (fun _ => expTok T.toTables { kind := .special, pos := pos, txt := c :: tl }) 0 r.clean I rfl rfl
      (fun ps _ hpok => ⟨⟨rfl, S.key⟩, hpok⟩) (fun _ _ => rfl)
      (fun l => by rw [marksOf_expTok_special]; rfl) (fun _ _ => simple_expTok_special _ _ _ S.val) ?_
      (fun _ h => h) (fun _ => rfl) (firstTokTxtU_spc S).symm
      (firstK_head (by simp) (by simp [droppable, isSpaceTok]))
    intro ps
    simp only [cost, List.length_cons, List.length_append]
    omega
  | cw name sp _ ms' nms' nf hd =>
    have C := cwUFacts hd
    have hname := List.length_pos_iff.mpr C.cw.ne
    obtain ⟨sk, hsk, r⟩ := scans_cwU T st src pos C
    refine ⟨_, by simp, r, fun rs _ I => ?_⟩
    refine ScanFacts.cons (.cw pos name (sk.map (·.tok))) (fun _ => [mkAction pos]) 0 r.clean I rfl rfl
      (fun ps hflat hpok => ⟨cwTokOk_cwTok C.cw pos, ?_,
        head_not_droppable I hflat hpok (fun d ds e h => (C.head d ds e h).2), hpok⟩) (fun _ _ => rfl)
      (fun l => rfl) (fun _ _ t ht => List.mem_singleton.mp ht ▸ simple_mkAction pos) ?_
      (fun _ h => congrArg _ h) (fun _ => rfl)
      (firstTokTxtU_cw T.toTables name (sp ++ R) C.cw.tw C.cw.special C.cw.nVerb).symm
      (firstK_cw rfl)
    · intro t ht
      obtain ⟨s, hs, rfl⟩ := List.mem_map.mp ht
      exact hsk s hs
    · intro ps
      simp only [cost, List.length_cons, List.length_append]
      omega
  | van name key _ ms' nms nf hd =>
    have V := PlainVanish.vanFacts hd
    have hname := List.length_pos_iff.mpr V.cw.ne
    obtain ⟨ks, B, _, r⟩ := PlainVanish.scans_van T src pos V
    obtain ⟨hvoid, hvlen⟩ := V.vn.repl
    refine ⟨_, by simp, r, fun rs _ I => ?_⟩
    refine ScanFacts.cons
      (.van pos (pos + (name.length + 1)) (pos + (name.length + 1) + 1 + key.length) name (ks.map (·.tok))
        (PlainVanish.replOf st name))
      (fun _ => mkAction pos :: (PlainVanish.replOf st name).map (restamp pos)) 0 r.clean I
      (by simp [Piece.toks, lbr, rbr]) rfl (fun ps _ hpok => ⟨V.vn, rfl, B, hpok⟩) (fun _ _ => rfl)
      (fun l => by rw [marksOf_vanOut _ _ hvoid]; rfl) (fun _ _ => simple_vanOut pos _ hvoid) ?_
      (fun _ h => h) (fun _ => rfl)
      (firstTokTxtU_cw T.toTables name _ V.cw.tw V.cw.special V.cw.nVerb).symm
      (firstK_cw rfl)
    intro ps
    simp only [cost, List.length_cons, List.length_append]
    omega
  | com body _ ms nms nf hd =>
    have C := comFacts hd
    have r := Comment.scans_comment T src pos C.len
    refine ⟨_, by simp, r, fun rs _ I => ?_⟩
    refine ScanFacts.cons (.com { kind := .comment, pos := pos, txt := '%' :: body }) (fun _ => []) 0 r.clean I
      rfl rfl (fun ps _ hpok => ⟨⟨rfl, ⟨body, rfl⟩, C.nskip, C.nact⟩, hpok⟩) (fun _ _ => rfl) (fun _ => rfl)
      (fun _ _ _ ht => nomatch ht) ?_ (fun _ h => h) (fun _ => rfl) (firstTokTxtU_com C).symm ?_
    · intro ps
      simp only [cost, List.length_cons, List.length_append]
      omega
    · -- behind the comment the next token decides, and the comment has left no droppable white space
      intro t ts he hdr
      rw [List.cons_append, List.map_cons, dropComToks_com _ _ rfl] at he
      obtain ⟨d, ds, hRd, h1, h2⟩ := I.firstK t ts he hdr
      have := commentLen_rest body R C.len d ds hRd h1
      omega
  | verb d s _ ms' nms nf hd =>
    have V := verbFacts hd
    have r := scans_verb T.toTables src pos d s R V.nmc V.nnl V.body V.ms
    refine ⟨_, by simp, r, fun rs _ I => ?_⟩
    refine ScanFacts.cons (.verb { kind := .verb false, pos := pos + 6, txt := s })
      (fun _ => expTokV { kind := .verb false, pos := pos + 6, txt := s }) 0 r.clean I rfl rfl
      (fun ps _ hpok => ⟨rfl, hpok⟩) (fun _ _ => rfl) (fun l => by rw [marksOf_expTokV]; rfl)
      (fun _ _ => simple_expTokV _ _ V.noNl) ?_ (fun _ h => h) (fun _ => rfl)
      (firstTokTxtU_verb T d s R V).symm (firstK_head (by simp) (by simp [droppable, isSpaceTok]))
    intro ps
    simp only [cost, List.length_cons, List.length_append]
    omega
  | math body _ ms' nms nf' hm =>
    simp only [PlainMath.mathOk, Bool.and_eq_true] at hm
    obtain ⟨⟨⟨hbne, hd1⟩, hbody⟩, hd2⟩ := hm
    obtain ⟨k1, k2, bs, hk1, hk2, B, r⟩ := PlainMath.scans_formula T src pos hd1 hbody hd2
    have hBl := B.len
    refine ⟨_, by simp, r, fun rs _ I => ?_⟩
    refine ScanFacts.cons
      (.math { kind := k1, pos := pos, txt := ['$'] } (bs.map (·.tok))
        { kind := k2, pos := pos + 1 + body.length, txt := ['$'] })
      (fun l => PlainMath.formulaOut T ((rotL l).headD []) pos
        (PlainMath.firstPos (PlainMath.mathToks (bs.map (·.tok))))
        (PlainMath.bodyTxt (PlainMath.mathToks (bs.map (·.tok))))) 1 r.clean I (by simp [Piece.toks]) rfl
      (fun ps _ hpok => ⟨⟨hk1, rfl⟩, B.ne hbne, ?_, ⟨hk2, rfl⟩, hpok⟩)
      (fun _ _ => by rw [outP]; rfl) -- `rfl` alone is slow to check here
      (fun l => by rw [marksOf_mathOut T _ pos B hbne]; rfl)
      (fun l hl => simple_formulaOut T _ _ _ _ (replOk_rotL_head hl)) ?_ (fun _ h => h) (fun _ => rfl)
      (firstTokTxtU_dollar T _ hd1).symm
      (firstK_head (by rcases hk1 with rfl | rfl <;> simp)
        (by rcases hk1 with rfl | rfl <;> simp [droppable, isSpaceTok]))
    · intro t ht
      obtain ⟨x, hx, rfl⟩ := List.mem_map.mp ht
      exact (B.ok x hx).2.2
    · intro ps
      simp only [cost, List.length_cons, List.length_append, List.length_map]
      omega

end PlainMix
end Yalafi
