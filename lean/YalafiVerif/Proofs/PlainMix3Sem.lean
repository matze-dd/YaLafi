/-
  Proofs/PlainMix3Sem.lean — what the pieces of a source MEAN (third union grammar, definitions;
  header with the end-to-end statement and all side conditions: Proofs/PlainMix3E2E.lean).

  `CollOk`               the placeholders that are used have no line break (or are blank)
  `Sem`                  what holds of pieces and items that are linked (`Link`), for a state and an
                         environment of definitions in force that agree: marks / simplicity / `Live`
                         / fuel / unknown names / flows / formulas
-/
import YalafiVerif.Proofs.PlainMix3Scan
namespace Yalafi
namespace PlainMix3

open PlainMacro
open PlainMix (ReplOk)
open PlainFootnote (flowToks)


/-- the placeholders can be handled character by character by the blank-line removal (asked for
    only if there are `nm` formulas resp. `nd` displayed equations) -/
def CollOk (l : Colls) (nm nd : Nat) : Prop :=
  (nm ≠ 0 → ∀ r ∈ l.1, ReplOk r) ∧ (nd ≠ 0 → ∀ r ∈ l.2, ReplOk r)

structure Sem (T : PTables) (st : PState) (l : Colls) (env : Env) (ps : List Piece)
    (items : List Item) : Prop where
  marks : marksOf (outP T st l ps) = refMarks T l env st.itemStack items
  simple : CollOk l (nMath ps) (nDisp ps) → ∀ t ∈ outP T st l ps, Simple t
  live : Live T st ps
  cost : cost st ps ≤ itemsLen items + refIns env items
  names : names st ps = refNames env items
  flows : charsOf ((flowsOf ps).map flowToks).flatten = refFlows items
  nmath : nMath ps = refNF items
  ndisp : nDisp ps = refND items

end PlainMix3
end Yalafi
