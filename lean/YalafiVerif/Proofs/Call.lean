/-
  Proofs/Call.lean — one call of a macro or environment, in general: what `argBuffer`, `collectArgs`,
  `expandArguments`, `expandMacro`, `getTextExpanded`, `getEnvironmentName`, `beginEnvironment`,
  `endEnvironment` and `expandItem` do, stated about arbitrary tokens, signatures and declarations.
  The construct files instantiate these.  In this order:
    lists, white space   `getLast?_of_ne`, `skipSpace_cons`, `skipSpace_append_space`
    delimiters           `Brace` (the token of `{ } [ ]`), `NoBrace`, `NoBrk` (a token inside an argument),
                         `Front` (the first token behind white space)
    `argBuffer`          `argOr`; `argBuffer_of_collect`, `_skip`, `_braced`, `_bracketed`, `_single`
    `collectArgs`        one rewrite rule per case: `collectArgs_nil`, `_noStar`, `_star`, `_A`, `_O`,
                         `_noOpt_of`, `_noOpt`, `_braced`, `_bracketed`, `_A1`, `_absent`; `Args.push`,
                         `dfltArg`, `nextPos`
    `expandArguments`    `expandArguments_noExtr`, `_extr` lead to `finishArgs`; `finishArgs_repl`, `_handler`
    `expandMacro`        `addUnknown_eq`, `_math`, `_text`; `expandMacro_declared`, `_undeclared`, `_repl`,
                         `_handler`
    environments         `getTextExpanded_of_seq`, `getEnvironmentName_braced`; `envMark`, `pushItems`,
                         `popItems`; `beginEnvironment_` / `endEnvironment_declared`, `_undeclared`, and
                         `_kept` (declared and kept, without items)
    `expandItem`         `itemDecl`, `itemPunct`; `expandItem_nolabel`, `_label`
-/
import YalafiVerif.Proofs.Top
namespace Yalafi
namespace Call

open M

/-! ### lists and white space -/

theorem getLast?_of_ne {α : Type _} {b : List α} (h : b ≠ []) : ∃ l, b.getLast? = some l :=
  ⟨b.getLast h, List.getLast?_eq_some_getLast h⟩

variable {c : Char} {t : Tok}

theorem skipSpace_cons {ts : Buf} (h : isSpaceTok t = false) : skipSpace (t :: ts) = t :: ts := by
  simp [skipSpace, h]

theorem skippedLangs_cons {ts : Buf} (h : isSpaceTok t = false) : skippedLangs (t :: ts) = [] := by
  simp [skippedLangs, h]

theorem skipSpaceStopLangAct_cons {ts : Buf} (h : isSpaceTok t = false) :
    skipSpaceStopLangAct (t :: ts) = t :: ts := by
  simp [skipSpaceStopLangAct, h]

theorem skipSpace_append_space : ∀ (sp : List Tok) (X : Buf), (∀ t ∈ sp, isSpaceTok t = true) →
    skipSpace (sp ++ X) = skipSpace X
  | [], _, _ => rfl
  | t :: ts, X, h => by
    have h1 := h t (List.mem_cons_self ..)
    have := skipSpace_append_space ts X (fun x hx => h x (List.mem_cons_of_mem _ hx))
    simp only [skipSpace, List.cons_append, List.dropWhile_cons, h1, if_true] at this ⊢
    exact this

/-! ### delimiters -/

/-- the token of the delimiter `c`, as the scanner makes it (`{ }`: special, `[ ]`: text) -/
structure Brace (c : Char) (t : Tok) : Prop where
  kind : t.kind = .special ∨ t.kind = .text
  txt : t.txt = [c]

theorem Brace.notVerb (h : Brace c t) : isVerb t = false := by
  rcases h.kind with k | k <;> simp [isVerb, k]

theorem Brace.notSpace (h : Brace c t) : isSpaceTok t = false := by
  rcases h.kind with k | k <;> simp [isSpaceTok, k]

theorem Brace.notPar (h : Brace c t) : (t.kind == Kind.par) = false := by
  rcases h.kind with k | k <;> simp [k]

theorem Brace.notComment {c : Char} {t : Tok} (h : Brace c t) : t.kind ≠ .comment := by
  rcases h.kind with k | k <;> simp [k]

theorem Brace.nv (h : Brace c t) (s : String) : txtIsNV t s = ([c] == s.toList) := by
  simp [txtIsNV, h.txt, h.notVerb]

def NoBrace (t : Tok) : Prop := txtIsNV t "{" = false ∧ txtIsNV t "}" = false

def NoBrk (t : Tok) : Prop := NoBrace t ∧ t.txt ≠ [']']

structure Front (b0 : Buf) (t : Tok) (buf : Buf) : Prop where
  skip : skipSpace b0 = t :: buf
  langs : skippedLangs b0 = []

theorem Front.of_not {buf : Buf} (h : isSpaceTok t = false) : Front (t :: buf) t buf :=
  ⟨skipSpace_cons h, skippedLangs_cons h⟩

/-! ### `argBuffer`: one argument, with or without delimiters -/

theorem collectArg_brace {rb : Tok} (hr : Brace '}' rb) (rest : Buf) : ∀ (arg acc : List Tok),
    (∀ t ∈ arg, NoBrace t) →
    collectArg ['}'] 1 (arg ++ rb :: rest) acc = some (acc.reverse ++ arg, rest)
  | [], acc, _ => by
    simp [collectArg, hr.nv, hr.txt, hr.notVerb]
  | t :: ts, acc, h => by
    obtain ⟨h1, h2⟩ := h t (List.mem_cons_self ..)
    simp only [List.cons_append, collectArg, h1, h2, Bool.false_eq_true, if_false]
    rw [show ((1 : Int) == 0) = false by decide, Bool.and_false, if_neg (by simp),
      collectArg_brace hr rest ts (t :: acc) (fun x hx => h x (List.mem_cons_of_mem _ hx))]
    simp

theorem collectArg_bracket {rb : Tok} (hr : Brace ']' rb) (rest : Buf) : ∀ (arg acc : List Tok),
    (∀ t ∈ arg, NoBrk t) →
    collectArg [']'] 0 (arg ++ rb :: rest) acc = some (acc.reverse ++ arg, rest)
  | [], acc, _ => by
    simp [collectArg, hr.nv, hr.txt, hr.notVerb]
  | t :: ts, acc, h => by
    obtain ⟨⟨h1, h2⟩, h3⟩ := h t (List.mem_cons_self ..)
    have h3' : (t.txt == [']']) = false := by simpa using h3
    simp only [List.cons_append, collectArg, h1, h2, Bool.false_eq_true, if_false, h3', Bool.and_false,
      Bool.false_and]
    rw [collectArg_bracket hr rest ts (t :: acc) (fun x hx => h x (List.mem_cons_of_mem _ hx))]
    simp

/-- what `arg_buffer` returns for the collected tokens `arg`: an empty argument is one void token -/
def argOr (p : Nat) (arg : List Tok) : List Tok := if arg.isEmpty then [mkVoid p] else arg

theorem argOr_of_ne {p : Nat} {arg : List Tok} (h : arg ≠ []) : argOr p arg = arg := by
  cases arg with
  | nil => exact absurd rfl h
  | cons _ _ => rfl

/-- `arg_buffer` in front of a delimited argument, given what the collecting loop does: no error,
    the state is unchanged (`eb`: mandatory argument, which must then start with `{`) -/
theorem argBuffer_of_collect (T : Tables) {tok : Tok} {rest out rest' : Buf} (start : Nat) (eb : Bool)
    (st : PState) (hs : isSpaceTok tok = false) (hp : (tok.kind == Kind.par) = false)
    (hb : (eb && !txtIsNV tok "{") = false)
    (hc : collectArg (if eb then ['}'] else [']']) (if txtIsNV tok "{" then 1 else 0) rest []
      = some (out, rest')) :
    argBuffer T (tok :: rest) start eb st = .ok ((argOr tok.pos out, rest'), st) := by
  have hpure : argBufferPure T.mark (tok :: rest) start eb
      = { arg := argOr tok.pos out, buf := rest' } := by
    unfold argBufferPure
    rw [skipSpace_cons hs]
    simp only [hp, hb, Bool.false_eq_true, if_false, hc]
    rfl
  unfold argBuffer
  rw [hpure]
  rfl

theorem argBuffer_skip (T : Tables) (sp : List Tok) (X : Buf) (start : Nat) (eb : Bool) (st : PState)
    (h : ∀ t ∈ sp, isSpaceTok t = true) :
    argBuffer T (sp ++ X) start eb st = argBuffer T X start eb st := by
  unfold argBuffer argBufferPure
  rw [skipSpace_append_space sp X h]

theorem argBuffer_braced (T : Tables) {lb rb : Tok} (hl : Brace '{' lb) (hr : Brace '}' rb)
    (arg : List Tok) (rest : Buf) (start : Nat) (st : PState) (h : ∀ t ∈ arg, NoBrace t) :
    argBuffer T (lb :: (arg ++ rb :: rest)) start true st = .ok ((argOr lb.pos arg, rest), st) := by
  have hn : txtIsNV lb "{" = true := by simp [hl.nv]
  refine argBuffer_of_collect T start true st hl.notSpace hl.notPar (by simp [hn]) ?_
  rw [hn]
  simpa using collectArg_brace hr rest arg [] h

theorem argBuffer_bracketed (T : Tables) {lb rb : Tok} (hl : Brace '[' lb) (hr : Brace ']' rb)
    (arg : List Tok) (rest : Buf) (start : Nat) (st : PState) (h : ∀ t ∈ arg, NoBrk t) :
    argBuffer T (lb :: (arg ++ rb :: rest)) start false st = .ok ((argOr lb.pos arg, rest), st) := by
  have hn : txtIsNV lb "{" = false := by simp [hl.nv]
  refine argBuffer_of_collect T start false st hl.notSpace hl.notPar rfl ?_
  rw [hn]
  simpa using collectArg_bracket hr rest arg [] h

theorem argBuffer_single (T : Tables) {tok : Tok} (rest : Buf) (start : Nat) (st : PState)
    (hs : isSpaceTok tok = false) (hp : (tok.kind == Kind.par) = false)
    (hb : txtIsNV tok "{" = false) :
    argBuffer T (tok :: rest) start true st = .ok (([tok], rest), st) := by
  have hpure : argBufferPure T.mark (tok :: rest) start true = { arg := [tok], buf := rest } := by
    unfold argBufferPure
    rw [skipSpace_cons hs]
    simp only [hp, hb, Bool.false_eq_true, if_false, Bool.not_false, Bool.and_self, if_true]
  unfold argBuffer
  rw [hpure]
  rfl

/-! ### `collectArgs`: one rewrite rule per case -/

variable (T : PTables) (mac : MacroDef) (codes : List Char) (i : Nat) {b0 buf buf' : Buf}
  (pos0 : Nat) (acc : Args) (st : PState)

theorem collectArgs_nil (b : Buf) :
    collectArgs T mac [] i b pos0 acc st = .ok ((acc, b), st) := by
  rw [collectArgs]
  rfl

/-- the result of one step: the argument `a` is stored, `e` is what an extraction sees of it -/
def _root_.Yalafi.Args.push (acc : Args) (a e : List Tok) : Args :=
  { acc with args := acc.args ++ [a], extr := acc.extr ++ [e] }

theorem collectArgs_noStar (hf : Front b0 t buf) (h : txtIsNV t "*" = false) :
    collectArgs T mac ('*' :: codes) i b0 pos0 acc st
      = collectArgs T mac codes (i + 1) (t :: buf) t.pos (acc.push [] []) st := by
  rw [collectArgs]
  simp only [hf.skip, hf.langs, List.append_nil, List.head?_cons, beq_self_eq_true, if_true, h,
    Bool.false_eq_true, if_false]
  rfl

theorem collectArgs_star (hf : Front b0 t buf) (h : txtIsNV t "*" = true) :
    collectArgs T mac ('*' :: codes) i b0 pos0 acc st
      = collectArgs T mac codes (i + 1) buf t.pos (acc.push [t] [t]) st := by
  rw [collectArgs]
  simp only [hf.skip, hf.langs, List.append_nil, List.head?_cons, beq_self_eq_true, if_true, h,
    List.tail_cons]
  rfl

/-- `A`: whatever `arg_buffer` collects (the state may change: an error message) -/
theorem collectArgs_A (hf : Front b0 t buf) (h : txtIsNV t "}" = false) {a : List Tok} {st' : PState}
    (ha : argBuffer T.toTables (t :: buf) t.pos true st = .ok ((a, buf'), st')) :
    collectArgs T mac ('A' :: codes) i b0 pos0 acc st
      = collectArgs T mac codes (i + 1) buf' t.pos (acc.push a a) st' := by
  rw [collectArgs]
  simp only [hf.skip, hf.langs, List.append_nil, List.head?_cons, show ('A' == '*') = false by decide,
    show ('A' == 'O') = false by decide, beq_self_eq_true, if_true, h, Bool.false_eq_true, if_false]
  exact M.bind_ok _ _ _ _ _ ha

theorem collectArgs_O (hf : Front b0 t buf) (h : txtIsNV t "[" = true) {a : List Tok} {st' : PState}
    (ha : argBuffer T.toTables (t :: buf) t.pos false st = .ok ((a, buf'), st')) :
    collectArgs T mac ('O' :: codes) i b0 pos0 acc st
      = collectArgs T mac codes (i + 1) buf' t.pos (acc.push a a) st' := by
  rw [collectArgs]
  simp only [hf.skip, hf.langs, List.append_nil, List.head?_cons, show ('O' == '*') = false by decide,
    beq_self_eq_true, if_true, h]
  exact M.bind_ok _ _ _ _ _ ha

def dfltArg (mac : MacroDef) (i pos0 : Nat) : List Tok :=
  match mac.defaults[i]? with
  | some d => d.map (fun t => { t with pos := pos0, fix := true })
  | none => []

theorem dfltArg_nil {mac : MacroDef} (h : mac.defaults = []) (i pos0 : Nat) : dfltArg mac i pos0 = [] := by
  simp [dfltArg, h]

/-- the position `collectArgs` passes on: that of the next token, if there is one -/
def nextPos (b : Buf) (pos0 : Nat) : Nat := match b.head? with | some t => t.pos | none => pos0

/-- `O` without `[` (also at the end of the buffer, and behind skipped white space) -/
theorem collectArgs_noOpt_of (T : PTables) (mac : MacroDef) (codes : List Char) (i : Nat) {b0 b : Buf}
    (pos0 : Nat) (acc : Args) (st : PState) (hs : skipSpace b0 = b) (hl : skippedLangs b0 = [])
    (h : ∀ t, b.head? = some t → txtIsNV t "[" = false) :
    collectArgs T mac ('O' :: codes) i b0 pos0 acc st
      = collectArgs T mac codes (i + 1) b (nextPos b pos0) (acc.push (dfltArg mac i pos0) []) st := by
  rw [collectArgs]
  simp only [hs, hl, List.append_nil, show ('O' == '*') = false by decide, beq_self_eq_true, if_true,
    Bool.false_eq_true, if_false]
  unfold nextPos
  cases hb : b.head? with
  | none => rfl
  | some t =>
    simp only [h t hb, Bool.false_eq_true, if_false]
    rfl

theorem collectArgs_noOpt (hf : Front b0 t buf) (h : txtIsNV t "[" = false) :
    collectArgs T mac ('O' :: codes) i b0 pos0 acc st
      = collectArgs T mac codes (i + 1) (t :: buf) t.pos (acc.push (dfltArg mac i pos0) []) st :=
  collectArgs_noOpt_of T mac codes i pos0 acc st hf.skip hf.langs fun _ e => Option.some.inj e ▸ h

variable {lb rb : Tok} (arg rest : Buf)

theorem collectArgs_braced (hl : Brace '{' lb) (hr : Brace '}' rb) (h : ∀ t ∈ arg, NoBrace t) :
    collectArgs T mac ('A' :: codes) i (lb :: (arg ++ rb :: rest)) pos0 acc st
      = collectArgs T mac codes (i + 1) rest lb.pos
          (acc.push (argOr lb.pos arg) (argOr lb.pos arg)) st :=
  collectArgs_A T mac codes i pos0 acc st (.of_not hl.notSpace) (by simp [hl.nv])
    (argBuffer_braced T.toTables hl hr arg rest lb.pos st h)

theorem collectArgs_bracketed (hl : Brace '[' lb) (hr : Brace ']' rb) (h : ∀ t ∈ arg, NoBrk t) :
    collectArgs T mac ('O' :: codes) i (lb :: (arg ++ rb :: rest)) pos0 acc st
      = collectArgs T mac codes (i + 1) rest lb.pos
          (acc.push (argOr lb.pos arg) (argOr lb.pos arg)) st :=
  collectArgs_O T mac codes i pos0 acc st (.of_not hl.notSpace) (by simp [hl.nv])
    (argBuffer_bracketed T.toTables hl hr arg rest lb.pos st h)

theorem collectArgs_A1 (T : PTables) (mac : MacroDef) {lb rb : Tok} (hl : Brace '{' lb)
    (hr : Brace '}' rb) (arg : List Tok) (h : ∀ t ∈ arg, NoBrace t) (rest : Buf) (start : Nat)
    (st : PState) :
    collectArgs T mac ['A'] 0 (lb :: (arg ++ rb :: rest)) start {} st
      = .ok ((Args.push {} (argOr lb.pos arg) (argOr lb.pos arg), rest), st) := by
  rw [collectArgs_braced T mac _ 0 start {} st arg rest hl hr h, collectArgs_nil]

theorem collectArgs_absent (hl : Brace '{' lb) (b : Buf) : ∀ (pre : List Char) (i pos0 : Nat) (acc : Args),
    (∀ c ∈ pre, c = 'O' ∨ c = '*') →
    ∃ A, A.length = pre.length ∧
      collectArgs T mac (pre ++ codes) i (lb :: b) pos0 acc st
        = collectArgs T mac codes (i + pre.length) (lb :: b) (if pre = [] then pos0 else lb.pos)
            { acc with args := acc.args ++ A, extr := acc.extr ++ List.replicate pre.length [] } st
  | [], i, pos0, acc, _ => ⟨[], rfl, by simp⟩
  | c :: pre, i, pos0, acc, h => by
    have hf : Front (lb :: b) lb b := .of_not hl.notSpace
    have hpre := fun d hd => h d (List.mem_cons_of_mem _ hd)
    rcases h c (List.mem_cons_self ..) with rfl | rfl
    · obtain ⟨A, hA, e⟩ := collectArgs_absent hl b pre (i + 1) lb.pos (acc.push (dfltArg mac i pos0) []) hpre
      refine ⟨dfltArg mac i pos0 :: A, by simp [hA], ?_⟩
      rw [List.cons_append, collectArgs_noOpt T mac _ i pos0 acc st hf (by simp [hl.nv]), e]
      simp [Args.push, List.replicate_succ, Nat.add_assoc, Nat.add_comm 1]
    · obtain ⟨A, hA, e⟩ := collectArgs_absent hl b pre (i + 1) lb.pos (acc.push [] []) hpre
      refine ⟨[] :: A, by simp [hA], ?_⟩
      rw [List.cons_append, collectArgs_noStar T mac _ i pos0 acc st hf (by simp [hl.nv]), e]
      simp [Args.push, List.replicate_succ, Nat.add_assoc, Nat.add_comm 1]

/-! ### `expandArguments`: collection, extraction, and `finishArgs` behind them -/

/-- the part of `expand_arguments` behind the collection and the extraction -/
def finishArgs (fuel : Nat) (r : Args) (buf : Buf) (start : Nat) : M (List Tok × Buf) :=
  if mac.handler != .none then do
    let h ← callHandler T fuel mac.handler buf mac r.args start
    pure (mkAction start :: h ++ r.langs, buf)
  else
    match generateReplacements r.args mac.repl start with
    | none => crash "parser.py:generate_replacements:arguments[tok.arg-1]"
    | some g => pure (mkAction start :: g ++ r.langs, buf)

variable {T mac} {r : Args} {start : Nat} {st st' : PState} (fuel : Nat)

theorem expandArguments_noExtr
    (hc : collectArgs T mac mac.args 0 b0 start {} st = .ok ((r, buf'), st')) (he : mac.extract = []) :
    expandArguments T (fuel + 1) b0 mac start st = finishArgs T mac fuel r buf' start st' := by
  rw [expandArguments.eq_2]
  refine (M.bind_ok _ _ _ _ _ hc).trans ?_
  simp only [he, List.isEmpty_nil, Bool.not_true, Bool.false_eq_true, if_false]
  rfl

def addFlow (st : PState) (e : List Tok) : PState :=
  { st with extracted := st.extracted ++ [e], foreign := st.foreign || st.nest != 1 }

theorem expandArguments_extr
    (hc : collectArgs T mac mac.args 0 b0 start {} st = .ok ((r, buf'), st')) (he : mac.extract ≠ [])
    {g e b : List Tok} {st2 : PState} (hg : generateReplacements r.extr mac.extract start = some g)
    (hs : expandSequence T fuel (mkLang start (curLang st') false true true :: g) none [] st'
      = .ok ((e, b), st2)) :
    expandArguments T (fuel + 1) b0 mac start st = finishArgs T mac fuel r buf' start (addFlow st2 e) := by
  rw [expandArguments.eq_2]
  refine (M.bind_ok _ _ _ _ _ hc).trans ?_
  rw [if_pos (by simpa using he)]
  refine (M.bind_ok _ _ _ _ _ (rfl : M.get st' = _)).trans ?_
  simp only [hg]
  refine (M.bind_ok _ _ _ _ _ hs).trans ?_
  exact (M.bind_ok _ _ _ _ _ (rfl : M.modify _ _ = _)).trans rfl

theorem finishArgs_repl (hh : mac.handler = .none) {g : List Tok}
    (hg : generateReplacements r.args mac.repl start = some g) (b : Buf) (st : PState) :
    finishArgs T mac fuel r b start st = .ok ((mkAction start :: g ++ r.langs, b), st) := by
  unfold finishArgs
  rw [hh, if_neg (by decide), hg]
  rfl

theorem finishArgs_handler (hh : mac.handler ≠ .none) {b : Buf} {out : List Tok} {st st' : PState}
    (hcall : callHandler T fuel mac.handler b mac r.args start st = .ok (out, st')) :
    finishArgs T mac fuel r b start st = .ok ((mkAction start :: out ++ r.langs, b), st') := by
  unfold finishArgs
  rw [if_pos (by simpa using hh)]
  exact (M.bind_ok _ _ _ _ _ hcall).trans rfl

/-! ### `expandMacro` -/

theorem addUnknown_eq (name : Str) (math : Bool) (st : PState) :
    addUnknown name math st
      = .ok ((), if math || st.unknowns.contains name then st
                 else { st with unknowns := st.unknowns ++ [name] }) := rfl

theorem addUnknown_math (name : Str) (st : PState) : addUnknown name true st = .ok ((), st) := rfl

theorem addUnknown_text (name : Str) (st : PState) :
    addUnknown name false st
      = .ok ((), { st with unknowns :=
          if st.unknowns.contains name then st.unknowns else st.unknowns ++ [name] }) := by
  simp only [addUnknown, M.modify, Bool.false_or]
  split <;> rfl

theorem expandMacro_declared {tok : Tok} (hl : lookupMacro st tok.txt = some mac) (b : Buf) (math : Bool) :
    expandMacro T (fuel + 1) b tok math st
      = expandArguments T fuel (skipSpaceStopLangAct b) mac tok.pos st := by
  rw [expandMacro.eq_2]
  refine (M.bind_ok _ _ _ _ _ (rfl : M.get st = _)).trans ?_
  simp only [hl]

theorem expandMacro_undeclared {tok : Tok} (hl : lookupMacro st tok.txt = none) (b : Buf) (math : Bool) :
    expandMacro T (fuel + 1) b tok math st
      = (addUnknown tok.txt math >>= fun _ => pure ([mkAction tok.pos], skipSpaceStopLangAct b)) st := by
  rw [expandMacro.eq_2]
  refine (M.bind_ok _ _ _ _ _ (rfl : M.get st = _)).trans ?_
  simp only [hl]

theorem expandMacro_repl {tok : Tok} {b b1 : Buf} {g : List Tok} (math : Bool)
    (hl : lookupMacro st tok.txt = some mac) (he : mac.extract = []) (hh : mac.handler = .none)
    (hs : skipSpaceStopLangAct b = b1)
    (hc : collectArgs T mac mac.args 0 b1 tok.pos {} st = .ok ((r, buf'), st')) (hn : r.langs = [])
    (hg : generateReplacements r.args mac.repl tok.pos = some g) :
    expandMacro T (fuel + 2) b tok math st = .ok ((mkAction tok.pos :: g, buf'), st') := by
  rw [expandMacro_declared (fuel + 1) hl, hs, expandArguments_noExtr fuel hc he,
    finishArgs_repl fuel hh hg, hn, List.append_nil]

theorem expandMacro_handler {tok : Tok} {b b1 : Buf} {out : List Tok} {st'' : PState} (math : Bool)
    (hl : lookupMacro st tok.txt = some mac) (he : mac.extract = []) (hh : mac.handler ≠ .none)
    (hs : skipSpaceStopLangAct b = b1)
    (hc : collectArgs T mac mac.args 0 b1 tok.pos {} st = .ok ((r, buf'), st')) (hn : r.langs = [])
    (hcall : callHandler T fuel mac.handler buf' mac r.args tok.pos st' = .ok (out, st'')) :
    expandMacro T (fuel + 2) b tok math st = .ok ((mkAction tok.pos :: out, buf'), st'') := by
  rw [expandMacro_declared (fuel + 1) hl, hs, expandArguments_noExtr fuel hc he,
    finishArgs_handler fuel hh hcall, hn, List.append_nil]

/-! ### environments -/

theorem getTextExpanded_of_seq {toks out b : List Tok}
    (h : expandSequence T fuel toks none [] st = .ok ((out, b), st')) :
    getTextExpanded T (fuel + 1) toks st = .ok (getTextDirect out, st') := by
  rw [getTextExpanded.eq_2]
  exact (M.bind_ok _ _ _ _ _ h).trans rfl

theorem getEnvironmentName_braced (hl : Brace '{' lb) (hr : Brace '}' rb) (tok : Tok)
    (h : ∀ t ∈ arg, NoBrace t) {name : Str}
    (hn : getTextExpanded T fuel (argOr lb.pos arg) st = .ok (name, st')) :
    getEnvironmentName T (fuel + 1) (lb :: (arg ++ rb :: rest)) tok st = .ok ((name, rest), st') := by
  rw [getEnvironmentName.eq_2]
  refine (M.bind_ok _ _ _ _ _ (argBuffer_braced T.toTables hl hr arg rest tok.pos st h)).trans ?_
  exact (M.bind_ok _ _ _ _ _ hn).trans rfl

/-- the paragraph break or Action token that `\begin` and `\end` leave -/
def envMark (env : MacroDef) (pos : Nat) : List Tok :=
  if env.addPars then [mkFix .par pos [nl, nl]] else [mkAction pos]

theorem envMark_action {env : MacroDef} (h : env.addPars = false) (pos : Nat) :
    envMark env pos = [mkAction pos] := by
  unfold envMark
  rw [h]
  rfl

theorem envMark_par {env : MacroDef} (h : env.addPars = true) (pos : Nat) :
    envMark env pos = [mkFix .par pos [nl, nl]] := by
  unfold envMark
  rw [h]
  rfl

/-- `\begin{name}` of a list environment pushes a label generator -/
def pushItems (st : PState) (env : MacroDef) (name : Str) : PState :=
  match env.items with
  | some style =>
    { st with itemStack :=
        { style := style, level := (st.itemStack.filter (·.env == name)).length, count := 0, env := name }
          :: st.itemStack }
  | none => st

theorem pushItems_none {env : MacroDef} (h : env.items = none) (st : PState) (name : Str) :
    pushItems st env name = st := by
  unfold pushItems
  rw [h]

/-- `\end{name}` of a list environment pops it (the bottom generator stays) -/
def popItems (st : PState) (env : MacroDef) : PState :=
  if env.items.isSome && st.itemStack.length > 1 then { st with itemStack := st.itemStack.tail } else st

theorem popItems_none {env : MacroDef} (h : env.items = none) (st : PState) :
    popItems st env = st := by
  unfold popItems
  rw [h]
  rfl

variable {tok : Tok} {name : Str} {env : MacroDef} {b1 b2 : Buf} {a : List Tok} {st1 st2 : PState}

theorem beginEnvironment_declared (math : Bool)
    (hn : getEnvironmentName T fuel b0 tok st = .ok ((name, b1), st1))
    (hl : lookupEnv st1 name = some env)
    (ha : expandArguments T fuel b1 env tok.pos (pushItems st1 env name) = .ok ((a, b2), st2)) :
    beginEnvironment T (fuel + 1) b0 tok math st
      = (if env.isEqu then
          pure (envMark env tok.pos ++ a ++ [{ kind := .mathBegin env.remove, pos := tok.pos, txt := name }], b2)
        else if env.remove then do
          let s ← expandSequence T fuel b2 (some name) []
          pure (envMark env tok.pos ++ a ++ s.1, s.2)
        else pure (envMark env tok.pos ++ a, b2) : M (List Tok × Buf)) st2 := by
  rw [beginEnvironment.eq_2]
  refine (M.bind_ok _ _ _ _ _ hn).trans ?_
  refine (M.bind_ok _ _ _ _ _ (rfl : M.get st1 = _)).trans ?_
  simp only [hl]
  unfold pushItems at ha
  cases hi : env.items with
  | none =>
    rw [hi] at ha
    exact (M.bind_ok _ _ _ _ _ ha).trans rfl
  | some style =>
    rw [hi] at ha
    refine (M.bind_ok _ _ _ _ _ (rfl : M.modify _ st1 = _)).trans ?_
    exact (M.bind_ok _ _ _ _ _ ha).trans rfl

theorem endEnvironment_declared (envStop : Option Str)
    (hn : getEnvironmentName T fuel b0 tok st = .ok ((name, b1), st1))
    (hl : lookupEnv st1 name = some env) :
    endEnvironment T (fuel + 1) b0 tok envStop st
      = (if env.endFunc == .none then pure ((envMark env tok.pos, envStop == some name), b1)
        else do
          let h ← callHandler T fuel env.endFunc b1 env [] tok.pos
          pure ((envMark env tok.pos ++ h, envStop == some name), b1) : M ((List Tok × Bool) × Buf))
          (popItems st1 env) := by
  rw [endEnvironment.eq_2]
  refine (M.bind_ok _ _ _ _ _ hn).trans ?_
  refine (M.bind_ok _ _ _ _ _ (rfl : M.get st1 = _)).trans ?_
  simp only [hl]
  unfold popItems
  by_cases hc : (env.items.isSome && decide (st1.itemStack.length > 1)) = true
  · rw [if_pos hc, if_pos hc]
    exact (M.bind_ok _ _ _ _ _ (rfl : M.modify _ st1 = _)).trans rfl
  · rw [if_neg hc, if_neg hc]
    rfl

-- the special cases take the fuel from `hn`
section
variable {T : PTables} {fuel : Nat} {b0 b1 b2 : Buf} {tok : Tok} {name : Str} {env : MacroDef}
  {a : List Tok} {st st1 st2 : PState}

theorem beginEnvironment_undeclared (math : Bool)
    (hn : getEnvironmentName T fuel b0 tok st = .ok ((name, b1), st1)) (hl : lookupEnv st1 name = none) :
    beginEnvironment T (fuel + 1) b0 tok math st
      = (addUnknown name math >>= fun _ => pure ([mkAction tok.pos], b1)) st1 := by
  rw [beginEnvironment.eq_2]
  refine (M.bind_ok _ _ _ _ _ hn).trans ?_
  refine (M.bind_ok _ _ _ _ _ (rfl : M.get st1 = _)).trans ?_
  simp only [hl]

theorem endEnvironment_undeclared (envStop : Option Str)
    (hn : getEnvironmentName T fuel b0 tok st = .ok ((name, b1), st1)) (hl : lookupEnv st1 name = none) :
    endEnvironment T (fuel + 1) b0 tok envStop st
      = .ok ((([mkAction tok.pos], envStop == some name), b1), st1) := by
  rw [endEnvironment.eq_2]
  refine (M.bind_ok _ _ _ _ _ hn).trans ?_
  refine (M.bind_ok _ _ _ _ _ (rfl : M.get st1 = _)).trans ?_
  simp only [hl]
  rfl

theorem beginEnvironment_kept (math : Bool)
    (hn : getEnvironmentName T fuel b0 tok st = .ok ((name, b1), st1))
    (hl : lookupEnv st1 name = some env) (hi : env.items = none) (he : env.isEqu = false)
    (hr : env.remove = false)
    (ha : expandArguments T fuel b1 env tok.pos st1 = .ok ((a, b2), st2)) :
    beginEnvironment T (fuel + 1) b0 tok math st = .ok ((envMark env tok.pos ++ a, b2), st2) := by
  rw [beginEnvironment_declared fuel math hn hl (by rw [pushItems_none hi]; exact ha), he, hr]
  rfl

theorem endEnvironment_kept (envStop : Option Str)
    (hn : getEnvironmentName T fuel b0 tok st = .ok ((name, b1), st1))
    (hl : lookupEnv st1 name = some env) (hi : env.items = none) (hf : env.endFunc = .none) :
    endEnvironment T (fuel + 1) b0 tok envStop st
      = .ok (((envMark env tok.pos, envStop == some name), b1), st1) := by
  rw [endEnvironment_declared fuel envStop hn hl, hf, if_pos (by decide), popItems_none hi]
  rfl

end

/-! ### `expandItem` -/

/-- the declaration `expand_item` collects its argument with -/
def itemDecl : MacroDef :=
  { name := sItem, args := ['O'], repl := [{ kind := .arg 1, pos := 0, txt := "#1".toList }] }

def itemLast (start : Nat) (l : List Tok) : Nat := (l.getLast?.map (·.pos)).getD start

/-- the label `a` with the punctuation mark that ends the output so far, if it is one of the table -/
def itemPunct (T : PTables) (out a : List Tok) (start : Nat) : List Tok :=
  match out.reverse.find? (fun t => !isBlank t.txt) with
  | some p =>
    match p.txt.getLast? with
    | some c => if T.itemPunctuation.contains [c] then a ++ [mkFix .text (itemLast start a) [c]] else a
    | none => a
  | none => a

section
variable {T : PTables} {fuel : Nat} {buf b' : Buf} {tok : Tok} {a : List Tok} {st st' : PState}

/-- no `[label]` (the argument expands to Action and language tokens only): the next label of the
    innermost generator between blanks, fixed at the position of `\item`; its counter is incremented -/
theorem expandItem_nolabel (out : List Tok) {g : ItemGen} {gs : List ItemGen} {lab : Str}
    (ha : expandArguments T fuel buf itemDecl tok.pos st = .ok ((a, b'), st'))
    (hall : a.all (fun t => t.kind == Kind.action || isLangK t) = true)
    (hst : st'.itemStack = g :: gs) (hlab : itemLabel T.itemDefaultLabel g = some lab) :
    expandItem T (fuel + 1) buf tok out st
      = .ok ((a ++ [mkFix .space tok.pos [' '], mkFix .text tok.pos lab, mkFix .space tok.pos [' ']], b'),
          { st' with itemStack := { g with count := g.count + 1 } :: gs }) := by
  rw [expandItem.eq_2]
  refine (M.bind_ok _ _ _ _ _ ha).trans ?_
  simp only [hall, if_true]
  refine (M.bind_ok _ _ _ _ _ (rfl : M.get st' = _)).trans ?_
  simp only [hst, hlab]
  exact (M.bind_ok _ _ _ _ _ (rfl : M.modify _ st' = _)).trans rfl

/-- `[label]`: the label between blanks, with the punctuation of the output so far; the state is
    that behind the argument -/
theorem expandItem_label (out : List Tok)
    (ha : expandArguments T fuel buf itemDecl tok.pos st = .ok ((a, b'), st'))
    (hall : a.all (fun t => t.kind == Kind.action || isLangK t) = false) :
    expandItem T (fuel + 1) buf tok out st
      = .ok ((mkFix .space tok.pos [' '] :: (itemPunct T out a tok.pos
          ++ [mkFix .space (itemLast tok.pos (itemPunct T out a tok.pos)) [' ']]), b'), st') := by
  rw [expandItem.eq_2]
  refine (M.bind_ok _ _ _ _ _ ha).trans ?_
  simp only [hall, Bool.false_eq_true, if_false]
  rfl

end

end Call
end Yalafi
