/-
  Proofs/PlainMix3Emb.lean — the end-to-end theorem of the third union grammar, as a corollary of
  the one for the fourth (Proofs/PlainMix4E2E.lean).

  The twenty-two kinds of `PlainMix3.Seg` are among the thirty-four of `PlainMix4.Seg`, and every
  function of the statement treats them alike in both grammars.  `emb` sends a segment to the
  segment of the same kind; `render_emb`, `marks_emb`, `flows_emb`, `unkNames_emb`, `inserted_emb`:
  the source text, the reference and the fuel of `segs.map emb` in the fourth grammar are those of
  `segs` in the third; `SegsOk.emb`: the side conditions carry over (`segsOk_emb`, `liveOk_emb`,
  `nFormulas_emb`, `nDisplays_emb`; the one condition the fourth grammar adds, `pvLive`, only
  restricts labelled items, and an embedded document has none: `pvLive_emb`).  `tex2txt_mix3` is
  `PlainMix4.tex2txt_mix4` at `segs.map emb`.
-/
import YalafiVerif.Proofs.PlainMix3E2E
import YalafiVerif.Proofs.PlainMix4E2E
namespace Yalafi
namespace PlainMix3

open PlainMacro (delLines)

def emb : Seg → PlainMix4.Seg
  | .txt s => .txt s
  | .spc k => .spc k
  | .opn => .opn
  | .cls => .cls
  | .cw name sp => .cw name sp
  | .van name key => .van name key
  | .com body => .com body
  | .verb d s => .verb d s
  | .math par body => .math par body
  | .ref name key => .ref name key
  | .cite name key => .cite name key
  | .citeN name note key => .citeN name note key
  | .foot body => .foot body
  | .head name title => .head name title
  | .acc name ws bo l => .acc name ws bo l
  | .defn name n body => .defn name n body
  | .use name args => .use name args
  | .disp body => .disp body
  | .denv name body => .denv name body
  | .beg name => .beg name
  | .item ws => .item ws
  | .en name => .en name

theorem render_seg_emb (s : Seg) : (emb s).render = s.render := by cases s <;> rfl

theorem len_emb (s : Seg) : (emb s).len = s.len := by
  simp only [Seg.len, PlainMix4.Seg.len, render_seg_emb]

theorem render_emb : ∀ segs : List Seg, PlainMix4.render (segs.map emb) = render segs
  | [] => rfl
  | s :: rest => by simp only [List.map, PlainMix4.render, render, render_seg_emb, render_emb rest]

theorem fixOf_emb (T : PTables) (st : PState) (p : Nat) (s : Seg) :
    PlainMix4.fixOf T st p (emb s) = fixOf T st p s := by cases s <;> rfl

theorem marks_emb (T : PTables) (st : PState) (repls drepls : List Str) :
    ∀ (segs : List Seg) (env : Env) (stk : List ItemGen) (k k2 p : Nat),
      PlainMix4.marks T st repls drepls env stk k k2 p (segs.map emb)
        = marks T st repls drepls env stk k k2 p segs
  | [], _, _, _, _, _ => rfl
  | s :: rest, env, stk, k, k2, p => by
    cases s <;>
      simp only [List.map, emb, PlainMix4.marks, marks, marks_emb T st repls drepls rest, ← fixOf_emb,
        ← len_emb] <;> rfl

theorem flows_emb : ∀ (segs : List Seg) (p : Nat), PlainMix4.flows p (segs.map emb) = flows p segs
  | [], _ => rfl
  | s :: rest, p => by
    cases s <;> simp only [List.map, emb, PlainMix4.flows, flows, flows_emb rest, ← len_emb] <;> rfl

theorem unkNames_emb : ∀ (segs : List Seg) (env : Env),
    PlainMix4.unkNames env (segs.map emb) = unkNames env segs
  | [], _ => rfl
  | s :: rest, env => by
    cases s <;> simp only [List.map, emb, PlainMix4.unkNames, unkNames, unkNames_emb rest]

theorem inserted_emb : ∀ (segs : List Seg) (env : Env) (p : Nat),
    PlainMix4.inserted env p (segs.map emb) = inserted env p segs
  | [], _, _ => rfl
  | s :: rest, env, p => by
    cases s <;>
      simp only [List.map, emb, PlainMix4.inserted, inserted, inserted_emb rest, ← len_emb] <;> rfl

theorem nFormulas_emb : ∀ segs : List Seg, PlainMix4.nFormulas (segs.map emb) = nFormulas segs
  | [] => rfl
  | s :: rest => by
    cases s <;> simp only [List.map, emb, PlainMix4.nFormulas, nFormulas, nFormulas_emb rest]

theorem nDisplays_emb : ∀ segs : List Seg, PlainMix4.nDisplays (segs.map emb) = nDisplays segs
  | [] => rfl
  | s :: rest => by
    cases s <;> simp only [List.map, emb, PlainMix4.nDisplays, nDisplays, nDisplays_emb rest]


theorem firstTokTxtV_eq (T : Tables) (s : Str) : PlainMix4.firstTokTxtV T s = firstTokTxtV T s := by
  cases s <;> rfl

theorem textOkV_eq (T : PTables) (st : PState) : ∀ s R : Str, PlainMix4.textOkV T st s R = textOkV T st s R
  | [], _ => rfl
  | c :: cs, R => by
    simp only [PlainMix4.textOkV, textOkV, PlainMix4.okAtV, okAtV, firstTokTxtV_eq, textOkV_eq T st cs R]

theorem segsOk_emb (T : PTables) (st : PState) :
    ∀ segs : List Seg, PlainMix4.segsOk T st (segs.map emb) = segsOk T st segs
  | [] => rfl
  | s :: rest => by
    cases s <;>
      simp only [List.map, emb, PlainMix4.segsOk, segsOk, segsOk_emb T st rest, render_emb, textOkV_eq,
        PlainMix4.itemOkV, itemOkV, firstTokTxtV_eq, PlainMix4.accNlOk, accNlOk]

theorem liveTxt_eq (env : Env) (s : Str) : PlainMix4.liveTxt env s = liveTxt env s := by
  rfl

theorem liveOk_emb (T : PTables) (st : PState) :
    ∀ (segs : List Seg) (env : Env) (stk : List ItemGen) (p : Nat),
      PlainMix4.liveOk T st env stk p (segs.map emb) = liveOk T st env stk p segs
  | [], _, _, _ => rfl
  | s :: rest, env, stk, p => by
    cases s <;>
      simp only [List.map, emb, PlainMix4.liveOk, liveOk, liveOk_emb T st rest, liveTxt_eq, ← len_emb] <;> rfl

theorem pvLive_emb (T : PTables) (st : PState) :
    ∀ (segs : List Seg) (stk : List ItemGen) (k : PlainMix4.PvK) (p : Nat),
      PlainMix4.pvLive T st stk k p (segs.map emb) = true
  | [], _, _, _ => rfl
  | s :: rest, stk, k, p => by
    cases s <;> simp only [List.map, emb, PlainMix4.pvLive, pvLive_emb T st rest]

theorem SegsOk.emb {T : PTables} {st : PState} {repls drepls : List Str} {segs : List Seg}
    (h : SegsOk T st repls drepls segs) : PlainMix4.SegsOk T st repls drepls (segs.map emb) := by
  obtain ⟨ha, hsegs, hlive, hmath, hdisp⟩ := h
  exact ⟨ha, by rw [segsOk_emb]; exact hsegs, by rw [liveOk_emb]; exact hlive, pvLive_emb T st segs _ _ _,
    by rw [nFormulas_emb]; exact hmath, by rw [nDisplays_emb]; exact hdisp⟩

theorem tex2txt_mix3 (T : PTables) (o : Options) (fs : FS) (thresh : Nat) (segs : List Seg)
    (fuel : Nat) (st1 : PState) (repls drepls : List Str)
    (hdefs : o.defs = []) (hextr : o.extr = []) (hrepl : o.hasRepl = false) (hunkn : o.unkn = false)
    (hinit : initParser T fuel o (initialState T o false fs) = .ok ((), st1))
    (hok : SegsOk T st1 repls drepls segs)
    (hf : (render segs).length + inserted [] 0 segs + 6 ≤ fuel) :
    ∃ r, tex2txt T fuel (render segs) o false thresh fs = .ok r ∧
      r.txt = (delLines (marks T st1 repls drepls [] st1.itemStack 0 0 0 segs)
                ++ flows 0 segs).map (·.1) ∧
      r.pos = (delLines (marks T st1 repls drepls [] st1.itemStack 0 0 0 segs)
                ++ flows 0 segs).map (·.2 + 1) ∧
      r.unknowns = (unkNames [] segs).eraseDups ∧ r.diags = st1.diags ∧ r.parts = [] := by
  have h := PlainMix4.tex2txt_mix4 T o fs thresh (segs.map emb) fuel st1 repls drepls hdefs hextr hrepl
    hunkn hinit hok.emb (by rw [render_emb, inserted_emb]; exact hf)
  rw [render_emb, marks_emb, flows_emb, unkNames_emb] at h
  exact h

end PlainMix3
end Yalafi
