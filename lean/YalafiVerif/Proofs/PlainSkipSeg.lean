/-
  Proofs/PlainSkipSeg.lean — C03 "nothing from … LT-SKIP regions … appears", end to end on the model,
  DOCUMENT LEVEL: documents of inert text and skipped regions

      %%% LT-SKIP-BEGIN bt ⏎ hidden %%% LT-SKIP-END et ⏎ ws

  where `hidden` is ARBITRARY source text (macros, braces, `$`, `\verb|…|`, verbatim environments,
  comment lines, nested BEGIN markers, unbalanced anything) subject to the computable condition
  `hiddenOk`.  (The source level — any source of the class `skipText`, also with ordinary comments
  and with END markers that are not at the beginning of a line — is Proofs/PlainSkip.lean.)

  The difficulty is the scanner: the hidden text is scanned into tokens before it is thrown away, and
  the pre-pass only deletes the region if a COMMENT TOKEN starts at the END marker.  That is false
  in general.  Found with `#eval` on the real tables (`A⏎%%% LT-SKIP-BEGIN⏎ … ⏎%%% LT-SKIP-END⏎B`):
    * hidden `x \verb` (a `\verb` at the end of the last hidden line): the line break is taken as
      the delimiter and the END marker line as the verbatim text — "bad \verb argument", "cannot
      find closing LaTeX comment", and the hidden `x` appears in the output;
    * hidden `\begin{verbatim}` whose `\end{verbatim}` stands BEHIND the region: the verbatim token
      swallows the END marker — the hidden text and the marker line itself appear in the output;
      without any `\end{verbatim}`: the region is skipped but "missing end of verbatim" is reported;
    * hidden `\verb|x` (not closed on its line): the region is skipped, but "bad \verb argument" is
      reported for a text the user asked to skip;
    * `x % y %%% LT-SKIP-END` / `x \%%% LT-SKIP-END`: the marker is part of another comment / of `\%`:
      no END marker; `x \y %%% LT-SKIP-END` (marker behind text on the same line) works in the model
      — it is covered by the source-level theorem, not by `hiddenOk`.
  `hiddenOk T st bt hidden` (sufficient; exact up to the position of the END marker on its line):
    * `bt` (the rest of the BEGIN line) contains no line break;
    * `tailBlank hidden`: behind the last line break of `hidden` there is white space only, i.e. the
      END marker is the first thing on its line (indentation allowed; `hidden` may be empty);
    * `hiddenScan`: the scanner runs through `B bt ⏎ hidden` (from behind the opening comment token,
      which swallows the line break and the indentation of the first hidden line) without an error
      — every `\verb` has its closing delimiter on its line, every `\begin{verbatim}` its
      `\end{verbatim}` INSIDE the hidden text — and meets no comment token that starts with the END
      marker (an END marker line inside a verbatim environment or behind `\verb|` is no comment
      token: the region goes on, and that is what the theorem says).
  `regionEnd_of_hidden` (with `nextToken_local` of Proofs/PlainSkipScan.lean): under `hiddenOk` the
  scanner on `hidden ++ END line ++ rest` makes the same steps as on `hidden` alone and then a
  comment token at the END marker — it RE-SYNCHRONISES, whatever follows.

  Documents
    `Seg`, `render`            `txt s` | `skip bt hidden et ws` | `skipPar bt hidden et` (see `Seg`)
    `plain`                    the reference output: the characters of the text segments at their own
                               positions; `regions`: the regions as (start, length)
  Results
    `region_ok`, `region_seg`, `segs_class`   a well-formed document is a source of the class `skipText`
                               and `stripSkip` of it is `plain`
    `tex2txt_skip_regions`     the end-to-end statement
    `plain_pos_outside`        no output position lies inside a region

  What remains of the two marker lines: NOTHING.  The region extends from the `%` of the BEGIN marker
  (text in front of it on the same line is kept) to the end of the closing comment TOKEN, which, as
  for every comment (Proofs/PlainComment.lean), includes the line break and the white space `ws` at
  the beginning of the next line — unless that white space contains another line break (a blank
  line follows): then the token ends in front of the line break (`skipPar`), and the line breaks
  behind it are ordinary text.  No Action token is left: no line is removed, and two space tokens
  around a region are not merged (`A⏎` region `B` gives `A⏎B`; `A⏎⏎` region `⏎⏎B` gives `A⏎⏎⏎⏎B`).

  Side conditions of `tex2txt_skip_regions` (`SegsOk T st1 segs`, decidable; plus `WFScan`)
    `T.toTables.WFScan`        the special table is sorted and has no empty key (real tables: `Generated.wfScan`)
    `markersOk st1`            both markers start with `%` and contain no line break (with `--nosp` the
                               markers are `x`: there are no regions at all)
    `specialsLocal T`          no entry of the special table has white space in front of its last
                               character (real tables: `\ `, `\⇥`, `\⏎` END with white space) — a longer
                               entry could match across the end of the hidden text
    text segments              `textOkS`: every character `okAtS` (see Proofs/PlainSkip.lean) in its right
                               context; in particular no `%`
    `skip bt hidden et ws`     `hiddenOk`; `et` without line break; `ws` white space without line break;
                               the following text does not start with white space (or is empty)
    `skipPar bt hidden et`     `hiddenOk`; `et` without line break; the following text is empty (the
                               region ends the source, without final line break) or starts with a line
                               break and a blank line
    options / fuel             no --defs, --extr, --repl, --unkn; single-language mode; source length + 2

  NOT covered: scanner errors inside the hidden text (see above: the model reports them); an END
  marker that is not the first thing on its line (source-level theorem); text around the regions
  that is more than inert text (the source-level theorem also allows ordinary comments);
  multi-language mode.
-/
import YalafiVerif.Proofs.PlainSkip
import YalafiVerif.Proofs.PlainVanish
namespace Yalafi
namespace Skip

open M
open Comment (commentSpan comTxt okAtC posText noNl commentSpan_bounds nextToken_percent)

/-! ### the scan of a hidden text -/

/-- the scanner runs through the text: every step succeeds (no `\verb` without its closing
    delimiter on the same line, no `\begin{verbatim}` without `\end{verbatim}`) and no token is a
    comment that starts with the END marker -/
def hiddenScan (T : Tables) (st : PState) : Nat → Str → Bool
  | _, [] => true
  | 0, _ :: _ => false
  | f + 1, c :: cs =>
    (nextToken T [] 0 (c :: cs)).diag.isNone && (nextToken T [] 0 (c :: cs)).len != 0 &&
    !isEndTok st (nextToken T [] 0 (c :: cs)).tok &&
    hiddenScan T st f ((c :: cs).drop (nextToken T [] 0 (c :: cs)).len)

theorem regionEnd_of_hidden (T : Tables) (hT : specialsLocal T = true) (hwf : T.WFScan) (st : PState)
    (R : Str) (hE : isEndTok st (nextToken T [] 0 ('%' :: R)).tok = true) :
    ∀ (f : Nat) (X : Str) (F : Nat), f + 1 ≤ F → tailBlank X = true → hiddenScan T st f X = true →
      regionEnd T st F (X ++ '%' :: R) = some (X.length + commentSpan ('%' :: R)) := by
  have hpc : nextToken T [] 0 ('%' :: R)
      = { tok := { kind := .comment, pos := 0, txt := comTxt ('%' :: R) }, len := commentSpan ('%' :: R) } := by
    simp [nextToken, show isSpace '%' = false by decide, scanComment, comTxt,
      Comment.commentSpan_eq_commentLen]
  have hsp := (commentSpan_bounds '%' R).1
  intro f
  induction f with
  | zero =>
    intro X F hF hb hs
    cases X with
    | cons c cs => simp [hiddenScan] at hs
    | nil =>
      obtain ⟨F', rfl⟩ : ∃ k, F = k + 1 := ⟨F - 1, by omega⟩
      have hl0 : (commentSpan ('%' :: R) == 0) = false := by simp; omega
      simp only [List.nil_append, regionEnd, hE, if_true]
      simp [hpc, hl0]
  | succ f ih =>
    intro X F hF hb hs
    obtain ⟨F', rfl⟩ : ∃ k, F = k + 1 := ⟨F - 1, by omega⟩
    cases X with
    | nil =>
      have hl0 : (commentSpan ('%' :: R) == 0) = false := by simp; omega
      simp only [List.nil_append, regionEnd, hE, if_true]
      simp [hpc, hl0]
    | cons c cs =>
      simp only [hiddenScan, Bool.and_eq_true, Option.isNone_iff_eq_none, bne_iff_ne, ne_eq,
        Bool.not_eq_true'] at hs
      obtain ⟨⟨⟨hd, hl⟩, hne⟩, hrest⟩ := hs
      have hloc := nextToken_local T hT (c :: cs) R (by simp) hb hd
      have hlen := (nextToken_len T hwf [] 0 (c :: cs) (by simp)).2
      generalize hs' : nextToken T [] 0 (c :: cs) = s at hd hl hne hrest hloc hlen
      have hdrop : (c :: (cs ++ '%' :: R)).drop s.len = (c :: cs).drop s.len ++ '%' :: R := by
        rw [show c :: (cs ++ '%' :: R) = (c :: cs) ++ '%' :: R from rfl,
          List.drop_append_of_le_length hlen]
      simp only [List.cons_append] at hloc
      simp only [List.cons_append, regionEnd, hloc, hd, Option.isSome_none, Bool.false_or, hne,
        Bool.false_eq_true, if_false, hdrop]
      rw [if_neg (by simpa using hl), ih ((c :: cs).drop s.len) F' (by omega)
        (tailBlank_drop _ _ hb) hrest]
      simp only [Option.map_some, List.length_drop, List.length_cons]
      simp only [List.length_cons] at hlen
      congr 1
      omega

/-! ### documents: text segments and skipped regions -/

/-- a segment of the source (`B`, `E` are the two markers `st.skipBegin`, `st.skipEnd`):
    * `txt s`                 a run of text;
    * `skip bt hidden et ws`  a skipped region `B bt ⏎ hidden E et ⏎ ws`: `bt`, `et` are the rests of the
      two marker lines, `ws` is the white space at the beginning of the line behind the END marker
      line, which the closing comment token swallows together with the line break — visible text
      (or the end of the source) follows;
    * `skipPar bt hidden et`  a skipped region `B bt ⏎ hidden E et` in front of a blank line (or at
      the very end of the source): the closing comment token ends in front of the line break, which
      belongs to the text that follows -/
inductive Seg where
  | txt (s : Str)
  | skip (bt hidden et ws : Str)
  | skipPar (bt hidden et : Str)
deriving Repr, DecidableEq

def regionHead (mb bt hidden : Str) : Str := mb ++ bt ++ nl :: hidden

def Seg.render (st : PState) : Seg → Str
  | .txt s => s
  | .skip bt h et ws => regionHead st.skipBegin bt h ++ (st.skipEnd ++ et ++ nl :: ws)
  | .skipPar bt h et => regionHead st.skipBegin bt h ++ (st.skipEnd ++ et)

def render (st : PState) : List Seg → Str
  | [] => []
  | s :: rest => s.render st ++ render st rest

/-- **the reference output**: the characters of the text segments, each with its own (0-based)
    source position; a skipped region contributes nothing -/
def plain (st : PState) : Nat → List Seg → List (Char × Nat)
  | _, [] => []
  | p, .txt s :: rest => posText p s ++ plain st (p + s.length) rest
  | p, .skip bt h et ws :: rest => plain st (p + ((Seg.skip bt h et ws).render st).length) rest
  | p, .skipPar bt h et :: rest => plain st (p + ((Seg.skipPar bt h et).render st).length) rest

/-- the skipped regions as (0-based start, length) -/
def regions (st : PState) : Nat → List Seg → List (Nat × Nat)
  | _, [] => []
  | p, .txt s :: rest => regions st (p + s.length) rest
  | p, .skip bt h et ws :: rest =>
    (p, ((Seg.skip bt h et ws).render st).length)
      :: regions st (p + ((Seg.skip bt h et ws).render st).length) rest
  | p, .skipPar bt h et :: rest =>
    (p, ((Seg.skipPar bt h et).render st).length)
      :: regions st (p + ((Seg.skipPar bt h et).render st).length) rest

/-! ### the side conditions -/

def markersOk (st : PState) : Bool :=
  st.skipBegin.head? == some '%' && noNl st.skipBegin &&
  st.skipEnd.head? == some '%' && noNl st.skipEnd

/-- **the condition on a hidden text** (`bt`: the rest of the BEGIN marker line):
    * `bt` contains no line break;
    * `tailBlank hidden`: behind the last line break of `hidden` there is white space only — the END
      marker is the first thing on its line (it may be indented; `hidden` may be empty);
    * `hiddenScan`: the scanner runs through `B bt ⏎ hidden` (behind the opening comment token)
      without an error — every `\verb` has its closing delimiter on its line, every
      `\begin{verbatim}` its `\end{verbatim}` — and meets no comment token that starts with the END
      marker.
    Everything else is allowed in `hidden`: macros, braces (unbalanced), `$`, `\verb|…|`, verbatim
    environments, comment lines, further BEGIN markers. -/
def hiddenOk (T : Tables) (st : PState) (bt hidden : Str) : Bool :=
  noNl bt && tailBlank hidden &&
  hiddenScan T st
    ((regionHead st.skipBegin bt hidden).drop (commentSpan (regionHead st.skipBegin bt hidden))).length
    ((regionHead st.skipBegin bt hidden).drop (commentSpan (regionHead st.skipBegin bt hidden)))

def textOkS (T : PTables) (st : PState) : Str → Str → Bool
  | [], _ => true
  | c :: cs, R => okAtS T st c (cs ++ R) && textOkS T st cs R

def segsOk (T : PTables) (st : PState) : List Seg → Bool
  | [] => true
  | .txt s :: rest => textOkS T st s (render st rest) && segsOk T st rest
  | .skip bt h et ws :: rest =>
    hiddenOk T.toTables st bt h && noNl et && ws.all isSpace && !hasNl ws &&
    (render st rest).head?.all (fun c => !isSpace c) && segsOk T st rest
  | .skipPar bt h et :: rest =>
    hiddenOk T.toTables st bt h && noNl et &&
    ((render st rest).isEmpty ||
      ((render st rest).head? == some nl && hasNl ((render st rest).tail.takeWhile isSpace))) &&
    segsOk T st rest

def SegsOk (T : PTables) (st : PState) (segs : List Seg) : Prop :=
  markersOk st = true ∧ specialsLocal T.toTables = true ∧ segsOk T st segs = true

instance (T : PTables) (st : PState) (segs : List Seg) : Decidable (SegsOk T st segs) := by
  unfold SegsOk; infer_instance

/-! ### a region is a region of the class -/

theorem startsWith_append_self : ∀ (a b : Str), startsWith (a ++ b) a = true
  | [], _ => by simp [startsWith]
  | c :: a, b => by simp [startsWith, startsWith_append_self a b]

theorem noNl_append {a b : Str} (ha : noNl a = true) (hb : noNl b = true) : noNl (a ++ b) = true := by
  unfold noNl at ha hb ⊢
  rw [List.all_append, ha, hb]; rfl

theorem hasNl_mid (a h : Str) : hasNl (a ++ nl :: h) = true := by
  simp [hasNl]

theorem tailBlank_append_nl : ∀ (a h : Str), tailBlank (a ++ nl :: h) = tailBlank h
  | [], h => by simp [tailBlank, show isSpace nl = true by decide]
  | c :: a, h => by
    simp only [List.cons_append, tailBlank, hasNl_mid a h, Bool.or_true, Bool.true_and,
      tailBlank_append_nl a h]

structure Markers (st : PState) (mb' me' : Str) : Prop where
  b : st.skipBegin = '%' :: mb'
  bn : noNl mb' = true
  e : st.skipEnd = '%' :: me'
  en : noNl me' = true

theorem markers {st : PState} (h : markersOk st = true) : ∃ mb' me', Markers st mb' me' := by
  simp only [markersOk, Bool.and_eq_true, beq_iff_eq] at h
  obtain ⟨⟨⟨h1, h2⟩, h3⟩, h4⟩ := h
  cases hb : st.skipBegin with
  | nil => rw [hb] at h1; simp at h1
  | cons c mb' =>
    cases he : st.skipEnd with
    | nil => rw [he] at h3; simp at h3
    | cons d me' =>
      rw [hb] at h1 h2; rw [he] at h3 h4
      simp only [List.head?_cons, Option.some.injEq] at h1 h3
      subst h1; subst h3
      simp only [noNl, List.all_cons, Bool.and_eq_true] at h2 h4
      exact ⟨mb', me', hb, h2.2, he, h4.2⟩

theorem comTxt_startsWith (m t R : Str) (h : noNl (m ++ t) = true) :
    startsWith (comTxt ('%' :: ((m ++ t) ++ nl :: R))) ('%' :: m) = true := by
  have e : ∃ x, comTxt ('%' :: ((m ++ t) ++ nl :: R)) = ('%' :: m) ++ (t ++ x) := by
    rw [Comment.comTxt_com (m ++ t) R h]
    split
    · exact ⟨[], by simp⟩
    · exact ⟨nl :: R.takeWhile isSpace, by simp⟩
  obtain ⟨x, hx⟩ := e
  rw [hx]
  exact startsWith_append_self _ _

theorem skipText_reg_intro (T : PTables) (st : PState) (cs : Str) (n : Nat)
    (hb : startsWith (comTxt ('%' :: cs)) st.skipBegin = true)
    (hn : regionLen T.toTables st ('%' :: cs) = some n)
    (h : skipTextA T st 0 (('%' :: cs).drop n) = true) : skipTextA T st 0 ('%' :: cs) = true := by
  obtain ⟨k, hk⟩ : ∃ k, n = k + 1 := ⟨n - 1, by have := regionLen_pos hn; omega⟩
  simp only [skipTextA, beq_self_eq_true, if_true, hb, hn]
  rw [skipTextA_skip, hk]
  rw [hk] at h
  simpa using h

/-- **a region of the document is a region for the scanner**: the text `B bt ⏎ hidden` in front of a
    comment `%E''` that starts with the END marker -/
theorem region_ok (T : PTables) (st : PState) (hm : markersOk st = true)
    (hT : specialsLocal T.toTables = true) (hwf : T.toTables.WFScan) (bt h : Str)
    (hh : hiddenOk T.toTables st bt h = true) (E : Str)
    (hE : startsWith (comTxt ('%' :: E)) st.skipEnd = true) :
    ∃ cs0, regionHead st.skipBegin bt h ++ '%' :: E = '%' :: cs0 ∧
      startsWith (comTxt ('%' :: cs0)) st.skipBegin = true ∧
      regionLen T.toTables st ('%' :: cs0)
        = some ((regionHead st.skipBegin bt h).length + commentSpan ('%' :: E)) := by
  obtain ⟨mb', me', M⟩ := markers hm
  simp only [hiddenOk, Bool.and_eq_true] at hh
  obtain ⟨⟨hbt, htb⟩, hscan⟩ := hh
  have hB : regionHead st.skipBegin bt h = '%' :: ((mb' ++ bt) ++ nl :: h) := by
    simp [regionHead, M.b]
  rw [hB] at hscan
  have hnlB : hasNl ((mb' ++ bt) ++ nl :: h) = true := hasNl_mid _ _
  have hspanB := commentSpan_local '%' ((mb' ++ bt) ++ nl :: h) E hnlB
  obtain ⟨b1, b2⟩ := commentSpan_bounds '%' ((mb' ++ bt) ++ nl :: h)
  refine ⟨((mb' ++ bt) ++ nl :: h) ++ '%' :: E, by rw [hB]; rfl, ?_, ?_⟩
  · -- the opening comment starts with the BEGIN marker
    have htxt : comTxt ('%' :: (((mb' ++ bt) ++ nl :: h) ++ '%' :: E))
        = comTxt ('%' :: ((mb' ++ bt) ++ nl :: h)) := by
      unfold comTxt
      rw [hspanB, show '%' :: (((mb' ++ bt) ++ nl :: h) ++ '%' :: E)
        = ('%' :: ((mb' ++ bt) ++ nl :: h)) ++ '%' :: E from rfl, List.take_append_of_le_length b2]
    rw [htxt, M.b]
    exact comTxt_startsWith mb' bt h (noNl_append M.bn hbt)
  · unfold regionLen
    rw [hspanB]
    have hdrop : ('%' :: (((mb' ++ bt) ++ nl :: h) ++ '%' :: E)).drop
          (commentSpan ('%' :: ((mb' ++ bt) ++ nl :: h)))
        = ('%' :: ((mb' ++ bt) ++ nl :: h)).drop (commentSpan ('%' :: ((mb' ++ bt) ++ nl :: h)))
          ++ '%' :: E := by
      rw [show '%' :: (((mb' ++ bt) ++ nl :: h) ++ '%' :: E)
        = ('%' :: ((mb' ++ bt) ++ nl :: h)) ++ '%' :: E from rfl, List.drop_append_of_le_length b2]
    rw [hdrop]
    have htbB : tailBlank ('%' :: ((mb' ++ bt) ++ nl :: h)) = true := by
      rw [show '%' :: ((mb' ++ bt) ++ nl :: h) = ('%' :: (mb' ++ bt)) ++ nl :: h from rfl,
        tailBlank_append_nl]
      exact htb
    have hEtok : isEndTok st (nextToken T.toTables [] 0 ('%' :: E)).tok = true := by
      rw [nextToken_percent]
      simp [isEndTok, hE]
    rw [regionEnd_of_hidden T.toTables hT hwf st E hEtok _ _ _ (by simp) (tailBlank_drop _ _ htbB) hscan]
    simp only [Option.map_some, List.length_drop, hB]
    congr 1
    omega

/-- a region segment `segR` in front of `R`: the source is of the class if `R` is, and the
    reference skips the whole segment -/
theorem region_seg (T : PTables) (st : PState) (hm : markersOk st = true)
    (hT : specialsLocal T.toTables = true) (hwf : T.toTables.WFScan) (bt h : Str)
    (hh : hiddenOk T.toTables st bt h = true) (segR R E : Str)
    (hsrc : segR ++ R = regionHead st.skipBegin bt h ++ '%' :: E)
    (hE : startsWith (comTxt ('%' :: E)) st.skipEnd = true)
    (hlen : segR.length = (regionHead st.skipBegin bt h).length + commentSpan ('%' :: E))
    (hR : skipTextA T st 0 R = true) (i : Nat) :
    skipTextA T st 0 (segR ++ R) = true ∧
    stripS T.toTables st 0 (segR ++ R) i = stripS T.toTables st 0 R (i + segR.length) := by
  obtain ⟨cs0, h0, hb, hn⟩ := region_ok T st hm hT hwf bt h hh E hE
  have hsrc' : '%' :: cs0 = segR ++ R := by rw [hsrc, h0]
  have hdrop : ('%' :: cs0).drop segR.length = R := by rw [hsrc', List.drop_left]
  rw [← hlen] at hn
  rw [← hsrc']
  refine ⟨skipText_reg_intro T st cs0 _ hb hn (by rw [hdrop]; exact hR), ?_⟩
  rw [strip_reg T.toTables st cs0 i _ hb hn, hdrop]

theorem okAtS_ne_percent {T : PTables} {st : PState} {c : Char} {cs : Str}
    (h : okAtS T st c cs = true) : c ≠ '%' := Comment.okAtC_ne_percent (okAtS_okAtC h)

theorem textOkS_skipText (T : PTables) (st : PState) (R : Str) (hR : skipTextA T st 0 R = true) :
    ∀ s : Str, textOkS T st s R = true → skipTextA T st 0 (s ++ R) = true
  | [], _ => hR
  | c :: cs, h => by
    simp only [textOkS, Bool.and_eq_true] at h
    have hc := okAtS_ne_percent h.1
    simp only [List.cons_append, skipTextA, beq_iff_eq, hc, if_false, Bool.and_eq_true]
    exact ⟨h.1, textOkS_skipText T st R hR cs h.2⟩

theorem textOkS_ne_percent (T : PTables) (st : PState) (R : Str) :
    ∀ s : Str, textOkS T st s R = true → ∀ c ∈ s, c ≠ '%'
  | [], _, c, hc => by simp at hc
  | d :: ds, h, c, hc => by
    simp only [textOkS, Bool.and_eq_true] at h
    rcases List.mem_cons.mp hc with rfl | hc
    · exact okAtS_ne_percent h.1
    · exact textOkS_ne_percent T st R ds h.2 c hc

theorem strip_text (T : Tables) (st : PState) (s R : Str) (i : Nat) (h : ∀ c ∈ s, c ≠ '%') :
    stripS T st 0 (s ++ R) i = posText i s ++ stripS T st 0 R (i + s.length) := by
  induction s generalizing i with
  | nil => simp [posText]
  | cons c cs ih =>
    rw [List.cons_append, strip_char T st c _ i (h c (by simp)), ih (i + 1) (fun x hx => h x (by simp [hx]))]
    simp [posText, Nat.add_assoc, Nat.add_comm 1]

theorem segs_class (T : PTables) (st : PState) (hm : markersOk st = true)
    (hT : specialsLocal T.toTables = true) (hwf : T.toTables.WFScan) :
    ∀ (segs : List Seg), segsOk T st segs = true → ∀ i : Nat,
      skipTextA T st 0 (render st segs) = true ∧
      stripS T.toTables st 0 (render st segs) i = plain st i segs
  | [], _, i => ⟨rfl, rfl⟩
  | .txt s :: rest, h, i => by
    simp only [segsOk, Bool.and_eq_true] at h
    have I := segs_class T st hm hT hwf rest h.2
    refine ⟨textOkS_skipText T st _ (I 0).1 s h.1, ?_⟩
    simp only [render, Seg.render, plain]
    rw [strip_text T.toTables st s _ i (textOkS_ne_percent T st _ s h.1), (I _).2]
  | .skip bt hd et ws :: rest, h, i => by
    obtain ⟨mb', me', M⟩ := markers hm
    simp only [segsOk, Bool.and_eq_true, Bool.not_eq_true'] at h
    obtain ⟨⟨⟨⟨⟨h1, h2⟩, h3⟩, h4⟩, h5⟩, h6⟩ := h
    have I := segs_class T st hm hT hwf rest h6
    have hnt : noNl (me' ++ et) = true := noNl_append M.en h2
    have htw := takeWhile_stop isSpace ws (render st rest) (List.all_eq_true.mp h3) h5
    have hspan : commentSpan ('%' :: ((me' ++ et) ++ nl :: (ws ++ render st rest)))
        = (me' ++ et).length + 2 + ws.length := by
      rw [Comment.span_com _ _ hnt, htw, h4]; rfl
    have hE : startsWith (comTxt ('%' :: ((me' ++ et) ++ nl :: (ws ++ render st rest)))) st.skipEnd = true := by
      rw [M.e]; exact comTxt_startsWith me' et _ hnt
    have R := region_seg T st hm hT hwf bt hd h1 ((Seg.skip bt hd et ws).render st) (render st rest)
      ((me' ++ et) ++ nl :: (ws ++ render st rest))
      (by simp [Seg.render, M.e, List.append_assoc]) hE
      (by rw [hspan]; simp [Seg.render, M.e]; omega) (I 0).1 i
    simp only [render, plain]
    exact ⟨R.1, by rw [R.2, (I _).2]⟩
  | .skipPar bt hd et :: rest, h, i => by
    obtain ⟨mb', me', M⟩ := markers hm
    simp only [segsOk, Bool.and_eq_true, Bool.or_eq_true, beq_iff_eq] at h
    obtain ⟨⟨⟨h1, h2⟩, h3⟩, h6⟩ := h
    have I := segs_class T st hm hT hwf rest h6
    have hnt : noNl (me' ++ et) = true := noNl_append M.en h2
    have hE : ∃ E, (Seg.skipPar bt hd et).render st ++ render st rest
          = regionHead st.skipBegin bt hd ++ '%' :: E ∧
        startsWith (comTxt ('%' :: E)) st.skipEnd = true ∧
        commentSpan ('%' :: E) = (me' ++ et).length + 1 := by
      rcases h3 with h3 | ⟨h3, h4⟩
      · have hr : render st rest = [] := by simpa using h3
        refine ⟨me' ++ et, by simp [Seg.render, M.e, hr], ?_, Comment.span_eof _ hnt⟩
        rw [Comment.comTxt_eof _ hnt, M.e, show '%' :: (me' ++ et) = ('%' :: me') ++ et by simp]
        exact startsWith_append_self _ _
      · cases hr : render st rest with
        | nil => rw [hr] at h3; simp at h3
        | cons c R' =>
          rw [hr] at h3 h4
          simp only [List.head?_cons, Option.some.injEq, List.tail_cons] at h3 h4
          subst h3
          refine ⟨(me' ++ et) ++ nl :: R', by simp [Seg.render, M.e, List.append_assoc], ?_, ?_⟩
          · rw [M.e]; exact comTxt_startsWith me' et R' hnt
          · rw [Comment.span_com _ _ hnt, h4]; rfl
    obtain ⟨E, e1, e2, e3⟩ := hE
    have R := region_seg T st hm hT hwf bt hd h1 ((Seg.skipPar bt hd et).render st) (render st rest) E
      e1 e2 (by rw [e3]; simp [Seg.render, M.e]) (I 0).1 i
    simp only [render, plain]
    exact ⟨R.1, by rw [R.2, (I _).2]⟩

/-! ### the end-to-end statement -/

/-- **C03 for skipped regions, end to end.**  The document is a sequence of inert text segments and
    skipped regions `%%% LT-SKIP-BEGIN … ⏎ hidden %%% LT-SKIP-END … ⏎` whose hidden text is ARBITRARY
    source text subject to `hiddenOk` (`SegsOk`: all side conditions, computable); the scanner
    tables are well-formed (`WFScan`); `st1` is the state after `Parser.__init__`; no `--defs`,
    `--extr`, `--repl`, `--unkn`; single-language mode.  With one unit of fuel per source character
    plus two, `tex2txt` succeeds and

    * the output text with its (1-based) positions is `plain st1 0 segs`: the characters of the text
      segments, each at its own source position; nothing of a region — neither of the two marker
      lines (the closing comment swallows its line break and the white space `ws` behind it, or,
      in front of a blank line, stops in front of the line break) nor of the hidden text;
    * no line is removed (a region leaves no Action token);
    * nothing is reported as unknown — the macros inside the regions never reach the expander —
      and no diagnostic is added. -/
theorem tex2txt_skip_regions (T : PTables) (o : Options) (fs : FS) (thresh : Nat)
    (segs : List Seg) (fuel : Nat) (st1 : PState) (hwf : T.toTables.WFScan)
    (hdefs : o.defs = []) (hextr : o.extr = []) (hrepl : o.hasRepl = false)
    (hunkn : o.unkn = false)
    (hinit : initParser T fuel o (initialState T o false fs) = .ok ((), st1))
    (hok : SegsOk T st1 segs) (hf : (render st1 segs).length + 2 ≤ fuel) :
    ∃ r, tex2txt T fuel (render st1 segs) o false thresh fs = .ok r ∧
      r.txt = (plain st1 0 segs).map (·.1) ∧
      r.pos = (plain st1 0 segs).map (·.2 + 1) ∧
      r.unknowns = [] ∧ r.diags = st1.diags ∧ r.parts = [] := by
  obtain ⟨hm, hT, hs⟩ := hok
  have C := segs_class T st1 hm hT hwf segs hs 0
  obtain ⟨toks, ht⟩ := tex2txt_skip_text T o fs thresh (render st1 segs) fuel st1 hdefs hextr hrepl
    hunkn hinit C.1 hf
  refine ⟨_, ht, ?_, ?_, rfl, rfl, rfl⟩
  · simp only [stripSkip, C.2]
  · simp only [stripSkip, C.2]

/-! ### no output position lies inside a region -/

theorem fold_plain (st : PState) : SegFold (fun p (s : Seg) => p + (s.render st).length) (plain st) :=
  ⟨fun _ => rfl, fun p s rest => by cases s <;> simp [plain, Seg.render]⟩

theorem fold_regions (st : PState) : SegFold (fun p (s : Seg) => p + (s.render st).length) (regions st) :=
  ⟨fun _ => rfl, fun p s rest => by cases s <;> simp [regions, Seg.render]⟩

theorem inSpan_plain (st : PState) : SegFold.InSpan id (fun s : Seg => (s.render st).length) (fun _ _ => True)
    (fun cp : Char × Nat => some (cp.2, 1)) (plain st) := by
  intro p s x i _ hx hi
  cases hi
  cases s with
  | txt t =>
    have := mem_posText (show x ∈ posText p t by simpa [plain] using hx)
    simp only [id, Seg.render]; omega
  | skip bt hd et ws => simp [plain] at hx
  | skipPar bt hd et => simp [plain] at hx

theorem inSpan_regions (st : PState) : SegFold.InSpan id (fun s : Seg => (s.render st).length)
    (fun _ _ => True) some (regions st) := by
  intro p s x i _ hx hi
  cases hi
  cases s <;> simp [regions] at hx <;> simp [hx]

/-- **no character of the reference lies inside a skipped region**: a segment is text or a region -/
theorem plain_pos_outside {st : PState} {cp : Char × Nat} {q : Nat × Nat} {segs : List Seg} {p : Nat}
    (h : cp ∈ plain st p segs) (hq : q ∈ regions st p segs) : cp.2 < q.1 ∨ q.1 + q.2 ≤ cp.2 := by
  have := SegFold.disjoint (fold_plain st) (fold_regions st) (pos := id) (fun _ _ => rfl) (inSpan_plain st)
    (inSpan_regions st) (fun p s x q i j _ hx hq _ _ => by cases s <;> simp [plain, regions] at hx hq)
    (x := cp) (q := q) rfl rfl (fun _ _ _ _ => trivial) h hq
  simpa [Nat.lt_iff_add_one_le] using this

end Skip
end Yalafi
