/-
  Proofs/Reports.lean — theorems about the position arithmetic of the reports (Model/Reports.lean):
  text report, JSON `priv`, XML / XML-b, the `--nums` file, `translate_numbers`.
  All statements hold for ALL texts, offsets, lengths and maps; hypotheses are stated where needed.

  Layers
  * Proofs/LineCol.lean: `lastLineStart` (`s.rfind('\n') + 1`), `starts_eq_lastLineStart`, and
    (a) `linecol_roundtrip` — (lin, col) is THE line and column of the offset (existence +
        uniqueness); holds for every natural offset, also behind the end of the text.
  * natural offsets: the Int model = `lineIdx` / `colIdx` / `textLineCol` / `xmlFields` of
    Model/Shell.lean (`textReport_nat`, `jsonPriv_nat`, `colIdx_eq`).
  * (b) `formats_agree`, `html_agrees`, `html_end_agrees` (through `Html.computeH_ok` and
        `mapMatch_inside`: what the two functions read from the map).
  * (c) byte columns of `--output xml-b`: `xmlb_from`, `xmlb_to` (through `utf8Size_bounds`).
  * (d) `InText`, `InFileLC`, `lineAt`; `located_in_file`, `report_in_file`, `xmlb_from_le`,
        `xmlb_to_le`; `mapMatch_end_in_file` (with a C01 map `1 ≤ offset + length` — the Python
        expression `end = beg + length - 1` is never negative), `mapped_report_in_file`;
        `mapMatch_zero_length`, `zero_length_report` and two `example`s: what a zero-length
        answer gives.
  * (e) `nums_lines`, `writeOutput_lines` (decimal digits via `Nat.toDigits` lemmas of core).
  * (f) `translateNumbers_eq` (one case distinction), `translate_numbers_some` (with `lineAt_col`,
        `textLineCol_of_start`), `translate_position`, `translate_numbers_none`.

  NOT covered: the texts of the reports other than the numbers (rule id, message, context line —
  C15's oracle checks them end to end); `str.encode()` of unpaired surrogates (no `Char`);
  `generate_html` beyond `computeH` (Proofs/Html.lean).

  Behaviour worth knowing (each is a theorem or an `example` below / in Properties/C14, C15):
  * an offset BEHIND the text still satisfies (a) (the column passes the end of the last line);
    the byte column of xml-b is then SMALLER than it would be for that character column (the
    slice is clamped) — only reachable with a map entry behind the text (no C01 map).
  * `translate_numbers` reports a map entry that points to a LINE BREAK of the LaTeX text as
    column 1 of the FOLLOWING line (`len(s) - (s.rfind('\n') + 1) = 0`, then `max(1, col)`), and it
    cannot be asked for the column of a line break of the plain text (`col > i` is rejected).
  * zero-length answer: mapped length `|cm[o-1]| - |cm[o]| + 1 ≤ 0`; negative when markup was
    removed in between — JSON prints a negative `length`, XML `tox < fromx` (or `toy < fromy`);
    both ends are characters of the file.
-/
import YalafiVerif.Model.Reports
import YalafiVerif.Proofs.Shell
import YalafiVerif.Proofs.Html
import YalafiVerif.Proofs.LineCol
namespace Yalafi
namespace Reports
open Html

/-! ### the model's Int arithmetic on natural offsets = `lineIdx` / `colIdx` of Model/Shell.lean -/

theorem pyEnd_nonneg (tex : Str) (o : Int) (h : 0 ≤ o) : pyEnd tex o = o.toNat :=
  pyEnd_of_nonneg tex o h

theorem pyEnd_nat (tex : Str) (o : Nat) : pyEnd tex (o : Int) = o :=
  pyEnd_of_nonneg tex o (Int.natCast_nonneg o)

theorem pyCountNl_nat (tex : Str) (o : Nat) : pyCountNl tex (o : Int) = lineIdx tex o := by
  simp [pyCountNl, lineIdx, pyEnd_nat]

theorem pyNl_nat (tex : Str) (o : Nat) : pyNl tex (o : Int) = lastLineStart (tex.take o) := by
  simp [pyNl, pyEnd_nat]

/-- on a natural offset the text report is `textLineCol` of Model/Shell.lean -/
theorem textReport_nat (tex : Str) (o : Nat) :
    textReport tex (o : Int) = (((textLineCol tex o).1 : Int), ((textLineCol tex o).2 : Int)) := by
  have := lastLineStart_take_le tex o
  simp only [textReport, textLineCol, pyCountNl_nat, pyNl_nat, colIdx_eq]
  refine Prod.ext ?_ ?_ <;> simp only <;> omega

/-- JSON / XML on natural offset and end = `xmlFields` of Model/Shell.lean -/
theorem jsonPriv_nat (tex : Str) (o l : Nat) (hl : 1 ≤ l) :
    jsonPriv tex (o : Int) (l : Int) =
      { fromy := ((xmlFields tex o l).1 : Nat), fromx := ((xmlFields tex o l).2.1 : Nat),
        toy := ((xmlFields tex o l).2.2.1 : Nat), tox := ((xmlFields tex o l).2.2.2 : Nat) } := by
  have h1 := lastLineStart_take_le tex o
  have h2 := lastLineStart_take_le tex (o + l - 1)
  have he : (o : Int) + (l : Int) - 1 = ((o + l - 1 : Nat) : Int) := by omega
  simp only [jsonPriv, xmlFields, he, pyCountNl_nat, pyNl_nat, colIdx_eq]
  congr 1 <;> omega

/-! ### (b) the formats describe the same place -/

theorem formats_agree (tex : Str) (offset length : Int) :
    let t := textReport tex offset
    let j := jsonPriv tex offset length
    j.fromy + 1 = t.1 ∧ j.fromx + 1 = t.2 ∧
    (j.toy + 1, j.tox) = textReport tex (offset + length - 1) ∧
    xmlReport tex false offset length = j ∧
    (xmlReport tex true offset length).fromy = j.fromy ∧ (xmlReport tex true offset length).toy = j.toy := by
  simp [textReport, jsonPriv, xmlReport]

/-- the HTML report (`Html.computeH`) and `map_match_position` + text / JSON / XML report under the
    same map: the highlight begins at the reported offset, its title names the reported line -/
theorem html_agrees (T : Tables) (tex : Str) (cm : List Int) (idx : Nat) (o l : Int) (h : HData) (r : Int × Int)
    (hh : computeH T tex cm idx o l = .ok h) (hm : mapMatch cm tex o (some (.int l)) = .ok r) :
    h.beg = r.1 ∧ (h.lin : Int) = (jsonPriv tex r.1 r.2).fromy ∧ (h.lin : Int) + 1 = (textReport tex r.1).1 := by
  obtain ⟨cb, ce, k⟩ := computeH_ok T tex cm idx o l h hh
  have hlo := k.lo
  have hhi := k.hi
  have hb : min (max 0 o) ((cm.length : Int) - 1) = o := by omega
  simp only [mapMatch, Json.asInt, hb] at hm
  rw [pyGet_nonneg _ _ hlo, k.atBeg] at hm
  split at hm
  · rename_i cb' ce' h1 h2
    cases h1
    simp only [SOut.ok.injEq] at hm
    subst hm
    refine ⟨k.beg, ?_, ?_⟩ <;> simp only [jsonPriv, textReport, pyCountNl, k.lin, k.beglin, k.beg]
  · cases hm

/-- `map_match_position` with begin and end inside the map: nothing is clamped -/
theorem mapMatch_inside (cm : List Int) (tex : Str) (o l cb ce : Int) (ho : 0 ≤ o) (hl : 0 ≤ o + l - 1)
    (hcb : cm[o.toNat]? = some cb) (hce : cm[(o + l - 1).toNat]? = some ce) :
    mapMatch cm tex o (some (.int l)) =
      .ok (iabs cb - 1, correctMarkMacroname (iabs cb - 1) (iabs ce - iabs cb + 1) tex) := by
  have h1 := (List.getElem?_eq_some_iff.mp hcb).1
  have h2 := (List.getElem?_eq_some_iff.mp hce).1
  have hb : min (max 0 o) ((cm.length : Int) - 1) = o := by omega
  have he : min (max 0 (o + l - 1)) ((cm.length : Int) - 1) = o + l - 1 := by omega
  simp only [mapMatch, Json.asInt, hb, he]
  rw [pyGet_nonneg _ _ ho, pyGet_nonneg _ _ hl, hcb, hce]

theorem correctMark_ne_one (off len : Int) (tex : Str) (h : len ≠ 1) : correctMarkMacroname off len tex = len := by
  unfold correctMarkMacroname
  split
  · rename_i hc
    simp only [Bool.and_eq_true, beq_iff_eq] at hc
    exact absurd hc.1.1.1 h
  · rfl

theorem correctMark_not_backslash (off : Int) (tex : Str) (h : 0 ≤ off → tex[off.toNat]? ≠ some '\\') :
    correctMarkMacroname off 1 tex = 1 := by
  unfold correctMarkMacroname
  split
  · rename_i hc
    simp only [Bool.and_eq_true, beq_iff_eq, decide_eq_true_eq] at hc
    exact absurd hc.2 (h hc.1.1.2)
  · rfl

/-- for a sure match of positive mapped length the highlight also ENDS where the JSON report says
    (`offset + length`, macro-name correction included) -/
theorem html_end_agrees (T : Tables) (tex : Str) (cm : List Int) (idx : Nat) (o l : Int) (h : HData) (r : Int × Int)
    (hh : computeH T tex cm idx o l = .ok h) (hm : mapMatch cm tex o (some (.int l)) = .ok r)
    (hsure : ∀ c ∈ cm, 0 ≤ c) (hl : 1 ≤ l) (hr : 1 ≤ r.2) :
    h.unsure = false ∧ (h.fin : Int) = r.1 + r.2 := by
  obtain ⟨cb, ce, k⟩ := computeH_ok T tex cm idx o l h hh
  have hlo := k.lo
  have hce := k.atEnd
  rw [(by omega : o + max 1 l - 1 = o + l - 1)] at hce
  rw [mapMatch_inside cm tex o l cb ce hlo (by omega) k.atBeg hce] at hm
  simp only [SOut.ok.injEq] at hm
  subst hm
  have hcb0 := hsure cb (List.mem_of_getElem? k.atBeg)
  have hce0 := hsure ce (List.mem_of_getElem? hce)
  have hu : h.unsure = false := by rw [k.unsure]; simp; omega
  have hbeg := k.beg
  simp only [iabs_pos cb hcb0, iabs_pos ce hce0] at hr hbeg ⊢
  refine ⟨hu, ?_⟩
  rcases k.fin with ⟨hA, c, hp, hf⟩ | ⟨_, hlt, hf⟩
  · -- one character: the mapped length is 1, up to the macro-name correction
    rw [hu, hbeg] at hf
    have h1 : ce = cb := by
      rw [hu, iabs_pos ce hce0, hbeg] at hA
      by_cases h1 : ce - cb + 1 = 1
      · omega
      · rw [correctMark_ne_one _ _ _ h1] at hr; simp at hA; omega
    subst h1
    rw [(by omega : ce - ce + 1 = 1), hf]
    simp only [hackEnd, beq_self_eq_true, Bool.true_and, Bool.false_and, Bool.false_eq_true, if_false]
    have hpos := correctMark_pos (ce - 1) tex
    split
    · omega
    · rename_i hcc
      rw [correctMark_not_backslash]
      · omega
      · intro h0 hx
        rw [hbeg] at hp
        simp only [pyIndex, h0, if_true, hx, Option.some.injEq] at hp
        subst hp
        simp at hcc
  · rw [iabs_pos ce hce0, hbeg] at hlt
    rw [iabs_pos ce hce0] at hf
    rw [correctMark_ne_one _ _ _ (by omega), hf]
    omega

/-! ### (c) byte columns of `--output xml-b` -/

theorem utf8Len_bounds (c : Char) : 1 ≤ utf8Len c ∧ utf8Len c ≤ 4 ∧ (utf8Len c = 1 ↔ c.toNat < 128) := by
  unfold utf8Len
  simp only
  split
  · omega
  · split
    · omega
    · split <;> omega

theorem utf8Size_cons (c : Char) (s : Str) : utf8Size (c :: s) = utf8Len c + utf8Size s := by
  simp [utf8Size]

theorem utf8Size_bounds (s : Str) :
    s.length ≤ utf8Size s ∧ utf8Size s ≤ 4 * s.length ∧ (utf8Size s = s.length ↔ ∀ c ∈ s, c.toNat < 128) := by
  induction s with
  | nil => simp [utf8Size]
  | cons c s ih =>
    have ⟨h1, h2, h3⟩ := utf8Len_bounds c
    obtain ⟨i1, i2, i3⟩ := ih
    rw [utf8Size_cons]
    refine ⟨by simp only [List.length_cons]; omega, by simp only [List.length_cons]; omega, ?_⟩
    simp only [List.length_cons, List.mem_cons, forall_eq_or_imp]
    constructor
    · intro h
      have ha : utf8Len c = 1 := by omega
      have hb : utf8Size s = s.length := by omega
      exact ⟨h3.mp ha, i3.mp hb⟩
    · intro ⟨ha, hb⟩
      have := h3.mpr ha
      have := i3.mpr hb
      omega

theorem utf8Size_append (a b : Str) : utf8Size (a ++ b) = utf8Size a + utf8Size b := by
  simp [utf8Size]

theorem sliceE_nat (tex : Str) (a b : Nat) : sliceE tex a (b : Int) = slice tex a b := by
  simp [sliceE, slice, pyEnd_nat]

theorem xmlb_fromx (tex : Str) (b : Nat) (len : Int) :
    (xmlReport tex true b len).fromx = utf8Size (slice tex (lastLineStart (tex.take b)) b) := by
  simp only [xmlReport, if_true, pyNl_nat, sliceE_nat]

theorem xmlb_tox (tex : Str) (b len : Int) (e : Nat) (he : b + len - 1 = e) :
    (xmlReport tex true b len).tox = utf8Size (slice tex (lastLineStart (tex.take e)) (e + 1)) := by
  have : ((e : Int) + 1) = ((e + 1 : Nat) : Int) := by omega
  simp only [xmlReport, if_true, he, pyNl_nat, this, sliceE_nat]

/-- byte column `x` and character column `y` of the same slice -/
theorem cols_bounds (s : Str) (x y : Int) (hx : x = utf8Size s) (hy : y = s.length) :
    x = utf8Size s ∧ y = s.length ∧ y ≤ x ∧ x ≤ 4 * y ∧ (x = y ↔ ∀ c ∈ s, c.toNat < 128) := by
  have ⟨h1, h2, h3⟩ := utf8Size_bounds s
  subst hx hy
  refine ⟨rfl, rfl, by omega, by omega, ?_⟩
  rw [← h3]; omega

/-- the byte columns are the UTF-8 lengths of the slices whose character lengths are the character
    columns: begin of the match at `b ≤ len(tex)` -/
theorem xmlb_from (tex : Str) (b : Nat) (len : Int) (hb : b ≤ tex.length) :
    let s := slice tex (lastLineStart (tex.take b)) b
    (xmlReport tex true b len).fromx = utf8Size s ∧
    (xmlReport tex false b len).fromx = s.length ∧
    (xmlReport tex false b len).fromx ≤ (xmlReport tex true b len).fromx ∧
    (xmlReport tex true b len).fromx ≤ 4 * (xmlReport tex false b len).fromx ∧
    ((xmlReport tex true b len).fromx = (xmlReport tex false b len).fromx ↔ ∀ c ∈ s, c.toNat < 128) := by
  intro s
  have hle := lastLineStart_take_le tex b
  have hlen : s.length = b - lastLineStart (tex.take b) := by
    simp only [s, slice, List.length_drop, List.length_take]; omega
  refine cols_bounds s _ _ (xmlb_fromx tex b len) ?_
  simp only [xmlReport, pyNl_nat, hlen]; simp; omega

/-- the same for the end of the match: last character at `e < len(tex)` -/
theorem xmlb_to (tex : Str) (b len : Int) (e : Nat) (he : b + len - 1 = e) (hlt : e < tex.length) :
    let s := slice tex (lastLineStart (tex.take e)) (e + 1)
    (xmlReport tex true b len).tox = utf8Size s ∧
    (xmlReport tex false b len).tox = s.length ∧
    (xmlReport tex false b len).tox ≤ (xmlReport tex true b len).tox ∧
    (xmlReport tex true b len).tox ≤ 4 * (xmlReport tex false b len).tox ∧
    ((xmlReport tex true b len).tox = (xmlReport tex false b len).tox ↔ ∀ c ∈ s, c.toNat < 128) := by
  intro s
  have hle := lastLineStart_take_le tex e
  have hlen : s.length = e + 1 - lastLineStart (tex.take e) := by
    simp only [s, slice, List.length_drop, List.length_take]; omega
  refine cols_bounds s _ _ (xmlb_tox tex b len e he) ?_
  simp only [xmlReport, he, pyNl_nat, hlen]; simp; omega

/-! ### (d) every reported location lies inside the file -/

/-- the line (without its line break) that begins at `n0` -/
def lineAt (s : Str) (n0 : Nat) : Str := (s.drop n0).takeWhile (· != '\n')

/-- a 1-based (line, column) names a place of the file: an existing line, and a column on it or
    directly behind its last character (the place of its line break) -/
def InFileLC (tex : Str) (lin col : Int) : Prop :=
  1 ≤ lin ∧ lin ≤ (getLineStarts tex).length ∧ 1 ≤ col ∧
  col - 1 ≤ (lineAt tex ((getLineStarts tex).getD (lin - 1).toNat 0)).length

theorem slice_prefix_line (tex : Str) (a b : Nat) (hab : a ≤ b) (h : '\n' ∉ slice tex a b) :
    lineAt tex a = slice tex a b ++ lineAt tex b := by
  unfold lineAt
  rw [← slice_append_drop tex a b hab, List.takeWhile_append_of_pos]
  intro c hc
  simp only [bne_iff_ne, ne_eq]
  intro hcn; subst hcn; exact h hc

/-- line count and line start at offset `b` from those at `b - 1` and the character in between -/
theorem step_facts (tex : Str) (b : Nat) (hb : 1 ≤ b) (hlt : b ≤ tex.length) :
    ∃ c, tex[b - 1]? = some c ∧
      (tex.take b).count '\n' = (tex.take (b - 1)).count '\n' + (if c = '\n' then 1 else 0) ∧
      lastLineStart (tex.take b) = if c = '\n' then b else lastLineStart (tex.take (b - 1)) := by
  obtain ⟨k, rfl⟩ : ∃ k, b = k + 1 := ⟨b - 1, by omega⟩
  have hc := List.getElem?_eq_getElem (Nat.lt_of_succ_le hlt)
  refine ⟨tex[k], hc, ?_⟩
  simp only [Nat.add_sub_cancel]
  rw [List.take_add_one, hc]
  simp only [Option.toList_some]
  rw [lastLineStart_snoc, List.count_append]
  have : (tex.take k).length = k := by simp only [List.length_take]; omega
  rw [this]
  refine ⟨?_, rfl⟩
  by_cases h : tex[k] = '\n' <;> simp [h]

/-- the place the text report names for an offset inside the text is a place of the file, and it
    is the place of that very character -/
theorem located_in_file (tex : Str) (p : Nat) (hp : p < tex.length) :
    let lc := textLineCol tex p
    InFileLC tex lc.1 lc.2 ∧
    (EndsNl tex → lc.1 ≤ tex.count '\n') ∧
    tex[(getLineStarts tex).getD (lc.1 - 1) 0 + (lc.2 - 1)]? = tex[p]? ∧
    ((lc.2 - 1 = (lineAt tex ((getLineStarts tex).getD (lc.1 - 1) 0)).length) ↔ tex[p]? = some '\n') := by
  intro lc
  have ⟨h1, h2, h3, h4, h5, _⟩ := linecol_roundtrip tex p
  have hlc : textLineCol tex p = lc := rfl
  simp only [hlc] at h1 h2 h3 h4 h5

  have hr := slice_prefix_line tex _ p (by omega) h5
  have hsl : (slice tex ((getLineStarts tex).getD (lc.1 - 1) 0) p).length = lc.2 - 1 := by
    simp only [slice, List.length_drop, List.length_take]; omega
  refine ⟨⟨by omega, by omega, by omega, ?_⟩, ?_, by rw [h4], ?_⟩
  · have : (lc.1 : Int) - 1 = ((lc.1 - 1 : Nat) : Int) := by omega
    rw [this, Int.toNat_natCast, hr, List.length_append, hsl]; omega
  · rintro ⟨t, rfl⟩
    simp only [lc, textLineCol, lineIdx]
    have : (List.take p (t ++ ['\n'])).count '\n' ≤ t.count '\n' := by
      have : List.take p (t ++ ['\n']) = List.take p t := by
        rw [List.take_append_of_le_length]; simp at hp; omega
      rw [this]; exact count_take_le t p
    simp only [List.count_append, List.count_singleton_self]; omega
  · rw [hr, List.length_append, hsl]
    have hd : tex.drop p = tex[p] :: tex.drop (p + 1) := List.drop_eq_getElem_cons hp
    rw [List.getElem?_eq_getElem hp]
    unfold lineAt
    rw [hd, List.takeWhile_cons]
    by_cases hc : tex[p] = '\n'
    · simp [hc]
    · have : (tex[p] != '\n') = true := by simpa using hc
      simp only [this, if_true, List.length_cons, Option.some.injEq, hc, iff_false]
      omega

def InText (tex : Str) (p : Int) : Prop := 0 ≤ p ∧ p < tex.length

theorem textReport_in_file (tex : Str) (p : Int) (h : InText tex p) :
    InFileLC tex (textReport tex p).1 (textReport tex p).2 ∧
    (EndsNl tex → (textReport tex p).1 ≤ tex.count '\n') := by
  obtain ⟨h0, h1⟩ := h
  have hp : p = (p.toNat : Int) := by omega
  rw [hp, textReport_nat]
  have ⟨a, b, _, _⟩ := located_in_file tex p.toNat (by omega)
  exact ⟨a, fun hn => by have := b hn; simp only; omega⟩

/-- byte column of the begin: at most the UTF-8 length of its line -/
theorem xmlb_from_le (tex : Str) (b : Nat) (len : Int) :
    0 ≤ (xmlReport tex true b len).fromx ∧
    (xmlReport tex true b len).fromx ≤ utf8Size (lineAt tex ((getLineStarts tex).getD (lineIdx tex b) 0)) := by
  have hle := lastLineStart_take_le tex b
  have hs : (getLineStarts tex).getD (lineIdx tex b) 0 = lastLineStart (tex.take b) := starts_eq_lastLineStart tex b
  rw [xmlb_fromx, hs, slice_prefix_line tex _ b hle (lastLineStart_no_nl (tex.take b)), utf8Size_append]
  omega

/-- byte column of the end: at most the UTF-8 length of its line plus one (the line break) -/
theorem xmlb_to_le (tex : Str) (b len : Int) (e : Nat) (he : b + len - 1 = e) (hlt : e < tex.length) :
    0 ≤ (xmlReport tex true b len).tox ∧
    (xmlReport tex true b len).tox ≤ utf8Size (lineAt tex ((getLineStarts tex).getD (lineIdx tex e) 0)) + 1 := by
  have hle := lastLineStart_take_le tex e
  have hs : (getLineStarts tex).getD (lineIdx tex e) 0 = lastLineStart (tex.take e) := starts_eq_lastLineStart tex e
  have hsp : slice tex (lastLineStart (tex.take e)) (e + 1) = slice tex (lastLineStart (tex.take e)) e ++ [tex[e]] := by
    rw [← slice_append tex _ e (e + 1) hle (by omega), slice_one tex e tex[e] (List.getElem?_eq_getElem hlt)]
  rw [xmlb_tox tex b len e he, hs, hsp, utf8Size_append, slice_prefix_line tex _ e hle (lastLineStart_no_nl (tex.take e)), utf8Size_append]
  have hd : tex.drop e = tex[e] :: tex.drop (e + 1) := List.drop_eq_getElem_cons hlt
  by_cases hc : tex[e] = '\n'
  · rw [hc]; simp [utf8Size, utf8Len]; omega
  · have : (tex[e] != '\n') = true := by simpa using hc
    have h2 : lineAt tex e = tex[e] :: lineAt tex (e + 1) := by
      unfold lineAt; rw [hd, List.takeWhile_cons]; simp [this]
    rw [h2, utf8Size_cons]
    simp only [utf8Size, List.map_cons, List.map_nil, List.sum_cons, List.sum_nil]
    omega

/-- **(d)** a match whose first and last character are characters of the text is reported, in
    every format, at places of the file -/
theorem report_in_file (tex : Str) (offset length : Int) (h0 : InText tex offset) (he : InText tex (offset + length - 1)) :
    let L := locate tex offset length
    let starts := getLineStarts tex
    InFileLC tex L.lin L.col ∧
    InFileLC tex (L.json.fromy + 1) (L.json.fromx + 1) ∧ InFileLC tex (L.json.toy + 1) L.json.tox ∧
    L.xml = L.json ∧ L.xmlb.fromy = L.json.fromy ∧ L.xmlb.toy = L.json.toy ∧
    0 ≤ L.xmlb.fromx ∧ L.xmlb.fromx ≤ utf8Size (lineAt tex (starts.getD L.json.fromy.toNat 0)) ∧
    0 ≤ L.xmlb.tox ∧ L.xmlb.tox ≤ utf8Size (lineAt tex (starts.getD L.json.toy.toNat 0)) + 1 ∧
    (EndsNl tex → L.lin ≤ tex.count '\n' ∧ L.json.fromy + 1 ≤ tex.count '\n' ∧ L.json.toy + 1 ≤ tex.count '\n') := by
  intro L starts
  have ⟨a1, a2⟩ := textReport_in_file tex offset h0
  have ⟨b1, b2⟩ := textReport_in_file tex (offset + length - 1) he
  have ⟨f1, f2, f3, f4, f5, f6⟩ := formats_agree tex offset length

  obtain ⟨n, hn⟩ : ∃ n : Nat, offset = n := ⟨offset.toNat, by have := h0.1; omega⟩
  obtain ⟨m, hm⟩ : ∃ m : Nat, offset + length - 1 = m := ⟨(offset + length - 1).toNat, by have := he.1; omega⟩
  have g1 := xmlb_from_le tex n length
  have g2 := xmlb_to_le tex offset length m hm (by have := he.2; omega)
  rw [← hn] at g1
  have hy1 : L.json.fromy.toNat = lineIdx tex n := by
    simp only [L, locate, jsonPriv]; rw [hn, pyCountNl_nat]; simp
  have hy2 : L.json.toy.toNat = lineIdx tex m := by
    simp only [L, locate, jsonPriv]; rw [hm, pyCountNl_nat]; simp
  simp only [starts, hy1, hy2]
  refine ⟨a1, ?_, ?_, f4, f5, f6, g1.1, g1.2, g2.1, g2.2, ?_⟩
  · simp only [L, locate]; rw [f1, f2]; exact a1
  · simp only [L, locate]
    have : (jsonPriv tex offset length).tox = (textReport tex (offset + length - 1)).2 := by rw [← f3]
    have h2 : (jsonPriv tex offset length).toy + 1 = (textReport tex (offset + length - 1)).1 := by rw [← f3]
    rw [this, h2]; exact b1
  · intro hn
    have h2 : (jsonPriv tex offset length).toy + 1 = (textReport tex (offset + length - 1)).1 := by rw [← f3]
    simp only [L, locate]
    rw [f1, h2]
    exact ⟨a2 hn, a2 hn, b2 hn⟩

theorem correctMark_ge (off len : Int) (tex : Str) : len ≤ correctMarkMacroname off len tex ∨ 1 ≤ correctMarkMacroname off len tex := by
  unfold correctMarkMacroname
  split
  · split
    · rename_i n hn
      right; have := macroNameLen_pos _ _ hn; omega
    · left; omega
  · left; omega

/-- with a C01 map also the LAST character of the mapped match is a character of the text, whatever
    offset and length the proofreader sent (zero and negative lengths included) -/
theorem mapMatch_end_in_file (cm : List Int) (latex : Str) (offset len : Int) (r : Int × Int)
    (hcm : ∀ p ∈ cm, 1 ≤ iabs p ∧ iabs p ≤ latex.length)
    (h : mapMatch cm latex offset (some (.int len)) = .ok r) :
    InText latex r.1 ∧ InText latex (r.1 + r.2 - 1) := by
  have ⟨a, b, c⟩ := mapMatch_in_file cm latex offset len r hcm h
  refine ⟨⟨a, b⟩, ?_, by omega⟩
  obtain ⟨cb, hcb, ce, hce, rfl⟩ := mapMatch_ok cm latex offset len r h
  have h1 := hcm cb hcb
  have h2 := hcm ce hce
  simp only
  rcases correctMark_ge (iabs cb - 1) (iabs ce - iabs cb + 1) latex with g | g <;> omega

/-- **(d), composed**: whatever the proofreader answers (any offset, any integer length), with a
    C01 map every location of every report lies inside the file -/
theorem mapped_report_in_file (cm : List Int) (tex : Str) (offset len : Int) (L : Located)
    (hcm : ∀ p ∈ cm, 1 ≤ iabs p ∧ iabs p ≤ tex.length)
    (h : reportAll cm tex offset (some (.int len)) = .ok L) :
    InText tex L.offset ∧ InText tex (L.offset + L.length - 1) ∧ L = locate tex L.offset L.length := by
  unfold reportAll at h
  split at h
  · rename_i off l hm
    simp only [SOut.ok.injEq] at h
    subst h
    have := mapMatch_end_in_file cm tex offset len _ hcm hm
    exact ⟨this.1, this.2, rfl⟩
  · cases h
  · cases h

/-- a zero-length match at plain offset `o ≥ 1`: the mapped length is `|cm[o-1]| - |cm[o]| + 1`:
    `0` if the two characters are neighbours in the LaTeX text, NEGATIVE if markup was removed
    between them — the reported end then lies in front of the reported begin -/
theorem mapMatch_zero_length (cm : List Int) (tex : Str) (o : Nat) (cp cb : Int) (ho : 1 ≤ o)
    (h1 : cm[o - 1]? = some cp) (h2 : cm[o]? = some cb) :
    mapMatch cm tex o (some (.int 0)) =
      .ok (iabs cb - 1, correctMarkMacroname (iabs cb - 1) (iabs cp - iabs cb + 1) tex) := by
  apply mapMatch_inside cm tex o 0 cb cp (by omega) (by omega)
  · rw [Int.toNat_natCast]; exact h2
  · rw [(by omega : ((o : Int) + 0 - 1).toNat = o - 1)]; exact h1

/-- where a zero-length match (mapped length 0, offset `b ≥ 1`) "ends": at the character in front
    of it — on the same line (`tox = fromx`), or, for a match at the begin of a line, behind the
    last character of the line above -/
theorem zero_length_report (tex : Str) (b : Nat) (hb : 1 ≤ b) (hlt : b ≤ tex.length) :
    let j := jsonPriv tex b 0
    (tex[b - 1]? ≠ some '\n' → j.toy = j.fromy ∧ j.tox = j.fromx) ∧
    (tex[b - 1]? = some '\n' → j.toy = j.fromy - 1 ∧ j.fromx = 0 ∧
       j.tox = (lineAt tex ((getLineStarts tex).getD j.toy.toNat 0)).length + 1) := by
  intro j
  obtain ⟨c, hc, s1, s2⟩ := step_facts tex b hb hlt
  have he : (b : Int) + 0 - 1 = ((b - 1 : Nat) : Int) := by omega
  have hle := lastLineStart_take_le tex (b - 1)
  have hj : j = { fromy := ((tex.take b).count '\n' : Nat), fromx := (b : Int) - (lastLineStart (tex.take b) : Nat),
                  toy := ((tex.take (b - 1)).count '\n' : Nat), tox := ((b - 1 : Nat) : Int) - (lastLineStart (tex.take (b - 1)) : Nat) + 1 } := by
    simp only [j, jsonPriv, he, pyCountNl_nat, pyNl_nat, lineIdx]
  rw [hj, hc]
  simp only [Option.some.injEq, ne_eq]
  constructor
  · intro hne
    simp only [hne, if_false, Nat.add_zero] at s1 s2
    rw [s1, s2]; omega
  · intro heq
    simp only [heq, if_true] at s1 s2
    rw [s1, s2]
    refine ⟨by omega, by omega, ?_⟩
    have ⟨_, _, _, h4⟩ := located_in_file tex (b - 1) (by omega)
    rw [hc, heq] at h4
    have h5 := h4.mpr rfl
    simp only [textLineCol, Nat.add_sub_cancel, colIdx_eq, lineIdx] at h5
    simp only [Int.toNat_natCast]
    rw [← h5]; omega

/-- a zero-length match at offset 0 of a text of several lines would be reported OUTSIDE the file
    (Python's negative end index: line = last line, column negative) … -/
example : jsonPriv "a\nb\n".toList 0 0 = { fromy := 0, fromx := 0, toy := 1, tox := -2 } := by decide

/-- … but `map_match_position` never delivers it: at plain offset 0 the length becomes 1 -/
example : mapMatch [1, 2, 3, 4] "a\nb\n".toList 0 (some (.int 0)) = .ok (0, 1) := by decide

/-! ### (e) the `--nums` file -/

theorem natToStr_eq (n : Nat) : natToStr n = Nat.toDigits 10 n := by
  simp [natToStr]

theorem natToStr_ne_nil (n : Nat) : natToStr n ≠ [] := by
  rw [natToStr_eq]; exact Nat.toDigits_ne_nil

theorem natToStr_inj (a b : Nat) (h : natToStr a = natToStr b) : a = b := by
  rw [natToStr_eq, natToStr_eq] at h
  have := congrArg (fun l => Nat.ofDigitChars 10 l 0) h
  simpa [Nat.ofDigitChars_ten_toDigits] using this

theorem numLine_no_nl (n : Int) : '\n' ∉ numLine n ∧ numLine n ≠ [] := by
  unfold numLine
  refine ⟨?_, by simp [natToStr_ne_nil]⟩
  intro h
  rcases List.mem_append.mp h with h | h
  · have := natToStr_digits _ _ h
    revert this; decide
  · split at h <;> simp at h

theorem numLine_inj (a b : Int) (h : numLine a = numLine b) : a = b := by
  unfold numLine at h
  have plus_not : ∀ n, '+' ∉ natToStr n := by
    intro n hm
    have := natToStr_digits _ _ hm
    revert this; decide
  by_cases ha : a < 0 <;> by_cases hb : b < 0
  · simp only [ha, hb, if_true] at h
    have := natToStr_inj _ _ (List.append_cancel_right h)
    omega
  · simp only [ha, hb, if_true, if_false, List.append_nil] at h
    exact absurd (h ▸ List.mem_append_right _ (List.mem_singleton.mpr rfl)) (plus_not _)
  · simp only [ha, hb, if_true, if_false, List.append_nil] at h
    exact absurd (h ▸ List.mem_append_right _ (List.mem_singleton.mpr rfl)) (plus_not _)
  · simp only [ha, hb, if_false, List.append_nil] at h
    have := natToStr_inj _ _ h
    omega

theorem numsFile_count (nums : List Int) : (numsFile nums).count '\n' = nums.length := by
  unfold numsFile writeNums
  induction nums with
  | nil => simp
  | cons n ns ih =>
    simp only [List.map_cons, List.flatMap_cons, List.count_append, ih, List.length_cons]
    have := List.count_eq_zero.mpr (numLine_no_nl n).1
    simp [this]; omega

/-- **(e)** the `--nums` file: one line per number; every line is the decimal `|n|`, followed by
    `+` iff `n < 0`; a line holds no line break and is not empty (so the file has exactly
    `len(nums)` line breaks, each ending one line); different numbers give different lines -/
theorem nums_lines (nums : List Int) :
    (writeNums nums).length = nums.length ∧
    (∀ i : Nat, (writeNums nums)[i]? = (nums[i]?).map (fun (n : Int) => natToStr n.natAbs ++ (if n < 0 then ['+'] else []))) ∧
    (∀ l ∈ writeNums nums, '\n' ∉ l ∧ l ≠ []) ∧
    numsFile nums = (writeNums nums).flatMap (· ++ ['\n']) ∧
    (numsFile nums).count '\n' = nums.length ∧
    (∀ a b, numLine a = numLine b → a = b) := by
  refine ⟨by simp [writeNums], ?_, ?_, rfl, numsFile_count nums, numLine_inj⟩
  · intro i; simp only [writeNums, List.getElem?_map]; rfl
  · intro l hl
    simp only [writeNums, List.mem_map] at hl
    obtain ⟨n, _, rfl⟩ := hl
    exact numLine_no_nl n

/-- `write_output`: the text goes to the one file unchanged; if text and numbers have equal length
    (C01), the `--nums` file has exactly one line per character written -/
theorem writeOutput_lines (text : Str × List Int) (h : (textGetTxt text).length = (textGetNum text).length) :
    (writeOutput text).1 = textGetTxt text ∧
    (writeOutput text).2 = numsFile (textGetNum text) ∧
    (writeOutput text).2.count '\n' = (writeOutput text).1.length := by
  refine ⟨rfl, rfl, ?_⟩
  simp only [writeOutput, numsFile_count]; omega

/-! ### (f) `translate_numbers` -/

theorem idxOf_takeWhile (s : Str) :
    (match s.idxOf? '\n' with | some i => i | none => s.length) = (s.takeWhile (· != '\n')).length := by
  induction s with
  | nil => simp
  | cons c s ih =>
    rw [List.idxOf?_cons, List.takeWhile_cons]
    by_cases hc : c = '\n'
    · simp [hc]
    · have h1 : (c == '\n') = false := by simpa using hc
      have h2 : (c != '\n') = true := by simpa using hc
      simp only [h1, h2, Bool.false_eq_true, if_false, if_true, List.length_cons]
      rw [← ih]
      cases List.idxOf? '\n' s <;> simp

/-- the test "line is not that long" of `translate_numbers` -/
theorem tooLong_eq (s : Str) (col : Int) :
    (match s.idxOf? '\n' with
      | some i => decide (col > (i : Int))
      | none => decide (col > (s.length : Int))) = decide (col > ((s.takeWhile (· != '\n')).length : Int)) := by
  rw [← idxOf_takeWhile]
  cases List.idxOf? '\n' s <;> rfl

theorem translateNumbers_eq (tex plain : Str) (cm : List Int) (starts : List Nat) (lin col : Int) :
    translateNumbers tex plain cm starts lin col =
      if lin < 1 ∨ col < 1 ∨ lin > (starts.length : Int) then none else
      match starts[(lin - 1).toNat]? with
      | none => none
      | some n0 =>
        if col > ((lineAt plain n0).length : Int) then none else
        match cm[n0 + (col - 1).toNat]? with
        | none => none
        | some c =>
          if c.natAbs > tex.length then none else
          some { lin := lineIdx tex c.natAbs + 1, col := max 1 (colIdx tex c.natAbs), flag := decide (c < 0) } := by
  unfold translateNumbers
  by_cases h1 : lin < 1 ∨ col < 1
  · have : (decide (lin < 1) || decide (col < 1)) = true := by simpa using h1
    rw [if_pos this, if_pos (by rcases h1 with h | h <;> simp [h])]
  · have : ¬ ((decide (lin < 1) || decide (col < 1)) = true) := by simpa using h1
    rw [if_neg this]
    by_cases h2 : lin > (starts.length : Int)
    · rw [if_pos h2, if_pos (by simp [h2])]
    · rw [if_neg h2, if_neg (by simp only [not_or] at h1 ⊢; exact ⟨h1.1, h1.2, h2⟩)]
      cases hs : starts[(lin - 1).toNat]? with
      | none => rfl
      | some n0 =>
        have hfin : ∀ (b : Bool), (b = true ↔ col > ((lineAt plain n0).length : Int)) →
            (if b = true then none
             else if n0 + (col - 1).toNat ≥ cm.length then none
             else match cm[n0 + (col - 1).toNat]? with
               | none => none
               | some c =>
                 if c.natAbs > tex.length then none else
                 (some { lin := (tex.take c.natAbs).count '\n' + 1,
                         col := max 1 ((tex.take c.natAbs).length - lastLineStart (tex.take c.natAbs)),
                         flag := decide (c < 0) } : Option TNum)) =
            if col > ((lineAt plain n0).length : Int) then none else
            match cm[n0 + (col - 1).toNat]? with
              | none => none
              | some c =>
                if c.natAbs > tex.length then none else
                some { lin := lineIdx tex c.natAbs + 1, col := max 1 (colIdx tex c.natAbs), flag := decide (c < 0) } := by
          intro b hb
          by_cases hcol : col > ((lineAt plain n0).length : Int)
          · rw [if_pos (hb.mpr hcol), if_pos hcol]
          · rw [if_neg (fun h => hcol (hb.mp h)), if_neg hcol]
            split
            · rename_i hge
              rw [List.getElem?_eq_none (by omega)]
            · cases hc : cm[n0 + (col - 1).toNat]? with
              | none => rfl
              | some c =>
                simp only [lineIdx, colIdx_eq, List.length_take]
                split
                · rfl
                · rename_i hle
                  have : min c.natAbs tex.length = c.natAbs := by omega
                  rw [this]
        exact hfin _ ((congrArg (· = true) (tooLong_eq (plain.drop n0) col)).to_iff.trans decide_eq_true_iff)

theorem takeWhile_take_all {α} (p : α → Bool) (l : List α) (k : Nat) (hk : k ≤ (l.takeWhile p).length) :
    ∀ x ∈ l.take k, p x = true := by
  induction l generalizing k with
  | nil => simp
  | cons a l ih =>
    cases k with
    | zero => simp
    | succ k =>
      rw [List.takeWhile_cons] at hk
      split at hk
      · rename_i ha
        simp only [List.length_cons] at hk
        intro x hx
        simp only [List.take_succ_cons, List.mem_cons] at hx
        rcases hx with rfl | hx
        · exact ha
        · exact ih k (by omega) x hx
      · simp at hk

theorem lineAt_col (plain : Str) (n0 k : Nat) (hk : k + 1 ≤ (lineAt plain n0).length) :
    n0 + k < plain.length ∧ '\n' ∉ slice plain n0 (n0 + k + 1) := by
  have hall := takeWhile_take_all (· != '\n') (plain.drop n0) _ hk
  have hlen : (lineAt plain n0).length ≤ plain.length - n0 := by
    have := length_takeWhile_le' (· != '\n') (plain.drop n0)
    simpa [lineAt] using this
  refine ⟨by omega, fun hm => ?_⟩
  have : slice plain n0 (n0 + k + 1) = (plain.drop n0).take (k + 1) := by
    unfold slice
    rw [List.take_drop]
    congr 2
  rw [this] at hm
  have := hall _ hm
  simp at this

theorem textLineCol_of_start (plain : Str) (l k n0 : Nat) (hs : (getLineStarts plain)[l]? = some n0)
    (hno : '\n' ∉ slice plain n0 (n0 + k)) : textLineCol plain (n0 + k) = (l + 1, k + 1) := by
  have ⟨_, _, _, _, _, huniq⟩ := linecol_roundtrip plain (n0 + k)
  have hl := (List.getElem?_eq_some_iff.mp hs).1
  have hn0 : (getLineStarts plain).getD l 0 = n0 := by rw [List.getD_eq_getElem?_getD, hs]; rfl
  refine (huniq (l + 1) (k + 1) (by omega) (by omega) (by omega) ?_ ?_).symm
  · simp only [Nat.add_sub_cancel, hn0]
  · simp only [Nat.add_sub_cancel, hn0]; exact hno

/-- the place in the LaTeX text that `translate_numbers` reports for a map entry `n = |charmap[p]|`
    (1-based position of a character): the line and column of that character `n - 1` in the sense
    of `linecol_roundtrip` — except for a LINE BREAK of the LaTeX text, which is reported as the
    first column of the following line, and for the entry `0`, reported as `(1, 1)` -/
theorem translate_position (tex : Str) (n : Nat) (hn : n ≤ tex.length) :
    (n = 0 → (lineIdx tex n + 1, max 1 (colIdx tex n)) = (1, 1)) ∧
    (1 ≤ n → tex[n - 1]? ≠ some '\n' → (lineIdx tex n + 1, max 1 (colIdx tex n)) = textLineCol tex (n - 1)) ∧
    (1 ≤ n → tex[n - 1]? = some '\n' →
      (lineIdx tex n + 1, max 1 (colIdx tex n)) = ((textLineCol tex (n - 1)).1 + 1, 1)) := by
  refine ⟨by rintro rfl; simp [lineIdx, colIdx_eq], ?_⟩
  suffices key : 1 ≤ n → (tex[n - 1]? ≠ some '\n' →
        (lineIdx tex n + 1, max 1 (colIdx tex n)) = textLineCol tex (n - 1)) ∧
      (tex[n - 1]? = some '\n' →
        (lineIdx tex n + 1, max 1 (colIdx tex n)) = ((textLineCol tex (n - 1)).1 + 1, 1)) from
    ⟨fun h => (key h).1, fun h => (key h).2⟩
  intro h1
  obtain ⟨c, hc, s1, s2⟩ := step_facts tex n h1 hn
  rw [hc]
  simp only [Option.some.injEq, ne_eq]
  constructor
  · intro hne
    simp only [hne, if_false, Nat.add_zero] at s1 s2
    have hle := lastLineStart_take_le tex (n - 1)
    simp only [textLineCol, lineIdx, colIdx_eq, s1, s2]
    refine Prod.ext rfl ?_
    simp only; omega
  · intro heq
    simp only [heq, if_true] at s1 s2
    simp only [textLineCol, lineIdx, colIdx_eq, s1, s2]
    refine Prod.ext rfl ?_
    simp only; omega

/-- **(f)** whenever `translate_numbers` answers, the plain position it started from is
    `p = starts[lin-1] + col-1`, a character of the plain text on that very line (with
    `starts = get_line_starts(plain)`: THE character at line `lin`, column `col`), `p` lies
    inside the map, and the answer is computed from the entry `charmap[p]` alone: flag = the entry
    is negative, line / column = those of `translate_position` for `|charmap[p]|` -/
theorem translate_numbers_some (tex plain : Str) (cm : List Int) (starts : List Nat) (lin col : Int) (r : TNum)
    (h : translateNumbers tex plain cm starts lin col = some r) :
    1 ≤ lin ∧ lin ≤ starts.length ∧ 1 ≤ col ∧
    ∃ n0 c, starts[(lin - 1).toNat]? = some n0 ∧
      n0 + (col - 1).toNat < plain.length ∧
      '\n' ∉ slice plain n0 (n0 + (col - 1).toNat + 1) ∧
      (starts = getLineStarts plain → textLineCol plain (n0 + (col - 1).toNat) = (lin.toNat, col.toNat)) ∧
      cm[n0 + (col - 1).toNat]? = some c ∧ c.natAbs ≤ tex.length ∧ r.flag = decide (c < 0) ∧
      r.lin = lineIdx tex c.natAbs + 1 ∧ r.col = max 1 (colIdx tex c.natAbs) := by
  rw [translateNumbers_eq] at h
  split at h
  · cases h
  · rename_i h1
    simp only [not_or, Int.not_lt, gt_iff_lt] at h1
    obtain ⟨a1, a2, a3⟩ := h1
    refine ⟨a1, a3, a2, ?_⟩
    split at h
    · cases h
    · rename_i n0 hs
      split at h
      · cases h
      · rename_i hcol
        split at h
        · cases h
        · rename_i c hc
          split at h
          · cases h
          · rename_i hle
            simp only [Option.some.injEq] at h
            subst h
            have ⟨hin, hno⟩ := lineAt_col plain n0 (col - 1).toNat (by omega)
            refine ⟨n0, c, hs, hin, hno, ?_, hc, by omega, rfl, rfl, rfl⟩
            rintro rfl
            rw [textLineCol_of_start plain _ _ n0 hs (fun hm => hno ?_)]
            · refine Prod.ext ?_ ?_ <;> simp only <;> omega
            · rw [← slice_append plain n0 (n0 + (col - 1).toNat) (n0 + (col - 1).toNat + 1) (by omega) (by omega)]
              exact List.mem_append_left _ hm

/-- `translate_numbers` returns `None` exactly in the documented cases: line or column below 1;
    line number behind the last line; the line is not that long; the position is not covered by
    the map; the map entry points behind the LaTeX text -/
theorem translate_numbers_none (tex plain : Str) (cm : List Int) (starts : List Nat) (lin col : Int) :
    translateNumbers tex plain cm starts lin col = none ↔
      lin < 1 ∨ col < 1 ∨ lin > (starts.length : Int) ∨
      ∃ n0, starts[(lin - 1).toNat]? = some n0 ∧
        (col > ((lineAt plain n0).length : Int) ∨ n0 + (col - 1).toNat ≥ cm.length ∨
         ∃ c, cm[n0 + (col - 1).toNat]? = some c ∧ c.natAbs > tex.length) := by
  rw [translateNumbers_eq]
  by_cases h1 : lin < 1 ∨ col < 1 ∨ lin > (starts.length : Int)
  · rw [if_pos h1]
    simp only [true_iff]
    rcases h1 with h | h | h
    · exact Or.inl h
    · exact Or.inr (Or.inl h)
    · exact Or.inr (Or.inr (Or.inl h))
  · rw [if_neg h1]
    simp only [not_or, Int.not_lt, gt_iff_lt] at h1
    have hlt : (lin - 1).toNat < starts.length := by omega
    have hs := List.getElem?_eq_getElem hlt
    rw [hs]
    simp only
    constructor
    · intro h
      refine Or.inr (Or.inr (Or.inr ⟨_, rfl, ?_⟩))
      split at h
      · left; assumption
      · right
        cases hc : cm[starts[(lin - 1).toNat] + (col - 1).toNat]? with
        | none =>
          left
          exact List.getElem?_eq_none_iff.mp hc
        | some c =>
          right
          rw [hc] at h
          simp only at h
          split at h
          · exact ⟨c, rfl, by assumption⟩
          · cases h
    · intro h
      rcases h with h | h | h | ⟨n0, hn0, h⟩
      · omega
      · omega
      · omega
      · simp only [Option.some.injEq] at hn0
        subst hn0
        rcases h with h | h | ⟨c, hc, h⟩
        · rw [if_pos h]
        · split
          · rfl
          · rw [List.getElem?_eq_none h]
        · split
          · rfl
          · rw [hc]; simp only; rw [if_pos h]

end Reports
end Yalafi
