/-
  Proofs/PlainDefTexExp.lean — the expander level of Proofs/PlainDefTex.lean: token buffers that consist of
  plain tokens, definitions `\newcommand{\name}[n]{body}`, definitions `\def\name#1…#n{body}` and uses
  `\name{a1}…{am}`.

    `paramToks`, `defArgs_params`, `defArgPosMap_params`, `defMapRepl_id`, `parseDefMacro_params`
                                        `parse_def_macro` on `\name#1…#n{body}` stores the SAME macro
                                        `userMacro \name n body` as `\newcommand{\name}[n]{body}`
    `parseDefMacro_braced`              the same for any body that `arg_buffer` collects as a group
    `seqRun_ddef_braced`, `seqRun_ddef` the `\def` branch of `expandSequence`: one iteration
    `Piece`, `PiecesOk`, `outP`, `finalSt`, `cost`, `ArityOk`, `seqRun_macro`   the loop (the use side and
                                        the `\newcommand` side are the lemmas of PlainMacroArgsExp.lean)
-/
import YalafiVerif.Proofs.PlainMacroArgs
namespace Yalafi
namespace PlainDefTex

open M
open PlainMacro (lbr rbr lbr_brace rbr_brace NoBrace ncName NcOk NameOk PassTok_congr)
open PlainMacroArgs (argTok digitChar userMacro RefsOk GoodBody StOk defSt useSt useN useBody Group groupsFlat
  groupsOut GroupGood DigitOk txtTok seqRun_def seqRun_use)

/-! ### `parse_def_macro` -/

/-- the name `def` (without backslash) -/
def defName : Str := "def".toList

/-- the tokens of the parameter text `#i #(i+1) … #(i+m-1)` that starts at position `q` -/
def paramToks : Nat → Nat → Nat → List Tok
  | _, _, 0 => []
  | q, i, m + 1 => argTok q i (digitChar i) :: paramToks (q + 2) (i + 1) m

theorem paramToks_length : ∀ (m q i : Nat), (paramToks q i m).length = m
  | 0, _, _ => rfl
  | m + 1, q, i => by simp [paramToks, paramToks_length m]

theorem defArgs_params (R : Buf) (q7 : Nat) : ∀ (m q i fuel : Nat) (acc : List Tok), m < fuel →
    defArgs fuel (paramToks q i m ++ lbr q7 :: R) acc = some (acc.reverse ++ paramToks q i m, lbr q7 :: R)
  | 0, q, i, fuel, acc, hf => by
    obtain ⟨f, rfl⟩ : ∃ f, fuel = f + 1 := ⟨fuel - 1, by omega⟩
    have ht : txtIs (lbr q7) "{" = true := by simp [txtIs, lbr]
    simp only [paramToks, List.nil_append, defArgs,
      Call.skipSpace_cons (rfl : isSpaceTok (lbr q7) = false), ht, if_true, List.append_nil]
  | m + 1, q, i, fuel, acc, hf => by
    obtain ⟨f, rfl⟩ : ∃ f, fuel = f + 1 := ⟨fuel - 1, by omega⟩
    have hs : isSpaceTok (argTok q i (digitChar i)) = false := rfl
    have ht : txtIs (argTok q i (digitChar i)) "{" = false := by simp [txtIs, argTok]
    simp only [paramToks, List.cons_append, defArgs, Call.skipSpace_cons hs, ht,
      Bool.false_eq_true, if_false]
    rw [defArgs_params R q7 m (q + 2) (i + 1) f _ (by omega)]
    simp

theorem defArgPosMap_params : ∀ (m q i : Nat) (acc : List Nat),
    defArgPosMap (paramToks q i m) i i acc = .ok (acc ++ List.range' i m)
  | 0, _, _, acc => by simp [paramToks, defArgPosMap]
  | m + 1, q, i, acc => by
    have hr : argRef (argTok q i (digitChar i)) = some i := rfl
    simp only [paramToks, defArgPosMap, hr, bne_self_eq_false, Bool.false_eq_true, if_false]
    rw [defArgPosMap_params m (q + 2) (i + 1) (acc ++ [i])]
    simp [List.range'_succ]

theorem kind_of_argRef {t : Tok} {a : Nat} (h : argRef t = some a) : t.kind = .arg a := by
  unfold argRef at h
  split at h
  · rename_i n hk; cases h; exact hk
  · cases h

theorem defMapRepl_id (n : Nat) : ∀ (b acc : List Tok), RefsOk n b →
    defMapRepl (List.range' 1 n) b acc = .ok (acc.reverse ++ b)
  | [], acc, _ => by simp [defMapRepl]
  | t :: ts, acc, h => by
    cases hk : argRef t with
    | none =>
      simp only [defMapRepl, hk]
      rw [defMapRepl_id n ts (t :: acc) h.tail]
      simp
    | some a =>
      obtain ⟨a1, a2⟩ := h t (List.mem_cons_self ..) a hk
      have hc : (decide (a < 1) || decide (a > (List.range' 1 n).length)) = false := by
        simp; omega
      have hg : (List.range' 1 n).getD (a - 1) 0 = a := by
        rw [List.getD_eq_getElem?_getD, List.getElem?_range' (by omega)]
        simp; omega
      have ht : ({ t with kind := .arg a } : Tok) = t := by
        have := kind_of_argRef hk
        cases t; simp_all
      simp only [defMapRepl, hk, hc, Bool.false_eq_true, if_false, hg, ht]
      rw [defMapRepl_id n ts (t :: acc) h.tail]
      simp

/-- **`parse_def_macro`** on `\name#1…#n{body}`: the macro `userMacro \name n body` is stored (the same
    record `\newcommand{\name}[n]{body}` stores), an Action token at the position of `\def` is
    returned, the buffer continues behind the closing brace.  `hab`: the body is collected as a braced
    argument. -/
theorem parseDefMacro_braced (T : PTables) (q2 : Nat) (name : Str) (n q q7 q8 : Nat) (body : List Tok)
    (rest : Buf) (start : Nat) (st : PState)
    (hab : argBuffer T.toTables (lbr q7 :: (body ++ rbr q8 :: rest)) q7 true st = .ok ((body, rest), st))
    (hr : RefsOk n body) :
    parseDefMacro T (cwTok q2 name :: (paramToks q 1 n ++ lbr q7 :: (body ++ rbr q8 :: rest))) start st
      = .ok (([mkAction start], rest),
             { st with macros := setMacro st.macros (userMacro ('\\' :: name) n body) }) := by
  have hs : isSpaceTok (cwTok q2 name) = false := rfl
  have hk : ((cwTok q2 name).kind != Kind.xmacro) = false := by simp [cwTok]
  have hda := defArgs_params (body ++ rbr q8 :: rest) q7 n q 1
    ((paramToks q 1 n ++ lbr q7 :: (body ++ rbr q8 :: rest)).length + 1) []
    (by simp [paramToks_length]; omega)
  unfold parseDefMacro
  simp only [Call.skipSpace_cons hs, hk, Bool.false_eq_true, if_false, hda, List.reverse_nil,
    List.nil_append, List.head?_cons]
  refine (M.bind_ok _ _ _ _ _ hab).trans ?_
  simp only [defArgPosMap_params n q 1 [], List.nil_append, defMapRepl_id n body [] hr, List.reverse_nil,
    paramToks_length]
  rfl

theorem parseDefMacro_params (T : PTables) (q2 : Nat) (name : Str) (n q q7 q8 : Nat) (body : List Tok)
    (rest : Buf) (start : Nat) (st : PState) (hb : ∀ t ∈ body, NoBrace t) (hbne : body ≠ [])
    (hr : RefsOk n body) :
    parseDefMacro T (cwTok q2 name :: (paramToks q 1 n ++ lbr q7 :: (body ++ rbr q8 :: rest))) start st
      = .ok (([mkAction start], rest),
             { st with macros := setMacro st.macros (userMacro ('\\' :: name) n body) }) :=
  parseDefMacro_braced T q2 name n q q7 q8 body rest start st
    (by rw [Call.argBuffer_braced T.toTables (lbr_brace q7) (rbr_brace q8) body rest q7 st hb, Call.argOr_of_ne hbne])
    hr

/-- **the `\def` step of `expandSequence`**: ONE iteration (the Action token goes to the output
    directly); the macro is stored, nothing but the Action token is emitted -/
theorem seqRun_ddef_braced (T : PTables) (p q2 q q7 q8 : Nat) (name : Str) (n : Nat)
    (body : List Tok) (rest : Buf) (envStop : Option Str) (out : List Tok) (st : PState)
    (hab : argBuffer T.toTables (lbr q7 :: (body ++ rbr q8 :: rest)) q7 true st = .ok ((body, rest), st))
    (hr : RefsOk n body) :
    SeqRun T envStop 0 1
      (cwTok p defName :: cwTok q2 name :: (paramToks q 1 n ++ lbr q7 :: (body ++ rbr q8 :: rest))) out st
      rest (out ++ [mkAction p]) (defSt st name n body) :=
  .one fun _ => (loop_def rfl (by simp [txtIs, cwTok, defName])).trans
    (M.bind_ok _ _ _ _ _ (parseDefMacro_braced T q2 name n q q7 q8 body rest p st hab hr))

theorem seqRun_ddef (T : PTables) (p q2 q q7 q8 : Nat) (name : Str) (n : Nat)
    (body : List Tok) (rest : Buf) (envStop : Option Str) (out : List Tok) (st1 st : PState)
    (hb : GoodBody T st1 n body) :
    SeqRun T envStop 0 1
      (cwTok p defName :: cwTok q2 name :: (paramToks q 1 n ++ lbr q7 :: (body ++ rbr q8 :: rest))) out st
      rest (out ++ [mkAction p]) (defSt st name n body) :=
  seqRun_ddef_braced T p q2 q q7 q8 name n body rest envStop out st
    (by rw [Call.argBuffer_braced T.toTables (lbr_brace q7) (rbr_brace q8) body rest q7 st hb.noBrace,
      Call.argOr_of_ne hb.1]) hb.refs

/-! ### the token buffers -/

/-- the pieces of a token buffer: a token that is copied, a definition
    `\newcommand { \name } [ n ] { body }`, a definition `\def \name #1 … #n { body }`, a use
    `\name { a1 } … { am }` -/
inductive Piece where
  | tok (t : Tok)
  | defn (p q1 q2 q3 q4 q5 q6 q7 q8 : Nat) (name : Str) (n : Nat) (body : List Tok)
  | ddef (p q2 q q7 q8 : Nat) (name : Str) (n : Nat) (body : List Tok)
  | use (p : Nat) (name : Str) (gs : List Group)

def Piece.toks : Piece → List Tok
  | .tok t => [t]
  | .defn p q1 q2 q3 q4 q5 q6 q7 q8 name n body =>
    cwTok p ncName :: lbr q1 :: cwTok q2 name :: rbr q3 :: txtTok q4 '[' :: txtTok q5 (digitChar n) ::
      txtTok q6 ']' :: lbr q7 :: (body ++ [rbr q8])
  | .ddef p q2 q q7 q8 name n body =>
    cwTok p defName :: cwTok q2 name :: (paramToks q 1 n ++ lbr q7 :: (body ++ [rbr q8]))
  | .use p name gs => cwTok p name :: groupsFlat gs

def flat : List Piece → List Tok
  | [] => []
  | p :: ps => p.toks ++ flat ps

def PiecesOk (T : PTables) (st1 : PState) : List Piece → Prop
  | [] => True
  | .tok t :: rest => PlainTok t ∧ PassTok T st1 t (flat rest) ∧ PiecesOk T st1 rest
  | .defn _ _ _ _ _ _ _ _ _ name n body :: rest =>
    NameOk st1 name ∧ DigitOk T st1 n ∧ GoodBody T st1 n body ∧ PiecesOk T st1 rest
  | .ddef _ _ _ _ _ name n body :: rest => NameOk st1 name ∧ GoodBody T st1 n body ∧ PiecesOk T st1 rest
  | .use _ name gs :: rest =>
    NameOk st1 name ∧ gs ≠ [] ∧ (∀ g ∈ gs, GroupGood T st1 g) ∧ PiecesOk T st1 rest

/-- what `expandSequence` emits for the pieces before the blank-line removal -/
def outP : PState → List Piece → List Tok
  | _, [] => []
  | st, .tok t :: rest => t :: outP st rest
  | st, .defn p _ _ _ _ _ _ _ _ name n body :: rest => mkAction p :: outP (defSt st name n body) rest
  | st, .ddef p _ _ _ _ name n body :: rest => mkAction p :: outP (defSt st name n body) rest
  | st, .use p name gs :: rest =>
    mkAction p :: (useBody st p name gs ++ (groupsOut (gs.drop (useN st name)) ++ outP (useSt st name) rest))

def finalSt : PState → List Piece → PState
  | st, [] => st
  | st, .tok _ :: rest => finalSt st rest
  | st, .defn _ _ _ _ _ _ _ _ _ name n body :: rest => finalSt (defSt st name n body) rest
  | st, .ddef _ _ _ _ _ name n body :: rest => finalSt (defSt st name n body) rest
  | st, .use _ name _ :: rest => finalSt (useSt st name) rest

/-- iterations of `expandSequence` -/
def cost : PState → List Piece → Nat
  | _, [] => 0
  | st, .tok _ :: rest => 1 + cost st rest
  | st, .defn _ _ _ _ _ _ _ _ _ name n body :: rest => 2 + cost (defSt st name n body) rest
  | st, .ddef _ _ _ _ _ name n body :: rest => 1 + cost (defSt st name n body) rest
  | st, .use p name gs :: rest =>
    2 + (useBody st p name gs).length + (groupsOut (gs.drop (useN st name))).length
      + cost (useSt st name) rest

/-- every use has at least as many groups as the macro in force has parameters -/
def ArityOk : PState → List Piece → Prop
  | _, [] => True
  | st, .tok _ :: rest => ArityOk st rest
  | st, .defn _ _ _ _ _ _ _ _ _ name n body :: rest => ArityOk (defSt st name n body) rest
  | st, .ddef _ _ _ _ _ name n body :: rest => ArityOk (defSt st name n body) rest
  | st, .use _ name gs :: rest => useN st name ≤ gs.length ∧ ArityOk (useSt st name) rest

/-- **the loop on a buffer of plain tokens, definitions of both kinds and uses.**  The output is
    `outP`, the state `finalSt`; `cost` iterations, and five units of fuel behind them (the handler of a
    last `\newcommand` nests six calls deep). -/
theorem seqRun_macro (T : PTables) (envStop : Option Str) (st1 : PState) (hnc : NcOk st1)
    (ha : noEmptyActive T st1 = true) :
    ∀ (ps : List Piece) (out : List Tok) (st : PState), PiecesOk T st1 ps → ArityOk st ps → StOk T st1 st →
      SeqRun T envStop 5 (cost st ps) (flat ps) out st [] (out ++ outP st ps) (finalSt st ps)
  | [], out, st, _, _, _ => by
    rw [outP, List.append_nil]; exact SeqRun.refl.mono (Nat.zero_le _) (Nat.le_refl _)
  | .tok t :: ps, out, st, hok, har, hst =>
    (seqRun_plainTok hok.1 (hst.ext.passTok hok.2.1)).app
      (seqRun_macro T envStop st1 hnc ha ps _ st hok.2.2 har hst) (Nat.zero_le _)
  | .defn p q1 q2 q3 q4 q5 q6 q7 q8 name n body :: ps, out, st, ⟨hn, hd, hb, hrest⟩, har, hst => by
    simp only [flat, Piece.toks, List.cons_append, List.append_assoc, List.nil_append]
    exact (seqRun_def T p q1 q2 q3 q4 q5 q6 q7 q8 name n body (flat ps) envStop out st1 st hst hnc hn hd hb ha).app
      (seqRun_macro T envStop st1 hnc ha ps _ _ hrest har (hst.defSt name n body hn hb)) (Nat.le_add_right ..)
  | .ddef p q2 q q7 q8 name n body :: ps, out, st, ⟨hn, hb, hrest⟩, har, hst => by
    simp only [flat, Piece.toks, List.cons_append, List.append_assoc, List.nil_append]
    exact (seqRun_ddef T p q2 q q7 q8 name n body (flat ps) envStop out st1 st hb).app
      (seqRun_macro T envStop st1 hnc ha ps _ _ hrest har (hst.defSt name n body hn hb)) (Nat.zero_le _)
  | .use p name gs :: ps, out, st, ⟨hn, hne, hg, hrest⟩, ⟨har1, har2⟩, hst => by
    simp only [flat, Piece.toks, List.cons_append]
    rw [show outP st (.use p name gs :: ps) = (mkAction p :: (useBody st p name gs
      ++ groupsOut (gs.drop (useN st name)))) ++ outP (useSt st name) ps by
        simp only [outP, List.cons_append, List.append_assoc]]
    exact (seqRun_use T p name gs (flat ps) envStop out st1 st hst hn ha hne hg har1).app
      (seqRun_macro T envStop st1 hnc ha ps _ _ hrest har2 (hst.useSt name)) (Nat.zero_le _)

end PlainDefTex
end Yalafi
