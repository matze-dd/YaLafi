/-
  Proofs/SeqEq.lean — the loop `expandSequence`, branch by branch, and runs of the loop.

  `expandSequence` is one chain of tests, on the kind of the token and on its text in turn:
    `seqKindA`  the kinds the chain dispatches on (`\begin \end \item`, macros, verbatim, equation
                environments, accents); the tests `$ \(` stand in front of the equation environments and
                `$$ \[` in front of the accents, hence the negative hypotheses of `loop_mathBegin`, `loop_accent`
    `seqKey`    the texts the chain dispatches on (`$ \( $$ \[ \\ { }`); the scanner gives them the kind
                `special` or `text`
    `seqKindB`  the kinds tested behind all of these (special, language, comment)
  One lemma per branch (`loop_copy`, `loop_comment`, `loop_special`, `loop_brace`, `loop_macro`, …) says what
  one iteration does with a token of that branch.

  `SeqRun T envStop d c buf out st buf' out' st'`: with `c + d` units of fuel or more the loop gets from
  `(buf, out, st)` to `(buf', out', st')` and uses up at most `c` of them (`d`: the depth of the calls inside;
  `c` is an upper bound, not a count of iterations).  `SeqRun.trans` composes, `SeqRun.finish` ends the loop at
  the end of the buffer; `SeqRun.mono` raises both bounds, `SeqRun.weaken` trades depth for cost.
-/
import YalafiVerif.Proofs.Top
namespace Yalafi

open M

def seqKindA : Kind → Bool
  | .xbegin | .xend | .item | .xmacro | .verb _ | .mathBegin _ | .accent => true
  | _ => false

def seqKindB : Kind → Bool
  | .special | .lang .. | .comment => true
  | _ => false

def seqKey (t : Tok) : Bool :=
  txtIs t "$" || txtIs t "\\(" || txtIs t "$$" || txtIs t "\\[" || txtIs t "\\\\" || txtIs t "{" ||
    txtIs t "}"

theorem seqKey_false {t : Tok} (h : seqKey t = false) :
    txtIs t "$" = false ∧ txtIs t "\\(" = false ∧ txtIs t "$$" = false ∧ txtIs t "\\[" = false ∧
    txtIs t "\\\\" = false ∧ txtIs t "{" = false ∧ txtIs t "}" = false := by
  simpa only [seqKey, Bool.or_eq_false_iff, and_assoc] using h

theorem seqKey_nil {t : Tok} (h : t.txt = []) : seqKey t = false := by
  simp [seqKey, txtIs, h]

theorem seqKey_head {t : Tok} {c : Char} {tl : Str} (h : t.txt = c :: tl) (h1 : c ≠ '$')
    (h2 : c ≠ '\\') (h3 : c ≠ '{') (h4 : c ≠ '}') : seqKey t = false := by
  simp [seqKey, txtIs, h, h1, h2, h3, h4]

variable {T : PTables} {fuel : Nat} {tok : Tok} {rest : Buf} {envStop : Option Str} {out : List Tok}
  {st : PState}

theorem loop_nil (T : PTables) (fuel : Nat) (envStop : Option Str) (out : List Tok) (st : PState) :
    expandSequence T (fuel + 1) [] envStop out st
      = match removeLines out with
        | some r => .ok ((r, []), st)
        | none => .outOfFuel := by
  rw [expandSequence.eq_2]
  cases removeLines out <;> rfl

/-- the last three branches: an active character goes through `expandShortMacro`, a comment is dropped,
    anything else is copied -/
theorem loop_other (hk : seqKindA tok.kind = false) (hx : seqKey tok = false)
    (hb : seqKindB tok.kind = false ∨ tok.kind = .comment) :
    expandSequence T (fuel + 1) (tok :: rest) envStop out st
      = (if (activeChars T st).contains tok.txt then
          expandSequence T fuel (expandShortMacro T st tok rest).2 envStop
            (out ++ [(expandShortMacro T st tok rest).1])
        else if tok.kind == .comment then expandSequence T fuel rest envStop out
        else expandSequence T fuel rest envStop (out ++ [tok])) st := by
  obtain ⟨n1, n2, n3, n4, n5, n6, n7⟩ := seqKey_false hx
  rw [expandSequence.eq_3]
  show M.bind' M.get _ st = _
  simp only [M.bind', M.get]
  cases hkk : tok.kind <;>
    simp only [hkk, seqKindA, seqKindB, reduceCtorEq, or_self] at hk hb <;>
    simp only [n1, n2, n3, n4, n5, n6, n7, Bool.or_self, Bool.false_eq_true, if_false,
      reduceCtorEq, beq_iff_eq] <;> rfl

theorem loop_copy (hk : seqKindA tok.kind = false) (hx : seqKey tok = false)
    (hb : seqKindB tok.kind = false)
    (ha : (activeChars T st).contains tok.txt = false ∨ expandShortMacro T st tok rest = (tok, rest)) :
    expandSequence T (fuel + 1) (tok :: rest) envStop out st
      = expandSequence T fuel rest envStop (out ++ [tok]) st := by
  have hc : tok.kind ≠ .comment := fun h => by rw [h] at hb; cases hb
  rw [loop_other hk hx (Or.inl hb)]
  cases hcon : (activeChars T st).contains tok.txt with
  | false => simp only [Bool.false_eq_true, if_false, beq_iff_eq, hc]
  | true =>
    rcases ha with ha | ha
    · rw [hcon] at ha; cases ha
    · simp only [if_true, ha]

theorem loop_comment (hk : tok.kind = .comment) (hx : seqKey tok = false)
    (ha : (activeChars T st).contains tok.txt = false) :
    expandSequence T (fuel + 1) (tok :: rest) envStop out st
      = expandSequence T fuel rest envStop out st := by
  rw [loop_other (by rw [hk]; rfl) hx (Or.inr hk), ha, hk]
  rfl

theorem loop_brace (hk : tok.kind = .special ∨ tok.kind = .text) (ht : tok.txt = ['{'] ∨ tok.txt = ['}']) :
    expandSequence T (fuel + 1) (tok :: rest) envStop out st
      = expandSequence T fuel rest envStop (out ++ [mkAction tok.pos]) st := by
  rw [expandSequence.eq_3]
  show M.bind' M.get _ st = _
  simp only [M.bind', M.get]
  rcases hk with hk | hk <;> rcases ht with ht | ht <;> simp [hk, txtIs, ht]

theorem loop_special (hk : tok.kind = .special) (hx : seqKey tok = false) {v : Str}
    (hv : T.toTables.specialVal tok.txt = some v) :
    expandSequence T (fuel + 1) (tok :: rest) envStop out st
      = expandSequence T fuel rest envStop
          (out ++ [mkAction tok.pos, { kind := .text, pos := tok.pos, txt := v, fix := tok.fix }]) st := by
  obtain ⟨n1, n2, n3, n4, n5, n6, n7⟩ := seqKey_false hx
  rw [expandSequence.eq_3]
  show M.bind' M.get _ st = _
  simp only [M.bind', M.get]
  simp only [hk, n1, n2, n3, n4, n5, n6, n7, hv, Bool.or_self, Bool.false_eq_true, if_false,
    reduceCtorEq, beq_iff_eq, if_true, beq_self_eq_true]

theorem loop_verb (hk : tok.kind = .verb false) :
    expandSequence T (fuel + 1) (tok :: rest) envStop out st
      = expandSequence T fuel rest envStop
          (out ++ [mkAction tok.pos, { kind := .text, pos := tok.pos, txt := tok.txt, fix := tok.fix }])
          st := by
  rw [expandSequence.eq_3]
  show M.bind' M.get _ st = _
  simp only [M.bind', M.get]
  simp only [hk, Bool.false_eq_true, if_false, reduceCtorEq, beq_iff_eq, if_true, Kind.verb.injEq]

theorem loop_verbEnv (hk : tok.kind = .verb true) :
    expandSequence T (fuel + 1) (tok :: rest) envStop out st
      = expandSequence T fuel (expandVerbEnvToken tok ++ rest) envStop out st := by
  rw [expandSequence.eq_3]
  show M.bind' M.get _ st = _
  simp only [M.bind', M.get]
  simp only [hk, Bool.false_eq_true, if_false, reduceCtorEq, beq_iff_eq, if_true, beq_self_eq_true]

theorem loop_macro (hk : tok.kind = .xmacro) (hd : txtIs tok "\\def" = false) :
    expandSequence T (fuel + 1) (tok :: rest) envStop out st
      = (expandMacro T fuel rest tok false >>= fun r =>
          expandSequence T fuel (r.1 ++ r.2) envStop out) st := by
  rw [expandSequence.eq_3]
  show M.bind' M.get _ st = _
  simp only [M.bind', M.get]
  simp only [hk, hd, Bool.false_eq_true, if_false, if_true, reduceCtorEq, beq_iff_eq, beq_self_eq_true]

theorem loop_macro_ok (hk : tok.kind = .xmacro) (hd : txtIs tok "\\def" = false) {o : List Tok} {b : Buf}
    {st' : PState} (h : expandMacro T fuel rest tok false st = .ok ((o, b), st')) :
    expandSequence T (fuel + 1) (tok :: rest) envStop out st
      = expandSequence T fuel (o ++ b) envStop out st' := by
  rw [loop_macro hk hd]
  exact M.bind_ok _ _ _ _ _ h

theorem loop_def (hk : tok.kind = .xmacro) (hd : txtIs tok "\\def" = true) :
    expandSequence T (fuel + 1) (tok :: rest) envStop out st
      = (parseDefMacro T rest tok.pos >>= fun r =>
          expandSequence T fuel r.2 envStop (out ++ r.1)) st := by
  rw [expandSequence.eq_3]
  show M.bind' M.get _ st = _
  simp only [M.bind', M.get]
  simp only [hk, hd, Bool.false_eq_true, if_false, if_true, reduceCtorEq, beq_iff_eq, beq_self_eq_true]

theorem loop_begin (hk : tok.kind = .xbegin) :
    expandSequence T (fuel + 1) (tok :: rest) envStop out st
      = (beginEnvironment T fuel rest tok false >>= fun r =>
          expandSequence T fuel (r.1 ++ r.2) envStop out) st := by
  rw [expandSequence.eq_3]
  show M.bind' M.get _ st = _
  simp only [M.bind', M.get]
  simp only [hk, if_true, beq_self_eq_true]

theorem loop_end (hk : tok.kind = .xend) :
    expandSequence T (fuel + 1) (tok :: rest) envStop out st
      = (endEnvironment T fuel rest tok envStop >>= fun r =>
          if r.1.2 then pure (r.1.1, r.2)
          else expandSequence T fuel (r.1.1 ++ r.2) envStop out) st := by
  rw [expandSequence.eq_3]
  show M.bind' M.get _ st = _
  simp only [M.bind', M.get]
  simp only [hk, Bool.false_eq_true, if_false, if_true, reduceCtorEq, beq_iff_eq, beq_self_eq_true]

theorem loop_item (hk : tok.kind = .item) :
    expandSequence T (fuel + 1) (tok :: rest) envStop out st
      = (expandItem T fuel rest tok out >>= fun r =>
          expandSequence T fuel (r.1 ++ r.2) envStop out) st := by
  rw [expandSequence.eq_3]
  show M.bind' M.get _ st = _
  simp only [M.bind', M.get]
  simp only [hk, Bool.false_eq_true, if_false, if_true, reduceCtorEq, beq_iff_eq, beq_self_eq_true]

theorem loop_inline (hk : tok.kind = .special ∨ tok.kind = .text) (ht : (txtIs tok "$" || txtIs tok "\\(") = true) :
    expandSequence T (fuel + 1) (tok :: rest) envStop out st
      = (expandInlineMath T fuel rest tok >>= fun r =>
          expandSequence T fuel r.2 envStop (out ++ r.1)) st := by
  rw [expandSequence.eq_3]
  show M.bind' M.get _ st = _
  simp only [M.bind', M.get]
  rcases hk with hk | hk <;>
    simp only [hk, ht, if_true, Bool.false_eq_true, if_false, reduceCtorEq, beq_iff_eq] <;> rfl

theorem loop_mathBegin {rem : Bool} (hk : tok.kind = .mathBegin rem) (h1 : txtIs tok "$" = false)
    (h2 : txtIs tok "\\(" = false) :
    expandSequence T (fuel + 1) (tok :: rest) envStop out st
      = (expandDisplayMath T fuel rest tok tok.txt rem >>= fun r =>
          expandSequence T fuel r.2 envStop (out ++ r.1)) st := by
  rw [expandSequence.eq_3]
  show M.bind' M.get _ st = _
  simp only [M.bind', M.get]
  simp only [hk, h1, h2, Bool.or_self, if_true, Bool.false_eq_true, if_false, reduceCtorEq, beq_iff_eq]

theorem loop_display (hk : tok.kind = .special ∨ tok.kind = .text) (ht : tok.txt = "$$".toList ∨ tok.txt = "\\[".toList)
    {env : MacroDef} (henv : lookupEnv st T.mathDefaultEnv = some env) (hequ : env.isEqu = true) :
    expandSequence T (fuel + 1) (tok :: rest) envStop out st
      = (expandDisplayMath T fuel rest tok env.name env.remove >>= fun r =>
          expandSequence T fuel r.2 envStop (out ++ r.1)) st := by
  have h1 : txtIs tok "$" = false := by rcases ht with h | h <;> simp [txtIs, h]
  have h2 : txtIs tok "\\(" = false := by rcases ht with h | h <;> simp [txtIs, h]
  have h3 : (txtIs tok "$$" || txtIs tok "\\[") = true := by rcases ht with h | h <;> simp [txtIs, h]
  rw [expandSequence.eq_3]
  show M.bind' M.get _ st = _
  simp only [M.bind', M.get]
  rcases hk with hk | hk <;>
    simp only [hk, h1, h2, h3, henv, hequ, Bool.or_self, if_true, Bool.false_eq_true, if_false,
      reduceCtorEq, beq_iff_eq, Bool.not_true] <;> rfl

theorem loop_accent (hk : tok.kind = .accent) (n1 : txtIs tok "$" = false) (n2 : txtIs tok "\\(" = false)
    (n3 : txtIs tok "$$" = false) (n4 : txtIs tok "\\[" = false) :
    expandSequence T (fuel + 1) (tok :: rest) envStop out st
      = (expandAccent T fuel rest tok >>= fun r =>
          expandSequence T fuel r.2 envStop (out ++ r.1)) st := by
  rw [expandSequence.eq_3]
  show M.bind' M.get _ st = _
  simp only [M.bind', M.get]
  simp only [hk, n1, n2, n3, n4, Bool.or_self, if_true, Bool.false_eq_true, if_false, reduceCtorEq,
    beq_iff_eq, beq_self_eq_true]

theorem loop_newline (hk : tok.kind = .special ∨ tok.kind = .text) (ht : tok.txt = "\\\\".toList) :
    expandSequence T (fuel + 1) (tok :: rest) envStop out st
      = (parseNewlineOption T rest true >>= fun b =>
          expandSequence T fuel b envStop (out ++ [mkAction tok.pos, mkTok .space tok.pos [' ']])) st := by
  rw [expandSequence.eq_3]
  show M.bind' M.get _ st = _
  simp only [M.bind', M.get]
  rcases hk with hk | hk <;> simp [hk, txtIs, ht] <;> rfl

theorem loop_lang_single {l : Str} {back hard brk : Bool} (hk : tok.kind = .lang l back hard brk)
    (hx : seqKey tok = false) (hm : st.multiLanguage = false) :
    expandSequence T (fuel + 1) (tok :: rest) envStop out st
      = expandSequence T fuel rest envStop out st := by
  obtain ⟨n1, n2, n3, n4, n5, n6, n7⟩ := seqKey_false hx
  rw [expandSequence.eq_3]
  show M.bind' M.get _ st = _
  simp only [M.bind', M.get]
  simp only [hk, n1, n2, n3, n4, n5, n6, n7, hm, Bool.or_self, Bool.false_eq_true, if_false,
    reduceCtorEq, beq_iff_eq, if_true]

theorem loop_lang_multi {l : Str} {back hard brk : Bool} (hk : tok.kind = .lang l back hard brk)
    (hx : seqKey tok = false) (hm : st.multiLanguage = true) :
    expandSequence T (fuel + 1) (tok :: rest) envStop out st
      = expandSequence T fuel rest envStop (out ++ [tok]) (changeParserLang T st l back hard) := by
  obtain ⟨n1, n2, n3, n4, n5, n6, n7⟩ := seqKey_false hx
  rw [expandSequence.eq_3]
  show M.bind' M.get _ st = _
  simp only [M.bind', M.get]
  simp only [hk, n1, n2, n3, n4, n5, n6, n7, hm, Bool.or_self, Bool.false_eq_true, if_false,
    reduceCtorEq, beq_iff_eq, if_true]
  rfl

/-- with `c + d` units of fuel or more the loop gets from `(buf, out, st)` to `(buf', out', st')` and
    uses up at most `c` of them; `d` is the depth of the calls inside the iterations, which the fuel of
    later iterations pays for (`trans`) -/
def SeqRun (T : PTables) (envStop : Option Str) (d c : Nat) (buf : Buf) (out : List Tok) (st : PState)
    (buf' : Buf) (out' : List Tok) (st' : PState) : Prop :=
  ∀ fuel, c + d ≤ fuel → ∃ fuel', fuel ≤ fuel' + c ∧
    expandSequence T fuel buf envStop out st = expandSequence T fuel' buf' envStop out' st'

namespace SeqRun

variable {d d1 c c1 c2 : Nat} {buf buf' buf'' : Buf} {out' out'' o1 o2 : List Tok} {st' st'' : PState}

/-- from a step lemma: with `m` units or more behind them, `k` units become `j` -/
theorem of_eq {m k j : Nat} (h : ∀ fuel, m ≤ fuel → expandSequence T (fuel + k) buf envStop out st
      = expandSequence T (fuel + j) buf' envStop out' st') (hc : k ≤ c + j) (hm : m + k ≤ c + d) :
    SeqRun T envStop d c buf out st buf' out' st' := by
  intro fuel hf
  obtain ⟨g, rfl⟩ : ∃ g, fuel = g + k := ⟨fuel - k, by omega⟩
  exact ⟨g + j, by omega, h g (by omega)⟩

theorem intro (h : ∀ g, expandSequence T (g + d + c) buf envStop out st
    = expandSequence T (g + d) buf' envStop out' st') : SeqRun T envStop d c buf out st buf' out' st' := by
  intro fuel hf
  obtain ⟨g, rfl⟩ : ∃ g, fuel = g + d + c := ⟨fuel - c - d, by omega⟩
  exact ⟨g + d, Nat.le_refl _, h g⟩

theorem one (h : ∀ f, expandSequence T (f + 1) buf envStop out st = expandSequence T f buf' envStop out' st') :
    SeqRun T envStop 0 1 buf out st buf' out' st' :=
  intro h

theorem refl : SeqRun T envStop 0 0 buf out st buf out st := fun fuel _ => ⟨fuel, Nat.le_refl _, rfl⟩

theorem mono {d' c'} (h : SeqRun T envStop d c buf out st buf' out' st') (hd : d ≤ d') (hc : c ≤ c') :
    SeqRun T envStop d' c' buf out st buf' out' st' := by
  intro fuel hf
  obtain ⟨f1, h1, e⟩ := h fuel (by omega)
  exact ⟨f1, by omega, e⟩

/-- fuel below a run may be counted as used by it: only `c + d` and `c` have to grow -/
theorem weaken {d' c'} (h : SeqRun T envStop d c buf out st buf' out' st') (hs : c + d ≤ c' + d')
    (hc : c ≤ c') : SeqRun T envStop d' c' buf out st buf' out' st' := by
  intro fuel hf
  obtain ⟨f1, h1, e⟩ := h fuel (by omega)
  exact ⟨f1, by omega, e⟩

/-- the fuel of the second run pays for the depth of the first -/
theorem trans (h1 : SeqRun T envStop d1 c1 buf out st buf' out' st')
    (h2 : SeqRun T envStop d c2 buf' out' st' buf'' out'' st'') (hd : d1 ≤ d + c2) :
    SeqRun T envStop d (c1 + c2) buf out st buf'' out'' st'' := by
  intro fuel hf
  obtain ⟨f1, hf1, e1⟩ := h1 fuel (by omega)
  obtain ⟨f2, hf2, e2⟩ := h2 f1 (by omega)
  exact ⟨f2, by omega, e1.trans e2⟩

/-- `trans` for runs that append to the output -/
theorem app (h1 : SeqRun T envStop d1 c1 buf out st buf' (out ++ o1) st')
    (h2 : SeqRun T envStop d c2 buf' (out ++ o1) st' buf'' (out ++ o1 ++ o2) st'') (hd : d1 ≤ d + c2) :
    SeqRun T envStop d (c1 + c2) buf out st buf'' (out ++ (o1 ++ o2)) st'' := by
  rw [← List.append_assoc]
  exact h1.trans h2 hd

/-- `app` with the cost of the second run in front -/
theorem app_comm (h1 : SeqRun T envStop d1 c1 buf out st buf' (out ++ o1) st')
    (h2 : SeqRun T envStop d c2 buf' (out ++ o1) st' buf'' (out ++ o1 ++ o2) st'') (hd : d1 ≤ d + c2) :
    SeqRun T envStop d (c2 + c1) buf out st buf'' (out ++ (o1 ++ o2)) st'' := by
  rw [Nat.add_comm]
  exact h1.app h2 hd

/-- `app` in front of a run whose final state is only described (`P`) -/
theorem app_ex {P : PState → Prop} (h1 : SeqRun T envStop d1 c1 buf out st buf' (out ++ o1) st')
    (h2 : ∃ s, SeqRun T envStop d c2 buf' (out ++ o1) st' buf'' (out ++ o1 ++ o2) s ∧ P s)
    (hd : d1 ≤ d + c2) :
    ∃ s, SeqRun T envStop d (c1 + c2) buf out st buf'' (out ++ (o1 ++ o2)) s ∧ P s :=
  h2.imp fun _ h => ⟨h1.app h.1 hd, h.2⟩

/-- `app_ex` with the cost of the second run in front -/
theorem app_ex_comm {P : PState → Prop} (h1 : SeqRun T envStop d1 c1 buf out st buf' (out ++ o1) st')
    (h2 : ∃ s, SeqRun T envStop d c2 buf' (out ++ o1) st' buf'' (out ++ o1 ++ o2) s ∧ P s)
    (hd : d1 ≤ d + c2) :
    ∃ s, SeqRun T envStop d (c2 + c1) buf out st buf'' (out ++ (o1 ++ o2)) s ∧ P s :=
  h2.imp fun _ h => ⟨h1.app_comm h.1 hd, h.2⟩

theorem cons (h1 : ∀ f, expandSequence T (f + 1) buf envStop out st = expandSequence T f buf' envStop (out ++ o1) st')
    (h2 : SeqRun T envStop d c buf' (out ++ o1) st' buf'' (out ++ o1 ++ o2) st'') :
    SeqRun T envStop d (c + 1) buf out st buf'' (out ++ (o1 ++ o2)) st'' :=
  ((one h1).app h2 (Nat.zero_le _)).mono (Nat.le_refl _) (Nat.le_of_eq (Nat.add_comm ..))

/-- what the loop yields behind the run, it yields from the start (a result, a fault) -/
theorem elim (h : SeqRun T envStop d c buf out st buf' out' st') {r : Outcome ((List Tok × Buf) × PState)}
    (hr : ∀ fuel, d ≤ fuel → expandSequence T fuel buf' envStop out' st' = r) {fuel : Nat}
    (hf : c + d ≤ fuel) : expandSequence T fuel buf envStop out st = r := by
  obtain ⟨f1, hf1, e⟩ := h fuel hf
  rw [e, hr f1 (by omega)]

theorem finish (h : SeqRun T envStop d c buf out st [] out' st') (hd : 1 ≤ d) {fuel : Nat}
    (hf : c + d ≤ fuel) :
    expandSequence T fuel buf envStop out st
      = match removeLines out' with
        | some r => .ok ((r, []), st')
        | none => .outOfFuel :=
  h.elim (fun f hf1 => by
    obtain ⟨g, rfl⟩ : ∃ g, f = g + 1 := ⟨f - 1, by omega⟩
    exact loop_nil ..) hf

end SeqRun

theorem seqRun_lang {T : PTables} {envStop : Option Str} {rest : Buf} {out : List Tok} {st : PState}
    (p : Nat) (l : Str) (back hard brk : Bool) (hml : st.multiLanguage = true) :
    SeqRun T envStop 0 1 (mkLang p l back hard brk :: rest) out st rest (out ++ [mkLang p l back hard brk])
      (changeParserLang T st l back hard) :=
  .one fun _ => loop_lang_multi rfl (seqKey_nil rfl) hml

end Yalafi
