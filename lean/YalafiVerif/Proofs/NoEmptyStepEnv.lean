/-
  Proofs/NoEmptyStepEnv.lean — step lemmas of the NoEmpty bundle for `beginEnvironment`,
  `endEnvironment`, `expandMacro`.
-/
import YalafiVerif.Proofs.NoEmptyBase1
import YalafiVerif.Proofs.NoEmptyBase2
set_option linter.unusedVariables false
namespace Yalafi
namespace NoEmpty
open M

variable {T : PTables}

private theorem addUnknown_spec (name : Str) (math : Bool) (st : PState) (h : StOk T st) :
    Post' (addUnknown name math st) (fun _ s => Fr T st s) := by
  unfold addUnknown
  apply Post'_modify
  split
  · exact Fr.refl h
  · exact ⟨StOk_congr h rfl rfl rfl, rfl⟩

private theorem NE_mkPar (n p : Nat) (hp : p < n) : NE T n (mkFix .par p [nl, nl]) := by
  simp [NE, W, NE0, MB, ctlEmpty, mkFix, hp]

private theorem Skip_mkPar (p : Nat) : Skip (mkFix .par p [nl, nl]) := by
  simp [Skip, isSpaceTok, mkFix]

private theorem out0_skip (n : Nat) (b : Bool) (p : Nat) (hp : p < n) :
    ∀ t ∈ (if b = true then [mkFix Kind.par p [nl, nl]] else [mkAction p]), Skip t ∧ W T n t := by
  intro t ht
  split at ht
  · simp only [List.mem_singleton] at ht; subst ht
    exact ⟨Skip_mkPar p, (NE_mkPar n p hp).1⟩
  · simp only [List.mem_singleton] at ht; subst ht
    exact ⟨Skip_mkAction p, (NE_mkAction n p hp).1⟩

private theorem out0_ANE (n : Nat) (b : Bool) (p : Nat) (hp : p < n) :
    ANE T n (if b = true then [mkFix Kind.par p [nl, nl]] else [mkAction p]) := by
  split
  · exact (ANE_cons _ _ _).2 ⟨NE_mkPar n p hp, ANE_nil n⟩
  · exact (ANE_cons _ _ _).2 ⟨NE_mkAction n p hp, ANE_nil n⟩

private theorem out0_ANC (b : Bool) (p : Nat) :
    ANC (if b = true then [mkFix Kind.par p [nl, nl]] else [mkAction p]) := by
  split
  · exact (ANC_cons _ _).2 ⟨Skip_noCall (Skip_mkPar p) (by simp [ctlEmpty, mkFix]), ANC_nil⟩
  · exact (ANC_cons _ _).2 ⟨Skip_noCall (Skip_mkAction p) (by simp [ctlEmpty, mkAction]), ANC_nil⟩

private theorem NE_mathBegin (n p : Nat) (b : Bool) (name : Str) (hp : p < n)
    (hn : (endFuncNames T).contains name = false) :
    NE T n { kind := .mathBegin b, pos := p, txt := name } := by
  have hn' : name ∉ endFuncNames T := by simpa using hn
  simp [NE, W, NE0, MB, ctlEmpty, hp, hn']

theorem macro_step (hne : tblOkB T = true) (hw : T.WFInv) (fuel : Nat) (IH : AllSpecs T fuel) :
    SpecMacro T (fuel + 1) := by
  intro buf tok math st hs hb ht
  simp only [expandMacro]
  apply Post'_get_bind
  have hb' : ANE T st.latex.length (skipSpaceStopLangAct buf) := ANE_dropWhile _ hb
  cases hmac : lookupMacro st tok.txt with
  | none =>
    dsimp only
    apply Post'_bind _ _ _ (Q := fun _ s' => Fr T st s')
    · exact addUnknown_spec _ _ _ hs
    · intro _ s' hs'
      apply Post'_pure
      exact ⟨hs', (ANE_cons _ _ _).2 ⟨NE_mkAction _ _ ht, ANE_nil _⟩, hb'⟩
  | some mac =>
    dsimp only
    have hm := lookupMacro_mem _ _ _ hmac
    have hmo := hs.macros mac hm.1
    refine Post'_mono _ _ _ (IH.args _ mac tok.pos st hs hb' hmo.1 ht) ?_
    intro a s h
    exact ⟨h.1, h.2.2.2.1 hmo.2, h.2.2.1⟩

private theorem beginTail_spec (fuel : Nat) (IH : AllSpecs T fuel) (st s : PState) (r : Str × Buf)
    (env : MacroDef) (tok : Tok) (hs : Fr T st s) (hr : ANE T st.latex.length r.2)
    (ht : tok.pos < st.latex.length) (henv : EnvOk T env) (hname : env.name = r.1) :
    Post' (beginTail T fuel r env tok s) (fun r st' =>
      Fr T st st' ∧ Buf3 T st.latex.length (r.1 ++ r.2)) := by
  have hl : s.latex = st.latex := hs.2
  rw [← hl] at hr ht ⊢
  have hskip := out0_skip (T := T) s.latex.length env.addPars tok.pos ht
  have hanc := out0_ANC env.addPars tok.pos
  simp only [beginTail]
  apply Post'_bind _ _ _ (Q := fun a s' => Fr T s s' ∧ Pre T s.latex.length a.1 ∧ ANE T s.latex.length a.2 ∧
    (env.handler = .none → env.repl = [] → ANC a.1))
  · refine Post'_mono _ _ _ (IH.args r.2 env tok.pos s hs.1 hr henv.1 ht) ?_
    intro a s' h
    exact ⟨h.1, h.2.1, h.2.2.1, h.2.2.2.2⟩
  · intro a s' ha
    have hl' : s'.latex = s.latex := ha.1.2
    refine Post'_ite _ _ _ s' _ (fun hequ => ?_) (fun _ => ?_)
    · apply Post'_pure
      refine ⟨Fr.trans hs ha.1, Or.inl ?_⟩
      simp only [List.append_assoc]
      refine Pre_skips_append hskip (Pre_append ha.2.1 ((ANE_append _ _ _).2 ⟨?_, ha.2.2.1⟩))
      refine (ANE_cons _ _ _).2 ⟨?_, ANE_nil _⟩
      apply NE_mathBegin _ _ _ _ ht
      rw [← hname]
      exact envOk_equ T env henv.2.2.2 hequ
    · refine Post'_ite _ _ _ s' _ (fun hrem => ?_) (fun _ => ?_)
      · apply Post'_bind _ _ _ (Q := fun q s'' => Fr T s' s'' ∧ ANE T s'.latex.length q.2 ∧
          (ANE T s'.latex.length q.1 ∨ (ANC q.1 ∧ q.2 = [])))
        · refine Post'_mono _ _ _ (IH.seq a.2 (some r.1) [] s' ha.1.1
            (Buf3_of_ANE (by rw [hl']; exact ha.2.2.1)) ANC_nil) ?_
          intro q s'' hq
          exact ⟨hq.1, hq.2.1, hq.2.2.2⟩
        · intro q s'' hq
          rw [hl'] at hq
          apply Post'_pure
          refine ⟨Fr.trans hs (Fr.trans ha.1 hq.1), ?_⟩
          rcases hq.2.2 with h1 | ⟨h1, h2⟩
          · left
            simp only [List.append_assoc]
            exact Pre_skips_append hskip (Pre_append ha.2.1 ((ANE_append _ _ _).2 ⟨h1, hq.2.1⟩))
          · right
            have hrm := henv.2.2.1 hrem
            have ha1 : ANC a.1 := ha.2.2.2 hrm.1 hrm.2
            show ANC (_ ++ q.2)
            rw [h2]
            simp only [ANC_append]
            exact ⟨⟨⟨hanc, ha1⟩, h1⟩, ANC_nil⟩
      · apply Post'_pure
        refine ⟨Fr.trans hs ha.1, Or.inl ?_⟩
        simp only [List.append_assoc]
        exact Pre_skips_append hskip (Pre_append ha.2.1 ha.2.2.1)

theorem begin_step (hne : tblOkB T = true) (hw : T.WFInv) (fuel : Nat) (IH : AllSpecs T fuel) :
    SpecBegin T (fuel + 1) := by
  intro buf tok math st hs hb ht
  simp only [beginEnvironment]
  apply Post'_bind _ _ _ (Q := fun r s => Fr T st s ∧ ANE T st.latex.length r.2)
  · exact IH.envName buf tok st hs hb ht
  · intro r s h
    apply Post'_get_bind
    · cases henv : lookupEnv s r.1 with
      | none =>
        apply Post'_bind _ _ _ (Q := fun _ s' => Fr T st s')
        · exact Post'_mono _ _ _ (addUnknown_spec _ _ _ h.1.1) (fun _ s' h' => Fr.trans h.1 h')
        · intro _ s' hs'
          apply Post'_pure
          refine ⟨hs', Buf3_of_ANE ?_⟩
          exact (ANE_append _ _ _).2 ⟨(ANE_cons _ _ _).2 ⟨NE_mkAction _ _ ht, ANE_nil _⟩, h.2⟩
      | some env =>
        have hm := lookupEnv_mem _ _ _ henv
        dsimp only
        have heok : EnvOk T env := h.1.1.envs env hm.1
        cases hit : env.items with
        | some style =>
          dsimp only
          apply Post'_bind _ _ _ (Q := fun _ s' => Fr T st s')
          · apply Post'_modify
            exact Fr.trans h.1 ⟨StOk_congr h.1.1 rfl rfl rfl, rfl⟩
          · intro _ s' hs'
            exact beginTail_spec fuel IH st s' r env tok hs' h.2 ht heok hm.2
        | none =>
          exact beginTail_spec fuel IH st _ r env tok h.1 h.2 ht heok hm.2

private theorem endTail_spec (fuel : Nat) (IH : AllSpecs T fuel) (st s : PState) (r : Str × Buf)
    (env : MacroDef) (tok : Tok) (envStop : Option Str) (hs : Fr T st s) (hr : ANE T st.latex.length r.2)
    (ht : tok.pos < st.latex.length) (henv : EnvOk T env) (hname : env.name = r.1) :
    Post' (endTail T fuel r env tok (envStop == some r.1) s) (fun r st' =>
      Fr T st st' ∧ ANE T st.latex.length r.1.1 ∧ ANE T st.latex.length r.2 ∧ (r.1.2 = true → envStop ≠ none) ∧
      (r.1.2 = true → ∀ nm, envStop = some nm → (endFuncNames T).contains nm = false → ANC r.1.1)) := by
  have hl : s.latex = st.latex := hs.2
  rw [← hl] at hr ht ⊢
  have hout := out0_ANE (T := T) s.latex.length env.addPars tok.pos ht
  have hanc := out0_ANC env.addPars tok.pos
  have hstop : (envStop == some r.1) = true → envStop ≠ none := by
    intro h1 h2
    rw [h2] at h1
    simp at h1
  simp only [endTail]
  refine Post'_ite _ _ _ s _ (fun _ => ?_) (fun hef => ?_)
  · apply Post'_pure
    exact ⟨hs, hout, hr, hstop, fun _ _ _ _ => hanc⟩
  · apply Post'_bind _ _ _ (Q := fun a s' => Fr T s s' ∧ ANE T s.latex.length a)
    · refine Post'_mono _ _ _ (IH.handler env.endFunc r.2 env [] tok.pos s hs.1 (by intro a ha; cases ha) ht) ?_
      intro a s' h
      exact ⟨h.1, h.2.1 henv.2.1⟩
    · intro a s' ha
      apply Post'_pure
      refine ⟨Fr.trans hs ha.1, ?_, hr, hstop, ?_⟩
      · exact (ANE_append _ _ _).2 ⟨hout, ha.2⟩
      · intro hst nm hnm hc
        exfalso
        apply hef
        have h1 : envStop = some r.1 := by simpa using hst
        have h0 : nm = r.1 := by
          rw [hnm] at h1
          exact Option.some.inj h1
        have h2 := envOk_endFunc T env henv.2.2.2 (by rw [hname, ← h0]; exact hc)
        simp [h2]

theorem end_step (hne : tblOkB T = true) (hw : T.WFInv) (fuel : Nat) (IH : AllSpecs T fuel) :
    SpecEnd T (fuel + 1) := by
  intro buf tok envStop st hs hb ht
  simp only [endEnvironment]
  apply Post'_bind _ _ _ (Q := fun r s => Fr T st s ∧ ANE T st.latex.length r.2)
  · exact IH.envName buf tok st hs hb ht
  · intro r s h
    apply Post'_get_bind
    cases henv : lookupEnv s r.1 with
    | none =>
      apply Post'_pure
      refine ⟨h.1, (ANE_cons _ _ _).2 ⟨NE_mkAction _ _ ht, ANE_nil _⟩, h.2, ?_, ?_⟩
      · intro h1 h2
        rw [h2] at h1
        simp at h1
      · intro _ _ _ _
        exact (ANC_cons _ _).2 ⟨Skip_noCall (Skip_mkAction _) (by simp [ctlEmpty, mkAction]), ANC_nil⟩
    | some env =>
      have hm := lookupEnv_mem _ _ _ henv
      have heok : EnvOk T env := h.1.1.envs env hm.1
      dsimp only
      by_cases hc : (env.items.isSome && decide (s.itemStack.length > 1)) = true
      · rw [if_pos hc]
        apply Post'_bind _ _ _ (Q := fun _ s' => Fr T st s')
        · apply Post'_modify
          exact Fr.trans h.1 ⟨StOk_congr h.1.1 rfl rfl rfl, rfl⟩
        · intro _ s' hs'
          exact endTail_spec fuel IH st s' r env tok envStop hs' h.2 ht heok hm.2
      · rw [if_neg hc]
        exact endTail_spec fuel IH st s r env tok envStop h.1 h.2 ht heok hm.2

end NoEmpty
end Yalafi
