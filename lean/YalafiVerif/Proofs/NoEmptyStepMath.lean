/-
  Proofs/NoEmptyStepMath.lean — step lemmas of the NoEmpty bundle for `expandMathSection`,
  `expandInlineMath`, `displayLoop`, `expandDisplayMath`.
-/
import YalafiVerif.Proofs.NoEmptyBase1
import YalafiVerif.Proofs.NoEmptyBase2
set_option linter.unusedVariables false
namespace Yalafi
namespace NoEmpty
open M

variable {T : PTables}

private theorem ANC_fin (p : Tok → Bool) (o : List Tok) (h : ANC o) : ANC (o.filter p) :=
  ANC_sublist List.filter_sublist h

private theorem NE_mkMath (n p : Nat) (k : Kind) (txt : Str) (hp : p < n)
    (hk : k = .mathSpace ∨ k = .mathOper ∨ k = .mathElem) : NE T n (mkTok k p txt) := by
  rcases hk with rfl | rfl | rfl <;> simp [NE, W, NE0, MB, ctlEmpty, mkTok, hp]

private theorem noCall_mkMath (p : Nat) (k : Kind) (txt : Str)
    (hk : k = .mathSpace ∨ k = .mathOper ∨ k = .mathElem) : noCall (mkTok k p txt) = true := by
  rcases hk with rfl | rfl | rfl <;> rfl

private theorem noCall_isMathTok (t : Tok) (h : isMathTok t = true) : noCall t = true := by
  unfold isMathTok at h; unfold noCall ctlEmpty
  cases hk : t.kind <;> simp_all

private def MathQ (T : PTables) (st : PState) (r : MathSec) (st' : PState) : Prop :=
  Fr T st st' ∧ Buf3 T st.latex.length r.buf ∧ ANC r.out

/-- recursive call of `expandMathSection` from a later state of the same frame -/
private theorem mathSec_rec {fuel : Nat} (IH : SpecMathSec T fuel) {st st1 : PState}
    (hg : Fr T st st1) (buf : Buf) (start : Nat) (toksStop : List Str) (envStop : Option Str) (out : List Tok)
    (hb : Buf3 T st.latex.length buf) (ho : ANC out)
    (he : ∀ nm, envStop = some nm → (endFuncNames T).contains nm = false) :
    Post' (expandMathSection T fuel buf start toksStop envStop out st1) (MathQ T st) := by
  have h1 : st1.latex.length = st.latex.length := hg.len
  have h := IH buf start toksStop envStop out st1 hg.1 (h1 ▸ hb) ho he
  refine Post'_mono _ _ _ h ?_
  rintro r s ⟨g, a, b⟩
  rw [h1] at a
  exact ⟨hg.trans g, a, b⟩

theorem mathSec_step (hne : tblOkB T = true) (hw : T.WFInv) (fuel : Nat) (IH : AllSpecs T fuel) :
    SpecMathSec T (fuel + 1) := by
  intro buf start toksStop envStop out st hg hb ho he
  change Post' _ (MathQ T st)
  have hsb : Buf3 T st.latex.length (skipSpace buf) := Buf3_dropWhile _ hb
  rw [expandMathSection.eq_2]
  cases hsk : skipSpace buf with
  | nil =>
    dsimp only
    refine Post'_bind _ _ _ _ _ (latexError_spec _ start st hg) ?_
    intro e st1 ⟨hfr, hc, _⟩
    apply Post'_pure
    exact ⟨hfr, Buf3_nil _, ANC_fin _ _ ((ANC_append _ _).2 ⟨hc, ho⟩)⟩
  | cons tok rest =>
    dsimp only
    rw [hsk] at hsb
    have hrest : Buf3 T st.latex.length rest := Buf3_tail hsb
    have hcall : noCall tok = false → W T st.latex.length tok ∧ ANE T st.latex.length rest := Buf3_call hsb
    have hrefl : Fr T st st := Fr.refl hg
    refine Post'_ite _ _ _ _ _ (fun hk => ?_) (fun _ => ?_)
    · -- paragraph
      refine Post'_bind _ _ _ _ _ (latexError_spec _ start st hg) ?_
      intro e st1 ⟨hfr, hc, _⟩
      apply Post'_pure
      exact ⟨hfr, hrest, ANC_fin _ _ ((ANC_append _ _).2 ⟨hc, ho⟩)⟩
    refine Post'_ite _ _ _ _ _ (fun hk => ?_) (fun _ => ?_)
    · -- verbatim token
      exact mathSec_rec IH.mathSec hrefl _ start toksStop envStop _ hrest
        (ANC_snoc _ _ ho (noCall_mkMath _ _ _ (by simp))) he
    refine Post'_ite _ _ _ _ _ (fun hk => ?_) (fun _ => ?_)
    · -- stop token
      apply Post'_pure
      exact ⟨hrefl, hrest, ANC_fin _ _ ho⟩
    refine Post'_ite _ _ _ _ _ (fun hk => ?_) (fun _ => ?_)
    · -- \begin
      obtain ⟨htok, hr⟩ := hcall (call_of_beq tok _ hk (fun t e => by simp [noCall, e]))
      refine Post'_bind _ _ _ _ _ (IH.begin_ rest tok true st hg hr htok.1) ?_
      intro r st1 ⟨hfr, h1⟩
      exact mathSec_rec IH.mathSec hfr _ start toksStop envStop out h1 ho he
    refine Post'_ite _ _ _ _ _ (fun hk => ?_) (fun _ => ?_)
    · -- \end
      obtain ⟨htok, hr⟩ := hcall (call_of_beq tok _ hk (fun t e => by simp [noCall, e]))
      refine Post'_bind _ _ _ _ _ (IH.end_ rest tok envStop st hg hr htok.1) ?_
      intro r st1 ⟨hfr, h1, h2, h3, h4⟩
      refine Post'_ite _ _ _ _ _ (fun hstop => ?_) (fun _ => ?_)
      · apply Post'_pure
        have hne' := h3 hstop
        cases hes : envStop with
        | none => exact absurd hes hne'
        | some nm =>
          exact ⟨hfr, Buf3_of_ANE h2, ANC_fin _ _ ((ANC_append _ _).2 ⟨ho, h4 hstop nm hes (he nm hes)⟩)⟩
      · exact mathSec_rec IH.mathSec hfr _ start toksStop envStop out
          (Buf3_of_ANE ((ANE_append _ _ _).2 ⟨h1, h2⟩)) ho he
    refine Post'_ite _ _ _ _ _ (fun hk => ?_) (fun _ => ?_)
    · -- macro
      obtain ⟨htok, hr⟩ := hcall (call_of_beq tok _ hk (fun t e => by simp [noCall, e]))
      apply Post'_get_bind
      refine Post'_ite _ _ _ _ _ (fun _ => ?_) (fun _ => ?_)
      · -- text macro
        refine Post'_bind _ _ _ _ _ (argBuffer_spec rest tok.pos true st hg) ?_
        intro a st1 ⟨hfr1, ha, _⟩
        obtain ⟨ha1, ha2⟩ := ha hr htok.1
        have hl1 : st1.latex.length = st.latex.length := hfr1.len
        have hseq := IH.seq a.1 none [] st1 hfr1.1 (hl1 ▸ Buf3_of_ANE ha1) ANC_nil
        refine Post'_bind _ _ _ _ _ hseq ?_
        intro e st2 ⟨hfr2, _, he3, _⟩
        exact mathSec_rec IH.mathSec (hfr1.trans hfr2) _ start toksStop envStop _ (Buf3_of_ANE ha2)
          ((ANC_append _ _).2 ⟨ho, he3 rfl⟩) he
      · -- other macro
        refine Post'_bind _ _ _ _ _ (IH.macro_ rest tok true st hg hr htok.1) ?_
        intro r st1 ⟨hfr, h1, h2⟩
        apply Post'_get_bind
        refine mathSec_rec IH.mathSec hfr _ start toksStop envStop out (Buf3_of_ANE ?_) ho he
        rw [ANE_append, ANE_append]
        refine ⟨⟨?_, h1⟩, h2⟩
        have one : ∀ k txt, k = Kind.mathSpace ∨ k = Kind.mathOper ∨ k = Kind.mathElem →
            ANE T st.latex.length [mkTok k tok.pos txt] := fun k txt hk =>
          (ANE_cons _ _ _).2 ⟨NE_mkMath _ _ _ _ htok.1 hk, ANE_nil _⟩
        exact ite_prop (ANE T st.latex.length) _ _ _ (one _ _ (by simp)) (ite_prop (ANE T st.latex.length) _ _ _
          (one _ _ (by simp)) (ite_prop (ANE T st.latex.length) _ _ _ (one _ _ (by simp)) (ANE_nil _)))
    · -- other tokens
      apply Post'_get_bind
      refine Post'_ite _ _ _ _ _ (fun hk => ?_) (fun _ => ?_)
      · exact mathSec_rec IH.mathSec hrefl _ start toksStop envStop _ hrest
          (ANC_snoc _ _ ho (noCall_isMathTok tok hk)) he
      refine Post'_ite _ _ _ _ _ (fun hk => ?_) (fun _ => ?_)
      · exact mathSec_rec IH.mathSec hrefl _ start toksStop envStop _ hrest ho he
      refine Post'_ite _ _ _ _ _ (fun hk => ?_) (fun _ => ?_)
      · exact mathSec_rec IH.mathSec hrefl _ start toksStop envStop _ hrest ho he
      refine Post'_ite _ _ _ _ _ (fun hk => ?_) (fun _ => ?_)
      · exact mathSec_rec IH.mathSec hrefl _ start toksStop envStop _ hrest
          (ANC_snoc _ _ ho (noCall_mkMath _ _ _ (by simp))) he
      cases htxt : mathSpecialTxt T tok with
      | none => exact Post'_crash _ _ _ (by simp [site])
      | some txt =>
        dsimp only
        refine Post'_ite _ _ _ _ _ (fun hk => ?_) (fun _ => ?_)
        · exact mathSec_rec IH.mathSec hrefl _ start toksStop envStop _ hrest
            (ANC_snoc _ _ ho (noCall_mkMath _ _ _ (by simp))) he
        · exact mathSec_rec IH.mathSec hrefl _ start toksStop envStop _ hrest
            (ANC_snoc _ _ ho (noCall_mkMath _ _ _ (by simp))) he

private theorem noCall_mkFix_space (p : Nat) (txt : Str) : noCall (mkFix .space p txt) = true := rfl
private theorem noCall_mkFix_text (p : Nat) (txt : Str) : noCall (mkFix .text p txt) = true := rfl

private theorem Fr_setRot {st st1 : PState} (h : Fr T st st1) (r : Rot) : Fr T st (setRot st1 r) :=
  ⟨StOk_congr h.1 rfl rfl rfl, h.2⟩

theorem inline_step (hne : tblOkB T = true) (hw : T.WFInv) (fuel : Nat) (IH : AllSpecs T fuel) :
    SpecInline T (fuel + 1) := by
  intro buf tok st hg hb
  rw [expandInlineMath.eq_2]
  refine Post'_bind _ _ _ _ _ (IH.mathSec buf tok.pos _ none [] st hg hb ANC_nil (by intro nm h; cases h)) ?_
  intro sec st1 ⟨hfr, hbuf, hout⟩
  apply Post'_get_bind
  dsimp only
  rcases hr : rotOf st1 (curSettings st1) with _ | rot <;>
    rcases hs : settingsOf T (curSettings st1) with _ | ls <;> dsimp only
  · exact Post'_crash _ _ _ (by simp [site])
  · exact Post'_crash _ _ _ (by simp [site])
  · exact Post'_crash _ _ _ (by simp [site])
  · rcases hrs : replaceSection T ls.opText ls.opDefault true (detectMathParts sec.out []) true true rot.inl
      with _ | rs <;> dsimp only
    · exact Post'_crash _ _ _ (by simp [site])
    · have hro := replaceSection_ANC _ _ _ _ _ _ _ rs hout hrs
      refine Post'_bind _ _ _ _ _ (Post'_modify _ st1 (fun _ s => Fr T st s) (Fr_setRot hfr _)) ?_
      intro _ st2 hfr2
      apply Post'_pure
      refine ⟨hfr2, ?_, hbuf⟩
      exact ANC_snoc _ _ ((ANC_cons _ _).2 ⟨noCall_mkAction _, hro⟩) (noCall_mkAction _)

/-- recursive call of `displayLoop` from a later state of the same frame -/
private theorem dispLoop_rec {fuel : Nat} (IH : SpecDispLoop T fuel) {st st1 : PState}
    (hg : Fr T st st1) (buf : Buf) (start : Nat) (envName : Str) (first next : Bool) (out : List Tok)
    (hb : Buf3 T st.latex.length buf) (ho : ANC out) (he : (endFuncNames T).contains envName = false) :
    Post' (displayLoop T fuel buf start envName first next out st1) (fun r st' =>
      Fr T st st' ∧ ANC r.1 ∧ Buf3 T st.latex.length r.2.1 ∧ ANC r.2.2) := by
  have h1 : st1.latex.length = st.latex.length := hg.len
  have h := IH buf start envName first next out st1 hg.1 (h1 ▸ hb) ho he
  refine Post'_mono _ _ _ h ?_
  rintro r s ⟨g, a, b, c⟩
  rw [h1] at b
  exact ⟨hg.trans g, a, b, c⟩

theorem dispLoop_step (hne : tblOkB T = true) (hw : T.WFInv) (fuel : Nat) (IH : AllSpecs T fuel) :
    SpecDispLoop T (fuel + 1) := by
  intro buf start envName first next out st hg hb ho henv
  rw [displayLoop.eq_2]
  refine Post'_bind _ _ _ _ _ (IH.mathSec buf start _ (some envName) [] st hg hb ANC_nil
    (by intro nm h; cases h; exact henv)) ?_
  intro sec st1 ⟨hfr, hbuf, hsout⟩
  apply Post'_get_bind
  dsimp only
  rcases hr : rotOf st1 (curSettings st1) with _ | rot <;>
    rcases hs : settingsOf T (curSettings st1) with _ | ls <;> dsimp only
  · exact Post'_crash _ _ _ (by simp [site])
  · exact Post'_crash _ _ _ (by simp [site])
  · exact Post'_crash _ _ _ (by simp [site])
  · rcases hrs : replaceSection T ls.opText ls.opDefault false (detectMathParts sec.out []) first next rot.disp
      with _ | rs <;> dsimp only
    · exact Post'_crash _ _ _ (by simp [site])
    · have hro := replaceSection_ANC _ _ _ _ _ _ _ rs hsout hrs
      refine Post'_bind _ _ _ _ _ (Post'_modify _ st1 (fun _ s => Fr T st s) (Fr_setRot hfr _)) ?_
      intro _ st2 hfr2
      have ho1 : ANC (out ++ rs.out) := (ANC_append _ _).2 ⟨ho, hro⟩
      have hl2 : st2.latex.length = st.latex.length := hfr2.len
      rcases hte : sec.term with _ | e <;> dsimp only
      · apply Post'_pure
        refine ⟨hfr2, ho1, hbuf, ?_⟩
        -- the projections first: otherwise the unifier unfolds `latexErrorToks` against the triple
        dsimp only
        exact latexErrorToks_ANC _ _ _ _
      · refine Post'_ite _ _ _ _ _ (fun _ => ?_) (fun _ => ?_)
        · exact dispLoop_rec IH.dispLoop hfr2 _ _ envName _ _ _ hbuf
            (ANC_snoc _ _ ho1 (noCall_mkFix_space _ _)) henv
        refine Post'_ite _ _ _ _ _ (fun _ => ?_) (fun _ => ?_)
        · refine Post'_bind _ _ _ _ _ (parseNewlineOption_spec sec.buf false st2 hfr2.1 (hl2 ▸ hbuf)) ?_
          intro b st3 ⟨hfr3, hb3⟩
          rw [hl2] at hb3
          exact dispLoop_rec IH.dispLoop (hfr2.trans hfr3) _ _ envName _ _ _ hb3
            (ANC_snoc _ _ ho1 (noCall_mkFix_space _ _)) henv
        refine Post'_ite _ _ _ _ _ (fun _ => ?_) (fun _ => ?_)
        · apply Post'_pure
          refine ⟨hfr2, ho1, hbuf, ?_⟩
          dsimp only
          exact latexErrorToks_ANC _ _ _ _
        · apply Post'_pure
          exact ⟨hfr2, ho1, hbuf, ANC_nil⟩

theorem display_step (hne : tblOkB T = true) (hw : T.WFInv) (fuel : Nat) (IH : AllSpecs T fuel) :
    SpecDisplay T (fuel + 1) := by
  intro buf tok envName remove st hg hb henv
  have h0 : ANC [mkAction tok.pos, mkFix .space tok.pos [' ', ' ']] := by
    simp [noCall_mkAction, noCall_mkFix_space]
  rw [expandDisplayMath.eq_2]
  refine Post'_bind _ _ _ _ _ (IH.dispLoop buf tok.pos envName true true _ st hg hb h0 henv) ?_
  intro r st1 ⟨hfr, hr1, hr2, hr3⟩
  refine Post'_ite _ _ _ _ _ (fun _ => ?_) (fun _ => ?_)
  · have h1 : ∀ (c : Char) (p : Nat), Post' ((pure (r.2.2 ++ [mkFix Kind.text p [c]], r.2.1) : M (List Tok × Buf)) st1)
        (fun r st' => Fr T st st' ∧ ANC r.1 ∧ Buf3 T st.latex.length r.2) := fun c p =>
      Post'_pure _ _ _ ⟨hfr, ANC_snoc _ _ hr3 (noCall_mkFix_text _ _), hr2⟩
    have h2 : ∀ (p : Nat), Post' ((pure (r.2.2 ++ [mkAction p], r.2.1) : M (List Tok × Buf)) st1)
        (fun r st' => Fr T st st' ∧ ANC r.1 ∧ Buf3 T st.latex.length r.2) := fun p =>
      Post'_pure _ _ _ ⟨hfr, ANC_snoc _ _ hr3 (noCall_mkAction _), hr2⟩
    repeat' split
    all_goals first | exact h1 _ _ | exact h2 _
  · apply Post'_get_bind
    refine Post'_ite _ _ _ _ _ (fun _ => ?_) (fun _ => ?_)
    · rcases hd0 : (rotOf st1 (curSettings st1)).bind (fun x => x.disp.head?) with _ | d0 <;> dsimp only
      · exact Post'_crash _ _ _ (by simp [site])
      · apply Post'_pure
        refine ⟨hfr, ?_, hr2⟩
        refine ANC_snoc _ _ ((ANC_append _ _).2 ⟨?_, ?_⟩) (noCall_mkAction _)
        · exact (ANC_append _ _).2 ⟨(ANC_append _ _).2 ⟨h0, hr3⟩,
            (ANC_cons _ _).2 ⟨noCall_mkFix_text _ _, ANC_nil⟩⟩
        · repeat' split
          all_goals first | exact (ANC_cons _ _).2 ⟨noCall_mkFix_text _ _, ANC_nil⟩ | exact ANC_nil
    · apply Post'_pure
      exact ⟨hfr, ANC_snoc _ _ hr1 (noCall_mkAction _), hr2⟩

end NoEmpty
end Yalafi
