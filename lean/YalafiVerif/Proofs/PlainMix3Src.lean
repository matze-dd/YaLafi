/-
  Proofs/PlainMix3Src.lean — source level of the third union grammar (header with the end-to-end
  statement and all side conditions: Proofs/PlainMix3E2E.lean).

  `Seg`, `render`, `grp`, `mac`   the documents (twenty-two kinds of segments)
  `Item`                         the source as a list of items: a text character, a stateless
                                 construct with its fixed marks, a control word, a formula with its
                                 maths tokens, a footnote with its flow, a definition, a use, a
                                 displayed equation (marks as a function of the placeholder), a list
                                 command (marks as a function of the label generators, update of the
                                 generators, condition on them)
  `refMarks`, `refNames`, `refIns`, `itemsLen`, `refFlows`, `refNF`, `refND`
                                 the reference on items: everything that depends on the state is
                                 threaded here (`l` = the rotating collections of inline / display
                                 placeholders, `env` = the definitions in force, `stk` = the label
                                 generators)
  `marks`, `unkNames`, `liveOk`, `inserted`, `flows`, `nFormulas`, `nDisplays`
                                 the same on segments, in closed form
  `firstTokTxtV`, `okAtV` (`okAtV_snd`), `textOkV`, `itemOkV`, `segsOk`
                                 the static side conditions (computable)
-/
import YalafiVerif.Proofs.PlainMix3
namespace Yalafi
namespace PlainMix3

open M
open PlainMacro
open PlainMix (spcOk cwOkU comOk verbOkU)
open PlainFootnote (lastTokOff flowOut)
open PlainMacroArgs (BP bodyStr argsStr lookupDef defOf argSpans startCur bodyMarks groupMarks argsLen
  bodyInserted digitChar)
open PlainUnkn2 (MPart renderM)
open PlainMathRich (MT mtoks fTxt anchor)

/-- the definitions in force: name (without backslash), number of parameters, body; latest first -/
abbrev Env := PlainMacroArgs.Env


inductive Seg where
  | txt (s : Str)
  | spc (k : Str)
  | opn
  | cls
  | cw (name sp : Str)
  | van (name key : Str)
  | com (body : Str)
  | verb (d : Char) (s : Str)
  /-- an inline formula `$body$` (`par = false`) or `\(body\)` of the rich class -/
  | math (par : Bool) (body : List MPart)
  | ref (name key : Str)
  | cite (name key : Str)
  | citeN (name note key : Str)
  | foot (body : Str)
  | head (name title : Str)
  /-- an accent call `\name ws {l}` (`bo = true`) or `\name ws l` -/
  | acc (name ws : Str) (bo : Bool) (l : Char)
  /-- a definition `\newcommand{\name}[n]{body}` -/
  | defn (name : Str) (n : Nat) (body : List BP)
  /-- a use `\name{a1}…{am}` of a name that is not declared in the initialised parser -/
  | use (name : Str) (args : List Str)
  /-- a simple displayed equation `\[body\]` -/
  | disp (body : Str)
  /-- a simple displayed equation `\begin{name}body\end{name}` -/
  | denv (name body : Str)
  /-- `\begin{name}` of a list environment -/
  | beg (name : Str)
  /-- `\item` with the white space behind it -/
  | item (ws : Str)
  /-- `\end{name}` of a list environment -/
  | en (name : Str)
deriving Repr, DecidableEq

def Seg.render : Seg → Str
  | .txt s => s
  | .spc k => k
  | .opn => ['{']
  | .cls => ['}']
  | .cw name sp => '\\' :: (name ++ sp)
  | .van name key => '\\' :: (name ++ '{' :: (key ++ ['}']))
  | .com body => '%' :: body
  | .verb d s => '\\' :: 'v' :: 'e' :: 'r' :: 'b' :: d :: (s ++ [d])
  | .math par body => PlainMathRich.opn par ++ (renderM body ++ PlainMathRich.cls par)
  | .ref name key => '\\' :: (name ++ '{' :: (key ++ ['}']))
  | .cite name key => '\\' :: (name ++ '{' :: (key ++ ['}']))
  | .citeN name note key => '\\' :: (name ++ '[' :: (note ++ ']' :: '{' :: (key ++ ['}'])))
  | .foot body => '\\' :: 'f' :: 'o' :: 'o' :: 't' :: 'n' :: 'o' :: 't' :: 'e' :: '{' :: (body ++ ['}'])
  | .head name title => '\\' :: (name ++ '{' :: (title ++ ['}']))
  | .acc name ws bo l => '\\' :: (name ++ (ws ++ PlainAccent.argStr bo l))
  | .defn name n body =>
    '\\' :: (ncName ++ '{' :: '\\' :: (name ++ '}' :: '[' :: digitChar n :: ']' :: '{' ::
      (bodyStr body ++ ['}'])))
  | .use name args => '\\' :: (name ++ argsStr args)
  | .disp body => '\\' :: '[' :: (body ++ ['\\', ']'])
  | .denv name body =>
    '\\' :: (PlainItem.nBegin ++ '{' :: (name ++ '}' :: (body ++ PlainDisplay.endSrc name [])))
  | .beg name => '\\' :: (PlainItem.nBegin ++ '{' :: (name ++ ['}']))
  | .item ws => '\\' :: (PlainItem.nItem ++ ws)
  | .en name => '\\' :: (PlainItem.nEnd ++ '{' :: (name ++ ['}']))

def render : List Seg → Str
  | [] => []
  | s :: rest => s.render ++ render rest

def grp (body : List Seg) : List Seg := .opn :: (body ++ [.cls])

def mac (name : Str) (args : List (List Seg)) : List Seg := .cw name [] :: (args.map grp).flatten

def Seg.len (s : Seg) : Nat := s.render.length


inductive Item where
  | chr (c : Char) (p : Nat)
  /-- a construct of `len` characters whose marks depend on nothing -/
  | fix (ms : List Mark) (len : Nat)
  /-- an undeclared control word (`len` characters with the white space behind it) -/
  | cw (name : Str) (len : Nat)
  | math (m : List MT) (len : Nat)
  | foot (fl : List (Char × Nat)) (len : Nat)
  | defn (p : Nat) (name : Str) (n : Nat) (body : List BP)
  | use (p : Nat) (name : Str) (args : List Str)
  /-- a displayed equation: its marks as a function of the placeholder -/
  | disp (ms : Str → List Mark) (len : Nat)
  /-- a list command: its marks as a function of the label generators, what it does to them, the
      condition on them -/
  | stk (ms : List ItemGen → List Mark) (upd : List ItemGen → List ItemGen) (ok : List ItemGen → Bool)
      (len : Nat)

def chrItems : Nat → Str → List Item
  | _, [] => []
  | p, c :: cs => .chr c p :: chrItems (p + 1) cs

/-- the marks of a formula with the maths tokens `m` and the placeholder `ph`: an Action mark, the
    rendering `PlainMathRich.fTxt` (`[blank] ph [punctuation] [blank]`), every character pinned to
    the position of the first maths token, and another Action mark -/
def mathMarksR (T : PTables) (ph : Str) (m : List MT) : List Mark :=
  none :: ((fTxt T ph m).map (fun c => some (c, anchor m)) ++ [none])

/-- a maths token with the text of a control word does not name a user macro -/
def liveTxt (env : Env) : Str → Bool
  | '\\' :: nm => (lookupDef env nm).isNone
  | _ => true

/-- **the reference on items**: the marks of the main flow; `l` = the stored collections of inline /
    display placeholders, `env` = the definitions in force, `stk` = the label generators -/
def refMarks (T : PTables) : Colls → Env → List ItemGen → List Item → List Mark
  | _, _, _, [] => []
  | l, env, stk, .chr c p :: r => some (c, p) :: refMarks T l env stk r
  | l, env, stk, .fix ms _ :: r => ms ++ refMarks T l env stk r
  | l, env, stk, .cw _ _ :: r => none :: refMarks T l env stk r
  | l, env, stk, .math m _ :: r => mathMarksR T ((rotL l.1).headD []) m ++ refMarks T (rotL l.1, l.2) env stk r
  | l, env, stk, .foot _ _ :: r => none :: refMarks T l env stk r
  | l, env, stk, .defn _ name n body :: r => none :: refMarks T l ((name, n, body) :: env) stk r
  | l, env, stk, .use p name args :: r =>
    none :: (bodyMarks (argSpans (p + name.length + 1) args)
              (startCur (argSpans (p + name.length + 1) args) p (defOf env name).2) (defOf env name).2
      ++ (groupMarks ((argSpans (p + name.length + 1) args).drop (defOf env name).1)
      ++ refMarks T l env stk r))
  | l, env, stk, .disp ms _ :: r => ms ((rotL l.2).headD []) ++ refMarks T (l.1, rotL l.2) env stk r
  | l, env, stk, .stk ms upd _ _ :: r => ms stk ++ refMarks T l env (upd stk) r

/-- the names that are recorded as unknown (with backslash, in order, with repetitions) -/
def refNames : Env → List Item → List Str
  | _, [] => []
  | env, .cw name _ :: r => ('\\' :: name) :: refNames env r
  | env, .defn _ name n body :: r => refNames ((name, n, body) :: env) r
  | env, .use _ name _ :: r =>
    (if (lookupDef env name).isNone then [('\\' :: name)] else []) ++ refNames env r
  | env, _ :: r => refNames env r

/-- tokens inserted by the uses (upper bound) -/
def refIns : Env → List Item → Nat
  | _, [] => 0
  | env, .defn _ name n body :: r => refIns ((name, n, body) :: env) r
  | env, .use p name args :: r =>
    bodyInserted (argSpans (p + name.length + 1) args) (defOf env name).2 + refIns env r
  | env, _ :: r => refIns env r

def itemsLen : List Item → Nat
  | [] => 0
  | .chr _ _ :: r => 1 + itemsLen r
  | .fix _ len :: r => len + itemsLen r
  | .cw _ len :: r => len + itemsLen r
  | .math _ len :: r => len + itemsLen r
  | .foot _ len :: r => len + itemsLen r
  | .defn _ name _ body :: r => name.length + (bodyStr body).length + 19 + itemsLen r
  | .use _ name args :: r => name.length + 1 + argsLen args + itemsLen r
  | .disp _ len :: r => len + itemsLen r
  | .stk _ _ _ len :: r => len + itemsLen r

def refFlows : List Item → List (Char × Nat)
  | [] => []
  | .foot fl _ :: r => fl ++ refFlows r
  | _ :: r => refFlows r

def refNF : List Item → Nat
  | [] => 0
  | .math _ _ :: r => refNF r + 1
  | _ :: r => refNF r

def refND : List Item → Nat
  | [] => 0
  | .disp _ _ :: r => refND r + 1
  | _ :: r => refND r


/-- the full stop `h_heading` appends to a title that starts at position `q` -/
def dotMarks (T : PTables) (q : Nat) (title : Str) : List Mark :=
  if PlainHeading.needsDot T title then [some ('.', q + lastTokOff title)] else []

/-- the marks of a displayed equation at position `p` whose body starts at `p + o`, with the
    placeholder `ph`: a mark, two blanks at `p` (the indentation), the placeholder at the first
    ELEMENT character of the body (no white space, no operator of `ops`, no punctuation), the
    closing punctuation mark at the first character of the body that is no white space, a mark -/
def dispMarks (T : PTables) (ops : List Str) (ph : Str) (p o : Nat) (body : Str) : List Mark :=
  none :: some (' ', p) :: some (' ', p) ::
    (ph.map (fun c => some (c, p + o + PlainDisplay.elemOff T ops body)) ++
      ((PlainMath.punctOf T body).map (fun c => some (c, p + o + PlainMath.leadBlanks body)) ++ [none]))

/-- the marks of `\item` at position `p`: a mark, a blank, the next label of the innermost generator,
    a blank — all at `p` -/
def itemMarks (T : PTables) (p : Nat) (stk : List ItemGen) : List Mark :=
  none :: some (' ', p) :: ((PlainItem.labOf T stk).map (fun c => some (c, p)) ++ [some (' ', p)])

/-- the marks of a stateless segment that starts at position `p` (`[]` for the other kinds) -/
def fixOf (T : PTables) (st1 : PState) (p : Nat) : Seg → List Mark
  | .spc key => none :: (posText p (specialValD T.toTables key)).map some
  | .opn => [none]
  | .cls => [none]
  | .van _ _ => [none]
  | .verb _ s => none :: (posText (p + 6) s).map some
  | .ref name _ => none :: PlainRef.fixMarks p (PlainRef.phOf st1 name)
  | .cite _ _ => none :: (PlainRef.fixMarks p "[0]".toList ++ [none])
  | .citeN name note _ =>
    none :: (PlainRef.fixMarks p "[0, ".toList ++ ((posText (p + name.length + 2) note).map some ++
      [some (']', p + name.length + 2 + lastTokOff note), none]))
  | .head name title =>
    none :: ((posText (p + name.length + 2) title).map some ++ dotMarks T (p + name.length + 2) title)
  | .acc name _ _ l => (PlainAccent.accVal T name l).map (fun x => some (x, p))
  | _ => []

/-- **the reference for the main flow**, in closed form: the document, which starts at position
    `p`, as a list of marks (`some (c, pos)` = an output character with its position, `none` = the
    model leaves an Action token there); `repls` = the inline placeholders of the language, `k` =
    the number of formulas in front, `env` = the definitions in force:
    * text: every character with its own position;
    * a stateless construct: `fixOf` (special sequences, braces, vanishing calls, `\verb`,
      references, citations, headings as in `PlainMix2.marks`; an accent call: the character(s) of
      the table at the backslash, NO mark; a comment: nothing);
    * a control word, a footnote: a mark;
    * the `k+1`-st formula: `mathMarksR` with the placeholder `PlainMath.placeholder repls (k+1)`;
    * a definition: a mark; it comes into force behind it;
    * a use `\name{a1}…{am}`: a mark, the body of the definition in force with `#k` replaced by
      the `k`-th argument at its own positions (`PlainMacroArgs.bodyMarks`), the groups that are
      left (`groupMarks`); for an undefined name: a mark and all groups. -/
def marks (T : PTables) (st1 : PState) (repls drepls : List Str) :
    Env → List ItemGen → Nat → Nat → Nat → List Seg → List Mark
  | _, _, _, _, _, [] => []
  | env, stk, k, k2, p, .txt s :: rest =>
    (posText p s).map some ++ marks T st1 repls drepls env stk k k2 (p + s.length) rest
  | env, stk, k, k2, p, .cw name sp :: rest =>
    none :: marks T st1 repls drepls env stk k k2 (p + (Seg.cw name sp).len) rest
  | env, stk, k, k2, p, .math par body :: rest =>
    mathMarksR T (PlainMath.placeholder repls (k + 1)) (mtoks T (p + (PlainMathRich.opn par).length) body)
      ++ marks T st1 repls drepls env stk (k + 1) k2 (p + (Seg.math par body).len) rest
  | env, stk, k, k2, p, .foot body :: rest => none :: marks T st1 repls drepls env stk k k2 (p + (Seg.foot body).len) rest
  | env, stk, k, k2, p, .defn name n body :: rest =>
    none :: marks T st1 repls drepls ((name, n, body) :: env) stk k k2 (p + (Seg.defn name n body).len) rest
  | env, stk, k, k2, p, .use name args :: rest =>
    none :: (bodyMarks (argSpans (p + name.length + 1) args)
              (startCur (argSpans (p + name.length + 1) args) p (defOf env name).2) (defOf env name).2
      ++ (groupMarks ((argSpans (p + name.length + 1) args).drop (defOf env name).1)
      ++ marks T st1 repls drepls env stk k k2 (p + (Seg.use name args).len) rest))
  | env, stk, k, k2, p, .disp body :: rest =>
    dispMarks T st1.mathOperators (PlainMath.placeholder drepls (k2 + 1)) p 2 body
      ++ marks T st1 repls drepls env stk k (k2 + 1) (p + (Seg.disp body).len) rest
  | env, stk, k, k2, p, .denv name body :: rest =>
    none :: none ::
      dispMarks T st1.mathOperators (PlainMath.placeholder drepls (k2 + 1)) p (name.length + 8) body
      ++ marks T st1 repls drepls env stk k (k2 + 1) (p + (Seg.denv name body).len) rest
  | env, stk, k, k2, p, .beg name :: rest =>
    PlainItem.envMarks (PlainItem.envOf st1 name) p ++ none ::
      marks T st1 repls drepls env (PlainItem.begStk st1 stk name) k k2 (p + (Seg.beg name).len) rest
  | env, stk, k, k2, p, .item ws :: rest =>
    itemMarks T p stk
      ++ marks T st1 repls drepls env (PlainItem.itemStk stk) k k2 (p + (Seg.item ws).len) rest
  | env, stk, k, k2, p, .en name :: rest =>
    PlainItem.envMarks (PlainItem.envOf st1 name) p
      ++ marks T st1 repls drepls env (PlainItem.endStk stk) k k2 (p + (Seg.en name).len) rest
  | env, stk, k, k2, p, s :: rest => fixOf T st1 p s ++ marks T st1 repls drepls env stk k k2 (p + s.len) rest

/-- the names that are recorded as unknown: undeclared control words and uses of names that are
    not (yet) defined — with backslash, in order of occurrence, with repetitions -/
def unkNames : Env → List Seg → List Str
  | _, [] => []
  | env, .cw name _ :: rest => ('\\' :: name) :: unkNames env rest
  | env, .defn name n body :: rest => unkNames ((name, n, body) :: env) rest
  | env, .use name _ :: rest =>
    (if (lookupDef env name).isNone then [('\\' :: name)] else []) ++ unkNames env rest
  | env, _ :: rest => unkNames env rest

def cwsOf : List MPart → List Str
  | [] => []
  | .cw name :: r => name :: cwsOf r
  | _ :: r => cwsOf r

/-- the side conditions that depend on the definitions in force (computable): an undeclared
    control word — in the text or in a formula — is not defined at that point (else it would be a
    use); a use has at least as many groups as the definition in force has parameters -/
def liveOk (T : PTables) (st1 : PState) : Env → List ItemGen → Nat → List Seg → Bool
  | _, _, _, [] => true
  | env, stk, p, .cw name sp :: rest =>
    (lookupDef env name).isNone && liveOk T st1 env stk (p + (Seg.cw name sp).len) rest
  | env, stk, p, .math par body :: rest =>
    (mtoks T (p + (PlainMathRich.opn par).length) body).all (fun x => liveTxt env x.txt) &&
      liveOk T st1 env stk (p + (Seg.math par body).len) rest
  | env, stk, p, .defn name n body :: rest =>
    liveOk T st1 ((name, n, body) :: env) stk (p + (Seg.defn name n body).len) rest
  | env, stk, p, .use name args :: rest =>
    decide ((defOf env name).1 ≤ args.length) && liveOk T st1 env stk (p + (Seg.use name args).len) rest
  | env, stk, p, .beg name :: rest =>
    liveOk T st1 env (PlainItem.begStk st1 stk name) (p + (Seg.beg name).len) rest
  | env, stk, p, .item ws :: rest =>
    PlainItem.labelAt T st1 stk && liveOk T st1 env (PlainItem.itemStk stk) (p + (Seg.item ws).len) rest
  | env, stk, p, .en name :: rest =>
    liveOk T st1 env (PlainItem.endStk stk) (p + (Seg.en name).len) rest
  | env, stk, p, s :: rest => liveOk T st1 env stk (p + s.len) rest

/-- the number of tokens inserted by the uses (upper bound; enters the fuel) -/
def inserted : Env → Nat → List Seg → Nat
  | _, _, [] => 0
  | env, p, .defn name n body :: rest => inserted ((name, n, body) :: env) (p + (Seg.defn name n body).len) rest
  | env, p, .use name args :: rest =>
    bodyInserted (argSpans (p + name.length + 1) args) (defOf env name).2
      + inserted env (p + (Seg.use name args).len) rest
  | env, p, s :: rest => inserted env (p + s.len) rest

/-- **the reference for the detached flows** (footnotes), as in `PlainMix2.flows` -/
def flows : Nat → List Seg → List (Char × Nat)
  | _, [] => []
  | p, .foot body :: rest => flowOut (p + 10) body ++ flows (p + (Seg.foot body).len) rest
  | p, s :: rest => flows (p + s.len) rest

def nFormulas : List Seg → Nat
  | [] => 0
  | .math _ _ :: rest => nFormulas rest + 1
  | _ :: rest => nFormulas rest

def nDisplays : List Seg → Nat
  | [] => 0
  | .disp _ :: rest => nDisplays rest + 1
  | .denv _ _ :: rest => nDisplays rest + 1
  | _ :: rest => nDisplays rest


/-- the text of the first scanner token of a well-formed source: a run of white space, a comment,
    a special sequence, a macro or accent token (`scan_macro`: a control word, or a backslash and
    one more character), the content of a `\verb`, or one character -/
def firstTokTxtV (T : Tables) : Str → Str
  | [] => []
  | d :: ds =>
    if isSpace d then (d :: ds).takeWhile isSpace
    else if d == '%' then (d :: ds).take (commentLen (d :: ds))
    else match matchSpecial T (d :: ds) with
      | some t => t
      | none =>
        if d == '\\' then
          (if (d :: ds).take (macroLen (d :: ds)) == sVerb then (scanVerb T [] 0 (d :: ds)).tok.txt
           else (d :: ds).take (macroLen (d :: ds)))
        else [d]

/-- the text character `c`, followed by `cs` (the whole rest of the source), is inert (`okAtU` of
    Proofs/PlainMixSrc.lean with the exact text of a following accent token) -/
def okAtV (T : PTables) (st : PState) (c : Char) (cs : Str) : Bool :=
  (!(activeChars T st).contains [c] ||
    (!isSpace c && (cs.isEmpty || !(shortKeys T st).contains (c :: firstTokTxtV T.toTables cs)))) &&
  (isSpace c || (!structuralChar c && (matchSpecial T.toTables (c :: cs)).isNone))

theorem okAtV_snd {T : PTables} {st : PState} {c : Char} {cs : Str} (h : okAtV T st c cs = true) :
    isSpace c = true ∨ (structuralChar c = false ∧ matchSpecial T.toTables (c :: cs) = none) := by
  simp only [okAtV, Bool.and_eq_true, Bool.or_eq_true] at h
  rcases h.2 with h | ⟨h1, h2⟩
  · exact Or.inl h
  · refine Or.inr ⟨by simpa using h1, ?_⟩
    cases hx : matchSpecial T.toTables (c :: cs) with
    | none => rfl
    | some _ => rw [hx] at h2; simp at h2

def textOkV (T : PTables) (st : PState) : Str → Str → Bool
  | [], _ => true
  | c :: cs, R => okAtV T st c (cs ++ R) && textOkV T st cs R

/-- the control word `\name` + white space `sp`, followed by `R`: `cwOkU` of Proofs/PlainMixSrc.lean -/
abbrev cwOkV := @cwOkU

/-- the value of an accent call has no line break, or is blank (real tables: one or two visible
    characters) — the blank-line removal is described character by character -/
def accNlOk (T : PTables) (name : Str) (l : Char) : Bool :=
  !hasNl (PlainAccent.accVal T name l) || isBlank (PlainAccent.accVal T name l)

/-- `\item` and the white space `ws` behind it, followed by `R`: `PlainItem.itemOk` (no special
    sequence at the backslash; at most one line break in `ws`; `R` is empty or starts with a visible
    character other than `[`); `R` does not start with a comment (`skip_space` would pass it) and
    its first token does not have the text `[` (a `\verb|[|` would be taken for a label); the blank
    is no active character (the blanks around the label are copied by the loop) -/
def itemOkV (T : PTables) (st : PState) (ws R : Str) : Bool :=
  PlainItem.itemOk T ws R && R.head?.all (fun d => d != '%') &&
  firstTokTxtV T.toTables R != ['['] && !(activeChars T st).contains [' ']

/-- well-formed documents, the STATIC part (relative to the initialised state `st`): every segment
    is fine in front of the rendering of the following ones -/
def segsOk (T : PTables) (st : PState) : List Seg → Bool
  | [] => true
  | .txt s :: rest => textOkV T st s (render rest) && segsOk T st rest
  | .spc k :: rest => spcOk T k (render rest) && segsOk T st rest
  | .opn :: rest => braceAt T '{' (render rest) && segsOk T st rest
  | .cls :: rest => braceAt T '}' (render rest) && segsOk T st rest
  | .cw name sp :: rest => cwOkU T st name sp (render rest) && segsOk T st rest
  | .van name key :: rest => PlainVanish.vanOk T st name key (render rest) && segsOk T st rest
  | .com body :: rest => comOk T st body (render rest) && segsOk T st rest
  | .verb d s :: rest => verbOkU T d s (render rest) && segsOk T st rest
  | .math par body :: rest => PlainMathRich.mathOk T st par body (render rest) && segsOk T st rest
  | .ref name key :: rest => PlainRef.refOk T st name key (render rest) && segsOk T st rest
  | .cite name key :: rest =>
    (PlainRef.citeOk T st name key (render rest) && PlainRef.stateOk T st) && segsOk T st rest
  | .citeN name note key :: rest =>
    (PlainRef.citeNOk T st name note key (render rest) && PlainRef.stateOk T st) && segsOk T st rest
  | .foot body :: rest =>
    (PlainFootnote.footOk T st body (render rest) && PlainFootnote.stateOk T st) && segsOk T st rest
  | .head name title :: rest =>
    (PlainHeading.headOk T st name title (render rest) && PlainHeading.stateOk T st)
      && segsOk T st rest
  | .acc name ws bo l :: rest =>
    (PlainAccent.accOk T name ws bo l (render rest) && accNlOk T name l) && segsOk T st rest
  | .defn name n body :: rest =>
    (PlainMacroArgs.defOk T st name n body (render rest) && PlainMacro.ncOk st) && segsOk T st rest
  | .use name args :: rest => PlainMacroArgs.useOk T st name args (render rest) && segsOk T st rest
  | .disp body :: rest =>
    (PlainDisplay.dispOk T st body (render rest) && !st.displayedSimple) && segsOk T st rest
  | .denv name body :: rest =>
    (PlainDisplay.envOk T st name body (render rest) && !st.displayedSimple) && segsOk T st rest
  | .beg name :: rest => PlainItem.begOk T st name (render rest) && segsOk T st rest
  | .item ws :: rest => itemOkV T st ws (render rest) && segsOk T st rest
  | .en name :: rest => PlainItem.endOk T st name (render rest) && segsOk T st rest

theorem opn_len (par : Bool) : ∃ c tl, PlainMathRich.opn par = c :: tl ∧ PlainMathRich.IsOpen (c :: tl) :=
  PlainMathRich.opn_cases par

end PlainMix3
end Yalafi
