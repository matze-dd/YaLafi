/-
  Proofs/PlainLangMixCor.lean — readings of the reference `PlainLangMix.refParts` (documents that mix
  `\selectlanguage`, `\foreignlanguage` and the `otherlanguage` environments):

    `textChars`            the text characters of the document with their source positions
    `stepStk`, `stkAfter`  the language stack behind a segment / a list of segments
    `langAt`               THE STACK DISCIPLINE ON THE DOCUMENT: the language code in force at a source
                           position — initial language; `sel` replaces the top; `frn` pushes for its
                           text and pops; `beg` pushes; `fin` pops (unless one entry is left)
    `refSecs_lang`         every character of a section is a text character of the source at its own
                           position, and the language of the section is `langAt` there
    `refParts_word_language`   every visible text character is filed under the code `langAt` of its
                           position, with its own position
    `refPlan_once`         the verbatim components of all pieces together hold every surviving text
                           character exactly once; everything else in a piece is a placeholder
    `stkAfter_env`, `langAt_env`   nesting: behind a closed environment the stack — hence the language
                           in force — is the one in front of it, whatever happened inside
-/
import YalafiVerif.Proofs.PlainLangMixE2E
namespace Yalafi
namespace PlainLangMix

open LinesLang (Item Mark ch isLg delLines)
open PlainLang (codeOfName selTok itemChars itemChars_ch groupSecs shiftParts posText_pairwise
  posText_source source_behind posText_append_pairwise)
open PlainForeign (secsItems stepStack emitSec mkSec openTok backTok bodyOff frnLen partOf shiftTp
  partOf_groupSecs partOf_shiftParts lcOf)
open PlainFootnote (lastTokOff)

/-! ### the items of a document -/

/-- the items of a document that starts at position `p` (before the blank-line removal) -/
def segItems (T : PTables) : Nat → List Seg → List Item
  | _, [] => []
  | p, .txt s :: rest => ch (posText p s) ++ segItems T (p + s.length) rest
  | p, .sel name :: rest => .inr (selTok T p (codeOfName T name)) :: segItems T (p + (name.length + 17)) rest
  | p, .frn n b :: rest =>
    .inr (openTok T p (codeOfName T n)) :: (ch (posText (p + bodyOff n) b) ++
      .inr (backTok (p + bodyOff n + lastTokOff b)) :: segItems T (p + frnLen n b) rest)
  | p, .beg star n :: rest => .inr (obegTok T p (codeOfName T n)) :: segItems T (p + begLen star n) rest
  | p, .fin star sp :: rest =>
    .inr (backTok p) :: ((if swallow star sp then [] else ch (posText (p + ((envName star).length + 6)) sp)) ++
      segItems T (p + finLen star sp) rest)

theorem segMarks_items (T : PTables) : ∀ (segs : List Seg) (p : Nat),
    (segMarks T p segs).filterMap id = segItems T p segs
  | [], _ => rfl
  | .txt s :: rest, p => by
    simp only [segMarks, segItems, List.filterMap_append, PlainMacro.filterMap_map_some, segMarks_items T rest]
  | .sel n :: rest, p => by
    simp [segMarks, segItems, segMarks_items T rest]
  | .frn n b :: rest, p => by
    have h1 : ∀ (x : Item) (l : List Mark), (some x :: l).filterMap id = x :: l.filterMap id := by
      intro x l; rfl
    simp only [segMarks, segItems]
    rw [List.filterMap_cons_none rfl, h1, List.filterMap_append, h1, PlainMacro.filterMap_map_some,
      segMarks_items T rest]
  | .beg star n :: rest, p => by
    simp [segMarks, segItems, segMarks_items T rest]
  | .fin star sp :: rest, p => by
    have h1 : ∀ (x : Item) (l : List Mark), (some x :: l).filterMap id = x :: l.filterMap id := by
      intro x l; rfl
    simp only [segMarks, segItems]
    rw [List.filterMap_cons_none rfl, h1, List.filterMap_append, List.filterMap_append,
      segMarks_items T rest]
    congr 1
    cases star <;> cases swallow _ sp <;> simp

/-- the characters of the text of a document that starts at position `p`, each with its (0-based)
    source position: the text segments, the texts of the insertions, and the white space behind
    `\end{otherlanguage[*]}` unless it is swallowed -/
def textChars : Nat → List Seg → List (Char × Nat)
  | _, [] => []
  | p, .txt s :: rest => posText p s ++ textChars (p + s.length) rest
  | p, .sel name :: rest => textChars (p + (name.length + 17)) rest
  | p, .frn n b :: rest => posText (p + bodyOff n) b ++ textChars (p + frnLen n b) rest
  | p, .beg star n :: rest => textChars (p + begLen star n) rest
  | p, .fin star sp :: rest =>
    (if swallow star sp then [] else posText (p + ((envName star).length + 6)) sp) ++
      textChars (p + finLen star sp) rest

theorem segItems_chars (T : PTables) : ∀ (segs : List Seg) (p : Nat),
    itemChars (segItems T p segs) = textChars p segs
  | [], _ => rfl
  | .txt s :: rest, p => by
    simp only [segItems, textChars, itemChars_ch, segItems_chars T rest]
  | .sel n :: rest, p => by
    simp only [segItems, textChars, itemChars_inr, segItems_chars T rest]
  | .frn n b :: rest, p => by
    simp only [segItems, textChars, itemChars_inr, itemChars_ch, segItems_chars T rest]
  | .beg star n :: rest, p => by
    simp only [segItems, textChars, itemChars_inr, segItems_chars T rest]
  | .fin star sp :: rest, p => by
    simp only [segItems, textChars, itemChars_inr]
    split
    · simp [segItems_chars T rest]
    · rw [itemChars_ch, segItems_chars T rest]

theorem fold_textChars : SegFold (fun p (s : Seg) => p + s.len) textChars :=
  ⟨fun _ => rfl, fun p s rest => by cases s <;> simp [textChars, Seg.len]⟩

theorem textChars_render : ∀ (segs : List Seg) (p0 : Nat) (cp : Char × Nat), cp ∈ textChars p0 segs →
    p0 ≤ cp.2 ∧ (render segs)[cp.2 - p0]? = some cp.1 := fun _ _ _ h =>
  fold_textChars.in_source (pos := id) (rend := Seg.render) (fun _ _ => rfl)
    (fun p s => by rw [Seg.render_length]; rfl)
    (fun p0 sg cp h => by
      -- the text `s` of the segment stands behind `pre`
      have inCase : ∀ (pre s post : Str), sg.render = pre ++ (s ++ post) →
          cp ∈ posText (p0 + pre.length) s → p0 ≤ cp.2 ∧ sg.render[cp.2 - p0]? = some cp.1 :=
        fun pre s post he hm => he ▸ posText_source pre s post p0 cp hm
      cases sg with
      | txt s => exact inCase [] s [] (by simp [Seg.render]) (by simpa [textChars] using h)
      | sel n => cases h
      | beg star n => cases h
      | frn n b =>
        refine inCase ('\\' :: (PlainForeign.frnName ++ '{' :: (n ++ ['}', '{']))) b ['}'] ?_ ?_
        · simp [Seg.render]
        · rw [PlainForeign.frnPre_length]; simpa [textChars] using h
      | fin star sp =>
        simp only [textChars, List.append_nil] at h
        split at h
        · cases h
        · refine inCase ('\\' :: (PlainItem.nEnd ++ '{' :: (envName star ++ ['}']))) sp [] ?_ ?_
          · simp [Seg.render]
          · have : ('\\' :: (PlainItem.nEnd ++ '{' :: (envName star ++ ['}']))).length
                = (envName star).length + 6 := by
              simp only [List.length_cons, List.length_append, nEnd_length, List.length_nil]
              omega
            rw [this]; exact h) h

theorem textChars_pairwise : ∀ (segs : List Seg) (p : Nat),
    (textChars p segs).Pairwise (fun a b => a.2 < b.2)
  | [], _ => List.Pairwise.nil
  | .txt s :: rest, p =>
    posText_append_pairwise s p _ (textChars_pairwise rest _) (fun c hc => (textChars_render rest _ c hc).1)
  | .sel n :: rest, p => textChars_pairwise rest _
  | .frn n b :: rest, p =>
    posText_append_pairwise b _ _ (textChars_pairwise rest _) (fun c hc => by
      have := (textChars_render rest _ c hc).1
      simp only [frnLen, bodyOff] at this ⊢
      omega)
  | .beg star n :: rest, p => textChars_pairwise rest _
  | .fin star sp :: rest, p => by
    simp only [textChars]
    split
    · exact textChars_pairwise rest _
    · exact posText_append_pairwise sp _ _ (textChars_pairwise rest _) (fun c hc => by
        have := (textChars_render rest _ c hc).1
        simp only [finLen] at this
        omega)

/-! ### the stack discipline on the document -/

/-- the language stack behind a segment: `\selectlanguage` replaces the top, `\begin{otherlanguage}`
    pushes, `\end{otherlanguage}` pops unless one entry is left; behind `\foreignlanguage{…}{…}` the
    stack is what it was in front of it -/
def stepStk (T : PTables) (stk : List Str) : Seg → List Str
  | .txt _ => stk
  | .sel name => codeOfName T name :: stk.tail
  | .frn _ _ => stk
  | .beg _ name => codeOfName T name :: stk
  | .fin _ _ => if stk.length > 1 then stk.tail else stk

def stkAfter (T : PTables) : List Str → List Seg → List Str
  | stk, [] => stk
  | stk, sg :: rest => stkAfter T (stepStk T stk sg) rest

/-- the language in force at position `q` INSIDE the segment `sg` that starts at `p`: the text of an
    insertion has the language of its name; the white space behind `\end{otherlanguage}` already has
    the language behind the environment (inside the commands themselves there is no text) -/
def langIn (T : PTables) (stk : List Str) (p : Nat) : Seg → Nat → Str
  | .txt _, _ => stackTop stk
  | .sel name, _ => codeOfName T name
  | .frn n b, q => if p + bodyOff n ≤ q ∧ q < p + bodyOff n + b.length then codeOfName T n else stackTop stk
  | .beg _ name, _ => codeOfName T name
  | .fin _ _, _ => stackTop (if stk.length > 1 then stk.tail else stk)

/-- **the language code in force at source position `q`** (`stk` = the language stack in front of the
    segment list, which starts at position `p`) -/
def langAt (T : PTables) : List Str → Nat → List Seg → Nat → Str
  | stk, _, [], _ => stackTop stk
  | stk, p, sg :: rest, q =>
    if q < p + sg.len then langIn T stk p sg q else langAt T (stepStk T stk sg) (p + sg.len) rest q

theorem stepStk_ne (T : PTables) (stk : List Str) (sg : Seg) (h : stk ≠ []) : stepStk T stk sg ≠ [] := by
  cases sg <;> simp only [stepStk] <;> try exact h
  · simp
  · simp
  · split
    · rename_i hl
      intro e
      have := congrArg List.length e
      simp at this
      omega
    · exact h

/-! ### characters paired with the language in force -/

theorem attrS_segItems (T : PTables) : ∀ (segs : List Seg) (stk : List Str) (p : Nat), stk ≠ [] →
    ∀ x ∈ attrS stk (segItems T p segs), x.1 = langAt T stk p segs x.2.2 ∧ p ≤ x.2.2
  | [], _, _, _ => by intro x h; cases h
  | .txt s :: rest, stk, p, hne => by
    intro x hx
    simp only [segItems, attrS_ch] at hx
    rcases List.mem_append.mp hx with hx | hx
    · obtain ⟨cp, hcp, rfl⟩ := List.mem_map.mp hx
      have := mem_posText hcp
      simp only [langAt, Seg.len, this.2, if_true, langIn]
      exact ⟨trivial, this.1⟩
    · have := attrS_segItems T rest stk _ hne x hx
      have hn : ¬ (x.2.2 < p + s.length) := by omega
      simp only [langAt, Seg.len, hn, if_false, stepStk]
      exact ⟨this.1, by omega⟩
  | .sel n :: rest, stk, p, hne => by
    intro x hx
    simp only [segItems, selTok, attrS_lang] at hx
    have hst : stepStack stk (codeOfName T n) false true = stepStk T stk (.sel n) := rfl
    rw [hst] at hx
    have := attrS_segItems T rest _ _ (stepStk_ne T stk _ hne) x hx
    have hn : ¬ (x.2.2 < p + (n.length + 17)) := by omega
    simp only [langAt, Seg.len, hn, if_false]
    exact ⟨this.1, by omega⟩
  | .frn n b :: rest, stk, p, hne => by
    intro x hx
    simp only [segItems, openTok, backTok, attrS_lang, attrS_ch] at hx
    have hback : stepStack (stepStack stk (codeOfName T n) false false) [] true false = stk := by
      have : 1 < stk.length + 1 := by
        have := List.length_pos_iff.mpr hne; omega
      simp [stepStack, this]
    rw [hback] at hx
    rcases List.mem_append.mp hx with hx | hx
    · obtain ⟨cp, hcp, rfl⟩ := List.mem_map.mp hx
      have := mem_posText hcp
      have h1 : cp.2 < p + frnLen n b := by simp only [frnLen, bodyOff] at this ⊢; omega
      simp only [langAt, Seg.len, h1, if_true, langIn, this.1, this.2, and_self]
      refine ⟨?_, by omega⟩
      simp [stepStack, stackTop]
    · have := attrS_segItems T rest stk _ hne x hx
      have hn : ¬ (x.2.2 < p + frnLen n b) := by omega
      simp only [langAt, Seg.len, hn, if_false, stepStk]
      exact ⟨this.1, by omega⟩
  | .beg star n :: rest, stk, p, hne => by
    intro x hx
    simp only [segItems, obegTok, attrS_lang] at hx
    have hst : stepStack stk (codeOfName T n) false false = stepStk T stk (.beg star n) := rfl
    rw [hst] at hx
    have := attrS_segItems T rest _ _ (stepStk_ne T stk _ hne) x hx
    have hn : ¬ (x.2.2 < p + begLen star n) := by omega
    simp only [langAt, Seg.len, hn, if_false]
    exact ⟨this.1, by omega⟩
  | .fin star sp :: rest, stk, p, hne => by
    intro x hx
    simp only [segItems, backTok, attrS_lang] at hx
    have hst : stepStack stk [] true false = stepStk T stk (.fin star sp) := rfl
    rw [hst] at hx
    have hrest : ∀ x ∈ attrS (stepStk T stk (.fin star sp)) (segItems T (p + finLen star sp) rest),
        x.1 = langAt T stk p (.fin star sp :: rest) x.2.2 ∧ p ≤ x.2.2 := by
      intro x hx
      have := attrS_segItems T rest _ _ (stepStk_ne T stk _ hne) x hx
      have hn : ¬ (x.2.2 < p + finLen star sp) := by omega
      simp only [langAt, Seg.len, hn, if_false]
      exact ⟨this.1, by omega⟩
    split at hx
    · exact hrest x (by simpa using hx)
    · rw [attrS_ch] at hx
      rcases List.mem_append.mp hx with hx | hx
      · obtain ⟨cp, hcp, rfl⟩ := List.mem_map.mp hx
        have := mem_posText hcp
        have h1 : cp.2 < p + finLen star sp := by simp only [finLen]; omega
        simp only [langAt, Seg.len, h1, if_true, langIn, stepStk]
        exact ⟨trivial, by omega⟩
      · exact hrest x hx

/-! ### the sections of the document -/

theorem refItems_sublist (T : PTables) (segs : List Seg) :
    List.Sublist (refItems T segs) (segItems T 0 segs) := by
  rw [← segMarks_items]
  exact LinesLang.delLines_sublist _

theorem refItems_langs (T : PTables) (segs : List Seg) :
    (refItems T segs).filter isLg = (segItems T 0 segs).filter isLg := by
  rw [← segMarks_items]
  exact LinesLang.delLines_langs _

theorem refSecs_chars (T : PTables) (main : Str) (segs : List Seg) :
    (refSecs T main segs).flatMap secChars = itemChars (refItems T segs) ∧
    List.Sublist (itemChars (refItems T segs)) (textChars 0 segs) := by
  refine ⟨by simp [refSecs, secsOf, secsItems_chars], ?_⟩
  rw [← segItems_chars T segs 0]
  exact (refItems_sublist T segs).filterMap _

theorem refItems_visible (T : PTables) (segs : List Seg) (c : Char) (p : Nat)
    (h : (c, p) ∈ textChars 0 segs) (hv : isSpace c = false) : (c, p) ∈ itemChars (refItems T segs) := by
  rw [← segItems_chars T segs 0, ← segMarks_items] at h
  exact PlainLang.itemChars_delLines (segMarks T 0 segs) c p h hv

/-- **the language of a section**: a character of a section is a text character of the source at its
    own position `p`, and the language of the section is `langAt` at `p` -/
theorem refSecs_lang (T : PTables) (main : Str) (segs : List Seg) :
    ∀ s ∈ refSecs T main segs, ∀ cp ∈ secChars s,
      cp ∈ textChars 0 segs ∧ s.lang = langAt T [main] 0 segs cp.2 := by
  intro s hs cp hcp
  rcases secsItems_attr (refItems T segs) [main] false false [] s hs cp hcp with ⟨_, h⟩ | h
  · cases h
  · have hsub := (attrS_sublist (refItems_sublist T segs) (refItems_langs T segs) [main]).subset h
    have hc := attrS_mem_chars _ _ _ hsub
    rw [segItems_chars] at hc
    exact ⟨hc, (attrS_segItems T segs [main] 0 (by simp) _ hsub).1⟩

/-! ### the plan mentions only sections of the input -/

def compSec : Comp → Sec
  | .own s => s
  | .ph s => s

theorem joinPlan_comp_mem (thresh : Nat) : ∀ (n : Nat) (rest : List Sec), rest.length ≤ n → ∀ (lang : Str),
    ∀ g ∈ joinPlan thresh lang rest, (∀ c ∈ g.comps, compSec c ∈ rest) ∧ ∀ s ∈ g.incls, s ∈ rest := by
  intro n rest hn
  clear hn
  revert rest
  refine tail2_induction ?_ ?_
  · intro lang g hg
    simp only [joinPlan, List.mem_singleton] at hg
    subst hg
    simp
  · intro s1 rest2 ih2 ih3 lang g hg
    rw [joinPlan_cons] at hg
    split at hg
    · cases rest2 with
      | nil =>
        simp only [List.mem_singleton] at hg
        subst hg
        simp [compSec]
      | cons s2 rest3 =>
        simp only [] at hg
        rcases mem_consHead hg with ⟨g0, gs', hg0, rfl⟩ | hg
        · obtain ⟨i1, i2⟩ := ih3 s2 rest3 rfl lang g0 (by rw [hg0]; exact List.mem_cons_self ..)
          refine ⟨?_, ?_⟩
          · intro c hc
            simp only [List.mem_append, List.mem_cons, List.not_mem_nil, or_false] at hc
            rcases hc with (rfl | rfl) | hc
            · simp [compSec]
            · simp [compSec]
            · exact List.mem_cons_of_mem _ (List.mem_cons_of_mem _ (i1 c hc))
          · intro s hs
            simp only [List.mem_append, List.mem_singleton] at hs
            rcases hs with rfl | hs
            · simp
            · exact List.mem_cons_of_mem _ (List.mem_cons_of_mem _ (i2 s hs))
        · obtain ⟨i1, i2⟩ := ih3 s2 rest3 rfl lang g (List.mem_of_mem_tail hg)
          exact ⟨fun c hc => List.mem_cons_of_mem _ (List.mem_cons_of_mem _ (i1 c hc)),
            fun s hs => List.mem_cons_of_mem _ (List.mem_cons_of_mem _ (i2 s hs))⟩
    · simp only [List.mem_cons] at hg
      rcases hg with rfl | hg
      · simp
      · rcases mem_consHead hg with ⟨g0, gs', hg0, rfl⟩ | hg
        · obtain ⟨i1, i2⟩ := ih2 s1.lang g0 (by rw [hg0]; exact List.mem_cons_self ..)
          refine ⟨?_, ?_⟩
          · intro c hc
            simp only [List.mem_append, List.mem_singleton] at hc
            rcases hc with rfl | hc
            · simp [compSec]
            · exact List.mem_cons_of_mem _ (i1 c hc)
          · intro s hs
            simp only [List.nil_append] at hs
            exact List.mem_cons_of_mem _ (i2 s hs)
        · obtain ⟨i1, i2⟩ := ih2 s1.lang g (List.mem_of_mem_tail hg)
          exact ⟨fun c hc => List.mem_cons_of_mem _ (i1 c hc), fun s hs => List.mem_cons_of_mem _ (i2 s hs)⟩

theorem planOf_comp_mem (thresh : Nat) (secs : List Sec) :
    ∀ g ∈ planOf thresh secs, ∀ c ∈ g.comps, compSec c ∈ secs := by
  intro g hg c hc
  cases secs with
  | nil => simp [planOf] at hg
  | cons s0 rest =>
    simp only [planOf] at hg
    rcases mem_consHead hg with ⟨g0, gs', hg0, rfl⟩ | hg
    · simp only [List.mem_append, List.mem_singleton] at hc
      rcases hc with rfl | hc
      · simp [compSec]
      · exact List.mem_cons_of_mem _ ((joinPlan_comp_mem thresh rest.length rest (Nat.le_refl _) s0.lang g0
          (by rw [hg0]; exact List.mem_cons_self ..)).1 c hc)
    · exact List.mem_cons_of_mem _ ((joinPlan_comp_mem thresh rest.length rest (Nat.le_refl _) s0.lang g
        (List.mem_of_mem_tail hg)).1 c hc)

theorem refPlan_wf (T : PTables) (main : Str) (thresh : Nat) (segs : List Seg) :
    ∀ g ∈ refPlan T main thresh segs, GroupWf g := by
  intro g hg c hc
  have hm := planOf_comp_mem thresh _ g hg c hc
  have hw := secsItems_wf _ _ _ _ _ _ hm
  cases c <;> exact hw

/-! ### every word under the language in force, with its own position -/

theorem tpChars_shiftTp (tp : Str × List Nat) :
    PlainForeign.tpChars (shiftTp tp) = (PlainForeign.tpChars tp).map (fun cp => (cp.1, cp.2 + 1)) :=
  PlainLang.tpChars_shift tp

/-- **every visible text character is filed under the language in force at its position**: under the
    key `langAt T [main] 0 segs p` there is a piece of text that holds the character `c` of source
    position `p` (0-based) with the position `p + 1` -/
theorem refParts_word_language (T : PTables) (main : Str) (thresh : Nat) (lc : LangChange)
    (segs : List Seg) (c : Char) (p : Nat) (h : (c, p) ∈ textChars 0 segs) (hv : isSpace c = false) :
    ∃ tp ∈ partOf (refParts T main thresh lc segs) (langAt T [main] 0 segs p),
      (c, p + 1) ∈ PlainForeign.tpChars tp := by
  -- the section that holds the character
  have hi := refItems_visible T segs c p h hv
  rw [← (refSecs_chars T main segs).1] at hi
  obtain ⟨s, hs, hcs⟩ := List.mem_flatMap.mp hi
  have hl := (refSecs_lang T main segs s hs (c, p) hcs).2
  -- its place in the plan
  have hperm := planOf_perm thresh (refSecs T main segs)
  have hsp : s ∈ planSecs (refPlan T main thresh segs) := (hperm.mem_iff).mpr hs
  simp only [planSecs, List.mem_flatMap, groupOwn, List.mem_append] at hsp
  obtain ⟨g, hg, hsg⟩ := hsp
  have hwf := refPlan_wf T main thresh segs
  obtain ⟨j1, j2⟩ := renderFrom_own (refPlan T main thresh segs) ⟨[], [], lc⟩ rfl hwf g hg
  obtain ⟨sec, hsec, hlang, hch⟩ : ∃ sec ∈ renderGroups lc (refPlan T main thresh segs),
      sec.lang = s.lang ∧ ∀ cp ∈ secChars s, cp ∈ secChars sec := by
    rcases hsg with ⟨cmp, hcmp, hown⟩ | hin
    · cases cmp with
      | ph x => simp [compOwn] at hown
      | own x =>
        simp only [compOwn, List.mem_singleton] at hown
        subst hown
        obtain ⟨sec, h1, h2, h3⟩ := j2 s hcmp
        exact ⟨sec, h1, by rw [h2, planOf_own_lang thresh _ g hg s hcmp], h3⟩
    · exact ⟨s, j1 s hin, rfl, fun cp h => h⟩
  refine ⟨shiftTp (sec.txt, sec.pos), ?_, ?_⟩
  · unfold refParts
    rw [partOf_shiftParts, partOf_groupSecs]
    refine List.mem_map.mpr ⟨(sec.txt, sec.pos), ?_, rfl⟩
    refine List.mem_map.mpr ⟨sec, ?_, rfl⟩
    exact List.mem_filter.mpr ⟨hsec, by rw [hlang, hl]; simp⟩
  · rw [tpChars_shiftTp]
    exact List.mem_map.mpr ⟨(c, p), hch _ hcs, rfl⟩

/-! ### every surviving character exactly once -/

/-- **the verbatim components of all pieces together hold every surviving text character exactly
    once.**  The sections that the plan holds verbatim (`planSecs`: the `own` components of the pieces
    and the inclusions, which are pieces of their own) spell — up to the order of the pieces — the
    text characters that survive the blank-line removal; no source position occurs twice among them;
    they are text characters of the source (a sublist: only white space is deleted, see
    `refItems_visible`).  Everything else in a piece is a placeholder (`Comp.ph`). -/
theorem refPlan_once (T : PTables) (main : Str) (thresh : Nat) (segs : List Seg) :
    List.Perm ((planSecs (refPlan T main thresh segs)).flatMap secChars) (itemChars (refItems T segs)) ∧
    ((itemChars (refItems T segs)).map (·.2)).Nodup ∧
    List.Sublist (itemChars (refItems T segs)) (textChars 0 segs) := by
  obtain ⟨h1, h2⟩ := refSecs_chars T main segs
  refine ⟨?_, ?_, h2⟩
  · rw [← h1]
    exact (planOf_perm thresh (refSecs T main segs)).flatMap_right _
  · have hpw := (textChars_pairwise segs 0).sublist h2
    rw [List.Nodup, List.pairwise_map]
    refine hpw.imp ?_
    intro a b hab
    omega

/-! ### nesting -/

/-- the segments between `\begin{otherlanguage}` and the matching `\end{otherlanguage}`: `d` = the number
    of environments that are open inside -/
def balanced : Nat → List Seg → Bool
  | d, [] => d == 0
  | d, .beg _ _ :: rest => balanced (d + 1) rest
  | d, .fin _ _ :: rest => decide (0 < d) && balanced (d - 1) rest
  | d, _ :: rest => balanced d rest

theorem stkAfter_balanced (T : PTables) (base : List Str) (hb : base ≠ []) :
    ∀ (body : List Seg) (d : Nat) (pre : List Str), pre.length = d + 1 → balanced d body = true →
      ∃ y, stkAfter T (pre ++ base) body = y :: base
  | [], d, pre, hl, h => by
    have hd : d = 0 := by simpa [balanced] using h
    subst hd
    obtain ⟨y, rfl⟩ : ∃ y, pre = [y] := by
      cases pre with
      | nil => simp at hl
      | cons y t => cases t with
        | nil => exact ⟨y, rfl⟩
        | cons z t => simp at hl
    exact ⟨y, rfl⟩
  | .txt s :: rest, d, pre, hl, h => stkAfter_balanced T base hb rest d pre hl h
  | .frn n b :: rest, d, pre, hl, h => stkAfter_balanced T base hb rest d pre hl h
  | .sel n :: rest, d, pre, hl, h => by
    obtain ⟨x, t, rfl⟩ : ∃ x t, pre = x :: t := by
      cases pre with
      | nil => simp at hl
      | cons x t => exact ⟨x, t, rfl⟩
    have := stkAfter_balanced T base hb rest d (codeOfName T n :: t) (by simpa using hl) h
    simpa [stkAfter, stepStk] using this
  | .beg star n :: rest, d, pre, hl, h => by
    have := stkAfter_balanced T base hb rest (d + 1) (codeOfName T n :: pre) (by simp [hl]) h
    simpa [stkAfter, stepStk] using this
  | .fin star sp :: rest, d, pre, hl, h => by
    simp only [balanced, Bool.and_eq_true, decide_eq_true_eq] at h
    obtain ⟨x, t, rfl⟩ : ∃ x t, pre = x :: t := by
      cases pre with
      | nil => simp at hl
      | cons x t => exact ⟨x, t, rfl⟩
    have hlen : ((x :: t) ++ base).length > 1 := by
      have := List.length_pos_iff.mpr hb
      simp; omega
    have := stkAfter_balanced T base hb rest (d - 1) t (by simp at hl; omega) h.2
    have e : stepStk T (x :: t ++ base) (.fin star sp) = t ++ base := by
      simp only [stepStk, if_pos hlen]; rfl
    simp only [stkAfter, e]
    exact this

theorem stkAfter_append (T : PTables) : ∀ (a b : List Seg) (stk : List Str),
    stkAfter T stk (a ++ b) = stkAfter T (stkAfter T stk a) b
  | [], _, _ => rfl
  | _ :: a, b, _ => stkAfter_append T a b _

/-- **nesting, the stack**: behind a closed environment the language stack is the one in front of it
    — whatever happened inside (`body` balanced: every `\begin{otherlanguage}` in it is closed in
    it), including a `\selectlanguage` inside the environment: it replaced the top that the
    environment had pushed, and that entry is popped by `\end{otherlanguage}` -/
theorem stkAfter_env (T : PTables) (stk : List Str) (hstk : stk ≠ []) (star star' : Bool) (name : Str)
    (body : List Seg) (sp : Str) (hb : balanced 0 body = true) :
    stkAfter T stk (.beg star name :: (body ++ [.fin star' sp])) = stk := by
  obtain ⟨y, hy⟩ := stkAfter_balanced T stk hstk body 0 [codeOfName T name] rfl hb
  simp only [stkAfter, stepStk, stkAfter_append]
  simp only [List.singleton_append] at hy
  rw [hy]
  have : (y :: stk).length > 1 := by
    have := List.length_pos_iff.mpr hstk
    simp; omega
  simp only [if_pos this, List.tail_cons]

def lenSegs : List Seg → Nat
  | [] => 0
  | sg :: rest => sg.len + lenSegs rest

theorem langAt_append (T : PTables) : ∀ (a b : List Seg) (stk : List Str) (p q : Nat),
    p + lenSegs a ≤ q → langAt T stk p (a ++ b) q = langAt T (stkAfter T stk a) (p + lenSegs a) b q
  | [], _, _, _, _, _ => by simp [lenSegs, stkAfter]
  | sg :: a, b, stk, p, q, h => by
    simp only [lenSegs] at h
    have hn : ¬ (q < p + sg.len) := by omega
    simp only [List.cons_append, langAt, hn, if_false, stkAfter, lenSegs]
    rw [langAt_append T a b _ _ q (by omega), Nat.add_assoc]

/-- **nesting, the language in force**: at every position behind a closed environment the language
    in force is computed from the stack IN FRONT of the environment -/
theorem langAt_env (T : PTables) (stk : List Str) (hstk : stk ≠ []) (star star' : Bool) (name : Str)
    (body : List Seg) (sp : Str) (hb : balanced 0 body = true) (rest : List Seg) (p q : Nat)
    (hq : p + lenSegs (.beg star name :: (body ++ [.fin star' sp])) ≤ q) :
    langAt T stk p (.beg star name :: (body ++ [.fin star' sp]) ++ rest) q
      = langAt T stk (p + lenSegs (.beg star name :: (body ++ [.fin star' sp]))) rest q := by
  rw [langAt_append T _ rest stk p q hq, stkAfter_env T stk hstk star star' name body sp hb]

end PlainLangMix
end Yalafi
