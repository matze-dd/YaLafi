/-
  Proofs/InlineShape.lean — C10: the rendering of an inline formula that consists of a single
  maths part by `mathparser.replace_section` (model: `replaceSection` with `inline = true`).
-/
import YalafiVerif.Model.Expander
namespace Yalafi

def lastNonBlank (s : Str) : Option Char := s.reverse.find? (fun c => !isSpace c)

theorem head?_dropWhile_eq_find? {α} (p : α → Bool) (l : List α) :
    (l.dropWhile p).head? = l.find? (fun a => !p a) := by
  induction l with
  | nil => rfl
  | cons a t ih =>
    by_cases h : p a <;> simp [h, ih]

theorem find?_not_dropWhile {α} (p : α → Bool) (l : List α) :
    (l.dropWhile p).reverse.find? (fun a => !p a) = l.reverse.find? (fun a => !p a) := by
  induction l with
  | nil => rfl
  | cons a t ih =>
    by_cases h : p a
    · simp only [List.dropWhile_cons, h, if_true, ih, List.reverse_cons, List.find?_append,
        List.find?_cons, List.find?_nil, Bool.not_true]
      simp
    · simp [h]

theorem strip_getLast? (s : Str) : (strip s).getLast? = lastNonBlank s := by
  unfold strip rstrip lstrip lastNonBlank
  rw [List.getLast?_reverse, head?_dropWhile_eq_find?, find?_not_dropWhile]

/-- closing punctuation of a maths part: the last non-blank character of its text, if it is
    one of the `math_punctuation` characters -/
def partPunct (T : PTables) (ts : List Tok) : Option Char :=
  match lastNonBlank (getTextDirect ts) with
  | some c => if T.mathPunctuation.contains [c] then some c else none
  | none => none

/-- what an inline formula `ts` (first token `t0`, last token `tl`) is rendered as, `r0` being the
    placeholder whose turn it is: everything pinned at the position of the first token -/
def inlineShape (T : PTables) (ts : List Tok) (t0 tl : Tok) (r0 : Str) : List Tok :=
  (if t0.kind = .mathSpace then [mathSp t0.pos] else [])
  ++ [mkFix .text t0.pos r0]
  ++ (match partPunct T ts with | some c => [mkFix .text t0.pos [c]] | none => [])
  ++ (if tl.kind = .mathSpace then [mathSp t0.pos] else [])

theorem inlineShape_fix_pos (T : PTables) (ts : List Tok) (t0 tl : Tok) (r0 : Str) :
    ∀ t ∈ inlineShape T ts t0 tl r0, t.fix = true ∧ t.pos = t0.pos := by
  intro t ht
  unfold inlineShape at ht
  simp only [List.mem_append, List.mem_singleton] at ht
  rcases ht with ((ht | ht) | ht) | ht
  · split at ht
    · simp only [List.mem_singleton] at ht; subst ht; simp [mathSp, mkFix]
    · simp at ht
  · subst ht; simp [mkFix]
  · split at ht
    · simp only [List.mem_singleton] at ht; subst ht; simp [mkFix]
    · simp at ht
  · split at ht
    · simp only [List.mem_singleton] at ht; subst ht; simp [mathSp, mkFix]
    · simp at ht

/-- kinds and texts of the rendering: `[blank] placeholder [punctuation] [blank]` -/
theorem inlineShape_kinds (T : PTables) (ts : List Tok) (t0 tl : Tok) (r0 : Str) :
    (inlineShape T ts t0 tl r0).map (fun t => (t.kind, t.txt)) =
      (if t0.kind = .mathSpace then [(Kind.space, [' '])] else [])
      ++ [(Kind.text, r0)]
      ++ (match partPunct T ts with | some c => [(Kind.text, [c])] | none => [])
      ++ (if tl.kind = .mathSpace then [(Kind.space, [' '])] else []) := by
  unfold inlineShape
  cases partPunct T ts <;> by_cases h0 : t0.kind = .mathSpace <;> by_cases hl : tl.kind = .mathSpace <;>
    simp [h0, hl, mathSp, mkFix]

theorem rotL_ne_nil (l : List Str) (h : l ≠ []) : rotL l ≠ [] := by
  cases l with
  | nil => exact absurd rfl h
  | cons a t => simp [rotL]

local macro "inline_fin" T:ident ts:ident t0:ident tl:ident : tactic => `(tactic| (
  apply Exists.intro
  congr 2
  unfold inlineShape partPunct
  cases hc : lastNonBlank (getTextDirect $ts) with
  | none =>
    by_cases h1 : Tok.kind $t0 = .mathSpace <;> by_cases h2 : Tok.kind $tl = .mathSpace <;>
      simp [h1, h2]
  | some c =>
    by_cases hp : [c] ∈ PTables.mathPunctuation $T <;>
    by_cases h1 : Tok.kind $t0 = .mathSpace <;> by_cases h2 : Tok.kind $tl = .mathSpace <;>
      simp [h1, h2, hp]))

/-- one maths part in inline mode: the placeholder list is rotated once, the rendering is
    appended; first-part flag unchanged -/
theorem replaceStep_inline_part (T : PTables) (opText : List (Str × Str)) (opDefault : Option Str)
    (s : RsState) (ts : List Tok) (t0 tl : Tok) (r0 : Str)
    (h0 : ts.head? = some t0) (hl : ts.getLast? = some tl)
    (hns : ts.all (·.kind == .mathSpace) = false)
    (hr : (rotL s.repls).head? = some r0) :
    ∃ nr, replaceStep T opText opDefault true s (.part ts) =
      some { firstPart := s.firstPart, nextRepl := nr, repls := rotL s.repls,
             out := s.out ++ inlineShape T ts t0 tl r0 } := by
  simp only [replaceStep, h0, hl, hns, Bool.false_eq_true, if_false, Bool.not_true, Bool.false_and,
    Bool.true_or, if_true, hr, strip_getLast?]
  have hsplit : ∀ o : Option Tok, o = none ∨ ∃ t, o = some t := by
    intro o; cases o <;> simp
  rcases hsplit (List.find? (fun x => x.kind != Kind.mathSpace) ts) with hfo | ⟨t, hfo⟩
  · simp only [hfo]
    inline_fin T ts t0 tl
  · by_cases hk : (t.kind == Kind.mathOper) = true
    · simp only [hfo, hk, if_true]
      inline_fin T ts t0 tl
    · simp only [hfo, hk, if_false, Bool.false_eq_true]
      inline_fin T ts t0 tl

/-- C10 (model): an inline formula that is a single maths part (not only maths spaces) is rendered
    as exactly `[blank] placeholder [closing punctuation] [blank]`; the placeholder is the head of
    the once-rotated collection, which is handed on rotated. -/
theorem replaceSection_inline_single (T : PTables) (opText : List (Str × Str)) (opDefault : Option Str)
    (ts : List Tok) (firstSection nextRepl : Bool) (repls : List Str) (t0 tl : Tok) (r0 : Str)
    (h0 : ts.head? = some t0) (hl : ts.getLast? = some tl)
    (hns : ts.all (·.kind == .mathSpace) = false)
    (hr : (rotL repls).head? = some r0) :
    ∃ rs, replaceSection T opText opDefault true [.part ts] firstSection nextRepl repls = some rs ∧
      rs.repls = rotL repls ∧ rs.firstPart = !firstSection ∧
      rs.out = inlineShape T ts t0 tl r0 := by
  obtain ⟨nr, h⟩ := replaceStep_inline_part T opText opDefault
    { firstPart := !firstSection, nextRepl := nextRepl, repls := repls, out := [] } ts t0 tl r0 h0 hl hns hr
  refine ⟨{ firstPart := !firstSection, nextRepl := nr, repls := rotL repls,
            out := [] ++ inlineShape T ts t0 tl r0 }, ?_, rfl, rfl, by simp⟩
  unfold replaceSection
  simp only [List.foldlM_cons, List.foldlM_nil, h]
  rfl

theorem detectMathParts_all_math : ∀ (toks cur : List Tok), (∀ t ∈ toks, isMathTok t = true) →
    detectMathParts toks cur = if (cur.reverse ++ toks).isEmpty then [] else [.part (cur.reverse ++ toks)] := by
  intro toks
  induction toks with
  | nil => intro cur _; cases cur <;> simp [detectMathParts]
  | cons t ts ih =>
    intro cur h
    simp only [detectMathParts, h t (by simp), if_true]
    rw [ih (t :: cur) (fun u hu => h u (by simp [hu]))]
    simp

theorem detectMathParts_single (toks : List Tok) (h : ∀ t ∈ toks, isMathTok t = true) (hne : toks ≠ []) :
    detectMathParts toks [] = [.part toks] := by
  rw [detectMathParts_all_math toks [] h]
  cases toks with
  | nil => exact absurd rfl hne
  | cons a t => simp

/-- C10 for a section given as tokens, with the side conditions as in the property: `toks ≠ []`,
    not all maths spaces, `repls ≠ []` — the call never fails -/
theorem replaceSection_inline_mathToks (T : PTables) (opText : List (Str × Str)) (opDefault : Option Str)
    (toks : List Tok) (firstSection nextRepl : Bool) (repls : List Str)
    (hm : ∀ t ∈ toks, isMathTok t = true)
    (hts : toks ≠ []) (hns : ¬ ∀ t ∈ toks, t.kind = .mathSpace) (hrepls : repls ≠ []) :
    ∃ rs, replaceSection T opText opDefault true (detectMathParts toks []) firstSection nextRepl repls = some rs ∧
      rs.repls = rotL repls ∧ rs.firstPart = !firstSection ∧
      rs.out = inlineShape T toks (toks.head hts) (toks.getLast hts)
        ((rotL repls).head (rotL_ne_nil repls hrepls)) := by
  rw [detectMathParts_single toks hm hts]
  apply replaceSection_inline_single
  · exact List.head?_eq_some_head hts
  · exact List.getLast?_eq_some_getLast hts
  · cases hall : toks.all (·.kind == .mathSpace) with
    | false => rfl
    | true =>
      exfalso; apply hns
      intro t ht
      have := List.all_eq_true.1 hall t ht
      simpa using this
  · exact List.head?_eq_some_head _

end Yalafi
