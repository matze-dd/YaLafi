/-
  Proofs/PlainFaultSkip.lean — C08 at an UNCLOSED SKIP COMMENT (`%%% LT-SKIP-BEGIN` without
  `%%% LT-SKIP-END`), end to end on the model.

  Document: `pre ++ %body ++ post` — `pre`, `post` inert text (so there is no comment token in
  `post`, in particular no `%%% LT-SKIP-END`); `%body` is exactly the comment token the scanner
  reads at the `%` (`commentLen`: the rest of the line, and — unless a blank line follows — the line
  break and the white space at the start of the next line) and starts with the marker
  `st1.skipBegin` (`%%% LT-SKIP-BEGIN` unless `--nosp`).

  What the model (= the pre-pass of `Parser.parser_work`) does: it looks for the closing comment in
  the scanned tokens, does not find it, calls `latex_error('cannot find closing LaTeX comment ' +
  repr(skip_end), pos of the opening comment)` and REPLACES THE OPENING COMMENT TOKEN by the mark
  tokens; everything behind it is kept and expanded as usual.  No Action token arises: no condition
  on the mark.

  Side conditions (reasons)
    `pre`, `post`    inert text in their right context
    `commentLen ('%' :: (body ++ post)) = |body| + 1`   `%body` is the whole comment token
    `startsWith ('%' :: body) st1.skipBegin`           it opens a skipped region
    blank            no "active character" (the mark tokens pass `expand_sequence`)
  NOT covered: other comments, macros or maths in `pre` / `post` (a second opening comment behind the
  first is simply dropped by the loop — only the first one is reported).
-/
import YalafiVerif.Proofs.PlainFaultBase
import YalafiVerif.Proofs.PlainComment
namespace Yalafi
namespace PlainFault

open M
open PlainFootnote (TextRun CopyTok lineC LinesOf)
open PlainMathOpen (markPos)

def comTok (pos : Nat) (body : Str) : Tok := { kind := .comment, pos := pos, txt := '%' :: body }

theorem skipPass_open (st : PState) (A B : List Tok) (com : Tok) (fuel : Nat) (hA : NoCom A) (hB : NoCom B)
    (hk : com.kind = .comment) (hs : startsWith com.txt st.skipBegin = true) :
    skipPass st (fuel + 1) (A ++ com :: B) [] = (A, some com.pos, B) := by
  have hpre : (A ++ com :: B).takeWhile
      (fun t => !(t.kind == .comment && startsWith t.txt st.skipBegin)) = A := by
    apply takeWhile_stop
    · intro t ht
      have := hA t ht
      simp [this]
    · simp [hk, hs]
  have hmid : B.takeWhile (fun t => !(t.kind == .comment && startsWith t.txt st.skipEnd)) = B := by
    apply takeWhile_all
    intro t ht
    have := hB t ht
    simp [this]
  simp only [skipPass, hpre, List.drop_left', hmid, List.drop_length, List.nil_append]

theorem prePass_open (T : PTables) (st : PState) (A B : List Tok) (com : Tok) (hA : NoCom A) (hB : NoCom B)
    (hk : com.kind = .comment) (hs : startsWith com.txt st.skipBegin = true) :
    prePass T st (A ++ com :: B) st
      = .ok (A ++ (latexErrorToks T.toTables (errSkip st) com.pos st.latex.length ++ B),
             { st with diags := st.diags ++ [latexErrorDiag (errSkip st) com.pos st.latex] }) := by
  simp only [prePass, skipPass_open st A B com _ hA hB hk hs]
  show M.bind' (latexError T.toTables (errSkip st) com.pos) _ _ = _
  simp only [M.bind', latexError, List.append_assoc]
  rfl

def skipFaultOk (T : PTables) (st : PState) (pre body post : Str) : Bool :=
  PlainFootnote.textOk T st pre ('%' :: body ++ post) &&
  PlainFootnote.textOk T st post [] &&
  (commentLen ('%' :: (body ++ post)) == body.length + 1) &&
  startsWith ('%' :: body) st.skipBegin &&
  !(activeChars T st).contains [' ']

/-- **C08 at an unclosed skip comment, end to end.**  `src = pre ++ %body ++ post` (`skipFaultOk`).
    Then `tex2txt` succeeds and

    * the text is `pre`, the COMPLETE mark `errMark`, `post` — the opening comment is replaced by
      the mark, nothing behind it is skipped;
    * `pre` and `post` keep their own positions; the mark is mapped to the `%` of the opening comment
      (1-based `P + 1`; `markPos1`);
    * exactly one diagnostic is added: `cannot find closing LaTeX comment '…'` (with the closing
      marker `st1.skipEnd`) at the line and column of the `%`; nothing is reported as unknown. -/
theorem tex2txt_skip_unclosed (T : PTables) (o : Options) (fs : FS) (thresh : Nat)
    (pre body post : Str) (fuel : Nat) (st1 : PState)
    (hdefs : o.defs = []) (hextr : o.extr = []) (hrepl : o.hasRepl = false) (hunkn : o.unkn = false)
    (hinit : initParser T fuel o (initialState T o false fs) = .ok ((), st1))
    (hok : skipFaultOk T st1 pre body post = true)
    (hf : (pre ++ ('%' :: body ++ post)).length + 4 ≤ fuel) :
    let src := pre ++ ('%' :: body ++ post)
    let P := pre.length
    let d := latexErrorDiag (errSkip st1) P src
    ∃ r, tex2txt T fuel src o false thresh fs = .ok r ∧
      r.txt = pre ++ (errMark T.toTables (errSkip st1) ++ post) ∧
      r.pos = List.range' 1 pre.length ++ (markPos1 T.toTables (errSkip st1) src.length P
        ++ List.range' (P + body.length + 2) post.length) ∧
      r.unknowns = [] ∧ r.diags = st1.diags ++ [d] ∧
      d.msg = errSkip st1 ∧ d.line = countNl pre + 1 ∧ d.col = (afterLastNl pre).length + 1 := by
  intro src P d
  simp only [skipFaultOk, Bool.and_eq_true, Bool.not_eq_true', beq_iff_eq] at hok
  obtain ⟨⟨⟨⟨hpre, hpost⟩, hlen⟩, hstart⟩, hblank⟩ := hok
  have hPn : P < src.length := pos_in_frame pre _ post (k := 0) (Nat.succ_pos _)
  let stS := workState (rootState st1) src []
  let stW : PState := { stS with diags := stS.diags ++ [latexErrorDiag (errSkip st1) P src] }
  have hW : Ext st1 stW := Reads.ext ⟨rfl, rfl⟩
  obtain ⟨r, h, h1, h2, h3, h4⟩ := fault_frame T o fs thresh pre ('%' :: body) post fuel st1 stW stW
    [{ tok := comTok P body, len := body.length + 1 }] [comTok P body] []
    (latexErrorToks T.toTables (errSkip st1) P src.length)
    (latexErrorToks T.toTables (errSkip st1) P src.length) 0 2
    hdefs hextr hrepl hunkn hinit hpre (by simp [show isSpace '%' = false by decide])
    (Comment.scans_comment T src P hlen).eq rfl rfl hpost
    (fun A B hA hB => prePass_open T stS A B (comTok P body) (NoCom.copy hA) (NoCom.copy hB) rfl hstart)
    hW hW
    (fun B _ out => seqRun_mark T stW _ P src.length hPn
      (by rw [hW.activeChars]; exact hblank) none B out)
    (fun A B _ _ _ _ hA hB => removeLines_mark _ P src.length A B hA hB)
    (PlainMathOpen.latexErrorToks_txtpos ..) rfl
    (by omega)
  rw [List.append_nil] at h1
  rw [markPos_map T.toTables (errSkip st1) src.length P hPn, List.map_nil, List.append_nil] at h2
  exact ⟨r, h, h1, h2, h3, h4.trans (congrArg (· ++ [d]) (List.append_nil _)), diag_after _ pre _⟩

end PlainFault
end Yalafi
