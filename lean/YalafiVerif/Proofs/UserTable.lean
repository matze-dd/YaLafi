/-
  Proofs/UserTable.lean — the macro table while a document with definitions is expanded.

    `find_replace`, `find_setMacro`, `lookup_setMacro`   a look-up behind `the_macros[name] = m`
    `assoc_cons`                                         a look-up in an environment of a reference
    `Users P st1 st`      every macro of `st` that the initialised state `st1` does not declare satisfies `P`
                          (`.refl`, `.of_macros`, `.set`); instance: `PlainMix4.BS`
    `Keeps P st1 st`      `st` extends `st1` (`Ext` of Proofs/Plain.lean: the same frame, declared macros keep
                          their meaning) and `Users P st1 st` (`.decl`, `.refl`, `.reads`, `.set`;
                          `decl_set`); instances: `PlainMacroArgs.StOk` (also the invariant of the loop of PlainMix4),
                          `PlainOptArg.OStOk`, `PlainDefTexNest.StOkN` (`PlainMacro.StOk` is the same without
                          the rest of the frame)
    `Agree look R st1 st` the state agrees with the environment of the reference (`look`: its latest definition
                          of a name) on the names `st1` does not declare: a defined name has a macro that `R`
                          relates to the definition, another name has none (`.init`, `.undef`, `.defined`,
                          `.of_macros`, `.set`); instances: `PlainMacro.Rel`, `PlainMacroArgs.Rel`,
                          `PlainOptArg.ORel`, `PlainDefTexNest.RelN`
  A class says in `P` / `R` what it knows of a stored macro; a definition is `.set`, every other step of the
  loop `.reads` / `.of_macros`.
-/
import YalafiVerif.Proofs.Plain
namespace Yalafi
namespace PlainMacro

theorem find_replace (m : MacroDef) (n : Str) : ∀ ms : List MacroDef,
    (ms.map fun x => if x.name == m.name then m else x).find? (·.name == n)
      = if m.name == n then (if ms.any (·.name == m.name) then some m else none)
        else ms.find? (·.name == n)
  | [] => by simp
  | x :: xs => by
    simp only [List.map_cons, List.find?_cons, List.any_cons, find_replace m n xs]
    by_cases hx : x.name = m.name
    · have e : (x.name == m.name) = true := by simpa using hx
      simp only [e, if_true, Bool.true_or]
      by_cases hn : m.name = n
      · have h1 : (m.name == n) = true := by simpa using hn
        simp only [h1, if_true]
      · have h1 : (m.name == n) = false := by simpa using hn
        have h2 : (x.name == n) = false := by rw [hx]; exact h1
        simp only [h1, h2, Bool.false_eq_true, if_false]
    · have e : (x.name == m.name) = false := by simpa using hx
      simp only [e, Bool.false_eq_true, if_false, Bool.false_or]
      by_cases hn : m.name = n
      · have h1 : (m.name == n) = true := by simpa using hn
        have h2 : (x.name == n) = false := by rw [← hn]; exact e
        simp only [h1, h2, if_true]
      · have h1 : (m.name == n) = false := by simpa using hn
        simp only [h1, Bool.false_eq_true, if_false]

theorem find_setMacro (ms : List MacroDef) (m : MacroDef) (n : Str) :
    (setMacro ms m).find? (·.name == n) = if m.name == n then some m else ms.find? (·.name == n) := by
  unfold setMacro
  by_cases hany : ms.any (·.name == m.name) = true
  · rw [if_pos hany, find_replace, hany, if_pos rfl]
  · rw [if_neg hany, List.find?_append]
    by_cases hn : m.name = n
    · have : ms.find? (·.name == n) = none :=
        List.find?_eq_none.mpr fun y hy e => hany (List.any_eq_true.mpr ⟨y, hy, by rw [hn]; exact e⟩)
      simp [this, hn]
    · simp [hn]

theorem lookup_setMacro (st : PState) (m : MacroDef) (n : Str) :
    lookupMacro { st with macros := setMacro st.macros m } n
      = if m.name == n then some m else lookupMacro st n := by
  unfold lookupMacro
  exact find_setMacro st.macros m n

end PlainMacro

namespace UserTable
open PlainMacro (lookup_setMacro)

theorem assoc_cons {δ : Type} (env : List (Str × δ)) (n : Str) (d : δ) (name : Str) :
    (((n, d) :: env).find? (·.1 == name)).map (·.2)
      = if n == name then some d else (env.find? (·.1 == name)).map (·.2) := by
  rw [List.find?_cons]
  cases n == name <;> rfl

theorem decl_set {st1 st : PState} (h : ∀ nm m, lookupMacro st1 nm = some m → lookupMacro st nm = some m)
    (m : MacroDef) (hu : lookupMacro st1 m.name = none) :
    ∀ nm m', lookupMacro st1 nm = some m' →
      lookupMacro { st with macros := setMacro st.macros m } nm = some m' := by
  intro nm m' hm
  have : m.name ≠ nm := fun e => by rw [e, hm] at hu; cases hu
  rw [lookup_setMacro, if_neg (by simpa using this)]
  exact h nm m' hm

/-! ### the user macros of a state -/

def Users (P : Str → MacroDef → Prop) (st1 st : PState) : Prop :=
  ∀ nm m, lookupMacro st1 nm = none → lookupMacro st nm = some m → P nm m

theorem Users.refl (P : Str → MacroDef → Prop) (st1 : PState) : Users P st1 st1 :=
  fun nm m h1 h2 => by rw [h1] at h2; cases h2

theorem Users.of_macros {P : Str → MacroDef → Prop} {st1 st st' : PState} (h : Users P st1 st)
    (hm : st'.macros = st.macros) : Users P st1 st' :=
  fun nm m h1 h2 => h nm m h1 (by rw [← lookupMacro_congr hm]; exact h2)

theorem Users.set {P : Str → MacroDef → Prop} {st1 st : PState} (h : Users P st1 st) (m : MacroDef)
    (hp : P m.name m) : Users P st1 { st with macros := setMacro st.macros m } := by
  intro nm m' h1 h2
  rw [lookup_setMacro] at h2
  by_cases e : m.name = nm
  · rw [if_pos (by simpa using e)] at h2
    cases h2
    exact e ▸ hp
  · rw [if_neg (by simpa using e)] at h2
    exact h nm m' h1 h2

structure Keeps (P : Str → MacroDef → Prop) (st1 st : PState) : Prop where
  ext : Ext st1 st
  user : Users P st1 st

namespace Keeps
variable {P : Str → MacroDef → Prop} {st1 st st' : PState}

theorem decl (h : Keeps P st1 st) : ∀ nm m, lookupMacro st1 nm = some m → lookupMacro st nm = some m :=
  h.ext.decl

theorem refl (P : Str → MacroDef → Prop) (st1 : PState) : Keeps P st1 st1 := ⟨.refl st1, .refl P st1⟩

theorem reads (h : Keeps P st1 st) (hr : Reads st st') : Keeps P st1 st' :=
  ⟨h.ext.reads hr, h.user.of_macros hr.macros⟩

theorem set (h : Keeps P st1 st) (m : MacroDef) (hu : lookupMacro st1 m.name = none) (hp : P m.name m) :
    Keeps P st1 { st with macros := setMacro st.macros m } :=
  ⟨⟨h.ext.frame, decl_set h.ext.decl m hu⟩, h.user.set m hp⟩

end Keeps

/-! ### the state against the environment of a reference -/

def Agree {δ : Type} (look : Str → Option δ) (R : Str → δ → MacroDef → Prop) (st1 st : PState) : Prop :=
  ∀ name, lookupMacro st1 ('\\' :: name) = none →
    match look name with
    | some d => ∃ m, lookupMacro st ('\\' :: name) = some m ∧ R name d m
    | none => lookupMacro st ('\\' :: name) = none

section
variable {δ : Type} {look look' : Str → Option δ} {R : Str → δ → MacroDef → Prop} {st1 st st' : PState}

theorem Agree.init (R : Str → δ → MacroDef → Prop) (hl : ∀ name, look name = none)
    (h : st.macros = st1.macros) : Agree look R st1 st := by
  intro name hn
  rw [hl name]
  exact (lookupMacro_congr h _).trans hn

theorem Agree.undef (h : Agree look R st1 st) {name : Str} (hn : lookupMacro st1 ('\\' :: name) = none)
    (he : look name = none) : lookupMacro st ('\\' :: name) = none := by
  have := h name hn
  rw [he] at this
  exact this

theorem Agree.defined (h : Agree look R st1 st) {name : Str} (hn : lookupMacro st1 ('\\' :: name) = none)
    {d : δ} (he : look name = some d) : ∃ m, lookupMacro st ('\\' :: name) = some m ∧ R name d m := by
  have := h name hn
  rw [he] at this
  exact this

theorem Agree.of_macros (h : Agree look R st1 st) (hm : st'.macros = st.macros) :
    Agree look R st1 st' := by
  intro name hn
  rw [lookupMacro_congr hm]
  exact h name hn

/-- a definition: the macro `m` is stored under `\name`, the environment has `d` in front -/
theorem Agree.set (h : Agree look R st1 st) (name : Str) (d : δ) (m : MacroDef)
    (hm : m.name = '\\' :: name) (hr : R name d m)
    (hl : ∀ n, look' n = if name == n then some d else look n) :
    Agree look' R st1 { st with macros := setMacro st.macros m } := by
  intro name' hn
  rw [hl, lookup_setMacro, hm]
  by_cases e : name = name'
  · subst e
    simp only [beq_self_eq_true, if_true]
    exact ⟨m, rfl, hr⟩
  · have e1 : (name == name') = false := by simpa using e
    have e2 : (('\\' :: name) == ('\\' :: name')) = false := by simpa using e
    rw [e1, e2]
    exact h name' hn

end

end UserTable
end Yalafi
