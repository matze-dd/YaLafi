/-
  Proofs/NoOpaqueHandler.lean — step lemma of the NoOpaque bundle for `callHandler`: one case per handler.
  The only handler that ends in the marker `opaque handler (not modelled)` is `.opaqueH _`, excluded by the
  precondition `opq h = false`; the handlers that create definitions (`\newcommand`, `\newtheorem`, `h_read_sed`)
  create them with handler `.none`, `.theorem _`, `.cref ..`, `.crefrange ..`, never `.opaqueH _`.
-/
import YalafiVerif.Proofs.NoOpaqueDefs
set_option linter.unusedVariables false
namespace Yalafi
namespace NoOpaque
open M

variable {T : PTables}

theorem handler_step (hT : TOk T) (fuel : Nat) (IH : AllGood T fuel) :
    ∀ h buf mac args pos, opq h = false → Good (callHandler T (fuel + 1) h buf mac args pos) := by
  intro h buf mac args pos hq
  unfold callHandler
  cases h with
  | opaqueH name => cases hq
  | newcommand =>
    simp only []
    good IH
    all_goals
      refine ⟨?_⟩
      intro s hs
      exact StOk_withMacros hs (AOk_setMacro hs.macros ⟨rfl, rfl⟩)
  | newtheorem =>
    simp only []
    good IH
    all_goals
      refine ⟨?_⟩
      intro s hs
      exact StOk_withEnvs hs (AOk_setMacro hs.envs ⟨rfl, rfl⟩)
  | loadModule cls =>
    simp only []
    good IH
    all_goals
      refine Good_foldlM _ ?_ _ _
      intro acc p
      good IH
      exact ⟨findModule_ModOk hT cls p⟩
  | _ =>
    simp only []
    good IH

end NoOpaque
end Yalafi
