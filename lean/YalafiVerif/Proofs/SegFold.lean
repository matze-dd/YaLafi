/-
  Proofs/SegFold.lean — a document is read segment by segment.

  Every reference of the document grammars (`marks`, `plain`, `flows`, `footBodies`, `spans`, `render`,
  …) is a function `m : S → List σ → List α` of a state (the source position, and for the larger
  grammars the definitions in force, the label generators, the formula counters) and a list of
  segments, and all of them have the same shape: the contribution of the first segment, then the rest
  from the state behind it (`SegFold`).  What the readings need follows from that shape alone:

    `append`, `mem`, `mem_of`   the reading of a concatenation; an element comes from one segment, and what
                      one segment contributes is in the whole
    `hom`             two readings that agree segment by segment (seen through maps that respect
                      `++`: `filterMap id`, `filter vis`, `map clsM`, `length`) agree
    `ge`, `disjoint`  span-respecting readings (`InSpan`: what a segment contributes carries
                      positions of its own source interval): positions do not run backwards, and two
                      such readings (the output characters / the hidden spans) keep apart as soon as
                      they do so within one segment
    `comap`           a reading seen from a richer state
    `in_source`       a reading that copies from the source (`render`, the concatenation of the
                      segments' own texts): every `(c, q)` it yields is the character the source
                      has at `q`, as soon as this holds of one segment within its own text
-/
namespace Yalafi

/-- `m st segs`: what the first segment contributes in state `st`, then the rest from `step st s` -/
structure SegFold {σ S α : Type} (step : S → σ → S) (m : S → List σ → List α) : Prop where
  nil : ∀ st, m st [] = []
  cons : ∀ st s rest, m st (s :: rest) = m st [s] ++ m (step st s) rest

namespace SegFold
variable {σ S α β γ : Type} {step : S → σ → S} {m : S → List σ → List α} {m' : S → List σ → List β}

theorem append (h : SegFold step m) : ∀ (X : List σ) (st : S) (Y : List σ),
    m st (X ++ Y) = m st X ++ m (X.foldl step st) Y
  | [], st, Y => by rw [h.nil]; rfl
  | s :: X, st, Y => by
    rw [List.cons_append, h.cons, h.cons st s X, append h X, List.append_assoc]; rfl

theorem mem (h : SegFold step m) {x : α} : ∀ {segs : List σ} {st : S}, x ∈ m st segs →
    ∃ A s B, segs = A ++ s :: B ∧ x ∈ m (A.foldl step st) [s]
  | [], st, hx => by rw [h.nil] at hx; cases hx
  | s :: rest, st, hx => by
    rw [h.cons] at hx
    rcases List.mem_append.mp hx with hx | hx
    · exact ⟨[], s, rest, rfl, hx⟩
    · obtain ⟨A, t, B, e, ht⟩ := mem h hx
      exact ⟨s :: A, t, B, by rw [e]; rfl, ht⟩

theorem mem_of (h : SegFold step m) {x : α} (A : List σ) (s : σ) (B : List σ) (st : S)
    (hx : x ∈ m (A.foldl step st) [s]) : x ∈ m st (A ++ s :: B) := by
  rw [h.append, h.cons]
  exact List.mem_append_right _ (List.mem_append_left _ hx)

theorem hom {f : List α → List γ} {g : List β → List γ} (h : SegFold step m) (h' : SegFold step m')
    (hf : ∀ a b, f (a ++ b) = f a ++ f b) (hg : ∀ a b, g (a ++ b) = g a ++ g b) (h0 : f [] = g [])
    (h1 : ∀ st s, f (m st [s]) = g (m' st [s])) :
    ∀ (segs : List σ) (st : S), f (m st segs) = g (m' st segs)
  | [], st => by rw [h.nil, h'.nil, h0]
  | s :: rest, st => by rw [h.cons, h'.cons, hf, hg, h1, hom h h' hf hg h0 h1 rest]

/-- `iv x = some (start, length)`: the source interval `x` stands for.  What the segment `s`
    contributes in a state where `ok` holds lies inside the interval of `s`. -/
def InSpan (pos : S → Nat) (len : σ → Nat) (ok : S → σ → Prop) (iv : α → Option (Nat × Nat))
    (m : S → List σ → List α) : Prop :=
  ∀ st s x i, ok st s → x ∈ m st [s] → iv x = some i → pos st ≤ i.1 ∧ i.1 + i.2 ≤ pos st + len s

variable {pos : S → Nat} {len : σ → Nat} {ok : S → σ → Prop}
  {iv : α → Option (Nat × Nat)} {iv' : β → Option (Nat × Nat)}

theorem pos_foldl (hp : ∀ st s, pos (step st s) = pos st + len s) :
    ∀ (A : List σ) (st : S), pos st ≤ pos (A.foldl step st)
  | [], _ => Nat.le_refl _
  | s :: A, st => by
    have := pos_foldl hp A (step st s)
    rw [hp] at this
    exact Nat.le_trans (Nat.le_add_right _ _) this

/-- `ok` holds at every segment of `segs`, read from `st` -/
def Along (step : S → σ → S) (ok : S → σ → Prop) (st : S) (segs : List σ) : Prop :=
  ∀ A s B, segs = A ++ s :: B → ok (A.foldl step st) s

theorem Along.nil (st : S) : Along step ok st [] := fun A _ _ e => by cases A <;> cases e

theorem Along.cons {st : S} {s : σ} {rest : List σ} (h1 : ok st s)
    (h2 : Along step ok (step st s) rest) : Along step ok st (s :: rest)
  | [], _, _, e => by cases e; exact h1
  | _ :: A, t, B, e => by cases e; exact h2 A t B rfl

theorem Along.tail {st : S} {s : σ} {rest : List σ} (h : Along step ok st (s :: rest)) :
    ok st s ∧ Along step ok (step st s) rest :=
  ⟨h [] s rest rfl, fun A t B e => h (s :: A) t B (by rw [e]; rfl)⟩

theorem ge (h : SegFold step m) (hp : ∀ st s, pos (step st s) = pos st + len s)
    (hi : InSpan pos len ok iv m) {x : α} {i : Nat × Nat} {segs : List σ} {st : S}
    (hok : Along step ok st segs) (hx : x ∈ m st segs) (hiv : iv x = some i) : pos st ≤ i.1 := by
  obtain ⟨A, s, B, e, hs⟩ := h.mem hx
  exact Nat.le_trans (pos_foldl hp A st) (hi _ s x i (hok A s B e) hs hiv).1

theorem disjoint (h : SegFold step m) (h' : SegFold step m')
    (hp : ∀ st s, pos (step st s) = pos st + len s)
    (hi : InSpan pos len ok iv m) (hi' : InSpan pos len ok iv' m')
    (loc : ∀ st s x q i j, ok st s → x ∈ m st [s] → q ∈ m' st [s] → iv x = some i → iv' q = some j →
      i.1 + i.2 ≤ j.1 ∨ j.1 + j.2 ≤ i.1)
    {x : α} {q : β} {i j : Nat × Nat} (hx : iv x = some i) (hq : iv' q = some j) :
    ∀ {segs : List σ} {st : S}, Along step ok st segs → x ∈ m st segs → q ∈ m' st segs →
      i.1 + i.2 ≤ j.1 ∨ j.1 + j.2 ≤ i.1
  | [], st, _, h1, _ => by rw [h.nil] at h1; cases h1
  | s :: rest, st, hok, h1, h2 => by
    obtain ⟨hs, hrest⟩ := hok.tail
    rw [h.cons] at h1
    rw [h'.cons] at h2
    rcases List.mem_append.mp h1 with h1 | h1 <;> rcases List.mem_append.mp h2 with h2 | h2
    · exact loc st s x q i j hs h1 h2 hx hq
    · have a := (hi st s x i hs h1 hx).2
      have b := ge h' hp hi' hrest h2 hq
      rw [hp] at b
      exact Or.inl (Nat.le_trans a b)
    · have a := (hi' st s q j hs h2 hq).2
      have b := ge h hp hi hrest h1 hx
      rw [hp] at b
      exact Or.inr (Nat.le_trans a b)
    · exact disjoint h h' hp hi hi' loc hx hq hrest h1 h2

end SegFold

namespace SegFold
variable {σ S S' α : Type} {step : S → σ → S} {m : S → List σ → List α}

theorem comap (step' : S' → σ → S') (π : S' → S) (hπ : ∀ st s, π (step' st s) = step (π st) s)
    (h : SegFold step m) : SegFold step' (fun st => m (π st)) :=
  ⟨fun _ => h.nil _, fun st s rest => by
    show m (π st) (s :: rest) = m (π st) [s] ++ m (π (step' st s)) rest
    rw [hπ]
    exact h.cons (π st) s rest⟩

end SegFold

namespace SegFold
variable {σ S : Type} {step : S → σ → S} {m : S → List σ → List (Char × Nat)} {pos : S → Nat}

theorem in_source (h : SegFold step m) {rend : σ → List Char} {render : List σ → List Char}
    (hr : ∀ s rest, render (s :: rest) = rend s ++ render rest)
    (hp : ∀ st s, pos (step st s) = pos st + (rend s).length)
    (loc : ∀ st s cp, cp ∈ m st [s] → pos st ≤ cp.2 ∧ (rend s)[cp.2 - pos st]? = some cp.1)
    {cp : Char × Nat} : ∀ {segs : List σ} {st : S}, cp ∈ m st segs →
      pos st ≤ cp.2 ∧ (render segs)[cp.2 - pos st]? = some cp.1
  | [], st, hx => by rw [h.nil] at hx; cases hx
  | s :: rest, st, hx => by
    rw [h.cons] at hx
    rw [hr]
    rcases List.mem_append.mp hx with hx | hx
    · obtain ⟨h1, h2⟩ := loc st s cp hx
      exact ⟨h1, by rw [List.getElem?_append_left (List.getElem?_eq_some_iff.mp h2).1]; exact h2⟩
    · obtain ⟨h1, h2⟩ := in_source h hr hp loc hx
      rw [hp] at h1 h2
      refine ⟨by omega, ?_⟩
      rw [List.getElem?_append_right (by omega), Nat.sub_sub]
      exact h2

end SegFold
end Yalafi
