/-
  Proofs/PlainMix4.lean — token level of the FOURTH union grammar, definitions: the thirteen kinds of
  Proofs/PlainMix2.lean (formulas of the RICH class of Proofs/PlainMathRich.lean) plus the
  STATEFUL kinds: accent calls; USER DEFINITIONS `\newcommand{\name}[n]{body}` with their uses (the
  macro table changes along the document); simple DISPLAYED EQUATIONS `\[ … \]` / `\begin{name} …
  \end{name}` (a second rotating placeholder collection); LIST ENVIRONMENTS `\begin{name}`, `\item`,
  `\end{name}` (the stack of label generators `itemStack`); and, beyond the third grammar: `\def`
  definitions, `\par` and paragraph-forming environments, calls of macros declared like
  `\footnote` (with and without optional argument), float environments, labelled items
  `\item[label]`, undeclared environments.  (The loop lemma: Proofs/PlainMix4Loop.lean; header with
  the end-to-end statement and all side conditions: Proofs/PlainMix4E2E.lean.)

  `Piece`, `flat`, `dropComs`   the pieces of a token buffer (33 constructors; braces are plain tokens)
  `Colls`                       the two stored placeholder collections (inline, display)
  `PiecesOk T st1 ps`           the STATIC conditions, relative to the initialised state `st1`
  `nextSt`, `finalSt`           the state behind a piece / behind the buffer (`unknowns`, `macros`,
                                `extracted`, `foreign`, `itemStack`; the rotation records are handled
                                separately)
  `Live T st ps`                the conditions that depend on the CURRENT state: an "undeclared"
                                control word (in text or in a formula) is not user-defined at that
                                point, a use has enough groups for the definition in force, an
                                `\item` finds a label on the current stack of generators
  `outP T st l ps`, `cost st ps`, `names st ps`, `flowsOf`, `nMath`, `nDisp`
                                what the loop emits (threading the state and the rotating
                                collections), its iterations, the unknown names, the flows, the
                                numbers of formulas / displayed equations
  `DispSt`, `RotOk`             what formulas / displayed equations need from the rotation records
  `itemSt_fields`, `endSt_fields`   `\item` and `\end` leave a state that reads as the one before (the
                                invariant on the current state relative to `st1` is `PlainMacroArgs.StOk`;
                                `itemStack` is NOT part of it: it is threaded through `nextSt`)
  `SameM`, `*_congr`            everything depends on the state only through the macro table,
                                `math_operators`, the environments, `itemStack` and the language
-/
import YalafiVerif.Proofs.PlainMix2Read
import YalafiVerif.Proofs.PlainAccent
import YalafiVerif.Proofs.PlainMathRichE2E
import YalafiVerif.Proofs.PlainMacroArgs
import YalafiVerif.Proofs.PlainDisplay
import YalafiVerif.Proofs.PlainFlowsBase
import YalafiVerif.Proofs.PlainParEnvBase
import YalafiVerif.Proofs.PlainDefTex
import YalafiVerif.Proofs.PlainItemL
namespace Yalafi
namespace PlainMix4

open M
open PlainMacro (lbr rbr NoBrace restamp ncName NcOk NameOk bodyTxt)
open PlainItem (begTok endTok itemTok spTok labTok envOut envOf styleOf listEnvAt labOf labelAt HeadOk NameToks
  begSt itemSt)
open PlainMix (droppable MathSt)
open PlainFootnote (CopyTok FnTok BraceTok FlowSafe addFlow)
open PlainMacroArgs (Group groupsFlat groupsOut GroupGood userMacro defSt useSt useN useBody GoodBody
  DigitOk txtTok digitChar StOk)
open PlainMathRich (OpenTok CloseTok MItem mt mout fOut)
open PlainUnkn2 (mcost)
open PlainFlows (FlowName OptToks FigEnvAt)
open PlainDefTex (defName paramToks)
open PlainItemL (labArg itemLOut punctOf pvOf pvAfter punctOk)

/-- the two stored placeholder collections of the language: inline formulas, displayed equations -/
abbrev Colls := List Str × List Str


inductive Piece where
  | tok (t : Tok)
  | spc (t : Tok)
  | br (t : Tok)
  | cw (p : Nat) (name : Str) (skipped : List Tok)
  | van (p q1 q2 : Nat) (name : Str) (key repl : List Tok)
  | com (t : Tok)
  | verb (t : Tok)
  /-- an inline formula of the rich class: opening delimiter, body tokens, closing delimiter -/
  | math (d1 : Tok) (body : List Tok) (d2 : Tok)
  | ref (p q1 q2 : Nat) (name : Str) (key repl : List Tok)
  | cite (p q1 q2 : Nat) (name : Str) (key : List Tok)
  | citeN (p b1 b2 q1 q2 : Nat) (name : Str) (note key : List Tok)
  | foot (fn lb : Tok) (body : List Tok) (rb : Tok)
  | head (hd lb : Tok) (body : List Tok) (rb : Tok)
  /-- an accent call: accent token, white space, the letter (in braces or not) -/
  | acc (p : Nat) (name : Str) (sp : List Tok) (bo : Option (Nat × Nat)) (q : Nat) (l : Char)
  /-- a definition `\newcommand { \name } [ n ] { body }` -/
  | defn (p q1 q2 q3 q4 q5 q6 q7 q8 : Nat) (name : Str) (n : Nat) (body : List Tok)
  /-- a use `\name { a1 } … { am }` of a name that is not declared in `st1` -/
  | use (p : Nat) (name : Str) (gs : List Group)
  /-- a simple displayed equation `\[ body \]`; `ops` = `math_operators` of the initialised state -/
  | disp (ops : List Str) (d1 : Tok) (body : List Tok) (d2 : Tok)
  /-- a simple displayed equation `\begin { name } body \end { name }` -/
  | denv (ops : List Str) (p q1 q2 : Nat) (nt : List Tok) (body : List Tok) (p' q1' q2' : Nat)
      (nt' : List Tok)
  /-- a definition `\def \name #1 … #n { body }` -/
  | ddef (p q2 q q7 q8 : Nat) (name : Str) (n : Nat) (body : List Tok)
  /-- `\par` with the white-space tokens behind it -/
  | ppar (p : Nat) (sp : List Tok)
  /-- `\begin { name } { arg }` of a paragraph-forming environment -/
  | pbeg (p q1 q2 q3 q4 : Nat) (nt ag : List Tok)
  /-- `\end { name }` of a paragraph-forming environment -/
  | pen (p q1 q2 : Nat) (nt : List Tok)
  /-- a call `\name { body }` of a macro declared like `\footnote` -/
  | call (p q1 q2 : Nat) (name : Str) (body : List Tok)
  /-- a call `\name [ opt ] { body }` of a macro declared like `\footnote` -/
  | callO (p b1 b2 q1 q2 : Nat) (name : Str) (opt body : List Tok)
  /-- `\end { name }` of a float environment -/
  | fen (p q1 q2 : Nat) (nt : List Tok)
  /-- `\begin { name } [ placement ]` of a float environment -/
  | fbegN (p q1 q2 b1 b2 : Nat) (nt note : List Tok)
  /-- `\begin { name }` of a float environment, with the white-space tokens it swallows -/
  | fbeg (p q1 q2 : Nat) (nt sp : List Tok)
  /-- `\begin { name }` of a list environment -/
  | beg (p q1 q2 : Nat) (nt : List Tok)
  /-- `\item` with the white-space tokens behind it -/
  | item (p : Nat) (sp : List Tok)
  /-- `\item`, white space, `[ label ]`; `pc` = the punctuation mark that is repeated behind the label -/
  | itemL (p : Nat) (sp : List Tok) (b1 b2 : Nat) (lab : List Tok) (pc : Option Char)
  /-- `\begin { name }` / `\end { name }` of an UNDECLARED environment (`description`) -/
  | ubeg (p q1 q2 : Nat) (nt : List Tok)
  | uen (p q1 q2 : Nat) (nt : List Tok)
  /-- `\end { name }` of a list environment -/
  | en (p q1 q2 : Nat) (nt : List Tok)

def Piece.toks : Piece → List Tok
  | .tok t => [t]
  | .spc t => [t]
  | .br t => [t]
  | .cw p name sk => cwTok p name :: sk
  | .van p q1 q2 name key _ => cwTok p name :: lbr q1 :: (key ++ [rbr q2])
  | .com t => [t]
  | .verb t => [t]
  | .math d1 b d2 => d1 :: (b ++ [d2])
  | .ref p q1 q2 name key _ => cwTok p name :: lbr q1 :: (key ++ [rbr q2])
  | .cite p q1 q2 name key => cwTok p name :: lbr q1 :: (key ++ [rbr q2])
  | .citeN p b1 b2 q1 q2 name note key =>
    cwTok p name :: PlainRef.chTok b1 '[' ::
      (note ++ PlainRef.chTok b2 ']' :: lbr q1 :: (key ++ [rbr q2]))
  | .foot fn lb b rb => fn :: lb :: (b ++ [rb])
  | .head hd lb b rb => hd :: lb :: (b ++ [rb])
  | .acc p name sp bo q l => PlainAccent.accTok p name :: (sp ++ PlainAccent.argT bo q l)
  | .defn p q1 q2 q3 q4 q5 q6 q7 q8 name n body =>
    cwTok p ncName :: lbr q1 :: cwTok q2 name :: rbr q3 :: txtTok q4 '[' :: txtTok q5 (digitChar n) ::
      txtTok q6 ']' :: lbr q7 :: (body ++ [rbr q8])
  | .use p name gs => cwTok p name :: groupsFlat gs
  | .disp _ d1 b d2 => d1 :: (b ++ [d2])
  | .denv _ p q1 q2 nt b p' q1' q2' nt' =>
    begTok p :: lbr q1 :: (nt ++ rbr q2 :: (b ++ endTok p' :: lbr q1' :: (nt' ++ [rbr q2'])))
  | .ddef p q2 q q7 q8 name n body =>
    cwTok p defName :: cwTok q2 name :: (paramToks q 1 n ++ lbr q7 :: (body ++ [rbr q8]))
  | .ppar p sp => cwTok p PlainParEnv.parName :: sp
  | .pbeg p q1 q2 q3 q4 nt ag => begTok p :: lbr q1 :: (nt ++ rbr q2 :: lbr q3 :: (ag ++ [rbr q4]))
  | .pen p q1 q2 nt => endTok p :: lbr q1 :: (nt ++ [rbr q2])
  | .call p q1 q2 name b => cwTok p name :: lbr q1 :: (b ++ [rbr q2])
  | .callO p b1 b2 q1 q2 name opt b =>
    cwTok p name :: PlainRef.chTok b1 '[' :: (opt ++ PlainRef.chTok b2 ']' :: lbr q1 :: (b ++ [rbr q2]))
  | .fen p q1 q2 nt => endTok p :: lbr q1 :: (nt ++ [rbr q2])
  | .fbegN p q1 q2 b1 b2 nt note =>
    begTok p :: lbr q1 :: (nt ++ rbr q2 :: PlainRef.chTok b1 '[' :: (note ++ [PlainRef.chTok b2 ']']))
  | .fbeg p q1 q2 nt sp => begTok p :: lbr q1 :: (nt ++ rbr q2 :: sp)
  | .beg p q1 q2 nt => begTok p :: lbr q1 :: (nt ++ [rbr q2])
  | .item p sp => itemTok p :: sp
  | .itemL p sp b1 b2 lab _ =>
    itemTok p :: (sp ++ PlainRef.chTok b1 '[' :: (lab ++ [PlainRef.chTok b2 ']']))
  | .ubeg p q1 q2 nt => begTok p :: lbr q1 :: (nt ++ [rbr q2])
  | .uen p q1 q2 nt => endTok p :: lbr q1 :: (nt ++ [rbr q2])
  | .en p q1 q2 nt => endTok p :: lbr q1 :: (nt ++ [rbr q2])

def flat : List Piece → List Tok
  | [] => []
  | p :: ps => p.toks ++ flat ps

def dropComs : List Piece → List Piece
  | .com _ :: rest => dropComs rest
  | ps => ps

def PiecesOk (T : PTables) (st1 : PState) : List Piece → Prop
  | [] => True
  | .tok t :: rest => PlainTok t ∧ PassTok T st1 t (flat rest) ∧ PiecesOk T st1 rest
  | .spc t :: rest => SpecialTok T.toTables t ∧ PiecesOk T st1 rest
  | .br t :: rest => PlainGroup.BrTok t ∧ PiecesOk T st1 rest
  | .cw p name sk :: rest =>
    CwTokOk st1 (cwTok p name) ∧ (∀ t ∈ sk, droppable t = true ∧ t.kind ≠ .comment) ∧
    (∀ t ts, flat (dropComs rest) = t :: ts → droppable t = false) ∧ PiecesOk T st1 rest
  | .van _ _ _ name key repl :: rest =>
    PlainVanish.VanName st1 name ∧ PlainVanish.replOf st1 name = repl ∧
    (∀ t ∈ key, NoBrace t ∧ t.kind ≠ .comment) ∧ PiecesOk T st1 rest
  | .com t :: rest => Comment.ComTok T st1 t ∧ PiecesOk T st1 rest
  | .verb t :: rest => t.kind = .verb false ∧ PiecesOk T st1 rest
  | .math d1 b d2 :: rest =>
    OpenTok d1 ∧ (b.flatMap (mt T)).any (fun x => !x.sp) = true ∧ (∀ t ∈ b, MItem T st1 t) ∧
    CloseTok d2 ∧ PiecesOk T st1 rest
  | .ref _ _ _ name key repl :: rest =>
    PlainRef.RefName T st1 name ∧ PlainRef.replOf st1 name = repl ∧ PlainRef.KeyToks key ∧
    PiecesOk T st1 rest
  | .cite _ _ _ name key :: rest =>
    PlainRef.CiteName st1 name ∧ PlainRef.KeyToks key ∧ PlainRef.StateFacts T st1 ∧ PiecesOk T st1 rest
  | .citeN _ _ _ _ _ name note key :: rest =>
    PlainRef.CiteName st1 name ∧ note ≠ [] ∧ (∀ t ∈ note, CopyTok T st1 t ∧ t.txt ≠ [']']) ∧
    PlainRef.KeyToks key ∧ PlainRef.StateFacts T st1 ∧ PiecesOk T st1 rest
  | .foot fn lb b rb :: rest =>
    FnTok fn ∧ BraceTok '{' lb ∧ BraceTok '}' rb ∧ b ≠ [] ∧ (∀ t ∈ b, CopyTok T st1 t) ∧
    FlowSafe b ∧ PlainFootnote.StateFacts T st1 ∧ PiecesOk T st1 rest
  | .head hd lb b rb :: rest =>
    PlainHeading.HdTok st1 hd ∧ BraceTok '{' lb ∧ BraceTok '}' rb ∧ b ≠ [] ∧
    (∀ t ∈ b, CopyTok T st1 t) ∧ PlainHeading.StateFacts T st1 ∧ PiecesOk T st1 rest
  | .acc _ name sp _ _ l :: rest =>
    PlainAccent.AccName name ∧ (∀ t ∈ sp, t.kind = .space) ∧
    (PlainAccent.accentChar T ('\\' :: name) l).isSome = true ∧ PiecesOk T st1 rest
  | .defn _ _ _ _ _ _ _ _ _ name n body :: rest =>
    NcOk st1 ∧ NameOk st1 name ∧ DigitOk T st1 n ∧ GoodBody T st1 n body ∧ PiecesOk T st1 rest
  | .use _ name gs :: rest =>
    NameOk st1 name ∧ gs ≠ [] ∧ (∀ g ∈ gs, GroupGood T st1 g) ∧ PiecesOk T st1 rest
  | .disp ops d1 b d2 :: rest =>
    ops = st1.mathOperators ∧ PlainDisplay.defEnvOk T st1 = true ∧ st1.displayedSimple = false ∧
    PlainDisplay.OpenTok d1 ∧ PlainDisplay.HasElem T ops b ∧ (∀ t ∈ b, PlainDisplay.DItem T t) ∧
    PlainDisplay.CloseTok d2 ∧ PiecesOk T st1 rest
  | .denv ops _ _ _ nt b _ _ _ nt' :: rest =>
    ops = st1.mathOperators ∧ st1.displayedSimple = false ∧ NameToks T st1 nt ∧ NameToks T st1 nt' ∧
    bodyTxt nt' = bodyTxt nt ∧ PlainDisplay.equEnvAt st1 (bodyTxt nt) = true ∧
    bodyTxt nt ≠ "$".toList ∧ bodyTxt nt ≠ "\\(".toList ∧
    PlainDisplay.HasElem T ops b ∧ (∀ t ∈ b, PlainDisplay.DItem T t) ∧ PiecesOk T st1 rest
  | .ddef _ _ _ _ _ name n body :: rest =>
    NameOk st1 name ∧ GoodBody T st1 n body ∧ PiecesOk T st1 rest
  | .ppar _ sp :: rest =>
    PlainParEnv.ParOk st1 ∧ PlainThm.SpToks sp ∧ PlainParEnv.HeadVis (flat rest) ∧ PiecesOk T st1 rest
  | .pbeg _ _ _ _ _ nt ag :: rest =>
    PlainThm.NameToks T st1 nt ∧ PlainParEnv.ParEnvAt st1 (PlainThm.txtOf nt) ∧
    (∀ t ∈ ag, NoBrace t ∧ t.kind ≠ .comment) ∧ PiecesOk T st1 rest
  | .pen _ _ _ nt :: rest =>
    PlainThm.NameToks T st1 nt ∧ PlainParEnv.ParEnvAt st1 (PlainThm.txtOf nt) ∧ PiecesOk T st1 rest
  | .call _ _ _ name b :: rest =>
    FlowName st1 name ∧ b ≠ [] ∧ (∀ t ∈ b, CopyTok T st1 t) ∧ FlowSafe b ∧
    st1.multiLanguage = false ∧ PiecesOk T st1 rest
  | .callO _ _ _ _ _ name opt b :: rest =>
    FlowName st1 name ∧ OptToks T st1 opt ∧ b ≠ [] ∧ (∀ t ∈ b, CopyTok T st1 t) ∧ FlowSafe b ∧
    st1.multiLanguage = false ∧ PiecesOk T st1 rest
  | .fen _ _ _ nt :: rest =>
    PlainThm.NameToks T st1 nt ∧ FigEnvAt st1 (PlainThm.txtOf nt) ∧ PiecesOk T st1 rest
  | .fbegN _ _ _ _ _ nt note :: rest =>
    PlainThm.NameToks T st1 nt ∧ FigEnvAt st1 (PlainThm.txtOf nt) ∧ OptToks T st1 note ∧ PiecesOk T st1 rest
  | .fbeg _ _ _ nt sp :: rest =>
    PlainThm.NameToks T st1 nt ∧ FigEnvAt st1 (PlainThm.txtOf nt) ∧ PlainThm.SpToks sp ∧
    PlainThm.HeadOk (flat rest) ∧ PiecesOk T st1 rest
  | .beg _ _ _ nt :: rest =>
    NameToks T st1 nt ∧ listEnvAt st1 (bodyTxt nt) = true ∧ PiecesOk T st1 rest
  | .item _ sp :: rest =>
    (∀ t ∈ sp, t.kind = .space) ∧ HeadOk (flat rest) ∧ (activeChars T st1).contains [' '] = false ∧
    PiecesOk T st1 rest
  | .itemL _ sp _ _ lab _ :: rest =>
    (∀ t ∈ sp, t.kind = .space) ∧ PlainFlows.OptToks T st1 lab ∧
    (activeChars T st1).contains [' '] = false ∧ punctOk T st1 = true ∧ PiecesOk T st1 rest
  | .ubeg _ _ _ nt :: rest =>
    NameToks T st1 nt ∧ lookupEnv st1 (bodyTxt nt) = none ∧ PiecesOk T st1 rest
  | .uen _ _ _ nt :: rest =>
    NameToks T st1 nt ∧ lookupEnv st1 (bodyTxt nt) = none ∧ PiecesOk T st1 rest
  | .en _ _ _ nt :: rest =>
    NameToks T st1 nt ∧ listEnvAt st1 (bodyTxt nt) = true ∧ PiecesOk T st1 rest


/-- the state behind a piece (without the rotation of the placeholder collection) -/
def nextSt (st : PState) : Piece → PState
  | .cw _ name _ => { st with unknowns := addU st.unknowns ('\\' :: name) }
  | .foot _ _ b _ => addFlow st b
  | .defn _ _ _ _ _ _ _ _ _ name n body => defSt st name n body
  | .use _ name _ => useSt st name
  | .ddef _ _ _ _ _ name n body => defSt st name n body
  | .call _ _ _ _ b => addFlow st b
  | .callO _ _ _ _ _ _ _ b => addFlow st b
  | .beg _ _ _ nt => begSt st (bodyTxt nt) (styleOf st (bodyTxt nt))
  | .item _ _ => itemSt st
  | .ubeg _ _ _ nt => { st with unknowns := addU st.unknowns (bodyTxt nt) }
  | .en _ _ _ _ => PlainItem.endSt st
  | _ => st

def finalSt : PState → List Piece → PState
  | st, [] => st
  | st, pc :: rest => finalSt (nextSt st pc) rest

def liveHead (T : PTables) (st : PState) : Piece → Prop
  | .cw _ name _ => lookupMacro st ('\\' :: name) = none
  | .math _ b _ => ∀ t ∈ b, t.kind = .xmacro → lookupMacro st t.txt = none
  | .use _ name gs => useN st name ≤ gs.length
  | .item _ _ => labelAt T st st.itemStack = true
  | _ => True

def Live (T : PTables) : PState → List Piece → Prop
  | _, [] => True
  | st, pc :: rest => liveHead T st pc ∧ Live T (nextSt st pc) rest

/-- what `expandSequence` emits into the main flow for the pieces before the blank-line removal;
    `st` = the current state, `l` = the stored collections of inline / display placeholders -/
def outP (T : PTables) : PState → Colls → List Piece → List Tok
  | _, _, [] => []
  | st, l, .tok t :: rest => t :: outP T st l rest
  | st, l, .spc t :: rest => expTok T.toTables t ++ outP T st l rest
  | st, l, .br t :: rest => mkAction t.pos :: outP T st l rest
  | st, l, .cw p name sk :: rest => mkAction p :: outP T (nextSt st (.cw p name sk)) l rest
  | st, l, .van p _ _ _ _ repl :: rest => mkAction p :: (repl.map (restamp p) ++ outP T st l rest)
  | st, l, .com _ :: rest => outP T st l rest
  | st, l, .verb t :: rest => expTokV t ++ outP T st l rest
  | st, l, .math d1 b _ :: rest =>
    fOut T ((rotL l.1).headD []) d1.pos (b.flatMap (mout T st)) ++ outP T st (rotL l.1, l.2) rest
  | st, l, .ref p _ _ _ _ repl :: rest => mkAction p :: (repl.map (restamp p) ++ outP T st l rest)
  | st, l, .cite p _ _ _ _ :: rest => mkAction p :: (PlainRef.citeToks p ++ outP T st l rest)
  | st, l, .citeN p _ _ _ _ _ note _ :: rest =>
    mkAction p :: (PlainRef.citeNToks p note ++ outP T st l rest)
  | st, l, .foot fn lb b rb :: rest => mkAction fn.pos :: outP T (nextSt st (.foot fn lb b rb)) l rest
  | st, l, .head hd _ b _ :: rest => PlainHeading.headOut T hd b ++ outP T st l rest
  | st, l, .acc p name _ _ _ c :: rest =>
    PlainAccent.resTok p (PlainAccent.accVal T name c) :: outP T st l rest
  | st, l, .defn p q1 q2 q3 q4 q5 q6 q7 q8 name n body :: rest =>
    mkAction p :: outP T (nextSt st (.defn p q1 q2 q3 q4 q5 q6 q7 q8 name n body)) l rest
  | st, l, .use p name gs :: rest =>
    mkAction p :: (useBody st p name gs ++ (groupsOut (gs.drop (useN st name))
      ++ outP T (nextSt st (.use p name gs)) l rest))
  | st, l, .disp ops d1 b _ :: rest =>
    PlainDisplay.dispOut T ((rotL l.2).headD []) d1.pos (PlainDisplay.elemPos T ops b)
        (PlainMath.firstPos (PlainMath.mathToks b)) (PlainMath.bodyTxt (PlainMath.mathToks b))
      ++ outP T st (l.1, rotL l.2) rest
  | st, l, .denv ops p _ _ _ b _ _ _ _ :: rest =>
    mkAction p :: mkAction p ::
      (PlainDisplay.dispOut T ((rotL l.2).headD []) p (PlainDisplay.elemPos T ops b)
          (PlainMath.firstPos (PlainMath.mathToks b)) (PlainMath.bodyTxt (PlainMath.mathToks b))
        ++ outP T st (l.1, rotL l.2) rest)
  | st, l, .ddef p q2 q q7 q8 name n body :: rest =>
    mkAction p :: outP T (nextSt st (.ddef p q2 q q7 q8 name n body)) l rest
  | st, l, .ppar p _ :: rest => mkAction p :: PlainThm.parTok p :: outP T st l rest
  | st, l, .pbeg p _ _ _ _ _ _ :: rest => PlainThm.parTok p :: mkAction p :: outP T st l rest
  | st, l, .pen p _ _ _ :: rest => PlainThm.parTok p :: outP T st l rest
  | st, l, .call p q1 q2 name b :: rest =>
    mkAction p :: outP T (nextSt st (.call p q1 q2 name b)) l rest
  | st, l, .callO p b1 b2 q1 q2 name opt b :: rest =>
    mkAction p :: outP T (nextSt st (.callO p b1 b2 q1 q2 name opt b)) l rest
  | st, l, .fen p _ _ _ :: rest => mkAction p :: outP T st l rest
  | st, l, .fbegN p _ _ _ _ _ _ :: rest => mkAction p :: mkAction p :: outP T st l rest
  | st, l, .fbeg p _ _ _ _ :: rest => mkAction p :: mkAction p :: outP T st l rest
  | st, l, .beg p q1 q2 nt :: rest =>
    envOut (envOf st (bodyTxt nt)) p :: mkAction p :: outP T (nextSt st (.beg p q1 q2 nt)) l rest
  | st, l, .item p sp :: rest =>
    mkAction p :: spTok p :: labTok p (labOf T st.itemStack) :: spTok p
      :: outP T (nextSt st (.item p sp)) l rest
  | st, l, .itemL p _ b1 _ lab pc :: rest => itemLOut p (labArg b1 lab) pc ++ outP T st l rest
  | st, l, .ubeg p q1 q2 nt :: rest => mkAction p :: outP T (nextSt st (.ubeg p q1 q2 nt)) l rest
  | st, l, .uen p _ _ _ :: rest => mkAction p :: outP T st l rest
  | st, l, .en p q1 q2 nt :: rest =>
    envOut (envOf st (bodyTxt nt)) p :: outP T (nextSt st (.en p q1 q2 nt)) l rest

def flowsOf : List Piece → List (List Tok)
  | [] => []
  | .call _ _ _ _ b :: rest => b :: flowsOf rest
  | .callO _ _ _ _ _ _ _ b :: rest => b :: flowsOf rest
  | .foot _ _ b _ :: rest => b :: flowsOf rest
  | _ :: rest => flowsOf rest

/-- iterations of `expandSequence` -/
def cost : PState → List Piece → Nat
  | _, [] => 0
  | st, .tok _ :: rest => 1 + cost st rest
  | st, .spc _ :: rest => 1 + cost st rest
  | st, .br _ :: rest => 1 + cost st rest
  | st, .cw p name sk :: rest => 2 + cost (nextSt st (.cw p name sk)) rest
  | st, .van _ _ _ _ _ repl :: rest => 2 + repl.length + cost st rest
  | st, .com _ :: rest => 1 + cost st rest
  | st, .verb _ :: rest => 1 + cost st rest
  | st, .math _ b _ :: rest => mcost b + 2 + cost st rest
  | st, .ref _ _ _ _ _ repl :: rest => 2 + repl.length + cost st rest
  | st, .cite _ _ _ _ _ :: rest => 4 + cost st rest
  | st, .citeN _ _ _ _ _ _ note _ :: rest => 6 + note.length + cost st rest
  | st, .foot fn lb b rb :: rest => b.length + 6 + cost (nextSt st (.foot fn lb b rb)) rest
  | st, .head _ _ b _ :: rest => b.length + 3 + cost st rest
  | st, .acc .. :: rest => 3 + cost st rest
  | st, .defn p q1 q2 q3 q4 q5 q6 q7 q8 name n body :: rest =>
    2 + cost (nextSt st (.defn p q1 q2 q3 q4 q5 q6 q7 q8 name n body)) rest
  | st, .use p name gs :: rest =>
    2 + (useBody st p name gs).length + (groupsOut (gs.drop (useN st name))).length
      + cost (nextSt st (.use p name gs)) rest
  | st, .disp _ _ b _ :: rest => b.length + 3 + cost st rest
  | st, .denv _ _ _ _ nt b _ _ _ nt' :: rest => b.length + nt.length + nt'.length + 11 + cost st rest
  | st, .ddef p q2 q q7 q8 name n body :: rest =>
    1 + cost (nextSt st (.ddef p q2 q q7 q8 name n body)) rest
  | st, .ppar _ _ :: rest => 3 + cost st rest
  | st, .pbeg _ _ _ _ _ nt _ :: rest => 3 + nt.length + cost st rest
  | st, .pen _ _ _ nt :: rest => 2 + nt.length + cost st rest
  | st, .call p q1 q2 name b :: rest =>
    b.length + 4 + cost (nextSt st (.call p q1 q2 name b)) rest
  | st, .callO p b1 b2 q1 q2 name opt b :: rest =>
    b.length + 4 + cost (nextSt st (.callO p b1 b2 q1 q2 name opt b)) rest
  | st, .fen _ _ _ nt :: rest => nt.length + 2 + cost st rest
  | st, .fbegN _ _ _ _ _ nt _ :: rest => nt.length + 3 + cost st rest
  | st, .fbeg _ _ _ nt _ :: rest => nt.length + 3 + cost st rest
  | st, .beg p q1 q2 nt :: rest => 3 + nt.length + cost (nextSt st (.beg p q1 q2 nt)) rest
  | st, .item p sp :: rest => 5 + cost (nextSt st (.item p sp)) rest
  | st, .itemL _ _ b1 _ lab _ :: rest => (labArg b1 lab).length + 7 + cost st rest
  | st, .ubeg p q1 q2 nt :: rest => 2 + nt.length + cost (nextSt st (.ubeg p q1 q2 nt)) rest
  | st, .uen _ _ _ nt :: rest => 2 + nt.length + cost st rest
  | st, .en p q1 q2 nt :: rest => 2 + nt.length + cost (nextSt st (.en p q1 q2 nt)) rest

def nMath : List Piece → Nat
  | [] => 0
  | .math .. :: rest => nMath rest + 1
  | _ :: rest => nMath rest

def nDisp : List Piece → Nat
  | [] => 0
  | .disp .. :: rest => nDisp rest + 1
  | .denv .. :: rest => nDisp rest + 1
  | _ :: rest => nDisp rest

def DispSt (T : PTables) (st : PState) (rot : Rot) (ls : LangSettings) : Prop :=
  rotOf st (curSettings st) = some rot ∧ rot.disp ≠ [] ∧ settingsOf T (curSettings st) = some ls

def RotOk (T : PTables) (st : PState) (rot : Rot) (ls : LangSettings) (nm nd : Nat) : Prop :=
  (nm ≠ 0 → MathSt T st rot ls) ∧ (nd ≠ 0 → DispSt T st rot ls)

theorem RotOk.congr {T : PTables} {st st' : PState} {rot : Rot} {ls : LangSettings} {nm nd : Nat}
    (hl : st'.langStack = st.langStack) (hr : st'.rots = st.rots) (h : RotOk T st rot ls nm nd) :
    RotOk T st' rot ls nm nd := by
  refine ⟨fun h0 => ?_, fun h0 => ?_⟩
  · obtain ⟨h1, h2, h3⟩ := h.1 h0
    refine ⟨?_, h2, ?_⟩
    · simpa [rotOf, curSettings, hl, hr] using h1
    · simpa [curSettings, hl] using h3
  · obtain ⟨h1, h2, h3⟩ := h.2 h0
    refine ⟨?_, h2, ?_⟩
    · simpa [rotOf, curSettings, hl, hr] using h1
    · simpa [curSettings, hl] using h3

/-- the names that are recorded as unknown, with backslash, in order of occurrence: undeclared
    control words, and uses of names that are not (yet) defined -/
def names : PState → List Piece → List Str
  | _, [] => []
  | st, .cw p name sk :: rest => ('\\' :: name) :: names (nextSt st (.cw p name sk)) rest
  | st, .use p name gs :: rest =>
    (if (lookupMacro st ('\\' :: name)).isNone then [('\\' :: name)] else [])
      ++ names (nextSt st (.use p name gs)) rest
  | st, .ubeg p q1 q2 nt :: rest => bodyTxt nt :: names (nextSt st (.ubeg p q1 q2 nt)) rest
  | st, pc :: rest => names (nextSt st pc) rest


theorem itemSt_fields (st : PState) :
    Reads st (itemSt st) ∧ (itemSt st).rots = st.rots ∧ (itemSt st).unknowns = st.unknowns ∧
    (itemSt st).extracted = st.extracted ∧ (itemSt st).diags = st.diags := by
  unfold PlainItem.itemSt
  split <;> exact ⟨⟨rfl, rfl⟩, rfl, rfl, rfl, rfl⟩

theorem endSt_fields (st : PState) :
    Reads st (PlainItem.endSt st) ∧ (PlainItem.endSt st).rots = st.rots ∧
    (PlainItem.endSt st).unknowns = st.unknowns ∧ (PlainItem.endSt st).extracted = st.extracted ∧
    (PlainItem.endSt st).diags = st.diags := by
  unfold PlainItem.endSt
  split <;> exact ⟨⟨rfl, rfl⟩, rfl, rfl, rfl, rfl⟩


structure SameM (st st' : PState) : Prop where
  macros : st'.macros = st.macros
  ops : st'.mathOperators = st.mathOperators
  envs : st'.envs = st.envs
  stack : st'.itemStack = st.itemStack
  lang : st'.langStack = st.langStack

theorem SameM.envOf {st st' : PState} (h : SameM st st') (nm : Str) :
    PlainItem.envOf st' nm = PlainItem.envOf st nm := by
  simp [PlainItem.envOf, lookupEnv, h.envs]

theorem labelAt_congr (T : PTables) {st st' : PState} (hl : st'.langStack = st.langStack)
    (stk : List ItemGen) : labelAt T st' stk = labelAt T st stk := by
  cases stk with
  | nil => rfl
  | cons g gs =>
    simp only [PlainItem.labelAt]
    cases itemLabel T.itemDefaultLabel g with
    | none => rfl
    | some lab => simp only [PlainItem.labOk, activeChars_congr T st st' hl]

theorem SameM.lookup {st st' : PState} (h : SameM st st') (nm : Str) :
    lookupMacro st' nm = lookupMacro st nm := by
  simp [lookupMacro, h.macros]

theorem SameM.next {st st' : PState} (h : SameM st st') (pc : Piece) :
    SameM (nextSt st pc) (nextSt st' pc) := by
  cases pc with
  | defn p q1 q2 q3 q4 q5 q6 q7 q8 name n body =>
    exact ⟨by simp [nextSt, PlainMacroArgs.defSt, h.macros], h.ops, h.envs, h.stack, h.lang⟩
  | use p name gs =>
    simp only [nextSt, PlainMacroArgs.useSt, h.lookup]
    split
    · exact h
    · exact ⟨h.macros, h.ops, h.envs, h.stack, h.lang⟩
  | ddef p q2 q q7 q8 name n body =>
    exact ⟨by simp [nextSt, PlainMacroArgs.defSt, h.macros], h.ops, h.envs, h.stack, h.lang⟩
  | beg p q1 q2 nt =>
    have e : styleOf st' (bodyTxt nt) = styleOf st (bodyTxt nt) := by
      simp [PlainItem.styleOf, h.envOf]
    exact ⟨h.macros, h.ops, h.envs, by simp [nextSt, PlainItem.begSt, h.stack, e], h.lang⟩
  | item p sp =>
    have hs := h.stack
    cases hst : st.itemStack with
    | nil =>
      have e : st'.itemStack = [] := by rw [hs, hst]
      simp only [nextSt, PlainItem.itemSt, hst, e]
      exact h
    | cons g gs =>
      have e : st'.itemStack = g :: gs := by rw [hs, hst]
      simp only [nextSt, PlainItem.itemSt, hst, e]
      exact ⟨h.macros, h.ops, h.envs, rfl, h.lang⟩
  | en p q1 q2 nt =>
    simp only [nextSt, PlainItem.endSt, h.stack]
    split
    · exact ⟨h.macros, h.ops, h.envs, by simp [h.stack], h.lang⟩
    · exact h
  | _ => exact ⟨h.macros, h.ops, h.envs, h.stack, h.lang⟩

theorem useBody_congr {st st' : PState} (h : SameM st st') (p : Nat) (name : Str) (gs : List Group) :
    useBody st' p name gs = useBody st p name gs := by
  simp only [useBody, h.lookup]

theorem useN_congr {st st' : PState} (h : SameM st st') (name : Str) : useN st' name = useN st name := by
  simp only [useN, h.lookup]

theorem outP_congr (T : PTables) : ∀ (ps : List Piece) (st st' : PState) (l : Colls), SameM st st' →
    outP T st' l ps = outP T st l ps
  | [], _, _, _, _ => rfl
  | .tok t :: rest, st, st', l, h => by simp only [outP, outP_congr T rest st st' l h]
  | .spc t :: rest, st, st', l, h => by simp only [outP, outP_congr T rest st st' l h]
  | .br t :: rest, st, st', l, h => by simp only [outP, outP_congr T rest st st' l h]
  | .cw p name sk :: rest, st, st', l, h => by
    simp only [outP, outP_congr T rest _ _ l (h.next (.cw p name sk))]
  | .van .. :: rest, st, st', l, h => by simp only [outP, outP_congr T rest st st' l h]
  | .com _ :: rest, st, st', l, h => by simp only [outP, outP_congr T rest st st' l h]
  | .verb _ :: rest, st, st', l, h => by simp only [outP, outP_congr T rest st st' l h]
  | .math d1 b d2 :: rest, st, st', l, h => by
    simp only [outP, outP_congr T rest st st' (rotL l.1, l.2) h, (funext (PlainMathRich.mout_congr T st st' h.ops) : mout T st' = mout T st)]
  | .ref .. :: rest, st, st', l, h => by simp only [outP, outP_congr T rest st st' l h]
  | .cite .. :: rest, st, st', l, h => by simp only [outP, outP_congr T rest st st' l h]
  | .citeN .. :: rest, st, st', l, h => by simp only [outP, outP_congr T rest st st' l h]
  | .foot fn lb b rb :: rest, st, st', l, h => by
    simp only [outP, outP_congr T rest _ _ l (h.next (.foot fn lb b rb))]
  | .head .. :: rest, st, st', l, h => by simp only [outP, outP_congr T rest st st' l h]
  | .acc .. :: rest, st, st', l, h => by simp only [outP, outP_congr T rest st st' l h]
  | .defn p q1 q2 q3 q4 q5 q6 q7 q8 name n body :: rest, st, st', l, h => by
    simp only [outP, outP_congr T rest _ _ l (h.next (.defn p q1 q2 q3 q4 q5 q6 q7 q8 name n body))]
  | .use p name gs :: rest, st, st', l, h => by
    simp only [outP, outP_congr T rest _ _ l (h.next (.use p name gs)), useBody_congr h,
      useN_congr h]
  | .disp .. :: rest, st, st', l, h => by simp only [outP, outP_congr T rest st st' (l.1, rotL l.2) h]
  | .denv .. :: rest, st, st', l, h => by simp only [outP, outP_congr T rest st st' (l.1, rotL l.2) h]
  | .ddef p q2 q q7 q8 name n body :: rest, st, st', l, h => by
    simp only [outP, outP_congr T rest _ _ l (h.next (.ddef p q2 q q7 q8 name n body))]
  | .ppar .. :: rest, st, st', l, h => by simp only [outP, outP_congr T rest st st' l h]
  | .pbeg .. :: rest, st, st', l, h => by simp only [outP, outP_congr T rest st st' l h]
  | .pen .. :: rest, st, st', l, h => by simp only [outP, outP_congr T rest st st' l h]
  | .call p q1 q2 name b :: rest, st, st', l, h => by
    simp only [outP, outP_congr T rest _ _ l (h.next (.call p q1 q2 name b))]
  | .callO p b1 b2 q1 q2 name opt b :: rest, st, st', l, h => by
    simp only [outP, outP_congr T rest _ _ l (h.next (.callO p b1 b2 q1 q2 name opt b))]
  | .fen .. :: rest, st, st', l, h => by simp only [outP, outP_congr T rest st st' l h]
  | .fbegN .. :: rest, st, st', l, h => by simp only [outP, outP_congr T rest st st' l h]
  | .fbeg .. :: rest, st, st', l, h => by simp only [outP, outP_congr T rest st st' l h]
  | .beg p q1 q2 nt :: rest, st, st', l, h => by
    simp only [outP, outP_congr T rest _ _ l (h.next (.beg p q1 q2 nt)), h.envOf]
  | .item p sp :: rest, st, st', l, h => by
    simp only [outP, outP_congr T rest _ _ l (h.next (.item p sp)), h.stack]
  | .itemL .. :: rest, st, st', l, h => by simp only [outP, outP_congr T rest st st' l h]
  | .ubeg p q1 q2 nt :: rest, st, st', l, h => by
    simp only [outP, outP_congr T rest _ _ l (h.next (.ubeg p q1 q2 nt))]
  | .uen .. :: rest, st, st', l, h => by simp only [outP, outP_congr T rest st st' l h]
  | .en p q1 q2 nt :: rest, st, st', l, h => by
    simp only [outP, outP_congr T rest _ _ l (h.next (.en p q1 q2 nt)), h.envOf]

theorem cost_congr : ∀ (ps : List Piece) (st st' : PState), SameM st st' → cost st' ps = cost st ps
  | [], _, _, _ => rfl
  | .tok t :: rest, st, st', h => by simp only [cost, cost_congr rest st st' h]
  | .spc t :: rest, st, st', h => by simp only [cost, cost_congr rest st st' h]
  | .br t :: rest, st, st', h => by simp only [cost, cost_congr rest st st' h]
  | .cw p name sk :: rest, st, st', h => by
    simp only [cost, cost_congr rest _ _ (h.next (.cw p name sk))]
  | .van .. :: rest, st, st', h => by simp only [cost, cost_congr rest st st' h]
  | .com _ :: rest, st, st', h => by simp only [cost, cost_congr rest st st' h]
  | .verb _ :: rest, st, st', h => by simp only [cost, cost_congr rest st st' h]
  | .math .. :: rest, st, st', h => by simp only [cost, cost_congr rest st st' h]
  | .ref .. :: rest, st, st', h => by simp only [cost, cost_congr rest st st' h]
  | .cite .. :: rest, st, st', h => by simp only [cost, cost_congr rest st st' h]
  | .citeN .. :: rest, st, st', h => by simp only [cost, cost_congr rest st st' h]
  | .foot fn lb b rb :: rest, st, st', h => by
    simp only [cost, cost_congr rest _ _ (h.next (.foot fn lb b rb))]
  | .head .. :: rest, st, st', h => by simp only [cost, cost_congr rest st st' h]
  | .acc .. :: rest, st, st', h => by simp only [cost, cost_congr rest st st' h]
  | .defn p q1 q2 q3 q4 q5 q6 q7 q8 name n body :: rest, st, st', h => by
    simp only [cost, cost_congr rest _ _ (h.next (.defn p q1 q2 q3 q4 q5 q6 q7 q8 name n body))]
  | .use p name gs :: rest, st, st', h => by
    simp only [cost, cost_congr rest _ _ (h.next (.use p name gs)), useBody_congr h, useN_congr h]
  | .disp .. :: rest, st, st', h => by simp only [cost, cost_congr rest st st' h]
  | .denv .. :: rest, st, st', h => by simp only [cost, cost_congr rest st st' h]
  | .ddef p q2 q q7 q8 name n body :: rest, st, st', h => by
    simp only [cost, cost_congr rest _ _ (h.next (.ddef p q2 q q7 q8 name n body))]
  | .ppar .. :: rest, st, st', h => by simp only [cost, cost_congr rest st st' h]
  | .pbeg .. :: rest, st, st', h => by simp only [cost, cost_congr rest st st' h]
  | .pen .. :: rest, st, st', h => by simp only [cost, cost_congr rest st st' h]
  | .call p q1 q2 name b :: rest, st, st', h => by
    simp only [cost, cost_congr rest _ _ (h.next (.call p q1 q2 name b))]
  | .callO p b1 b2 q1 q2 name opt b :: rest, st, st', h => by
    simp only [cost, cost_congr rest _ _ (h.next (.callO p b1 b2 q1 q2 name opt b))]
  | .fen .. :: rest, st, st', h => by simp only [cost, cost_congr rest st st' h]
  | .fbegN .. :: rest, st, st', h => by simp only [cost, cost_congr rest st st' h]
  | .fbeg .. :: rest, st, st', h => by simp only [cost, cost_congr rest st st' h]
  | .beg p q1 q2 nt :: rest, st, st', h => by
    simp only [cost, cost_congr rest _ _ (h.next (.beg p q1 q2 nt))]
  | .item p sp :: rest, st, st', h => by simp only [cost, cost_congr rest _ _ (h.next (.item p sp))]
  | .itemL .. :: rest, st, st', h => by simp only [cost, cost_congr rest st st' h]
  | .ubeg p q1 q2 nt :: rest, st, st', h => by
    simp only [cost, cost_congr rest _ _ (h.next (.ubeg p q1 q2 nt))]
  | .uen .. :: rest, st, st', h => by simp only [cost, cost_congr rest st st' h]
  | .en p q1 q2 nt :: rest, st, st', h => by
    simp only [cost, cost_congr rest _ _ (h.next (.en p q1 q2 nt))]

theorem liveHead_congr (T : PTables) {st st' : PState} (h : SameM st st') (pc : Piece) :
    liveHead T st pc → liveHead T st' pc := by
  cases pc with
  | cw p name sk => simp only [liveHead, h.lookup]; exact id
  | math d1 b d2 => simp only [liveHead, h.lookup]; exact id
  | use p name gs => simp only [liveHead, useN_congr h]; exact id
  | item p sp => simp only [liveHead, h.stack, labelAt_congr T h.lang]; exact id
  | _ => exact id

theorem Live_congr (T : PTables) : ∀ (ps : List Piece) (st st' : PState), SameM st st' →
    Live T st ps → Live T st' ps
  | [], _, _, _, _ => trivial
  | pc :: rest, st, st', h, hl =>
    ⟨liveHead_congr T h pc hl.1, Live_congr T rest _ _ (h.next pc) hl.2⟩


theorem nextSt_rots (st : PState) (r : List Rot) (pc : Piece) :
    nextSt { st with rots := r } pc = { nextSt st pc with rots := r } := by
  cases pc with
  | use p name gs =>
    simp only [nextSt, PlainMacroArgs.useSt, lookupMacro]
    split <;> rfl
  | item p sp =>
    cases h : st.itemStack with
    | nil =>
      have e : ({ st with rots := r } : PState).itemStack = [] := h
      simp only [nextSt, PlainItem.itemSt, h, e]
    | cons g gs =>
      have e : ({ st with rots := r } : PState).itemStack = g :: gs := h
      simp only [nextSt, PlainItem.itemSt, h, e]
  | en p q1 q2 nt =>
    have e : ({ st with rots := r } : PState).itemStack = st.itemStack := rfl
    simp only [nextSt, PlainItem.endSt, e]
    split <;> rfl
  | _ => rfl

theorem finalSt_rots : ∀ (ps : List Piece) (st : PState) (r X : List Rot),
    { finalSt { st with rots := r } ps with rots := X } = { finalSt st ps with rots := X }
  | [], _, _, _ => rfl
  | pc :: rest, st, r, X => by
    show { finalSt (nextSt { st with rots := r } pc) rest with rots := X }
      = { finalSt (nextSt st pc) rest with rots := X }
    rw [nextSt_rots]
    exact finalSt_rots rest (nextSt st pc) r X

theorem dropComs_eq (ps : List Piece) :
    (∃ t rest, ps = .com t :: rest ∧ dropComs ps = dropComs rest) ∨ dropComs ps = ps := by
  cases ps with
  | nil => exact .inr rfl
  | cons pc rest =>
    cases pc with
    | com t => exact .inl ⟨t, rest, rfl, rfl⟩
    | _ => exact .inr rfl

theorem dropComs_length (ps : List Piece) : (dropComs ps).length ≤ ps.length := by
  rcases dropComs_eq ps with ⟨t, rest, rfl, e⟩ | e
  · rw [e]
    exact Nat.le_succ_of_le (dropComs_length rest)
  · rw [e]; exact Nat.le_refl _
termination_by ps.length

theorem nDisp_dropComs (ps : List Piece) : nDisp (dropComs ps) = nDisp ps := by
  rcases dropComs_eq ps with ⟨t, rest, rfl, e⟩ | e
  · rw [e, nDisp_dropComs rest]; rfl
  · rw [e]
termination_by ps.length

theorem dropComs_facts (T : PTables) (st1 : PState) (ps : List Piece) (h : PiecesOk T st1 ps) :
    PiecesOk T st1 (dropComs ps) ∧ (∀ st l, outP T st l (dropComs ps) = outP T st l ps) ∧
    (∀ st, finalSt st (dropComs ps) = finalSt st ps) ∧ nMath (dropComs ps) = nMath ps ∧
    (∀ st, Live T st ps → Live T st (dropComs ps)) ∧ (∀ st, cost st (dropComs ps) ≤ cost st ps) ∧
    skipSpaceStopLangAct (flat ps) = skipSpaceStopLangAct (flat (dropComs ps)) := by
  rcases dropComs_eq ps with ⟨t, rest, rfl, e⟩ | e
  · obtain ⟨h1, h2, h3, h4, h5, h6, h7⟩ := dropComs_facts T st1 rest h.2
    rw [e]
    refine ⟨h1, fun st l => (h2 st l).trans rfl, fun st => (h3 st).trans rfl, h4.trans rfl,
      fun st hl => h5 st hl.2, fun st => Nat.le_trans (h6 st) (Nat.le_add_left _ 1), ?_⟩
    have hd : (isSpaceTok t && !isLangK t && !(t.kind == .action)) = true := by
      simp [isSpaceTok, isLangK, h.1.kind]
    simp only [flat, Piece.toks, List.singleton_append]
    unfold skipSpaceStopLangAct at h7 ⊢
    rw [List.dropWhile_cons, if_pos hd]
    exact h7
  · rw [e]
    exact ⟨h, fun _ _ => rfl, fun _ => rfl, rfl, fun _ h => h, fun _ => Nat.le_refl _, rfl⟩
termination_by ps.length


/-- the punctuation mark recorded in every `\item[label]` piece is the one `expand_item` finds: the
    last character of the last non-blank token of the output so far, if it is in `item_punctuation` -/
def PvOk (T : PTables) (out : List Tok) (st : PState) (l : Colls) (ps : List Piece) : Prop :=
  ∀ pre p sp b1 b2 lab pc suf, ps = pre ++ Piece.itemL p sp b1 b2 lab pc :: suf →
    punctOf T (pvOf (out ++ outP T st l pre)) = pc

theorem PvOk.head {T : PTables} {out : List Tok} {st : PState} {l : Colls} {p : Nat} {sp : List Tok}
    {b1 b2 : Nat} {lab : List Tok} {pc : Option Char} {ps : List Piece}
    (h : PvOk T out st l (.itemL p sp b1 b2 lab pc :: ps)) : punctOf T (pvOf out) = pc := by
  have := h [] p sp b1 b2 lab pc ps rfl
  simpa [outP] using this

theorem PvOk.tail {T : PTables} {out : List Tok} {st : PState} {l : Colls} {X : Piece} {ps : List Piece}
    {hd : List Tok} {st' : PState} {l' : Colls}
    (he : ∀ pre, outP T st l (X :: pre) = hd ++ outP T st' l' pre) (h : PvOk T out st l (X :: ps)) :
    PvOk T (out ++ hd) st' l' ps := by
  intro pre p sp b1 b2 lab pc suf e
  have := h (X :: pre) p sp b1 b2 lab pc suf (by rw [e]; rfl)
  rw [he, ← List.append_assoc] at this
  exact this

theorem PvOk.tail2 {T : PTables} {out out' : List Tok} {st : PState} {l : Colls} {X : Piece}
    {ps : List Piece} {st' : PState} {l' : Colls}
    (he : ∀ pre, out ++ outP T st l (X :: pre) = out' ++ outP T st' l' pre)
    (h : PvOk T out st l (X :: ps)) : PvOk T out' st' l' ps := by
  intro pre p sp b1 b2 lab pc suf e
  have := h (X :: pre) p sp b1 b2 lab pc suf (by rw [e]; rfl)
  rw [he] at this
  exact this
theorem PvOk.cons {T : PTables} {out : List Tok} {st : PState} {l : Colls} {X : Piece} {ps : List Piece}
    {hd : List Tok} {st' : PState} {l' : Colls}
    (he : ∀ pre, outP T st l (X :: pre) = hd ++ outP T st' l' pre)
    (hx : ∀ p sp b1 b2 lab pc, X ≠ .itemL p sp b1 b2 lab pc)
    (h : PvOk T (out ++ hd) st' l' ps) : PvOk T out st l (X :: ps) := by
  intro pre p sp b1 b2 lab pc suf e
  cases pre with
  | nil =>
    simp only [List.nil_append, List.cons.injEq] at e
    exact absurd e.1 (hx p sp b1 b2 lab pc)
  | cons Y pre' =>
    simp only [List.cons_append, List.cons.injEq] at e
    obtain ⟨rfl, e2⟩ := e
    rw [he, ← List.append_assoc]
    exact h pre' p sp b1 b2 lab pc suf e2

theorem PvOk.consL {T : PTables} {out : List Tok} {st : PState} {l : Colls} {p : Nat} {sp : List Tok}
    {b1 b2 : Nat} {lab : List Tok} {pc : Option Char} {ps : List Piece}
    (hp : punctOf T (pvOf out) = pc) (h : PvOk T (out ++ itemLOut p (labArg b1 lab) pc) st l ps) :
    PvOk T out st l (.itemL p sp b1 b2 lab pc :: ps) := by
  intro pre p' sp' b1' b2' lab' pc' suf e
  cases pre with
  | nil =>
    simp only [List.nil_append, List.cons.injEq, Piece.itemL.injEq] at e
    obtain ⟨⟨_, _, _, _, _, rfl⟩, _⟩ := e
    simpa [outP] using hp
  | cons Y pre' =>
    simp only [List.cons_append, List.cons.injEq] at e
    obtain ⟨rfl, e2⟩ := e
    have := h pre' p' sp' b1' b2' lab' pc' suf e2
    simp only [outP, ← List.append_assoc]
    exact this

theorem PvOk.dropComs {T : PTables} {st : PState} {l : Colls} (ps : List Piece) (out : List Tok)
    (h : PvOk T out st l ps) : PvOk T out st l (PlainMix4.dropComs ps) := by
  rcases dropComs_eq ps with ⟨t, rest, rfl, e⟩ | e
  · rw [e]
    have := PvOk.tail (hd := []) (st' := st) (l' := l) (fun _ => rfl) h
    rw [List.append_nil] at this
    exact PvOk.dropComs rest out this
  · rw [e]; exact h
termination_by ps.length

end PlainMix4
end Yalafi
