/-
  Proofs/PlainParaSrc.lean — C05 "text flow is preserved": the PARAGRAPH RELATION between two words of
  a document of the enlarged union grammar (`PlainMix2.Seg`, Proofs/PlainMix2E2E.lean: inert text,
  special sequences, braces / groups / undeclared control words with arguments, vanishing calls,
  comments, `\verb`, inline formulas, references, citations, footnotes, headings), a pure corollary
  layer over the end-to-end theorem `PlainMix2.tex2txt_mix2` and the mark-level facts of
  Proofs/PlainPara.lean.

  Setting.  The document is written as

        A ++ .txt (u ++ [a]) :: (Mid ++ .txt (b :: v) :: B)

  with two VISIBLE text characters `a`, `b` (no white space) that stand in `txt` segments (a `txt`
  segment may be cut anywhere, so this is every pair of visible text characters of the main flow
  that stand in `txt` segments; characters of `\verb`, notes, titles, special values are not
  covered as end points, they may stand between).  `a` has the (0-based) source position
  `posA A u`, `b` has `posB A u Mid`; the source between them is `render Mid`.

  `ref_docAB` (with `tex2txt_mix2`; as one statement `C05_paragraph_relation` in
  Properties/PlainParaStmt.lean): `tex2txt` succeeds and the output, as characters with (1-based) positions, is
        U ++ (a, posA + 1) :: (S ++ (b, posB + 1) :: V)
  with `S = PlainPara.sep (marks of Mid)` — the output characters strictly between `a` and `b`
  (`between`) —, `U = PlainPara.pre (marks in front)`, `V = PlainPara.post (marks behind) ++ flows`.

  The source side is read through `srcView Mid : List Cls` — the source between `a` and `b` as TeX
  sees its layout: every text character by its class (line break / other white space / ink), every
  COMMENT DROPPED (`com body` is what the scanner takes: the text up to the line break and, unless
  a blank line follows, the line break and the indentation of the next line), every other
  construct ONE INK BLOB: a control word WITH THE WHITE SPACE IT SWALLOWS, a call with its
  argument, a brace, a formula, a `\verb`, a footnote, …

    (i)+(ii)  `hasBlank (S classes) = hasBlank (srcView Mid)`   NO INVENTED BREAK and NO LOST BREAK:
              the output between `a` and `b` holds a blank line (two line breaks with white space
              only between them) IFF the source view does.  A line that holds only vanishing
              constructs (and white space) is not blank in the view — and makes no blank line;
              a line that is blank in the source (outside comments / arguments) makes one.
    (i) raw   `hasBlankLine (render (stripCom Mid)) = false → hasBlank (S classes) = false`: if the raw
              source between `a` and `b`, with the comments cut out, holds no blank line, neither
              does the output (the view only contracts constructs to ink).
    (iii)     NOT GLUED: if the view holds white space (a white-space character of a `txt`
              segment — white space that is swallowed by a control word, `cw name sp`, or stands
              inside an argument / comment is not in the view) then `S` holds white space.

    positions `between_pos`: every position in `S` lies strictly between those of `a` and `b`
              (`spcShort`: no special sequence between them has a value longer than itself;
              real tables: all values have length ≤ 1); `between_sublist`: nothing is added.
    gaps      `gap Mid`: `Mid` consists of white space, comments and vanishing constructs only
              (unknown control words, vanishing calls, braces, footnotes): then `S` is white space
              (`between_gap`), and `outNoNl`, `spcShort` hold (`outNoNl_of_gap`, `spcShort_of_gap`).

  Side conditions: those of `PlainMix2.tex2txt_mix2` (`SegsOk`) for the document; `a`, `b` visible;
  for (i)+(ii) `outNoNl T st repls Mid` (decidable): the constructs between `a` and `b` that produce
  output produce no line break — the value of a special sequence, the content of a `\verb`, the
  placeholders and punctuation of formulas, the placeholder of a reference, the note of a
  citation, the title of a heading (on the real tables, given `SegsOk`, only a note of
  `\cite[note]{…}` that contains a line break violates this; vanishing constructs are never
  concerned: `outNoNl_of_gap`).  (iii) and the decomposition need no extra condition.

  NOT covered: end points `a`, `b` outside `txt` segments; what `PlainMix2` does not cover (`\par`,
  environments: Proofs/PlainParEnv.lean; `\\`, displayed maths, multi-language mode).  The footnote
  FLOWS stand behind the main text (`V`), they are not between `a` and `b`; a footnote between `a`
  and `b` is an ink blob.
-/
import YalafiVerif.Proofs.PlainPara
import YalafiVerif.Proofs.PlainMix2Read
namespace Yalafi
namespace PlainMix2
namespace Para

open PlainMacro
open PlainPara
open PlainFootnote (lastTokOff)

theorem marks_cons (T : PTables) (st : PState) (repls : List Str) (x : Seg) (rest : List Seg)
    (k p : Nat) :
    marks T st repls k p (x :: rest)
      = marks T st repls k p [x] ++ marks T st repls (k + nFormulas [x]) (p + x.len) rest := by
  have := marks_append T st repls [x] rest k p
  simpa [render, Seg.len] using this

/-! ### the source view -/

/-- **the layout of the source as TeX sees it**: text by the class of its characters, comments
    dropped, every other construct one ink blob -/
def srcView : List Seg → List Cls
  | [] => []
  | .txt s :: rest => s.map clsC ++ srcView rest
  | .com _ :: rest => srcView rest
  | _ :: rest => .ink :: srcView rest

/-- the constructs that produce output produce no line break (`repls`: the placeholder
    collection, looked at only if there is a formula) -/
def outNoNl (T : PTables) (st : PState) (repls : List Str) : List Seg → Bool
  | [] => true
  | .spc key :: rest => !hasNl (specialValD T.toTables key) && outNoNl T st repls rest
  | .verb _ s :: rest => !hasNl s && outNoNl T st repls rest
  | .math body :: rest =>
    repls.all (fun r => !hasNl r) && !hasNl (PlainMath.punctOf T body) && outNoNl T st repls rest
  | .ref name _ :: rest => !hasNl (PlainRef.phOf st name) && outNoNl T st repls rest
  | .citeN _ note _ :: rest => !hasNl note && outNoNl T st repls rest
  | .head _ title :: rest => !hasNl title && outNoNl T st repls rest
  | _ :: rest => outNoNl T st repls rest

theorem hasNl_append {a b : Str} (h1 : hasNl a = false) (h2 : hasNl b = false) :
    hasNl (a ++ b) = false := by
  simp only [hasNl, List.contains_eq_mem, List.mem_append, decide_eq_false_iff_not, not_or] at *
  exact ⟨h1, h2⟩

theorem placeholder_nonl (repls : List Str) (k : Nat) (h : repls.all (fun r => !hasNl r) = true) :
    hasNl (PlainMath.placeholder repls k) = false := by
  cases repls with
  | nil => rfl
  | cons r rs =>
    simpa using List.all_eq_true.mp h _ (PlainMath.placeholder_mem (r :: rs) (List.cons_ne_nil r rs) k)

theorem clsM_mathMarks (T : PTables) (ph : Str) (p : Nat) (body : Str) :
    (PlainMix.mathMarks T ph p body).map clsM
      = .ink :: (ph.map clsC ++ ((PlainMath.punctOf T body).map clsC ++ [.ink])) := by
  unfold PlainMix.mathMarks
  have e := clsM_fix (ph ++ PlainMath.punctOf T body)
    (fun c => (c, p + 1 + PlainMath.leadBlanks body)) (fun _ => rfl)
  simp only [List.map_cons, List.map_append, clsM, List.map_nil, List.append_assoc] at e ⊢
  rw [← List.append_assoc, e, List.append_assoc]

theorem marks_view (T : PTables) (st : PState) (repls : List Str) :
    ∀ (Mid : List Seg) (k p : Nat) (s : Bool), outNoNl T st repls Mid = true →
      blankGo s ((marks T st repls k p Mid).map clsM) = blankGo s (srcView Mid) := by
  intro Mid
  induction Mid with
  | nil => intros; rfl
  | cons x rest ih =>
    intro k p s h
    cases x
    case txt t =>
      simp only [outNoNl] at h
      simp only [marks, srcView, List.map_append, clsM_posText]
      exact blankGo_prefix_eq _ _ _ s (fun s' => ih k _ s' h)
    case com body =>
      simp only [outNoNl] at h
      simp only [marks, srcView]
      exact ih k _ s h
    case spc | verb =>
      simp only [outNoNl, Bool.and_eq_true, Bool.not_eq_true'] at h
      simp only [marks, srcView, List.map_cons, List.map_append, clsM, clsM_posText, blankGo]
      rw [blankGo_str _ _ h.1]
      exact ih k _ false h.2
    case math body =>
      simp only [outNoNl, Bool.and_eq_true, Bool.not_eq_true'] at h
      simp only [marks, List.map_append, clsM_mathMarks, srcView, List.cons_append, List.append_assoc,
        blankGo]
      rw [blankGo_str _ _ (placeholder_nonl repls (k + 1) h.1.1), blankGo_str _ _ h.1.2]
      simp only [List.nil_append, blankGo]
      exact ih (k + 1) _ false h.2
    case ref name key =>
      simp only [outNoNl, Bool.and_eq_true, Bool.not_eq_true'] at h
      simp only [marks, PlainRef.fixMarks, srcView, List.map_cons, List.map_append, clsM, blankGo]
      rw [clsM_fix _ (fun c => (c, p)) (fun _ => rfl), blankGo_str _ _ h.1]
      exact ih k _ false h.2
    case cite name key =>
      simp only [outNoNl] at h
      simp only [marks, PlainRef.fixMarks, srcView, List.map_cons, List.map_append, clsM, blankGo]
      rw [clsM_fix _ (fun c => (c, p)) (fun _ => rfl), blankGo_str _ _ (by decide)]
      simp only [blankGo]
      exact ih k _ false h
    case citeN name note key =>
      simp only [outNoNl, Bool.and_eq_true, Bool.not_eq_true'] at h
      simp only [marks, PlainRef.fixMarks, srcView, List.map_cons, List.map_append, clsM, blankGo,
        clsM_posText]
      rw [clsM_fix _ (fun c => (c, p)) (fun _ => rfl), blankGo_str _ _ (by decide),
        blankGo_str _ _ h.1]
      have : clsC ']' = .ink := by decide
      simp only [this, blankGo]
      exact ih k _ false h.2
    case head name title =>
      simp only [outNoNl, Bool.and_eq_true, Bool.not_eq_true'] at h
      simp only [marks, dotMarks, srcView, List.map_cons, List.map_append, clsM, blankGo, clsM_posText]
      rw [blankGo_str _ _ h.1]
      have hd : clsC '.' = .ink := by decide
      split
      · simp only [List.map_cons, List.map_nil, clsM, hd, List.singleton_append, blankGo]
        exact ih k _ false h.2
      · simp only [List.map_nil, List.nil_append]
        exact ih k _ false h.2
    -- a brace, an undeclared control word, a vanishing call, a footnote: one text-less mark
    all_goals
      simp only [outNoNl] at h
      simp only [marks, srcView, List.map_cons, clsM, blankGo]
      exact ih k _ false h

/-! ### white space -/

theorem view_space (T : PTables) (st : PState) (repls : List Str) :
    ∀ (Mid : List Seg) (k p : Nat), (srcView Mid).any (fun c => c != .ink) = true →
      (marks T st repls k p Mid).any spaceMark = true := by
  intro Mid
  induction Mid with
  | nil => intro k p h; simp [srcView] at h
  | cons x rest ih =>
    intro k p h
    cases x
    case txt t =>
      simp only [srcView, List.any_append, any_nonink_str, Bool.or_eq_true] at h
      simp only [marks, List.any_append, any_space_posText, Bool.or_eq_true]
      exact h.imp id (ih k _)
    case com body =>
      simp only [srcView] at h
      simp only [marks]
      exact ih k _ h
    all_goals
      simp only [srcView, List.any_cons, bne_self_eq_false, Bool.false_or] at h
      rw [marks_cons, List.any_append, Bool.or_eq_true]
      exact Or.inr (ih _ _ h)

/-! ### the view and the raw source -/


def stripCom : List Seg → List Seg
  | [] => []
  | .com _ :: rest => stripCom rest
  | s :: rest => s :: stripCom rest

def spcVis : List Seg → Bool
  | [] => true
  | .spc key :: rest => key.head?.any (fun c => !isSpace c) && spcVis rest
  | _ :: rest => spcVis rest

theorem spcVis_of_segsOk (T : PTables) (st : PState) : ∀ (segs : List Seg),
    segsOk T st segs = true → spcVis segs = true
  | [], _ => rfl
  | s :: rest, h => by
    cases s
    case spc key =>
      simp only [segsOk, Bool.and_eq_true] at h
      cases key with
      | nil => exact absurd rfl (PlainMix.spcOk_ne h.1)
      | cons c tl => simp [spcVis, (PlainMix.spcOk_head h.1).1, spcVis_of_segsOk T st rest h.2]
    all_goals
      simp only [segsOk, Bool.and_eq_true] at h
      simp only [spcVis]
      exact spcVis_of_segsOk T st rest h.2

theorem spcVis_append (X Y : List Seg) : spcVis (X ++ Y) = (spcVis X && spcVis Y) := by
  induction X with
  | nil => simp [spcVis]
  | cons x rest ih => cases x <;> simp [spcVis, ih, Bool.and_assoc]

theorem view_raw : ∀ (Mid : List Seg) (s : Bool), spcVis Mid = true →
    blankGo s (srcView Mid) = true → blankGo s ((render (stripCom Mid)).map clsC) = true := by
  intro Mid
  induction Mid with
  | nil => intro s _ h; exact h
  | cons x rest ih =>
    intro s hv h
    cases x
    case txt t =>
      simp only [spcVis] at hv
      simp only [srcView] at h
      simp only [stripCom, render, Seg.render, List.map_append]
      exact blankGo_prefix _ _ _ s (fun s' => ih s' hv) h
    case com body =>
      simp only [spcVis] at hv
      simp only [srcView] at h
      simp only [stripCom]
      exact ih s hv h
    case spc key =>
      simp only [spcVis, Bool.and_eq_true] at hv
      cases key with
      | nil => simp at hv
      | cons c tl =>
        have hc : isSpace c = false := by simpa using hv.1
        simp only [srcView] at h
        simp only [stripCom, render, Seg.render, List.map_append]
        exact blankGo_blob c tl _ _ s hc (fun s' => ih s' hv.2) h
    -- every other construct starts with `{`, `}`, `$` or a backslash
    all_goals
      simp only [spcVis] at hv
      simp only [srcView] at h
      simp only [stripCom, render, Seg.render, List.map_append]
      exact blankGo_blob _ _ _ _ s (by decide) (fun s' => ih s' hv) h

/-! ### the paragraph relation -/

/-- the (0-based) source position of `a` in `A ++ .txt (u ++ [a]) :: …` -/
def posA (A : List Seg) (u : Str) : Nat := (render A).length + u.length

/-- the (0-based) source position of `b` in `A ++ .txt (u ++ [a]) :: (Mid ++ .txt (b :: v) :: B)` -/
def posB (A : List Seg) (u : Str) (Mid : List Seg) : Nat := posA A u + 1 + (render Mid).length

def docAB (A : List Seg) (u : Str) (a : Char) (Mid : List Seg) (b : Char) (v : Str) (B : List Seg) :
    List Seg :=
  A ++ .txt (u ++ [a]) :: (Mid ++ .txt (b :: v) :: B)

def midMarks (T : PTables) (st : PState) (repls : List Str) (A : List Seg) (u : Str)
    (Mid : List Seg) : List Mark :=
  marks T st repls (nFormulas A) (posA A u + 1) Mid

/-- **the output characters strictly between `a` and `b`**, with 0-based positions -/
def between (T : PTables) (st : PState) (repls : List Str) (A : List Seg) (u : Str)
    (Mid : List Seg) : List (Char × Nat) :=
  sep (midMarks T st repls A u Mid)

def frontMarks (T : PTables) (st : PState) (repls : List Str) (A : List Seg) (u : Str) : List Mark :=
  marks T st repls 0 0 A ++ (posText (render A).length u).map some

def backMarks (T : PTables) (st : PState) (repls : List Str) (A : List Seg) (u : Str)
    (Mid : List Seg) (v : Str) (B : List Seg) : List Mark :=
  (posText (posB A u Mid + 1) v).map some
    ++ marks T st repls (nFormulas A + nFormulas Mid) (posB A u Mid + 1 + v.length) B

theorem nFormulas_txt (s : Str) (rest : List Seg) : nFormulas (.txt s :: rest) = nFormulas rest := rfl

theorem marks_docAB (T : PTables) (st : PState) (repls : List Str) (A : List Seg) (u : Str) (a : Char)
    (Mid : List Seg) (b : Char) (v : Str) (B : List Seg) :
    marks T st repls 0 0 (docAB A u a Mid b v B)
      = frontMarks T st repls A u ++ some (a, posA A u)
          :: (midMarks T st repls A u Mid ++ some (b, posB A u Mid)
            :: backMarks T st repls A u Mid v B) := by
  unfold docAB frontMarks midMarks backMarks posB posA
  rw [marks_append]
  simp only [Nat.zero_add, marks]
  rw [marks_append]
  simp only [marks, posText_append, List.map_append, posText, List.map_cons, List.map_nil,
    List.append_assoc, List.cons_append, List.length_append,
    List.length_cons, List.length_nil, List.nil_append]
  have e1 : (render A).length + (u.length + (0 + 1)) = (render A).length + u.length + 1 := by omega
  have e2 : (render A).length + u.length + 1 + (render Mid).length + (v.length + 1)
      = (render A).length + u.length + 1 + (render Mid).length + 1 + v.length := by omega
  rw [e1, e2]

theorem ref_docAB (T : PTables) (st : PState) (repls : List Str) (A : List Seg) (u : Str) (a : Char)
    (Mid : List Seg) (b : Char) (v : Str) (B : List Seg)
    (ha : isSpace a = false) (hb : isSpace b = false) :
    delLines (marks T st repls 0 0 (docAB A u a Mid b v B))
      = pre (frontMarks T st repls A u) ++ (a, posA A u)
          :: (between T st repls A u Mid ++ (b, posB A u Mid)
            :: post (backMarks T st repls A u Mid v B)) := by
  rw [marks_docAB]
  exact delLines_between (frontMarks T st repls A u) (midMarks T st repls A u Mid)
    (backMarks T st repls A u Mid v B) (a, posA A u) (b, posB A u Mid) ha hb

/-- (i) + (ii) on the document level -/
theorem between_blank (T : PTables) (st : PState) (repls : List Str) (A : List Seg) (u : Str)
    (Mid : List Seg) (h : outNoNl T st repls Mid = true) :
    hasBlank ((between T st repls A u Mid).map clsP) = hasBlank (srcView Mid) := by
  unfold between
  rw [sep_blank]
  exact marks_view T st repls Mid _ _ false h

/-- (i), raw source -/
theorem between_blank_raw (T : PTables) (st : PState) (repls : List Str) (A : List Seg) (u : Str)
    (Mid : List Seg) (h : outNoNl T st repls Mid = true) (hv : spcVis Mid = true)
    (hraw : hasBlankLine (render (stripCom Mid)) = false) :
    hasBlank ((between T st repls A u Mid).map clsP) = false := by
  rw [between_blank T st repls A u Mid h]
  cases hb : hasBlank (srcView Mid) with
  | false => rfl
  | true =>
    have := view_raw Mid false hv hb
    unfold hasBlankLine hasBlank at hraw
    rw [this] at hraw
    exact absurd hraw (by simp)

/-- (iii) on the document level -/
theorem between_space (T : PTables) (st : PState) (repls : List Str) (A : List Seg) (u : Str)
    (Mid : List Seg) (h : (srcView Mid).any (fun c => c != .ink) = true) :
    (between T st repls A u Mid).any (fun cp => isSpace cp.1) = true := by
  unfold between
  rw [sep_space]
  exact view_space T st repls Mid _ _ h

theorem between_sublist (T : PTables) (st : PState) (repls : List Str) (A : List Seg) (u : Str)
    (Mid : List Seg) :
    List.Sublist (between T st repls A u Mid)
      (PlainMix2.plain T st repls (nFormulas A) (posA A u + 1) Mid) := by
  have := sep_sublist (midMarks T st repls A u Mid)
  unfold midMarks at this
  rw [PlainMix2.marks_chars] at this
  exact this

/-! ### the positions between `a` and `b` -/

def spcShort (T : PTables) : List Seg → Bool
  | [] => true
  | .spc key :: rest => decide ((specialValD T.toTables key).length ≤ key.length) && spcShort T rest
  | _ :: rest => spcShort T rest

theorem pos_tail {p c n x : Nat} (h : p + c ≤ x ∧ x < p + c + n) : p ≤ x ∧ x < p + (c + n) := by omega

open PlainRef (mem_fixChars lastTokOff_le) in
theorem plain_pos (T : PTables) (st : PState) (repls : List Str) : ∀ (Mid : List Seg) (k p : Nat)
    (cp : Char × Nat), spcShort T Mid = true → cp ∈ plain T st repls k p Mid →
    p ≤ cp.2 ∧ cp.2 < p + srcLen Mid := by
  intro Mid
  induction Mid with
  | nil => intro k p cp _ h; simp [plain] at h
  | cons x rest ih =>
    intro k p cp hs h
    -- in every case: a character of the first segment stands inside it; one of the rest, by `ih`, behind it
    cases x
    case txt | verb =>
      simp only [spcShort] at hs
      simp only [plain, List.mem_append] at h
      simp only [srcLen]
      rcases h with h | h
      · have := mem_posText h; omega
      · exact pos_tail (ih k _ cp hs h)
    case spc key =>
      simp only [spcShort, Bool.and_eq_true, decide_eq_true_eq] at hs
      simp only [plain, List.mem_append] at h
      simp only [srcLen]
      rcases h with h | h
      · have := mem_posText h
        have := hs.1
        omega
      · exact pos_tail (ih k _ cp hs.2 h)
    case math body =>
      simp only [spcShort] at hs
      simp only [plain, List.mem_append, List.mem_map] at h
      simp only [srcLen]
      rcases h with ⟨c, _, rfl⟩ | h
      · have : PlainMath.leadBlanks body ≤ body.length := by
          unfold PlainMath.leadBlanks
          exact ScannerAux.length_takeWhile_le' isSpace body
        simp only
        omega
      · exact pos_tail (ih (k + 1) _ cp hs h)
    case ref | cite =>
      simp only [spcShort] at hs
      simp only [plain, List.mem_append] at h
      simp only [srcLen, PlainRef.callLen]
      rcases h with h | h
      · have := mem_fixChars h; omega
      · exact pos_tail (ih k _ cp hs h)
    case citeN name note key =>
      simp only [spcShort] at hs
      simp only [plain, List.mem_append, List.mem_cons] at h
      simp only [srcLen, PlainRef.callNLen]
      have hl := lastTokOff_le note
      rcases h with h | h | rfl | h
      · have := mem_fixChars h; omega
      · have := mem_posText h; omega
      · simp only; omega
      · exact pos_tail (ih k _ cp hs h)
    case head name title =>
      simp only [spcShort] at hs
      simp only [plain, List.mem_append] at h
      simp only [srcLen]
      have hl := lastTokOff_le title
      rcases h with h | h | h
      · have := mem_posText h; omega
      · split at h
        · simp only [List.mem_singleton] at h
          subst h
          simp only; omega
        · simp at h
      · exact pos_tail (ih k _ cp hs h)
    -- no output: a brace, an undeclared control word, a vanishing call, a comment, a footnote
    all_goals
      simp only [spcShort] at hs
      simp only [plain] at h
      simp only [srcLen]
      exact pos_tail (ih k _ cp hs h)


/-! ### words separated by vanishing material only -/

/-- `Mid` consists of white space, comments and constructs that vanish from the output: unknown
    control words (with the white space they swallow), vanishing calls (`\label{…}`, `\index{…}`),
    braces, footnotes (they leave the main flow) -/
def gap : List Seg → Bool
  | [] => true
  | .txt s :: rest => s.all isSpace && gap rest
  | .com _ :: rest => gap rest
  | .cw _ _ :: rest => gap rest
  | .van _ _ :: rest => gap rest
  | .opn :: rest => gap rest
  | .cls :: rest => gap rest
  | .foot _ :: rest => gap rest
  | _ :: _ => false

theorem gap_facts (T : PTables) : ∀ (Mid : List Seg), gap Mid = true →
    spcShort T Mid = true ∧ ∀ (st : PState) (repls : List Str), outNoNl T st repls Mid = true ∧
      ∀ k p, ∀ cp ∈ plain T st repls k p Mid, isSpace cp.1 = true := by
  intro Mid
  induction Mid with
  | nil => intro _; exact ⟨rfl, fun _ _ => ⟨rfl, by simp [plain]⟩⟩
  | cons x rest ih =>
    intro h
    cases x
    case txt s =>
      simp only [gap, Bool.and_eq_true] at h
      obtain ⟨h1, h2⟩ := ih h.2
      refine ⟨by simpa only [spcShort] using h1, fun st repls => ?_⟩
      refine ⟨by simpa only [outNoNl] using (h2 st repls).1, fun k p cp hcp => ?_⟩
      simp only [plain, List.mem_append] at hcp
      exact hcp.elim (posText_space s p h.1 cp) ((h2 st repls).2 k _ cp)
    case com | cw | van | opn | cls | foot =>
      simp only [gap] at h
      obtain ⟨h1, h2⟩ := ih h
      refine ⟨by simpa only [spcShort] using h1, fun st repls => ?_⟩
      exact ⟨by simpa only [outNoNl] using (h2 st repls).1,
        fun k p => by simpa only [plain] using (h2 st repls).2 k _⟩
    all_goals simp [gap] at h

theorem between_gap (T : PTables) (st : PState) (repls : List Str) (A : List Seg) (u : Str)
    (Mid : List Seg) (h : gap Mid = true) :
    ∀ cp ∈ between T st repls A u Mid, isSpace cp.1 = true := by
  intro cp hcp
  exact ((gap_facts T Mid h).2 st repls).2 _ _ cp ((between_sublist T st repls A u Mid).subset hcp)

theorem spcVis_mid (T : PTables) (st : PState) (A : List Seg) (u : Str) (a : Char) (Mid : List Seg)
    (b : Char) (v : Str) (B : List Seg) (h : segsOk T st (docAB A u a Mid b v B) = true) :
    spcVis Mid = true := by
  have := spcVis_of_segsOk T st _ h
  unfold docAB at this
  rw [spcVis_append] at this
  simp only [spcVis, Bool.and_eq_true] at this
  have h2 := this.2
  rw [spcVis_append] at h2
  simp only [Bool.and_eq_true] at h2
  exact h2.1

theorem between_pos (T : PTables) (st : PState) (repls : List Str) (A : List Seg) (u : Str)
    (Mid : List Seg) (hs : spcShort T Mid = true) :
    ∀ cp ∈ between T st repls A u Mid, posA A u < cp.2 ∧ cp.2 < posB A u Mid := by
  intro cp hcp
  have h := plain_pos T st repls Mid _ _ cp hs ((between_sublist T st repls A u Mid).subset hcp)
  rw [srcLen_eq] at h
  unfold posB
  omega


end Para
end PlainMix2
end Yalafi
