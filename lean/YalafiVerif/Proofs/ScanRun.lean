/-
  Proofs/ScanRun.lean — the scanner loop without fuel, and runs of the scanner.

  `scanAll`  : the loop with the fuel `scan` gives it (one unit per character is enough, more changes nothing)
  `Scans`    : "on `W` the scanner yields the steps `ss` and goes on with `R`"; built from `Scans.step`,
               `Scans.append`, `Scans.nil`
  `scanAll_of_runs` : the induction of every scanner lemma of a document class, once
  `scan_of_steps`, `scan_of_scanAll` : `scan` read off the loop
-/
import YalafiVerif.Proofs.Scanner
namespace Yalafi

namespace PlainMacro

theorem scanSteps_step (T : Tables) (src : Str) (fuel pos : Nat) (c : Char) (cs : Str) (s : ScanStep)
    (h : nextToken T src pos (c :: cs) = s) (hl : s.len ≠ 0) :
    scanSteps T src (fuel + 1) pos (c :: cs)
      = (s :: (scanSteps T src fuel (pos + s.len) ((c :: cs).drop s.len)).1,
         (scanSteps T src fuel (pos + s.len) ((c :: cs).drop s.len)).2) := by
  simp only [scanSteps, h]
  rw [if_neg (by simpa using hl)]

end PlainMacro

open PlainMacro (scanSteps_step)

theorem flatten_tok_extra (l : List ScanStep) (h : ∀ s ∈ l, s.extra = []) :
    (l.map (fun s => s.tok :: s.extra)).flatten = l.map (·.tok) := by
  induction l with
  | nil => rfl
  | cons a l ih =>
    simp only [List.map_cons, List.flatten_cons, h a (List.mem_cons_self ..), List.singleton_append]
    rw [ih (fun s hs => h s (List.mem_cons_of_mem _ hs))]

theorem flatten_diag_nil (l : List ScanStep) (h : ∀ s ∈ l, s.diag = none) :
    (l.map (·.diag.toList)).flatten = [] := by
  induction l with
  | nil => rfl
  | cons a l ih =>
    simp only [List.map_cons, List.flatten_cons, h a (List.mem_cons_self ..), Option.toList_none,
      List.nil_append]
    exact ih (fun s hs => h s (List.mem_cons_of_mem _ hs))

theorem scan_of_steps {T : Tables} {src : Str} {steps : List ScanStep} {c : Bool}
    (hsc : scanSteps T src src.length 0 src = (steps, c))
    (hok : ∀ x ∈ steps, x.diag = none ∧ x.extra = []) :
    (scan T src).diags = [] ∧ (scan T src).toks = steps.map (·.tok) := by
  simp only [scan, hsc]
  exact ⟨flatten_diag_nil steps (fun s hs => (hok s hs).1), flatten_tok_extra steps (fun s hs => (hok s hs).2)⟩

theorem scanSteps_fuel (T : Tables) (src : Str) : ∀ (f g pos : Nat) (rest : Str),
    rest.length ≤ f → rest.length ≤ g → scanSteps T src f pos rest = scanSteps T src g pos rest := by
  intro f
  induction f with
  | zero =>
    intro g pos rest hf _
    have : rest = [] := List.eq_nil_of_length_eq_zero (by omega)
    subst this
    cases g <;> rfl
  | succ f ih =>
    intro g pos rest hf hg
    cases rest with
    | nil => cases g <;> rfl
    | cons c cs =>
      obtain ⟨g, rfl⟩ : ∃ g', g = g' + 1 := ⟨g - 1, by simp at hg; omega⟩
      generalize hs : nextToken T src pos (c :: cs) = s
      by_cases hl : s.len = 0
      · simp [scanSteps, hs, hl]
      · rw [scanSteps_step T src f pos c cs s hs hl, scanSteps_step T src g pos c cs s hs hl,
          ih g (pos + s.len) ((c :: cs).drop s.len) ?_ ?_]
        all_goals simp only [List.length_drop, List.length_cons] at hf hg ⊢; omega

def scanAll (T : Tables) (src : Str) (pos : Nat) (rest : Str) : List ScanStep × Bool :=
  scanSteps T src rest.length pos rest

theorem scanSteps_eq_scanAll (T : Tables) (src : Str) (fuel pos : Nat) (rest : Str)
    (h : rest.length ≤ fuel) : scanSteps T src fuel pos rest = scanAll T src pos rest :=
  scanSteps_fuel T src fuel rest.length pos rest h (Nat.le_refl _)

theorem scanAll_nil (T : Tables) (src : Str) (pos : Nat) : scanAll T src pos [] = ([], true) := rfl

theorem scanAll_step (T : Tables) (src : Str) (pos : Nat) (c : Char) (cs : Str) (s : ScanStep)
    (h : nextToken T src pos (c :: cs) = s) (hl : s.len ≠ 0) :
    scanAll T src pos (c :: cs)
      = (s :: (scanAll T src (pos + s.len) ((c :: cs).drop s.len)).1,
         (scanAll T src (pos + s.len) ((c :: cs).drop s.len)).2) := by
  have hd : ((c :: cs).drop s.len).length ≤ cs.length := by
    simp only [List.length_drop, List.length_cons]; omega
  show scanSteps T src (cs.length + 1) pos (c :: cs) = _
  rw [scanSteps_step T src _ pos c cs s h hl, scanSteps_eq_scanAll T src _ _ _ hd]

/-- on `W` at `pos` the scanner yields the steps `ss` (no diagnostics, at least one character each)
    and goes on with `R` at `pos'` -/
structure Scans (T : Tables) (src : Str) (pos : Nat) (W : Str) (ss : List ScanStep) (pos' : Nat)
    (R : Str) : Prop where
  eq : scanAll T src pos W = (ss ++ (scanAll T src pos' R).1, (scanAll T src pos' R).2)
  clean : ∀ s ∈ ss, s.diag = none ∧ s.extra = []
  len : ss.length + R.length ≤ W.length

section Scans
variable {T : Tables} {src : Str} {pos p' p'' : Nat} {W X R : Str} {as bs : List ScanStep}

theorem Scans.nil : Scans T src pos W [] pos W := ⟨rfl, by simp, by simp⟩

/-- `hl`: the default settles a length that is a literal (`simp`) or fixed by a hypothesis in scope (`omega`) -/
theorem Scans.step {c : Char} {cs : Str} {s : ScanStep} (h : nextToken T src pos (c :: cs) = s)
    (hR : (c :: cs).drop s.len = R)
    (hl : 1 ≤ s.len := by first | (simp; done) | ((try simp only [List.length_cons]); omega))
    (hd : s.diag = none := by rfl) (he : s.extra = [] := by rfl) :
    Scans T src pos (c :: cs) [s] (pos + s.len) R := by
  refine ⟨?_, by simp [hd, he], ?_⟩
  · rw [scanAll_step T src pos c cs s h (by omega), hR]; rfl
  · rw [← hR, List.length_drop]; simp only [List.length_cons, List.length_nil]; omega

theorem Scans.append (a : Scans T src pos W as p' X) (b : Scans T src p' X bs p'' R) :
    Scans T src pos W (as ++ bs) p'' R := by
  refine ⟨by rw [a.eq, b.eq, List.append_assoc], ?_, ?_⟩
  · intro s hs
    rcases List.mem_append.mp hs with h | h
    · exact a.clean s h
    · exact b.clean s h
  · have := a.len; have := b.len; simp only [List.length_append]; omega

theorem Scans.scanAll (a : Scans T src pos W as p' []) : scanAll T src pos W = (as, true) := by
  rw [a.eq, scanAll_nil, List.append_nil]

theorem Scans.to {q : Nat} (a : Scans T src pos W as p' R) (h : p' = q) : Scans T src pos W as q R := h ▸ a

end Scans

/-- **The induction of the scanner lemmas.**  `Ok p W a`: the source `W` at position `p` is well formed
    and means `a`; `F W a ss`: what the class says of the steps `ss` of the loop on `W`.  If every
    non-empty well-formed source starts with a run behind which the source is well formed again, and
    `F` passes from the steps behind a run to all steps, then `F` holds of the steps of the loop. -/
theorem scanAll_of_runs {α : Type} (T : Tables) (src : Str) (Ok : Nat → Str → α → Prop)
    (F : Str → α → List ScanStep → Prop) (hnil : ∀ p a, Ok p [] a → F [] a [])
    (hstep : ∀ p c cs a, Ok p (c :: cs) a → ∃ ss p' R a', ss ≠ [] ∧ Scans T src p (c :: cs) ss p' R ∧
      Ok p' R a' ∧ ∀ rs, (R = [] → rs = []) → F R a' rs → F (c :: cs) a (ss ++ rs)) :
    ∀ (p : Nat) (W : Str) (a : α), Ok p W a → F W a (scanAll T src p W).1 := by
  suffices h : ∀ (n p : Nat) (W : Str) (a : α), W.length ≤ n → Ok p W a →
      F W a (scanAll T src p W).1 from
    fun p W a => h W.length p W a (Nat.le_refl _)
  intro n
  induction n with
  | zero =>
    intro p W a hn h
    obtain rfl : W = [] := List.eq_nil_of_length_eq_zero (by omega)
    exact hnil p a h
  | succ n ih =>
    intro p W a hn h
    cases W with
    | nil => exact hnil p a h
    | cons c cs =>
      obtain ⟨ss, p', R, a', hne, r, hR, hF⟩ := hstep p c cs a h
      have hlen := r.len
      have : 0 < ss.length := List.length_pos_iff.mpr hne
      have I := ih p' R a' (by simp only [List.length_cons] at hn hlen; omega) hR
      rw [r.eq]
      exact hF _ (fun e => by rw [e]; rfl) I

theorem scan_of_scanAll {T : Tables} {src : Str}
    (hok : ∀ x ∈ (scanAll T src 0 src).1, x.diag = none ∧ x.extra = []) :
    (scan T src).diags = [] ∧ (scan T src).toks = (scanAll T src 0 src).1.map (·.tok) :=
  scan_of_steps (c := (scanAll T src 0 src).2) rfl hok

end Yalafi
