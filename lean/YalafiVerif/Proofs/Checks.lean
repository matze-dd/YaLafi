/-
  Proofs/Checks.lean — the accept scan of --single-letters and the scan of
  --equation-punctuation (Model/Checks.lean), for all texts and all lists.

  Part 1 (accept): `splitBar` is `str.split('|')` (joining the pieces with `|` gives the string
  back, no piece contains `|`); a pair `(b, e)` is a hit iff some non-empty alternative, after the
  two substitutions, stands at `plain[b:e]` with the word boundaries the code asks for
  (`AcceptOcc`); the reported letters are the isolated letters not covered by such an occurrence.

  Part 2 (equation punctuation): bounds of a match, every message starts with a placeholder
  occurrence, messages are disjoint and increasing (`eqScan_*`); soundness: for a message none of
  the three excuses holds (`FollowsDot`, `FollowsEqu`, `FollowsLowerWord`); completeness: every
  offset that does not lie strictly inside a match found earlier is a start offset the scan tries,
  so a placeholder there that has no excuse is reported.
-/
import YalafiVerif.Model.Checks
import YalafiVerif.Proofs.Shell
namespace Yalafi

/-! ### Part 1: accepted patterns -/

theorem splitBar_ne_nil (s : Str) : splitBar s ≠ [] := by
  induction s with
  | nil => simp [splitBar]
  | cons c cs ih =>
    simp only [splitBar]
    split
    · simp
    · split <;> simp

theorem splitBar_join (s : Str) : ['|'].intercalate (splitBar s) = s := by
  induction s with
  | nil => simp [splitBar, List.intercalate]
  | cons c cs ih =>
    simp only [splitBar]
    split
    · rename_i h
      have hc : c = '|' := by simpa using h
      cases hs : splitBar cs with
      | nil => exact absurd hs (splitBar_ne_nil cs)
      | cons x xs =>
        rw [hs] at ih
        subst hc
        cases xs <;> simp_all [List.intercalate, List.intersperse]
    · cases hs : splitBar cs with
      | nil => exact absurd hs (splitBar_ne_nil cs)
      | cons x xs =>
        rw [hs] at ih
        cases xs <;> simp_all [List.intercalate, List.intersperse]

theorem splitBar_no_bar (s : Str) : ∀ x ∈ splitBar s, '|' ∉ x := by
  induction s with
  | nil => simp [splitBar]
  | cons c cs ih =>
    simp only [splitBar]
    split
    · intro x hx
      simp only [List.mem_cons] at hx
      rcases hx with rfl | hx
      · simp
      · exact ih x hx
    · rename_i h
      have hc : c ≠ '|' := by simpa using h
      cases hs : splitBar cs with
      | nil => exact absurd hs (splitBar_ne_nil cs)
      | cons y ys =>
        rw [hs] at ih
        intro x hx
        simp only [List.mem_cons] at hx
        rcases hx with rfl | hx
        · have := ih y (by simp)
          simp only [List.mem_cons, not_or]
          exact ⟨fun h => hc h.symm, this⟩
        · exact ih x (by simp [hx])

theorem replNarrow_ne_nil (s : Str) (h : s ≠ []) : replNarrow s ≠ [] := by
  fun_cases replNarrow s <;> simp_all

theorem acceptSubst_ne_nil (s : Str) (h : s ≠ []) : acceptSubst s ≠ [] := by
  unfold acceptSubst
  apply replNarrow_ne_nil
  simpa using h

theorem mem_acceptAlts (accept a : Str) :
    a ∈ acceptAlts accept ↔ ∃ s ∈ splitBar accept, s ≠ [] ∧ a = acceptSubst s := by
  simp only [acceptAlts, List.mem_map, List.mem_filter]
  constructor
  · rintro ⟨s, ⟨hs, hne⟩, rfl⟩
    exact ⟨s, hs, by simpa using hne, rfl⟩
  · rintro ⟨s, hs, hne, rfl⟩
    exact ⟨s, ⟨hs, by simpa using hne⟩, rfl⟩

theorem litAt_iff (r plain : Str) (p : Nat) : litAt r plain p = true ↔ (plain.drop p).take r.length = r := by
  simp [litAt]

theorem litAt_bound (r plain : Str) (p : Nat) (h : litAt r plain p = true) (hr : r ≠ []) :
    p + r.length ≤ plain.length := by
  rw [litAt_iff] at h
  have h2 := congrArg List.length h
  simp only [List.length_take, List.length_drop] at h2
  have : 0 < r.length := List.length_pos_iff.mpr hr
  omega

/-- the alternative `a` (after the substitutions) occurs at offset `b`: literally, with a word
    boundary in front if it starts with a letter and behind if it ends with one -/
def AcceptOcc (T : Tables) (a plain : Str) (b : Nat) : Prop :=
  (plain.drop b).take a.length = a ∧
  (optAlpha T a.head? = true → wordBoundaryAt T plain b = true) ∧
  (optAlpha T a.getLast? = true → wordBoundaryAt T plain (b + a.length) = true)

theorem altAt_iff (T : Tables) (a plain : Str) (p : Nat) : altAt T a plain p = true ↔ AcceptOcc T a plain p := by
  simp only [altAt, AcceptOcc, Bool.and_eq_true, Bool.or_eq_true, Bool.not_eq_true', litAt_iff]
  constructor
  · rintro ⟨⟨h1, h2⟩, h3⟩
    refine ⟨h1, ?_, ?_⟩
    · intro h; rcases h2 with h2 | h2 <;> simp_all
    · intro h; rcases h3 with h3 | h3 <;> simp_all
  · rintro ⟨h1, h2, h3⟩
    refine ⟨⟨h1, ?_⟩, ?_⟩
    · cases h : optAlpha T a.head? <;> simp_all
    · cases h : optAlpha T a.getLast? <;> simp_all

theorem mem_altHits (T : Tables) (a plain : Str) (ha : a ≠ []) (b e : Nat) :
    (b, e) ∈ altHits T a plain ↔ e = b + a.length ∧ AcceptOcc T a plain b := by
  simp only [altHits, List.mem_map, List.mem_filter, List.mem_range, altAt_iff, Prod.mk.injEq]
  constructor
  · rintro ⟨p, ⟨_, h⟩, rfl, rfl⟩
    exact ⟨rfl, h⟩
  · rintro ⟨rfl, h⟩
    refine ⟨b, ⟨?_, h⟩, rfl, rfl⟩
    have := litAt_bound a plain b ((litAt_iff a plain b).mpr h.1) ha
    omega

theorem acceptHits_spec (T : Tables) (accept plain : Str) (b e : Nat) :
    (b, e) ∈ acceptHits T accept plain ↔
      ∃ s ∈ splitBar accept, s ≠ [] ∧ e = b + (acceptSubst s).length ∧ AcceptOcc T (acceptSubst s) plain b := by
  simp only [acceptHits, List.mem_flatMap, mem_acceptAlts]
  constructor
  · rintro ⟨a, ⟨s, hs, hne, rfl⟩, h⟩
    rw [mem_altHits T _ plain (acceptSubst_ne_nil s hne)] at h
    exact ⟨s, hs, hne, h.1, h.2⟩
  · rintro ⟨s, hs, hne, he, h⟩
    refine ⟨acceptSubst s, ⟨s, hs, hne, rfl⟩, ?_⟩
    rw [mem_altHits T _ plain (acceptSubst_ne_nil s hne)]
    exact ⟨he, h⟩

theorem singleLetterMessages_spec (T : Tables) (accept plain : Str) (i : Nat) :
    i ∈ singleLetterMessages T accept plain ↔
      (i < plain.length ∧
        singleAt T (if i = 0 then none else plain[i - 1]?) (plain.getD i ' ') (plain[i + 1]?) = true) ∧
      ¬ ∃ s ∈ splitBar accept, s ≠ [] ∧ ∃ b, AcceptOcc T (acceptSubst s) plain b ∧
          b ≤ i ∧ i < b + (acceptSubst s).length := by
  unfold singleLetterMessages
  rw [singleLetterOffsets_spec]
  have h1 := singleLetters_exact T plain none 0 i
  have h1' : i ∈ singleLetters T none 0 plain ↔ (i < plain.length ∧
        singleAt T (if i = 0 then none else plain[i - 1]?) (plain.getD i ' ') (plain[i + 1]?) = true) := by
    simpa using h1
  rw [h1']
  apply and_congr Iff.rfl
  constructor
  · rintro h ⟨s, hs, hne, b, hocc, hb, hi⟩
    exact h (b, b + (acceptSubst s).length) ((acceptHits_spec T accept plain _ _).mpr ⟨s, hs, hne, rfl, hocc⟩) ⟨hb, hi⟩
  · rintro h ⟨b, e⟩ hmem ⟨hb, hi⟩
    obtain ⟨s, hs, hne, he, hocc⟩ := (acceptHits_spec T accept plain b e).mp hmem
    exact h ⟨s, hs, hne, b, hocc, hb, by simpa [he] using hi⟩

/-! ### Part 2: equation punctuation -/

theorem wsRun_le (plain : Str) (p : Nat) : wsRun plain p ≤ plain.length - p := by
  unfold wsRun
  have := length_takeWhile_le' isSpace (plain.drop p)
  simpa using this

theorem wordRun_le (T : Tables) (plain : Str) (p : Nat) : wordRun T plain p ≤ plain.length - p := by
  unfold wordRun
  have := length_takeWhile_le' (isLetterish T) (plain.drop p)
  simpa using this

theorem wsRun_spec (plain : Str) (p : Nat) :
    (∀ i, i < wsRun plain p → ∃ c, plain[p + i]? = some c ∧ isSpace c = true) ∧
    (∀ c, plain[p + wsRun plain p]? = some c → isSpace c = false) := by
  unfold wsRun
  generalize hd : plain.drop p = d
  have hget : ∀ i, plain[p + i]? = d[i]? := by intro i; rw [← hd]; simp
  simp only [hget]
  clear hget hd
  induction d with
  | nil => simp
  | cons x xs ih =>
    simp only [List.takeWhile_cons]
    cases hx : isSpace x
    · simp [hx]
    · simp only [if_true, List.length_cons]
      constructor
      · intro i hi
        cases i with
        | zero => exact ⟨x, by simp, hx⟩
        | succ i => simpa using ih.1 i (by omega)
      · intro c hc
        exact ih.2 c (by simpa using hc)

/-- the placeholder `r` occurs at offset `p`: not empty, literally, `\b` on both sides -/
def EquOcc (T : Tables) (plain : Str) (p : Nat) (r : Str) : Prop :=
  r ≠ [] ∧ (plain.drop p).take r.length = r ∧
  wordBoundaryAt T plain p = true ∧ wordBoundaryAt T plain (p + r.length) = true

theorem equAt_iff (T : Tables) (plain : Str) (p : Nat) (r : Str) :
    equAt T plain p r = true ↔ EquOcc T plain p r := by
  simp only [equAt, EquOcc, Bool.and_eq_true, litAt_iff, Bool.not_eq_true', List.isEmpty_eq_false_iff]
  constructor
  · rintro ⟨⟨⟨h1, h2⟩, h3⟩, h4⟩; exact ⟨h1, h2, h3, h4⟩
  · rintro ⟨h1, h2, h3, h4⟩; exact ⟨⟨⟨h1, h2⟩, h3⟩, h4⟩

theorem EquOcc.bound {T : Tables} {plain : Str} {p : Nat} {r : Str} (h : EquOcc T plain p r) :
    p + r.length ≤ plain.length ∧ 0 < r.length :=
  ⟨litAt_bound r plain p ((litAt_iff r plain p).mpr h.2.1) h.1, List.length_pos_iff.mpr h.1⟩

theorem mem_equCands (T : Tables) (repls : List Str) (plain : Str) (p : Nat) (r : Str) :
    r ∈ equCands T repls plain p ↔ r ∈ repls ∧ EquOcc T plain p r := by
  simp [equCands, List.mem_filter, equAt_iff]

theorem optPunct_lt (plain : Str) (q : Nat) (h : optPunct plain[q]? = true) : q < plain.length := by
  cases hq : plain[q]? with
  | none => simp [hq, optPunct] at h
  | some c => exact (List.getElem?_eq_some_iff.mp hq).1

/-- the offset behind white space, an optional `,;:` and white space again -/
def afterSep (plain : Str) (e : Nat) : Nat :=
  let q := e + wsRun plain e
  let q1 := if optPunct plain[q]? then q + 1 else q
  q1 + wsRun plain q1

theorem afterSep_bounds (plain : Str) (e : Nat) (he : e ≤ plain.length) :
    e ≤ afterSep plain e ∧ afterSep plain e ≤ plain.length := by
  unfold afterSep
  have h1 := wsRun_le plain e
  simp only []
  split
  · rename_i hp
    have := optPunct_lt plain _ hp
    have h2 := wsRun_le plain (e + wsRun plain e + 1)
    omega
  · have h2 := wsRun_le plain (e + wsRun plain e)
    omega

theorem tailMatch_eq (T : Tables) (plain : Str) (e : Nat) :
    tailMatch T plain e =
      if plain[e + wsRun plain e]? = some '.' then (e + wsRun plain e + 1, false)
      else if wordRun T plain (afterSep plain e) = 0 then (e + wsRun plain e, true)
      else (afterSep plain e + wordRun T plain (afterSep plain e), !optLower T plain[afterSep plain e]?) := by
  unfold tailMatch afterSep
  simp only [beq_iff_eq]

theorem tailMatch_bounds (T : Tables) (plain : Str) (e : Nat) (he : e ≤ plain.length) :
    e ≤ (tailMatch T plain e).1 ∧ (tailMatch T plain e).1 ≤ plain.length := by
  rw [tailMatch_eq]
  have h1 := wsRun_le plain e
  have h2 := afterSep_bounds plain e he
  have h3 := wordRun_le T plain (afterSep plain e)
  split
  · rename_i hd
    have := (List.getElem?_eq_some_iff.mp hd).1
    simp only []
    omega
  · split <;> simp only [] <;> omega

theorem eqMatchAt_some (T : Tables) (repls : List Str) (plain : Str) (p : Nat) (em : Nat × Bool)
    (h : eqMatchAt T repls plain p = some em) :
    ∃ r ∈ repls, EquOcc T plain p r ∧ p + r.length ≤ em.1 ∧ em.1 ≤ plain.length := by
  unfold eqMatchAt at h
  split at h
  · rename_i r hf
    have hm := (mem_equCands T repls plain p r).mp (List.mem_of_find?_eq_some hf)
    have hb := hm.2.bound
    simp only [Option.some.injEq] at h
    subst h
    exact ⟨r, hm.1, hm.2, by simp, hb.1⟩
  · split at h
    · simp at h
    · rename_i r rest hc
      have hm := (mem_equCands T repls plain p r).mp (by rw [hc]; simp)
      have hb := hm.2.bound
      have ht := tailMatch_bounds T plain (p + r.length) hb.1
      simp only [Option.some.injEq] at h
      subst h
      exact ⟨r, hm.1, hm.2, ht.1, ht.2⟩

theorem eqMatchAt_lt (T : Tables) (repls : List Str) (plain : Str) (p : Nat) (em : Nat × Bool)
    (h : eqMatchAt T repls plain p = some em) : p < em.1 ∧ em.1 ≤ plain.length := by
  obtain ⟨r, _, hocc, h1, h2⟩ := eqMatchAt_some T repls plain p em h
  have := hocc.bound
  omega

theorem eqScan_mem (T : Tables) (repls : List Str) (plain : Str) (fuel p0 : Nat) (m : Nat × Nat × Bool)
    (h : m ∈ eqScan T repls plain fuel p0) :
    p0 ≤ m.1 ∧ eqMatchAt T repls plain m.1 = some (m.2.1, m.2.2) := by
  induction fuel generalizing p0 with
  | zero => simp [eqScan] at h
  | succ fuel ih =>
    simp only [eqScan] at h
    split at h
    · have := ih (p0 + 1) h
      exact ⟨by omega, this.2⟩
    · rename_i em hem
      simp only [List.mem_cons] at h
      rcases h with rfl | h
      · exact ⟨Nat.le_refl _, hem⟩
      · have := ih em.1 h
        have hl := eqMatchAt_lt T repls plain p0 em hem
        exact ⟨by omega, this.2⟩

theorem eqScan_pairwise (T : Tables) (repls : List Str) (plain : Str) (fuel p0 : Nat) :
    (eqScan T repls plain fuel p0).Pairwise (fun a b => a.1 ≤ a.2.1 ∧ a.2.1 ≤ b.1) := by
  induction fuel generalizing p0 with
  | zero => simp [eqScan]
  | succ fuel ih =>
    simp only [eqScan]
    split
    · exact ih (p0 + 1)
    · rename_i em hem
      have hl := eqMatchAt_lt T repls plain p0 em hem
      refine List.Pairwise.cons ?_ (ih em.1)
      intro b hb
      have := eqScan_mem T repls plain fuel em.1 b hb
      exact ⟨by simp only []; omega, this.1⟩

/-- a start offset that is not strictly inside an earlier match is tried by the scan -/
theorem eqScan_reaches (T : Tables) (repls : List Str) (plain : Str) (fuel p0 p : Nat) (em : Nat × Bool)
    (hf : plain.length + 1 ≤ fuel + p0) (hp : p0 ≤ p) (h : eqMatchAt T repls plain p = some em) :
    (p, em.1, em.2) ∈ eqScan T repls plain fuel p0 ∨
      ∃ m ∈ eqScan T repls plain fuel p0, m.1 < p ∧ p < m.2.1 := by
  have hlt := eqMatchAt_lt T repls plain p em h
  induction fuel generalizing p0 with
  | zero => omega
  | succ fuel ih =>
    simp only [eqScan]
    by_cases hpp : p = p0
    · subst hpp
      rw [h]
      simp
    · split
      · exact ih (p0 + 1) (by omega) (by omega)
      · rename_i em0 hem0
        have hl0 := eqMatchAt_lt T repls plain p0 em0 hem0
        by_cases hin : p < em0.1
        · right
          exact ⟨(p0, em0.1, em0.2), by simp, by simp only []; omega, hin⟩
        · rcases ih em0.1 (by omega) (by omega) with h1 | ⟨m, hm, h1⟩
          · left; simp [h1]
          · right; exact ⟨m, by simp [hm], h1⟩

theorem mem_eqPunctMessages (T : Tables) (repls : List Str) (plain : Str) (o l : Nat) :
    (o, l) ∈ eqPunctMessages T repls plain ↔
      ∃ m ∈ eqMatches T repls plain, m.2.2 = true ∧ o = m.1 ∧ l = m.2.1 - m.1 := by
  simp only [eqPunctMessages, List.mem_filterMap]
  constructor
  · rintro ⟨m, hm, h⟩
    split at h
    · rename_i hb
      simp only [Option.some.injEq, Prod.mk.injEq] at h
      exact ⟨m, hm, hb, h.1.symm, h.2.symm⟩
    · simp at h
  · rintro ⟨m, hm, hb, rfl, rfl⟩
    exact ⟨m, hm, by simp [hb]⟩

theorem eqPunct_msg_match (T : Tables) (repls : List Str) (plain : Str) (o l : Nat)
    (h : (o, l) ∈ eqPunctMessages T repls plain) :
    eqMatchAt T repls plain o = some (o + l, true) := by
  obtain ⟨m, hm, hb, rfl, rfl⟩ := (mem_eqPunctMessages T repls plain o l).mp h
  have h1 := (eqScan_mem T repls plain _ 0 m hm).2
  have h2 := eqMatchAt_lt T repls plain m.1 _ h1
  simp only [] at h2
  rw [h1, hb]
  congr 2
  omega

theorem eqPunct_marks_placeholder (T : Tables) (repls : List Str) (plain : Str) (o l : Nat)
    (h : (o, l) ∈ eqPunctMessages T repls plain) :
    ∃ r ∈ repls, EquOcc T plain o r ∧ r.length ≤ l ∧ o + l ≤ plain.length := by
  obtain ⟨r, hr, hocc, h1, h2⟩ := eqMatchAt_some T repls plain o _ (eqPunct_msg_match T repls plain o l h)
  exact ⟨r, hr, hocc, by simp only [] at h1; omega, h2⟩

theorem eqPunct_disjoint (T : Tables) (repls : List Str) (plain : Str) :
    (eqPunctMessages T repls plain).Pairwise (fun a b => a.1 + a.2 ≤ b.1) := by
  unfold eqPunctMessages eqMatches
  refine List.Pairwise.filterMap _ ?_ (eqScan_pairwise T repls plain _ 0)
  intro a a' hR b hb b' hb'
  split at hb <;> simp only [Option.some.injEq, reduceCtorEq] at hb
  split at hb' <;> simp only [Option.some.injEq, reduceCtorEq] at hb'
  subst hb hb'
  simp only []
  omega

/-- (white space and) a full stop follow at offset `e` -/
def FollowsDot (plain : Str) (e : Nat) : Prop := plain[e + wsRun plain e]? = some '.'

/-- white space, an optional `,;:`, white space and a placeholder follow at offset `e`
    (every way of splitting the white space counts, as in the regular expression) -/
def FollowsEqu (T : Tables) (repls : List Str) (plain : Str) (e : Nat) : Prop :=
  ∃ i, i ≤ wsRun plain e ∧ ∃ k, (k = 0 ∨ (k = 1 ∧ optPunct plain[e + i]? = true)) ∧
    ∃ j, j ≤ wsRun plain (e + i + k) ∧ ∃ r ∈ repls, EquOcc T plain (e + i + k + j) r

/-- white space, an optional `,;:`, white space and a word (`[^\W0-9_]+`) whose first character
    is lower case follow at offset `e` -/
def FollowsLowerWord (T : Tables) (plain : Str) (e : Nat) : Prop :=
  ∃ c, plain[afterSep plain e]? = some c ∧ isLetterish T c = true ∧ T.isLower c = true

theorem wsThenEqu_iff (T : Tables) (repls : List Str) (plain : Str) (a : Nat) :
    wsThenEqu T repls plain a = true ↔
      ∃ j, j ≤ wsRun plain a ∧ ∃ r ∈ repls, EquOcc T plain (a + j) r := by
  simp only [wsThenEqu, List.any_eq_true, List.mem_range, equAt_iff, Nat.lt_succ_iff]

theorem followedByEqu_iff (T : Tables) (repls : List Str) (plain : Str) (e : Nat) :
    followedByEqu T repls plain e = true ↔ FollowsEqu T repls plain e := by
  simp only [followedByEqu, FollowsEqu, List.any_eq_true, List.mem_range, Nat.lt_succ_iff,
    Bool.or_eq_true, Bool.and_eq_true, wsThenEqu_iff]
  constructor
  · rintro ⟨i, hi, h | ⟨hp, h⟩⟩
    · exact ⟨i, hi, 0, Or.inl rfl, h⟩
    · exact ⟨i, hi, 1, Or.inr ⟨rfl, hp⟩, h⟩
  · rintro ⟨i, hi, k, hk | ⟨hk, hp⟩, h⟩
    · subst hk; exact ⟨i, hi, Or.inl h⟩
    · subst hk; exact ⟨i, hi, Or.inr ⟨hp, h⟩⟩

theorem wordRun_eq_zero_iff (T : Tables) (plain : Str) (p : Nat) :
    wordRun T plain p = 0 ↔ ∀ c, plain[p]? = some c → isLetterish T c = false := by
  unfold wordRun
  rw [← List.head?_drop]
  generalize plain.drop p = d
  cases d with
  | nil => simp
  | cons x xs =>
    cases hx : isLetterish T x <;> simp [hx]

theorem tailMatch_msg_iff (T : Tables) (plain : Str) (e : Nat) :
    (tailMatch T plain e).2 = true ↔ ¬ FollowsDot plain e ∧ ¬ FollowsLowerWord T plain e := by
  rw [tailMatch_eq]
  unfold FollowsDot FollowsLowerWord
  by_cases hd : plain[e + wsRun plain e]? = some '.'
  · simp [hd]
  · simp only [hd, if_false, not_false_eq_true, true_and]
    by_cases hw : wordRun T plain (afterSep plain e) = 0
    · simp only [hw, if_true, true_iff]
      rintro ⟨c, hc, hl, _⟩
      have := (wordRun_eq_zero_iff T plain _).mp hw c hc
      simp [this] at hl
    · simp only [hw, if_false]
      have hw' := hw
      rw [wordRun_eq_zero_iff] at hw'
      simp only [Classical.not_forall] at hw'
      obtain ⟨c, hc, hl⟩ := hw'
      have hl : isLetterish T c = true := by simpa using hl
      simp only [hc, optLower, Bool.not_eq_true', Option.some.injEq]
      constructor
      · rintro h ⟨c', rfl, _, hlow⟩
        simp [h] at hlow
      · intro h
        cases hlow : T.isLower c
        · rfl
        · exact absurd ⟨c, rfl, hl, hlow⟩ h

/-- the match at `p` yields a message: there are candidates, none of them is followed by a
    placeholder, and the first one is followed neither by a full stop nor by a lower-case word -/
theorem eqMatchAt_msg_iff (T : Tables) (repls : List Str) (plain : Str) (p e : Nat) :
    eqMatchAt T repls plain p = some (e, true) ↔
      ∃ r rest, equCands T repls plain p = r :: rest ∧
        (∀ r' ∈ equCands T repls plain p, ¬ FollowsEqu T repls plain (p + r'.length)) ∧
        ¬ FollowsDot plain (p + r.length) ∧ ¬ FollowsLowerWord T plain (p + r.length) ∧
        e = (tailMatch T plain (p + r.length)).1 := by
  unfold eqMatchAt
  cases hf : (equCands T repls plain p).find? (fun r => followedByEqu T repls plain (p + r.length)) with
  | some r =>
    simp only [Option.some.injEq, Prod.mk.injEq, Bool.false_eq_true, and_false, false_iff]
    rintro ⟨r0, rest, _, hall, _⟩
    have h1 := List.find?_some hf
    have h2 := List.mem_of_find?_eq_some hf
    exact hall r h2 ((followedByEqu_iff T repls plain _).mp h1)
  | none =>
    have hnone := List.find?_eq_none.mp hf
    simp only []
    cases hc : equCands T repls plain p with
    | nil => simp
    | cons r rest =>
      simp only [Option.some.injEq, List.cons.injEq]
      constructor
      · intro h
        refine ⟨r, rest, ⟨rfl, rfl⟩, ?_, ?_⟩
        · intro r' hr' hfe
          exact hnone r' (by rw [hc]; exact hr') ((followedByEqu_iff T repls plain _).mpr hfe)
        · have h2 : (tailMatch T plain (p + r.length)).2 = true := by rw [h]
          have := (tailMatch_msg_iff T plain _).mp h2
          exact ⟨this.1, this.2, by rw [h]⟩
      · rintro ⟨r0, rest0, ⟨rfl, rfl⟩, _, hd, hl, he⟩
        have := (tailMatch_msg_iff T plain (p + r.length)).mpr ⟨hd, hl⟩
        rw [he, ← this]

/-- the end of a match that yields a message: the placeholder and the white space behind it, or,
    if a word (not lower case) follows, up to the end of that word -/
theorem tailMatch_msg_end (T : Tables) (plain : Str) (e : Nat) (h : (tailMatch T plain e).2 = true) :
    (tailMatch T plain e).1 =
      if wordRun T plain (afterSep plain e) = 0 then e + wsRun plain e
      else afterSep plain e + wordRun T plain (afterSep plain e) := by
  rw [tailMatch_eq] at h ⊢
  by_cases hd : plain[e + wsRun plain e]? = some '.'
  · simp [hd] at h
  · simp only [hd, if_false]
    split <;> rfl

theorem eqPunct_sound (T : Tables) (repls : List Str) (plain : Str) (o l : Nat)
    (h : (o, l) ∈ eqPunctMessages T repls plain) :
    ∃ r ∈ repls, EquOcc T plain o r ∧
      ¬ FollowsDot plain (o + r.length) ∧
      ¬ FollowsEqu T repls plain (o + r.length) ∧
      ¬ FollowsLowerWord T plain (o + r.length) ∧
      (∀ r' ∈ repls, EquOcc T plain o r' → ¬ FollowsEqu T repls plain (o + r'.length)) ∧
      o + l = (if wordRun T plain (afterSep plain (o + r.length)) = 0
                then o + r.length + wsRun plain (o + r.length)
                else afterSep plain (o + r.length) + wordRun T plain (afterSep plain (o + r.length))) := by
  have hm := eqPunct_msg_match T repls plain o l h
  obtain ⟨r, rest, hc, hall, hd, hl, he⟩ := (eqMatchAt_msg_iff T repls plain o (o + l)).mp hm
  have hr := (mem_equCands T repls plain o r).mp (by rw [hc]; simp)
  refine ⟨r, hr.1, hr.2, hd, hall r (by rw [hc]; simp), hl, ?_, ?_⟩
  · intro r' hr' hocc
    exact hall r' ((mem_equCands T repls plain o r').mpr ⟨hr', hocc⟩)
  · rw [he]
    exact tailMatch_msg_end T plain _ ((tailMatch_msg_iff T plain _).mpr ⟨hd, hl⟩)

/-- completeness: at an offset `p` that does not lie strictly inside a match found earlier, a
    placeholder without excuse is reported -/
theorem eqPunct_complete (T : Tables) (repls : List Str) (plain : Str) (p : Nat) (r : Str) (rest : List Str)
    (hc : equCands T repls plain p = r :: rest)
    (hfree : ∀ m ∈ eqMatches T repls plain, ¬ (m.1 < p ∧ p < m.2.1))
    (hequ : ∀ r' ∈ r :: rest, ¬ FollowsEqu T repls plain (p + r'.length))
    (hdot : ¬ FollowsDot plain (p + r.length))
    (hlow : ¬ FollowsLowerWord T plain (p + r.length)) :
    (p, (tailMatch T plain (p + r.length)).1 - p) ∈ eqPunctMessages T repls plain := by
  have hm : eqMatchAt T repls plain p = some ((tailMatch T plain (p + r.length)).1, true) :=
    (eqMatchAt_msg_iff T repls plain p _).mpr ⟨r, rest, hc, by rw [hc]; exact hequ, hdot, hlow, rfl⟩
  rw [mem_eqPunctMessages]
  rcases eqScan_reaches T repls plain (plain.length + 1) 0 p _ (by omega) (by omega) hm with h1 | ⟨m, hmm, h1⟩
  · exact ⟨_, h1, rfl, rfl, rfl⟩
  · exact absurd h1 (hfree m hmm)

/-! #### the excuses in the words of the regular expression

  `FollowsDot` and `FollowsLowerWord` are stated with the maximal runs of white space
  (`wsRun`, `afterSep`).  They coincide with the "there is a way to match" reading of
  `\s*\.` and `\s*[,;:]?\s*[^\W0-9_]…` — for the word under the assumption `checksClassesOk`
  (white space and `, ; : .` are no word characters), a closed fact of the generated tables. -/

def WsAt (plain : Str) (p n : Nat) : Prop := ∀ t, t < n → ∃ c, plain[p + t]? = some c ∧ isSpace c = true

theorem wsRun_unique (plain : Str) (p k : Nat) (h1 : WsAt plain p k) (c : Char)
    (hc : plain[p + k]? = some c) (hns : isSpace c = false) : k = wsRun plain p := by
  have hs := wsRun_spec plain p
  rcases Nat.lt_trichotomy k (wsRun plain p) with h | h | h
  · obtain ⟨c', hc', hsp⟩ := hs.1 k h
    rw [hc] at hc'
    cases hc'
    rw [hns] at hsp
    cases hsp
  · exact h
  · obtain ⟨c', hc', hsp⟩ := h1 (wsRun plain p) h
    have := hs.2 c' hc'
    simp [this] at hsp

theorem wsAt_wsRun (plain : Str) (p : Nat) : WsAt plain p (wsRun plain p) := (wsRun_spec plain p).1

theorem followsDot_iff (plain : Str) (e : Nat) :
    FollowsDot plain e ↔ ∃ k, WsAt plain e k ∧ plain[e + k]? = some '.' := by
  unfold FollowsDot
  constructor
  · intro h
    exact ⟨wsRun plain e, wsAt_wsRun plain e, h⟩
  · rintro ⟨k, hk, hd⟩
    have : k = wsRun plain e := wsRun_unique plain e k hk '.' hd (by decide)
    rw [← this]; exact hd

theorem isSpace_codes (c : Char) (h : isSpace c = true) : c.toNat ∈ spaceCodes := by
  -- the list by ranges, as `isSpace` tests them: `omega` on the 29 single codes is three times as dear
  have e : spaceCodes = List.range' 9 5 ++ List.range' 28 5 ++ [0x85, 0xA0, 0x1680] ++ List.range' 0x2000 11 ++
      [0x2028, 0x2029, 0x202F, 0x205F, 0x3000] := by decide
  simp only [isSpace, Bool.or_eq_true, Bool.and_eq_true, decide_eq_true_eq, beq_iff_eq] at h
  simp only [e, List.mem_append, List.mem_range'_1, List.mem_cons, List.not_mem_nil, or_false]
  omega

theorem classes_space (T : Tables) (hcls : checksClassesOk T = true) (c : Char) (h : isSpace c = true) :
    T.isWord c = false := by
  simp only [checksClassesOk, List.all_eq_true, List.mem_append, Bool.not_eq_true'] at hcls
  have := hcls c.toNat (Or.inl (isSpace_codes c h))
  simpa using this

theorem punct_cases (c : Char) (h : optPunct (some c) = true) : c = ',' ∨ c = ';' ∨ c = ':' := by
  simpa [optPunct, or_assoc] using h

theorem classes_punct (T : Tables) (hcls : checksClassesOk T = true) (c : Char) (h : optPunct (some c) = true) :
    T.isWord c = false := by
  simp only [checksClassesOk, List.all_eq_true, List.mem_append, Bool.not_eq_true'] at hcls
  rcases punct_cases c h with rfl | rfl | rfl
  · exact hcls 44 (Or.inr (by simp))
  · exact hcls 59 (Or.inr (by simp))
  · exact hcls 58 (Or.inr (by simp))

theorem punct_not_space (c : Char) (h : optPunct (some c) = true) : isSpace c = false := by
  rcases punct_cases c h with rfl | rfl | rfl <;> decide

theorem letterish_word (T : Tables) (c : Char) (h : isLetterish T c = true) : T.isWord c = true := by
  simp only [isLetterish, Bool.and_eq_true] at h
  exact h.1.1

theorem followsLowerWord_iff (T : Tables) (hcls : checksClassesOk T = true) (plain : Str) (e : Nat) :
    FollowsLowerWord T plain e ↔
      ∃ i k j c, WsAt plain e i ∧ (k = 0 ∨ (k = 1 ∧ optPunct plain[e + i]? = true)) ∧
        WsAt plain (e + i + k) j ∧ plain[e + i + k + j]? = some c ∧
        isLetterish T c = true ∧ T.isLower c = true := by
  unfold FollowsLowerWord
  constructor
  · rintro ⟨c, hc, hl, hlow⟩
    unfold afterSep at hc
    simp only [] at hc
    by_cases hp : optPunct plain[e + wsRun plain e]? = true
    · simp only [hp, if_true] at hc
      exact ⟨wsRun plain e, 1, wsRun plain (e + wsRun plain e + 1), c, wsAt_wsRun plain e,
        Or.inr ⟨rfl, hp⟩, wsAt_wsRun plain _, hc, hl, hlow⟩
    · simp only [hp] at hc
      exact ⟨wsRun plain e, 0, wsRun plain (e + wsRun plain e), c, wsAt_wsRun plain e,
        Or.inl rfl, wsAt_wsRun plain _, hc, hl, hlow⟩
  · rintro ⟨i, k, j, c, hi, hk, hj, hc, hl, hlow⟩
    have hcw := letterish_word T c hl
    have hcns : isSpace c = false := by
      cases h : isSpace c
      · rfl
      · have := classes_space T hcls c h; simp [this] at hcw
    have hcnp : optPunct (some c) = false := by
      cases h : optPunct (some c)
      · rfl
      · have := classes_punct T hcls c h; simp [this] at hcw
    refine ⟨c, ?_, hl, hlow⟩
    rcases hk with rfl | ⟨rfl, hp⟩
    · -- no punctuation: the two runs form one run
      have hcij : plain[e + (i + j)]? = some c := by
        have heq : e + (i + j) = e + i + 0 + j := by omega
        rw [heq]; exact hc
      have hrun : i + j = wsRun plain e := by
        refine wsRun_unique plain e _ ?_ c hcij hcns
        intro t ht
        by_cases hti : t < i
        · exact hi t hti
        · have := hj (t - i) (by omega)
          have heq : e + i + 0 + (t - i) = e + t := by omega
          rwa [heq] at this
      have hq : plain[e + wsRun plain e]? = some c := hrun ▸ hcij
      have h0 : 0 = wsRun plain (e + wsRun plain e) :=
        wsRun_unique plain _ 0 (fun t ht => absurd ht (Nat.not_lt_zero t)) c hq hcns
      unfold afterSep
      simp only [hq, hcnp, Bool.false_eq_true, if_false, ← h0, Nat.add_zero]
    · -- punctuation: both runs are maximal
      cases hd : plain[e + i]? with
      | none => simp [hd, optPunct] at hp
      | some d =>
        rw [hd] at hp
        have hi' : i = wsRun plain e := wsRun_unique plain e i hi d hd (punct_not_space d hp)
        have hj' : j = wsRun plain (e + i + 1) := wsRun_unique plain _ j hj c hc hcns
        unfold afterSep
        simp only [← hi', hd, hp, if_true, ← hj']
        exact hc

/-! #### the word boundaries of an accepted alternative, in plain words

  On tables where every letter is a word character (`alphaIsWord`, a closed fact of the
  generated tables) the `\b` in front of an alternative that starts with a letter says: the
  character in front is no word character (or the text starts there); likewise behind. -/

/-- every range of `xs` lies inside a range of `ys` (both sorted: one pass) -/
def rangesSubsetGo : Nat → List (Nat × Nat) → List (Nat × Nat) → Bool
  | _, [], _ => true
  | 0, _ :: _, _ => false
  | _ + 1, _ :: _, [] => false
  | fuel + 1, r :: rs, w :: ws =>
    if w.1 ≤ r.1 && r.2 ≤ w.2 then rangesSubsetGo fuel rs (w :: ws) else rangesSubsetGo fuel (r :: rs) ws

def rangesSubset (xs ys : List (Nat × Nat)) : Bool := rangesSubsetGo (xs.length + ys.length) xs ys

theorem rangesSubsetGo_sound (fuel : Nat) (xs ys : List (Nat × Nat)) (h : rangesSubsetGo fuel xs ys = true) :
    ∀ r ∈ xs, ∃ w ∈ ys, w.1 ≤ r.1 ∧ r.2 ≤ w.2 := by
  induction fuel generalizing xs ys with
  | zero =>
    cases xs with
    | nil => simp
    | cons r rs => simp [rangesSubsetGo] at h
  | succ fuel ih =>
    cases xs with
    | nil => simp
    | cons r rs =>
      cases ys with
      | nil => simp [rangesSubsetGo] at h
      | cons w ws =>
        simp only [rangesSubsetGo] at h
        split at h
        · rename_i hc
          simp only [Bool.and_eq_true, decide_eq_true_eq] at hc
          intro r' hr'
          simp only [List.mem_cons] at hr'
          rcases hr' with rfl | hr'
          · exact ⟨w, by simp, hc.1, hc.2⟩
          · exact ih rs (w :: ws) h r' hr'
        · intro r' hr'
          obtain ⟨w', hw', hh⟩ := ih (r :: rs) ws h r' hr'
          exact ⟨w', by simp [hw'], hh⟩

def alphaIsWord (T : Tables) : Bool := rangesSubset T.alphaRanges T.wordRanges

theorem alpha_word (T : Tables) (h : alphaIsWord T = true) (c : Char) (hc : T.isAlpha c = true) :
    T.isWord c = true := by
  have h := rangesSubsetGo_sound _ _ _ h
  simp only [Tables.isAlpha, Tables.isWord, inRanges, List.any_eq_true, Bool.and_eq_true,
    decide_eq_true_eq] at hc ⊢
  obtain ⟨r, hr, h1, h2⟩ := hc
  obtain ⟨w, hw, h3, h4⟩ := h r hr
  exact ⟨w, hw, by omega, by omega⟩

theorem occ_getElem (a plain : Str) (b i : Nat) (h : (plain.drop b).take a.length = a) (hi : i < a.length) :
    plain[b + i]? = a[i]? := by
  have : a[i]? = ((plain.drop b).take a.length)[i]? := by rw [h]
  rw [this, List.getElem?_take]
  simp [hi]

theorem acceptOcc_boundaries (T : Tables) (hT : alphaIsWord T = true) (a plain : Str) (b : Nat)
    (h : (plain.drop b).take a.length = a) :
    (optAlpha T a.head? = true →
      (wordBoundaryAt T plain b = true ↔ optWord T (prevChar plain b) = false)) ∧
    (optAlpha T a.getLast? = true →
      (wordBoundaryAt T plain (b + a.length) = true ↔ optWord T plain[b + a.length]? = false)) := by
  constructor
  · intro ha
    cases a with
    | nil => simp [optAlpha] at ha
    | cons x xs =>
      simp only [List.head?_cons, optAlpha] at ha
      have hx := occ_getElem (x :: xs) plain b 0 h (by simp)
      simp only [Nat.add_zero, List.length_cons, Nat.zero_lt_succ, getElem?_pos,
        List.getElem_cons_zero] at hx
      simp only [wordBoundaryAt, hx, optWord, alpha_word T hT x ha]
      cases optWord T (prevChar plain b) <;> simp
  · intro ha
    have hne : a ≠ [] := by intro h0; simp [h0, optAlpha] at ha
    have hpos : 0 < a.length := List.length_pos_iff.mpr hne
    have hl : a.getLast? = a[a.length - 1]? := List.getLast?_eq_getElem? ..
    have hx := occ_getElem a plain b (a.length - 1) h (by omega)
    have hprev : prevChar plain (b + a.length) = a.getLast? := by
      unfold prevChar
      rw [if_neg (by omega), hl, ← hx]
      congr 1
      omega
    cases hg : a.getLast? with
    | none => simp [hg, optAlpha] at ha
    | some y =>
      rw [hg] at ha hprev
      simp only [optAlpha] at ha
      simp only [wordBoundaryAt, hprev, optWord, alpha_word T hT y ha]
      cases optWord T plain[b + a.length]? <;> simp

end Yalafi
