/-
  Proofs/PlainComment.lean — C03 "hidden text never leaks" and C05 "text flow" for `%` comments,
  end to end on the model: the text of a comment never appears in the output; a comment ends at
  its line break and also swallows the white space at the beginning of the next line (as TeX
  does), unless the next line is blank — then the line break (the paragraph break) is kept.

  What the model does with a comment (checked against `yalafi/parser.py`, `expand_sequence`:
  `elif type(tok) is defs.CommentToken: pass`): the scanner makes one CommentToken of the span
  `commentLen`, the expander *drops* it — no Action token is left.  Hence the blank-line removal
  `remove_pure_action_lines` sees no Action token and is the identity: there are NO line
  conditions; trailing comments, comment-only lines, several comments in a row, a comment at the
  very end of the source are all covered by the one statement below.

  Spec level (independent of the scanner)
    `commentSpan rest`       the characters a comment takes that starts at the head of `rest`
    `stripComments src`      the reference output: characters outside comments with their positions
    `comments src`           start and span of the comments, as the left-to-right pass finds them
    `comText T st src`       the class of sources (computable): at every offset outside a comment
                             an ordinary comment starts (`comTokOk`) or an inert character stands
                             (`okAtC` = `inertAt` of Proofs/Plain.lean with a comment allowed behind)
    `Seg`, `render`, `segsOk`        documents as lists of text segments and comments
    `stateOk`, `segsOkSimple`        per-character / per-comment sufficient conditions
  Results
    `commentSpan_eq_commentLen`      the span is what `scan_comment` consumes
    `strip_text/_com/_eof`           the reference on a text segment / a comment `%t⏎` / a comment at
                                     the end of the source without line break
    `strip_get`                      every output character is the source character at its position
    `strip_avoids_comments`          no output position lies inside a comment span
    `tex2txt_com_text`               `tex2txt`, complete result record, for a source of the class
    `tex2txt_comments`               `tex2txt` for `render segs`

  Side conditions of the end-to-end theorems
    options / fuel           as in `tex2txt_plain_text`: no --defs, --extr, --repl, --unkn,
                             single-language mode, `src.length + 2 ≤ fuel`
    text characters          `okAtC`: white space, or no structural character (`% # \ $ { }`) and no
                             special sequence matches there; not an active character of the
                             language settings, or one that forms no short macro with the token
                             behind it (which may be a comment token)
    comments (`comTokOk`)    the text of the comment token does not start with `st1.skipBegin`
                             (`%%% LT-SKIP-BEGIN`; with `--nosp` the marker is `x` and the condition
                             is void) — otherwise the skip pre-pass of `parser_work` deletes
                             everything up to `%%% LT-SKIP-END`; and the token text is no active
                             character (no short macro starts with `%`) — otherwise
                             `expand_sequence` would hand it to `expand_short_macro`
    `Seg.com t`              `t` contains no line break (it is the text up to the line break); the
                             line break behind it is inert like a text character (it survives if a
                             blank line follows)
-/
import YalafiVerif.Proofs.Plain
namespace Yalafi
namespace Comment

open M

/-! ### the specification -/

/-- the number of characters a comment takes that starts at the head of `rest` (`rest = '%' :: _`):
    the `%`, the text up to the next line break (or the end of the source), and — unless the white
    space behind the line break contains another line break (a blank line follows) — the line break
    and all white space behind it -/
def commentSpan (rest : Str) : Nat :=
  let body := rest.tail.takeWhile (· != nl)
  match rest.tail.dropWhile (· != nl) with
  | [] => 1 + body.length
  | _ :: more =>
    let sp := more.takeWhile isSpace
    if hasNl sp then 1 + body.length else 1 + body.length + 1 + sp.length

/-- reference: delete the comments.  `skip` counts the characters of a comment that are still to
    be passed over; every other character is kept with its own position. -/
def stripA : Nat → Str → Nat → List (Char × Nat)
  | _, [], _ => []
  | skip + 1, _ :: cs, i => stripA skip cs (i + 1)
  | 0, c :: cs, i =>
    if c == '%' then stripA (commentSpan (c :: cs) - 1) cs (i + 1)
    else (c, i) :: stripA 0 cs (i + 1)

/-- the characters of `src` outside comments, each with its (0-based) source position -/
def stripComments (src : Str) : List (Char × Nat) := stripA 0 src 0

def comTxt (rest : Str) : Str := rest.take (commentSpan rest)

/-- the text of the first scanner token of a text of the class: a run of white space, a comment,
    or one character -/
def firstTokTxtC : Str → Str
  | [] => []
  | d :: ds =>
    if isSpace d then (d :: ds).takeWhile isSpace
    else if d == '%' then comTxt (d :: ds)
    else [d]

/-- the text character `c`, followed by `cs` (the whole rest of the source), is inert; this is
    `inertAt` of Proofs/Plain.lean, except that the token behind `c` may be a comment -/
def okAtC (T : PTables) (st : PState) (c : Char) (cs : Str) : Bool :=
  (!(activeChars T st).contains [c] ||
    (!isSpace c && (cs.isEmpty || !(shortKeys T st).contains (c :: firstTokTxtC cs)))) &&
  (isSpace c || (!structuralChar c && (matchSpecial T.toTables (c :: cs)).isNone))

/-- the comment token with text `txt` is an ordinary comment: it does not start with the marker
    `%%% LT-SKIP-BEGIN` of the skip pre-pass, and it is no "active character" of the language
    settings (no short macro starts with `%`) -/
def comTokOk (T : PTables) (st : PState) (txt : Str) : Bool :=
  !startsWith txt st.skipBegin && !(activeChars T st).contains txt

/-- the class of texts: at every offset that is not inside a comment there is a `%` that starts an
    ordinary comment, or an inert character -/
def comTextA (T : PTables) (st : PState) : Nat → Str → Bool
  | _, [] => true
  | skip + 1, _ :: cs => comTextA T st skip cs
  | 0, c :: cs =>
    if c == '%' then comTokOk T st (comTxt (c :: cs)) && comTextA T st (commentSpan (c :: cs) - 1) cs
    else okAtC T st c cs && comTextA T st 0 cs

def comText (T : PTables) (st : PState) (s : Str) : Bool := comTextA T st 0 s

def posText (p : Nat) : Str → List (Char × Nat)
  | [] => []
  | c :: cs => (c, p) :: posText (p + 1) cs

theorem posText_fst : ∀ (p : Nat) (s : Str), (posText p s).map (·.1) = s
  | _, [] => rfl
  | p, c :: cs => by simp [posText, posText_fst (p + 1) cs]

theorem posText_snd : ∀ (p : Nat) (s : Str), (posText p s).map (·.2) = List.range' p s.length
  | _, [] => rfl
  | p, c :: cs => by simp [posText, posText_snd (p + 1) cs, List.range'_succ]

/-! ### `commentSpan` is what `scan_comment` consumes -/

theorem commentSpan_eq_commentLen (rest : Str) : commentSpan rest = commentLen rest := by
  cases rest with
  | nil => rfl
  | cons c cs =>
    simp only [commentSpan, commentLen, List.tail_cons]
    rw [show (c :: cs).drop (1 + (cs.takeWhile (· != nl)).length) = cs.dropWhile (· != nl) from by
      rw [Nat.add_comm, List.drop_succ_cons, drop_length_takeWhile]]
    cases cs.dropWhile (· != nl) <;> rfl

theorem commentSpan_bounds (c : Char) (cs : Str) :
    1 ≤ commentSpan (c :: cs) ∧ commentSpan (c :: cs) ≤ (c :: cs).length := by
  rw [commentSpan_eq_commentLen]
  exact ScannerAux.commentLen_bounds c cs

/-! ### the `skip` counter -/

theorem stripA_nil (n i : Nat) : stripA n [] i = [] := by cases n <;> rfl

theorem stripA_skip : ∀ (n : Nat) (s : Str) (i : Nat), stripA n s i = stripA 0 (s.drop n) (i + n)
  | 0, s, i => by simp
  | n + 1, [], i => by simp [stripA_nil]
  | n + 1, c :: cs, i => by
    rw [stripA, stripA_skip n cs (i + 1)]
    simp [Nat.add_assoc, Nat.add_comm 1 n]

theorem comTextA_nil (T : PTables) (st : PState) (n : Nat) : comTextA T st n [] = true := by
  cases n <;> rfl

theorem comTextA_skip (T : PTables) (st : PState) : ∀ (n : Nat) (s : Str),
    comTextA T st n s = comTextA T st 0 (s.drop n)
  | 0, s => by simp
  | n + 1, [] => by simp [comTextA_nil]
  | n + 1, c :: cs => by
    rw [comTextA, comTextA_skip T st n cs]
    simp

theorem strip_nil (i : Nat) : stripA 0 [] i = [] := rfl

theorem strip_char (c : Char) (cs : Str) (i : Nat) (h : c ≠ '%') :
    stripA 0 (c :: cs) i = (c, i) :: stripA 0 cs (i + 1) := by
  simp [stripA, h]

theorem strip_percent (cs : Str) (i : Nat) :
    stripA 0 ('%' :: cs) i
      = stripA 0 (('%' :: cs).drop (commentSpan ('%' :: cs))) (i + commentSpan ('%' :: cs)) := by
  obtain ⟨k, hk⟩ : ∃ k, commentSpan ('%' :: cs) = k + 1 :=
    ⟨commentSpan ('%' :: cs) - 1, by have := (commentSpan_bounds '%' cs).1; omega⟩
  simp only [stripA, beq_self_eq_true, if_true]
  rw [stripA_skip, hk]
  simp [Nat.add_assoc, Nat.add_comm 1 k]

theorem comText_percent_eq (T : PTables) (st : PState) (cs : Str) :
    comTextA T st 0 ('%' :: cs)
      = (comTokOk T st (comTxt ('%' :: cs)) &&
         comTextA T st 0 (('%' :: cs).drop (commentSpan ('%' :: cs)))) := by
  obtain ⟨k, hk⟩ : ∃ k, commentSpan ('%' :: cs) = k + 1 :=
    ⟨commentSpan ('%' :: cs) - 1, by have := (commentSpan_bounds '%' cs).1; omega⟩
  simp only [comTextA, beq_self_eq_true, if_true]
  rw [comTextA_skip, hk]
  simp

theorem okAtC_ne_percent {T : PTables} {st : PState} {c : Char} {cs : Str}
    (h : okAtC T st c cs = true) : c ≠ '%' := by
  intro e
  subst e
  simp [okAtC, structuralChar, show isSpace '%' = false by decide] at h

theorem comText_char (T : PTables) (st : PState) (c : Char) (cs : Str) (hc : c ≠ '%')
    (h : comTextA T st 0 (c :: cs) = true) :
    okAtC T st c cs = true ∧ comTextA T st 0 cs = true := by
  simpa [comTextA, hc] using h

theorem drop_text (T : PTables) (st : PState) : ∀ (k : Nat) (s : Str),
    (∀ x ∈ s.take k, x ≠ '%') →
    (comTextA T st 0 s = true → comTextA T st 0 (s.drop k) = true) ∧
    (∀ i, stripA 0 s i = posText i (s.take k) ++ stripA 0 (s.drop k) (i + k))
  | 0, s, _ => by simp [posText]
  | k + 1, [], _ => by simp [posText, stripA]
  | k + 1, c :: cs, hx => by
    have hc : c ≠ '%' := hx c (by simp)
    obtain ⟨i1, i2⟩ := drop_text T st k cs (fun x hx' => hx x (by simp [hx']))
    refine ⟨fun h => ?_, fun i => ?_⟩
    · simpa using i1 (comText_char T st c cs hc h).2
    · rw [strip_char c cs i hc, i2 (i + 1)]
      simp [posText, Nat.add_assoc, Nat.add_comm 1 k]

/-! ### the token buffers -/

def notCom (t : Tok) : Bool := t.kind != .comment

/-- a comment token that `expandSequence` drops and the skip pre-pass does not look at -/
structure ComTok (T : PTables) (st : PState) (t : Tok) : Prop where
  kind : t.kind = .comment
  head : ∃ tl, t.txt = '%' :: tl
  nskip : startsWith t.txt st.skipBegin = false
  nact : (activeChars T st).contains t.txt = false

theorem ComTok.ext {T : PTables} {st st' : PState} (h : Ext st st') {t : Tok} (hc : ComTok T st t) :
    ComTok T st' t :=
  ⟨hc.kind, hc.head, by rw [h.skipB]; exact hc.nskip, by rw [h.activeChars]; exact hc.nact⟩

/-- a buffer of plain tokens (copied by `expandSequence`) and comment tokens (dropped) -/
def CSeq (T : PTables) (st : PState) : List Tok → Prop
  | [] => True
  | t :: rest => ((PlainTok t ∧ PassTok T st t rest) ∨ ComTok T st t) ∧ CSeq T st rest

theorem notCom_plain {t : Tok} (h : PlainTok t) : notCom t = true := by
  unfold Comment.notCom
  rcases h.kind with hk | hk | hk <;> simp [hk]

theorem ComTok.notCom {T : PTables} {st : PState} {t : Tok} (h : ComTok T st t) : notCom t = false := by
  simp [Comment.notCom, h.kind]

theorem CSeq.plain {T : PTables} {st : PState} : ∀ {toks : List Tok}, CSeq T st toks →
    ∀ t ∈ toks.filter notCom, PlainTok t
  | [], _, _, h => by simp at h
  | x :: rest, hs, t, ht => by
    rw [List.filter_cons] at ht
    rcases hs.1 with ⟨hp, _⟩ | hc
    · rw [notCom_plain hp, if_pos rfl] at ht
      rcases List.mem_cons.mp ht with rfl | ht
      · exact hp
      · exact CSeq.plain hs.2 t ht
    · rw [hc.notCom] at ht
      exact CSeq.plain hs.2 t ht

theorem CSeq.nobegin {T : PTables} {st : PState} : ∀ {toks : List Tok}, CSeq T st toks →
    NoBegin st.skipBegin toks
  | [], _ => .nil
  | _ :: _, hs =>
    .cons (hs.1.elim (fun hp => NoBegin.of_notComment _ hp.1.notComment)
      (fun hc => by rw [hc.nskip, Bool.and_false])) (CSeq.nobegin hs.2)

/-! ### one scanner step -/

theorem okAtC_snd {T : PTables} {st : PState} {c : Char} {cs : Str} (h : okAtC T st c cs = true) :
    isSpace c = true ∨ (structuralChar c = false ∧ matchSpecial T.toTables (c :: cs) = none) :=
  textChar_cases (Bool.and_eq_true_iff.mp h).2

theorem nextToken_percent (T : PTables) (src : Str) (pos : Nat) (cs : Str) :
    nextToken T.toTables src pos ('%' :: cs)
      = { tok := { kind := .comment, pos := pos, txt := comTxt ('%' :: cs) },
          len := commentSpan ('%' :: cs) } := by
  simp [nextToken, show isSpace '%' = false by decide, scanComment, comTxt, commentSpan_eq_commentLen]

/-- for a comment `%body` that `scan_comment` ends in front of `R` -/
theorem scans_comment (T : PTables) (src : Str) (pos : Nat) {body R : Str}
    (h : commentLen ('%' :: (body ++ R)) = body.length + 1) :
    Scans T.toTables src pos ('%' :: (body ++ R))
      [{ tok := { kind := .comment, pos := pos, txt := '%' :: body }, len := body.length + 1 }]
      (pos + (body.length + 1)) R := by
  have r := Scans.step (nextToken_percent T src pos (body ++ R)) rfl (commentSpan_bounds '%' _).1
  rw [comTxt, commentSpan_eq_commentLen, h, List.take_succ_cons, List.take_left' rfl,
    List.drop_succ_cons, List.drop_left' rfl] at r
  exact r

theorem firstTokTxtC_of_text (c : Char) (cs : Str) (h : c ≠ '%') :
    firstTokTxtC (c :: cs) = firstTokTxt (c :: cs) := by
  unfold firstTokTxtC firstTokTxt
  by_cases hsp : isSpace c = true
  · simp [hsp]
  · simp [hsp, h]

theorem isSpace_ne_percent {c : Char} (h : isSpace c = true) : c ≠ '%' := by
  intro e; subst e; exact absurd h (by decide)

/-! ### the scanner loop -/

theorem unzip_posText_append (p : Nat) (s : Str) (X : List (Char × Nat)) :
    ((posText p s ++ X).map (·.1), (posText p s ++ X).map (·.2))
      = (s ++ X.map (·.1), List.range' p s.length ++ X.map (·.2)) := by
  simp only [List.map_append, posText_fst, posText_snd]

/-- the scanner loop on a text of the class: no diagnostics, the buffer is one that
    `seqRun_com` below handles, and the tokens that are no comments spell the reference output, with
    the source positions; at most one token per character -/
theorem scanAll_com (T : PTables) (st : PState) (src : Str) (pos : Nat) (rest : Str)
    (h : comTextA T st 0 rest = true) :
    (∀ s ∈ (scanAll T.toTables src pos rest).1,
        s.diag = none ∧ s.extra = [] ∧ s.tok.txt ≠ [] ∧ s.tok.fix = false) ∧
    CSeq T st ((scanAll T.toTables src pos rest).1.map (·.tok)) ∧
    (∀ s ss, (scanAll T.toTables src pos rest).1 = s :: ss → s.tok.txt = firstTokTxtC rest) ∧
    getTxtPos (((scanAll T.toTables src pos rest).1.map (·.tok)).filter notCom)
      = ((stripA 0 rest pos).map (·.1), (stripA 0 rest pos).map (·.2)) ∧
    (scanAll T.toTables src pos rest).1.length ≤ rest.length := by
  refine scanAll_of_runs T.toTables src (fun p W a => p = a ∧ comTextA T st 0 W = true)
    (fun W a ss => (∀ s ∈ ss, s.diag = none ∧ s.extra = [] ∧ s.tok.txt ≠ [] ∧ s.tok.fix = false) ∧
      CSeq T st (ss.map (·.tok)) ∧ (∀ s ss', ss = s :: ss' → s.tok.txt = firstTokTxtC W) ∧
      getTxtPos ((ss.map (·.tok)).filter notCom) = ((stripA 0 W a).map (·.1), (stripA 0 W a).map (·.2)) ∧
      ss.length ≤ W.length)
    (fun _ _ _ => ⟨by simp, trivial, by simp, rfl, Nat.le_refl _⟩) ?_ pos rest pos ⟨rfl, h⟩
  rintro p c cs _ ⟨rfl, hin⟩
  by_cases hpc : c = '%'
  · subst hpc
    rw [comText_percent_eq, Bool.and_eq_true] at hin
    obtain ⟨hck, hsub⟩ := hin
    obtain ⟨b1, b2⟩ := commentSpan_bounds '%' cs
    obtain ⟨tl, htl⟩ : ∃ tl, comTxt ('%' :: cs) = '%' :: tl := by
      obtain ⟨k, hk⟩ : ∃ k, commentSpan ('%' :: cs) = k + 1 := ⟨commentSpan ('%' :: cs) - 1, by omega⟩
      exact ⟨cs.take k, by simp [comTxt, hk]⟩
    simp only [comTokOk, Bool.and_eq_true, Bool.not_eq_true'] at hck
    have hct : ComTok T st { kind := .comment, pos := p, txt := comTxt ('%' :: cs) } :=
      ⟨rfl, ⟨tl, htl⟩, hck.1, hck.2⟩
    refine ⟨_, _, _, p + commentSpan ('%' :: cs), by simp, Scans.step (nextToken_percent T src p cs) rfl b1,
      ⟨rfl, hsub⟩, ?_⟩
    rintro rs - ⟨i2, i3, i4, i5, i6⟩
    refine ⟨List.forall_mem_cons.mpr ⟨⟨rfl, rfl, htl ▸ List.cons_ne_nil _ _, rfl⟩, i2⟩, ⟨Or.inr hct, i3⟩,
      fun _ _ he => ?_, ?_, ?_⟩
    · rw [← (List.cons.inj he).1]
      simp [firstTokTxtC, show isSpace '%' = false by decide]
    · simp only [List.singleton_append, List.map_cons, List.filter_cons, hct.notCom, Bool.false_eq_true,
        if_false]
      rw [i5, strip_percent]
    · simp only [List.singleton_append, List.length_cons, List.length_drop] at i6 b2 ⊢
      omega
  · obtain ⟨hat, _⟩ := comText_char T st c cs hpc hin
    obtain ⟨s, hp, hone, X, r⟩ := scans_text T src p c cs (okAtC_snd hat)
    have hnp : ∀ x ∈ (c :: cs).take s.len, x ≠ '%' := by
      intro x hx
      by_cases hsp : isSpace c = true
      · exact isSpace_ne_percent (X.blank hsp x hx)
      · rw [(hone (by simpa using hsp)).1] at hx
        simp only [List.take_succ_cons, List.take_zero, List.mem_singleton] at hx
        rw [hx]; exact hpc
    obtain ⟨d1, d2⟩ := drop_text T st s.len (c :: cs) hnp
    refine ⟨[s], _, _, p + s.len, by simp, r, ⟨rfl, d1 hin⟩, ?_⟩
    rintro rs hnil ⟨i2, i3, i4, i5, i6⟩
    refine ⟨List.forall_mem_cons.mpr ⟨⟨hp.diag, hp.extra, X.ne, hp.fix⟩, i2⟩, ⟨Or.inl ⟨hp.tok, ?_⟩, i3⟩,
      fun _ _ he => ?_, ?_, ?_⟩
    · exact PlainMacro.passTok_steps T st X (fun h => (hone h).1) firstTokTxtC
        (activeChar_cases (Bool.and_eq_true_iff.mp hat).1) rs i4 hnil
    · rw [← (List.cons.inj he).1, hp.first]
      exact (firstTokTxtC_of_text c cs hpc).symm
    · simp only [List.singleton_append, List.map_cons, List.filter_cons, notCom_plain hp.tok, if_true]
      rw [getTxtPos_cons_plain _ _ hp.fix, i5, hp.pos, hp.txt, d2 p, unzip_posText_append]
    · have := hp.len_le
      have := hp.len_pos
      simp only [List.singleton_append, List.length_cons, List.length_drop] at i6 this ⊢
      omega

theorem scan_com (T : PTables) (st : PState) (src : Str) (h : comText T st src = true) :
    (scan T.toTables src).diags = [] ∧
    CSeq T st (scan T.toTables src).toks ∧
    (∀ t ∈ (scan T.toTables src).toks, t.txt ≠ [] ∧ t.fix = false) ∧
    getTxtPos ((scan T.toTables src).toks.filter notCom)
      = ((stripComments src).map (·.1), (stripComments src).map (·.2)) ∧
    (scan T.toTables src).toks.length ≤ src.length := by
  obtain ⟨b, c, _, d, e⟩ := scanAll_com T st src 0 src h
  obtain ⟨hd, ht⟩ := scan_of_scanAll (fun x hx => ⟨(b x hx).1, (b x hx).2.1⟩)
  rw [ht]
  refine ⟨hd, c, ?_, d, ?_⟩
  · intro t ht
    obtain ⟨s, hs, rfl⟩ := List.mem_map.mp ht
    exact ⟨(b s hs).2.2.1, (b s hs).2.2.2⟩
  · simpa using e

/-! ### `expandSequence` -/

theorem seqRun_comTok {T : PTables} {tok : Tok} {rest : Buf} {envStop : Option Str} {out : List Tok}
    {st : PState} (h : ComTok T st tok) : SeqRun T envStop 0 1 (tok :: rest) out st rest out st := by
  obtain ⟨tl, ht⟩ := h.head
  exact .one fun f =>
    loop_comment h.kind (seqKey_head ht (by decide) (by decide) (by decide) (by decide)) h.nact

theorem seqRun_com (T : PTables) {st0 st : PState} (hr : Ext st0 st) (envStop : Option Str) :
    ∀ (toks : List Tok) (out : List Tok), CSeq T st0 toks →
      SeqRun T envStop 0 toks.length toks out st [] (out ++ toks.filter notCom) st
  | [], out, _ => by rw [List.filter_nil, List.append_nil]; exact .refl
  | t :: ts, out, hp => by
    rcases hp.1 with ⟨h1, h2⟩ | hc
    · rw [List.filter_cons, notCom_plain h1, if_pos rfl]
      exact (seqRun_plainTok h1 (hr.passTok h2)).app_comm (seqRun_com T hr envStop ts (out ++ [t]) hp.2)
        (Nat.zero_le _)
    · simp only [List.filter_cons, hc.notCom, Bool.false_eq_true, if_false]
      exact ((seqRun_comTok (hc.ext hr)).trans (seqRun_com T hr envStop ts out hp.2) (Nat.zero_le _)).mono
        (Nat.le_refl _) (Nat.le_of_eq (Nat.add_comm ..))

/-- no Action token is produced: the blank-line removal at the end of the loop is the identity -/
theorem seq_com_id (T : PTables) {st0 st : PState} (hr : Ext st0 st) (envStop : Option Str) (toks : List Tok)
    (fuel : Nat) (hf : toks.length + 1 ≤ fuel) (hp : CSeq T st0 toks) (hne : ∀ t ∈ toks, t.txt ≠ []) :
    expandSequence T fuel toks envStop [] st = .ok ((toks.filter notCom, []), st) := by
  rw [((seqRun_com T hr envStop toks [] hp).mono (Nat.zero_le 1) (Nat.le_refl _)).finish (Nat.le_refl _) hf,
    List.nil_append, removeLines_noaction_id _ (fun t ht => (hp.plain t ht).notAction),
    filter_keepOut_id _ (fun t ht => hne t (List.mem_filter.mp ht).1)]

/-! ### `tex2txt` -/

/-- **Comments on `tex2txt`, complete result record (source form).**  `st1` is the state after
    `Parser.__init__`; no `--defs`, `--extr`, `--repl`, `--unkn`; single-language mode.  The result
    tokens are the scanner tokens without the comment tokens; the state is unchanged.  Fuel: one unit
    for `parserWork`, one per token (at most one per character) and one for the final call of the loop. -/
theorem tex2txt_com_text {T : PTables} {o : Options} {fs : FS} {fuel : Nat} {st1 : PState}
    (R : PlainSetup T o fs fuel st1) (thresh : Nat) (src : Str)
    (h : comText T st1 src = true) (hf : src.length + 2 ≤ fuel) :
    tex2txt T fuel src o false thresh fs
      = .ok { toks := (scan T.toTables src).toks.filter notCom, txt := (stripComments src).map (·.1),
              pos := (stripComments src).map (·.2 + 1), parts := [], unknowns := [],
              diags := st1.diags, foreign := false } := by
  obtain ⟨hd, hseq, ht, htp, hlen⟩ := scan_com T st1 src h
  rw [R.of_loop thresh ⟨hd, rfl⟩ hseq.nobegin (by omega)
    (seq_com_id T (Reads.startState st1 src).ext none _ (fuel - 1) (by omega) hseq (fun t ht' => (ht t ht').1))]
  simp only [startState, flowsToks, List.map_nil, List.flatten_nil, List.append_nil, htp, List.map_map]
  rfl

/-! ### documents: text segments and comments -/

/-- a segment of the source: a run of text, a comment `%text⏎` (from `%` to the end of the line,
    line break included), or a comment `%text` at the very end of the source, without line break -/
inductive Seg where
  | txt (s : Str)
  | com (text : Str)
  | comEof (text : Str)
deriving Repr, DecidableEq

def Seg.render : Seg → Str
  | .txt s => s
  | .com t => '%' :: (t ++ [nl])
  | .comEof t => '%' :: t

def render : List Seg → Str
  | [] => []
  | s :: rest => s.render ++ render rest

def noNl (t : Str) : Bool := t.all (· != nl)

def textOk (T : PTables) (st : PState) : Str → Str → Bool
  | [], _ => true
  | c :: cs, R => okAtC T st c (cs ++ R) && textOk T st cs R

/-- well-formed documents: every segment is fine in front of the rendering of the following ones.
    * a text segment is inert (`okAtC` for every character, with the whole rest of the source
      behind it; in particular it contains no `%`);
    * a comment text contains no line break, the comment token the scanner makes of it
      (`comTxt`: the comment and — unless a blank line follows — the line break and the white space
      behind it) is an ordinary comment (`comTokOk`), and the line break that ends it is inert
      like a text character (it may survive: when a blank line follows);
    * `comEof` is the last segment. -/
def segsOk (T : PTables) (st : PState) : List Seg → Bool
  | [] => true
  | .txt s :: rest => textOk T st s (render rest) && segsOk T st rest
  | .com t :: rest =>
    noNl t && comTokOk T st (comTxt ('%' :: (t ++ nl :: render rest))) &&
    okAtC T st nl (render rest) && segsOk T st rest
  | .comEof t :: rest => rest.isEmpty && noNl t && comTokOk T st ('%' :: t)

theorem noNl_mem {t : Str} (h : noNl t = true) : ∀ a ∈ t, (a != nl) = true := by
  simpa [noNl] using h

theorem span_com (t R : Str) (h : noNl t = true) :
    commentSpan ('%' :: (t ++ nl :: R))
      = if hasNl (R.takeWhile isSpace) then t.length + 1
        else t.length + 2 + (R.takeWhile isSpace).length := by
  simp only [commentSpan, List.tail_cons, List.takeWhile_append_of_pos (noNl_mem h),
    List.dropWhile_append_of_pos (noNl_mem h), List.takeWhile_cons, List.dropWhile_cons,
    bne_self_eq_false, Bool.false_eq_true, if_false, List.append_nil]
  split <;> omega

theorem span_eof (t : Str) (h : noNl t = true) : commentSpan ('%' :: t) = t.length + 1 := by
  have h1 := takeWhile_all _ t (noNl_mem h)
  have h2 : t.dropWhile (· != nl) = [] := by
    rw [← drop_length_takeWhile, h1, List.drop_length]
  simp only [commentSpan, List.tail_cons, h1, h2]
  omega

/-- a comment `%t⏎` takes `t.length + 2` characters: what is taken and left of `k` more -/
theorem take_com (t R : Str) (k : Nat) :
    ('%' :: (t ++ nl :: R)).take (t.length + 2 + k) = '%' :: (t ++ nl :: R.take k) := by
  have := List.take_length_add_append (l₁ := '%' :: (t ++ [nl])) (l₂ := R) k
  simpa [Nat.add_comm, Nat.add_left_comm] using this

theorem drop_com (t R : Str) (k : Nat) :
    ('%' :: (t ++ nl :: R)).drop (t.length + 2 + k) = R.drop k := by
  have := List.drop_length_add_append (l₁ := '%' :: (t ++ [nl])) (l₂ := R) k
  simpa [Nat.add_comm, Nat.add_left_comm] using this

theorem comTxt_com (t R : Str) (h : noNl t = true) :
    comTxt ('%' :: (t ++ nl :: R))
      = if hasNl (R.takeWhile isSpace) then '%' :: t
        else '%' :: (t ++ nl :: R.takeWhile isSpace) := by
  unfold comTxt
  rw [span_com t R h]
  split
  · simp
  · rw [take_com, ScannerAux.take_length_takeWhile]

theorem comTxt_eof (t : Str) (h : noNl t = true) : comTxt ('%' :: t) = '%' :: t := by
  unfold comTxt
  rw [span_eof t h]
  simp

/-- **the reference on a comment `%t⏎`**: nothing of `%t` is kept; if a blank line follows, the
    line break is kept, otherwise the line break and the white space at the beginning of the next
    line are deleted, too -/
theorem strip_com (t R : Str) (i : Nat) (h : noNl t = true) :
    stripA 0 ('%' :: (t ++ nl :: R)) i
      = if hasNl (R.takeWhile isSpace) then stripA 0 (nl :: R) (i + (t.length + 1))
        else stripA 0 (R.dropWhile isSpace) (i + (t.length + 2 + (R.takeWhile isSpace).length)) := by
  rw [strip_percent, span_com t R h]
  split
  · simp
  · rw [drop_com, drop_length_takeWhile]

theorem strip_eof (t : Str) (i : Nat) (h : noNl t = true) : stripA 0 ('%' :: t) i = [] := by
  rw [strip_percent, span_eof t h]
  simp [stripA]

theorem strip_text (s R : Str) (i : Nat) (h : ∀ c ∈ s, c ≠ '%') :
    stripA 0 (s ++ R) i = posText i s ++ stripA 0 R (i + s.length) := by
  induction s generalizing i with
  | nil => simp [posText]
  | cons c cs ih =>
    rw [List.cons_append, strip_char c _ i (h c (by simp)), ih (i + 1) (fun x hx => h x (by simp [hx]))]
    simp [posText, Nat.add_assoc, Nat.add_comm 1]

theorem textOk_comText (T : PTables) (st : PState) (R : Str) (hR : comTextA T st 0 R = true) :
    ∀ s : Str, textOk T st s R = true → comTextA T st 0 (s ++ R) = true
  | [], _ => hR
  | c :: cs, h => by
    simp only [textOk, Bool.and_eq_true] at h
    have hc := okAtC_ne_percent h.1
    simp only [List.cons_append, comTextA, beq_iff_eq, hc, if_false, Bool.and_eq_true]
    exact ⟨h.1, textOk_comText T st R hR cs h.2⟩

theorem comText_com (T : PTables) (st : PState) (t R : Str) (h : noNl t = true)
    (hk : comTokOk T st (comTxt ('%' :: (t ++ nl :: R))) = true)
    (hn : okAtC T st nl R = true) (hR : comTextA T st 0 R = true) :
    comTextA T st 0 ('%' :: (t ++ nl :: R)) = true := by
  rw [comText_percent_eq, hk, Bool.true_and, span_com t R h]
  split
  · have : ('%' :: (t ++ nl :: R)).drop (t.length + 1) = nl :: R := by simp
    rw [this]
    simp only [comTextA, show (nl == '%') = false by decide, Bool.false_eq_true, if_false,
      Bool.and_eq_true]
    exact ⟨hn, hR⟩
  · rw [drop_com]
    refine (drop_text T st _ R ?_).1 hR
    intro x hx
    rw [ScannerAux.take_length_takeWhile] at hx
    exact isSpace_ne_percent (mem_takeWhile_imp _ _ _ hx)

theorem comText_of_segsOk (T : PTables) (st : PState) :
    ∀ segs : List Seg, segsOk T st segs = true → comText T st (render segs) = true
  | [], _ => rfl
  | .txt s :: rest, h => by
    simp only [segsOk, Bool.and_eq_true] at h
    exact textOk_comText T st _ (comText_of_segsOk T st rest h.2) s h.1
  | .com t :: rest, h => by
    simp only [segsOk, Bool.and_eq_true] at h
    obtain ⟨⟨⟨h1, h2⟩, h3⟩, h4⟩ := h
    have := comText_com T st t (render rest) h1 h2 h3 (comText_of_segsOk T st rest h4)
    simpa [render, Seg.render, comText] using this
  | .comEof t :: rest, h => by
    simp only [segsOk, Bool.and_eq_true] at h
    obtain ⟨⟨h1, h2⟩, h3⟩ := h
    have hr : rest = [] := by simpa using h1
    subst hr
    simp only [render, Seg.render, List.append_nil, comText]
    rw [comText_percent_eq, comTxt_eof t h2, h3, span_eof t h2]
    simp [comTextA]

/-! ### the end-to-end statement -/

/-- **C03 / C05 for comments, end to end.**  The document is a sequence of inert text segments and
    comments `%text⏎` (possibly a last comment `%text` without line break), well-formed in the
    sense of `segsOk` (computable; all side conditions); `st1` is the state after
    `Parser.__init__`; no `--defs`, `--extr`, `--repl`, `--unkn`; single-language mode.  With one
    unit of fuel per source character plus two, `tex2txt` succeeds and

    * the output text and position map are the reference `stripComments`: the source with, for every
      comment, the span `commentSpan` from its `%` on deleted — what that is for the segments is
      `strip_text`, `strip_com`, `strip_eof`; every remaining character keeps its own source
      position (1-based); see also `strip_get` and `strip_avoids_comments`;
    * nothing is reported as unknown and no diagnostic is added;
    * the result tokens are the scanner tokens without the comment tokens (no line is removed:
      a comment leaves no Action token, so `remove_pure_action_lines` changes nothing). -/
theorem tex2txt_comments (T : PTables) (o : Options) (fs : FS) (thresh : Nat)
    (segs : List Seg) (fuel : Nat) (st1 : PState)
    (hdefs : o.defs = []) (hextr : o.extr = []) (hrepl : o.hasRepl = false)
    (hunkn : o.unkn = false)
    (hinit : initParser T fuel o (initialState T o false fs) = .ok ((), st1))
    (hok : segsOk T st1 segs = true) (hf : (render segs).length + 2 ≤ fuel) :
    ∃ r, tex2txt T fuel (render segs) o false thresh fs = .ok r ∧
      r.txt = (stripComments (render segs)).map (·.1) ∧
      r.pos = (stripComments (render segs)).map (·.2 + 1) ∧
      r.unknowns = [] ∧ r.diags = st1.diags ∧
      r.toks = (scan T.toTables (render segs)).toks.filter notCom :=
  ⟨_, tex2txt_com_text ⟨⟨hdefs, hextr, hinit⟩, hrepl, hunkn⟩ thresh (render segs)
    (comText_of_segsOk T st1 segs hok) hf, rfl, rfl, rfl, rfl, rfl⟩

/-! ### what the reference keeps -/

theorem stripA_get : ∀ (s : Str) (n i : Nat) (cp : Char × Nat), cp ∈ stripA n s i →
    ∃ j, cp.2 = i + j ∧ n ≤ j ∧ s[j]? = some cp.1
  | [], n, i, cp, h => by simp [stripA_nil] at h
  | c :: cs, n + 1, i, cp, h => by
    rw [stripA] at h
    obtain ⟨j, h1, h2, h3⟩ := stripA_get cs n (i + 1) cp h
    exact ⟨j + 1, by omega, by omega, by simpa using h3⟩
  | c :: cs, 0, i, cp, h => by
    rw [stripA] at h
    split at h
    · obtain ⟨j, h1, _, h3⟩ := stripA_get cs _ (i + 1) cp h
      exact ⟨j + 1, by omega, by omega, by simpa using h3⟩
    · rcases List.mem_cons.mp h with rfl | h
      · exact ⟨0, rfl, Nat.le_refl _, rfl⟩
      · obtain ⟨j, h1, _, h3⟩ := stripA_get cs 0 (i + 1) cp h
        exact ⟨j + 1, by omega, by omega, by simpa using h3⟩

theorem strip_get (src : Str) (cp : Char × Nat) (h : cp ∈ stripComments src) : src[cp.2]? = some cp.1 := by
  obtain ⟨j, h1, _, h3⟩ := stripA_get src 0 0 cp h
  rw [h1, Nat.zero_add]; exact h3

/-- the comments of a source, as the left-to-right pass finds them: start position and span -/
def commentsA : Nat → Str → Nat → List (Nat × Nat)
  | _, [], _ => []
  | skip + 1, _ :: cs, i => commentsA skip cs (i + 1)
  | 0, c :: cs, i =>
    if c == '%' then (i, commentSpan (c :: cs)) :: commentsA (commentSpan (c :: cs) - 1) cs (i + 1)
    else commentsA 0 cs (i + 1)

def comments (src : Str) : List (Nat × Nat) := commentsA 0 src 0

theorem commentsA_nil (n i : Nat) : commentsA n [] i = [] := by cases n <;> rfl

theorem commentsA_ge : ∀ (s : Str) (n i : Nat) (q : Nat × Nat), q ∈ commentsA n s i → i + n ≤ q.1
  | [], n, i, q, h => by simp [commentsA_nil] at h
  | c :: cs, n + 1, i, q, h => by
    rw [commentsA] at h
    have := commentsA_ge cs n (i + 1) q h
    omega
  | c :: cs, 0, i, q, h => by
    rw [commentsA] at h
    split at h
    · rcases List.mem_cons.mp h with rfl | h
      · simp
      · have := commentsA_ge cs _ (i + 1) q h
        omega
    · have := commentsA_ge cs 0 (i + 1) q h
      omega

theorem stripA_avoids : ∀ (s : Str) (n i : Nat) (cp : Char × Nat) (q : Nat × Nat),
    cp ∈ stripA n s i → q ∈ commentsA n s i → cp.2 < q.1 ∨ q.1 + q.2 ≤ cp.2
  | [], n, i, cp, q, h, _ => by simp [stripA_nil] at h
  | c :: cs, n + 1, i, cp, q, h, hq => by
    rw [stripA] at h
    rw [commentsA] at hq
    exact stripA_avoids cs n (i + 1) cp q h hq
  | c :: cs, 0, i, cp, q, h, hq => by
    rw [stripA] at h
    rw [commentsA] at hq
    split at h
    · rename_i hc
      rw [if_pos hc] at hq
      rcases List.mem_cons.mp hq with rfl | hq
      · obtain ⟨j, h1, h2, _⟩ := stripA_get cs _ (i + 1) cp h
        right
        have := (commentSpan_bounds c cs).1
        simp only
        omega
      · exact stripA_avoids cs _ (i + 1) cp q h hq
    · rename_i hc
      rw [if_neg hc] at hq
      rcases List.mem_cons.mp h with rfl | h
      · left
        have := commentsA_ge cs 0 (i + 1) q hq
        simp only
        omega
      · exact stripA_avoids cs 0 (i + 1) cp q h hq

/-- **hidden text does not leak**: no character of the output is mapped to a position inside a
    comment (from its `%` to the end of what `scan_comment` consumes) -/
theorem strip_avoids_comments (src : Str) (cp : Char × Nat) (q : Nat × Nat)
    (h : cp ∈ stripComments src) (hq : q ∈ comments src) : cp.2 < q.1 ∨ q.1 + q.2 ≤ cp.2 :=
  stripA_avoids src 0 0 cp q h hq

/-! ### simpler sufficient conditions -/

theorem startsWith_append_nl : ∀ (a p w : Str), startsWith a p = false → hasNl p = false →
    startsWith (a ++ nl :: w) p = false
  | _, [], _, h, _ => by simp [startsWith] at h
  | [], q :: ps, w, _, hp => by
    have : q ≠ nl := by
      intro e; subst e; simp [hasNl] at hp
    simp [startsWith, Ne.symm this]
  | x :: xs, q :: ps, w, h, hp => by
    have hp' : hasNl ps = false := by
      simp only [hasNl, List.contains_cons, Bool.or_eq_false_iff] at hp ⊢
      exact hp.2
    simp only [startsWith, Bool.and_eq_false_iff] at h
    simp only [List.cons_append, startsWith, Bool.and_eq_false_iff]
    rcases h with h | h
    · exact Or.inl h
    · exact Or.inr (startsWith_append_nl xs ps w h hp')

/-- global conditions on the state: `%` is no active character of the language settings, the
    marker of the skip pre-pass contains no line break, and a line break is an inert character -/
def stateOk (T : PTables) (st : PState) : Bool :=
  !(activeChars T st).contains ['%'] && !hasNl st.skipBegin && inertChar T st nl

/-- text segments of inert characters (`inertChar` of Proofs/Plain.lean); comment texts without
    line break such that `%text` does not start with the skip marker -/
def segsOkSimple (T : PTables) (st : PState) : List Seg → Bool
  | [] => true
  | .txt s :: rest => s.all (inertChar T st) && segsOkSimple T st rest
  | .com t :: rest => noNl t && !startsWith ('%' :: t) st.skipBegin && segsOkSimple T st rest
  | .comEof t :: rest => rest.isEmpty && noNl t && !startsWith ('%' :: t) st.skipBegin

theorem okAtC_of_inertChar (T : PTables) (st : PState) (c : Char) (cs : Str)
    (h : inertChar T st c = true) : okAtC T st c cs = true := by
  obtain ⟨h1, h2⟩ := PlainMacro.inertChar_facts h cs
  simp only [okAtC, Bool.and_eq_true, Bool.or_eq_true, Bool.not_eq_true', Option.isNone_iff_eq_none]
  exact ⟨Or.inl h1, h2⟩

theorem textOk_of_inertChar (T : PTables) (st : PState) (R : Str) :
    ∀ s : Str, s.all (inertChar T st) = true → textOk T st s R = true
  | [], _ => rfl
  | c :: cs, h => by
    simp only [List.all_cons, Bool.and_eq_true] at h
    simp only [textOk, Bool.and_eq_true]
    exact ⟨okAtC_of_inertChar T st c _ h.1, textOk_of_inertChar T st R cs h.2⟩

theorem segsOk_of_simple (T : PTables) (st : PState) (hst : stateOk T st = true) :
    ∀ segs : List Seg, segsOkSimple T st segs = true → segsOk T st segs = true
  | [], _ => rfl
  | .txt s :: rest, h => by
    simp only [segsOkSimple, Bool.and_eq_true] at h
    simp only [segsOk, Bool.and_eq_true]
    exact ⟨textOk_of_inertChar T st _ s h.1, segsOk_of_simple T st hst rest h.2⟩
  | .com t :: rest, h => by
    simp only [segsOkSimple, Bool.and_eq_true, Bool.not_eq_true'] at h
    obtain ⟨⟨h1, h2⟩, h3⟩ := h
    have hst0 := hst
    simp only [stateOk, Bool.and_eq_true, Bool.not_eq_true'] at hst
    obtain ⟨⟨s1, s2⟩, s3⟩ := hst
    simp only [segsOk, Bool.and_eq_true]
    refine ⟨⟨⟨h1, ?_⟩, okAtC_of_inertChar T st nl _ s3⟩, segsOk_of_simple T st hst0 rest h3⟩
    rw [comTxt_com t _ h1]
    simp only [comTokOk, Bool.and_eq_true, Bool.not_eq_true']
    split
    · exact ⟨h2, not_active_cons T st '%' _ s1⟩
    · refine ⟨?_, not_active_cons T st '%' _ s1⟩
      rw [← List.cons_append]
      exact startsWith_append_nl _ _ _ h2 s2
  | .comEof t :: rest, h => by
    simp only [segsOkSimple, Bool.and_eq_true, Bool.not_eq_true'] at h
    obtain ⟨⟨h1, h2⟩, h3⟩ := h
    simp only [stateOk, Bool.and_eq_true, Bool.not_eq_true'] at hst
    simp only [segsOk, comTokOk, Bool.and_eq_true, Bool.not_eq_true']
    exact ⟨⟨h1, h2⟩, h3, not_active_cons T st '%' _ hst.1.1⟩

/-! ### the hypotheses can be met

  Small concrete tables (`PlainExample.tinyT` with the markers of the skip pre-pass); the real
  tables are used in the recorded `#eval`s below only, so that this file does not depend on the
  generated file. -/

namespace CommentExample
open PlainExample

def tinyC : PTables :=
  { tinyT with commentSkipBegin := "%%% LT-SKIP-BEGIN".toList,
               commentSkipEnd := "%%% LT-SKIP-END".toList }

def stC : PState := initialState tinyC oEn false []

/-- two trailing comments: the first is followed by an indented line, the second by a blank line -/
def segs : List Seg :=
  [.txt "Alpha ".toList, .com " note one".toList, .txt "  beta gamma ".toList,
   .com " two".toList, .txt "\nDelta.".toList]

example : render segs = "Alpha % note one\n  beta gamma % two\n\nDelta.".toList := by decide

/-- `Parser.__init__` succeeds (on the tiny tables it leaves the initial state unchanged) … -/
theorem initParser_tinyC : initParser tinyC 50 oEn (initialState tinyC oEn false []) = .ok ((), stC) := by
  with_unfolding_all rfl

/-- … the document is well-formed (43 characters, fuel 45 would do) … -/
theorem segs_ok : segsOk tinyC stC segs = true := by decide

example : stateOk tinyC stC = true ∧ segsOkSimple tinyC stC segs = true := by decide

/-- … the comments are found at the (0-based) positions 6 and 30; the first one takes the line
    break and the indentation of the next line (13 characters), the second one stops in front of
    the line break because a blank line follows (5 characters) … -/
theorem segs_comments : comments (render segs) = [(6, 13), (30, 5)] := by decide

theorem segs_ref : stripComments (render segs)
    = "Alpha beta gamma \n\nDelta.".toList.zip
        [0, 1, 2, 3, 4, 5, 19, 20, 21, 22, 23, 24, 25, 26, 27, 28, 29, 35, 36, 37, 38, 39, 40, 41, 42] := by
  decide

/-- … and the end-to-end statement applies: the texts ` note one` and ` two` are gone, the second
    line is joined to the first one, the paragraph break is kept. -/
example : ∃ r, tex2txt tinyC 50 (render segs) oEn false 0 [] = .ok r ∧
    r.txt = "Alpha beta gamma \n\nDelta.".toList ∧
    r.pos = [1, 2, 3, 4, 5, 6, 20, 21, 22, 23, 24, 25, 26, 27, 28, 29, 30, 36, 37, 38, 39, 40, 41, 42, 43] ∧
    r.unknowns = [] ∧ r.diags = [] := by
  obtain ⟨r, h1, h2, h3, h4, h5, _⟩ := tex2txt_comments tinyC oEn [] 0 segs 50 stC rfl rfl rfl rfl
    initParser_tinyC segs_ok (by decide)
  refine ⟨r, h1, ?_, ?_, h4, h5⟩
  · rw [h2, segs_ref]; decide
  · rw [h3, segs_ref]; decide

/-- comment-only lines, two comments in a row, a comment at the very end of the source -/
def segs2 : List Seg :=
  [.txt "a\n  ".toList, .com " only".toList, .txt "  b ".toList, .com "x".toList, .com "y".toList,
   .txt "c ".toList, .comEof " end".toList]

example : render segs2 = "a\n  % only\n  b %x\n%y\nc % end".toList := by decide
example : segsOk tinyC stC segs2 = true := by decide
example : (stripComments (render segs2)).map (·.1) = "a\n  b c ".toList := by decide
example : (stripComments (render segs2)).map (·.2) = [0, 1, 2, 3, 13, 14, 21, 22] := by decide

/-- the side conditions reject what they should: a comment that starts with the marker of the
    skip pre-pass, a line break inside a comment text, a `comEof` that is not the last segment,
    a `%` or a macro in a text segment -/
example : segsOk tinyC stC [.txt "a ".toList, .com "%% LT-SKIP-BEGIN".toList, .txt "b".toList] = false := by
  decide
example : segsOk tinyC stC [.txt "a ".toList, .com "%% LT-SKIP-BEGI".toList, .txt "b".toList] = true := by
  decide
example : segsOk tinyC stC [.com "a\nb".toList] = false := by decide
example : segsOk tinyC stC [.comEof "a".toList, .txt "b".toList] = false := by decide
example : segsOk tinyC stC [.txt "50% x".toList] = false := by decide
example : segsOk tinyC stC [.txt "a\\foo".toList, .com "x".toList] = false := by decide
/-- with the tables of `PlainExample.tinyT` (no skip markers: the empty marker is a prefix of every
    comment) every comment starts a skip section -/
example : segsOk tinyT stEn [.com "x".toList] = false := by decide

/-
  Recorded `#eval`s.

  * tiny tables: `tex2txt tinyC 50 (render segs) oEn false 0 []` gives the text
    "Alpha beta gamma \n\nDelta.", positions [1..6, 20..30, 36..43], no unknowns, no diagnostics;
    fuel 44 is still enough (5 scanner tokens less than characters), the bound is not tight here
    (it is for sources without white-space runs and comments, see Proofs/Plain.lean).
    `render segs2` gives "a\n  b c " with positions [1, 2, 3, 4, 14, 15, 22, 23].
  * real tables (`import YalafiVerif.Generated.Tables`, `T := Generated.theTables`,
    `o := { lang := "en".toList }`, `initParser T 2000 o (initialState T o false []) = .ok ((), st1)`):
    `st1.skipBegin = "%%% LT-SKIP-BEGIN"`, `stateOk T st1 = true`, `segsOk T st1 segs = true`,
    `segsOkSimple T st1 segs = true`.  For each of the following sources `comText T st1 src = true`
    and `tex2txt T 3000 src o false 3 []` returns exactly `stripComments src` (positions + 1), no
    unknowns, no diagnostics:
      "Alpha % note one\n  beta gamma % two\n\nDelta."  ↦ "Alpha beta gamma \n\nDelta."
                                            [1..6, 20..30, 36..43], comments = [(6,13), (30,5)]
      "a % c\n  b"         (indented line)           ↦ "a b"        [1,2,9]       comments [(2,6)]
      "a % c\n\nb"         (blank line)              ↦ "a \n\nb"    [1,2,6,7,8]   comments [(2,3)]
      "a % c\n  \nb"       (blank line with spaces)  ↦ "a \n  \nb"  [1,2,6..10]   comments [(2,3)]
      "a % c\n% d\nb"      (two comments in a row)   ↦ "a b"        [1,2,11]      [(2,4), (6,4)]
      "a % c\n  % d\n  b"                            ↦ "a b"        [1,2,15]      [(2,6), (8,6)]
      "a % c"  /  "a %"    (end of the source)       ↦ "a "         [1,2]         [(2,3)] / [(2,1)]
      "a\n% only\nb"       (comment-only line)       ↦ "a\nb"       [1,2,10]      [(2,7)]
      "a\n  % only\n  b"                             ↦ "a\n  b"     [1,2,3,4,14]  [(4,9)]
      "% first\nb"                                   ↦ "b"          [9]           [(0,8)]
      "a\n\n% only\n\nb"                             ↦ "a\n\n\n\nb" [1,2,3,10,11,12] [(3,6)]
      "a %\n\nb"                                     ↦ "a \n\nb"    [1,2,4,5,6]   [(2,1)]
      "a %% x % y\nb"      (`%` inside a comment)    ↦ "a b"        [1,2,12]      [(2,9)]
      "a % $x$ \\foo {\n b" (anything inside a comment) ↦ "a b"      [1,2,17]      [(2,14)]
      "a % c\n\t  b"       (tab)                     ↦ "a b"        [1,2,10]      [(2,7)]
    `comTokOk` is needed: "a %%% LT-SKIP-BEGIN\nb\n%%% LT-SKIP-END\nc" is not in the class; the model
    returns "a c" (positions [1,2,39]), the reference would keep `b`.
  * `parserWork T 5 "a%c\nb" st1` is `ok` (3 tokens + 2), `parserWork T 4 …` is `outOfFuel`.
-/

end CommentExample

end Comment
end Yalafi
