/-
  Proofs/PlainMix3.lean — token level of the THIRD union grammar, definitions: the thirteen kinds of
  Proofs/PlainMix2.lean (formulas of the RICH class of Proofs/PlainMathRich.lean) plus the
  STATEFUL kinds: accent calls; USER DEFINITIONS `\newcommand{\name}[n]{body}` with their uses (the
  macro table changes along the document); simple DISPLAYED EQUATIONS `\[ … \]` / `\begin{name} …
  \end{name}` (a second rotating placeholder collection); LIST ENVIRONMENTS `\begin{name}`, `\item`,
  `\end{name}` (the stack of label generators `itemStack`).  Proofs/PlainMix4.lean has
  its own `Piece` with these kinds and twelve more; the end-to-end theorem of this grammar is obtained from
  the one of the fourth (Proofs/PlainMix3Emb.lean).  Header with the end-to-end statement and all
  side conditions: Proofs/PlainMix3E2E.lean.

  `Piece`, `flat`, `dropComs`   the pieces of a token buffer (21 constructors; braces are plain tokens)
  `Colls`                       the two stored placeholder collections (inline, display)
  `PiecesOk T st1 ps`           the STATIC conditions, relative to the initialised state `st1`
  `nextSt`                      the state behind a piece (`unknowns`, `macros`, `extracted`,
                                `foreign`, `itemStack`; the rotation records are handled separately)
  `Live T st ps`                the conditions that depend on the CURRENT state: an "undeclared"
                                control word (in text or in a formula) is not user-defined at that
                                point, a use has enough groups for the definition in force, an
                                `\item` finds a label on the current stack of generators
  `outP T st l ps`, `cost st ps`, `names st ps`, `flowsOf`, `nMath`, `nDisp`
                                what the loop emits (threading the state and the rotating
                                collections), its iterations, the unknown names, the flows, the
                                numbers of formulas / displayed equations
  `SameM`                       what of the state all this depends on: the macro table,
                                `math_operators`, the environments, `itemStack` and the language
  `MathSt.congr`                what formulas need from the rotation records depends on the
                                language stack and the records only
-/
import YalafiVerif.Proofs.PlainMix2Read
import YalafiVerif.Proofs.PlainAccent
import YalafiVerif.Proofs.PlainMathRichE2E
import YalafiVerif.Proofs.PlainMacroArgs
import YalafiVerif.Proofs.PlainDisplay
namespace Yalafi
namespace PlainMix3

open M
open PlainMacro (lbr rbr NoBrace restamp ncName NcOk NameOk bodyTxt)
open PlainItem (begTok endTok itemTok spTok labTok envOut envOf styleOf listEnvAt labOf labelAt HeadOk NameToks
  begSt itemSt)
open PlainMix (droppable MathSt)
open PlainFootnote (CopyTok FnTok BraceTok FlowSafe addFlow)
open PlainMacroArgs (Group groupsFlat groupsOut GroupGood userMacro defSt useSt useN useBody GoodBody
  DigitOk txtTok digitChar StOk)
open PlainMathRich (OpenTok CloseTok MItem mt mout fOut)
open PlainUnkn2 (mcost)

/-- the two stored placeholder collections of the language: inline formulas, displayed equations -/
abbrev Colls := List Str × List Str


inductive Piece where
  | tok (t : Tok)
  | spc (t : Tok)
  | br (t : Tok)
  | cw (p : Nat) (name : Str) (skipped : List Tok)
  | van (p q1 q2 : Nat) (name : Str) (key repl : List Tok)
  | com (t : Tok)
  | verb (t : Tok)
  /-- an inline formula of the rich class: opening delimiter, body tokens, closing delimiter -/
  | math (d1 : Tok) (body : List Tok) (d2 : Tok)
  | ref (p q1 q2 : Nat) (name : Str) (key repl : List Tok)
  | cite (p q1 q2 : Nat) (name : Str) (key : List Tok)
  | citeN (p b1 b2 q1 q2 : Nat) (name : Str) (note key : List Tok)
  | foot (fn lb : Tok) (body : List Tok) (rb : Tok)
  | head (hd lb : Tok) (body : List Tok) (rb : Tok)
  /-- an accent call: accent token, white space, the letter (in braces or not) -/
  | acc (p : Nat) (name : Str) (sp : List Tok) (bo : Option (Nat × Nat)) (q : Nat) (l : Char)
  /-- a definition `\newcommand { \name } [ n ] { body }` -/
  | defn (p q1 q2 q3 q4 q5 q6 q7 q8 : Nat) (name : Str) (n : Nat) (body : List Tok)
  /-- a use `\name { a1 } … { am }` of a name that is not declared in `st1` -/
  | use (p : Nat) (name : Str) (gs : List Group)
  /-- a simple displayed equation `\[ body \]`; `ops` = `math_operators` of the initialised state -/
  | disp (ops : List Str) (d1 : Tok) (body : List Tok) (d2 : Tok)
  /-- a simple displayed equation `\begin { name } body \end { name }` -/
  | denv (ops : List Str) (p q1 q2 : Nat) (nt : List Tok) (body : List Tok) (p' q1' q2' : Nat)
      (nt' : List Tok)
  /-- `\begin { name }` of a list environment -/
  | beg (p q1 q2 : Nat) (nt : List Tok)
  /-- `\item` with the white-space tokens behind it -/
  | item (p : Nat) (sp : List Tok)
  /-- `\end { name }` of a list environment -/
  | en (p q1 q2 : Nat) (nt : List Tok)

def Piece.toks : Piece → List Tok
  | .tok t => [t]
  | .spc t => [t]
  | .br t => [t]
  | .cw p name sk => cwTok p name :: sk
  | .van p q1 q2 name key _ => cwTok p name :: lbr q1 :: (key ++ [rbr q2])
  | .com t => [t]
  | .verb t => [t]
  | .math d1 b d2 => d1 :: (b ++ [d2])
  | .ref p q1 q2 name key _ => cwTok p name :: lbr q1 :: (key ++ [rbr q2])
  | .cite p q1 q2 name key => cwTok p name :: lbr q1 :: (key ++ [rbr q2])
  | .citeN p b1 b2 q1 q2 name note key =>
    cwTok p name :: PlainRef.chTok b1 '[' ::
      (note ++ PlainRef.chTok b2 ']' :: lbr q1 :: (key ++ [rbr q2]))
  | .foot fn lb b rb => fn :: lb :: (b ++ [rb])
  | .head hd lb b rb => hd :: lb :: (b ++ [rb])
  | .acc p name sp bo q l => PlainAccent.accTok p name :: (sp ++ PlainAccent.argT bo q l)
  | .defn p q1 q2 q3 q4 q5 q6 q7 q8 name n body =>
    cwTok p ncName :: lbr q1 :: cwTok q2 name :: rbr q3 :: txtTok q4 '[' :: txtTok q5 (digitChar n) ::
      txtTok q6 ']' :: lbr q7 :: (body ++ [rbr q8])
  | .use p name gs => cwTok p name :: groupsFlat gs
  | .disp _ d1 b d2 => d1 :: (b ++ [d2])
  | .denv _ p q1 q2 nt b p' q1' q2' nt' =>
    begTok p :: lbr q1 :: (nt ++ rbr q2 :: (b ++ endTok p' :: lbr q1' :: (nt' ++ [rbr q2'])))
  | .beg p q1 q2 nt => begTok p :: lbr q1 :: (nt ++ [rbr q2])
  | .item p sp => itemTok p :: sp
  | .en p q1 q2 nt => endTok p :: lbr q1 :: (nt ++ [rbr q2])

def flat : List Piece → List Tok
  | [] => []
  | p :: ps => p.toks ++ flat ps

def dropComs : List Piece → List Piece
  | .com _ :: rest => dropComs rest
  | ps => ps

def PiecesOk (T : PTables) (st1 : PState) : List Piece → Prop
  | [] => True
  | .tok t :: rest => PlainTok t ∧ PassTok T st1 t (flat rest) ∧ PiecesOk T st1 rest
  | .spc t :: rest => SpecialTok T.toTables t ∧ PiecesOk T st1 rest
  | .br t :: rest => PlainGroup.BrTok t ∧ PiecesOk T st1 rest
  | .cw p name sk :: rest =>
    CwTokOk st1 (cwTok p name) ∧ (∀ t ∈ sk, droppable t = true ∧ t.kind ≠ .comment) ∧
    (∀ t ts, flat (dropComs rest) = t :: ts → droppable t = false) ∧ PiecesOk T st1 rest
  | .van _ _ _ name key repl :: rest =>
    PlainVanish.VanName st1 name ∧ PlainVanish.replOf st1 name = repl ∧
    (∀ t ∈ key, NoBrace t ∧ t.kind ≠ .comment) ∧ PiecesOk T st1 rest
  | .com t :: rest => Comment.ComTok T st1 t ∧ PiecesOk T st1 rest
  | .verb t :: rest => t.kind = .verb false ∧ PiecesOk T st1 rest
  | .math d1 b d2 :: rest =>
    OpenTok d1 ∧ (b.flatMap (mt T)).any (fun x => !x.sp) = true ∧ (∀ t ∈ b, MItem T st1 t) ∧
    CloseTok d2 ∧ PiecesOk T st1 rest
  | .ref _ _ _ name key repl :: rest =>
    PlainRef.RefName T st1 name ∧ PlainRef.replOf st1 name = repl ∧ PlainRef.KeyToks key ∧
    PiecesOk T st1 rest
  | .cite _ _ _ name key :: rest =>
    PlainRef.CiteName st1 name ∧ PlainRef.KeyToks key ∧ PlainRef.StateFacts T st1 ∧ PiecesOk T st1 rest
  | .citeN _ _ _ _ _ name note key :: rest =>
    PlainRef.CiteName st1 name ∧ note ≠ [] ∧ (∀ t ∈ note, CopyTok T st1 t ∧ t.txt ≠ [']']) ∧
    PlainRef.KeyToks key ∧ PlainRef.StateFacts T st1 ∧ PiecesOk T st1 rest
  | .foot fn lb b rb :: rest =>
    FnTok fn ∧ BraceTok '{' lb ∧ BraceTok '}' rb ∧ b ≠ [] ∧ (∀ t ∈ b, CopyTok T st1 t) ∧
    FlowSafe b ∧ PlainFootnote.StateFacts T st1 ∧ PiecesOk T st1 rest
  | .head hd lb b rb :: rest =>
    PlainHeading.HdTok st1 hd ∧ BraceTok '{' lb ∧ BraceTok '}' rb ∧ b ≠ [] ∧
    (∀ t ∈ b, CopyTok T st1 t) ∧ PlainHeading.StateFacts T st1 ∧ PiecesOk T st1 rest
  | .acc _ name sp _ _ l :: rest =>
    PlainAccent.AccName name ∧ (∀ t ∈ sp, t.kind = .space) ∧
    (PlainAccent.accentChar T ('\\' :: name) l).isSome = true ∧ PiecesOk T st1 rest
  | .defn _ _ _ _ _ _ _ _ _ name n body :: rest =>
    NcOk st1 ∧ NameOk st1 name ∧ DigitOk T st1 n ∧ GoodBody T st1 n body ∧ PiecesOk T st1 rest
  | .use _ name gs :: rest =>
    NameOk st1 name ∧ gs ≠ [] ∧ (∀ g ∈ gs, GroupGood T st1 g) ∧ PiecesOk T st1 rest
  | .disp ops d1 b d2 :: rest =>
    ops = st1.mathOperators ∧ PlainDisplay.defEnvOk T st1 = true ∧ st1.displayedSimple = false ∧
    PlainDisplay.OpenTok d1 ∧ PlainDisplay.HasElem T ops b ∧ (∀ t ∈ b, PlainDisplay.DItem T t) ∧
    PlainDisplay.CloseTok d2 ∧ PiecesOk T st1 rest
  | .denv ops _ _ _ nt b _ _ _ nt' :: rest =>
    ops = st1.mathOperators ∧ st1.displayedSimple = false ∧ NameToks T st1 nt ∧ NameToks T st1 nt' ∧
    bodyTxt nt' = bodyTxt nt ∧ PlainDisplay.equEnvAt st1 (bodyTxt nt) = true ∧
    bodyTxt nt ≠ "$".toList ∧ bodyTxt nt ≠ "\\(".toList ∧
    PlainDisplay.HasElem T ops b ∧ (∀ t ∈ b, PlainDisplay.DItem T t) ∧ PiecesOk T st1 rest
  | .beg _ _ _ nt :: rest =>
    NameToks T st1 nt ∧ listEnvAt st1 (bodyTxt nt) = true ∧ PiecesOk T st1 rest
  | .item _ sp :: rest =>
    (∀ t ∈ sp, t.kind = .space) ∧ HeadOk (flat rest) ∧ (activeChars T st1).contains [' '] = false ∧
    PiecesOk T st1 rest
  | .en _ _ _ nt :: rest =>
    NameToks T st1 nt ∧ listEnvAt st1 (bodyTxt nt) = true ∧ PiecesOk T st1 rest


/-- the state behind a piece (without the rotation of the placeholder collection) -/
def nextSt (st : PState) : Piece → PState
  | .cw _ name _ => { st with unknowns := addU st.unknowns ('\\' :: name) }
  | .foot _ _ b _ => addFlow st b
  | .defn _ _ _ _ _ _ _ _ _ name n body => defSt st name n body
  | .use _ name _ => useSt st name
  | .beg _ _ _ nt => begSt st (bodyTxt nt) (styleOf st (bodyTxt nt))
  | .item _ _ => itemSt st
  | .en _ _ _ _ => PlainItem.endSt st
  | _ => st

def liveHead (T : PTables) (st : PState) : Piece → Prop
  | .cw _ name _ => lookupMacro st ('\\' :: name) = none
  | .math _ b _ => ∀ t ∈ b, t.kind = .xmacro → lookupMacro st t.txt = none
  | .use _ name gs => useN st name ≤ gs.length
  | .item _ _ => labelAt T st st.itemStack = true
  | _ => True

def Live (T : PTables) : PState → List Piece → Prop
  | _, [] => True
  | st, pc :: rest => liveHead T st pc ∧ Live T (nextSt st pc) rest

/-- what `expandSequence` emits into the main flow for the pieces before the blank-line removal;
    `st` = the current state, `l` = the stored collections of inline / display placeholders -/
def outP (T : PTables) : PState → Colls → List Piece → List Tok
  | _, _, [] => []
  | st, l, .tok t :: rest => t :: outP T st l rest
  | st, l, .spc t :: rest => expTok T.toTables t ++ outP T st l rest
  | st, l, .br t :: rest => mkAction t.pos :: outP T st l rest
  | st, l, .cw p name sk :: rest => mkAction p :: outP T (nextSt st (.cw p name sk)) l rest
  | st, l, .van p _ _ _ _ repl :: rest => mkAction p :: (repl.map (restamp p) ++ outP T st l rest)
  | st, l, .com _ :: rest => outP T st l rest
  | st, l, .verb t :: rest => expTokV t ++ outP T st l rest
  | st, l, .math d1 b _ :: rest =>
    fOut T ((rotL l.1).headD []) d1.pos (b.flatMap (mout T st)) ++ outP T st (rotL l.1, l.2) rest
  | st, l, .ref p _ _ _ _ repl :: rest => mkAction p :: (repl.map (restamp p) ++ outP T st l rest)
  | st, l, .cite p _ _ _ _ :: rest => mkAction p :: (PlainRef.citeToks p ++ outP T st l rest)
  | st, l, .citeN p _ _ _ _ _ note _ :: rest =>
    mkAction p :: (PlainRef.citeNToks p note ++ outP T st l rest)
  | st, l, .foot fn lb b rb :: rest => mkAction fn.pos :: outP T (nextSt st (.foot fn lb b rb)) l rest
  | st, l, .head hd _ b _ :: rest => PlainHeading.headOut T hd b ++ outP T st l rest
  | st, l, .acc p name _ _ _ c :: rest =>
    PlainAccent.resTok p (PlainAccent.accVal T name c) :: outP T st l rest
  | st, l, .defn p q1 q2 q3 q4 q5 q6 q7 q8 name n body :: rest =>
    mkAction p :: outP T (nextSt st (.defn p q1 q2 q3 q4 q5 q6 q7 q8 name n body)) l rest
  | st, l, .use p name gs :: rest =>
    mkAction p :: (useBody st p name gs ++ (groupsOut (gs.drop (useN st name))
      ++ outP T (nextSt st (.use p name gs)) l rest))
  | st, l, .disp ops d1 b _ :: rest =>
    PlainDisplay.dispOut T ((rotL l.2).headD []) d1.pos (PlainDisplay.elemPos T ops b)
        (PlainMath.firstPos (PlainMath.mathToks b)) (PlainMath.bodyTxt (PlainMath.mathToks b))
      ++ outP T st (l.1, rotL l.2) rest
  | st, l, .denv ops p _ _ _ b _ _ _ _ :: rest =>
    mkAction p :: mkAction p ::
      (PlainDisplay.dispOut T ((rotL l.2).headD []) p (PlainDisplay.elemPos T ops b)
          (PlainMath.firstPos (PlainMath.mathToks b)) (PlainMath.bodyTxt (PlainMath.mathToks b))
        ++ outP T st (l.1, rotL l.2) rest)
  | st, l, .beg p q1 q2 nt :: rest =>
    envOut (envOf st (bodyTxt nt)) p :: mkAction p :: outP T (nextSt st (.beg p q1 q2 nt)) l rest
  | st, l, .item p sp :: rest =>
    mkAction p :: spTok p :: labTok p (labOf T st.itemStack) :: spTok p
      :: outP T (nextSt st (.item p sp)) l rest
  | st, l, .en p q1 q2 nt :: rest =>
    envOut (envOf st (bodyTxt nt)) p :: outP T (nextSt st (.en p q1 q2 nt)) l rest

def flowsOf : List Piece → List (List Tok)
  | [] => []
  | .foot _ _ b _ :: rest => b :: flowsOf rest
  | _ :: rest => flowsOf rest

/-- iterations of `expandSequence` -/
def cost : PState → List Piece → Nat
  | _, [] => 0
  | st, .tok _ :: rest => 1 + cost st rest
  | st, .spc _ :: rest => 1 + cost st rest
  | st, .br _ :: rest => 1 + cost st rest
  | st, .cw p name sk :: rest => 2 + cost (nextSt st (.cw p name sk)) rest
  | st, .van _ _ _ _ _ repl :: rest => 2 + repl.length + cost st rest
  | st, .com _ :: rest => 1 + cost st rest
  | st, .verb _ :: rest => 1 + cost st rest
  | st, .math _ b _ :: rest => mcost b + 2 + cost st rest
  | st, .ref _ _ _ _ _ repl :: rest => 2 + repl.length + cost st rest
  | st, .cite _ _ _ _ _ :: rest => 4 + cost st rest
  | st, .citeN _ _ _ _ _ _ note _ :: rest => 6 + note.length + cost st rest
  | st, .foot fn lb b rb :: rest => b.length + 6 + cost (nextSt st (.foot fn lb b rb)) rest
  | st, .head _ _ b _ :: rest => b.length + 3 + cost st rest
  | st, .acc .. :: rest => 3 + cost st rest
  | st, .defn p q1 q2 q3 q4 q5 q6 q7 q8 name n body :: rest =>
    2 + cost (nextSt st (.defn p q1 q2 q3 q4 q5 q6 q7 q8 name n body)) rest
  | st, .use p name gs :: rest =>
    2 + (useBody st p name gs).length + (groupsOut (gs.drop (useN st name))).length
      + cost (nextSt st (.use p name gs)) rest
  | st, .disp _ _ b _ :: rest => b.length + 3 + cost st rest
  | st, .denv _ _ _ _ nt b _ _ _ nt' :: rest => b.length + nt.length + nt'.length + 11 + cost st rest
  | st, .beg p q1 q2 nt :: rest => 3 + nt.length + cost (nextSt st (.beg p q1 q2 nt)) rest
  | st, .item p sp :: rest => 5 + cost (nextSt st (.item p sp)) rest
  | st, .en p q1 q2 nt :: rest => 2 + nt.length + cost (nextSt st (.en p q1 q2 nt)) rest

def nMath : List Piece → Nat
  | [] => 0
  | .math .. :: rest => nMath rest + 1
  | _ :: rest => nMath rest

def nDisp : List Piece → Nat
  | [] => 0
  | .disp .. :: rest => nDisp rest + 1
  | .denv .. :: rest => nDisp rest + 1
  | _ :: rest => nDisp rest

/-- the names that are recorded as unknown, with backslash, in order of occurrence: undeclared
    control words, and uses of names that are not (yet) defined -/
def names : PState → List Piece → List Str
  | _, [] => []
  | st, .cw p name sk :: rest => ('\\' :: name) :: names (nextSt st (.cw p name sk)) rest
  | st, .use p name gs :: rest =>
    (if (lookupMacro st ('\\' :: name)).isNone then [('\\' :: name)] else [])
      ++ names (nextSt st (.use p name gs)) rest
  | st, pc :: rest => names (nextSt st pc) rest


structure SameM (st st' : PState) : Prop where
  macros : st'.macros = st.macros
  ops : st'.mathOperators = st.mathOperators
  envs : st'.envs = st.envs
  stack : st'.itemStack = st.itemStack
  lang : st'.langStack = st.langStack

theorem SameM.lookup {st st' : PState} (h : SameM st st') (nm : Str) :
    lookupMacro st' nm = lookupMacro st nm := by
  simp [lookupMacro, h.macros]

theorem MathSt.congr {T : PTables} {st st' : PState} {rot : Rot} {ls : LangSettings}
    (hl : st'.langStack = st.langStack) (hr : st'.rots = st.rots) (h : MathSt T st rot ls) :
    MathSt T st' rot ls := by
  obtain ⟨h1, h2, h3⟩ := h
  refine ⟨?_, h2, ?_⟩
  · simpa [rotOf, curSettings, hl, hr] using h1
  · simpa [curSettings, hl] using h3

end PlainMix3
end Yalafi
