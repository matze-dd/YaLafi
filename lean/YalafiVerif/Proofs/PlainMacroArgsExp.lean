/-
  Proofs/PlainMacroArgsExp.lean — the expander level of Proofs/PlainMacroArgs.lean: token buffers that
  consist of plain tokens, definitions `\newcommand{\name}[n]{body}` and uses `\name{a1}…{am}`.  The calls
  are instances of Proofs/Call.lean.

    `genCur`, `genOut`, `genRepl_eq`    `generate_replacements` as an explicit function of the body and
                                        the arguments (all references in range, no argument empty)
    `collectArgs_groups`                `expand_arguments` on the first n brace groups for the signature `A…A`
    `collectArgs_ncHead`, `collectArgs_defN`, `ncMacro`, `callHandler_newcommand`, `expandMacro_nc`,
    `seqRun_nc`, `seqRun_def`
                                        the definition: `h_newcommand` stores `ncMacro name n dflt body`,
                                        which is `{name, args := 'A'^n, repl := body}` without a default
                                        (the case with a default: Proofs/PlainOptArgExp.lean)
    `expandMacro_user`, `expandMacro_use`, `CopyTok`, `seqRun_groups`, `seqRun_undef`, `seqRun_expand`,
    `seqRun_use`                        the use: Action token, `genOut` of the collected arguments
    `Piece`, `PiecesOk`, `StOk`, `outP`, `finalSt`, `cost`   the token buffers, what the loop makes of them
  These definitions are the token level of the class; the class theorem `tex2txt_newcommand_args` is obtained
  through the embedding into the class with `\def` (Proofs/PlainDefs.lean).

  The steps of the loop are runs (`SeqRun`).
-/
import YalafiVerif.Proofs.PlainMacro
namespace Yalafi
namespace PlainMacroArgs

open M
open PlainMacro (lbr rbr lbr_brace rbr_brace NoBrace restamp ncDeclOk ncDeclOk_facts
  ncName plainTok_noBrace plainTok_argRef cwTok_noBrace NcOk
  lookup_setMacro NameOk plainTok_restamp)

/-! ### `generateReplacements`, explicitly -/

def argAt (args : List (List Tok)) (k : Nat) : List Tok := (args[k - 1]?).getD []

def headPos (a : List Tok) : Nat := match a.head? with | some h => h.pos | none => 0
def lastPos (a : List Tok) : Nat := match a.getLast? with | some l => l.pos | none => 0

theorem lastPos_restamp (p : Nat) (ts : List Tok) (h : ts ≠ []) : lastPos (ts.map (restamp p)) = p := by
  obtain ⟨x, hx⟩ := Call.getLast?_of_ne h
  simp only [lastPos, List.getLast?_map, hx]
  rfl

/-- `cur_pos` after the first loop of `generate_replacements`: the start of the argument that is
    referenced last in the body, `cur` if there is no reference -/
def genCur (args : List (List Tok)) : List Tok → Nat → Nat
  | [], cur => cur
  | t :: ts, cur =>
    match argRef t with
    | some k => genCur args ts (headPos (argAt args k))
    | none => genCur args ts cur

/-- the result of the second loop: a body token is pinned at `cur`; `#k` is replaced by the k-th
    argument between two Action tokens, and `cur` moves to the last token of that argument -/
def genOut (args : List (List Tok)) : List Tok → Nat → List Tok
  | [], _ => []
  | t :: ts, cur =>
    match argRef t with
    | some k =>
      mkAction (headPos (argAt args k)) :: (argAt args k ++
        mkAction (lastPos (argAt args k)) :: genOut args ts (lastPos (argAt args k)))
    | none => restamp cur t :: genOut args ts cur

def RefsOk (n : Nat) (b : List Tok) : Prop := ∀ t ∈ b, ∀ k, argRef t = some k → 1 ≤ k ∧ k ≤ n

theorem RefsOk.tail {n : Nat} {t : Tok} {ts : List Tok} (h : RefsOk n (t :: ts)) : RefsOk n ts :=
  fun x hx => h x (List.mem_cons_of_mem _ hx)

theorem pyIndex_argAt (args : List (List Tok)) (k : Nat) (h1 : 1 ≤ k) (h2 : k ≤ args.length) :
    pyIndex args k = some (argAt args k) ∧ argAt args k ∈ args := by
  have hk : (k == 0) = false := by simp; omega
  have hlt : k - 1 < args.length := by omega
  refine ⟨?_, ?_⟩
  · simp only [pyIndex, hk, Bool.false_eq_true, if_false, argAt, List.getElem?_eq_getElem hlt,
      Option.getD_some]
  · simp only [argAt, List.getElem?_eq_getElem hlt, Option.getD_some]
    exact List.getElem_mem hlt

theorem head?_of_ne {a : List Tok} (h : a ≠ []) : ∃ x, a.head? = some x ∧ headPos a = x.pos := by
  cases a with
  | nil => exact absurd rfl h
  | cons x xs => exact ⟨x, rfl, rfl⟩

theorem getLast?_of_ne {a : List Tok} (h : a ≠ []) : ∃ x, a.getLast? = some x ∧ lastPos a = x.pos := by
  cases hl : a.getLast? with
  | none => exact absurd (List.getLast?_eq_none_iff.mp hl) h
  | some x => exact ⟨x, rfl, by simp [lastPos, hl]⟩

theorem initCurPos_eq (args : List (List Tok)) (hne : ∀ a ∈ args, a ≠ []) :
    ∀ (b : List Tok) (cur : Nat), RefsOk args.length b →
      initCurPos args b cur = some (genCur args b cur)
  | [], _, _ => rfl
  | t :: ts, cur, h => by
    cases hk : argRef t with
    | none =>
      simp only [initCurPos, genCur, hk]
      exact initCurPos_eq args hne ts cur h.tail
    | some k =>
      obtain ⟨k1, k2⟩ := h t (List.mem_cons_self ..) k hk
      obtain ⟨hp, hmem⟩ := pyIndex_argAt args k k1 k2
      obtain ⟨x, hx, hxp⟩ := head?_of_ne (hne _ hmem)
      simp only [initCurPos, genCur, hk, hp, hx, hxp]
      exact initCurPos_eq args hne ts _ h.tail

theorem genReplLoop_eq (args : List (List Tok)) (hne : ∀ a ∈ args, a ≠ []) :
    ∀ (b : List Tok) (cur : Nat) (out : List Tok), RefsOk args.length b →
      genReplLoop args b cur out = some (out ++ genOut args b cur)
  | [], _, out, _ => by simp [genReplLoop, genOut]
  | t :: ts, cur, out, h => by
    cases hk : argRef t with
    | none =>
      simp only [genReplLoop, genOut, hk]
      rw [genReplLoop_eq args hne ts cur _ h.tail]
      simp [restamp]
    | some k =>
      obtain ⟨k1, k2⟩ := h t (List.mem_cons_self ..) k hk
      obtain ⟨hp, hmem⟩ := pyIndex_argAt args k k1 k2
      obtain ⟨x, hx, hxp⟩ := head?_of_ne (hne _ hmem)
      obtain ⟨l, hl, hlp⟩ := getLast?_of_ne (hne _ hmem)
      simp only [genReplLoop, genOut, hk, hp, hx, hl, hxp, hlp]
      rw [genReplLoop_eq args hne ts _ _ h.tail]
      simp

theorem genRepl_eq (args : List (List Tok)) (hne : ∀ a ∈ args, a ≠ []) (b : List Tok) (start : Nat)
    (h : RefsOk args.length b) :
    generateReplacements args b start = some (genOut args b (genCur args b start)) := by
  simp only [generateReplacements, initCurPos_eq args hne b start h,
    genReplLoop_eq args hne b _ [] h, List.nil_append]

/-! ### brace groups -/

/-- `{ toks }` with the positions of the braces -/
structure Group where
  p : Nat
  toks : List Tok
  q : Nat

def Group.flat (g : Group) : List Tok := lbr g.p :: (g.toks ++ [rbr g.q])

def groupsFlat : List Group → List Tok
  | [] => []
  | g :: gs => g.flat ++ groupsFlat gs

/-- the tokens of a group can be collected as a braced argument -/
def GroupOk (g : Group) : Prop := g.toks ≠ [] ∧ ∀ t ∈ g.toks, NoBrace t

theorem groupsFlat_append (a b : List Group) : groupsFlat (a ++ b) = groupsFlat a ++ groupsFlat b := by
  induction a with
  | nil => rfl
  | cons g gs ih => simp [groupsFlat, ih]

theorem collectArgs_groups (T : PTables) (mac : MacroDef) (rest : Buf) (st : PState) :
    ∀ (gs : List Group) (i : Nat) (pos0 : Nat) (acc : Args), (∀ g ∈ gs, GroupOk g) →
      collectArgs T mac (List.replicate gs.length 'A') i (groupsFlat gs ++ rest) pos0 acc st
        = .ok (({ acc with args := acc.args ++ gs.map (·.toks), extr := acc.extr ++ gs.map (·.toks) },
                rest), st)
  | [], i, pos0, acc, _ => by
    rw [List.length_nil, List.replicate_zero, Call.collectArgs_nil]
    simp [groupsFlat]
  | g :: gs, i, pos0, acc, h => by
    obtain ⟨hne, hnb⟩ := h g (List.mem_cons_self ..)
    have hflat : groupsFlat (g :: gs) ++ rest = lbr g.p :: (g.toks ++ rbr g.q :: (groupsFlat gs ++ rest)) := by
      simp [groupsFlat, Group.flat]
    rw [hflat, List.length_cons, List.replicate_succ,
      Call.collectArgs_braced T mac _ i pos0 acc st g.toks _ (lbr_brace g.p) (rbr_brace g.q) hnb,
      Call.argOr_of_ne hne,
      collectArgs_groups T mac rest st gs (i + 1) _ _ (fun x hx => h x (List.mem_cons_of_mem _ hx))]
    simp [Args.push]

/-! ### the definition -/

def txtTok (p : Nat) (c : Char) : Tok := { kind := .text, pos := p, txt := [c] }

/-- the macro stored by `\newcommand{\name}[n]{body}` -/
def userMacro (name : Str) (n : Nat) (body : List Tok) : MacroDef :=
  { name := name, args := List.replicate n 'A', repl := body }

theorem brace_txt (p : Nat) (c : Char) : Call.Brace c (txtTok p c) := ⟨.inr rfl, rfl⟩

/-- `collectArgs` on `{\name}[d]…` for a signature that starts with `*AO`: no star; the name and the
    digit are collected -/
theorem collectArgs_ncHead (T : PTables) (mac : MacroDef) (codes : List Char) (p1 p2 p3 p4 p5 : Nat)
    (nameTok : Tok) (hname : NoBrace nameTok) (d : Char) (h1 : d ≠ ']') (hdp : PlainTok (txtTok p4 d))
    (X : Buf) (start : Nat) (st : PState) :
    collectArgs T mac ('*' :: 'A' :: 'O' :: codes) 0
        (lbr p1 :: nameTok :: rbr p2 :: txtTok p3 '[' :: txtTok p4 d :: txtTok p5 ']' :: X) start {} st
      = collectArgs T mac codes 3 X p3
          { args := [[], [nameTok], [txtTok p4 d]], extr := [[], [nameTok], [txtTok p4 d]], langs := [] }
          st := by
  show collectArgs T mac _ 0
      (lbr p1 :: ([nameTok] ++ rbr p2 :: (txtTok p3 '[' :: ([txtTok p4 d] ++ txtTok p5 ']' :: X)))) start {} st = _
  rw [Call.collectArgs_noStar T mac _ 0 start {} st (.of_not (t := lbr p1) rfl) rfl,
    Call.collectArgs_braced T mac _ 1 _ _ st [nameTok] _ (lbr_brace p1) (rbr_brace p2) (List.forall_mem_singleton.mpr hname),
    Call.collectArgs_bracketed T mac _ 2 _ _ st [txtTok p4 d] X (brace_txt p3 '[') (brace_txt p5 ']')
      (by simpa [Call.NoBrk, txtTok] using ⟨plainTok_noBrace hdp, h1⟩)]
  rfl

/-- `collectArgs` on `{\name}[d]{body}` for the signature `*AOOA`; `hab`: the body is collected as a
    braced argument -/
theorem collectArgs_defN (T : PTables) (mac : MacroDef) (hd : mac.defaults = [])
    (p1 p2 p3 p4 p5 p6 p7 : Nat) (nameTok : Tok) (hname : NoBrace nameTok) (d : Char)
    (h1 : d ≠ ']') (hdp : PlainTok (txtTok p4 d)) (b : List Tok) (rest : Buf) (start : Nat) (st : PState)
    (hab : argBuffer T.toTables (lbr p6 :: (b ++ rbr p7 :: rest)) p6 true st = .ok ((b, rest), st)) :
    collectArgs T mac ['*', 'A', 'O', 'O', 'A'] 0
        (lbr p1 :: nameTok :: rbr p2 :: txtTok p3 '[' :: txtTok p4 d :: txtTok p5 ']' :: lbr p6 ::
          (b ++ rbr p7 :: rest)) start {} st
      = .ok (({ args := [[], [nameTok], [txtTok p4 d], [], b],
                extr := [[], [nameTok], [txtTok p4 d], [], b], langs := [] }, rest), st) := by
  rw [collectArgs_ncHead T mac _ p1 p2 p3 p4 p5 nameTok hname d h1 hdp,
    Call.collectArgs_noOpt T mac _ 3 _ _ st (.of_not (t := lbr p6) rfl) rfl, Call.dfltArg_nil hd,
    Call.collectArgs_A T mac _ 4 _ _ st (.of_not rfl) rfl hab, Call.collectArgs_nil]
  rfl

theorem getTextExpanded_single (T : PTables) (fuel : Nat) (t : Tok) (st : PState) (hp : PlainTok t)
    (ha : (activeChars T st).contains t.txt = false) (hne : t.txt ≠ []) :
    getTextExpanded T (fuel + 3) [t] st = .ok (t.txt, st) := by
  rw [Call.getTextExpanded_of_seq (fuel + 2) (seq_plain_id T st none [t] (fuel + 2) (by simp)
    ⟨hp, Or.inl ha, trivial⟩ (by simpa using hne))]
  simp [getTextDirect, hp.notComment]

/-- a decimal digit has a value of at most nine (so `h_newcommand` accepts the count) -/
theorem decimalValue_le9 (zeros : List Nat) (c : Char) (n : Nat) (h : decimalValue zeros c = some n) :
    n ≤ 9 := by
  unfold decimalValue at h
  cases hf : zeros.find? (fun z => decide (z ≤ c.toNat) && decide (c.toNat < z + 10)) with
  | none => simp [hf] at h
  | some z =>
    have := List.find?_some hf
    simp only [hf, Option.map_some, Option.some.injEq] at h
    simp only [Bool.and_eq_true, decide_eq_true_eq] at this
    omega

/-- the macro `h_newcommand` stores for `\newcommand{\name}[n][dflt]{body}`: without a default, `n`
    mandatory arguments; with a default, an optional first argument and `n - 1` mandatory ones -/
def ncMacro (name : Str) (n : Nat) (dt body : List Tok) : MacroDef :=
  if dt.isEmpty then userMacro name n body
  else { name := name, args := 'O' :: List.replicate (n - 1) 'A', repl := body, defaults := [dt] }

/-- **the handler step.**  On the arguments collected from `{\name}[d][dflt]{body}` (no star, the digit
    `d` with value `n`, the default `dt` — empty if there is none, otherwise `n ≥ 1`) `h_newcommand` stores
    `ncMacro` and returns no tokens. -/
theorem callHandler_newcommand (T : PTables) (fuel : Nat) (buf : Buf) (mac : MacroDef) (nameTok : Tok)
    (hk : nameTok.kind ≠ .comment) (pd : Nat) (d : Char) (n : Nat)
    (hdv : decimalValue T.decimalZeros d = some n) (dt : List Tok) (hdt : dt = [] ∨ 1 ≤ n)
    (b : List Tok) (hb : RefsOk n b) (pos : Nat)
    (st : PState) (hdp : PlainTok (txtTok pd d))
    (hda : (activeChars T st).contains [d] = false)
    (hign : st.newcommandIgnore.contains nameTok.txt = false) :
    callHandler T (fuel + 4) .newcommand buf mac [[], [nameTok], [txtTok pd d], dt, b] pos st
      = .ok ([], { st with macros := setMacro st.macros (ncMacro nameTok.txt n dt b) }) := by
  have hname : getTextDirect [nameTok] = nameTok.txt := by
    simp [getTextDirect, hk]
  rw [callHandler.eq_4]
  simp only [List.getElem?_cons_succ, List.getElem?_cons_zero]
  refine (M.bind_ok _ _ _ _ _ (rfl : (pure [nameTok] : M (List Tok)) st = _)).trans ?_
  refine (M.bind_ok _ _ _ _ _ (rfl : (pure [txtTok pd d] : M (List Tok)) st = _)).trans ?_
  refine (M.bind_ok _ _ _ _ _ (rfl : (pure dt : M (List Tok)) st = _)).trans ?_
  refine (M.bind_ok _ _ _ _ _ (rfl : (pure b : M (List Tok)) st = _)).trans ?_
  refine (M.bind_ok _ _ _ _ _ (rfl : M.get st = _)).trans ?_
  simp only [hname, hign, Bool.false_eq_true, if_false]
  refine (M.bind_ok _ _ _ _ _ (getTextExpanded_single T fuel (txtTok pd d) st hdp hda (by simp [txtTok]))).trans ?_
  simp only [txtTok, List.isEmpty_cons, Bool.not_false, List.all_cons, List.all_nil, hdv,
    Option.isSome_some, Bool.and_self, if_true, List.foldl_cons, List.foldl_nil, Nat.zero_mul,
    Nat.zero_add, Option.getD_some]
  have hn9 : ¬ n > 9 := by have := decimalValue_le9 _ _ _ hdv; omega
  simp only [hn9, if_false]
  generalize hfd : List.find? _ b = r
  cases r with
  | some bad =>
    have h1 := List.mem_of_find?_eq_some hfd
    have h2 := List.find?_some hfd
    cases hr : argRef bad with
    | none => simp [hr] at h2
    | some k =>
      obtain ⟨k1, k2⟩ := hb bad h1 k hr
      simp [hr] at h2
      omega
  | none =>
    cases he : dt.isEmpty with
    | true =>
      simp only [ncMacro, he, Bool.not_true, Bool.false_eq_true, if_false, if_true]
      rfl
    | false =>
      have hn1 : ¬ n < 1 := by
        rcases hdt with rfl | h
        · cases he
        · omega
      simp only [ncMacro, he, Bool.not_false, Bool.false_eq_true, if_false, if_true, hn1]
      rfl

/-- **the definition step of `expandMacro`**: a keyword declared like `\newcommand`, in front of a
    buffer from which `collectArgs` collects the name, the digit, the default `dt` and the body, stores
    `ncMacro` and leaves an Action token at the position of the keyword -/
theorem expandMacro_nc (T : PTables) (fuel : Nat) (mac : MacroDef) (hmac : ncDeclOk mac = true)
    (buf rest : Buf) (nameTok : Tok) (hk : nameTok.kind ≠ .comment) (pd : Nat) (d : Char) (n : Nat)
    (hdv : decimalValue T.decimalZeros d = some n) (dt : List Tok) (hdt : dt = [] ∨ 1 ≤ n)
    (b : List Tok) (hbr : RefsOk n b) (tok : Tok) (st : PState) (hdp : PlainTok (txtTok pd d))
    (hda : (activeChars T st).contains [d] = false)
    (hl : lookupMacro st tok.txt = some mac)
    (hign : st.newcommandIgnore.contains nameTok.txt = false)
    (hs : skipSpaceStopLangAct buf = buf)
    (hc : collectArgs T mac ['*', 'A', 'O', 'O', 'A'] 0 buf tok.pos {} st
      = .ok (({ args := [[], [nameTok], [txtTok pd d], dt, b],
                extr := [[], [nameTok], [txtTok pd d], dt, b], langs := [] }, rest), st)) :
    expandMacro T (fuel + 6) buf tok false st
      = .ok (([mkAction tok.pos], rest),
             { st with macros := setMacro st.macros (ncMacro nameTok.txt n dt b) }) := by
  obtain ⟨ha, hh, _, he⟩ := ncDeclOk_facts hmac
  exact Call.expandMacro_handler (fuel + 4) false hl he (by rw [hh]; decide) hs (ha ▸ hc) rfl
    (hh ▸ callHandler_newcommand T fuel rest mac nameTok hk pd d n hdv dt hdt b hbr tok.pos st hdp hda hign)

/-! ### the use -/

theorem skip_groups (gs : List Group) (rest : Buf) (hne : gs ≠ []) :
    skipSpaceStopLangAct (groupsFlat gs ++ rest) = groupsFlat gs ++ rest := by
  cases gs with
  | nil => exact absurd rfl hne
  | cons g gs' => exact Call.skipSpaceStopLangAct_cons (rfl : isSpaceTok (lbr g.p) = false)

/-- **the use step of `expandMacro`**: a macro without handler and extraction text, for which
    `collectArgs` collects the non-empty arguments `A`, returns an Action token and its replacement
    with the arguments substituted (`genOut`); the state is unchanged -/
theorem expandMacro_user (T : PTables) (g : Nat) (buf buf' : Buf) (tok : Tok) (st : PState)
    (mac : MacroDef) (A E : List (List Tok)) (hl : lookupMacro st tok.txt = some mac)
    (hh : mac.handler = .none) (he : mac.extract = [])
    (hc : collectArgs T mac mac.args 0 (skipSpaceStopLangAct buf) tok.pos {} st
      = .ok (({ args := A, extr := E, langs := [] }, buf'), st))
    (hne : ∀ a ∈ A, a ≠ []) (hr : RefsOk A.length mac.repl) :
    expandMacro T (g + 2) buf tok false st
      = .ok ((mkAction tok.pos :: genOut A mac.repl (genCur A mac.repl tok.pos), buf'), st) :=
  Call.expandMacro_repl g false hl he hh rfl hc rfl (genRepl_eq A hne mac.repl tok.pos hr)

theorem expandMacro_use (T : PTables) (fuel : Nat) (gs : List Group) (rest : Buf) (tok : Tok)
    (st : PState) (nm : Str) (n : Nat) (b : List Tok)
    (hl : lookupMacro st tok.txt = some (userMacro nm n b)) (hn : n ≤ gs.length) (hne : gs ≠ [])
    (hg : ∀ g ∈ gs, GroupOk g) (hr : RefsOk n b) :
    expandMacro T (fuel + 2) (groupsFlat gs ++ rest) tok false st
      = .ok ((mkAction tok.pos ::
                genOut ((gs.take n).map (·.toks)) b (genCur ((gs.take n).map (·.toks)) b tok.pos),
              groupsFlat (gs.drop n) ++ rest), st) := by
  have hlen : (gs.take n).length = n := by simp; omega
  have hsplit : groupsFlat gs ++ rest = groupsFlat (gs.take n) ++ (groupsFlat (gs.drop n) ++ rest) := by
    rw [← List.append_assoc, ← groupsFlat_append, List.take_append_drop]
  have hc := collectArgs_groups T (userMacro nm n b) (groupsFlat (gs.drop n) ++ rest) st (gs.take n) 0
    tok.pos {} (fun g hg' => hg g (List.mem_of_mem_take hg'))
  rw [hlen, ← hsplit, ← skip_groups gs rest hne] at hc
  refine expandMacro_user T fuel _ _ tok st _ _ _ hl rfl rfl hc ?_ (by rw [List.length_map, hlen]; exact hr)
  intro a ha
  obtain ⟨g, hg', rfl⟩ := List.mem_map.mp ha
  exact (hg g (List.mem_of_mem_take hg')).1

/-- a token that `expandSequence` copies whatever follows: an Action token, or a plain token that is
    not active -/
def CopyTok (T : PTables) (st : PState) (t : Tok) : Prop :=
  (∃ p, t = mkAction p) ∨ (PlainTok t ∧ (activeChars T st).contains t.txt = false)

theorem CopyTok.copied {T : PTables} {st : PState} {t : Tok} (ha : noEmptyActive T st = true)
    (h : CopyTok T st t) (rest : Buf) : CopiedTok T st t rest := by
  rcases h with ⟨p, rfl⟩ | ⟨h1, h2⟩
  · exact .action (notActive_nil ha) p
  · exact .of_plain h1 (Or.inl h2)

/-- what the loop emits for brace groups: the braces become Action tokens -/
def groupsOut : List Group → List Tok
  | [] => []
  | g :: gs => mkAction g.p :: (g.toks ++ mkAction g.q :: groupsOut gs)

def GroupGood (T : PTables) (st : PState) (g : Group) : Prop :=
  g.toks ≠ [] ∧ ∀ t ∈ g.toks, PlainTok t ∧ (activeChars T st).contains t.txt = false

theorem GroupGood.ok {T : PTables} {st : PState} {g : Group} (h : GroupGood T st g) : GroupOk g :=
  ⟨h.1, fun t ht => plainTok_noBrace (h.2 t ht).1⟩

theorem seqRun_groups (T : PTables) (envStop : Option Str) (st : PState) (rest : Buf) :
    ∀ (gs : List Group) (out : List Tok), (∀ g ∈ gs, GroupGood T st g) →
      SeqRun T envStop 0 (groupsOut gs).length (groupsFlat gs ++ rest) out st rest (out ++ groupsOut gs) st
  | [], out, _ => by rw [groupsOut, List.append_nil]; exact .refl
  | g :: gs, out, h => by
    have hg := h g (List.mem_cons_self ..)
    have hflat : groupsFlat (g :: gs) ++ rest
        = lbr g.p :: (g.toks ++ (rbr g.q :: (groupsFlat gs ++ rest))) := by
      simp [groupsFlat, Group.flat]
    rw [hflat]
    exact (SeqRun.cons (fun _ => loop_brace (Or.inl rfl) (Or.inl rfl)) <|
      (seqRun_copied (.of_forall fun t ht _ => .of_plain (hg.2 t ht).1 (Or.inl (hg.2 t ht).2)) _).app
        (SeqRun.cons (fun _ => loop_brace (Or.inl rfl) (Or.inr rfl)) <|
          seqRun_groups T envStop st rest gs _ fun x hx => h x (List.mem_cons_of_mem _ hx))
        (Nat.zero_le _)).mono (Nat.le_refl _)
      (by simp only [groupsOut, List.length_cons, List.length_append]; omega)

/-! ### the token buffers -/

def digitChar (n : Nat) : Char := Char.ofNat (48 + n)

/-- the pieces of a token buffer: a token that is copied, a definition
    `\newcommand { \name } [ n ] { body }`, a use `\name { a1 } … { am }` -/
inductive Piece where
  | tok (t : Tok)
  | defn (p q1 q2 q3 q4 q5 q6 q7 q8 : Nat) (name : Str) (n : Nat) (body : List Tok)
  | use (p : Nat) (name : Str) (gs : List Group)

def Piece.toks : Piece → List Tok
  | .tok t => [t]
  | .defn p q1 q2 q3 q4 q5 q6 q7 q8 name n body =>
    cwTok p ncName :: lbr q1 :: cwTok q2 name :: rbr q3 :: txtTok q4 '[' :: txtTok q5 (digitChar n) ::
      txtTok q6 ']' :: lbr q7 :: (body ++ [rbr q8])
  | .use p name gs => cwTok p name :: groupsFlat gs

def flat : List Piece → List Tok
  | [] => []
  | p :: ps => p.toks ++ flat ps

def BodyTok (T : PTables) (st : PState) (n : Nat) (t : Tok) : Prop :=
  (PlainTok t ∧ (activeChars T st).contains t.txt = false) ∨
  (∃ k, argRef t = some k ∧ 1 ≤ k ∧ k ≤ n ∧ NoBrace t)

def GoodBody (T : PTables) (st : PState) (n : Nat) (b : List Tok) : Prop :=
  b ≠ [] ∧ ∀ t ∈ b, BodyTok T st n t

theorem GoodBody.refs {T : PTables} {st : PState} {n : Nat} {b : List Tok} (h : GoodBody T st n b) :
    RefsOk n b := by
  intro t ht k hk
  rcases h.2 t ht with ⟨hp, _⟩ | ⟨k', hk', h1, h2, _⟩
  · rw [plainTok_argRef hp] at hk; cases hk
  · rw [hk] at hk'; cases hk'; exact ⟨h1, h2⟩

theorem GoodBody.noBrace {T : PTables} {st : PState} {n : Nat} {b : List Tok} (h : GoodBody T st n b) :
    ∀ t ∈ b, NoBrace t := by
  intro t ht
  rcases h.2 t ht with ⟨hp, _⟩ | ⟨_, _, _, _, h4⟩
  · exact plainTok_noBrace hp
  · exact h4

theorem GoodBody.noCom {T : PTables} {st : PState} {n : Nat} {b : List Tok} (h : GoodBody T st n b) :
    NoCom b := fun x hx => by
  rcases h.2 x hx with ⟨h1, _⟩ | ⟨k, hk, _⟩
  · exact h1.notComment
  · intro e
    simp [argRef, e] at hk

theorem GoodBody.toks {T : PTables} {st1 st : PState} {n : Nat} {b : List Tok} (h : GoodBody T st1 n b)
    (hE : Ext st1 st) : ∀ u ∈ b, BodyTok T st n u := by
  intro u hu
  rcases h.2 u hu with ⟨h1, h2⟩ | h3
  · exact Or.inl ⟨h1, by rw [hE.activeChars]; exact h2⟩
  · exact Or.inr h3

structure DigitOk (T : PTables) (st : PState) (n : Nat) : Prop where
  val : decimalValue T.decimalZeros (digitChar n) = some n
  nBr : digitChar n ≠ ']'
  plain : ∀ p, PlainTok (txtTok p (digitChar n))
  nAct : (activeChars T st).contains [digitChar n] = false

def PiecesOk (T : PTables) (st1 : PState) : List Piece → Prop
  | [] => True
  | .tok t :: rest => PlainTok t ∧ PassTok T st1 t (flat rest) ∧ PiecesOk T st1 rest
  | .defn _ _ _ _ _ _ _ _ _ name n body :: rest =>
    NameOk st1 name ∧ DigitOk T st1 n ∧ GoodBody T st1 n body ∧ PiecesOk T st1 rest
  | .use _ name gs :: rest =>
    NameOk st1 name ∧ gs ≠ [] ∧ (∀ g ∈ gs, GroupGood T st1 g) ∧ PiecesOk T st1 rest

/-- the parser state while the document is expanded, relative to the initialised state `st1`:
    declared macros keep their meaning, every other macro is a user macro with a good body -/
def StOk (T : PTables) (st1 st : PState) : Prop :=
  UserTable.Keeps (fun nm m => ∃ n b, m = userMacro nm n b ∧ GoodBody T st1 n b) st1 st

theorem StOk.refl (T : PTables) (st1 : PState) : StOk T st1 st1 := UserTable.Keeps.refl _ st1

def defSt (st : PState) (name : Str) (n : Nat) (body : List Tok) : PState :=
  { st with macros := setMacro st.macros (userMacro ('\\' :: name) n body) }

def useSt (st : PState) (name : Str) : PState :=
  match lookupMacro st ('\\' :: name) with
  | some _ => st
  | none => { st with unknowns := addU st.unknowns ('\\' :: name) }

/-- the number of groups a use consumes: the number of parameters of the macro, 0 if undefined -/
def useN (st : PState) (name : Str) : Nat :=
  match lookupMacro st ('\\' :: name) with
  | some m => m.args.length
  | none => 0

/-- the tokens a use at position `p` in front of the groups `gs` inserts -/
def useBody (st : PState) (p : Nat) (name : Str) (gs : List Group) : List Tok :=
  match lookupMacro st ('\\' :: name) with
  | some m =>
    genOut ((gs.take m.args.length).map (·.toks)) m.repl
      (genCur ((gs.take m.args.length).map (·.toks)) m.repl p)
  | none => []

theorem StOk.defSt {T : PTables} {st1 st : PState} (h : StOk T st1 st) (name : Str) (n : Nat)
    (body : List Tok) (hn : NameOk st1 name) (hb : GoodBody T st1 n body) :
    StOk T st1 (defSt st name n body) :=
  UserTable.Keeps.set h _ hn.undecl ⟨n, body, rfl, hb⟩

theorem useSt_reads (st : PState) (name : Str) : Reads st (useSt st name) := by
  unfold PlainMacroArgs.useSt
  split <;> exact ⟨rfl, rfl⟩

theorem StOk.useSt {T : PTables} {st1 st : PState} (h : StOk T st1 st) (name : Str) :
    StOk T st1 (useSt st name) :=
  UserTable.Keeps.reads h (useSt_reads st name)

/-- what `expandSequence` emits for the pieces before the blank-line removal -/
def outP : PState → List Piece → List Tok
  | _, [] => []
  | st, .tok t :: rest => t :: outP st rest
  | st, .defn p _ _ _ _ _ _ _ _ name n body :: rest => mkAction p :: outP (defSt st name n body) rest
  | st, .use p name gs :: rest =>
    mkAction p :: (useBody st p name gs ++ (groupsOut (gs.drop (useN st name)) ++ outP (useSt st name) rest))

def finalSt : PState → List Piece → PState
  | st, [] => st
  | st, .tok _ :: rest => finalSt st rest
  | st, .defn _ _ _ _ _ _ _ _ _ name n body :: rest => finalSt (defSt st name n body) rest
  | st, .use _ name _ :: rest => finalSt (useSt st name) rest

/-- iterations of `expandSequence` -/
def cost : PState → List Piece → Nat
  | _, [] => 0
  | st, .tok _ :: rest => 1 + cost st rest
  | st, .defn _ _ _ _ _ _ _ _ _ name n body :: rest => 2 + cost (defSt st name n body) rest
  | st, .use p name gs :: rest =>
    2 + (useBody st p name gs).length + (groupsOut (gs.drop (useN st name))).length
      + cost (useSt st name) rest

def ArityOk : PState → List Piece → Prop
  | _, [] => True
  | st, .tok _ :: rest => ArityOk st rest
  | st, .defn _ _ _ _ _ _ _ _ _ name n body :: rest => ArityOk (defSt st name n body) rest
  | st, .use _ name gs :: rest => useN st name ≤ gs.length ∧ ArityOk (useSt st name) rest

theorem noEmptyActive_of_StOk {T : PTables} {st1 st : PState} (h : StOk T st1 st)
    (ha : noEmptyActive T st1 = true) : noEmptyActive T st = true :=
  h.ext.noEmptyActive ha

theorem txtIs_def_cw (p : Nat) (name : Str) (h : ('\\' :: name) ≠ sDef) : txtIs (cwTok p name) "\\def" = false := by
  simpa [txtIs, cwTok, sDef] using h

/-- **the definition step of `expandSequence`** for a keyword `kw` declared like `\newcommand`, in a
    state that extends the initialised state `st1`: two iterations (the keyword, then the Action token it leaves); `ncMacro` is
    stored, nothing but the Action token is emitted.  `hc`: what `collectArgs` finds behind the keyword. -/
theorem seqRun_nc (T : PTables) (p : Nat) (kw : Str) (q2 : Nat) (name : Str) (pd n : Nat)
    (dt body : List Tok) (buf rest : Buf) (envStop : Option Str) (out : List Tok) (st1 st : PState)
    (hE : Ext st1 st)
    (hnd : ('\\' :: kw) ≠ sDef) (hkw : ∃ m, lookupMacro st1 ('\\' :: kw) = some m ∧ ncDeclOk m = true)
    (hn : NameOk st1 name) (hd : DigitOk T st1 n) (hdt : dt = [] ∨ 1 ≤ n) (hbr : RefsOk n body)
    (ha : noEmptyActive T st1 = true) (hs : skipSpaceStopLangAct buf = buf)
    (hc : ∀ m, ncDeclOk m = true → collectArgs T m ['*', 'A', 'O', 'O', 'A'] 0 buf p {} st
      = .ok (({ args := [[], [cwTok q2 name], [txtTok pd (digitChar n)], dt, body],
                extr := [[], [cwTok q2 name], [txtTok pd (digitChar n)], dt, body], langs := [] }, rest), st)) :
    SeqRun T envStop 5 2 (cwTok p kw :: buf) out st rest (out ++ [mkAction p])
      { st with macros := setMacro st.macros (ncMacro ('\\' :: name) n dt body) } := by
  obtain ⟨m, hm, hmd⟩ := hkw
  have hmac := fun g => expandMacro_nc T g m hmd buf rest (cwTok q2 name) (by simp [cwTok]) pd (digitChar n) n
    hd.val dt hdt body hbr (cwTok p kw) st (hd.plain pd)
    (by rw [hE.activeChars]; exact hd.nAct) (hE.decl _ _ hm)
    (by rw [hE.ign]; exact hn.nIgn) hs (hc m hmd)
  exact (SeqRun.intro (d := 6) (c := 1) fun g => loop_macro_ok rfl (txtIs_def_cw p kw hnd) (hmac g)).trans
    ((seqRun_action (st := { st with macros := setMacro st.macros (ncMacro ('\\' :: name) n dt body) }) p
      (hE.noEmptyActive ha)).mono (Nat.zero_le 5) (Nat.le_refl 1)) (Nat.le_refl 6)

theorem seqRun_def (T : PTables) (p q1 q2 q3 q4 q5 q6 q7 q8 : Nat) (name : Str) (n : Nat)
    (body : List Tok) (rest : Buf) (envStop : Option Str) (out : List Tok) (st1 st : PState)
    (hst : StOk T st1 st) (hnc : NcOk st1) (hn : NameOk st1 name) (hd : DigitOk T st1 n)
    (hb : GoodBody T st1 n body) (ha : noEmptyActive T st1 = true) :
    SeqRun T envStop 5 2
      (cwTok p ncName :: lbr q1 :: cwTok q2 name :: rbr q3 :: txtTok q4 '[' :: txtTok q5 (digitChar n) ::
        txtTok q6 ']' :: lbr q7 :: (body ++ rbr q8 :: rest))
      out st rest (out ++ [mkAction p]) (defSt st name n body) :=
  seqRun_nc T p ncName q2 name q5 n [] body _ rest envStop out st1 st hst.ext
    (by decide) hnc hn hd (Or.inl rfl) hb.refs ha rfl
    (fun m hm => collectArgs_defN T m (ncDeclOk_facts hm).2.2.1 q1 q3 q4 q5 q6 q7 q8 (cwTok q2 name)
      (cwTok_noBrace q2 name) (digitChar n) hd.nBr (hd.plain q5) body rest p st
      (by rw [Call.argBuffer_braced T.toTables (lbr_brace q7) (rbr_brace q8) body rest q7 st hb.noBrace,
        Call.argOr_of_ne hb.1]))

theorem argAt_mem_or_nil (args : List (List Tok)) (k : Nat) : argAt args k ∈ args ∨ argAt args k = [] := by
  unfold argAt
  cases h : args[k - 1]? with
  | none => exact Or.inr rfl
  | some a => exact Or.inl (List.mem_of_getElem? h)

theorem genOut_copy (T : PTables) (st : PState) (n : Nat) (args : List (List Tok))
    (hargs : ∀ a ∈ args, ∀ t ∈ a, PlainTok t ∧ (activeChars T st).contains t.txt = false) :
    ∀ (b : List Tok) (cur : Nat), (∀ t ∈ b, BodyTok T st n t) → ∀ t ∈ genOut args b cur, CopyTok T st t
  | [], _, _, t, ht => by simp [genOut] at ht
  | u :: us, cur, hb, t, ht => by
    have ih := fun c => genOut_copy T st n args hargs us c (fun x hx => hb x (List.mem_cons_of_mem _ hx))
    cases hk : argRef u with
    | none =>
      simp only [genOut, hk, List.mem_cons] at ht
      rcases ht with rfl | ht
      · rcases hb u (List.mem_cons_self ..) with ⟨h1, h2⟩ | ⟨k, hk', _⟩
        · exact Or.inr ⟨plainTok_restamp cur u h1, h2⟩
        · rw [hk] at hk'; cases hk'
      · exact ih _ t ht
    | some k =>
      simp only [genOut, hk, List.mem_cons, List.mem_append] at ht
      rcases ht with rfl | ht | rfl | ht
      · exact Or.inl ⟨_, rfl⟩
      · rcases argAt_mem_or_nil args k with hm | hm
        · exact Or.inr (hargs _ hm t ht)
        · rw [hm] at ht; simp at ht
      · exact Or.inl ⟨_, rfl⟩
      · exact ih _ t ht

theorem GroupGood.ext {T : PTables} {st st' : PState} (h : Ext st st') {g : Group}
    (hg : GroupGood T st g) : GroupGood T st' g :=
  ⟨hg.1, fun t ht => ⟨(hg.2 t ht).1, by rw [h.activeChars]; exact (hg.2 t ht).2⟩⟩

theorem genOut_ne (args : List (List Tok)) (cur : Nat) : ∀ b : List Tok, b ≠ [] → genOut args b cur ≠ []
  | [], h => absurd rfl h
  | u :: us, _ => by simp only [genOut]; split <;> simp

theorem seqRun_undef (T : PTables) (p : Nat) (name : Str) (gs : List Group)
    (rest : Buf) (envStop : Option Str) (out : List Tok) (st : PState) (hd : ('\\' :: name) ≠ sDef)
    (hl : lookupMacro st ('\\' :: name) = none) (ha : noEmptyActive T st = true) (hne : gs ≠ [])
    (hg : ∀ g ∈ gs, GroupGood T st g) :
    SeqRun T envStop 0 (2 + (groupsOut gs).length) (cwTok p name :: (groupsFlat gs ++ rest)) out st rest
      (out ++ mkAction p :: groupsOut gs) { st with unknowns := addU st.unknowns ('\\' :: name) } := by
  have h1 := seqRun_cw (T := T) (tok := cwTok p name) (rest := groupsFlat gs ++ rest) (envStop := envStop)
    (out := out) ⟨rfl, txtIs_def_cw p name hd, hl⟩ ha
  rw [skip_groups gs rest hne] at h1
  exact h1.app (seqRun_groups T envStop { st with unknowns := addU st.unknowns ('\\' :: name) } rest gs _ hg)
    (Nat.zero_le _)

/-- **a macro token whose expansion is copied, in front of brace groups**: the macro token, the Action
    token, one iteration per token of the expansion `G`, then the groups.  The call needs two units
    below the first iteration; the tokens of `G` pay for them. -/
theorem seqRun_expand (T : PTables) (p : Nat) (name : Str) (buf : Buf) (gs : List Group)
    (rest : Buf) (envStop : Option Str) (out : List Tok) (st : PState) (G : List Tok)
    (hd : ('\\' :: name) ≠ sDef) (ha : noEmptyActive T st = true)
    (hm : ∀ g, expandMacro T (g + 2) buf (cwTok p name) false st
      = .ok ((mkAction p :: G, groupsFlat gs ++ rest), st))
    (hGne : G ≠ []) (hG : ∀ t ∈ G, CopyTok T st t) (hg : ∀ x ∈ gs, GroupGood T st x) :
    SeqRun T envStop 0 (2 + G.length + (groupsOut gs).length) (cwTok p name :: buf) out st rest
      (out ++ mkAction p :: (G ++ groupsOut gs)) st := by
  have hGpos := List.length_pos_iff.mpr hGne
  have hcopy : CopiedSeq T st (mkAction p :: G) (groupsFlat gs ++ rest) :=
    .of_forall fun t ht r => by
      rcases List.mem_cons.mp ht with rfl | ht
      · exact .action (notActive_nil ha) p
      · exact (hG t ht).copied ha r
  exact ((SeqRun.intro (d := 2) (c := 1) fun g => loop_macro_ok rfl (txtIs_def_cw p name hd) (hm g)).trans
    ((seqRun_copied hcopy out).app (seqRun_groups T envStop st rest gs _ hg) (Nat.zero_le _))
    (by simp only [List.length_cons]; omega)).mono (Nat.le_refl _) (by simp only [List.length_cons]; omega)

/-- **the use step of `expandSequence`.**  A defined name: the macro token, the Action token, one
    iteration per token of the expansion, then the groups that are left.  An undefined name:
    recorded as unknown, an Action token, the groups. -/
theorem seqRun_use (T : PTables) (p : Nat) (name : Str) (gs : List Group)
    (rest : Buf) (envStop : Option Str) (out : List Tok) (st1 st : PState)
    (hst : StOk T st1 st) (hn : NameOk st1 name) (ha : noEmptyActive T st1 = true)
    (hne : gs ≠ []) (hg : ∀ g ∈ gs, GroupGood T st1 g) (har : useN st name ≤ gs.length) :
    SeqRun T envStop 0 (2 + (useBody st p name gs).length + (groupsOut (gs.drop (useN st name))).length)
      (cwTok p name :: (groupsFlat gs ++ rest)) out st rest
      (out ++ mkAction p :: (useBody st p name gs ++ groupsOut (gs.drop (useN st name)))) (useSt st name) := by
  have ha' := noEmptyActive_of_StOk hst ha
  have hgst : ∀ x ∈ gs, GroupGood T st x := fun x hx => (hg x hx).ext hst.ext
  cases hl : lookupMacro st ('\\' :: name) with
  | none =>
    have e1 : useBody st p name gs = [] := by simp [useBody, hl]
    have e2 : useSt st name = { st with unknowns := addU st.unknowns ('\\' :: name) } := by
      simp [useSt, hl]
    have e3 : useN st name = 0 := by simp [useN, hl]
    rw [e1, e2, e3, List.drop_zero]
    exact seqRun_undef T p name gs rest envStop out st hn.nDef hl ha' hne hgst
  | some m =>
    obtain ⟨n, b, rfl, hb⟩ := hst.user _ m hn.undecl hl
    have e3 : useN st name = n := by simp [useN, hl, userMacro]
    have e1 : useBody st p name gs
        = genOut ((gs.take n).map (·.toks)) b (genCur ((gs.take n).map (·.toks)) b p) := by
      simp [useBody, hl, userMacro]
    have e2 : useSt st name = st := by simp [useSt, hl]
    rw [e3] at har ⊢
    rw [e1, e2]
    refine seqRun_expand T p name _ (gs.drop n) rest envStop out st _ hn.nDef ha'
      (fun g => expandMacro_use T g gs rest (cwTok p name) st _ n b hl har hne (fun x hx => (hgst x hx).ok)
        hb.refs)
      (genOut_ne _ _ b hb.1) (genOut_copy T st n _ ?_ b _ (hb.toks hst.ext)) (fun x hx => hgst x (List.mem_of_mem_drop hx))
    intro a ha2 u hu
    obtain ⟨x, hx, rfl⟩ := List.mem_map.mp ha2
    exact (hgst x (List.mem_of_mem_take hx)).2 u hu

end PlainMacroArgs
end Yalafi
