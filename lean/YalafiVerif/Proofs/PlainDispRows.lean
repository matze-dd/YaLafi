/-
  Proofs/PlainDispRows.lean — C11 "displayed equations follow the documented scheme and keep their
  punctuation", end to end on the model, for the ROW / SECTION STRUCTURE of displayed equations:
  documents of inert text (as in Proofs/PlainDisplay.lean) and displayed equations

      \[ body \]        or        \begin{name} body \end{name}          (name: equation environment)

      body ::= row (`\\` row)*        row ::= section (`&` section)*

  where every section is a (possibly empty) run of simple maths characters in the sense of
  Proofs/PlainMath.lean (`bodyOk`: letters, digits, `+ - = < > ( ) / * , . ; :` …, white space without
  paragraph break; no macro, so no `\text`, no `\le`): in particular
      section ::= [leading operator] simple maths [closing punctuation]
  but also operator-only sections as the `=` of `a &=& b` in an `eqnarray`, and empty sections.
  (Token level: Proofs/PlainDispRowsTok.lean; statements for Properties: Properties/PlainDispRowsStmt.lean.)

  What the model (= `mathparser.py`: `expand_display_math`, `replace_section`) does:
    * the equation starts with two blanks (mapped to the `\` of `\[` / `\begin`); the rows are joined
      by line break + two blanks, the sections of a row by ONE blank; both separators carry the
      position of the last token generated before (`RefSt.last`); no line break is generated in
      front of or behind the equation;
    * a section that is only white space generates nothing and changes nothing;
    * otherwise, with `f` = position of its first character that is no white space:
        - if it is NOT the first section of its row and starts with an operator (`math_operators`):
          blank, the language's word for the operator (`math_op_text`, default `math_op_text[None]`:
          'en': `+` plus, `-` minus, `/` over, every other operator equal), blank — all three at `f`;
        - if it holds an element character (no white space, no operator, no punctuation mark): the
          current placeholder of the display collection, at the position of the first element
          character; the collection is ROTATED before, iff `next_repl` is set or the operator word
          has just been written: `next_repl` is set at the start of the equation, behind a closing
          punctuation mark, and behind a section that starts with an operator and has no element
          (e.g. the `=` of `&=&`); it is cleared by every other section that is not only white space;
        - if its last character that is no white space is a punctuation mark (`math_punctuation`:
          `. , ; :`): this mark, at `f` — directly behind the placeholder of the section;
    * the rotation of the collection goes on from equation to equation (`RefSt.k` counts the
      rotations: placeholder `k mod length`), `next_repl` is reset for every equation.
  So `\begin{eqnarray} a &=& b + c, \\ &=& d. \end{eqnarray}` ↦ `  V-V-V  equal  W-W-W,⏎    equal  X-X-X.`

  This file: the documents, the conditions, the reference output (`RefSt`, `secRef`, `rowRef`, `rowsRef`,
  `eqnRef`, `refOut`), the scanner on an equation body, tokens ↔ reference (`sec_corr`, `row_corr`,
  `rows_corr`, `getTxtPos_eqnToks`), and the source character by character (`Item`, `OkSrc`).  The scanner
  on whole documents, `SegsOk` and the end-to-end theorem `tex2txt_display_rows`:
  Proofs/PlainDispRowsE2E.lean.

  Side conditions of `tex2txt_display_rows` (all computable; reasons)
    options / initialisation   as in `tex2txt_display`: no --defs, --extr, --repl, --unkn, --seqs
                               (`st1.displayedSimple = false`), single-language mode
    text segments `textOkD`    as in Proofs/PlainDisplay.lean
    `rowsOk` (the body)        * every section: `bodyOk` in its right context (no white space, none of
                                 `% # \ $ { }`, not in `math_ignore` / `math_space`, no special sequence
                                 matches; white-space runs with at most one line break) and no `&`;
                               * `ampAt` / `nlAt`: `&` and `\\` are scanned as the special tokens `&`, `\\`
                                 (they are special sequences of the real tables);
                               * a row behind `\\` does not start with `[` (it would be taken as the
                                 optional argument `\\[2ex]`: not covered);
    `eqnVis`                   the FIRST and the LAST row of the equation generate text (an element, a
                                 closing punctuation mark, or an operator word): otherwise
                                 `remove_pure_action_lines` may delete the line of that row together
                                 with the Action token at the start / end of the equation
                                 (`\[ = \\ a \\ b \]` ↦ `  V-V-V⏎  V-V-V`, one line less) — not covered;
    `dispOk` / `envOk`         the opening and closing commands as in Proofs/PlainDisplay.lean
    `rotOf …`, `repls ≠ []`, `VisibleRepls repls`   the display collection (as in `tex2txt_display`)
    `settingsOf … = some ls`   the language settings exist
    `visWords ls`              they have a default operator word `d` (`ls.opDefault = some d`; Python:
                               `KeyError` otherwise), and no operator word is blank or contains a line
                               break (`VisWords ls.opText d`: blank-line removal); `tex2txt_display_rows'`
                               asks for it only if some section stands behind a `&`
    fuel                       `(render segs).length + 2 ≤ fuel`
  NOT covered: `$$ … $$`; `\text{…}` / `\mbox{…}` parts, macros (`\le`, `\alpha`, `\frac`), braces,
  sub- and superscripts, maths space (`~`, `\,`) inside sections; `\\[…]`; rows whose line vanishes
  (see `eqnVis`); environments with arguments (`alignat`; `align`, `gather` … are declared by the
  package amsmath only — once declared without arguments they are covered, the theorem is parametric in
  the state after initialisation);
  `--seqs`; equations inside macro arguments; multi-language mode.
-/
import YalafiVerif.Proofs.PlainDispRowsTok
namespace Yalafi
namespace PlainDispRows

open M
open PlainMath (mathToks bodyTxt punctChar rotN bodyOk bodyTokAt punctOf leadBlanks placeholder
  rotN_succ rotN_headD bodyToksOf bodyTxt_bodyToksOf getTxtPos_action_cons)
open PlainDisplay (elemPos_bodyToksOf elemChar elemOff openAt closeAt okAtD textOkD isElemSrc defEnvOk
  equEnvAt endSrc)
open PlainMacro (braceAt)
open PlainItem (nBegin nEnd)

/-! ### the documents -/

/-- a row of an equation: its first section, and the further sections (each preceded by `&`) -/
abbrev Row := Str × List Str

/-- the body of an equation: its first row, and the further rows (each preceded by `\\`) -/
abbrev Rows := Row × List Row

def moreSrc (more : List Str) : Str := more.flatMap (fun s => '&' :: s)
def rowSrc (r : Row) : Str := r.1 ++ moreSrc r.2
def moreRowsSrc (m : List Row) : Str := m.flatMap (fun r => '\\' :: '\\' :: rowSrc r)
def rowsSrc (b : Rows) : Str := rowSrc b.1 ++ moreRowsSrc b.2

/-- rows given as lists of sections (an empty list counts as one empty section / row) -/
def rowOf (l : List Str) : Row := (l.headD [], l.tail)
def rowsOf (l : List (List Str)) : Rows := (rowOf (l.headD []), l.tail.map rowOf)

def nRows (b : Rows) : Nat := b.2.length + 1

/-- a segment of the source: a run of text, an equation `\[body\]`, or an equation
    `\begin{name}body\end{name}` -/
inductive Seg where
  | txt (s : Str)
  | disp (b : Rows)
  | env (name : Str) (b : Rows)
deriving Repr, DecidableEq

def Seg.render : Seg → Str
  | .txt s => s
  | .disp b => '\\' :: '[' :: (rowsSrc b ++ ['\\', ']'])
  | .env name b =>
    '\\' :: (nBegin ++ '{' :: (name ++ '}' :: (rowsSrc b ++ '\\' :: (nEnd ++ '{' :: (name ++ ['}'])))))

def render : List Seg → Str
  | [] => []
  | s :: rest => s.render ++ render rest

/-! ### the side conditions -/

def ampAt (T : PTables) (rest : Str) : Bool :=
  matchSpecial T.toTables ('&' :: rest) == some ['&']

def nlAt (T : PTables) (rest : Str) : Bool :=
  matchSpecial T.toTables ('\\' :: '\\' :: rest) == some ['\\', '\\']

/-- the section `s`, followed by `ctx`: simple maths material (`bodyOk` of Proofs/PlainMath.lean)
    without `&` -/
def secOk (T : PTables) (s ctx : Str) : Bool :=
  bodyOk T s ctx && s.all (fun c => c != '&')

/-- the further sections of a row, followed by `R` -/
def moreOk (T : PTables) : List Str → Str → Bool
  | [], _ => true
  | s :: more, R =>
    ampAt T (s ++ (moreSrc more ++ R)) && secOk T s (moreSrc more ++ R) && moreOk T more R

def rowOk (T : PTables) (r : Row) (R : Str) : Bool :=
  secOk T r.1 (moreSrc r.2 ++ R) && moreOk T r.2 R

/-- the further rows of an equation, followed by `R`; a row does not start with `[` -/
def moreRowsOk (T : PTables) : List Row → Str → Bool
  | [], _ => true
  | r :: m, R =>
    nlAt T (rowSrc r ++ (moreRowsSrc m ++ R)) && r.1.head? != some '[' &&
      rowOk T r (moreRowsSrc m ++ R) && moreRowsOk T m R

def rowsOk (T : PTables) (b : Rows) (R : Str) : Bool :=
  rowOk T b.1 (moreRowsSrc b.2 ++ R) && moreRowsOk T b.2 R

def leadChar (s : Str) : Option Char := (s.dropWhile isSpace).head?

def leadOp (ops : List Str) (s : Str) : Bool :=
  match leadChar s with
  | some c => ops.contains [c]
  | none => false

/-- the section generates text: it holds an element character, ends with a punctuation mark, or
    (not being the first of its row) starts with an operator -/
def secVis (T : PTables) (ops : List Str) (fs : Bool) (s : Str) : Bool :=
  s.any (elemChar T ops) || !(punctOf T s).isEmpty || (leadOp ops s && !fs)

def rowVis (T : PTables) (ops : List Str) (r : Row) : Bool :=
  secVis T ops true r.1 || r.2.any (secVis T ops false)

def lastRowS (b : Rows) : Row :=
  match b.2.getLast? with
  | some r => r
  | none => b.1

/-- the first and the last row of the equation generate text -/
def eqnVis (T : PTables) (ops : List Str) (b : Rows) : Bool :=
  rowVis T ops b.1 && rowVis T ops (lastRowS b)

/-- the equation `\[body\]`, followed by `R` -/
def dispOk (T : PTables) (st : PState) (b : Rows) (R : Str) : Bool :=
  defEnvOk T st && openAt T (rowsSrc b ++ '\\' :: ']' :: R) && rowsOk T b ('\\' :: ']' :: R) &&
  eqnVis T st.mathOperators b && closeAt T R

/-- the equation `\begin{name}body\end{name}`, followed by `R` (as `envOk` of
    Proofs/PlainDisplay.lean, with bodies made of rows) -/
def envOk (T : PTables) (st : PState) (name : Str) (b : Rows) (R : Str) : Bool :=
  noEmptyActive T st &&
  (matchSpecial T.toTables ('\\' :: (nBegin ++ '{' :: (name ++ '}' :: (rowsSrc b ++ endSrc name R))))).isNone &&
  !startsWith ('{' :: (name ++ '}' :: (rowsSrc b ++ endSrc name R))) sVerbatimArg &&
  braceAt T '{' (name ++ '}' :: (rowsSrc b ++ endSrc name R)) &&
  !name.isEmpty && name.all (inertChar T st) &&
  braceAt T '}' (rowsSrc b ++ endSrc name R) && equEnvAt st name &&
  rowsOk T b (endSrc name R) && eqnVis T st.mathOperators b &&
  (matchSpecial T.toTables (endSrc name R)).isNone &&
  braceAt T '{' (name ++ '}' :: R) && braceAt T '}' R

/-- well-formed documents: every segment is fine in front of the rendering of the following ones -/
def segsOk (T : PTables) (st : PState) : List Seg → Bool
  | [] => true
  | .txt s :: rest => textOkD T st s (render rest) && segsOk T st rest
  | .disp b :: rest => dispOk T st b (render rest) && segsOk T st rest
  | .env name b :: rest => envOk T st name b (render rest) && segsOk T st rest

/-! ### the reference output -/

/-- the state threaded through the sections of the equations: `next_repl`, the number of rotations
    of the display collection so far, the position of the last piece generated -/
structure RefSt where
  nr : Bool
  k : Nat
  last : Nat

/-- position of the last piece (`d` if there is none) -/
def lastP (d : Nat) (pcs : List (Str × Nat)) : Nat := (pcs.getLast?.map (·.2)).getD d

/-- the language's word for an operator -/
def opW (ls : LangSettings) (x : Str) : Str := opWord ls.opText (ls.opDefault.getD []) x

/-- **one section** `s` that starts at offset `q`; `fs` = it is the first section of its row.
    Pieces of output text, each with the one source position all its characters are mapped to. -/
def secRef (T : PTables) (ops : List Str) (ls : LangSettings) (repls : List Str) (fs : Bool)
    (σ : RefSt) (q : Nat) (s : Str) : List (Str × Nat) × RefSt :=
  if s.all isSpace then ([], σ) else
    let f := q + leadBlanks s
    let el := s.any (elemChar T ops)
    let word := leadOp ops s && !fs
    let k' := if (σ.nr || word) && el then σ.k + 1 else σ.k
    let pcs :=
      (if word then [([' '], f), (opW ls (leadChar s).toList, f), ([' '], f)] else [])
      ++ (if el then [(placeholder repls k', q + elemOff T ops s)] else [])
      ++ (if (punctOf T s).isEmpty then [] else [(punctOf T s, f)])
    (pcs, { nr := !(punctOf T s).isEmpty || (leadOp ops s && !el), k := k', last := lastP σ.last pcs })

/-- the further sections of a row; `q` = offset of the `&` in front of the next one: one blank at the
    position of the last piece, then the section -/
def moreRef (T : PTables) (ops : List Str) (ls : LangSettings) (repls : List Str) :
    RefSt → Nat → List Str → List (Str × Nat) × RefSt
  | σ, _, [] => ([], σ)
  | σ, q, s :: more =>
    (([' '], σ.last) :: (secRef T ops ls repls false σ (q + 1) s).1
        ++ (moreRef T ops ls repls (secRef T ops ls repls false σ (q + 1) s).2 (q + 1 + s.length) more).1,
     (moreRef T ops ls repls (secRef T ops ls repls false σ (q + 1) s).2 (q + 1 + s.length) more).2)

/-- **one row** that starts at offset `q` -/
def rowRef (T : PTables) (ops : List Str) (ls : LangSettings) (repls : List Str)
    (σ : RefSt) (q : Nat) (r : Row) : List (Str × Nat) × RefSt :=
  ((secRef T ops ls repls true σ q r.1).1
      ++ (moreRef T ops ls repls (secRef T ops ls repls true σ q r.1).2 (q + r.1.length) r.2).1,
   (moreRef T ops ls repls (secRef T ops ls repls true σ q r.1).2 (q + r.1.length) r.2).2)

/-- the further rows; `q` = offset of the `\\` in front of the next one: line break and indentation
    at the position of the last piece, then the row -/
def moreRowsRef (T : PTables) (ops : List Str) (ls : LangSettings) (repls : List Str) :
    RefSt → Nat → List Row → List (Str × Nat) × RefSt
  | σ, _, [] => ([], σ)
  | σ, q, r :: m =>
    (([nl, ' ', ' '], σ.last) :: (rowRef T ops ls repls σ (q + 2) r).1
        ++ (moreRowsRef T ops ls repls (rowRef T ops ls repls σ (q + 2) r).2 (q + 2 + (rowSrc r).length) m).1,
     (moreRowsRef T ops ls repls (rowRef T ops ls repls σ (q + 2) r).2 (q + 2 + (rowSrc r).length) m).2)

/-- **the rows** of an equation whose body starts at offset `q` -/
def rowsRef (T : PTables) (ops : List Str) (ls : LangSettings) (repls : List Str)
    (σ : RefSt) (q : Nat) (b : Rows) : List (Str × Nat) × RefSt :=
  ((rowRef T ops ls repls σ q b.1).1
      ++ (moreRowsRef T ops ls repls (rowRef T ops ls repls σ q b.1).2 (q + (rowSrc b.1).length) b.2).1,
   (moreRowsRef T ops ls repls (rowRef T ops ls repls σ q b.1).2 (q + (rowSrc b.1).length) b.2).2)

/-- **one equation**: `k` rotations so far, opening command at offset `p`, body at `p + o`:
    two blanks at `p`, then the rows (`next_repl` set) -/
def eqnRef (T : PTables) (ops : List Str) (ls : LangSettings) (repls : List Str) (k p o : Nat)
    (b : Rows) : List (Str × Nat) × RefSt :=
  (([' ', ' '], p) :: (rowsRef T ops ls repls { nr := true, k := k, last := p } (p + o) b).1,
   (rowsRef T ops ls repls { nr := true, k := k, last := p } (p + o) b).2)

/-- the characters of the pieces, each with the position of its piece -/
def spread (pcs : List (Str × Nat)) : List (Char × Nat) := pcs.flatMap (fun x => x.1.map (fun c => (c, x.2)))

/-- the rendering of an equation, as characters with their (0-based) source positions -/
def eqnOut (T : PTables) (ops : List Str) (ls : LangSettings) (repls : List Str) (k p o : Nat)
    (b : Rows) : List (Char × Nat) := spread (eqnRef T ops ls repls k p o b).1

/-- the number of rotations behind the equation -/
def eqnK (T : PTables) (ops : List Str) (ls : LangSettings) (repls : List Str) (k p o : Nat)
    (b : Rows) : Nat := (eqnRef T ops ls repls k p o b).2.k

/-- **the reference output** (characters with 0-based source positions) of the segments that start
    at offset `p`, the display collection having been rotated `k` times before: text is copied with
    its positions, an equation is rendered as `eqnOut` -/
def refOut (T : PTables) (ops : List Str) (ls : LangSettings) (repls : List Str) :
    Nat → Nat → List Seg → List (Char × Nat)
  | _, _, [] => []
  | k, p, .txt s :: rest => posText p s ++ refOut T ops ls repls k (p + s.length) rest
  | k, p, .disp b :: rest =>
    eqnOut T ops ls repls k p 2 b
      ++ refOut T ops ls repls (eqnK T ops ls repls k p 2 b) (p + ((rowsSrc b).length + 4)) rest
  | k, p, .env name b :: rest =>
    eqnOut T ops ls repls k p (name.length + 8) b
      ++ refOut T ops ls repls (eqnK T ops ls repls k p (name.length + 8) b)
          (p + (2 * name.length + (rowsSrc b).length + 14)) rest

/-! ### the scanner on a section -/

/-- the tokens `b` are those of the section `s` at offset `p` -/
def SecCorr (T : PTables) (p : Nat) (s : Str) (b : List Tok) : Prop :=
  (∀ t ∈ b, SItem T t) ∧ mathToks b = bodyToksOf p s ∧
  (∀ t, b.head? = some t → t.txt = ['['] → s.head? = some '[')

theorem secOk_iff {T : PTables} {s ctx : Str} (h : secOk T s ctx = true) :
    bodyOk T s ctx = true ∧ s.all (fun c => c != '&') = true := by
  simpa [secOk] using h

/-- the scanner runs through a section (which is followed by a character `x` that is no white
    space): one text token per character that is no white space, one space token per run of white
    space -/
theorem scans_sec (T : PTables) (src : Str) (x : Char) (R : Str) (hx : isSpace x = false) (s : Str)
    (pos : Nat) (hok : bodyOk T s (x :: R) = true) (hamp : s.all (fun c => c != '&') = true) :
    ∃ steps, SecCorr T pos s (steps.map (·.tok)) ∧
      Scans T.toTables src pos (s ++ x :: R) steps (pos + s.length) (x :: R) := by
  obtain ⟨steps, B, r⟩ := PlainMath.scans_body T src (PlainMathOpen.boundary_cons x R hx) s pos hok
  refine ⟨steps, ⟨?_, B.toks, ?_⟩, r⟩
  · intro t ht
    obtain ⟨y, hy, rfl⟩ := List.mem_map.mp ht
    exact (B.ok y hy).2.2.imp (fun hb => ⟨hb, B.txt_ne '&' (by simpa using hamp) y hy hb⟩)
      (fun hk => ⟨hk, B.blank y hy hk⟩)
  · intro t ht
    cases steps with
    | nil => simp at ht
    | cons y ys =>
      simp only [List.map_cons, List.head?_cons, Option.some.injEq] at ht
      subst ht
      exact B.head y ys rfl

/-! ### the scanner on rows -/

def MoreCorr (T : PTables) : Nat → List Str → List (Tok × List Tok) → Prop
  | _, [], [] => True
  | p, s :: ss, x :: xs => AmpTok x.1 ∧ SecCorr T (p + 1) s x.2 ∧ MoreCorr T (p + 1 + s.length) ss xs
  | _, _, _ => False

def RowCorr (T : PTables) (p : Nat) (r : Row) (tr : RowT) : Prop :=
  SecCorr T p r.1 tr.1 ∧ MoreCorr T (p + r.1.length) r.2 tr.2

def MoreRowsCorr (T : PTables) : Nat → List Row → List (Tok × RowT) → Prop
  | _, [], [] => True
  | p, r :: rs, x :: xs =>
    NlTok x.1 ∧ RowCorr T (p + 2) r x.2 ∧ MoreRowsCorr T (p + 2 + (rowSrc r).length) rs xs
  | _, _, _ => False

def RowsCorr (T : PTables) (p : Nat) (b : Rows) (tr : RowsT) : Prop :=
  RowCorr T p b.1 tr.1 ∧ MoreRowsCorr T (p + (rowSrc b.1).length) b.2 tr.2

theorem nextToken_amp (T : PTables) (src : Str) (pos : Nat) (rest : Str) (h : ampAt T rest = true) :
    nextToken T.toTables src pos ('&' :: rest)
      = { tok := { kind := .special, pos := pos, txt := ['&'] }, len := 1 } :=
  nextToken_specialAt T.toTables src pos (tl := []) (by decide) (by decide) (by decide)
    (by simpa [ampAt] using h)

theorem nextToken_nl (T : PTables) (src : Str) (pos : Nat) (rest : Str) (h : nlAt T rest = true) :
    nextToken T.toTables src pos ('\\' :: '\\' :: rest)
      = { tok := { kind := .special, pos := pos, txt := ['\\', '\\'] }, len := 2 } :=
  nextToken_specialAt T.toTables src pos (tl := ['\\']) (by decide) (by decide) (by decide)
    (by simpa [nlAt] using h)

/-- what follows a section inside a row: `&` or the `\` behind the row -/
theorem moreSrc_ctx (more : List Str) (R : Str) :
    ∃ x R', moreSrc more ++ '\\' :: R = x :: R' ∧ isSpace x = false := by
  cases more with
  | nil => exact ⟨'\\', R, rfl, by decide⟩
  | cons s ss => exact ⟨'&', s ++ moreSrc ss ++ '\\' :: R, by simp [moreSrc], by decide⟩

theorem moreSrc_cons_length (s : Str) (more : List Str) :
    (moreSrc (s :: more)).length = 1 + s.length + (moreSrc more).length := by
  simp [moreSrc]; omega

theorem scans_more (T : PTables) (src : Str) (R : Str) :
    ∀ (more : List Str) (pos : Nat), moreOk T more ('\\' :: R) = true →
      ∃ steps xs, MoreCorr T pos more xs ∧ steps.map (·.tok) = moreBuf xs ∧
        Scans T.toTables src pos (moreSrc more ++ '\\' :: R) steps (pos + (moreSrc more).length) ('\\' :: R)
  | [], pos, _ => ⟨[], [], trivial, rfl, Scans.nil⟩
  | s :: more, pos, hok => by
    simp only [moreOk, Bool.and_eq_true] at hok
    obtain ⟨⟨hamp, hsec⟩, hmore⟩ := hok
    obtain ⟨hb, ha⟩ := secOk_iff hsec
    obtain ⟨x, R', hctx, hx⟩ := moreSrc_ctx more R
    rw [hctx] at hb
    obtain ⟨st2, B, r2⟩ := scans_sec T src x R' hx s (pos + 1) hb ha
    rw [← hctx] at r2
    obtain ⟨st3, xs, hc, htoks, r3⟩ := scans_more T src R more (pos + 1 + s.length) hmore
    have r1 := Scans.step (R := s ++ (moreSrc more ++ '\\' :: R)) (nextToken_amp T src pos _ hamp) rfl
    have r := ((r1.append r2).append r3).to (q := pos + (moreSrc (s :: more)).length)
      (by rw [moreSrc_cons_length]; omega)
    rw [show '&' :: (s ++ (moreSrc more ++ '\\' :: R)) = moreSrc (s :: more) ++ '\\' :: R by
      simp [moreSrc]] at r
    exact ⟨_, ({ kind := .special, pos := pos, txt := ['&'] }, st2.map (·.tok)) :: xs,
      ⟨⟨rfl, rfl⟩, B, hc⟩, by simp [moreBuf, htoks], r⟩

theorem scans_row (T : PTables) (src : Str) (R : Str) (r : Row) (pos : Nat)
    (hok : rowOk T r ('\\' :: R) = true) :
    ∃ steps tr, RowCorr T pos r tr ∧ steps.map (·.tok) = rowBuf tr ∧
      Scans T.toTables src pos (rowSrc r ++ '\\' :: R) steps (pos + (rowSrc r).length) ('\\' :: R) := by
  obtain ⟨s0, more⟩ := r
  simp only [rowOk, Bool.and_eq_true] at hok
  obtain ⟨hb, ha⟩ := secOk_iff hok.1
  obtain ⟨x, R', hctx, hx⟩ := moreSrc_ctx more R
  rw [hctx] at hb
  obtain ⟨st1, B, r1⟩ := scans_sec T src x R' hx s0 pos hb ha
  rw [← hctx] at r1
  obtain ⟨st2, xs, hc, htoks, r2⟩ := scans_more T src R more (pos + s0.length) hok.2
  have r := (r1.append r2).to (q := pos + (rowSrc (s0, more)).length)
    (by simp only [rowSrc, List.length_append]; omega)
  rw [← List.append_assoc] at r
  exact ⟨st1 ++ st2, (st1.map (·.tok), xs), ⟨B, hc⟩, by simp [rowBuf, htoks], r⟩

/-- what follows a row: the `\\` in front of the next row, or the `\` of the closing command -/
theorem moreRowsSrc_ctx (m : List Row) (R : Str) :
    ∃ R', moreRowsSrc m ++ '\\' :: R = '\\' :: R' := by
  cases m with
  | nil => exact ⟨R, rfl⟩
  | cons r rs => exact ⟨'\\' :: (rowSrc r ++ moreRowsSrc rs ++ '\\' :: R), by simp [moreRowsSrc]⟩

theorem moreRowsSrc_cons_length (r : Row) (m : List Row) :
    (moreRowsSrc (r :: m)).length = 2 + (rowSrc r).length + (moreRowsSrc m).length := by
  simp [moreRowsSrc]; omega

theorem scans_moreRows (T : PTables) (src : Str) (R : Str) :
    ∀ (m : List Row) (pos : Nat), moreRowsOk T m ('\\' :: R) = true →
      ∃ steps xs, MoreRowsCorr T pos m xs ∧ steps.map (·.tok) = moreRowsBuf xs ∧
        (∀ x ∈ xs, RowHeadOk x.2) ∧
        Scans T.toTables src pos (moreRowsSrc m ++ '\\' :: R) steps (pos + (moreRowsSrc m).length)
          ('\\' :: R)
  | [], pos, _ => ⟨[], [], trivial, rfl, by simp, Scans.nil⟩
  | r :: m, pos, hok => by
    simp only [moreRowsOk, Bool.and_eq_true] at hok
    obtain ⟨⟨⟨hnl, hhead⟩, hrow⟩, hmore⟩ := hok
    obtain ⟨R', hctx⟩ := moreRowsSrc_ctx m R
    rw [hctx] at hrow
    obtain ⟨st2, tr, hc2, htoks2, r2⟩ := scans_row T src R' r (pos + 2) hrow
    rw [← hctx] at r2
    obtain ⟨st3, xs, hc, htoks, hheads, r3⟩ := scans_moreRows T src R m (pos + 2 + (rowSrc r).length) hmore
    have r1 := Scans.step (R := rowSrc r ++ (moreRowsSrc m ++ '\\' :: R)) (nextToken_nl T src pos _ hnl) rfl
    have r' := ((r1.append r2).append r3).to (q := pos + (moreRowsSrc (r :: m)).length)
      (by rw [moreRowsSrc_cons_length]; omega)
    rw [show '\\' :: '\\' :: (rowSrc r ++ (moreRowsSrc m ++ '\\' :: R)) = moreRowsSrc (r :: m) ++ '\\' :: R by
      simp [moreRowsSrc]] at r'
    refine ⟨_, ({ kind := .special, pos := pos, txt := ['\\', '\\'] }, tr) :: xs,
      ⟨⟨rfl, rfl⟩, hc2, hc⟩, by simp [moreRowsBuf, htoks, htoks2], ?_, r'⟩
    intro y hy
    rcases List.mem_cons.mp hy with rfl | hy
    · intro t ht hbr
      rw [hc2.1.2.2 t ht hbr] at hhead
      simp at hhead
    · exact hheads y hy

/-- the scanner on the body of an equation in front of the `\` of the closing command; the fuel the
    loop of `expand_display_math` needs is one unit per token and one more -/
theorem scans_rows (T : PTables) (src : Str) (R : Str) (b : Rows) (pos : Nat)
    (hok : rowsOk T b ('\\' :: R) = true) :
    ∃ steps tr, RowsCorr T pos b tr ∧ steps.map (·.tok) = rowsBuf tr ∧
      rowsCost tr ≤ (rowsSrc b).length + 1 ∧ (∀ x ∈ tr.2, RowHeadOk x.2) ∧
      Scans T.toTables src pos (rowsSrc b ++ '\\' :: R) steps (pos + (rowsSrc b).length) ('\\' :: R) := by
  obtain ⟨r0, m⟩ := b
  simp only [rowsOk, Bool.and_eq_true] at hok
  obtain ⟨hrow, hmore⟩ := hok
  obtain ⟨R', hctx⟩ := moreRowsSrc_ctx m R
  rw [hctx] at hrow
  obtain ⟨st1, tr0, hc1, htoks1, r1⟩ := scans_row T src R' r0 pos hrow
  rw [← hctx] at r1
  obtain ⟨st2, xs, hc, htoks, hheads, r2⟩ := scans_moreRows T src R m (pos + (rowSrc r0).length) hmore
  have htoks' : (st1 ++ st2).map (·.tok) = rowsBuf (tr0, xs) := by simp [rowsBuf, htoks, htoks1]
  have r := (r1.append r2).to (q := pos + (rowsSrc (r0, m)).length)
    (by simp only [rowsSrc, List.length_append]; omega)
  rw [← List.append_assoc] at r
  refine ⟨_, (tr0, xs), ⟨hc1, hc⟩, htoks', ?_, hheads, r⟩
  have := r.len
  rw [rowsCost_eq, ← htoks', List.length_map]
  simp only [rowsSrc, List.length_append, List.length_cons] at this ⊢
  omega

/-! ### the generated tokens and the reference output -/

def pcsOf (l : List Tok) : List (Str × Nat) := l.map (fun t => (t.txt, t.pos))

/-- the states of the token level and of the reference correspond: the stored collection is the
    initial one rotated `k` times -/
def StCorr (repls : List Str) (σt : SecSt) (σ : RefSt) : Prop :=
  σt.nr = σ.nr ∧ σt.r = rotN σ.k repls ∧ σt.last = σ.last

theorem lastPos_pcsOf (d : Nat) (l : List Tok) : lastPos d l = lastP d (pcsOf l) := by
  unfold lastPos lastP pcsOf
  rw [List.getLast?_map]
  cases l.getLast? <;> rfl

theorem bodyToksOf_blank : ∀ (s : Str) (q : Nat), s.all isSpace = true → bodyToksOf q s = []
  | [], _, _ => rfl
  | c :: cs, q, h => by
    simp only [List.all_cons, Bool.and_eq_true] at h
    simp only [bodyToksOf, h.1, if_true]
    exact bodyToksOf_blank cs (q + 1) h.2

theorem bodyToksOf_lead : ∀ (s : Str) (q : Nat), s.all isSpace = false →
    ∃ c l, bodyToksOf q s = bodyTokAt (q + leadBlanks s) c :: l ∧ leadChar s = some c
  | [], _, h => by simp at h
  | c :: cs, q, h => by
    by_cases hc : isSpace c = true
    · have h' : cs.all isSpace = false := by simpa [hc] using h
      obtain ⟨c', l, h1, h2⟩ := bodyToksOf_lead cs (q + 1) h'
      refine ⟨c', l, ?_, ?_⟩
      · simp only [bodyToksOf, hc, if_true, h1, leadBlanks, List.takeWhile_cons, List.length_cons]
        congr 2
        omega
      · simpa [leadChar, hc] using h2
    · have hc' : isSpace c = false := by simpa using hc
      exact ⟨c, bodyToksOf (q + 1) cs, by simp [bodyToksOf, hc', leadBlanks], by simp [leadChar, hc']⟩

theorem find_elem_none (T : PTables) (ops : List Str) : ∀ (s : Str) (q : Nat),
    s.any (elemChar T ops) = false → (bodyToksOf q s).find? (isElemSrc T ops) = none
  | [], _, _ => rfl
  | c :: cs, q, h => by
    simp only [List.any_cons, Bool.or_eq_false_iff] at h
    by_cases hc : isSpace c = true
    · simp only [bodyToksOf, hc, if_true]
      exact find_elem_none T ops cs (q + 1) h.2
    · have hc' : isSpace c = false := by simpa using hc
      have hs : isElemSrc T ops (bodyTokAt q c) = elemChar T ops c := by
        simp [isElemSrc, elemChar, bodyTokAt, hc']
      simp only [bodyToksOf, hc', Bool.false_eq_true, if_false, List.find?_cons, hs, h.1]
      exact find_elem_none T ops cs (q + 1) h.2

theorem rotN_rotL (k : Nat) (l : List Str) : rotL (rotN k l) = rotN (k + 1) l := (rotN_succ k l).symm

/-- **one section**: the tokens of the token level spell the pieces of the reference -/
theorem sec_corr (T : PTables) (ops : List Str) (ls : LangSettings) (d : Str) (repls : List Str)
    (hd : ls.opDefault.getD [] = d) (hne : repls ≠ []) (fs : Bool) (σt : SecSt) (σ : RefSt) (q : Nat)
    (s : Str) (hc : StCorr repls σt σ) :
    pcsOf (secNew T ops ls.opText d fs σt (bodyToksOf q s)).1 = (secRef T ops ls repls fs σ q s).1 ∧
    StCorr repls (secNew T ops ls.opText d fs σt (bodyToksOf q s)).2 (secRef T ops ls repls fs σ q s).2 := by
  obtain ⟨h1, h2, h3⟩ := hc
  by_cases hb : s.all isSpace = true
  · rw [bodyToksOf_blank s q hb]
    simp only [secNew, secRef, hb, if_true]
    exact ⟨rfl, h1, h2, h3⟩
  · have hb' : s.all isSpace = false := by simpa using hb
    obtain ⟨c, l, hl, hlc⟩ := bodyToksOf_lead s q hb'
    have hop : leadOp ops s = ops.contains [c] := by simp [leadOp, hlc]
    have hpc : punctOf T s = (punctChar T (bodyTxt (bodyToksOf q s))).toList := by
      rw [bodyTxt_bodyToksOf]; rfl
    have hw : opW ls (leadChar s).toList = opWord ls.opText d [c] := by
      simp [opW, hd, hlc]
    have hlast : ∀ toks : List Tok, lastPos σt.last toks = lastP σ.last (pcsOf toks) := by
      intro toks; rw [h3]; exact lastPos_pcsOf _ _
    rw [hl]
    simp only [secNew]
    rw [← hl]
    have htx : (bodyTokAt (q + leadBlanks s) c).txt = [c] := rfl
    have htp : (bodyTokAt (q + leadBlanks s) c).pos = q + leadBlanks s := rfl
    simp only [secRef, hb', Bool.false_eq_true, if_false, hop, hpc, hw, h1, hlast, htx, htp]
    generalize ops.contains [c] = oc
    by_cases hel : s.any (elemChar T ops) = true
    · obtain ⟨el, he1, he2⟩ := elemPos_bodyToksOf T ops s q hel
      simp only [he1, hel, Option.isSome_some, Option.isNone_some, Bool.and_true, Bool.and_false,
        Bool.not_true, if_true, Bool.or_false, h2]
      have hph : ∀ b : Bool, (if b then rotL (rotN σ.k repls) else rotN σ.k repls).headD []
          = placeholder repls (if b then σ.k + 1 else σ.k) := by
        intro b
        cases b
        · simp only [Bool.false_eq_true, if_false]; exact rotN_headD repls hne _
        · simp only [if_true, rotN_rotL]; exact rotN_headD repls hne _
      have hrr : ∀ b : Bool, (if b then rotL (rotN σ.k repls) else rotN σ.k repls)
          = rotN (if b then σ.k + 1 else σ.k) repls := by
        intro b
        cases b
        · simp
        · simp [rotN_rotL]
      rw [hph, hrr]
      -- the two sides differ only in whether the operator word (`w`) and the punctuation mark are there
      generalize (oc && !fs) = w
      cases punctChar T (bodyTxt (bodyToksOf q s)) <;> cases w <;>
        simp [pcsOf, StCorr, mkFix, mathSp, bodyTokAt, he2]
    · have hel' : s.any (elemChar T ops) = false := by simpa using hel
      simp only [find_elem_none T ops s q hel', hel', Option.isSome_none, Option.isNone_none,
        Bool.and_false, Bool.false_eq_true, if_false, Bool.and_true, Bool.not_false, h2]
      generalize (oc && !fs) = w
      cases punctChar T (bodyTxt (bodyToksOf q s)) <;> cases w <;>
        simp [pcsOf, StCorr, mkFix, mathSp, bodyTokAt]

theorem pcsOf_append (a b : List Tok) : pcsOf (a ++ b) = pcsOf a ++ pcsOf b := by
  simp [pcsOf]

theorem more_corr (T : PTables) (ops : List Str) (ls : LangSettings) (d : Str) (repls : List Str)
    (hd : ls.opDefault.getD [] = d) (hne : repls ≠ []) :
    ∀ (more : List Str) (xs : List (Tok × List Tok)) (q : Nat), MoreCorr T q more xs →
      ∀ (fs : Bool) (σt : SecSt) (σ : RefSt) (b0 : List Tok) (s0 : Str) (p0 : Nat),
      mathToks b0 = bodyToksOf p0 s0 → StCorr repls σt σ →
      pcsOf (secsNew T ops ls.opText d fs σt b0 xs).1
        = (secRef T ops ls repls fs σ p0 s0).1
            ++ (moreRef T ops ls repls (secRef T ops ls repls fs σ p0 s0).2 q more).1 ∧
      StCorr repls (secsNew T ops ls.opText d fs σt b0 xs).2
        (moreRef T ops ls repls (secRef T ops ls repls fs σ p0 s0).2 q more).2
  | [], [], q, _, fs, σt, σ, b0, s0, p0, hb, hc => by
    simp only [secsNew, moreRef, List.append_nil, hb]
    exact sec_corr T ops ls d repls hd hne fs σt σ p0 s0 hc
  | [], _ :: _, _, h, _, _, _, _, _, _, _, _ => by simp [MoreCorr] at h
  | _ :: _, [], _, h, _, _, _, _, _, _, _, _ => by simp [MoreCorr] at h
  | s :: more, x :: xs, q, h, fs, σt, σ, b0, s0, p0, hb, hc => by
    obtain ⟨_, hsec, hmore⟩ := h
    obtain ⟨h1, h2⟩ := sec_corr T ops ls d repls hd hne fs σt σ p0 s0 hc
    obtain ⟨g1, g2⟩ := more_corr T ops ls d repls hd hne more xs (q + 1 + s.length) hmore false
      (secNew T ops ls.opText d fs σt (mathToks b0)).2 (secRef T ops ls repls fs σ p0 s0).2 x.2 s (q + 1)
      hsec.2.1 (by rw [hb]; exact h2)
    simp only [secsNew, moreRef]
    rw [hb] at g1 g2 ⊢
    refine ⟨?_, g2⟩
    rw [pcsOf_append, h1, show ∀ (t : Tok) (l : List Tok), pcsOf (t :: l) = (t.txt, t.pos) :: pcsOf l from
      fun _ _ => rfl, g1, h2.2.2]
    rfl

theorem row_corr (T : PTables) (ops : List Str) (ls : LangSettings) (d : Str) (repls : List Str)
    (hd : ls.opDefault.getD [] = d) (hne : repls ≠ []) (p : Nat) (r : Row) (tr : RowT)
    (h : RowCorr T p r tr) (σt : SecSt) (σ : RefSt) (hc : StCorr repls σt σ) :
    pcsOf (secsNew T ops ls.opText d true σt tr.1 tr.2).1 = (rowRef T ops ls repls σ p r).1 ∧
    StCorr repls (secsNew T ops ls.opText d true σt tr.1 tr.2).2 (rowRef T ops ls repls σ p r).2 :=
  more_corr T ops ls d repls hd hne r.2 tr.2 (p + r.1.length) h.2 true σt σ tr.1 r.1 p h.1.2.1 hc

theorem moreRows_corr (T : PTables) (ops : List Str) (ls : LangSettings) (d : Str) (repls : List Str)
    (hd : ls.opDefault.getD [] = d) (hne : repls ≠ []) :
    ∀ (m : List Row) (xs : List (Tok × RowT)) (q : Nat), MoreRowsCorr T q m xs →
      ∀ (σt : SecSt) (σ : RefSt) (tr0 : RowT) (r0 : Row) (p0 : Nat),
      RowCorr T p0 r0 tr0 → StCorr repls σt σ →
      pcsOf (rowsNew T ops ls.opText d σt tr0 xs).1
        = (rowRef T ops ls repls σ p0 r0).1
            ++ (moreRowsRef T ops ls repls (rowRef T ops ls repls σ p0 r0).2 q m).1 ∧
      StCorr repls (rowsNew T ops ls.opText d σt tr0 xs).2
        (moreRowsRef T ops ls repls (rowRef T ops ls repls σ p0 r0).2 q m).2
  | [], [], q, _, σt, σ, tr0, r0, p0, hr, hc => by
    simp only [rowsNew, moreRowsRef, List.append_nil]
    exact row_corr T ops ls d repls hd hne p0 r0 tr0 hr σt σ hc
  | [], _ :: _, _, h, _, _, _, _, _, _, _ => by simp [MoreRowsCorr] at h
  | _ :: _, [], _, h, _, _, _, _, _, _, _ => by simp [MoreRowsCorr] at h
  | r :: m, x :: xs, q, h, σt, σ, tr0, r0, p0, hr, hc => by
    obtain ⟨_, hrow, hmore⟩ := h
    obtain ⟨h1, h2⟩ := row_corr T ops ls d repls hd hne p0 r0 tr0 hr σt σ hc
    obtain ⟨g1, g2⟩ := moreRows_corr T ops ls d repls hd hne m xs (q + 2 + (rowSrc r).length) hmore
      (secsNew T ops ls.opText d true σt tr0.1 tr0.2).2 (rowRef T ops ls repls σ p0 r0).2 x.2 r (q + 2)
      hrow h2
    simp only [rowsNew, moreRowsRef]
    refine ⟨?_, g2⟩
    rw [pcsOf_append, h1, show ∀ (t : Tok) (l : List Tok), pcsOf (t :: l) = (t.txt, t.pos) :: pcsOf l from
      fun _ _ => rfl, g1, h2.2.2]
    rfl

theorem rows_corr (T : PTables) (ops : List Str) (ls : LangSettings) (d : Str) (repls : List Str)
    (hd : ls.opDefault.getD [] = d) (hne : repls ≠ []) (p : Nat) (b : Rows) (tr : RowsT)
    (h : RowsCorr T p b tr) (σt : SecSt) (σ : RefSt) (hc : StCorr repls σt σ) :
    pcsOf (rowsNew T ops ls.opText d σt tr.1 tr.2).1 = (rowsRef T ops ls repls σ p b).1 ∧
    StCorr repls (rowsNew T ops ls.opText d σt tr.1 tr.2).2 (rowsRef T ops ls repls σ p b).2 :=
  moreRows_corr T ops ls d repls hd hne b.2 tr.2 (p + (rowSrc b.1).length) h.2 σt σ tr.1 b.1 p h.1 hc

/-! ### text and positions of the generated tokens -/

theorem secNew_fix (T : PTables) (ops : List Str) (opText : List (Str × Str)) (d : Str) (fs : Bool)
    (σ : SecSt) (mb : List Tok) : ∀ t ∈ (secNew T ops opText d fs σ mb).1, t.fix = true := by
  cases mb with
  | nil => intro t ht; simp [secNew] at ht
  | cons t0 l =>
    intro t ht
    simp only [secNew, List.mem_append] at ht
    rcases ht with (ht | ht) | ht
    · split at ht
      · simp only [List.mem_cons, List.not_mem_nil, or_false] at ht
        rcases ht with rfl | rfl | rfl <;> rfl
      · simp at ht
    · split at ht
      · simp only [List.mem_singleton] at ht; subst ht; rfl
      · simp at ht
    · split at ht
      · simp only [List.mem_singleton] at ht; subst ht; rfl
      · simp at ht

theorem secsNew_fix (T : PTables) (ops : List Str) (opText : List (Str × Str)) (d : Str) :
    ∀ (more : List (Tok × List Tok)) (fs : Bool) (σ : SecSt) (b0 : List Tok),
      ∀ t ∈ (secsNew T ops opText d fs σ b0 more).1, t.fix = true
  | [], fs, σ, b0 => secNew_fix T ops opText d fs σ _
  | x :: more, fs, σ, b0 => by
    intro t ht
    simp only [secsNew, List.mem_append, List.mem_cons] at ht
    rcases ht with ht | rfl | ht
    · exact secNew_fix T ops opText d fs σ _ t ht
    · rfl
    · exact secsNew_fix T ops opText d more false _ x.2 t ht

theorem rowsNew_fix (T : PTables) (ops : List Str) (opText : List (Str × Str)) (d : Str) :
    ∀ (moreR : List (Tok × RowT)) (σ : SecSt) (r0 : RowT),
      ∀ t ∈ (rowsNew T ops opText d σ r0 moreR).1, t.fix = true
  | [], σ, r0 => secsNew_fix T ops opText d r0.2 true σ r0.1
  | x :: moreR, σ, r0 => by
    intro t ht
    simp only [rowsNew, List.mem_append, List.mem_cons] at ht
    rcases ht with ht | rfl | ht
    · exact secsNew_fix T ops opText d r0.2 true σ r0.1 t ht
    · rfl
    · exact rowsNew_fix T ops opText d moreR _ x.2 t ht

theorem getTxtPos_fix : ∀ (l : List Tok) (rest : List Tok), (∀ t ∈ l, t.fix = true) →
    getTxtPos (l ++ rest)
      = ((spread (pcsOf l)).map (·.1) ++ (getTxtPos rest).1,
         (spread (pcsOf l)).map (·.2) ++ (getTxtPos rest).2)
  | [], rest, _ => by simp [spread, pcsOf]
  | t :: l, rest, h => by
    have ih := getTxtPos_fix l rest (fun x hx => h x (by simp [hx]))
    have hf : t.fix = true := h t (by simp)
    simp only [List.cons_append, getTxtPos, ih, tokPositions, hf, if_true]
    simp [spread, pcsOf, Function.comp_def, List.map_const']

theorem spread_cons (x : Str × Nat) (l : List (Str × Nat)) :
    spread (x :: l) = x.1.map (fun c => (c, x.2)) ++ spread l := by
  simp [spread]

theorem spread_append (a b : List (Str × Nat)) : spread (a ++ b) = spread a ++ spread b := by
  simp [spread]

/-- text and positions of an equation: those of the reference `eqnRef`; the collection behind the
    equation is the initial one rotated `eqnK` times -/
theorem getTxtPos_eqnToks (T : PTables) (ops : List Str) (ls : LangSettings) (d : Str)
    (repls : List Str) (hd : ls.opDefault.getD [] = d) (hne : repls ≠ []) (k p o : Nat) (b : Rows)
    (tr : RowsT) (h : RowsCorr T (p + o) b tr) (rest : List Tok) :
    getTxtPos (eqnToks T ops ls.opText d (rotN k repls) p tr ++ rest)
      = ((eqnOut T ops ls repls k p o b).map (·.1) ++ (getTxtPos rest).1,
         (eqnOut T ops ls repls k p o b).map (·.2) ++ (getTxtPos rest).2) ∧
    (eqnNew T ops ls.opText d (rotN k repls) p tr).2.r = rotN (eqnK T ops ls repls k p o b) repls := by
  obtain ⟨h1, h2⟩ := rows_corr T ops ls d repls hd hne (p + o) b tr h
    { nr := true, r := rotN k repls, last := p } { nr := true, k := k, last := p } ⟨rfl, rfl, rfl⟩
  refine ⟨?_, h2.2.1⟩
  unfold eqnToks eqnNew
  simp only [List.cons_append, List.nil_append, List.append_assoc]
  rw [getTxtPos_action_cons,
    show ∀ (t : Tok) (l : List Tok), t :: l = [t] ++ l from fun _ _ => rfl,
    getTxtPos_fix [mkFix .space p [' ', ' ']] _ (by simp [mkFix]),
    getTxtPos_fix _ _ (rowsNew_fix T ops ls.opText d tr.2 _ tr.1), h1]
  simp only [List.singleton_append, getTxtPos_action_cons]
  unfold eqnOut eqnRef
  rw [spread_cons]
  simp [spread, pcsOf, mkFix]

/-! ### the visibility conditions on tokens and on the source -/

theorem secVis_corr (T : PTables) (ops : List Str) (fs : Bool) (q : Nat) (s : Str) :
    secVisT T ops fs (bodyToksOf q s) = secVis T ops fs s := by
  by_cases hb : s.all isSpace = true
  · rw [bodyToksOf_blank s q hb]
    have h1 : s.any (elemChar T ops) = false := by
      rw [List.any_eq_false]
      intro c hc
      have := List.all_eq_true.mp hb c hc
      simp [elemChar, this]
    have h2 : s.filter (fun c => !isSpace c) = [] := by
      rw [List.filter_eq_nil_iff]
      intro c hc
      simp [List.all_eq_true.mp hb c hc]
    have h3 : s.dropWhile isSpace = [] := by
      clear h1 h2
      induction s with
      | nil => rfl
      | cons c cs ih =>
        simp only [List.all_cons, Bool.and_eq_true] at hb
        simp only [List.dropWhile_cons, hb.1, if_true]
        exact ih hb.2
    simp [secVisT, secVis, h1, punctOf, h2, punctChar, leadOp, leadChar, h3]
  · have hb' : s.all isSpace = false := by simpa using hb
    obtain ⟨c, l, hl, hlc⟩ := bodyToksOf_lead s q hb'
    have hop : leadOp ops s = ops.contains [c] := by simp [leadOp, hlc]
    have hpc : punctOf T s = (punctChar T (bodyTxt (bodyToksOf q s))).toList := by
      rw [bodyTxt_bodyToksOf]; rfl
    rw [hl]
    simp only [secVisT]
    rw [← hl]
    simp only [secVis, hop, hpc, show (bodyTokAt (q + leadBlanks s) c).txt = [c] from rfl]
    by_cases hel : s.any (elemChar T ops) = true
    · obtain ⟨el, he1, _⟩ := elemPos_bodyToksOf T ops s q hel
      simp [he1, hel]
    · have hel' : s.any (elemChar T ops) = false := by simpa using hel
      rw [find_elem_none T ops s q hel', hel']
      cases punctChar T (bodyTxt (bodyToksOf q s)) <;> simp

theorem moreVis_corr (T : PTables) (ops : List Str) :
    ∀ (more : List Str) (xs : List (Tok × List Tok)) (q : Nat), MoreCorr T q more xs →
      xs.any (fun x => secVisT T ops false (mathToks x.2)) = more.any (secVis T ops false)
  | [], [], _, _ => rfl
  | [], _ :: _, _, h => by simp [MoreCorr] at h
  | _ :: _, [], _, h => by simp [MoreCorr] at h
  | s :: more, x :: xs, q, h => by
    obtain ⟨_, hsec, hmore⟩ := h
    simp only [List.any_cons, hsec.2.1, secVis_corr, moreVis_corr T ops more xs _ hmore]

theorem rowVis_corr (T : PTables) (ops : List Str) (p : Nat) (r : Row) (tr : RowT)
    (h : RowCorr T p r tr) : rowVisT T ops tr = rowVis T ops r := by
  simp only [rowVisT, rowVis, h.1.2.1, secVis_corr, moreVis_corr T ops r.2 tr.2 _ h.2]

theorem lastRowS_cons (r0 r : Row) (m : List Row) : lastRowS (r0, r :: m) = lastRowS (r, m) := by
  unfold lastRowS
  cases m with
  | nil => rfl
  | cons y m' =>
    simp only [List.getLast?_cons_cons]
    cases h : (y :: m').getLast? with
    | none => simp at h
    | some z => rfl

theorem lastRow_corr (T : PTables) :
    ∀ (m : List Row) (xs : List (Tok × RowT)) (q : Nat), MoreRowsCorr T q m xs →
      ∀ (r0 : Row) (tr0 : RowT) (p0 : Nat), RowCorr T p0 r0 tr0 →
      ∃ p', RowCorr T p' (lastRowS (r0, m)) (lastRow (tr0, xs))
  | [], [], _, _, r0, tr0, p0, h0 => ⟨p0, h0⟩
  | [], _ :: _, _, h, _, _, _, _ => by simp [MoreRowsCorr] at h
  | _ :: _, [], _, h, _, _, _, _ => by simp [MoreRowsCorr] at h
  | r :: m, x :: xs, q, h, r0, tr0, p0, _ => by
    obtain ⟨_, hrow, hmore⟩ := h
    rw [lastRowS_cons, lastRow_cons]
    exact lastRow_corr T m xs _ hmore r x.2 _ hrow

theorem eqnVis_corr (T : PTables) (ops : List Str) (p : Nat) (b : Rows) (tr : RowsT)
    (h : RowsCorr T p b tr) (hv : eqnVis T ops b = true) : EqnVis T ops tr := by
  simp only [eqnVis, Bool.and_eq_true] at hv
  obtain ⟨p', hl⟩ := lastRow_corr T b.2 tr.2 _ h.2 b.1 tr.1 p h.1
  exact ⟨by rw [rowVis_corr T ops p b.1 tr.1 h.1]; exact hv.1,
    by rw [rowVis_corr T ops p' _ _ hl]; exact hv.2⟩

/-- the correspondence yields the token-level conditions -/
theorem rowOk_corr (T : PTables) :
    ∀ (more : List Str) (xs : List (Tok × List Tok)) (q : Nat), MoreCorr T q more xs →
      ∀ x ∈ xs, AmpTok x.1 ∧ ∀ t ∈ x.2, SItem T t
  | [], [], _, _ => by simp
  | [], _ :: _, _, h => by simp [MoreCorr] at h
  | _ :: _, [], _, h => by simp [MoreCorr] at h
  | s :: more, x :: xs, q, h => by
    obtain ⟨ha, hsec, hmore⟩ := h
    intro y hy
    simp only [List.mem_cons] at hy
    rcases hy with rfl | hy
    · exact ⟨ha, hsec.1⟩
    · exact rowOk_corr T more xs _ hmore y hy

theorem RowCorr.ok {T : PTables} {p : Nat} {r : Row} {tr : RowT} (h : RowCorr T p r tr) : RowOk T tr :=
  ⟨h.1.1, rowOk_corr T r.2 tr.2 _ h.2⟩

theorem rowsOk_corr (T : PTables) :
    ∀ (m : List Row) (xs : List (Tok × RowT)) (q : Nat), MoreRowsCorr T q m xs →
      (∀ x ∈ xs, RowHeadOk x.2) → ∀ x ∈ xs, NlTok x.1 ∧ RowOk T x.2 ∧ RowHeadOk x.2
  | [], [], _, _, _ => by simp
  | [], _ :: _, _, h, _ => by simp [MoreRowsCorr] at h
  | _ :: _, [], _, h, _ => by simp [MoreRowsCorr] at h
  | r :: m, x :: xs, q, h, hh => by
    obtain ⟨hn, hrow, hmore⟩ := h
    intro y hy
    simp only [List.mem_cons] at hy
    rcases hy with rfl | hy
    · exact ⟨hn, hrow.ok, hh _ (by simp)⟩
    · exact rowsOk_corr T m xs _ hmore (fun z hz => hh z (by simp [hz])) y hy

theorem RowsCorr.ok {T : PTables} {p : Nat} {b : Rows} {tr : RowsT} (h : RowsCorr T p b tr)
    (hh : ∀ x ∈ tr.2, RowHeadOk x.2) : RowsOk T tr :=
  ⟨h.1.ok, rowsOk_corr T b.2 tr.2 _ h.2 hh⟩

/-! ### the source as a list of items -/

/-- the source as a list of text characters (with their positions) and equations (with the position
    `p` of the opening `\[` / `\begin` and the offset `o` of the body from there) -/
inductive Item where
  | chr (c : Char) (p : Nat)
  | eqn (p o : Nat) (b : Rows)

def chrItems : Nat → Str → List Item
  | _, [] => []
  | p, c :: cs => .chr c p :: chrItems (p + 1) cs

def itemsOf : Nat → List Seg → List Item
  | _, [] => []
  | p, .txt s :: rest => chrItems p s ++ itemsOf (p + s.length) rest
  | p, .disp b :: rest => .eqn p 2 b :: itemsOf (p + ((rowsSrc b).length + 4)) rest
  | p, .env name b :: rest =>
    .eqn p (name.length + 8) b :: itemsOf (p + (2 * name.length + (rowsSrc b).length + 14)) rest

/-- the reference output for a list of items, the collection having been rotated `k` times -/
def refItems (T : PTables) (ops : List Str) (ls : LangSettings) (repls : List Str) :
    Nat → List Item → List (Char × Nat)
  | _, [] => []
  | k, .chr c p :: rest => (c, p) :: refItems T ops ls repls k rest
  | k, .eqn p o b :: rest =>
    eqnOut T ops ls repls k p o b ++ refItems T ops ls repls (eqnK T ops ls repls k p o b) rest

theorem refItems_chrItems (T : PTables) (ops : List Str) (ls : LangSettings) (repls : List Str)
    (k : Nat) (items : List Item) : ∀ (s : Str) (p : Nat),
    refItems T ops ls repls k (chrItems p s ++ items) = posText p s ++ refItems T ops ls repls k items
  | [], _ => rfl
  | c :: cs, p => by
    simp only [chrItems, List.cons_append, refItems, posText, refItems_chrItems T ops ls repls k items cs (p + 1)]

theorem refItems_itemsOf (T : PTables) (ops : List Str) (ls : LangSettings) (repls : List Str) :
    ∀ (segs : List Seg) (k p : Nat),
      refItems T ops ls repls k (itemsOf p segs) = refOut T ops ls repls k p segs
  | [], _, _ => rfl
  | .txt s :: rest, k, p => by
    simp only [itemsOf, refItems_chrItems, refOut, refItems_itemsOf T ops ls repls rest]
  | .disp b :: rest, k, p => by
    simp only [itemsOf, refItems, refOut, refItems_itemsOf T ops ls repls rest]
  | .env name b :: rest, k, p => by
    simp only [itemsOf, refItems, refOut, refItems_itemsOf T ops ls repls rest]

/-- a displayed equation at the head of the source -/
inductive Con (T : PTables) (st : PState) : Nat → Str → List Item → Nat → Str → List Item → Prop
  | disp (p : Nat) (b : Rows) (R : Str) (items : List Item) : dispOk T st b R = true →
      Con T st p ('\\' :: '[' :: (rowsSrc b ++ '\\' :: ']' :: R)) (.eqn p 2 b :: items)
        (p + ((rowsSrc b).length + 4)) R items
  | env (p : Nat) (name : Str) (b : Rows) (R : Str) (items : List Item) : envOk T st name b R = true →
      Con T st p ('\\' :: (nBegin ++ '{' :: (name ++ '}' :: (rowsSrc b ++ endSrc name R))))
        (.eqn p (name.length + 8) b :: items) (p + (2 * name.length + (rowsSrc b).length + 14)) R items

theorem Con.vis (T : PTables) (st : PState) : ConVis (Con T st) := by
  rintro _ _ _ _ _ _ ⟨⟩ <;> exact ⟨_, _, rfl, rfl⟩

/-- well-formedness on the source text (which starts at position `p`) -/
abbrev OkSrc (T : PTables) (st : PState) : Nat → Str → List Item → Prop :=
  OkSrcG (okAtD T st) (fun c p l => Item.chr c p :: l) (· = []) (Con T st)

theorem chrs_chr (items : List Item) : ∀ (s : Str) (p : Nat),
    chrs (fun c p l => Item.chr c p :: l) p s items = chrItems p s ++ items
  | [], _ => rfl
  | c :: cs, p => by rw [chrs, chrs_chr items cs (p + 1)]; rfl

theorem textOkD_eq (T : PTables) (st : PState) : ∀ (s R : Str), textOkD T st s R = textOkG (okAtD T st) s R
  | [], _ => rfl
  | c :: cs, R => by rw [textOkD, textOkG, textOkD_eq T st cs R]

theorem OkSrc_of_segsOk (T : PTables) (st : PState) :
    ∀ (segs : List Seg) (p : Nat), segsOk T st segs = true →
      OkSrc T st p (render segs) (itemsOf p segs)
  | [], p, _ => .nil p _ rfl
  | .txt s :: rest, p, h => by
    simp only [segsOk, Bool.and_eq_true, textOkD_eq] at h
    have := OkSrcG.text _ _ s p (OkSrc_of_segsOk T st rest _ h.2) h.1
    rwa [chrs_chr] at this
  | .disp b :: rest, p, h => by
    simp only [segsOk, Bool.and_eq_true] at h
    have := OkSrcG.con (Con.disp p b (render rest) _ h.1) (OkSrc_of_segsOk T st rest _ h.2)
    simpa [render, Seg.render, itemsOf] using this
  | .env name b :: rest, p, h => by
    simp only [segsOk, Bool.and_eq_true] at h
    have := OkSrcG.con (Con.env p name b (render rest) _ h.1) (OkSrc_of_segsOk T st rest _ h.2)
    simpa [render, Seg.render, itemsOf, endSrc] using this

end PlainDispRows
end Yalafi
