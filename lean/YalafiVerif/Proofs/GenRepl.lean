/-
  Proofs/GenRepl.lean — `Parser.generate_replacements` (model: `generateReplacements`):
  C09 (expansion = substitution of the arguments for the `#k`) and
  C04 (where the tokens of an expansion are anchored).
-/
import YalafiVerif.Model.PState
namespace Yalafi

/-- reference: the replacement text with every `#k` replaced by the k-th argument -/
def substRef (args : List (List Tok)) (repl : List Tok) : List Tok :=
  repl.flatMap (fun t => match argRef t with
    | some k => (pyIndex args k).getD []
    | none => [t])

def noAction (ts : List Tok) : List Tok := ts.filter (fun t => t.kind != .action)

def AnchorPos (args : List (List Tok)) (start p : Nat) : Prop :=
  p = start ∨ ∃ a ∈ args, ∃ u ∈ a, p = u.pos

theorem noAction_append (a b : List Tok) : noAction (a ++ b) = noAction a ++ noAction b := by
  simp [noAction]

theorem noAction_mkAction (p : Nat) : noAction [mkAction p] = [] := by
  simp [noAction, mkAction]

theorem pyIndex_mem' {α} (xs : List α) (k : Nat) (a : α) (h : pyIndex xs k = some a) : a ∈ xs := by
  unfold pyIndex at h
  split at h
  · exact List.mem_of_getLast? h
  · exact List.mem_of_getElem? h

/-! ### C09 -/

theorem substRef_cons (args : List (List Tok)) (t : Tok) (ts : List Tok) :
    substRef args (t :: ts) =
      (match argRef t with | some k => (pyIndex args k).getD [] | none => [t]) ++ substRef args ts := by
  simp [substRef]

theorem genReplLoop_subst (args : List (List Tok)) :
    ∀ (repl : List Tok) (cur : Nat) (out0 out : List Tok),
      genReplLoop args repl cur out0 = some out →
      (noAction out).map (fun t => (t.kind, t.txt))
        = (noAction out0).map (fun t => (t.kind, t.txt))
          ++ (noAction (substRef args repl)).map (fun t => (t.kind, t.txt)) := by
  intro repl
  induction repl with
  | nil =>
    intro cur out0 out h
    simp only [genReplLoop, Option.some.injEq] at h
    subst h
    simp [substRef, noAction]
  | cons t ts ih =>
    intro cur out0 out h
    simp only [genReplLoop] at h
    rw [substRef_cons]
    cases hk : argRef t with
    | none =>
      rw [hk] at h; dsimp only at h
      have := ih _ _ _ h
      rw [this]
      simp only [noAction_append, List.map_append, List.append_assoc]
      congr 1
      congr 1
      by_cases hka : t.kind = .action <;> simp [noAction, hka]
    | some k =>
      rw [hk] at h; dsimp only at h
      cases hp : pyIndex args k with
      | none => rw [hp] at h; simp at h
      | some a =>
        rw [hp] at h
        simp only at h
        simp only [hp, Option.getD_some]
        cases a with
        | nil =>
          simp only [List.head?_nil] at h
          have := ih _ _ _ h
          rw [this]
          simp [noAction]
        | cons x xs =>
          have hl : ∃ l, (x :: xs).getLast? = some l := by
            cases hl : (x :: xs).getLast? with
            | none => simp at hl
            | some l => exact ⟨l, rfl⟩
          obtain ⟨l, hl⟩ := hl
          rw [hl] at h
          simp only [List.head?_cons] at h
          have := ih _ _ _ h
          rw [this]
          simp only [noAction_append, noAction_mkAction, List.map_append, List.append_assoc,
            List.map_nil, List.nil_append]

/-- C09: a user definition expands by substitution (kinds and texts; positions are C04's subject) -/
theorem genRepl_subst (args : List (List Tok)) (repl : List Tok) (start : Nat) (out : List Tok)
    (h : generateReplacements args repl start = some out) :
    (noAction out).map (fun t => (t.kind, t.txt))
      = (noAction (substRef args repl)).map (fun t => (t.kind, t.txt)) := by
  unfold generateReplacements at h
  split at h
  · simp at h
  · have := genReplLoop_subst args repl _ [] out h
    simpa [noAction] using this

/-! ### C04 -/

theorem initCurPos_anchor (args : List (List Tok)) (start : Nat) :
    ∀ (repl : List Tok) (cur c : Nat), AnchorPos args start cur →
      initCurPos args repl cur = some c → AnchorPos args start c := by
  intro repl
  induction repl with
  | nil => intro cur c hc h; simp only [initCurPos, Option.some.injEq] at h; subst h; exact hc
  | cons t ts ih =>
    intro cur c hc h
    simp only [initCurPos] at h
    cases hk : argRef t with
    | none => rw [hk] at h; exact ih _ _ hc h
    | some k =>
      rw [hk] at h; dsimp only at h
      cases hp : pyIndex args k with
      | none => rw [hp] at h; simp at h
      | some a =>
        rw [hp] at h
        simp only at h
        refine ih _ _ ?_ h
        cases hh : a.head? with
        | none => exact hc
        | some x =>
          exact Or.inr ⟨a, pyIndex_mem' _ _ _ hp, x, List.mem_of_mem_head? hh, rfl⟩

/-- what is true of every token of an expansion -/
def AnchorTok (args : List (List Tok)) (start : Nat) (t : Tok) : Prop :=
  (∃ a ∈ args, t ∈ a) ∨
  (t.fix = true ∧ AnchorPos args start t.pos) ∨
  (∃ a ∈ args, ∃ u ∈ a, t = mkAction u.pos)

theorem genReplLoop_anchor (args : List (List Tok)) (start : Nat) :
    ∀ (repl : List Tok) (cur : Nat) (out0 out : List Tok),
      AnchorPos args start cur → (∀ t ∈ out0, AnchorTok args start t) →
      genReplLoop args repl cur out0 = some out → ∀ t ∈ out, AnchorTok args start t := by
  intro repl
  induction repl with
  | nil =>
    intro cur out0 out _ h0 h
    simp only [genReplLoop, Option.some.injEq] at h
    subst h; exact h0
  | cons t ts ih =>
    intro cur out0 out hc h0 h
    simp only [genReplLoop] at h
    cases hk : argRef t with
    | none =>
      rw [hk] at h; dsimp only at h
      refine ih _ _ _ hc ?_ h
      intro u hu
      rcases List.mem_append.1 hu with hu | hu
      · exact h0 u hu
      · simp only [List.mem_singleton] at hu
        subst hu
        exact Or.inr (Or.inl ⟨rfl, hc⟩)
    | some k =>
      rw [hk] at h; dsimp only at h
      cases hp : pyIndex args k with
      | none => rw [hp] at h; simp at h
      | some a =>
        rw [hp] at h
        simp only at h
        have ha := pyIndex_mem' _ _ _ hp
        cases hh : a.head? with
        | none => rw [hh] at h; exact ih _ _ _ hc h0 h
        | some x =>
          rw [hh] at h
          cases hl : a.getLast? with
          | none => rw [hl] at h; exact ih _ _ _ hc h0 h
          | some l =>
            rw [hl] at h
            simp only at h
            have hx : x ∈ a := List.mem_of_mem_head? hh
            have hlm : l ∈ a := List.mem_of_getLast? hl
            refine ih _ _ _ (Or.inr ⟨a, ha, l, hlm, rfl⟩) ?_ h
            intro u hu
            simp only [List.mem_append, List.mem_singleton] at hu
            rcases hu with ((hu | hu) | hu) | hu
            · exact h0 u hu
            · exact Or.inr (Or.inr ⟨a, ha, x, hx, hu⟩)
            · exact Or.inl ⟨a, ha, hu⟩
            · exact Or.inr (Or.inr ⟨a, ha, l, hlm, hu⟩)

/-- C04 (`mkAction` is NOT `fix`, so the action tokens the loop puts around an
    argument form a third class): every token of an expansion is either a token of an argument
    (unchanged), or is pinned (`fix = true`) to the start of the call or to the position of an
    argument token, or is the (empty, position-counting) action token `mkAction u.pos` at the
    position of an argument token `u`. -/
theorem genRepl_anchor (args : List (List Tok)) (repl : List Tok) (start : Nat) (out : List Tok)
    (h : generateReplacements args repl start = some out) :
    ∀ t ∈ out, (∃ a ∈ args, t ∈ a) ∨
      (t.fix = true ∧ (t.pos = start ∨ ∃ a ∈ args, ∃ u ∈ a, t.pos = u.pos)) ∨
      (∃ a ∈ args, ∃ u ∈ a, t = mkAction u.pos) := by
  unfold generateReplacements at h
  split at h
  · simp at h
  · rename_i cur hcur
    have hc := initCurPos_anchor args start repl start cur (Or.inl rfl) hcur
    exact genReplLoop_anchor args start repl cur [] out hc (by simp) h

/-- `genRepl_anchor` in one clause, `fix` not required of action tokens:
    an expansion token that is not an argument token is `fix` or an action token, and sits at the
    start of the call or at the position of an argument token -/
theorem genRepl_anchor' (args : List (List Tok)) (repl : List Tok) (start : Nat) (out : List Tok)
    (h : generateReplacements args repl start = some out) :
    ∀ t ∈ out, (∃ a ∈ args, t ∈ a) ∨
      ((t.fix = true ∨ (t.kind = .action ∧ t.txt = [])) ∧
        (t.pos = start ∨ ∃ a ∈ args, ∃ u ∈ a, t.pos = u.pos)) := by
  intro t ht
  rcases genRepl_anchor args repl start out h t ht with h1 | ⟨hf, hp⟩ | ⟨a, ha, u, hu, rfl⟩
  · exact Or.inl h1
  · exact Or.inr ⟨Or.inl hf, hp⟩
  · exact Or.inr ⟨Or.inr ⟨rfl, rfl⟩, Or.inr ⟨a, ha, u, hu, rfl⟩⟩

/-- without the third disjunct the claim is false: witness -/
theorem genRepl_anchor_given_false :
    ∃ (args : List (List Tok)) (repl : List Tok) (start : Nat) (out : List Tok),
      generateReplacements args repl start = some out ∧
      ¬ ∀ t ∈ out, (∃ a ∈ args, t ∈ a) ∨
        (t.fix = true ∧ (t.pos = start ∨ ∃ a ∈ args, ∃ u ∈ a, t.pos = u.pos)) := by
  refine ⟨[[mkTok .text 5 ['x']]], [mkTok (.arg 1) 0 []], 0,
    [mkAction 5, mkTok .text 5 ['x'], mkAction 5], by decide, ?_⟩
  intro hall
  have := hall (mkAction 5) (by simp)
  revert this
  simp [mkAction, mkTok]

end Yalafi
