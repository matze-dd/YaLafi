/-
  Proofs/PlainFaultBase.lean — common tools for the end-to-end theorems of C08 at the fault kinds
  of Proofs/PlainFault*.lean (documents `pre ++ F ++ post`: inert text, ONE faulty construct, inert
  text).

  The frame (`fault_frame`) works for any construct `F` for which one supplies (a) the scanner steps
  on `F` in front of `post`, as the equation of a run (`Scans.eq`; a step that carries a diagnostic is no step of a run and
  stands in front of one: `scanAll_step`), (b) what the pre-pass hands to the loop for them (`hpp`;
  `prePass_frame` when there is no comment token), (c) what the loop makes of that in front of the
  copied tokens of `post` (`hX`, a `SeqRun`), (d) that the emitted tokens leave no "pure action line"
  (`removeLines_vis` via `Vis`, or `removeLines_mark`).  `pre` / `post`: `PlainFootnote.textOk` —
  every character is no "active character" of the language settings and is white space or none of
  `% # \ $ { }` with no special sequence of the tables matching there; what follows a text (`F`, or
  the end) does not start with white space (`F` starts with `\` or `%`).

  Two traps for the cost of checking, met in every file of the group.  An error message of the model is
  `"…".toList`: where the unifier has to compare a term that holds one (`rfl` for `d.msg = err`, a
  definition unfolded against its body) it decodes the literal; such facts are stated once about a
  variable message (`diag_after`, `latexErrorToks_headTail`).  And closing a step of the loop by `exact` /
  `rfl` where the two calls of `expandSequence` agree only up to reduction (`(a, b).2` for `b`,
  `x :: l` for `[x] ++ l`) costs twenty times what it costs under `with_reducible` or after a rewrite
  that makes them agree: the step lemmas close with `with_reducible`, and the outputs of the constructs
  (`openOut`, `inputOut`, `bracedOut`) are written with `++` as `SeqRun.app` composes them.
-/
import YalafiVerif.Proofs.PlainFootnote
import YalafiVerif.Proofs.PlainMathOpenTok
import YalafiVerif.Proofs.PlainAccent
import YalafiVerif.Proofs.PlainVerb
namespace Yalafi
namespace PlainFault

open M
open PlainMacro (lbr rbr braceAt scans_brace)
open PlainFootnote (TextRun CopyTok lineC LinesOf scans_textrun)
open PlainMathOpen (markPos)

theorem errMark_head (T : Tables) (err : Str) : ∃ v, errMark T err = ' ' :: v := by
  unfold errMark
  exact ⟨_, rfl⟩

theorem errMark_last (T : Tables) (err : Str) : ∃ u, errMark T err = u ++ [' '] := by
  unfold errMark
  cases T.markVerbose
  · exact ⟨[' '] ++ T.mark, by simp⟩
  · exact ⟨[' '] ++ T.mark ++ [' '] ++ (['('] ++ err ++ [')']), by simp⟩

theorem drop_snoc {α} (u : List α) (x : α) (k : Nat) (h : k < (u ++ [x]).length) :
    ∃ w, (u ++ [x]).drop k = w ++ [x] := by
  have hk : k ≤ u.length := by simp at h; omega
  exact ⟨u.drop k, by rw [List.drop_append_of_le_length hk]⟩

/-- at least the first character of the mark stands at the problem position -/
theorem min_mark_pos (T : Tables) (err : Str) (n p : Nat) (hp : p < n) :
    1 ≤ min (errMark T err).length (n - p) :=
  Nat.le_min.mpr ⟨Nat.le_of_succ_le (errMark_length_pos T err), Nat.sub_pos_of_lt hp⟩

theorem markToks_plain (T : PTables) (st : PState) (err : Str) (p n : Nat) (hp : p < n)
    (hb : (activeChars T st).contains [' '] = false) :
    ∀ t ∈ latexErrorToks T.toTables err p n, PlainTok t ∧ (activeChars T st).contains t.txt = false := by
  obtain ⟨v, hv⟩ := errMark_head T.toTables err
  obtain ⟨u, hu⟩ := errMark_last T.toTables err
  obtain ⟨j, hj⟩ := Nat.exists_eq_add_of_le' (min_mark_pos T.toTables err n p hp)
  have first : ∀ (q : Nat) (t : Tok), t = { kind := .text, pos := q, txt := (errMark T.toTables err).take (j + 1), fix := true } →
      PlainTok t ∧ (activeChars T st).contains t.txt = false := by
    intro q t ht
    have htxt : t.txt = ' ' :: v.take j := by rw [ht, hv]; rfl
    refine ⟨plainTok_of_head t ' ' _ htxt (Or.inl (by rw [ht])) (by decide), ?_⟩
    rw [htxt]; exact not_active_cons T st ' ' _ hb
  intro t ht
  unfold latexErrorToks at ht
  simp only [hj] at ht
  split at ht
  · rename_i hlt
    simp only [List.mem_cons, List.not_mem_nil, or_false] at ht
    rcases ht with rfl | rfl
    · exact first p _ rfl
    · obtain ⟨w, hw⟩ := drop_snoc u ' ' (j + 1) (by rw [← hu]; exact hlt)
      rw [← hu] at hw
      refine ⟨plainTok_of_last _ w hw rfl, ?_⟩
      simp only [hw]
      cases w with
      | nil => exact hb
      | cons a w' =>
        cases hc : (activeChars T st).contains (a :: w' ++ [' ']) with
        | false => rfl
        | true =>
          have := activeChars_length T st _ (List.contains_iff_mem.mp hc)
          simp at this
  · simp only [List.mem_cons, List.not_mem_nil, or_false] at ht
    exact first p _ ht

theorem markToks_length (T : Tables) (err : Str) (p n : Nat) : (latexErrorToks T err p n).length ≤ 2 := by
  unfold latexErrorToks
  simp only []
  split <;> simp

theorem seqRun_mark (T : PTables) (st : PState) (err : Str) (p n : Nat) (hp : p < n)
    (hb : (activeChars T st).contains [' '] = false) (envStop : Option Str) (rest : Buf) (out : List Tok) :
    SeqRun T envStop 0 2 (latexErrorToks T.toTables err p n ++ rest) out st rest
      (out ++ latexErrorToks T.toTables err p n) st :=
  (seqRun_copied (.of_forall fun t ht _ => .of_plain (markToks_plain T st err p n hp hb t ht).1
    (Or.inl (markToks_plain T st err p n hp hb t ht).2)) out).mono
    (Nat.le_refl _) (markToks_length T.toTables err p n)


/-- a token list behind which the line automaton has seen visible text in the current line -/
def Vis (M : List Tok) : Prop :=
  ∀ σ tail, tail ≠ [] → lineRun σ ((M.filter keepIn).map evalTok ++ tail) = lineRun none tail

/-- a token list that keeps the line automaton behind visible text -/
def KeepsVis (N : List Tok) : Prop :=
  ∀ tail, tail ≠ [] → lineRun none ((N.filter keepIn).map evalTok ++ tail) = lineRun none tail

theorem Vis.append {M N : List Tok} (hM : Vis M) (hN : KeepsVis N) : Vis (M ++ N) := by
  intro σ tail ht
  rw [List.filter_append, List.map_append, List.append_assoc, hM σ _ (by simp [ht]), hN tail ht]

theorem Vis.action (p : Nat) {M : List Tok} (hM : Vis M) : Vis (mkAction p :: M) := by
  intro σ tail ht
  have hk : keepIn (mkAction p) = true := rfl
  simp only [List.filter_cons, hk, if_true, List.map_cons, List.cons_append]
  rw [lineRun_action (mkAction p) rfl σ _ (by simp [ht])]
  exact hM _ tail ht

theorem KeepsVis.nil : KeepsVis [] := by
  intro tail _; rfl

theorem KeepsVis.action (p : Nat) {N : List Tok} (hN : KeepsVis N) : KeepsVis (mkAction p :: N) := by
  intro tail ht
  have hk : keepIn (mkAction p) = true := rfl
  simp only [List.filter_cons, hk, if_true, List.map_cons, List.cons_append]
  rw [lineRun_action (mkAction p) rfl none _ (by simp [ht])]
  exact hN tail ht

theorem KeepsVis.text (t : Tok) (hk : t.kind = .text) (hn : hasNl t.txt = false) {N : List Tok}
    (hN : KeepsVis N) : KeepsVis (t :: N) := by
  intro tail ht
  by_cases hki : keepIn t = true
  · simp only [List.filter_cons, hki, if_true, List.map_cons, List.cons_append]
    rw [lineRun_txt t hk hn none _ (by simp [ht])]
    simp only [ite_self]
    exact hN tail ht
  · have hki' : keepIn t = false := by simpa using hki
    simp only [List.filter_cons, hki', Bool.false_eq_true, if_false]
    exact hN tail ht

theorem KeepsVis.append {M N : List Tok} (hM : KeepsVis M) (hN : KeepsVis N) : KeepsVis (M ++ N) := by
  intro tail ht
  rw [List.filter_append, List.map_append, List.append_assoc, hM _ (by simp [ht]), hN tail ht]

def markFine (T : Tables) (err : Str) : Bool := !hasNl (errMark T err) && !isBlank (errMark T err)

theorem Vis.mark (T : Tables) (err : Str) (p n : Nat) (hm : markFine T err = true) :
    Vis (latexErrorToks T err p n) := by
  simp only [markFine, Bool.and_eq_true, Bool.not_eq_true'] at hm
  intro σ tail ht
  exact PlainMathOpen.lineRun_mark T err p n hm.1 hm.2 σ tail ht

theorem removeLines_vis {T : PTables} {st : PState} (A M B : List Tok) (a b : Str)
    (hA : LinesOf A a) (hB : LinesOf B b)
    (hAc : ∀ t ∈ A, CopyTok T st t) (hBc : ∀ t ∈ B, CopyTok T st t) (hM : Vis M) :
    removeLines (A ++ (M ++ B)) = some ((A ++ (M ++ B)).filter keepOut) := by
  apply removeLines_safe_id
  apply lineRun_linesInit
  intro p
  rw [List.filter_append, List.filter_append, PlainFootnote.filter_keepIn_copy A hAc,
    PlainFootnote.filter_keepIn_copy B hBc, List.map_append, List.map_append, List.append_assoc,
    List.append_assoc]
  rw [hA (some false) _ (by simp)]
  obtain ⟨σ1, h1, _⟩ := PlainFootnote.lineC_safe a (some false) (by simp)
  rw [h1]
  simp only []
  rw [hM σ1 _ (by simp), hB none _ (by simp)]
  obtain ⟨σ2, h2, h3⟩ := PlainFootnote.lineC_safe b none (by simp)
  rw [h2]
  simp only []
  rw [lineRun_lastItem]
  cases σ2 with
  | none => rfl
  | some x => cases x <;> simp at h3 ⊢

theorem _root_.Yalafi.PlainFootnote.CopyTok.notAction {T : PTables} {st : PState} {t : Tok} (h : CopyTok T st t) :
    isAction t = false := h.plain.notAction

/-- around the bare mark tokens there is no Action token: nothing but empty tokens is deleted -/
theorem removeLines_mark {T : PTables} {st : PState} (err : Str) (p n : Nat) (A B : List Tok)
    (hA : ∀ t ∈ A, CopyTok T st t) (hB : ∀ t ∈ B, CopyTok T st t) :
    removeLines (A ++ (latexErrorToks T.toTables err p n ++ B))
      = some ((A ++ (latexErrorToks T.toTables err p n ++ B)).filter keepOut) := by
  apply removeLines_noaction_id
  intro t ht
  simp only [List.mem_append] at ht
  rcases ht with h | h | h
  · exact (hA t h).notAction
  · simp [isAction, (PlainMathOpen.latexErrorToks_kind T.toTables err p n t h).1]
  · exact (hB t h).notAction

/-- the scanner loop on inert text, a construct with the scanner steps `stepsF` (which may carry
    diagnostics: `hF` is the equation of a run without its other fields), inert text -/
theorem scan_frame (T : PTables) (st : PState) (src pre F post : Str) (stepsF : List ScanStep)
    (hpre : PlainFootnote.textOk T st pre (F ++ post) = true)
    (hhead : (F ++ post).head?.all (fun d => !isSpace d) = true)
    (hF : scanAll T.toTables src pre.length (F ++ post)
      = (stepsF ++ (scanAll T.toTables src (pre.length + F.length) post).1,
         (scanAll T.toTables src (pre.length + F.length) post).2))
    (hpost : PlainFootnote.textOk T st post [] = true) :
    ∃ s1 s2, TextRun T st 0 pre s1 ∧ TextRun T st (pre.length + F.length) post s2 ∧
      scanAll T.toTables src 0 (pre ++ (F ++ post)) = (s1 ++ (stepsF ++ s2), true) := by
  obtain ⟨s1, R1, r1⟩ := scans_textrun T st src hhead pre 0 hpre
  obtain ⟨s2, R2, r2⟩ := scans_textrun T st src (R := []) rfl post (pre.length + F.length) hpost
  rw [List.append_nil] at r2
  refine ⟨s1, s2, R1, R2, ?_⟩
  rw [r1.eq, Nat.zero_add, hF, r2.scanAll]

theorem stepToks_text (s : List ScanStep) (h : ∀ x ∈ s, x.diag = none ∧ x.extra = []) :
    stepToks s = s.map (·.tok) ∧ stepDiags s = [] :=
  ⟨flatten_tok_extra s (fun x hx => (h x hx).2), flatten_diag_nil s (fun x hx => (h x hx).1)⟩

theorem scan_of_steps (T : Tables) (src : Str) (s1 sF s2 : List ScanStep)
    (h : scanAll T src 0 src = (s1 ++ (sF ++ s2), true))
    (h1 : ∀ x ∈ s1, x.diag = none ∧ x.extra = []) (h2 : ∀ x ∈ s2, x.diag = none ∧ x.extra = []) :
    (scan T src).toks = s1.map (·.tok) ++ (stepToks sF ++ s2.map (·.tok)) ∧
    (scan T src).diags = stepDiags sF := by
  have a1 := stepToks_text s1 h1
  have a2 := stepToks_text s2 h2
  unfold stepToks stepDiags at a1 a2
  unfold scanAll at h
  simp only [scan, h, List.map_append, List.flatten_append, a1.1, a1.2, a2.1, a2.2, stepToks, stepDiags,
    List.nil_append, List.append_nil, and_self]

theorem seq_frame (T : PTables) (st stX : PState) (A X B outX r : List Tok) (dX cX : Nat) (fuel : Nat)
    (hA : ∀ t ∈ A, CopyTok T st t) (hB : ∀ t ∈ B, CopyTok T stX t)
    (hX : SeqRun T none dX cX (X ++ B) ([] ++ A) st B ([] ++ A ++ outX) stX)
    (hrl : removeLines (A ++ (outX ++ B)) = some r)
    (hf : A.length + (cX + B.length) + (dX + 1) ≤ fuel) :
    expandSequence T fuel (A ++ (X ++ B)) none [] st = .ok ((r, []), stX) := by
  have rB := (seqRun_copied (envStop := none) (rest := []) (PlainFootnote.copiedSeq hB) ([] ++ A ++ outX)).mono
    (Nat.zero_le (dX + 1)) (Nat.le_refl _)
  rw [List.append_nil] at rB
  rw [((seqRun_copied (PlainFootnote.copiedSeq hA) []).trans (hX.trans rB (by omega)) (Nat.zero_le _)).finish
    (by omega) hf, List.nil_append, List.append_assoc, hrl]

def errSkip (st : PState) : Str := "cannot find closing LaTeX comment ".toList ++ reprStr st.skipEnd

theorem prePass_noCom (T : PTables) (st st' : PState) {toks : List Tok} (h : NoCom toks) :
    prePass T st toks st' = .ok (toks, st') := by
  simp only [prePass, skipPass_noBegin st _ (h.noBegin _)]
  rfl

theorem range'_succ_map (a n : Nat) : (List.range' a n).map (· + 1) = List.range' (a + 1) n := by
  induction n generalizing a with
  | zero => rfl
  | succ n ih => simp [List.range'_succ, ih]

def markPos1 (T : Tables) (err : Str) (n p : Nat) : List Nat :=
  List.replicate (min (errMark T err).length (n - p)) (p + 1)
    ++ List.replicate ((errMark T err).length - min (errMark T err).length (n - p))
        (p + min (errMark T err).length (n - p))

theorem markPos_map (T : Tables) (err : Str) (n p : Nat) (hp : p < n) :
    (markPos T err n p).map (· + 1) = markPos1 T err n p := by
  have hmx := min_mark_pos T err n p hp
  unfold markPos markPos1
  generalize min (errMark T err).length (n - p) = mx at hmx
  rw [List.map_append, List.map_replicate, List.map_replicate,
    Nat.sub_add_cancel (Nat.le_trans hmx (Nat.le_add_left ..))]

theorem markPos1_head (T : Tables) (err : Str) (n p : Nat) (hp : p < n) :
    (markPos1 T err n p).head? = some (p + 1) := by
  obtain ⟨m, hm⟩ := Nat.exists_eq_add_of_le' (min_mark_pos T err n p hp)
  unfold markPos1
  rw [hm, List.replicate_succ]
  rfl

theorem markPos1_length (T : Tables) (err : Str) (n p : Nat) :
    (markPos1 T err n p).length = (errMark T err).length := by
  unfold markPos1
  have : min (errMark T err).length (n - p) ≤ (errMark T err).length := Nat.min_le_left _ _
  simp only [List.length_append, List.length_replicate]
  omega

/-- the diagnostic reported behind `pre`.  (Stated once: `rfl` for the first part at a concrete message
    makes the unifier decode the string literal.) -/
theorem diag_after (err pre rest : Str) :
    (latexErrorDiag err pre.length (pre ++ rest)).msg = err ∧
    (latexErrorDiag err pre.length (pre ++ rest)).line = countNl pre + 1 ∧
    (latexErrorDiag err pre.length (pre ++ rest)).col = (afterLastNl pre).length + 1 :=
  ⟨rfl, lineCol_after pre rest⟩

theorem pos_in_frame (pre F post : Str) {k : Nat} (h : k < F.length) :
    pre.length + k < (pre ++ (F ++ post)).length := by
  simp only [List.length_append]
  omega

theorem getTxtPos_void_run : ∀ (vs : List Tok), (∀ t ∈ vs, t.txt = []) → ∀ rest,
    getTxtPos (vs ++ rest) = getTxtPos rest
  | [], _, _ => rfl
  | v :: vs, h, rest => by
    have hv := h v (List.mem_cons_self ..)
    simp only [List.cons_append, getTxtPos, tokPositions, hv, List.length_nil, List.replicate_zero,
      List.range_zero, List.map_nil, ite_self, List.nil_append,
      getTxtPos_void_run vs (fun x hx => h x (List.mem_cons_of_mem _ hx)) rest]

theorem Vis.void_run : ∀ (vs : List Tok), (∀ t ∈ vs, keepIn t = false) → ∀ {M : List Tok}, Vis M →
    Vis (vs ++ M)
  | [], _, _, hM => hM
  | v :: vs, h, M, hM => by
    intro σ tail ht
    have hv := h v (List.mem_cons_self ..)
    simp only [List.cons_append, List.filter_cons, hv, Bool.false_eq_true, if_false]
    exact Vis.void_run vs (fun x hx => h x (List.mem_cons_of_mem _ hx)) hM σ tail ht

def letToks : Nat → Str → List Tok
  | _, [] => []
  | p, c :: cs => PlainAccent.letTok p c :: letToks (p + 1) cs

def wordSteps (p : Nat) (w : Str) : List ScanStep := (letToks p w).map (fun t => { tok := t, len := 1 })

def wordOk (T : PTables) (st : PState) (w R : Str) : Bool :=
  PlainFootnote.textOk T st w R && w.all (fun c => !isSpace c)

theorem wordOk_cons {T : PTables} {st : PState} {c : Char} {cs R : Str}
    (h : wordOk T st (c :: cs) R = true) :
    PlainFootnote.ChrFacts T st c (cs ++ R) ∧ isSpace c = false ∧ wordOk T st cs R = true := by
  simp only [wordOk, PlainFootnote.textOk, List.all_cons, Bool.and_eq_true, Bool.not_eq_true'] at h
  exact ⟨PlainFootnote.chrFacts h.1.1, h.2.1, by simp [wordOk, h.1.2, h.2.2]⟩

theorem scans_word (T : PTables) (st : PState) (src : Str) (R : Str) : ∀ (w : Str) (pos : Nat),
    wordOk T st w R = true → Scans T.toTables src pos (w ++ R) (wordSteps pos w) (pos + w.length) R
  | [], _, _ => Scans.nil
  | c :: cs, pos, h => by
    obtain ⟨F, hsp, hrest⟩ := wordOk_cons h
    obtain ⟨hst, hms⟩ : structuralChar c = false ∧ matchSpecial T.toTables (c :: (cs ++ R)) = none := by
      rcases F.snd with h' | h'
      · rw [hsp] at h'; cases h'
      · exact h'
    exact ((PlainAccent.scans_char T src pos c _ ⟨hsp, hst, hms⟩).append
      (scans_word T st src R cs (pos + 1) hrest)).to (by simp only [List.length_cons]; omega)

theorem letToks_copy (T : PTables) (st : PState) (R : Str) : ∀ (w : Str) (pos : Nat),
    wordOk T st w R = true → ∀ t ∈ letToks pos w, CopyTok T st t
  | [], _, _, t, ht => by simp [letToks] at ht
  | c :: cs, pos, h, t, ht => by
    obtain ⟨F, hsp, hrest⟩ := wordOk_cons h
    simp only [letToks, List.mem_cons] at ht
    rcases ht with rfl | ht
    · have hst : structuralChar c = false := by
        rcases F.snd with h' | h'
        · rw [hsp] at h'; cases h'
        · exact h'.1
      exact ⟨PlainAccent.plainTok_letTok pos c hst, F.nact, by simp [PlainAccent.letTok],
        Or.inl ⟨rfl, PlainMacro.hasNl_single c hsp⟩⟩
    · exact letToks_copy T st R cs (pos + 1) hrest t ht

theorem letToks_txtpos : ∀ (w : Str) (p : Nat), getTxtPos (letToks p w) = (w, List.range' p w.length)
  | [], _ => rfl
  | c :: cs, p => by
    simp [letToks, getTxtPos, tokPositions, PlainAccent.letTok, letToks_txtpos cs (p + 1), List.range'_succ]

theorem letToks_length : ∀ (w : Str) (p : Nat), (letToks p w).length = w.length
  | [], _ => rfl
  | c :: cs, p => by simp [letToks, letToks_length cs (p + 1)]

theorem KeepsVis.letToks : ∀ (w : Str) (p : Nat), (∀ c ∈ w, isSpace c = false) → ∀ {N : List Tok},
    KeepsVis N → KeepsVis (letToks p w ++ N)
  | [], _, _, _, hN => hN
  | c :: cs, p, h, N, hN => by
    simp only [PlainFault.letToks, List.cons_append]
    exact KeepsVis.text _ rfl (PlainMacro.hasNl_single c (h c (List.mem_cons_self ..)))
      (KeepsVis.letToks cs (p + 1) (fun x hx => h x (List.mem_cons_of_mem _ hx)) hN)

def bracedSteps (pos : Nat) (w : Str) : List ScanStep :=
  { tok := lbr pos, len := 1 } :: (wordSteps (pos + 1) w ++ [{ tok := rbr (pos + 1 + w.length), len := 1 }])

def bracedToks (pos : Nat) (w : Str) : List Tok :=
  lbr pos :: (letToks (pos + 1) w ++ [rbr (pos + 1 + w.length)])

theorem scans_braced (T : PTables) (st : PState) (src : Str) (pos : Nat) (w R : Str)
    (b1 : braceAt T '{' (w ++ '}' :: R) = true) (hw : wordOk T st w ('}' :: R) = true)
    (b2 : braceAt T '}' R = true) :
    Scans T.toTables src pos ('{' :: (w ++ '}' :: R)) (bracedSteps pos w) (pos + (w.length + 2)) R :=
  ((scans_brace T src pos '{' _ (Or.inl rfl) b1).append
    ((scans_word T st src ('}' :: R) w (pos + 1) hw).append
      (scans_brace T src _ '}' _ (Or.inr rfl) b2))).to (by omega)

theorem stepToks_bracedSteps (pos : Nat) (w : Str) :
    stepToks (bracedSteps pos w) = bracedToks pos w ∧ stepDiags (bracedSteps pos w) = [] := by
  obtain ⟨h1, h2⟩ := stepToks_text (bracedSteps pos w) (by
    intro x hx
    simp only [bracedSteps, wordSteps, List.mem_cons, List.mem_append, List.mem_map, List.not_mem_nil,
      or_false] at hx
    rcases hx with rfl | ⟨t, _, rfl⟩ | rfl <;> exact ⟨rfl, rfl⟩)
  refine ⟨?_, h2⟩
  rw [h1]
  simp [bracedSteps, bracedToks, wordSteps, Function.comp_def]

theorem bracedToks_noCom {T : PTables} {st : PState} {w R : Str} (hw : wordOk T st w R = true) (pos : Nat) :
    NoCom (bracedToks pos w) :=
  .cons (by simp [lbr]) (.append (NoCom.copy (letToks_copy T st R w _ hw)) (.cons (by simp [rbr]) .nil))

theorem lookup_of_match {st : PState} {k : Str} {ok : MacroDef → Bool}
    (h : (match lookupMacro st k with
          | some m => ok m
          | none => false) = true) : ∃ m, lookupMacro st k = some m ∧ ok m = true := by
  split at h
  · exact ⟨_, ‹_›, h⟩
  · cases h

theorem prePass_frame {T : PTables} {st1 stS : PState} {X : List Tok} (hnc : NoCom X) (A B : List Tok)
    (hA : ∀ t ∈ A, CopyTok T st1 t) (hB : ∀ t ∈ B, CopyTok T st1 t) :
    prePass T stS (A ++ (X ++ B)) stS = .ok (A ++ (X ++ B), stS) :=
  prePass_noCom T _ _ ((NoCom.copy hA).append (hnc.append (NoCom.copy hB)))

/-- the fuel of the loop in the frame (`omega` on variables: on the list lengths of the frame it is dearer) -/
theorem frame_fuel {a b p F q c d f n : Nat} (hn : n = p + (F + q)) (ha : a ≤ p) (hb : b ≤ q)
    (hf : n + c + d + 2 ≤ f + 1) : a + (c + b) + (d + 1) ≤ f := by
  omega

/-- **the frame of the fault theorems.**  `src = pre ++ (F ++ post)`: `pre` and `post` inert text,
    the scanner runs over `F` in the steps `stepsF` (`hF`: `Scans.eq`, or a step with a diagnostic in
    front of one), their tokens are `X0` and their diagnostics `dF`; the pre-pass hands the loop `X`
    for `X0`, in the state `stW`; the loop turns `X`, in front of the (copied) tokens `B` of `post`,
    into `outX` and the state `stX`; the blank-line removal deletes nothing.  Then the plain text is
    `pre`, the text of `outX`, `post`, and the extracted flows; `pre` and `post` keep their own
    positions. -/
theorem fault_frame (T : PTables) (o : Options) (fs : FS) (thresh : Nat) (pre F post : Str)
    (fuel : Nat) (st1 stW stX : PState) (stepsF : List ScanStep) (X0 : List Tok) (dF : List Diag)
    (X outX : List Tok) (dX cX : Nat) {x y : Str} {xp yp : List Nat}
    (hdefs : o.defs = []) (hextr : o.extr = []) (hrepl : o.hasRepl = false) (hunkn : o.unkn = false)
    (hinit : initParser T fuel o (initialState T o false fs) = .ok ((), st1))
    (hpre : PlainFootnote.textOk T st1 pre (F ++ post) = true)
    (hhead : (F ++ post).head?.all (fun d => !isSpace d) = true)
    (hF : scanAll T.toTables (pre ++ (F ++ post)) pre.length (F ++ post)
      = (stepsF ++ (scanAll T.toTables (pre ++ (F ++ post)) (pre.length + F.length) post).1,
         (scanAll T.toTables (pre ++ (F ++ post)) (pre.length + F.length) post).2))
    (htk : stepToks stepsF = X0) (hdg : stepDiags stepsF = dF)
    (hpost : PlainFootnote.textOk T st1 post [] = true)
    (hpp : ∀ A B, (∀ t ∈ A, CopyTok T st1 t) → (∀ t ∈ B, CopyTok T st1 t) →
      prePass T (workState (rootState st1) (pre ++ (F ++ post)) dF) (A ++ (X0 ++ B))
          (workState (rootState st1) (pre ++ (F ++ post)) dF)
        = .ok (A ++ (X ++ B), stW))
    (hW : Ext st1 stW) (hE : Ext st1 stX)
    (hX : ∀ (B : List Tok), (∀ t ∈ B, CopyTok T st1 t) → ∀ out,
      SeqRun T none dX cX (X ++ B) out stW B (out ++ outX) stX)
    (hrl : ∀ A B a b, LinesOf A a → LinesOf B b → (∀ t ∈ A, CopyTok T st1 t) →
      (∀ t ∈ B, CopyTok T st1 t) →
      removeLines (A ++ (outX ++ B)) = some ((A ++ (outX ++ B)).filter keepOut))
    (hout : getTxtPos outX = (x, xp)) (hflow : getTxtPos (flowsToks stX.extracted) = (y, yp))
    (hf : (pre ++ (F ++ post)).length + cX + dX + 2 ≤ fuel) :
    ∃ r, tex2txt T fuel (pre ++ (F ++ post)) o false thresh fs = .ok r ∧
      r.txt = pre ++ (x ++ (post ++ y)) ∧
      r.pos = List.range' 1 pre.length ++ (xp.map (· + 1)
        ++ (List.range' (pre.length + F.length + 1) post.length ++ yp.map (· + 1))) ∧
      r.unknowns = stX.unknowns ∧ r.diags = stX.diags := by
  obtain ⟨s1, s2, R1, R2, hsc⟩ := scan_frame T st1 _ pre F post stepsF hpre hhead hF hpost
  obtain ⟨htoks, hdiags⟩ := scan_of_steps T.toTables _ s1 stepsF s2 hsc R1.quiet R2.quiet
  rw [htk] at htoks
  rw [hdg] at hdiags
  have hA := R1.copy
  have hB := R2.copy
  obtain ⟨f, rfl⟩ := Nat.exists_eq_add_of_le' (Nat.le_trans (Nat.le_add_left 1 _) hf)
  have hlen : (pre ++ (F ++ post)).length = pre.length + (F.length + post.length) := by
    rw [List.length_append, List.length_append]
  have hseq := seq_frame T stW stX (s1.map (·.tok)) X (s2.map (·.tok)) outX _ dX cX f
    (fun t ht => (hA t ht).ext hW)
    (fun t ht => (hB t ht).ext hE)
    (hX _ hB _)
    (hrl _ _ pre post R1.lines R2.lines hA hB)
    (by rw [List.length_map, List.length_map]; exact frame_fuel hlen R1.len R2.len hf)
  have hw := parserWork_of_prePass (st := rootState st1) (by rw [htoks, hdiags]; exact hpp _ _ hA hB) hseq
  have h := tex2txt_of_work T o fs thresh _ (f + 1) st1 _ _ hdefs hextr hrepl hunkn hinit hw
  refine ⟨_, h, ?_, ?_, rfl, rfl⟩
  · show (getTxtPos _).1 = _
    simp only [getTxtPos_append, getTxtPos_filter_keepOut, R1.txt, R2.txt, hout, hflow,
      List.append_assoc]
  · show (getTxtPos _).2.map (· + 1) = _
    simp only [getTxtPos_append, getTxtPos_filter_keepOut, R1.txt, R2.txt, hout, hflow, List.map_append,
      range'_succ_map, Nat.zero_add, List.append_assoc]

end PlainFault
end Yalafi
