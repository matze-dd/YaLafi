/-
  Proofs/PlainMath.lean — C10 "every inline formula is replaced by one rotating placeholder plus its
  closing punctuation mark", end to end on the model, for documents that consist of inert text (as
  in Proofs/Plain.lean / Proofs/PlainUnknown.lean) and *simple* inline formulas `$body$`.

  Documents
    `Seg`, `render`            text segment | formula body;  `.math b ↦ '$' :: b ++ ['$']`
    `mathPlainChar T c`        admissible body character (per character): no white space, none of
                               `% # \ $ { }`, `[c]` neither in `math_ignore` nor in `math_space`
    `mathAt T c cs`            … in its right context: no special sequence matches at `c`
    `bodyOk`, `dollarAt`, `mathOk`, `segsOk`, `SegsOk`   well-formedness (computable)
  What the maths parser does with the admitted characters (model: `expandMathSection`)
    * a character that is no white space becomes a one-character text token in the scanner and one
      maths token in the section parser: an *operator* token if its text is listed in
      `math_operators` (`+ - / = < >` in the real tables), an *element* token otherwise; in inline
      mode `replace_section` treats both alike (one part, one placeholder);
    * white space inside a formula becomes a space token (a run with two line breaks would be a
      paragraph token: "missing end of maths" — excluded by `bodyOk`); the section parser skips it
      (`skip_space`): it leaves no trace, it does not count as "maths space", the closing punctuation
      mark is the last character that is no white space, and the replacement carries the position of
      the first character that is no white space;
    * punctuation characters are ordinary element tokens; only the last one is looked at.
  Token level
    `DollarTok`, `BodyTok`, `mathSection_body`   the section parser on the body
    `inlineMath_simple`        `expandInlineMath` returns exactly `formulaOut`, rotated state, rest
    `Piece`, `PiecesOk`, `outP`, `removeLines_outP`   buffers of plain tokens and formulas: the blank-line
                               removal only drops the Action tokens
  Source level
    `BodyRun`, `scans_body`, `scans_opening`, `scans_formula`   the scanner on a body, on `$body`, on `$body$`
    `rotN`, `placeholder`, `rotN_headD`, `rotL_headD`, `rotL_placeholder`   the rotation in closed form: the
                               k-th formula takes entry `k mod length` of the stored collection
    `refMath`, `punctOf`, `leadBlanks`   the reference output
    `Item`, `refItems`, `ScanFacts`   a document character by character and the scanner facts in that
                               form; the proof goes through `OItem`, `OScanFacts` of Proofs/PlainMathOpen.lean
  The end-to-end statement `tex2txt_inline_math` is proved in Proofs/PlainMathOpen.lean: a document of
  this class is a document of the class there that has no open formula.

  Side conditions of `tex2txt_inline_math`
    options / initialisation   as in `tex2txt_plain_text`: no --defs, --extr, --repl, --unkn,
                               single-language mode, `st1` = state after `Parser.__init__`
    `SegsOk T st1 segs`        text: `textOk` of PlainUnknown (inert in its full right context, the token
                               behind an active character may be `$`); formula: body admissible and
                               not only white space; both `$` are scanned as the token `$` — in
                               particular two formulas must not touch (`$$` is another key)
    `rotOf st1 (curSettings st1) = some rot`, `rot.inl = repls`, `repls ≠ []`
                               the inline collection of the current language (bundle invariant;
                               Python: `IndexError` on an empty collection)
    `VisibleRepls repls`       no placeholder is blank or contains a line break: then every formula
                               leaves visible text on its line and `remove_pure_action_lines` deletes
                               nothing (with a blank placeholder the line of a formula that stands
                               alone on its line would be deleted)
    `(settingsOf T (curSettings st1)).isSome`   the language settings exist (Python: `KeyError`
                               in `lang_context` otherwise)
    fuel                       `(render segs).length + 2 ≤ fuel` (tight: `$ab$` needs 6)
  Positions: the model (and Python: `MathPartToken.pos` is the position of its first token) pins
  the replacement to the position of the first maths token, i.e. the first character of the body
  that is no white space — *not* to the opening `$`.
-/
import YalafiVerif.Proofs.Plain
import YalafiVerif.Proofs.PlainUnknown
import YalafiVerif.Proofs.PlainSpecial
import YalafiVerif.Proofs.InlineShape
namespace Yalafi
namespace PlainMath

open M

/-! ### the rotation record of the current language -/

theorem rotOf_code (st : PState) (code : Str) (rot : Rot) (h : rotOf st code = some rot) :
    rot.code = code := by
  unfold rotOf at h
  have := List.find?_some h
  simpa using this

theorem rotOf_setRot_of_code (st : PState) (code : Str) (rot r : Rot)
    (h : rotOf st code = some rot) (hr : r.code = rot.code) :
    rotOf (setRot st r) code = some r := by
  have hc := rotOf_code st code rot h
  unfold rotOf setRot at *
  simp only []
  generalize st.rots = rs at h
  induction rs with
  | nil => simp at h
  | cons x xs ih =>
    rw [List.find?_cons] at h
    rw [List.map_cons, List.find?_cons]
    by_cases hx : (x.code == code) = true
    · simp only [hx] at h
      have hxr : x = rot := by simpa using h
      subst hxr
      simp [hc, hr]
    · have hx' : (x.code == code) = false := by simpa using hx
      simp only [hx'] at h
      have hne : (x.code == r.code) = false := by rw [hr, hc]; exact hx'
      simp only [hne, Bool.false_eq_true, if_false, hx']
      exact ih h

theorem rotOf_setRot (st : PState) (code : Str) (rot : Rot) (l : List Str)
    (h : rotOf st code = some rot) :
    rotOf (setRot st { rot with inl := l }) code = some { rot with inl := l } :=
  rotOf_setRot_of_code st code rot _ h rfl

theorem curSettings_setRot (st : PState) (r : Rot) : curSettings (setRot st r) = curSettings st := rfl

/-! ### the maths section of a simple formula -/

/-- the scanner token of a `$`: a SpecialToken if `$` is a key of `special_tokens` (it is, in the
    real tables), an ordinary text token otherwise -/
structure DollarTok (t : Tok) : Prop where
  kind : t.kind = .special ∨ t.kind = .text
  txt : t.txt = ['$']

/-- the scanner token of an admissible body character: a one-character text token that is no
    white space, not `$`, and neither ignored nor taken as space by the maths parser -/
structure BodyTok (T : PTables) (t : Tok) : Prop where
  kind : t.kind = .text
  one : ∃ c, t.txt = [c] ∧ c ≠ '$' ∧ isSpace c = false
  nIgnore : T.mathIgnore.contains t.txt = false
  nSpace : T.mathSpace.contains t.txt = false

/-- the maths token the section parser makes of a body token: an operator token for the
    characters listed in `math_operators` (`+ - / = < >` …), an element token otherwise -/
def mathTokOf (st : PState) (t : Tok) : Tok :=
  mkTok (if st.mathOperators.contains t.txt then .mathOper else .mathElem) t.pos t.txt

theorem isMathTok_mathTokOf (st : PState) (t : Tok) : isMathTok (mathTokOf st t) = true := by
  unfold mathTokOf mkTok isMathTok
  cases st.mathOperators.contains t.txt <;> rfl

theorem mathTokOf_notSpace (st : PState) (t : Tok) : (mathTokOf st t).kind ≠ .mathSpace := by
  unfold mathTokOf mkTok
  split <;> simp

theorem finFilter_math (l : List Tok) (h : ∀ t ∈ l, isMathTok t = true) :
    l.filter (fun t => !(t.kind == Kind.void || t.kind == Kind.action)) = l := by
  rw [List.filter_eq_self]
  intro t ht
  have := h t ht
  unfold isMathTok at this
  cases hk : t.kind <;> simp_all

/-- the section parser passes the token `t` in `c` iterations and appends `o` to its output,
    whatever follows: the form of every per-token lemma (`stop`: the texts that end the section) -/
def MStep (T : PTables) (st : PState) (stop : List Str) (envStop : Option Str) (t : Tok) (c : Nat)
    (o : List Tok) : Prop :=
  ∀ (fuel : Nat) (rest : Buf) (start : Nat) (out : List Tok),
    expandMathSection T (fuel + c) (t :: rest) start stop envStop out st
      = expandMathSection T fuel rest start stop envStop (out ++ o) st

theorem mstep_text (T : PTables) (st : PState) (stop : List Str) (envStop : Option Str) (t : Tok)
    (hk : t.kind = .text) (hstop : stop.contains t.txt = false)
    (hi : T.mathIgnore.contains t.txt = false) (hs : T.mathSpace.contains t.txt = false) :
    MStep T st stop envStop t 1 [mathTokOf st t] := by
  intro fuel rest start out
  have hsk : skipSpace (t :: rest) = t :: rest := by
    simp [skipSpace, isSpaceTok, hk]
  have hv : isVerb t = false := by simp [isVerb, hk]
  rw [expandMathSection.eq_2, hsk]
  simp only [hk, hv, hstop, hi, hs, reduceCtorEq, beq_iff_eq, Bool.false_eq_true, if_false]
  show M.bind' M.get _ st = _
  simp only [M.bind', M.get]
  have hm : isMathTok t = false := by simp [isMathTok, hk]
  have hl : isLang t = false := by simp [isLang, hk]
  have hsp : mathSpecialTxt T t = some t.txt := by simp [mathSpecialTxt, hk]
  simp only [hm, hl, hsp, Bool.false_eq_true, if_false, mathTokOf]
  split <;> rfl

/-- white space in a formula is skipped by the section parser (`skip_space`), at no cost -/
theorem mathSection_space_step (T : PTables) (fuel : Nat) (t : Tok) (rest : Buf) (start : Nat)
    (stop : List Str) (envStop : Option Str) (out : List Tok) (h : t.kind = .space) :
    expandMathSection T fuel (t :: rest) start stop envStop out
      = expandMathSection T fuel rest start stop envStop out := by
  cases fuel with
  | zero => rw [expandMathSection.eq_1, expandMathSection.eq_1]
  | succ f =>
    have hsk : skipSpace (t :: rest) = skipSpace rest := by
      simp [skipSpace, isSpaceTok, h]
    rw [expandMathSection.eq_2, expandMathSection.eq_2, hsk]

theorem mstep_space (T : PTables) (st : PState) (stop : List Str) (envStop : Option Str) (t : Tok)
    (h : t.kind = .space) : MStep T st stop envStop t 0 [] := by
  intro fuel rest start out
  rw [List.append_nil]
  exact congrFun (mathSection_space_step T fuel t rest start stop envStop out h) st

theorem mathSection_run (T : PTables) (st : PState) (stop : List Str) (envStop : Option Str)
    (cost : Tok → Nat) (mo : Tok → List Tok) (tail : Buf) (start : Nat) :
    ∀ (body : List Tok) (fuel : Nat) (out : List Tok),
      (∀ t ∈ body, MStep T st stop envStop t (cost t) (mo t)) →
      expandMathSection T (fuel + (body.map cost).sum) (body ++ tail) start stop envStop out st
        = expandMathSection T fuel tail start stop envStop (out ++ body.flatMap mo) st
  | [], fuel, out, _ => by simp
  | t :: ts, fuel, out, h => by
    rw [List.map_cons, List.sum_cons, Nat.add_comm (cost t), ← Nat.add_assoc, List.cons_append,
      h t (by simp), mathSection_run T st stop envStop cost mo tail start ts fuel _
        (fun x hx => h x (by simp [hx]))]
    simp

theorem mathSection_stop (T : PTables) (st : PState) (fuel : Nat) (start : Nat) (stop : List Str)
    (envStop : Option Str) (e : Tok) (rest : Buf) (out : List Tok)
    (hsp : isSpaceTok e = false) (hp : (e.kind == Kind.par) = false) (hv : isVerb e = false)
    (hs : stop.contains e.txt = true) (ho : ∀ t ∈ out, isMathTok t = true) :
    expandMathSection T (fuel + 1) (e :: rest) start stop envStop out st
      = .ok ({ out := out, term := some e, buf := rest }, st) := by
  have hsk : skipSpace (e :: rest) = e :: rest := by simp [skipSpace, hsp]
  rw [expandMathSection.eq_2, hsk]
  simp only [hp, hv, hs, Bool.false_eq_true, if_false, if_true]
  rw [finFilter_math out ho]
  rfl

/-- the tokens of a formula body the maths parser looks at: white-space tokens are skipped -/
def mathToks (body : List Tok) : List Tok := body.filter (fun t => !(t.kind == Kind.space))

/-- a body token or a white-space token (a run of white space with at most one line break) -/
def BodyItem (T : PTables) (t : Tok) : Prop := BodyTok T t ∨ t.kind = .space

theorem mathToks_cons_space (t : Tok) (ts : List Tok) (h : t.kind = .space) :
    mathToks (t :: ts) = mathToks ts := by
  simp [mathToks, h]

theorem mathToks_cons_body (T : PTables) (t : Tok) (ts : List Tok) (h : BodyTok T t) :
    mathToks (t :: ts) = t :: mathToks ts := by
  simp [mathToks, h.kind]

theorem mathToks_body (T : PTables) (body : List Tok) (hb : ∀ t ∈ body, BodyItem T t) :
    ∀ t ∈ mathToks body, BodyTok T t := by
  intro t ht
  simp only [mathToks, List.mem_filter, Bool.not_eq_true', beq_eq_false_iff_ne] at ht
  rcases hb t ht.1 with h | h
  · exact h
  · exact absurd h ht.2

theorem BodyTok.nstop_inline {T : PTables} {t : Tok} (h : BodyTok T t) :
    ["$".toList, "\\)".toList].contains t.txt = false := by
  obtain ⟨c, hc, hd, _⟩ := h.one
  rw [hc]
  simp [hd]

theorem mathSection_chars (T : PTables) (st : PState) (stop : List Str) (envStop : Option Str)
    (tail : Buf) (start : Nat) : ∀ (body : List Tok) (fuel : Nat) (out : List Tok),
      (∀ t ∈ body, BodyItem T t) → (∀ t ∈ body, BodyTok T t → stop.contains t.txt = false) →
      expandMathSection T (fuel + (mathToks body).length) (body ++ tail) start stop envStop out st
        = expandMathSection T fuel tail start stop envStop (out ++ (mathToks body).map (mathTokOf st)) st
  | [], fuel, out, _, _ => by simp [mathToks]
  | t :: ts, fuel, out, hb, hs => by
    have ih := fun o => mathSection_chars T st stop envStop tail start ts fuel o
      (fun x hx => hb x (by simp [hx])) (fun x hx => hs x (by simp [hx]))
    rcases hb t (by simp) with h | h
    · rw [mathToks_cons_body T t ts h, List.length_cons, ← Nat.add_assoc, List.cons_append,
        mstep_text T st stop envStop t h.kind (hs t (by simp) h) h.nIgnore h.nSpace, ih]
      simp
    · rw [mathToks_cons_space t ts h, List.cons_append,
        mathSection_space_step T _ t _ start stop envStop out h, ih]

theorem DollarTok.stop {d : Tok} (h : DollarTok d) :
    isSpaceTok d = false ∧ (d.kind == Kind.par) = false ∧ isVerb d = false ∧
      ["$".toList, "\\)".toList].contains d.txt = true := by
  rw [h.txt]
  rcases h.kind with hk | hk <;> simp [isSpaceTok, isVerb, hk] <;> decide

theorem map_mathTokOf_math (st : PState) (l : List Tok) : ∀ t ∈ l.map (mathTokOf st), isMathTok t = true := by
  intro t ht
  obtain ⟨u, _, rfl⟩ := List.mem_map.mp ht
  exact isMathTok_mathTokOf st u

theorem mathSection_body (T : PTables) (st : PState) (start : Nat) (d2 : Tok) (rest : Buf)
    (hd : DollarTok d2) (body : List Tok) (fuel : Nat) (out : List Tok) (hf : body.length + 1 ≤ fuel)
    (hb : ∀ t ∈ body, BodyItem T t) (ho : ∀ t ∈ out, isMathTok t = true) :
    expandMathSection T fuel (body ++ d2 :: rest) start ["$".toList, "\\)".toList] none out st
      = .ok ({ out := out ++ (mathToks body).map (mathTokOf st), term := some d2, buf := rest }, st) := by
  have hl : (mathToks body).length ≤ body.length := List.length_filter_le _ _
  obtain ⟨f, rfl⟩ : ∃ f, fuel = (f + 1) + (mathToks body).length :=
    ⟨fuel - (mathToks body).length - 1, by omega⟩
  obtain ⟨h1, h2, h3, h4⟩ := hd.stop
  rw [mathSection_chars T st _ none _ start body (f + 1) out hb (fun t _ h => h.nstop_inline),
    mathSection_stop T st f start _ none d2 rest _ h1 h2 h3 h4]
  intro t ht
  rcases List.mem_append.mp ht with ht | ht
  · exact ho t ht
  · exact map_mathTokOf_math st _ t ht

/-! ### `expandInlineMath` on a simple formula -/

def firstPos : List Tok → Nat
  | [] => 0
  | t :: _ => t.pos

def bodyTxt (body : List Tok) : Str := body.flatMap (·.txt)

/-- the closing punctuation mark of a formula body: its last character, if that is one of the
    `math_punctuation` characters -/
def punctChar (T : PTables) (s : Str) : Option Char :=
  match s.getLast? with
  | some c => if T.mathPunctuation.contains [c] then some c else none
  | none => none

/-- what `expand_inline_math` returns for a simple formula: an Action token at the position `p` of
    the opening `$`, the placeholder `ph` and the closing punctuation mark as position-fixed text
    tokens at the position `q` of the first token of the body, an Action token at `q` -/
def formulaOut (T : PTables) (ph : Str) (p q : Nat) (s : Str) : List Tok :=
  [mkAction p, mkFix .text q ph]
    ++ (match punctChar T s with | some c => [mkFix .text q [c]] | none => [])
    ++ [mkAction q]

theorem lastNonBlank_of_nonspace (s : Str) (h : ∀ c ∈ s, isSpace c = false) :
    lastNonBlank s = s.getLast? := by
  unfold lastNonBlank
  rw [← List.head?_reverse]
  cases hr : s.reverse with
  | nil => rfl
  | cons a l =>
    have : isSpace a = false := h a (by rw [← List.mem_reverse, hr]; simp)
    simp [this]

theorem getTextDirect_mathToks (st : PState) (body : List Tok) :
    getTextDirect (body.map (mathTokOf st)) = bodyTxt body := by
  unfold getTextDirect bodyTxt
  induction body with
  | nil => rfl
  | cons t ts ih =>
    have hk : ((mathTokOf st t).kind != Kind.comment) = true := by
      unfold mathTokOf mkTok
      cases st.mathOperators.contains t.txt <;> rfl
    simp only [List.map_cons, List.filter_cons, hk, if_true, List.flatMap_cons, ih]
    rfl

theorem bodyTxt_nonspace (T : PTables) (body : List Tok) (hb : ∀ t ∈ body, BodyTok T t) :
    ∀ c ∈ bodyTxt body, isSpace c = false := by
  intro c hc
  unfold bodyTxt at hc
  obtain ⟨t, ht, hct⟩ := List.mem_flatMap.mp hc
  obtain ⟨d, hd, _, hs⟩ := (hb t ht).one
  rw [hd] at hct
  simp only [List.mem_singleton] at hct
  rw [hct]; exact hs

theorem partPunct_mathToks (T : PTables) (st : PState) (body : List Tok)
    (hb : ∀ t ∈ body, BodyTok T t) :
    partPunct T (body.map (mathTokOf st)) = punctChar T (bodyTxt body) := by
  unfold partPunct punctChar
  rw [getTextDirect_mathToks, lastNonBlank_of_nonspace _ (bodyTxt_nonspace T body hb)]
  cases (bodyTxt body).getLast? <;> rfl

theorem inlineShape_last_pos (T : PTables) (ts : List Tok) (t0 tl : Tok) (r0 : Str) (a : Tok) (d : Nat) :
    (((a :: inlineShape T ts t0 tl r0).getLast?).map (·.pos)).getD d = t0.pos := by
  have hne : inlineShape T ts t0 tl r0 ≠ [] := by unfold inlineShape; simp
  have h1 : (a :: inlineShape T ts t0 tl r0).getLast?
      = some ((inlineShape T ts t0 tl r0).getLast hne) := by
    rw [List.getLast?_cons]
    simp [List.getLast?_eq_some_getLast hne]
  rw [h1]
  exact (inlineShape_fix_pos T ts t0 tl r0 _ (List.getLast_mem hne)).2

/-- **`expandInlineMath` behind its section.**  If the section parser returns the maths tokens `mb`
    (first `t0`, last `tl`, not all maths space) without changing the state, the call returns an
    Action token at the opening delimiter, `inlineShape` with the head of the once-rotated collection,
    an Action token at `t0`, and stores the rotated collection.  Every class of inline formulas
    (characters, control words, special sequences, both delimiters) is an instance. -/
theorem inlineMath_of_section (T : PTables) (st : PState) (fuel : Nat) (buf : Buf) (d1 : Tok)
    (mb : List Tok) (term : Option Tok) (rest : Buf) (t0 tl : Tok) (rot : Rot) (ls : LangSettings) (r0 : Str)
    (hsec : expandMathSection T fuel buf d1.pos ["$".toList, "\\)".toList] none [] st
      = .ok ({ out := mb, term := term, buf := rest }, st))
    (hmath : ∀ t ∈ mb, isMathTok t = true) (h0 : mb.head? = some t0) (hl : mb.getLast? = some tl)
    (hns : mb.all (·.kind == .mathSpace) = false)
    (hrot : rotOf st (curSettings st) = some rot) (hls : settingsOf T (curSettings st) = some ls)
    (hr : (rotL rot.inl).head? = some r0) :
    expandInlineMath T (fuel + 1) buf d1 st
      = .ok ((mkAction d1.pos :: (inlineShape T mb t0 tl r0 ++ [mkAction t0.pos]), rest),
             setRot st { rot with inl := rotL rot.inl }) := by
  have hmne : mb ≠ [] := by intro e; rw [e] at h0; cases h0
  obtain ⟨rs, hrs, hrepls, _, hout⟩ := replaceSection_inline_single T ls.opText ls.opDefault
    mb true true rot.inl t0 tl r0 h0 hl hns hr
  rw [← detectMathParts_single _ hmath hmne] at hrs
  rw [expandInlineMath.eq_2]
  refine (M.bind_ok _ _ _ _ _ hsec).trans ?_
  refine (M.bind_ok _ _ _ _ _ (rfl : M.get st = _)).trans ?_
  simp only [hrot, hls, hrs]
  refine (M.bind_ok _ _ _ _ _ (rfl : M.modify _ _ = _)).trans ?_
  show Outcome.ok _ = _
  rw [hrepls, hout, inlineShape_last_pos]
  rfl

/-- **C10 on `expandInlineMath`.**  For a simple formula (buffer = body tokens, closing `$`,
    rest) the call returns exactly `formulaOut` with the head of the once-rotated collection as
    the placeholder, the remaining buffer, and the state in which the rotated collection is
    stored; nothing else in the state changes.  Fuel: one unit for the call, at most one per body
    token and one for the closing `$`. -/
theorem inlineMath_simple (T : PTables) (st : PState) (fuel : Nat) (d1 d2 : Tok) (body : List Tok)
    (rest : Buf) (rot : Rot) (ls : LangSettings) (r0 : Str)
    (hd2 : DollarTok d2) (hne : mathToks body ≠ []) (hb : ∀ t ∈ body, BodyItem T t)
    (hf : body.length + 1 ≤ fuel)
    (hrot : rotOf st (curSettings st) = some rot) (hls : settingsOf T (curSettings st) = some ls)
    (hr : (rotL rot.inl).head? = some r0) :
    expandInlineMath T (fuel + 1) (body ++ d2 :: rest) d1 st
      = .ok ((formulaOut T r0 d1.pos (firstPos (mathToks body)) (bodyTxt (mathToks body)), rest),
             setRot st { rot with inl := rotL rot.inl }) := by
  have hsec := mathSection_body T st d1.pos d2 rest hd2 body fuel [] hf hb (by simp)
  rw [List.nil_append] at hsec
  have hbm := mathToks_body T body hb
  generalize mathToks body = mb at hsec hne hbm
  obtain ⟨t, ts, rfl⟩ : ∃ t ts, mb = t :: ts := by
    cases mb with
    | nil => exact absurd rfl hne
    | cons t ts => exact ⟨t, ts, rfl⟩
  have hmne : (t :: ts).map (mathTokOf st) ≠ [] := by simp
  have hlk : ¬ (((t :: ts).map (mathTokOf st)).getLast hmne).kind = .mathSpace := by
    obtain ⟨u, _, hu⟩ := List.mem_map.mp (List.getLast_mem hmne)
    rw [← hu]; exact mathTokOf_notSpace st u
  rw [inlineMath_of_section T st fuel _ d1 _ _ rest (mathTokOf st t) _ rot ls r0 hsec
    (map_mathTokOf_math st _) rfl (List.getLast?_eq_some_getLast hmne)
    (by simp [mathTokOf_notSpace st t]) hrot hls hr]
  unfold inlineShape formulaOut
  rw [partPunct_mathToks T st _ hbm, if_neg (mathTokOf_notSpace st t), if_neg hlk]
  cases punctChar T (bodyTxt (t :: ts)) <;> simp [mkFix, mkAction, firstPos, mathTokOf, mkTok]

/-! ### `expandSequence` on plain tokens and simple formulas -/

theorem headD_of_ne_nil (l : List Str) (h : l ≠ []) : l.head? = some (l.headD []) := by
  cases l with
  | nil => exact absurd rfl h
  | cons a t => rfl

theorem DollarTok.inline {d : Tok} (h : DollarTok d) : (txtIs d "$" || txtIs d "\\(") = true := by
  simp [txtIs, h.txt]

/-- the loop on a simple formula: one iteration, whose call of `expandInlineMath` needs a unit per body
    token and two more; charged as one unit per token of the formula, so that one must remain behind -/
theorem seqRun_formula {T : PTables} {envStop : Option Str} {st : PState} {d1 d2 : Tok} {b : List Tok}
    {rot : Rot} {ls : LangSettings} (X : Buf) (out : List Tok) (hd1 : DollarTok d1)
    (hbne : mathToks b ≠ []) (hb : ∀ t ∈ b, BodyItem T t) (hd2 : DollarTok d2)
    (hrot : rotOf st (curSettings st) = some rot) (hne : rot.inl ≠ [])
    (hls : settingsOf T (curSettings st) = some ls) :
    SeqRun T envStop 1 (b.length + 2) (d1 :: (b ++ d2 :: X)) out st X
      (out ++ formulaOut T ((rotL rot.inl).headD []) d1.pos (firstPos (mathToks b)) (bodyTxt (mathToks b)))
      (setRot st { rot with inl := rotL rot.inl }) :=
  .of_eq (m := b.length + 1) (k := 2) (j := 1) (fun f hf => by
    rw [loop_inline hd1.kind hd1.inline]
    exact M.bind_ok _ _ _ _ _ (inlineMath_simple T st f d1 d2 b X rot ls _ hd2 hbne hb hf hrot hls
      (headD_of_ne_nil _ (rotL_ne_nil _ hne)))) (by omega) (by omega)

inductive Piece where
  | tok (t : Tok)
  | math (d1 : Tok) (body : List Tok) (d2 : Tok)

def Piece.toks : Piece → List Tok
  | .tok t => [t]
  | .math d1 b d2 => d1 :: (b ++ [d2])

def flat : List Piece → List Tok
  | [] => []
  | p :: ps => p.toks ++ flat ps

def TokShape (t : Tok) : Prop :=
  t.txt ≠ [] ∧
  ((t.kind = .text ∧ hasNl t.txt = false) ∨ ((t.kind = .space ∨ t.kind = .par) ∧ isBlank t.txt = true))

def PiecesOk (T : PTables) (st : PState) : List Piece → Prop
  | [] => True
  | .tok t :: rest => PlainTok t ∧ PassTok T st t (flat rest) ∧ TokShape t ∧ PiecesOk T st rest
  | .math d1 b d2 :: rest =>
    DollarTok d1 ∧ mathToks b ≠ [] ∧ (∀ t ∈ b, BodyItem T t) ∧ DollarTok d2 ∧ PiecesOk T st rest

/-- what `expandSequence` emits for the pieces before the blank-line removal, `l` being the stored
    placeholder collection: the formulas take the heads of `rotL l`, `rotL (rotL l)`, … -/
def outP (T : PTables) : List Str → List Piece → List Tok
  | _, [] => []
  | l, .tok t :: rest => t :: outP T l rest
  | l, .math d1 b _ :: rest =>
    formulaOut T ((rotL l).headD []) d1.pos (firstPos (mathToks b)) (bodyTxt (mathToks b))
      ++ outP T (rotL l) rest

def rotN : Nat → List Str → List Str
  | 0, l => l
  | n + 1, l => rotN n (rotL l)

def nMath : List Piece → Nat
  | [] => 0
  | .tok _ :: rest => nMath rest
  | .math .. :: rest => nMath rest + 1

/-! ### the blank-line removal deletes nothing: every formula leaves visible text -/

def VisibleRepls (l : List Str) : Prop := ∀ r ∈ l, hasNl r = false ∧ isBlank r = false

theorem mem_rotL (l : List Str) (x : Str) (h : x ∈ rotL l) : x ∈ l := by
  simp only [rotL, List.mem_append] at h
  rcases h with h | h
  · exact List.mem_of_mem_drop h
  · exact List.mem_of_mem_take h

theorem mem_rotN : ∀ (k : Nat) (l : List Str) (x : Str), x ∈ rotN k l → x ∈ l
  | 0, _, _, h => h
  | k + 1, l, x, h => mem_rotL l x (mem_rotN k (rotL l) x h)

theorem VisibleRepls.rotL {l : List Str} (h : VisibleRepls l) : VisibleRepls (rotL l) :=
  fun r hr => h r (mem_rotL l r hr)

theorem VisibleRepls.next {l : List Str} (h : VisibleRepls l) (hne : l ≠ []) :
    hasNl ((Yalafi.rotL l).headD []) = false ∧ isBlank ((Yalafi.rotL l).headD []) = false :=
  h.rotL _ (List.mem_of_mem_head? (by rw [headD_of_ne_nil _ (rotL_ne_nil l hne)]; rfl))

theorem punctChar_mem (T : PTables) (s : Str) (c : Char) (h : punctChar T s = some c) : c ∈ s := by
  unfold punctChar at h
  cases hl : s.getLast? with
  | none => simp [hl] at h
  | some d =>
    simp only [hl] at h
    split at h
    · have : d = c := by simpa using h
      subst this
      exact List.mem_of_getLast? hl
    · cases h

theorem _root_.Yalafi.TextTok.tokShape {T : PTables} {st : PState} {ftt : Str → Str} {src : Str} {p : Nat} {c : Char}
    {cs : Str} {s : ScanStep} {rs : List ScanStep} (K : TextTok T st ftt src p c cs s rs) : TokShape s.tok := by
  refine ⟨K.shape.ne, ?_⟩
  by_cases hsp : isSpace c = true
  · exact Or.inr ⟨K.white hsp, K.shape.blankOrOne.resolve_right (fun h => by rw [hsp] at h; cases h.2)⟩
  · have hsp' : isSpace c = false := by simpa using hsp
    exact Or.inl ⟨(K.one hsp').2, by rw [K.shape.head, (K.one hsp').1]; exact PlainMacro.hasNl_single c hsp'⟩

/-- a token the loop copies keeps the line automaton off a pure Action line -/
theorem lineTo_tokShape {t : Tok} (h : TokShape t) : LineTo LOk LOk [t] := by
  rcases h.2 with ⟨hkind, hnl⟩ | ⟨hkind, hbl⟩
  · exact .text hkind hnl fun σ hσ => by
      split
      · exact hσ
      · exact nofun
  · exact .ws hkind hbl

-- without `generalizing := false` the `match` would take `hc` along
theorem lineTo_punct (q : Nat) (pc : Option Char) (hc : ∀ c, pc = some c → isSpace c = false) :
    LineTo LVis LVis (match (generalizing := false) pc with | some c => [mkFix .text q [c]] | none => []) := by
  cases pc with
  | none => exact .nil
  | some c => exact .textVis rfl (PlainMacro.hasNl_single c (hc c rfl))

theorem lineTo_formula (T : PTables) (ph : Str) (p q : Nat) (s : Str)
    (hph : hasNl ph = false ∧ isBlank ph = false) (hs : ∀ c ∈ s, isSpace c = false) :
    LineTo LAny LVis (formulaOut T ph p q s) := by
  -- unfolded first and with the tokens named: left to unification the term runs out of heartbeats
  unfold formulaOut
  exact (((LineTo.actionAny (t := mkAction p) rfl).cons (.visible (t := mkFix .text q ph) rfl hph.1 hph.2)).append
    (lineTo_punct q _ fun c hc => hs c (punctChar_mem T s c hc))).append (.actionVis (t := mkAction q) rfl)

theorem lineTo_outP (T : PTables) (st : PState) : ∀ (ps : List Piece) (l : List Str),
    PiecesOk T st ps → VisibleRepls l → l ≠ [] → LineTo LOk LOk (outP T l ps)
  | [], _, _, _, _ => .nil
  | .tok _ :: ps, l, hok, hl, hne => (lineTo_tokShape hok.2.2.1).cons (lineTo_outP T st ps l hok.2.2.2 hl hne)
  | .math d1 b _ :: ps, l, hok, hl, hne =>
    (lineTo_formula T _ d1.pos _ _ (hl.next hne) (bodyTxt_nonspace T _ (mathToks_body T b hok.2.2.1))).ok.append
      (lineTo_outP T st ps (rotL l) hok.2.2.2.2 hl.rotL (rotL_ne_nil l hne))

theorem removeLines_outP (T : PTables) (st : PState) (ps : List Piece) (l : List Str)
    (hok : PiecesOk T st ps) (hl : VisibleRepls l) (hne : l ≠ []) :
    removeLines (outP T l ps) = some ((outP T l ps).filter keepOut) :=
  (lineTo_outP T st ps l hok hl hne).removeLines

/-! ### the documents -/

inductive Seg where
  | txt (s : Str)
  | math (body : Str)
deriving Repr, DecidableEq

def Seg.render : Seg → Str
  | .txt s => s
  | .math body => '$' :: (body ++ ['$'])

def render : List Seg → Str
  | [] => []
  | s :: rest => s.render ++ render rest

/-- admissible body character (the part that depends on the character alone): no white space, none
    of `% # \ $ { }`, and a one-character token with this text is neither ignored
    (`math_ignore`) nor taken as maths space (`math_space`, e.g. `~`) by the maths parser -/
def mathPlainChar (T : PTables) (c : Char) : Bool :=
  !isSpace c && !structuralChar c && !T.mathIgnore.contains [c] && !T.mathSpace.contains [c]

/-- the body character `c`, followed by `cs` (the whole rest of the source), is admissible: in
    addition no special sequence of the tables matches at `c` (e.g. `--`, `_`, `^`, `&`, `~`) -/
def mathAt (T : PTables) (c : Char) (cs : Str) : Bool :=
  mathPlainChar T c && (matchSpecial T.toTables (c :: cs)).isNone

/-- the body `s`, followed by `R`: every character is admissible in front of the rest of the source,
    or it is white space and the run of white space that starts there has at most one line break
    (two line breaks make a paragraph token, which ends the formula with an error) -/
def bodyOk (T : PTables) : Str → Str → Bool
  | [], _ => true
  | c :: cs, R =>
    (if isSpace c then decide (countNl ((c :: (cs ++ R)).takeWhile isSpace) < 2)
     else mathAt T c (cs ++ R)) && bodyOk T cs R

/-- a `$` followed by `rest` is scanned as the one-character token `$`: the special sequence
    that matches here, if any, is `$` itself (not `$$`) -/
def dollarAt (T : PTables) (rest : Str) : Bool :=
  match matchSpecial T.toTables ('$' :: rest) with
  | none => true
  | some t => t == ['$']

def mathOk (T : PTables) (body R : Str) : Bool :=
  body.any (fun c => !isSpace c) && dollarAt T (body ++ '$' :: R) && bodyOk T body ('$' :: R) &&
  dollarAt T R

def segsOk (T : PTables) (st : PState) : List Seg → Bool
  | [] => true
  | .txt s :: rest => textOk T st s (render rest) && segsOk T st rest
  | .math body :: rest => mathOk T body (render rest) && segsOk T st rest

/-- the source as a list of text characters (with their positions) and formulas (with the position
    of the opening `$`) -/
inductive Item where
  | chr (c : Char) (p : Nat)
  | math (p : Nat) (body : Str)

def chrItems : Nat → Str → List Item
  | _, [] => []
  | p, c :: cs => .chr c p :: chrItems (p + 1) cs

/-- the reference output (text, 0-based positions) for a list of items, `l` being the stored
    placeholder collection: a text character is copied with its position; a formula is replaced by
    the head of the once more rotated collection and its closing punctuation mark, every character
    of which carries the position of the first character of the body that is no white space -/
def refItems (T : PTables) : List Str → List Item → Str × List Nat
  | _, [] => ([], [])
  | l, .chr c p :: rest => (c :: (refItems T l rest).1, p :: (refItems T l rest).2)
  | l, .math p body :: rest =>
    let t := (rotL l).headD [] ++ (punctChar T (body.filter (fun c => !isSpace c))).toList
    (t ++ (refItems T (rotL l) rest).1,
     List.replicate t.length (p + 1 + (body.takeWhile isSpace).length) ++ (refItems T (rotL l) rest).2)

def nFormulas : List Item → Nat
  | [] => 0
  | .chr .. :: rest => nFormulas rest
  | .math .. :: rest => nFormulas rest + 1

theorem chrItems_append : ∀ (p : Nat) (a b : Str),
    chrItems p (a ++ b) = chrItems p a ++ chrItems (p + a.length) b
  | _, [], _ => rfl
  | p, c :: cs, b => by
    simp only [List.cons_append, chrItems, chrItems_append (p + 1) cs b, List.length_cons]
    rw [show p + 1 + cs.length = p + (cs.length + 1) by omega]

/-! ### the scanner -/

theorem nextToken_dollar (T : PTables) (src : Str) (pos : Nat) (rest : Str)
    (h : dollarAt T rest = true) :
    ∃ k, (k = Kind.special ∨ k = Kind.text) ∧
      nextToken T.toTables src pos ('$' :: rest)
        = { tok := { kind := k, pos := pos, txt := ['$'] }, len := 1 } := by
  unfold dollarAt at h
  unfold nextToken
  simp only [show isSpace '$' = false by decide, show ('$' == '%') = false by decide,
    show ('$' == '#') = false by decide, show ('$' == '\\') = false by decide,
    Bool.false_eq_true, if_false]
  cases hm : matchSpecial T.toTables ('$' :: rest) with
  | none => exact ⟨.text, Or.inr rfl, rfl⟩
  | some t =>
    rw [hm] at h
    have : t = ['$'] := by simpa using h
    subst this
    exact ⟨.special, Or.inl rfl, rfl⟩

structure MathAtFacts (T : PTables) (c : Char) (cs : Str) : Prop where
  nsp : isSpace c = false
  nst : structuralChar c = false
  nig : T.mathIgnore.contains [c] = false
  nms : T.mathSpace.contains [c] = false
  nsq : matchSpecial T.toTables (c :: cs) = none

theorem mathAtFacts {T : PTables} {c : Char} {cs : Str} (h : mathAt T c cs = true) :
    MathAtFacts T c cs := by
  simp only [mathAt, mathPlainChar, Bool.and_eq_true, Bool.not_eq_true',
    Option.isNone_iff_eq_none] at h
  obtain ⟨⟨⟨⟨h1, h2⟩, h3⟩, h4⟩, h5⟩ := h
  exact ⟨h1, h2, h3, h4, h5⟩

def bodyTokAt (pos : Nat) (c : Char) : Tok := { kind := .text, pos := pos, txt := [c] }

theorem nextToken_body (T : PTables) (src : Str) (pos : Nat) (c : Char) (cs : Str)
    (h : MathAtFacts T c cs) :
    nextToken T.toTables src pos (c :: cs) = { tok := bodyTokAt pos c, len := 1 } := by
  have hst := h.nst
  simp only [structuralChar, Bool.or_eq_false_iff, beq_eq_false_iff_ne] at hst
  obtain ⟨⟨⟨⟨⟨h1, h2⟩, h3⟩, _⟩, _⟩, _⟩ := hst
  simp [nextToken, h.nsp, h1, h2, h3, h.nsq, bodyTokAt]

theorem bodyTok_bodyTokAt (T : PTables) (pos : Nat) (c : Char) (cs : Str) (h : MathAtFacts T c cs) :
    BodyTok T (bodyTokAt pos c) := by
  have hst := h.nst
  simp only [structuralChar, Bool.or_eq_false_iff, beq_eq_false_iff_ne] at hst
  obtain ⟨⟨⟨_, h4⟩, _⟩, _⟩ := hst
  exact ⟨rfl, ⟨c, rfl, h4, h.nsp⟩, h.nig, h.nms⟩

theorem bodyOk_drop (T : PTables) (R : Str) : ∀ (k : Nat) (s : Str), bodyOk T s R = true →
    bodyOk T (s.drop k) R = true
  | 0, _, h => by simpa using h
  | _ + 1, [], h => by simpa using h
  | k + 1, c :: cs, h => by
    simp only [bodyOk, Bool.and_eq_true] at h
    simpa using bodyOk_drop T R k cs h.2

end PlainMath
namespace PlainMathOpen

/-- what may follow a formula body: the run of white space at the head of `R` (if any) is a
    paragraph break — a white-space run at the end of the body that makes a space token does not
    reach into `R` -/
def Boundary (R : Str) : Prop := countNl (R.takeWhile isSpace) < 2 → R.takeWhile isSpace = []

theorem takeWhile_body (R : Str) (hR : Boundary R) : ∀ s : Str,
    countNl ((s ++ R).takeWhile isSpace) < 2 → (s ++ R).takeWhile isSpace = s.takeWhile isSpace
  | [], h => by simpa using hR (by simpa using h)
  | a :: s, h => by
    by_cases ha : isSpace a = true
    · simp only [List.cons_append, List.takeWhile_cons, ha, if_true] at h ⊢
      rw [takeWhile_body R hR s (Nat.lt_of_le_of_lt List.count_le_count_cons h)]
    · simp [ha]

theorem boundary_cons (x : Char) (R : Str) (hx : isSpace x = false) : Boundary (x :: R) := by
  intro _; simp [hx]

theorem boundary_dollar (R : Str) : Boundary ('$' :: R) := boundary_cons '$' R (by decide)

theorem boundary_nil : Boundary [] := fun _ => rfl

theorem boundary_par (w R : Str) (hw : ∀ c ∈ w, isSpace c = true) (h2 : 2 ≤ countNl w) :
    Boundary (w ++ R) := by
  intro h
  unfold countNl at h h2
  rw [List.takeWhile_append_of_pos hw, List.count_append] at h
  omega

end PlainMathOpen
namespace PlainMath
open M
open PlainMathOpen (Boundary takeWhile_body)

def bodyToksOf : Nat → Str → List Tok
  | _, [] => []
  | p, c :: cs => if isSpace c then bodyToksOf (p + 1) cs else bodyTokAt p c :: bodyToksOf (p + 1) cs

theorem bodyToksOf_space : ∀ (w s : Str) (p : Nat), (∀ c ∈ w, isSpace c = true) →
    bodyToksOf p (w ++ s) = bodyToksOf (p + w.length) s
  | [], _, _, _ => rfl
  | c :: w, s, p, h => by
    simp only [List.cons_append, bodyToksOf, h c (by simp), if_true, List.length_cons]
    rw [bodyToksOf_space w s (p + 1) (fun d hd => h d (by simp [hd]))]
    congr 1; omega

theorem bodyTxt_bodyToksOf : ∀ (s : Str) (p : Nat),
    bodyTxt (bodyToksOf p s) = s.filter (fun c => !isSpace c)
  | [], _ => rfl
  | c :: cs, p => by
    have ih := bodyTxt_bodyToksOf cs (p + 1)
    simp only [bodyTxt] at ih ⊢
    by_cases h : isSpace c = true
    · simp [bodyToksOf, h, ih]
    · simp [bodyToksOf, h, ih, bodyTokAt]

theorem firstPos_bodyToksOf : ∀ (s : Str) (p : Nat), s.any (fun c => !isSpace c) = true →
    firstPos (bodyToksOf p s) = p + (s.takeWhile isSpace).length
  | [], _, h => by simp at h
  | c :: cs, p, h => by
    by_cases hc : isSpace c = true
    · have h' : cs.any (fun c => !isSpace c) = true := by simpa [hc] using h
      simp only [bodyToksOf, hc, if_true, firstPos_bodyToksOf cs (p + 1) h',
        List.takeWhile_cons, List.length_cons]
      omega
    · simp [bodyToksOf, hc, firstPos, bodyTokAt]

theorem mem_bodyToksOf : ∀ (s : Str) (p : Nat) (t : Tok), t ∈ bodyToksOf p s →
    ∃ q c, c ∈ s ∧ t = bodyTokAt q c
  | [], _, _, h => by simp [bodyToksOf] at h
  | c :: cs, p, t, h => by
    simp only [bodyToksOf] at h
    split at h
    · obtain ⟨q, d, hd, e⟩ := mem_bodyToksOf cs (p + 1) t h
      exact ⟨q, d, by simp [hd], e⟩
    · rcases List.mem_cons.mp h with e | h
      · exact ⟨p, c, by simp, e⟩
      · obtain ⟨q, d, hd, e⟩ := mem_bodyToksOf cs (p + 1) t h
        exact ⟨q, d, by simp [hd], e⟩

/-- what the scanner loop yields on a body of simple maths characters that starts at `pos`: the
    tokens that are no white space are `bodyToksOf pos s`, a function of the source alone -/
structure BodyRun (T : PTables) (pos : Nat) (s : Str) (steps : List ScanStep) : Prop where
  ok : ∀ x ∈ steps, x.diag = none ∧ x.extra = [] ∧ BodyItem T x.tok
  len : steps.length ≤ s.length
  toks : mathToks (steps.map (·.tok)) = bodyToksOf pos s
  blank : ∀ y ∈ steps, y.tok.kind = .space → isBlank y.tok.txt = true
  head : ∀ y ys, steps = y :: ys → y.tok.txt = ['['] → s.head? = some '['

theorem BodyRun.nil (T : PTables) (pos : Nat) : BodyRun T pos [] [] :=
  ⟨by simp, by simp, rfl, by simp, by simp⟩

theorem BodyRun.txt {T : PTables} {pos : Nat} {s : Str} {steps : List ScanStep}
    (h : BodyRun T pos s steps) :
    bodyTxt (mathToks (steps.map (·.tok))) = s.filter (fun c => !isSpace c) := by
  rw [h.toks, bodyTxt_bodyToksOf]

theorem BodyRun.first {T : PTables} {pos : Nat} {s : Str} {steps : List ScanStep}
    (h : BodyRun T pos s steps) (hs : s.any (fun c => !isSpace c) = true) :
    firstPos (mathToks (steps.map (·.tok))) = pos + (s.takeWhile isSpace).length := by
  rw [h.toks, firstPos_bodyToksOf s pos hs]

theorem BodyRun.ne {T : PTables} {pos : Nat} {s : Str} {steps : List ScanStep}
    (h : BodyRun T pos s steps) (hs : s.any (fun c => !isSpace c) = true) :
    mathToks (steps.map (·.tok)) ≠ [] := by
  intro e
  have := h.txt
  rw [e] at this
  obtain ⟨c, hc, hcs⟩ := List.any_eq_true.mp hs
  have hm : c ∈ s.filter (fun c => !isSpace c) := List.mem_filter.mpr ⟨hc, hcs⟩
  rw [← this] at hm
  simp [bodyTxt] at hm

theorem BodyRun.txt_ne {T : PTables} {pos : Nat} {s : Str} {steps : List ScanStep}
    (h : BodyRun T pos s steps) (a : Char) (ha : ∀ c ∈ s, c ≠ a) (x : ScanStep) (hx : x ∈ steps)
    (hb : BodyTok T x.tok) : x.tok.txt ≠ [a] := by
  have hm : x.tok ∈ mathToks (steps.map (·.tok)) := by
    simp only [mathToks, List.mem_filter, List.mem_map]
    exact ⟨⟨x, hx, rfl⟩, by simp [hb.kind]⟩
  rw [h.toks] at hm
  obtain ⟨q, c, hc, e⟩ := mem_bodyToksOf s pos _ hm
  rw [e]
  intro e'
  exact ha c hc (by simpa [bodyTokAt] using e')

/-- the scanner runs through a formula body in front of a boundary (a character that is no white
    space, a paragraph break, the end of the text): one text token per character that is no white
    space, one space token per run of white space -/
theorem scans_body (T : PTables) (src : Str) {R : Str} (hR : Boundary R) (s : Str) (pos : Nat)
    (hok : bodyOk T s R = true) :
    ∃ bs, BodyRun T pos s bs ∧ Scans T.toTables src pos (s ++ R) bs (pos + s.length) R := by
  -- a run of white space is one step: induction on a bound of the length
  suffices h : ∀ (n : Nat) (s : Str) (pos : Nat), s.length ≤ n → bodyOk T s R = true →
      ∃ bs, BodyRun T pos s bs ∧ Scans T.toTables src pos (s ++ R) bs (pos + s.length) R from
    h s.length s pos (Nat.le_refl _) hok
  intro n
  induction n with
  | zero =>
    intro s pos hn _
    obtain rfl : s = [] := List.eq_nil_of_length_eq_zero (by omega)
    exact ⟨[], BodyRun.nil T pos, Scans.nil⟩
  | succ n ih =>
    intro s pos hn hok
    cases s with
    | nil => exact ⟨[], BodyRun.nil T pos, Scans.nil⟩
    | cons c cs =>
      have hok0 := hok
      simp only [bodyOk, Bool.and_eq_true] at hok
      simp only [List.length_cons] at hn
      by_cases hsp : isSpace c = true
      · simp only [hsp, if_true, decide_eq_true_eq] at hok
        have hwe : (c :: (cs ++ R)).takeWhile isSpace = (c :: cs).takeWhile isSpace :=
          takeWhile_body R hR (c :: cs) hok.1
        generalize hw : (c :: cs).takeWhile isSpace = w at hwe
        have hw' : w = c :: cs.takeWhile isSpace := by rw [← hw]; simp [hsp]
        have hall : ∀ d ∈ w, isSpace d = true := by
          intro d hd; rw [← hw] at hd; exact mem_takeWhile_imp _ _ _ hd
        have hsplit : w ++ (c :: cs).dropWhile isSpace = c :: cs := by
          rw [← hw]; exact List.takeWhile_append_dropWhile
        generalize hs' : (c :: cs).dropWhile isSpace = s' at hsplit
        have hlen : w.length + s'.length = cs.length + 1 := by
          rw [← List.length_append, hsplit]; rfl
        have hwpos : 1 ≤ w.length := by rw [hw']; simp
        have hnt : nextToken T.toTables src pos (c :: (cs ++ R))
            = { tok := { kind := .space, pos := pos, txt := w }, len := w.length } :=
          wsTok_space (hwe ▸ hok.1) ▸ nextToken_white T.toTables src pos hsp hwe
        have hdrop : (c :: (cs ++ R)).drop w.length = s' ++ R := by
          have : c :: (cs ++ R) = w ++ (s' ++ R) := by
            rw [← List.append_assoc, hsplit]; rfl
          rw [this, List.drop_left]
        have hoks' : bodyOk T s' R = true := by
          have := bodyOk_drop T R w.length (c :: cs) hok0
          rw [← hsplit, List.drop_left] at this
          exact this
        obtain ⟨bs, B, r⟩ := ih s' (pos + w.length) (by omega) hoks'
        refine ⟨{ tok := { kind := .space, pos := pos, txt := w }, len := w.length } :: bs,
          ⟨?_, ?_, ?_, ?_, ?_⟩,
          ((Scans.step hnt hdrop hwpos).append r).to (by simp only [List.length_cons]; omega)⟩
        · intro x hx
          rcases List.mem_cons.mp hx with rfl | hx
          · exact ⟨rfl, rfl, Or.inr rfl⟩
          · exact B.ok x hx
        · have := B.len
          simp only [List.length_cons]
          omega
        · rw [List.map_cons, mathToks_cons_space _ _ rfl, B.toks, ← hsplit,
            bodyToksOf_space w s' pos hall]
        · intro y hy hk
          rcases List.mem_cons.mp hy with rfl | hy
          · simpa [isBlank] using hall
          · exact B.blank y hy hk
        · intro y ys he hbr
          rw [← (List.cons.inj he).1] at hbr
          exact absurd (hall '[' (by rw [show w = ['['] from hbr]; simp)) (by decide)
      · have hsp' : isSpace c = false := by simpa using hsp
        simp only [hsp', Bool.false_eq_true, if_false] at hok
        have facts := mathAtFacts hok.1
        have hbt := bodyTok_bodyTokAt T pos c _ facts
        obtain ⟨bs, B, r⟩ := ih cs (pos + 1) (by omega) hok.2
        refine ⟨{ tok := bodyTokAt pos c, len := 1 } :: bs, ⟨?_, ?_, ?_, ?_, ?_⟩,
          ((Scans.step (nextToken_body T src pos c (cs ++ R) facts) rfl).append r).to
            (by simp only [List.length_cons]; omega)⟩
        · intro x hx
          rcases List.mem_cons.mp hx with rfl | hx
          · exact ⟨rfl, rfl, Or.inl hbt⟩
          · exact B.ok x hx
        · have := B.len
          simp only [List.length_cons]
          omega
        · rw [List.map_cons, mathToks_cons_body T _ _ hbt, B.toks]
          simp [bodyToksOf, hsp']
        · intro y hy hk
          rcases List.mem_cons.mp hy with rfl | hy
          · rw [hbt.kind] at hk; cases hk
          · exact B.blank y hy hk
        · intro y ys he hbr
          rw [← (List.cons.inj he).1] at hbr
          have : c = '[' := by simpa [bodyTokAt] using hbr
          simp [this]

theorem BodyRun.items {T : PTables} {pos : Nat} {s : Str} {steps : List ScanStep}
    (B : BodyRun T pos s steps) : ∀ t ∈ steps.map (·.tok), BodyItem T t := by
  intro t ht
  obtain ⟨x, hx, rfl⟩ := List.mem_map.mp ht
  exact (B.ok x hx).2.2

theorem scans_opening (T : PTables) (src : Str) (pos : Nat) {body R : Str} (hR : Boundary R)
    (hd : dollarAt T (body ++ R) = true) (hb : bodyOk T body R = true) :
    ∃ k bs, (k = Kind.special ∨ k = Kind.text) ∧ BodyRun T (pos + 1) body bs ∧
      Scans T.toTables src pos ('$' :: (body ++ R))
        ({ tok := { kind := k, pos := pos, txt := ['$'] }, len := 1 } :: bs) (pos + 1 + body.length) R := by
  obtain ⟨k, hk, hn⟩ := nextToken_dollar T src pos (body ++ R) hd
  obtain ⟨bs, B, r⟩ := scans_body T src hR body (pos + 1) hb
  exact ⟨k, bs, hk, B, (Scans.step (R := body ++ R) hn rfl).append r⟩

theorem scans_formula (T : PTables) (src : Str) (pos : Nat) {body R : Str}
    (hd1 : dollarAt T (body ++ '$' :: R) = true) (hb : bodyOk T body ('$' :: R) = true)
    (hd2 : dollarAt T R = true) :
    ∃ k1 k2 bs, (k1 = Kind.special ∨ k1 = Kind.text) ∧ (k2 = Kind.special ∨ k2 = Kind.text) ∧
      BodyRun T (pos + 1) body bs ∧
      Scans T.toTables src pos ('$' :: (body ++ '$' :: R))
        ({ tok := { kind := k1, pos := pos, txt := ['$'] }, len := 1 } ::
          (bs ++ [{ tok := { kind := k2, pos := pos + 1 + body.length, txt := ['$'] }, len := 1 }]))
        (pos + (body.length + 2)) R := by
  obtain ⟨k1, bs, hk1, B, r1⟩ := scans_opening T src pos (PlainMathOpen.boundary_dollar R) hd1 hb
  obtain ⟨k2, hk2, hn2⟩ := nextToken_dollar T src (pos + 1 + body.length) R hd2
  exact ⟨k1, k2, bs, hk1, hk2, B, (r1.append (Scans.step (R := R) hn2 rfl)).to (by simp only []; omega)⟩

theorem getTxtPos_action_cons (p : Nat) (ts : List Tok) : getTxtPos (mkAction p :: ts) = getTxtPos ts := by
  simp [getTxtPos, mkAction, tokPositions]

theorem getTxtPos_formulaOut (T : PTables) (ph : Str) (p q : Nat) (s : Str) (rest : List Tok) :
    getTxtPos (formulaOut T ph p q s ++ rest)
      = ((ph ++ (punctChar T s).toList) ++ (getTxtPos rest).1,
         List.replicate (ph ++ (punctChar T s).toList).length q ++ (getTxtPos rest).2) := by
  unfold formulaOut
  cases punctChar T s <;>
    simp [getTxtPos, tokPositions, mkAction, mkFix, List.replicate_succ', List.append_assoc]

structure ScanFacts (T : PTables) (st : PState) (rest : Str) (items : List Item)
    (steps : List ScanStep) : Prop where
  ok : ∀ s ∈ steps, s.diag = none ∧ s.extra = []
  pieces : ∃ ps, steps.map (·.tok) = flat ps ∧ PiecesOk T st ps ∧
    (∀ l, getTxtPos (outP T l ps) = refItems T l items) ∧ nMath ps = nFormulas items
  first : ∀ s ss, steps = s :: ss → s.tok.txt = firstTokTxtM rest
  len : steps.length ≤ rest.length

theorem DollarTok.notComment {d : Tok} (h : DollarTok d) : d.kind ≠ .comment := by
  rcases h.kind with k | k <;> simp [k]

theorem noCom_body {T : PTables} {b : List Tok} (hb : ∀ t ∈ b, BodyItem T t) : NoCom b := by
  intro t ht
  rcases hb t ht with k | k
  · rw [k.kind]; simp
  · rw [k]; simp

/-! ### the rotation in closed form: the k-th formula takes entry `k mod length` -/

theorem rotL_shift (l : List Str) (m : Nat) (hm : m < l.length) :
    rotL (l.drop m ++ l.take m)
      = l.drop ((m + 1) % l.length) ++ l.take ((m + 1) % l.length) := by
  have hd : l.drop m = l[m] :: l.drop (m + 1) := List.drop_eq_getElem_cons hm
  have hrot : rotL (l.drop m ++ l.take m) = l.drop (m + 1) ++ l.take (m + 1) := by
    rw [hd]
    simp only [rotL, List.cons_append, List.drop_succ_cons, List.drop_zero, List.take_succ_cons,
      List.take_zero, List.append_assoc]
    rw [List.take_succ_eq_append_getElem hm]
  rw [hrot]
  by_cases h : m + 1 < l.length
  · rw [Nat.mod_eq_of_lt h]
  · have : m + 1 = l.length := by omega
    rw [this, Nat.mod_self]
    simp

theorem rotN_succ : ∀ (k : Nat) (l : List Str), rotN (k + 1) l = rotL (rotN k l)
  | 0, _ => rfl
  | k + 1, l => by
    show rotN (k + 1) (rotL l) = rotL (rotN k (rotL l))
    exact rotN_succ k (rotL l)

theorem rotN_eq (l : List Str) (hne : l ≠ []) : ∀ k : Nat,
    rotN k l = l.drop (k % l.length) ++ l.take (k % l.length)
  | 0 => by simp [rotN]
  | k + 1 => by
    have hpos : 0 < l.length := List.length_pos_iff.mpr hne
    rw [rotN_succ, rotN_eq l hne k, rotL_shift l _ (Nat.mod_lt _ hpos)]
    congr 2 <;> exact Nat.mod_add_mod k l.length 1

/-- the placeholder of the `k`-th formula (`k` = 1, 2, …): entry `k mod length` of the stored
    collection -/
def placeholder (repls : List Str) (k : Nat) : Str := repls.getD (k % repls.length) []

theorem placeholder_mem (repls : List Str) (hne : repls ≠ []) (k : Nat) : placeholder repls k ∈ repls := by
  have hpos : 0 < repls.length := List.length_pos_iff.mpr hne
  have hm : k % repls.length < repls.length := Nat.mod_lt _ hpos
  unfold placeholder
  rw [List.getD_eq_getElem?_getD, List.getElem?_eq_getElem hm]
  exact List.getElem_mem hm

theorem rotN_headD (l : List Str) (hne : l ≠ []) (k : Nat) : (rotN k l).headD [] = placeholder l k := by
  have hpos : 0 < l.length := List.length_pos_iff.mpr hne
  have hm : k % l.length < l.length := Nat.mod_lt _ hpos
  rw [rotN_eq l hne k, List.drop_eq_getElem_cons hm]
  simp [placeholder, List.getD_eq_getElem?_getD, hm]

/-- the model keeps the collection rotated: the next formula takes the head of `rotL l` -/
theorem rotL_headD (l : List Str) : (rotL l).headD [] = placeholder l 1 := by
  cases l with
  | nil => rfl
  | cons a t => exact rotN_headD (a :: t) (List.cons_ne_nil _ _) 1

theorem rotL_placeholder (l : List Str) (k : Nat) : placeholder (rotL l) k = placeholder l (k + 1) := by
  cases l with
  | nil => rfl
  | cons a t =>
    rw [← rotN_headD _ (rotL_ne_nil _ (List.cons_ne_nil a t)), ← rotN_headD _ (List.cons_ne_nil a t)]
    rfl

/-! ### the reference output of a document -/

/-- closing punctuation of a formula: the last character of the body that is no white space, if
    it is one of the `math_punctuation` characters, else nothing -/
def punctOf (T : PTables) (body : Str) : Str :=
  (punctChar T (body.filter (fun c => !isSpace c))).toList

/-- offset of the first character of a formula body that is no white space -/
def leadBlanks (body : Str) : Nat := (body.takeWhile isSpace).length

/-- the reference output (text, 0-based positions) of the segments that start at offset `p`, `k`
    formulas having been replaced before: text is copied with its positions; the next formula is
    replaced by `placeholder repls (k + 1) ++ punctOf T body`, every character of which carries the
    position of the first character of the body that is no white space (`p` is the offset of the
    opening `$`, so this is `p + 1` for a body without leading white space) -/
def refMath (T : PTables) (repls : List Str) : Nat → Nat → List Seg → Str × List Nat
  | _, _, [] => ([], [])
  | k, p, .txt s :: rest =>
    (s ++ (refMath T repls k (p + s.length) rest).1,
     List.range' p s.length ++ (refMath T repls k (p + s.length) rest).2)
  | k, p, .math body :: rest =>
    ((placeholder repls (k + 1) ++ punctOf T body)
        ++ (refMath T repls (k + 1) (p + (body.length + 2)) rest).1,
     List.replicate (placeholder repls (k + 1) ++ punctOf T body).length (p + 1 + leadBlanks body)
        ++ (refMath T repls (k + 1) (p + (body.length + 2)) rest).2)

def SegsOk (T : PTables) (st : PState) (segs : List Seg) : Prop := segsOk T st segs = true

instance (T : PTables) (st : PState) (segs : List Seg) : Decidable (SegsOk T st segs) := by
  unfold SegsOk; infer_instance

/-! ### a simpler sufficient condition for formula bodies -/

/-- per-character condition: admissible and no special sequence of the tables starts with it
    (real tables: ASCII letters, digits, `" ( ) * + , . / : ; < = > @ [ ] |`; not `-`, which starts
    `--` and is admitted by `mathAt` where no second `-` follows) -/
def mathSimpleChar (T : PTables) (c : Char) : Bool :=
  mathPlainChar T c && startsNoSpecial T.toTables c

theorem bodyOk_of_simple (T : PTables) (R : Str) : ∀ s : Str, s.all (mathSimpleChar T) = true →
    bodyOk T s R = true
  | [], _ => rfl
  | c :: cs, h => by
    simp only [List.all_cons, Bool.and_eq_true, mathSimpleChar] at h
    obtain ⟨⟨h1, h2⟩, h3⟩ := h
    have hsp : isSpace c = false := by
      simp only [mathPlainChar, Bool.and_eq_true, Bool.not_eq_true'] at h1
      exact h1.1.1.1
    simp only [bodyOk, hsp, Bool.false_eq_true, if_false, Bool.and_eq_true, mathAt, h1,
      matchSpecial_none_of_startsNoSpecial _ _ _ h2, Option.isNone_none, true_and]
    exact bodyOk_of_simple T R cs (by simpa [mathSimpleChar] using h3)

/-! ### the hypotheses can be met -/

namespace MathExample
open PlainExample

def enM : LangSettings :=
  { enSettings with inlineRepl := ["B-B-B".toList, "C-C-C".toList, "D-D-D".toList] }

/-- `PlainExample.tinyT` with an inline placeholder collection for 'en', maths punctuation,
    operators, maths space and ignored tokens -/
def tinyM : PTables :=
  { tinyT with
    langs := [enM, deSettings]
    mathPunctuation := [".".toList, ",".toList, ";".toList, ":".toList]
    mathOperators := ["+".toList, "-".toList, "=".toList]
    mathSpace := ["~".toList]
    mathIgnore := ["{".toList, "}".toList] }

def stM : PState := initialState tinyM oEn false []

def segs : List Seg :=
  [.txt "Let ".toList, .math "x + 1".toList, .txt " and ".toList, .math " y, ".toList,
   .txt " be ".toList, .math "z".toList, .txt ".".toList]

def repls : List Str := ["B-B-B".toList, "C-C-C".toList, "D-D-D".toList]

example : render segs = "Let $x + 1$ and $ y, $ be $z$.".toList := by decide

theorem initParser_tinyM : initParser tinyM 40 oEn (initialState tinyM oEn false []) = .ok ((), stM) := by
  with_unfolding_all rfl

theorem segs_ok : SegsOk tinyM stM segs := by decide

theorem repls_visible : VisibleRepls repls := by
  intro r hr
  simp only [repls, List.mem_cons, List.not_mem_nil, or_false] at hr
  rcases hr with rfl | rfl | rfl <;> decide

theorem stM_rot : rotOf stM (curSettings stM)
    = some { code := "en".toList, inl := repls, disp := [], chg := [] } := by
  with_unfolding_all rfl

/-- the reference output: the first formula takes the *second* entry (the collection is rotated
    before the placeholder is taken), the second one the third entry followed by its comma (the last
    character that is no white space), the third one the first entry again; the replacements carry
    the position of the first body character that is no white space (`x`, `y`, `z`) -/
theorem segs_ref : refMath tinyM repls 0 0 segs
    = ("Let C-C-C and D-D-D, be B-B-B.".toList,
       [0, 1, 2, 3, 5, 5, 5, 5, 5, 11, 12, 13, 14, 15, 18, 18, 18, 18, 18, 18, 22, 23, 24, 25,
        27, 27, 27, 27, 27, 29]) := by decide

/-- the side conditions reject what they should: `--` (a special sequence), `_` (a special
    sequence), touching formulas would need the key `$$` (not in the tiny table: they are two
    formulas there), a paragraph break in a formula, a formula of white space only, an empty
    formula; they admit a single `-`, operators, punctuation, a line break in a formula -/
example : segsOk tinyM stM [.math "a--b".toList] = false := by decide
example : segsOk tinyM stM [.math "a_1".toList] = false := by decide
example : segsOk tinyM stM [.math "a\n\nb".toList] = false := by decide
example : segsOk tinyM stM [.math " ".toList] = false := by decide
example : segsOk tinyM stM [.math [] ] = false := by decide
example : segsOk tinyM stM [.math "a~b".toList] = false := by decide
example : segsOk tinyM stM [.math "a{b}".toList] = false := by decide
example : segsOk tinyM stM [.math "\\alpha".toList] = false := by decide
example : segsOk tinyM stM [.math "a-b=c/2*(d+e);".toList, .txt "\n".toList, .math "x\n y".toList] = true := by
  decide

/-
  Recorded `#eval`s.

  * tiny tables: `tex2txt tinyM 40 (render segs) oEn false 0 []` gives the text and positions of the
    example above.  With the blank placeholder collection `[" "]` the source `"x\n $a$ \ny"` yields
    `"x\ny"` (the line of the formula is deleted by `remove_pure_action_lines`), with `tinyM` it yields
    `"x\n C-C-C \ny"`: `VisibleRepls` is needed.  With the empty collection `"$a$"` crashes
    (`mathparser.py:replace_section`, Python `IndexError`): `repls ≠ []` is needed.
  * real tables (`import YalafiVerif.Generated.Tables`, `T := Generated.theTables`,
    `o := { lang := "en".toList }`, `initParser T 2000 o (initialState T o false []) = .ok ((), st1)`):
    - printable ASCII characters with `mathPlainChar T c`:
        ! " & ' ( ) * + , - . / 0-9 : ; < = > ? @ A-Z [ ] ^ _ ` a-z |
      (all ASCII letters, digits and `+ - = < > ( ) / * , . ; :` are among them); not admitted:
      `# $ % \ { }` (structural) and `~` (in `math_space`: it is maths space).  Of the admitted ones
      `& ^ _` always fail the context condition `mathAt` (they are special sequences themselves),
      `- ' ` ! ?` fail it only where `--`, `''`, ` `` `, `` !` ``, `` ?` `` match;
      `mathSimpleChar T c` holds for  " ( ) * + , . / 0-9 : ; < = > @ A-Z [ ] a-z |.
    - `rotOf st1 (curSettings st1)` has `inl = [B-B-B, C-C-C, D-D-D, E-E-E, F-F-F, G-G-G]`
      (`VisibleRepls`), `settingsOf T (curSettings st1)` exists.
    - `"Let $x + 1$ and $ y, $ be $z$."`: `segsOk`; `tex2txt T 2000 … o false 3 []` returns
      `"Let C-C-C and D-D-D, be E-E-E."` with the positions
      [1,2,3,4, 6×5, 12,…,16, 19×6, 23,…,26, 28×5, 30], no unknowns, no diagnostics = `refMath`.
    - `"If $a<b-c/2*(d+e)=f;$\n\nthen $x:$ $0.5$and$A\n B$"`: `segsOk`, output
      `"If C-C-C;\n\nthen D-D-D: E-E-EandF-F-F"` = `refMath`.
    - eight formulas `$a$ $b$ … $h$`: placeholders C D E F G B C D (entry `k mod 6`) = `refMath`.
    - `"x\n $a$ \ny"` ↦ `"x\n C-C-C \ny"`, `"\n$a$\n"` ↦ `"\nC-C-C\n"` (= `refMath`): no line condition.
    - rejected by `segsOk` (and the output differs from the naive reference): `$a!$$b$` (touching
      formulas: `$$` opens a displayed formula), `$a\n\nb$` (paragraph break: two "missing end of
      maths" errors), `$ $` (no placeholder at all, no rotation), `$a--b$`, `$a_1$`, `$a b$` is accepted
      since white space is skipped.
    - the fuel bound is tight: `parserWork T 5 "$ab$" st1 = outOfFuel`, `parserWork T 6 "$ab$" st1` is `ok`.
-/

end MathExample

end PlainMath
end Yalafi
