/-
  Proofs/PlainDispRowsTok.lean — token level of C11 for the ROW / SECTION structure of displayed
  equations (source level: Proofs/PlainDispRows.lean; the end-to-end theorem:
  Proofs/PlainDispRowsE2E.lean; statements for Properties: Properties/PlainDispRowsStmt.lean).

  The body of an equation is   row (`\\` row)*,   row ::= section (`&` section)*,   every section a run
  of simple maths tokens (one-character text tokens that become element / operator tokens, white
  space in between; a section may be empty).

    `partStep`, `replaceStep_disp`      one maths part in display mode, any `first_part` / `next_repl`
    `SecSt`, `secNew`, `replaceSection_disp`   `replace_section` on one section
    `dispCont` (`dispCont_amp`, `dispCont_nl`, `dispCont_end`), `TermAt`, `LoopAt`, `displayLoop_sec`
                                        one iteration of the loop of `expand_display_math`
    `RowT`, `RowsT`, `secsNew`, `rowsNew`, `displayLoop_row`, `displayLoop_rows`   the loop on the rows
    `eqnToks`, `expandDisplayMath_rows` what `expand_display_math` returns
    `Piece`, `PiecesOk`, `outD`, `cost`, `seqRun_disp`, `seqRun_env`, `seqRun_rows`
                                        `expandSequence` on plain tokens and equations
    `lineTo_row`, `lineTo_rows`, `lineTo_eqn`, `removeLines_outD`   the blank-line removal only
                                        drops the Action tokens (first and last row visible)
-/
import YalafiVerif.Proofs.PlainDisplay
namespace Yalafi
namespace PlainDispRows

open M
open PlainMath (BodyTok mathTokOf isMathTok_mathTokOf mathTokOf_notSpace mathToks mathToks_body bodyTxt
  punctChar bodyTxt_nonspace partPunct_mathToks TokShape headD_of_ne_nil VisibleRepls punctChar_mem)
open PlainDisplay (dispStops DTok DItem mathSection_run CloseTok isElemTok isElemSrc find_elem_map
  rotOf_setRot_disp mathSection_close mathSection_end OpenTok seqRun_begEqu
  defEnvOk defEnvOk_facts equEnvAt equEnvAt_facts equEnvOk mbTok)
open PlainMacro (lbr rbr)
open PlainItem (begTok endTok NameToks)

/-! ### one maths part in display mode -/

/-- the language's word for a leading operator: `math_op_text.get(op, math_op_text[None])` -/
def opWord (opText : List (Str × Str)) (d : Str) (x : Str) : Str :=
  ((opText.find? (·.1 == x)).map (·.2)).getD d

/-- what `replace_section` (display mode) does at a maths part `ts` that starts with the token `a`
    and neither starts nor ends with maths space -/
def partStep (T : PTables) (opText : List (Str × Str)) (d : Str) (s : RsState) (ts : List Tok)
    (a : Tok) : RsState :=
  let op := a.kind == .mathOper
  let el := ts.find? (isElemTok T)
  let word := op && s.firstPart
  let r' := if (s.nextRepl || word) && el.isSome then rotL s.repls else s.repls
  let pc := partPunct T ts
  { s with
    out := s.out
      ++ (if word then [mathSp a.pos, mkFix .text a.pos (opWord opText d a.txt), mathSp a.pos] else [])
      ++ (match el with | some e => [mkFix .text e.pos (r'.headD [])] | none => [])
      ++ (match pc with | some c => [mkFix .text a.pos [c]] | none => []),
    repls := r', nextRepl := pc.isSome || (op && el.isNone) }

theorem replaceStep_disp (T : PTables) (opText : List (Str × Str)) (od : Option Str) (d : Str)
    (s : RsState) (a : Tok) (l : List Tok) (tl : Tok) (hl : (a :: l).getLast? = some tl)
    (hka : a.kind ≠ .mathSpace) (hkl : tl.kind ≠ .mathSpace) (hr : s.repls ≠ [])
    (hd : s.firstPart = true → od = some d) :
    replaceStep T opText od false s (.part (a :: l)) = some (partStep T opText d s (a :: l) a) := by
  have hka' : (a.kind == Kind.mathSpace) = false := by simpa using hka
  have hkl' : (tl.kind == Kind.mathSpace) = false := by simpa using hkl
  have hns : (a :: l).all (·.kind == .mathSpace) = false := by simp [hka]
  have hfo : (a :: l).find? (fun t => t.kind != .mathSpace) = some a := by simp [hka]
  have he' : (a :: l).find? (fun t => t.kind == .mathElem && !T.mathPunctuation.contains t.txt)
      = (a :: l).find? (isElemTok T) := rfl
  -- whichever way the collection is rotated, its head is there: no case split on `next_repl`
  have hrr : ∀ b : Bool, (if b then rotL s.repls else s.repls).head?
      = some ((if b then rotL s.repls else s.repls).headD []) := by
    intro b
    cases b
    · exact headD_of_ne_nil _ hr
    · exact headD_of_ne_nil _ (rotL_ne_nil _ hr)
  simp only [replaceStep, List.head?_cons, hl, hns, hfo, he', hka', hkl', Bool.false_eq_true, if_false,
    Bool.not_false, Bool.true_and, Bool.false_or, strip_getLast?, hrr]
  unfold partStep partPunct opWord
  generalize (a :: l).find? (isElemTok T) = E
  generalize lastNonBlank (getTextDirect (a :: l)) = L
  -- `first_part`, and with it the default word, matters only if the part starts with an operator
  cases hop : (a.kind == Kind.mathOper)
  · cases E <;> cases L with
      | none => simp
      | some c => by_cases hp : [c] ∈ T.mathPunctuation <;> simp [hp]
  · cases hfp : s.firstPart
    · cases E <;> cases L with
        | none => simp
        | some c => by_cases hp : [c] ∈ T.mathPunctuation <;> simp [hp]
    · rw [hd hfp]
      cases E <;> cases L with
        | none => simp
        | some c => by_cases hp : [c] ∈ T.mathPunctuation <;> simp [hp]

/-! ### `replace_section` on one section of a displayed equation -/

/-- the state `expand_display_math` threads through the sections of an equation: `next_repl`, the
    (rotated) display collection, the position of the last token generated so far -/
structure SecSt where
  nr : Bool
  r : List Str
  last : Nat

/-- position of the last token of `l` (`d` if there is none) -/
def lastPos (d : Nat) (l : List Tok) : Nat := (l.getLast?.map (·.pos)).getD d

theorem lastPos_append (d : Nat) (a b : List Tok) : lastPos d (a ++ b) = lastPos (lastPos d a) b := by
  unfold lastPos
  cases b with
  | nil => simp
  | cons x xs =>
    have h : (x :: xs).getLast? = some ((x :: xs).getLast (by simp)) := List.getLast?_eq_some_getLast _
    simp only [List.getLast?_append, h, Option.map_some, Option.getD_some]
    rfl

theorem lastPos_of_ne_nil (d d' : Nat) (a : List Tok) (h : a ≠ []) : lastPos d a = lastPos d' a := by
  unfold lastPos
  cases h' : a.getLast? with
  | none => exact absurd (List.getLast?_eq_none_iff.mp h') h
  | some x => rfl

/-- the tokens `replace_section` generates for a section with the body tokens `mb` (white space
    removed), and the state behind it: `fs` = first section of its row -/
def secNew (T : PTables) (ops : List Str) (opText : List (Str × Str)) (d : Str) (fs : Bool)
    (σ : SecSt) : List Tok → List Tok × SecSt
  | [] => ([], σ)
  | t0 :: l =>
    let op := ops.contains t0.txt
    let el := (t0 :: l).find? (isElemSrc T ops)
    let word := op && !fs
    let r' := if (σ.nr || word) && el.isSome then rotL σ.r else σ.r
    let pc := punctChar T (bodyTxt (t0 :: l))
    let toks :=
      (if word then [mathSp t0.pos, mkFix .text t0.pos (opWord opText d t0.txt), mathSp t0.pos] else [])
      ++ (match el with | some e => [mkFix .text e.pos (r'.headD [])] | none => [])
      ++ (match pc with | some c => [mkFix .text t0.pos [c]] | none => [])
    (toks, { nr := pc.isSome || (op && el.isNone), r := r', last := lastPos σ.last toks })

theorem mathTokOf_oper (st : PState) (t : Tok) :
    ((mathTokOf st t).kind == Kind.mathOper) = st.mathOperators.contains t.txt := by
  unfold mathTokOf mkTok
  cases st.mathOperators.contains t.txt <;> rfl

theorem replaceSection_disp (T : PTables) (st : PState) (opText : List (Str × Str)) (od : Option Str)
    (d : Str) (fs : Bool) (hd : fs = false → od = some d) (σ : SecSt) (mb : List Tok)
    (hmb : ∀ t ∈ mb, BodyTok T t) (hr : σ.r ≠ []) :
    replaceSection T opText od false (detectMathParts (mb.map (mathTokOf st)) []) fs σ.nr σ.r
      = some { firstPart := !fs, nextRepl := (secNew T st.mathOperators opText d fs σ mb).2.nr,
               repls := (secNew T st.mathOperators opText d fs σ mb).2.r,
               out := (secNew T st.mathOperators opText d fs σ mb).1 } := by
  cases mb with
  | nil => rfl
  | cons t0 l =>
    have hmne : (t0 :: l).map (mathTokOf st) ≠ [] := by simp
    have hmath : ∀ t ∈ (t0 :: l).map (mathTokOf st), isMathTok t = true := by
      intro t ht
      obtain ⟨u, _, rfl⟩ := List.mem_map.mp ht
      exact isMathTok_mathTokOf st u
    have hlk : (((t0 :: l).map (mathTokOf st)).getLast hmne).kind ≠ .mathSpace := by
      obtain ⟨u, _, hu⟩ := List.mem_map.mp (List.getLast_mem hmne)
      rw [← hu]; exact mathTokOf_notSpace st u
    rw [detectMathParts_single _ hmath hmne]
    unfold replaceSection
    simp only [List.foldlM_cons, List.foldlM_nil]
    have hstep := replaceStep_disp T opText od d
      { firstPart := !fs, nextRepl := σ.nr, repls := σ.r, out := [] }
      (mathTokOf st t0) (l.map (mathTokOf st)) _ (List.getLast?_eq_some_getLast hmne)
      (mathTokOf_notSpace st t0) hlk hr (fun h => hd (by simpa using h))
    rw [List.map_cons, hstep]
    show some _ = some _
    congr 1
    unfold partStep secNew
    have hfe := find_elem_map T st (t0 :: l)
    rw [List.map_cons] at hfe
    have hpp := partPunct_mathToks T st (t0 :: l) hmb
    rw [List.map_cons] at hpp
    rw [hfe, hpp, mathTokOf_oper]
    have hpos : (mathTokOf st t0).pos = t0.pos := rfl
    have htxt : (mathTokOf st t0).txt = t0.txt := rfl
    simp only [hpos, htxt, List.nil_append, Option.isSome_map, Option.isNone_map]
    cases (t0 :: l).find? (isElemSrc T st.mathOperators) <;> rfl

theorem secNew_last (T : PTables) (ops : List Str) (opText : List (Str × Str)) (d : Str) (fs : Bool)
    (σ : SecSt) (mb : List Tok) :
    (secNew T ops opText d fs σ mb).2.last = lastPos σ.last (secNew T ops opText d fs σ mb).1 := by
  cases mb with
  | nil => rfl
  | cons t0 l => rfl

/-- the collection behind a section is the one before it, or that one rotated: what a rotation keeps
    (`· ≠ []`, `VisibleRepls`) is kept -/
theorem secNew_r {P : List Str → Prop} (hP : ∀ l, P l → P (rotL l)) (T : PTables) (ops : List Str)
    (opText : List (Str × Str)) (d : Str) (fs : Bool) (σ : SecSt) (mb : List Tok) (h : P σ.r) :
    P (secNew T ops opText d fs σ mb).2.r := by
  cases mb with
  | nil => exact h
  | cons t0 l =>
    simp only [secNew]
    split
    · exact hP _ h
    · exact h

/-! ### one iteration of the loop of `expand_display_math` -/

/-- where the next section starts: `buf[0].pos if buf else start` -/
def nextStart (start : Nat) (b : Buf) : Nat := match b.head? with | some t => t.pos | none => start

/-- what the loop does behind a section that ended with the token `e` -/
def dispCont (T : PTables) (fuel : Nat) (start : Nat) (envName : Str) (e : Tok) (rest : Buf) (nr : Bool)
    (out1 : List Tok) (latexLen : Nat) : M (List Tok × Buf × List Tok) :=
  let lp := (out1.getLast?.map (·.pos)).getD start
  if txtIs e "&" then
    displayLoop T fuel rest (nextStart start rest) envName false nr (out1 ++ [mkFix .space lp [' ']])
  else if txtIs e "\\\\" then do
    let b ← parseNewlineOption T rest false
    displayLoop T fuel b (nextStart start b) envName true nr (out1 ++ [mkFix .space lp [nl, ' ', ' ']])
  else if e.kind == .par then
    pure (out1, rest, latexErrorToks T.toTables "missing end of maths".toList start latexLen)
  else pure (out1, rest, [])

/-! ### sections, separators, terminators -/

structure AmpTok (t : Tok) : Prop where
  kind : t.kind = .special
  txt : t.txt = ['&']

structure NlTok (t : Tok) : Prop where
  kind : t.kind = .special
  txt : t.txt = ['\\', '\\']

/-- the line break between two rows, with the indentation of the next row -/
def nlSp (p : Nat) : Tok := mkFix .space p [nl, ' ', ' ']

def NoBrHead (buf : Buf) : Prop := ∀ t, buf.head? = some t → t.txt ≠ ['[']

theorem parseNewlineOption_id (T : PTables) (buf : Buf) (st : PState) (h : NoBrHead buf) :
    parseNewlineOption T buf false st = .ok (buf, st) := by
  unfold parseNewlineOption
  cases buf with
  | nil => rfl
  | cons t ts =>
    have : txtIsNV t "[" = false := by
      have := h t rfl
      simp [txtIsNV, this]
    simp only [Bool.false_eq_true, if_false, this]
    rfl

/-- behind `&`: one blank at the position of the last token, then the next section of the row -/
theorem dispCont_amp (T : PTables) (fuel start : Nat) (envName : Str) (e : Tok) (rest : Buf) (nr : Bool)
    (out1 : List Tok) (len : Nat) (h : AmpTok e) :
    dispCont T fuel start envName e rest nr out1 len
      = displayLoop T fuel rest (nextStart start rest) envName false nr
          (out1 ++ [mathSp ((out1.getLast?.map (·.pos)).getD start)]) := by
  unfold dispCont
  simp only [show txtIs e "&" = true by simp [txtIs, h.txt], if_true]
  rfl

/-- behind `\\` without optional argument: line break and indentation, then the next row -/
theorem dispCont_nl (T : PTables) (fuel start : Nat) (envName : Str) (e : Tok) (rest : Buf) (nr : Bool)
    (out1 : List Tok) (len : Nat) (h : NlTok e) (hnb : NoBrHead rest) (st : PState) :
    dispCont T fuel start envName e rest nr out1 len st
      = displayLoop T fuel rest (nextStart start rest) envName true nr
          (out1 ++ [nlSp ((out1.getLast?.map (·.pos)).getD start)]) st := by
  unfold dispCont
  simp only [show txtIs e "&" = false by simp [txtIs, h.txt],
    show txtIs e "\\\\" = true by simp [txtIs, h.txt], Bool.false_eq_true, if_false, if_true]
  exact (M.bind_ok _ _ _ _ _ (parseNewlineOption_id T _ st hnb)).trans rfl

/-- behind a closing token the loop ends -/
theorem dispCont_end (T : PTables) (fuel start : Nat) (envName : Str) (e : Tok) (rest : Buf) (nr : Bool)
    (out1 : List Tok) (len : Nat) (he1 : txtIs e "&" = false) (he2 : txtIs e "\\\\" = false)
    (he3 : (e.kind == Kind.par) = false) :
    dispCont T fuel start envName e rest nr out1 len = pure (out1, rest, []) := by
  unfold dispCont
  simp only [he1, he2, he3, Bool.false_eq_true, if_false]

/-- a token of a section: a body token (no `&`) or a blank white-space token -/
def SItem (T : PTables) (t : Tok) : Prop := DTok T t ∨ (t.kind = .space ∧ isBlank t.txt = true)

theorem SItem.dItem {T : PTables} {t : Tok} (h : SItem T t) : DItem T t := by
  rcases h with h | h
  · exact Or.inl h
  · exact Or.inr h.1

/-- the states that differ from `st` in the rotation records only -/
def Sim (st st' : PState) : Prop := st' = { st with rots := st'.rots }

theorem Sim.refl (st : PState) : Sim st st := rfl

theorem Sim.setRot {st st' : PState} (h : Sim st st') (r : Rot) : Sim st (setRot st' r) := by
  unfold Sim at *
  rw [h]
  rfl

theorem Sim.trans {a b c : PState} (h1 : Sim a b) (h2 : Sim b c) : Sim a c := by
  unfold Sim at *
  rw [h2, h1]

theorem Sim.reads {st st' : PState} (h : Sim st st') : Reads st st' := by
  rw [h]; exact ⟨rfl, rfl⟩

theorem Sim.ops {st st' : PState} (h : Sim st st') : st'.mathOperators = st.mathOperators := by
  rw [h]
theorem Sim.cur {st st' : PState} (h : Sim st st') : curSettings st' = curSettings st := by
  rw [h]; rfl
theorem Sim.latex {st st' : PState} (h : Sim st st') : st'.latex = st.latex := by
  rw [h]
theorem Sim.simple {st st' : PState} (h : Sim st st') : st'.displayedSimple = st.displayedSimple := by
  rw [h]

/-- the buffer `tl` ends a section with the token `e` and leaves `rest`, at the cost of `F` units of
    fuel — in every state that differs from `st` in the rotation records only -/
def TermAt (T : PTables) (st : PState) (envName : Str) (tl : Buf) (e : Tok) (rest : Buf) (F : Nat) : Prop :=
  ∀ st', Sim st st' → ∀ (f start : Nat) (out : List Tok), (∀ t ∈ out, isMathTok t = true) →
    expandMathSection T (f + F) tl start dispStops (some envName) out st'
      = .ok ({ out := out, term := some e, buf := rest }, st')

theorem TermAt.sim {T : PTables} {st st1 : PState} {envName : Str} {tl : Buf} {e : Tok} {rest : Buf}
    {F : Nat} (h : TermAt T st envName tl e rest F) (hs : Sim st st1) : TermAt T st1 envName tl e rest F :=
  fun st' h' => h st' (hs.trans h')

theorem mathSection_stop (T : PTables) (st : PState) (fuel : Nat) (start : Nat) (envStop : Option Str)
    (e : Tok) (rest : Buf) (out : List Tok) (hk : e.kind = .special)
    (hs : dispStops.contains e.txt = true) (ho : ∀ t ∈ out, isMathTok t = true) :
    expandMathSection T (fuel + 1) (e :: rest) start dispStops envStop out st
      = .ok ({ out := out, term := some e, buf := rest }, st) :=
  PlainMath.mathSection_stop T st fuel start dispStops envStop e rest out (by simp [isSpaceTok, hk])
    (by simp [hk]) (by simp [isVerb, hk]) hs ho

theorem termAt_stop (T : PTables) (st : PState) (envName : Str) (e : Tok) (rest : Buf)
    (hk : e.kind = .special) (hs : dispStops.contains e.txt = true) :
    TermAt T st envName (e :: rest) e rest 1 :=
  fun st' _ f start out ho => mathSection_stop T st' f start (some envName) e rest out hk hs ho

theorem AmpTok.stop {t : Tok} (h : AmpTok t) : dispStops.contains t.txt = true := by
  rw [h.txt]; decide
theorem NlTok.stop {t : Tok} (h : NlTok t) : dispStops.contains t.txt = true := by
  rw [h.txt]; decide

/-- a section in front of a terminating buffer -/
theorem mathSection_sec (T : PTables) (st : PState) (envName : Str) (tl : Buf) (e : Tok) (rest : Buf)
    (F : Nat) (ht : TermAt T st envName tl e rest F) (b : List Tok) (fuel start : Nat)
    (hf : b.length + F ≤ fuel) (hb : ∀ t ∈ b, DItem T t) :
    expandMathSection T fuel (b ++ tl) start dispStops (some envName) [] st
      = .ok ({ out := (mathToks b).map (mathTokOf st), term := some e, buf := rest }, st) := by
  obtain ⟨f, rfl⟩ : ∃ f, fuel = (f + F) + (mathToks b).length :=
    ⟨fuel - (mathToks b).length - F, by have := PlainDisplay.length_mathToks_le b; omega⟩
  rw [mathSection_run T st start (some envName) _ b (f + F) [] hb, List.nil_append]
  refine ht st (Sim.refl st) f start _ ?_
  intro t ht
  obtain ⟨u, _, rfl⟩ := List.mem_map.mp ht
  exact isMathTok_mathTokOf st u

/-- what the loop keeps from section to section: the record `rot` of the current language holds the
    collection of `σ`, which is not empty; something has been generated, and it ends at `σ.last` -/
structure LoopAt (T : PTables) (ls : LangSettings) (ops : List Str) (st : PState) (rot : Rot) (σ : SecSt)
    (out : List Tok) : Prop where
  opsEq : st.mathOperators = ops
  rotEq : rotOf st (curSettings st) = some rot
  lsEq : settingsOf T (curSettings st) = some ls
  rEq : σ.r = rot.disp
  ne : rot.disp ≠ []
  outNe : out ≠ []
  lastEq : σ.last = lastPos 0 out

/-- behind the tokens `new` of some sections and the separator `sep`, with the collection of `σ1` stored -/
theorem LoopAt.next {T : PTables} {ls : LangSettings} {ops : List Str} {st st1 : PState} {rot : Rot}
    {σ σ1 : SecSt} {out : List Tok} (h : LoopAt T ls ops st rot σ out) (hs : Sim st st1)
    (hrot : rotOf st1 (curSettings st) = some { rot with disp := σ1.r }) (hne : σ1.r ≠ [])
    (new : List Tok) (sep : Tok) (hsep : sep.pos = σ1.last) :
    LoopAt T ls ops st1 { rot with disp := σ1.r } σ1 (out ++ new ++ [sep]) :=
  ⟨hs.ops.trans h.opsEq, by rw [hs.cur]; exact hrot, by rw [hs.cur]; exact h.lsEq, rfl, hne, by simp,
    by simp [lastPos, hsep]⟩

/-- one iteration of the loop: the section `b` in front of a buffer that ends it with the token `e` -/
theorem displayLoop_sec (T : PTables) (envName : Str) (ls : LangSettings) (d : Str) (ops : List Str)
    (st : PState) (rot : Rot) (σ : SecSt) (out : List Tok)
    (hI : LoopAt T ls ops st rot σ out) (tl : Buf) (e : Tok) (rest : Buf) (F : Nat)
    (hterm : TermAt T st envName tl e rest F) (b : List Tok) (hb : ∀ t ∈ b, SItem T t) (f start : Nat)
    (hf : b.length + F ≤ f) (fs : Bool) (hd : fs = false → ls.opDefault = some d) :
    displayLoop T (f + 1) (b ++ tl) start envName fs σ.nr out st
      = dispCont T f start envName e rest (secNew T ops ls.opText d fs σ (mathToks b)).2.nr
          (out ++ (secNew T ops ls.opText d fs σ (mathToks b)).1) st.latex.length
          (setRot st { rot with disp := (secNew T ops ls.opText d fs σ (mathToks b)).2.r }) := by
  obtain ⟨rfl, hrot, hls, hσ, hne, -, -⟩ := hI
  have hsec := mathSection_sec T st envName tl e rest F hterm b f start hf (fun t ht => (hb t ht).dItem)
  have hrs := replaceSection_disp T st ls.opText ls.opDefault d fs hd σ (mathToks b)
    (mathToks_body T b (fun t ht => (hb t ht).dItem.bodyItem)) (by rw [hσ]; exact hne)
  rw [hσ] at hrs
  rw [displayLoop.eq_2]
  refine (M.bind_ok _ _ _ _ _ hsec).trans ?_
  refine (M.bind_ok _ _ _ _ _ (rfl : M.get st = _)).trans ?_
  simp only [hrot, hls, hrs]
  refine (M.bind_ok _ _ _ _ _ (rfl : M.modify _ _ = _)).trans ?_
  rfl

/-! ### the rows of an equation as tokens -/

/-- a row: the tokens of its first section, and the further sections, each with its `&` token -/
abbrev RowT := List Tok × List (Tok × List Tok)

/-- an equation body: the first row, and the further rows, each with its `\\` token -/
abbrev RowsT := RowT × List (Tok × RowT)

def moreBuf (more : List (Tok × List Tok)) : List Tok := more.flatMap (fun x => x.1 :: x.2)
def rowBuf (r : RowT) : List Tok := r.1 ++ moreBuf r.2
def moreRowsBuf (m : List (Tok × RowT)) : List Tok := m.flatMap (fun x => x.1 :: rowBuf x.2)
def rowsBuf (r : RowsT) : List Tok := rowBuf r.1 ++ moreRowsBuf r.2

def RowOk (T : PTables) (r : RowT) : Prop :=
  (∀ t ∈ r.1, SItem T t) ∧ ∀ x ∈ r.2, AmpTok x.1 ∧ ∀ t ∈ x.2, SItem T t

theorem RowOk.tail {T : PTables} {b0 : List Tok} {x : Tok × List Tok} {more : List (Tok × List Tok)}
    (h : RowOk T (b0, x :: more)) : RowOk T (x.2, more) :=
  ⟨(h.2 x (by simp)).2, fun y hy => h.2 y (by simp [hy])⟩

/-- the first token of a row is not `[` (it would open the optional argument of `\\`) -/
def RowHeadOk (r : RowT) : Prop := ∀ t, r.1.head? = some t → t.txt ≠ ['[']

def RowsOk (T : PTables) (r : RowsT) : Prop :=
  RowOk T r.1 ∧ ∀ x ∈ r.2, NlTok x.1 ∧ RowOk T x.2 ∧ RowHeadOk x.2

theorem RowsOk.tail {T : PTables} {r0 : RowT} {x : Tok × RowT} {m : List (Tok × RowT)}
    (h : RowsOk T (r0, x :: m)) : RowsOk T (x.2, m) :=
  ⟨(h.2 x (by simp)).2.1, fun y hy => h.2 y (by simp [hy])⟩

/-- fuel for a row: one unit per section and token -/
def moreCost : List (Tok × List Tok) → Nat
  | [] => 0
  | x :: xs => x.2.length + 1 + moreCost xs
def rowCost (r : RowT) : Nat := r.1.length + 1 + moreCost r.2
def moreRowsCost : List (Tok × RowT) → Nat
  | [] => 0
  | x :: xs => rowCost x.2 + moreRowsCost xs
def rowsCost (r : RowsT) : Nat := rowCost r.1 + moreRowsCost r.2

theorem moreCost_ge (more : List (Tok × List Tok)) : more.length ≤ moreCost more := by
  induction more with
  | nil => simp [moreCost]
  | cons x xs ih => simp only [moreCost, List.length_cons]; omega

theorem rowCost_ge (b0 : List Tok) (more : List (Tok × List Tok)) : more.length + 1 ≤ rowCost (b0, more) := by
  have := moreCost_ge more
  simp only [rowCost]
  omega

theorem moreCost_eq (more : List (Tok × List Tok)) : moreCost more = (moreBuf more).length := by
  induction more with
  | nil => rfl
  | cons x xs ih => simp only [moreCost, ih, moreBuf, List.flatMap_cons, List.length_append, List.length_cons]

theorem moreRowsCost_eq (m : List (Tok × RowT)) : moreRowsCost m = (moreRowsBuf m).length := by
  induction m with
  | nil => rfl
  | cons x xs ih =>
    simp only [moreRowsCost, ih, rowCost, moreCost_eq, moreRowsBuf, rowBuf, List.flatMap_cons, List.length_append,
      List.length_cons]
    omega

/-- one unit of fuel per token of the body and one more -/
theorem rowsCost_eq (tr : RowsT) : rowsCost tr = (rowsBuf tr).length + 1 := by
  simp only [rowsCost, rowCost, moreCost_eq, moreRowsCost_eq, rowsBuf, rowBuf, List.length_append]
  omega

/-- the tokens generated for the sections of a row (`b0`, then `more`), joined by one blank at the
    position of the last token generated before -/
def secsNew (T : PTables) (ops : List Str) (opText : List (Str × Str)) (d : Str) :
    Bool → SecSt → List Tok → List (Tok × List Tok) → List Tok × SecSt
  | fs, σ, b0, [] => secNew T ops opText d fs σ (mathToks b0)
  | fs, σ, b0, x :: more =>
    ((secNew T ops opText d fs σ (mathToks b0)).1
        ++ mathSp (secNew T ops opText d fs σ (mathToks b0)).2.last
        :: (secsNew T ops opText d false (secNew T ops opText d fs σ (mathToks b0)).2 x.2 more).1,
     (secsNew T ops opText d false (secNew T ops opText d fs σ (mathToks b0)).2 x.2 more).2)

/-- the tokens generated for the rows of an equation, joined by line break and indentation at the
    position of the last token generated before -/
def rowsNew (T : PTables) (ops : List Str) (opText : List (Str × Str)) (d : Str) :
    SecSt → RowT → List (Tok × RowT) → List Tok × SecSt
  | σ, r0, [] => secsNew T ops opText d true σ r0.1 r0.2
  | σ, r0, x :: moreR =>
    ((secsNew T ops opText d true σ r0.1 r0.2).1
        ++ nlSp (secsNew T ops opText d true σ r0.1 r0.2).2.last
        :: (rowsNew T ops opText d (secsNew T ops opText d true σ r0.1 r0.2).2 x.2 moreR).1,
     (rowsNew T ops opText d (secsNew T ops opText d true σ r0.1 r0.2).2 x.2 moreR).2)

theorem secsNew_r {P : List Str → Prop} (hP : ∀ l, P l → P (rotL l)) (T : PTables) (ops : List Str)
    (opText : List (Str × Str)) (d : Str) :
    ∀ (more : List (Tok × List Tok)) (fs : Bool) (σ : SecSt) (b0 : List Tok), P σ.r →
      P (secsNew T ops opText d fs σ b0 more).2.r
  | [], fs, σ, _, h => secNew_r hP T ops opText d fs σ _ h
  | x :: more, fs, σ, _, h =>
    secsNew_r hP T ops opText d more false _ x.2 (secNew_r hP T ops opText d fs σ _ h)

theorem rowsNew_r {P : List Str → Prop} (hP : ∀ l, P l → P (rotL l)) (T : PTables) (ops : List Str)
    (opText : List (Str × Str)) (d : Str) :
    ∀ (moreR : List (Tok × RowT)) (σ : SecSt) (r0 : RowT), P σ.r →
      P (rowsNew T ops opText d σ r0 moreR).2.r
  | [], σ, r0, h => secsNew_r hP T ops opText d r0.2 true σ r0.1 h
  | x :: moreR, σ, r0, h =>
    rowsNew_r hP T ops opText d moreR _ x.2 (secsNew_r hP T ops opText d r0.2 true σ r0.1 h)

theorem lastPos_sep (p : Nat) (a c : List Tok) (sep : Tok) :
    lastPos p (a ++ sep :: c) = lastPos sep.pos c := by
  rw [show a ++ sep :: c = (a ++ [sep]) ++ c by simp, lastPos_append, lastPos_append]
  rfl

theorem secsNew_last (T : PTables) (ops : List Str) (opText : List (Str × Str)) (d : Str) :
    ∀ (more : List (Tok × List Tok)) (fs : Bool) (σ : SecSt) (b0 : List Tok),
      (secsNew T ops opText d fs σ b0 more).2.last
        = lastPos σ.last (secsNew T ops opText d fs σ b0 more).1
  | [], fs, σ, b0 => secNew_last T ops opText d fs σ _
  | x :: more, fs, σ, b0 => by
    simp only [secsNew]
    rw [secsNew_last T ops opText d more false _ x.2, lastPos_sep]
    rfl

theorem rowsNew_last (T : PTables) (ops : List Str) (opText : List (Str × Str)) (d : Str) :
    ∀ (moreR : List (Tok × RowT)) (σ : SecSt) (r0 : RowT),
      (rowsNew T ops opText d σ r0 moreR).2.last = lastPos σ.last (rowsNew T ops opText d σ r0 moreR).1
  | [], σ, r0 => secsNew_last T ops opText d r0.2 true σ r0.1
  | x :: moreR, σ, r0 => by
    simp only [rowsNew]
    rw [rowsNew_last T ops opText d moreR _ x.2, lastPos_sep]
    rfl

theorem lastPos_out (out : List Tok) (start : Nat) (h : out ≠ []) (toks : List Tok) :
    ((out ++ toks).getLast?.map (·.pos)).getD start = lastPos (lastPos 0 out) toks := by
  rw [← lastPos_append]
  exact lastPos_of_ne_nil start 0 _ (by simp [h])

/-! ### the loop of `expand_display_math` on a row -/

/-- the loop runs through the sections of a row and arrives behind the section parser of its last
    section, which is ended by the token `e` of the buffer `tl`; the state behind it does not depend on
    the fuel -/
theorem displayLoop_row (T : PTables) (envName : Str) (ls : LangSettings) (d : Str) (ops : List Str)
    (tl : Buf) (e : Tok) (rest : Buf) (F : Nat) :
    ∀ (more : List (Tok × List Tok)) (b0 : List Tok) (start : Nat) (fs : Bool) (σ : SecSt)
      (out : List Tok) (st : PState) (rot : Rot), (fs = false ∨ more ≠ [] → ls.opDefault = some d) →
      TermAt T st envName tl e rest F → RowOk T (b0, more) → LoopAt T ls ops st rot σ out →
      ∃ st' start', Sim st st' ∧
        rotOf st' (curSettings st) = some { rot with disp := (secsNew T ops ls.opText d fs σ b0 more).2.r } ∧
        ∀ f, rowCost (b0, more) + F ≤ f + (more.length + 1) →
          displayLoop T (f + (more.length + 1)) (rowBuf (b0, more) ++ tl) start envName fs σ.nr out st
            = dispCont T f start' envName e rest (secsNew T ops ls.opText d fs σ b0 more).2.nr
                (out ++ (secsNew T ops ls.opText d fs σ b0 more).1) st.latex.length st' := by
  intro more
  induction more with
  | nil =>
    intro b0 start fs σ out st rot hd hterm hok hI
    refine ⟨_, start, (Sim.refl st).setRot _, rotOf_setRot_disp st _ rot _ hI.rotEq, fun f hf => ?_⟩
    simp only [rowCost, moreCost, List.length_nil] at hf
    simp only [rowBuf, moreBuf, List.flatMap_nil, List.append_nil, List.length_nil, Nat.zero_add, secsNew]
    exact displayLoop_sec T envName ls d ops st rot σ out hI tl e rest F hterm b0 hok.1 f start
      (by omega) fs (fun h => hd (.inl h))
  | cons x more ih =>
    intro b0 start fs σ out st rot hd hterm hok hI
    obtain ⟨a, b⟩ := x
    have hd := hd (.inr (List.cons_ne_nil _ _))
    have ha : AmpTok a := (hok.2 (a, b) (by simp)).1
    obtain ⟨S, hS⟩ : ∃ S, secNew T ops ls.opText d fs σ (mathToks b0) = S := ⟨_, rfl⟩
    have hSlast : S.2.last = lastPos (lastPos 0 out) S.1 := by
      rw [← hS, secNew_last, hI.lastEq]
    have hsim1 : Sim st (setRot st { rot with disp := S.2.r }) := (Sim.refl st).setRot _
    have hSne : S.2.r ≠ [] := by
      rw [← hS]
      exact secNew_r rotL_ne_nil T ops ls.opText d fs σ _ (by rw [hI.rEq]; exact hI.ne)
    obtain ⟨st', start', h1, h2, h3⟩ := ih b (nextStart start (rowBuf (b, more) ++ tl)) false S.2
      (out ++ S.1 ++ [mathSp S.2.last]) _ _ (fun _ => hd) (hterm.sim hsim1) hok.tail
      (hI.next hsim1 (rotOf_setRot_disp st _ rot _ hI.rotEq) hSne S.1 (mathSp S.2.last) rfl)
    refine ⟨st', start', hsim1.trans h1, by simp only [secsNew, hS]; exact h2, fun f hf => ?_⟩
    simp only [rowCost, moreCost, List.length_cons] at hf
    have hu := displayLoop_sec T envName ls d ops st rot σ out hI _ a (rowBuf (b, more) ++ tl) 1
      (termAt_stop T st envName a _ ha.kind ha.stop) b0 hok.1 (f + (more.length + 1)) start (by omega) fs
      (fun _ => hd)
    rw [hS] at hu
    rw [show rowBuf (b0, (a, b) :: more) ++ tl = b0 ++ a :: (rowBuf (b, more) ++ tl) by
        simp [rowBuf, moreBuf],
      show f + (((a, b) :: more).length + 1) = f + (more.length + 1) + 1 by simp; omega, hu,
      dispCont_amp T _ start envName a _ _ _ _ ha, lastPos_out out start hI.outNe S.1, ← hSlast]
    simp only [secsNew, hS]
    refine Eq.trans (h3 f (by show b.length + 1 + moreCost more + F ≤ f + (more.length + 1); omega)) ?_
    simp only [List.append_assoc, List.singleton_append]
    rfl

/-! ### the loop of `expand_display_math` on the rows of an equation -/

/-- some section stands behind a `&`: only there an operator word is written -/
def HasAmp (tr : RowsT) : Prop := tr.1.2 ≠ [] ∨ ∃ x ∈ tr.2, x.2.2 ≠ []

theorem HasAmp.tail {r0 : RowT} {x : Tok × RowT} {m : List (Tok × RowT)} (h : HasAmp (x.2, m)) :
    HasAmp (r0, x :: m) :=
  .inr (h.elim (fun h => ⟨x, by simp, h⟩) fun ⟨y, hy, h⟩ => ⟨y, by simp [hy], h⟩)

theorem noBrHead_rows (T : PTables) (r1 : RowT) (moreR : List (Tok × RowT)) (cb : Buf)
    (h1 : RowHeadOk r1) (h2 : RowOk T r1) (h3 : ∀ x ∈ moreR, NlTok x.1) (h4 : NoBrHead cb) :
    NoBrHead (rowsBuf (r1, moreR) ++ cb) := by
  obtain ⟨b0, more⟩ := r1
  intro t ht
  cases b0 with
  | cons t0 l =>
    simp only [rowsBuf, rowBuf, List.cons_append, List.head?_cons, Option.some.injEq] at ht
    subst ht
    exact h1 t0 rfl
  | nil =>
    cases more with
    | cons x more' =>
      simp only [rowsBuf, rowBuf, moreBuf, List.nil_append, List.flatMap_cons, List.cons_append,
        List.head?_cons, Option.some.injEq] at ht
      subst ht
      rw [(h2.2 x (by simp)).1.txt]
      decide
    | nil =>
      cases moreR with
      | cons y moreR' =>
        simp only [rowsBuf, rowBuf, moreBuf, moreRowsBuf, List.nil_append, List.flatMap_nil,
          List.flatMap_cons, List.cons_append, List.head?_cons, Option.some.injEq] at ht
        subst ht
        rw [(h3 y (by simp)).txt]
        decide
      | nil =>
        simp only [rowsBuf, rowBuf, moreBuf, moreRowsBuf, List.nil_append, List.flatMap_nil] at ht
        exact h4 t ht

/-- **the loop of `expand_display_math`** on the rows of an equation in front of the closing
    buffer `cb` (which ends the last section with the token `e`): the tokens `rowsNew` are added,
    the rotated collection is stored -/
theorem displayLoop_rows (T : PTables) (envName : Str) (ls : LangSettings) (d : Str) (ops : List Str)
    (cb : Buf) (e : Tok) (rest : Buf) (F : Nat)
    (he1 : txtIs e "&" = false) (he2 : txtIs e "\\\\" = false) (he3 : (e.kind == Kind.par) = false)
    (hcb : NoBrHead cb) :
    ∀ (moreR : List (Tok × RowT)) (r0 : RowT) (start : Nat) (σ : SecSt)
      (out : List Tok) (st : PState) (rot : Rot), (HasAmp (r0, moreR) → ls.opDefault = some d) →
      TermAt T st envName cb e rest F → RowsOk T (r0, moreR) → LoopAt T ls ops st rot σ out →
      ∃ st', Sim st st' ∧
        rotOf st' (curSettings st) = some { rot with disp := (rowsNew T ops ls.opText d σ r0 moreR).2.r } ∧
        ∀ fuel, rowsCost (r0, moreR) + F ≤ fuel →
          displayLoop T fuel (rowsBuf (r0, moreR) ++ cb) start envName true σ.nr out st
            = .ok ((out ++ (rowsNew T ops ls.opText d σ r0 moreR).1, rest, []), st') := by
  intro moreR
  induction moreR with
  | nil =>
    intro r0 start σ out st rot hd hterm hok hI
    obtain ⟨b0, more⟩ := r0
    obtain ⟨st', start', h1, h2, h3⟩ := displayLoop_row T envName ls d ops cb e rest F more b0 start
      true σ out st rot (fun h => hd (.inl (h.resolve_left nofun))) hterm hok.1 hI
    refine ⟨st', h1, h2, fun fuel hf => ?_⟩
    simp only [rowsCost, moreRowsCost, Nat.add_zero] at hf
    have hc := rowCost_ge b0 more
    obtain ⟨f, rfl⟩ : ∃ f, fuel = f + (more.length + 1) := ⟨fuel - (more.length + 1), by omega⟩
    simp only [rowsBuf, moreRowsBuf, List.flatMap_nil, List.append_nil, rowsNew]
    rw [h3 f hf, dispCont_end T f start' envName e rest _ _ _ he1 he2 he3]
    rfl
  | cons x moreR ih =>
    intro r0 start σ out st rot hd hterm hok hI
    obtain ⟨b0, more⟩ := r0
    obtain ⟨n, r1⟩ := x
    have hn : NlTok n := (hok.2 (n, r1) (by simp)).1
    obtain ⟨st1, start1, h1, h2, h3⟩ := displayLoop_row T envName ls d ops
      (n :: (rowsBuf (r1, moreR) ++ cb)) n (rowsBuf (r1, moreR) ++ cb) 1 more b0 start
      true σ out st rot (fun h => hd (.inl (h.resolve_left nofun)))
      (termAt_stop T st envName n _ hn.kind hn.stop) hok.1 hI
    generalize hR : secsNew T ops ls.opText d true σ b0 more = R at h2 h3
    have hRlast : R.2.last = lastPos (lastPos 0 out) R.1 := by
      rw [← hR, secsNew_last, hI.lastEq]
    have hRne : R.2.r ≠ [] := by
      rw [← hR]
      exact secsNew_r rotL_ne_nil T ops ls.opText d more true σ b0 (by rw [hI.rEq]; exact hI.ne)
    have hnb : NoBrHead (rowsBuf (r1, moreR) ++ cb) :=
      noBrHead_rows T r1 moreR cb (hok.2 (n, r1) (by simp)).2.2 hok.tail.1
        (fun y hy => (hok.2 y (by simp [hy])).1) hcb
    obtain ⟨st', g1, g2, g3⟩ := ih r1 (nextStart start1 (rowsBuf (r1, moreR) ++ cb)) R.2
      (out ++ R.1 ++ [nlSp R.2.last]) st1 _ (fun h => hd h.tail) (hterm.sim h1) hok.tail
      (hI.next h1 h2 hRne R.1 (nlSp R.2.last) rfl)
    refine ⟨st', h1.trans g1, by rw [← h1.cur]; simpa only [rowsNew, hR] using g2, fun fuel hf => ?_⟩
    simp only [rowsCost, moreRowsCost] at hf
    have hc := rowCost_ge b0 more
    have hc1 : 1 ≤ rowCost r1 := by simp only [rowCost]; omega
    obtain ⟨f, rfl⟩ : ∃ f, fuel = f + (more.length + 1) := ⟨fuel - (more.length + 1), by omega⟩
    rw [show rowsBuf ((b0, more), (n, r1) :: moreR) ++ cb
        = rowBuf (b0, more) ++ n :: (rowsBuf (r1, moreR) ++ cb) by simp [rowsBuf, moreRowsBuf],
      h3 f (by omega), dispCont_nl T f start1 envName n _ _ _ _ hn hnb,
      lastPos_out out start1 hI.outNe R.1, ← hRlast]
    simp only [rowsNew, hR]
    refine Eq.trans (g3 f (by simp only [rowsCost]; omega)) ?_
    simp only [List.append_assoc, List.singleton_append]

/-! ### `expandDisplayMath` on an equation with rows and sections -/

/-- the tokens generated for the rows of an equation whose opening token stands at `p`, `l` being the
    stored display collection; and the state behind them -/
def eqnNew (T : PTables) (ops : List Str) (opText : List (Str × Str)) (d : Str) (l : List Str) (p : Nat)
    (tr : RowsT) : List Tok × SecSt :=
  rowsNew T ops opText d { nr := true, r := l, last := p } tr.1 tr.2

/-- what `expand_display_math` returns: an Action token and the indentation at the position `p` of
    the opening token, the tokens of the rows, an Action token at the position of the last of them -/
def eqnToks (T : PTables) (ops : List Str) (opText : List (Str × Str)) (d : Str) (l : List Str) (p : Nat)
    (tr : RowsT) : List Tok :=
  [mkAction p, mkFix .space p [' ', ' ']] ++ (eqnNew T ops opText d l p tr).1
    ++ [mkAction (eqnNew T ops opText d l p tr).2.last]

theorem expandDisplayMath_rows (T : PTables) (st : PState) (tok : Tok) (envName : Str)
    (ls : LangSettings) (d : Str) (tr : RowsT) (cb : Buf) (e : Tok) (rest : Buf) (F : Nat) (rot : Rot)
    (he1 : txtIs e "&" = false) (he2 : txtIs e "\\\\" = false) (he3 : (e.kind == Kind.par) = false)
    (hcb : NoBrHead cb) (hterm : TermAt T st envName cb e rest F)
    (hok : RowsOk T tr) (hds : st.displayedSimple = false)
    (hrot : rotOf st (curSettings st) = some rot) (hls : settingsOf T (curSettings st) = some ls)
    (hd : HasAmp tr → ls.opDefault = some d) (hne : rot.disp ≠ []) :
    ∃ st', Sim st st' ∧
      rotOf st' (curSettings st)
        = some { rot with disp := (eqnNew T st.mathOperators ls.opText d rot.disp tok.pos tr).2.r } ∧
      ∀ fuel, rowsCost tr + F ≤ fuel →
        expandDisplayMath T (fuel + 1) (rowsBuf tr ++ cb) tok envName false st
          = .ok ((eqnToks T st.mathOperators ls.opText d rot.disp tok.pos tr, rest), st') := by
  obtain ⟨r0, moreR⟩ := tr
  obtain ⟨st', h1, h2, h3⟩ := displayLoop_rows T envName ls d st.mathOperators cb e rest F he1 he2 he3
    hcb moreR r0 tok.pos { nr := true, r := rot.disp, last := tok.pos }
    [mkAction tok.pos, mkFix .space tok.pos [' ', ' ']] st rot hd hterm hok
    ⟨rfl, hrot, hls, rfl, hne, by simp, by simp [lastPos, mkFix]⟩
  refine ⟨st', h1, h2, fun fuel hf => ?_⟩
  rw [expandDisplayMath.eq_2]
  refine (M.bind_ok _ _ _ _ _ (h3 fuel hf)).trans ?_
  simp only [Bool.false_eq_true, if_false]
  refine (M.bind_ok _ _ _ _ _ (rfl : M.get _ = _)).trans ?_
  have hds' : st'.displayedSimple = false := by rw [h1.simple]; exact hds
  simp only [hds', Bool.false_eq_true, if_false]
  show Outcome.ok _ = _
  unfold eqnToks eqnNew
  rw [lastPos_out _ tok.pos (by simp) _, rowsNew_last]
  simp [lastPos, mkFix]

/-! ### the closing tokens -/

theorem termAt_close (T : PTables) (st : PState) (envName : Str) (d2 : Tok) (rest : Buf)
    (hd : CloseTok d2) : TermAt T st envName (d2 :: rest) d2 rest 1 :=
  fun st' _ f start out ho => mathSection_close T st' f start (some envName) d2 rest out hd ho

theorem termAt_end (T : PTables) (st : PState) (p q1 q2 : Nat) (nt : List Tok) (rest : Buf)
    (env : MacroDef) (h : NameToks T st nt)
    (hl : lookupEnv st (PlainMacro.bodyTxt nt) = some env) (hok : equEnvOk env = true) :
    TermAt T st (PlainMacro.bodyTxt nt) (endTok p :: lbr q1 :: (nt ++ rbr q2 :: rest)) (endTok p) rest
      (nt.length + 5) := by
  intro st' hs f start out ho
  have := mathSection_end T st' (f + nt.length + 1) start p q1 q2 nt rest out env
    (h.ext hs.reads.ext) (by omega) ((hs.reads.ext.lookupEnv _).trans hl) hok ho
  rw [show f + (nt.length + 5) = f + nt.length + 1 + 4 by omega]
  exact this

theorem noBrHead_close (d2 : Tok) (rest : Buf) (hd : CloseTok d2) : NoBrHead (d2 :: rest) := by
  intro t ht
  simp only [List.head?_cons, Option.some.injEq] at ht
  subst ht
  rw [hd.txt]; decide

theorem noBrHead_end (p : Nat) (rest : Buf) : NoBrHead (endTok p :: rest) := by
  intro t ht
  simp only [List.head?_cons, Option.some.injEq] at ht
  subst ht
  show sEnd ≠ ['[']
  decide

/-! ### the generated tokens in the line automaton of the blank-line removal -/

/-- a visible one-line text -/
def Vis (s : Str) : Prop := hasNl s = false ∧ isBlank s = false

/-- the operator words of the language are visible one-line texts -/
def VisWords (opText : List (Str × Str)) (d : Str) : Prop := Vis d ∧ ∀ x ∈ opText, Vis x.2

theorem opWord_vis {opText : List (Str × Str)} {d : Str} (h : VisWords opText d) (x : Str) :
    Vis (opWord opText d x) := by
  unfold opWord
  cases hf : opText.find? (·.1 == x) with
  | none => exact h.1
  | some y => exact h.2 y (List.mem_of_find?_eq_some hf)

/-- a token generated inside a row: visible text or one blank -/
def InRow (t : Tok) : Prop := (t.kind = .text ∧ Vis t.txt) ∨ (t.kind = .space ∧ t.txt = [' '])

def hasText (l : List Tok) : Bool := l.any (·.kind == .text)

theorem headD_vis (l : List Str) (hv : VisibleRepls l) (hne : l ≠ []) : Vis (l.headD []) := by
  cases l with
  | nil => exact absurd rfl hne
  | cons a t => exact hv a (by simp)

theorem secNew_inRow (T : PTables) (ops : List Str) (opText : List (Str × Str)) (d : Str) (fs : Bool)
    (σ : SecSt) (mb : List Tok) (hmb : ∀ t ∈ mb, BodyTok T t) (hv : VisibleRepls σ.r) (hne : σ.r ≠ [])
    (hw : fs = false → VisWords opText d) : ∀ t ∈ (secNew T ops opText d fs σ mb).1, InRow t := by
  cases mb with
  | nil => intro t ht; simp [secNew] at ht
  | cons t0 l =>
    intro t ht
    simp only [secNew, List.mem_append] at ht
    rcases ht with (ht | ht) | ht
    · split at ht
      · simp only [List.mem_cons, List.not_mem_nil, or_false] at ht
        rcases ht with rfl | rfl | rfl
        · exact Or.inr ⟨rfl, rfl⟩
        · exact Or.inl ⟨rfl, opWord_vis (hw (by simp_all)) _⟩
        · exact Or.inr ⟨rfl, rfl⟩
      · simp at ht
    · split at ht
      · simp only [List.mem_singleton] at ht
        subst ht
        refine Or.inl ⟨rfl, ?_⟩
        show Vis (List.headD _ [])
        split
        · exact headD_vis _ hv.rotL (rotL_ne_nil _ hne)
        · exact headD_vis _ hv hne
      · simp at ht
    · split at ht
      · rename_i c hc
        simp only [List.mem_singleton] at ht
        subst ht
        have hcs : isSpace c = false :=
          bodyTxt_nonspace T _ hmb c (punctChar_mem T _ c hc)
        exact Or.inl ⟨rfl, PlainMacro.hasNl_single c hcs, show isBlank [c] = false by simp [isBlank, hcs]⟩
      · simp at ht

/-- a section generates text iff it has an element, a closing punctuation mark, or (not being the
    first of its row) a leading operator -/
def secVisT (T : PTables) (ops : List Str) (fs : Bool) : List Tok → Bool
  | [] => false
  | t0 :: l =>
    ((t0 :: l).find? (isElemSrc T ops)).isSome || (punctChar T (bodyTxt (t0 :: l))).isSome ||
      (ops.contains t0.txt && !fs)

theorem secNew_hasText (T : PTables) (ops : List Str) (opText : List (Str × Str)) (d : Str) (fs : Bool)
    (σ : SecSt) (mb : List Tok) : hasText (secNew T ops opText d fs σ mb).1 = secVisT T ops fs mb := by
  cases mb with
  | nil => rfl
  | cons t0 l =>
    simp only [secNew, secVisT, hasText, List.any_append]
    cases (t0 :: l).find? (isElemSrc T ops) <;> cases punctChar T (bodyTxt (t0 :: l)) <;>
      cases (ops.contains t0.txt && !fs) <;> simp [mkFix, mathSp]

def rowVisT (T : PTables) (ops : List Str) (r : RowT) : Bool :=
  secVisT T ops true (mathToks r.1) || r.2.any (fun x => secVisT T ops false (mathToks x.2))

theorem secsNew_inRow (T : PTables) (ops : List Str) (opText : List (Str × Str)) (d : Str) :
    ∀ (more : List (Tok × List Tok)) (fs : Bool) (σ : SecSt) (b0 : List Tok),
      (fs = false ∨ more ≠ [] → VisWords opText d) → RowOk T (b0, more) →
      VisibleRepls σ.r → σ.r ≠ [] → ∀ t ∈ (secsNew T ops opText d fs σ b0 more).1, InRow t
  | [], fs, σ, b0, hw, hok, hv, hne => by
    simp only [secsNew]
    exact secNew_inRow T ops opText d fs σ _
      (mathToks_body T b0 (fun t ht => (hok.1 t ht).dItem.bodyItem)) hv hne (fun h => hw (.inl h))
  | x :: more, fs, σ, b0, hw, hok, hv, hne => by
    have hw := hw (.inr (List.cons_ne_nil _ _))
    intro t ht
    simp only [secsNew, List.mem_append, List.mem_cons] at ht
    rcases ht with ht | rfl | ht
    · exact secNew_inRow T ops opText d fs σ _
        (mathToks_body T b0 (fun t ht => (hok.1 t ht).dItem.bodyItem)) hv hne (fun _ => hw) t ht
    · exact Or.inr ⟨rfl, rfl⟩
    · exact secsNew_inRow T ops opText d more false _ x.2 (fun _ => hw) hok.tail
        (secNew_r @VisibleRepls.rotL T ops opText d fs σ _ hv) (secNew_r rotL_ne_nil T ops opText d fs σ _ hne) t ht

theorem secsNew_hasText (T : PTables) (ops : List Str) (opText : List (Str × Str)) (d : Str) :
    ∀ (more : List (Tok × List Tok)) (fs : Bool) (σ : SecSt) (b0 : List Tok),
      hasText (secsNew T ops opText d fs σ b0 more).1
        = (secVisT T ops fs (mathToks b0) || more.any (fun x => secVisT T ops false (mathToks x.2)))
  | [], fs, σ, b0 => by simp [secsNew, secNew_hasText]
  | x :: more, fs, σ, b0 => by
    have ih := secsNew_hasText T ops opText d more false (secNew T ops opText d fs σ (mathToks b0)).2 x.2
    have h1 := secNew_hasText T ops opText d fs σ (mathToks b0)
    unfold hasText at ih h1 ⊢
    simp only [secsNew, List.any_append, List.any_cons, h1, ih]
    simp [mathSp, mkFix, show (Kind.space == Kind.text) = false from rfl]

theorem row_hasText (T : PTables) (ops : List Str) (opText : List (Str × Str)) (d : Str)
    (σ : SecSt) (r : RowT) :
    hasText (secsNew T ops opText d true σ r.1 r.2).1 = rowVisT T ops r :=
  secsNew_hasText T ops opText d r.2 true σ r.1

theorem Vis.ne_nil {s : Str} (h : Vis s) : s ≠ [] := by
  intro e; rw [e] at h; simp [Vis, isBlank] at h

theorem InRow.kept {t : Tok} (h : InRow t) : Yalafi.keepIn t = true := by
  rcases h with ⟨_, hv⟩ | ⟨_, ht⟩
  · cases hx : t.txt with
    | nil => exact absurd hx hv.ne_nil
    | cons => simp [keepIn, hx]
  · simp [keepIn, ht]

theorem filter_keepIn_inRow (l : List Tok) (h : ∀ t ∈ l, InRow t) : l.filter keepIn = l :=
  List.filter_eq_self.mpr (fun t ht => (h t ht).kept)

/-- a token of a row keeps every condition that holds behind visible text -/
theorem InRow.lineTo {t : Tok} (h : InRow t) {P : Option Bool → Prop} (hP : P none) : LineTo P P [t] := by
  rcases h with ⟨hk, hv⟩ | ⟨hk, htx⟩
  · exact .text hk hv.1 fun _ _ => by rw [hv.2]; exact hP
  · exact .blank (Or.inl hk) (by rw [htx]; decide) (by rw [htx]; decide)

/-- the tokens of a row with a text token make the line visible -/
theorem lineTo_row : ∀ (l : List Tok), (∀ t ∈ l, InRow t) → hasText l = true → LineTo LAny LVis l
  | [], _, hx => by simp [hasText] at hx
  | t :: l, h, hx => by
    have hl := fun x hx => h x (List.mem_cons_of_mem _ hx)
    rcases h t (by simp) with ⟨hk, hv⟩ | ⟨hk, _⟩
    · exact (LineTo.visible hk hv.1 hv.2).cons (.all fun x hx => (hl x hx).lineTo rfl)
    · exact ((h t (by simp)).lineTo trivial).cons (lineTo_row l hl (by simpa [hasText, hk] using hx))

def lastRow (tr : RowsT) : RowT :=
  match tr.2.getLast? with
  | some x => x.2
  | none => tr.1

theorem lastRow_cons (r0 : RowT) (x : Tok × RowT) (m : List (Tok × RowT)) :
    lastRow (r0, x :: m) = lastRow (x.2, m) := by
  unfold lastRow
  cases m with
  | nil => rfl
  | cons y m' =>
    simp only [List.getLast?_cons_cons]
    cases h : (y :: m').getLast? with
    | none => simp at h
    | some z => rfl

/-- the rows of an equation in the line automaton: if the line is not a pure Action line when the
    first line break comes, and the last row holds text, the automaton ends behind visible text -/
theorem lineTo_rows (T : PTables) (ops : List Str) (opText : List (Str × Str)) (d : Str) :
    ∀ (moreR : List (Tok × RowT)) (σs : SecSt) (r0 : RowT) (P : Option Bool → Prop),
      (HasAmp (r0, moreR) → VisWords opText d) → RowsOk T (r0, moreR) → VisibleRepls σs.r → σs.r ≠ [] →
      (rowVisT T ops r0 = true ∨ ∀ σ, P σ → LOk σ) → rowVisT T ops (lastRow (r0, moreR)) = true →
      LineTo P LVis (rowsNew T ops opText d σs r0 moreR).1
  | [], σs, r0, P, hw, hok, hv, hne, _, hlast => by
    have hin := secsNew_inRow T ops opText d r0.2 true σs r0.1
      (fun h => hw (.inl (h.resolve_left nofun))) hok.1 hv hne
    exact (lineTo_row _ hin ((row_hasText T ops opText d σs r0).trans hlast)).mono (fun _ _ => trivial)
      fun _ h => h
  | x :: moreR, σs, r0, P, hw, hok, hv, hne, hfirst, hlast => by
    have hin := secsNew_inRow T ops opText d r0.2 true σs r0.1
      (fun h => hw (.inl (h.resolve_left nofun))) hok.1 hv hne
    rw [lastRow_cons] at hlast
    have ih := lineTo_rows T ops opText d moreR (secsNew T ops opText d true σs r0.1 r0.2).2 x.2 LOk
      (fun h => hw h.tail) hok.tail (secsNew_r @VisibleRepls.rotL T ops opText d r0.2 true σs r0.1 hv)
      (secsNew_r rotL_ne_nil T ops opText d r0.2 true σs r0.1 hne) (.inr fun _ h => h) hlast
    have hrow : LineTo P LOk (secsNew T ops opText d true σs r0.1 r0.2).1 := by
      rcases hfirst with h | h
      · exact (lineTo_row _ hin ((row_hasText T ops opText d σs r0).trans h)).mono (fun _ _ => trivial)
          fun _ => LVis.ok
      · exact (LineTo.all fun t ht => (hin t ht).lineTo (P := LOk) nofun).mono h fun _ h => h
    simp only [rowsNew]
    exact hrow.append ((LineTo.ws (t := nlSp _) (Or.inl rfl) (show isBlank [nl, ' ', ' '] = true by decide)).cons ih)

/-- both the first and the last row of the equation generate text -/
def EqnVis (T : PTables) (ops : List Str) (tr : RowsT) : Prop :=
  rowVisT T ops tr.1 = true ∧ rowVisT T ops (lastRow tr) = true

/-- the line automaton passes an equation and is behind visible text afterwards -/
theorem lineTo_eqn (T : PTables) (ops : List Str) (opText : List (Str × Str)) (d : Str)
    (l : List Str) (p : Nat) (tr : RowsT) (hw : HasAmp tr → VisWords opText d) (hok : RowsOk T tr)
    (hv : VisibleRepls l) (hne : l ≠ []) (hvis : EqnVis T ops tr) :
    LineTo LAny LVis (eqnToks T ops opText d l p tr) := by
  unfold eqnToks eqnNew
  exact (((LineTo.actionAny (t := mkAction p) rfl).cons
    ((LineTo.blank (t := mkFix .space p [' ', ' ']) (Or.inl rfl) (show isBlank [' ', ' '] = true by decide)
      (show hasNl [' ', ' '] = false by decide)).cons .nil)).append
    (lineTo_rows T ops opText d tr.2 { nr := true, r := l, last := p } tr.1 LAny hw hok hv hne (.inl hvis.1)
      hvis.2)).append (.actionVis (t := mkAction _) rfl)

/-! ### `expandSequence` on plain tokens and equations with rows and sections -/

/-- the pieces of a token buffer: a token that is copied, an equation `\[ rows \]`, or an equation
    `\begin{name} rows \end{name}` -/
inductive Piece where
  | tok (t : Tok)
  | disp (d1 : Tok) (tr : RowsT) (d2 : Tok)
  | env (p q1 q2 : Nat) (nt : List Tok) (tr : RowsT) (p' q1' q2' : Nat) (nt' : List Tok)

def Piece.toks : Piece → List Tok
  | .tok t => [t]
  | .disp d1 tr d2 => d1 :: (rowsBuf tr ++ [d2])
  | .env p q1 q2 nt tr p' q1' q2' nt' =>
    begTok p :: lbr q1 :: (nt ++ rbr q2 :: (rowsBuf tr ++ endTok p' :: lbr q1' :: (nt' ++ [rbr q2'])))

def flat : List Piece → List Tok
  | [] => []
  | p :: ps => p.toks ++ flat ps

/-- fuel the loop needs -/
def cost : List Piece → Nat
  | [] => 0
  | .tok _ :: ps => cost ps + 1
  | .disp _ tr _ :: ps => cost ps + (rowsCost tr + 3)
  | .env _ _ _ nt tr _ _ _ nt' :: ps => cost ps + (rowsCost tr + nt.length + nt'.length + 10)

/-- the equation has a section behind a `&` -/
def Piece.amp : Piece → Prop
  | .tok _ => False
  | .disp _ tr _ => HasAmp tr
  | .env _ _ _ _ tr _ _ _ _ => HasAmp tr

/-- a buffer of plain tokens (copied by `expandSequence`) and equations -/
def PiecesOk (T : PTables) (st : PState) : List Piece → Prop
  | [] => True
  | .tok t :: rest => PlainTok t ∧ PassTok T st t (flat rest) ∧ TokShape t ∧ PiecesOk T st rest
  | .disp d1 tr d2 :: rest =>
    defEnvOk T st = true ∧ OpenTok d1 ∧ RowsOk T tr ∧ EqnVis T st.mathOperators tr ∧ CloseTok d2 ∧
      PiecesOk T st rest
  | .env _ _ _ nt tr _ _ _ nt' :: rest =>
    noEmptyActive T st = true ∧ NameToks T st nt ∧ NameToks T st nt' ∧
    PlainMacro.bodyTxt nt' = PlainMacro.bodyTxt nt ∧
    equEnvAt st (PlainMacro.bodyTxt nt) = true ∧
    PlainMacro.bodyTxt nt ≠ "$".toList ∧ PlainMacro.bodyTxt nt ≠ "\\(".toList ∧
    RowsOk T tr ∧ EqnVis T st.mathOperators tr ∧ PiecesOk T st rest

/-- what `expandSequence` emits for the pieces before the blank-line removal, `l` being the stored
    display collection -/
def outD (T : PTables) (ops : List Str) (opText : List (Str × Str)) (d : Str) :
    List Str → List Piece → List Tok
  | _, [] => []
  | l, .tok t :: rest => t :: outD T ops opText d l rest
  | l, .disp d1 tr _ :: rest =>
    eqnToks T ops opText d l d1.pos tr ++ outD T ops opText d (eqnNew T ops opText d l d1.pos tr).2.r rest
  | l, .env p _ _ _ tr _ _ _ _ :: rest =>
    mkAction p :: mkAction p ::
      (eqnToks T ops opText d l p tr ++ outD T ops opText d (eqnNew T ops opText d l p tr).2.r rest)

/-- the display collection behind the pieces -/
def finalR (T : PTables) (ops : List Str) (opText : List (Str × Str)) (d : Str) :
    List Str → List Piece → List Str
  | l, [] => l
  | l, .tok _ :: rest => finalR T ops opText d l rest
  | l, .disp d1 tr _ :: rest => finalR T ops opText d (eqnNew T ops opText d l d1.pos tr).2.r rest
  | l, .env p _ _ _ tr _ _ _ _ :: rest => finalR T ops opText d (eqnNew T ops opText d l p tr).2.r rest

theorem PiecesOk.tail {T : PTables} {st : PState} {p : Piece} {ps : List Piece}
    (h : PiecesOk T st (p :: ps)) : PiecesOk T st ps := by
  cases p with
  | tok => exact h.2.2.2
  | disp => exact h.2.2.2.2.2
  | env => exact h.2.2.2.2.2.2.2.2.2

/-- `\[ rows \]` in the loop: the tokens `eqnToks` are added, the rotated collection is stored.  One
    iteration, `expand_display_math` below it, and its loop one unit per token of the body. -/
theorem seqRun_disp (T : PTables) (envStop : Option Str) (ls : LangSettings) (d : Str)
    (d1 : Tok) (tr : RowsT) (hd : HasAmp tr → ls.opDefault = some d) (d2 : Tok) (ps : List Piece) (out : List Tok)
    (st : PState) (rot : Rot) (hdef : defEnvOk T st = true) (hd1 : OpenTok d1) (htr : RowsOk T tr)
    (hd2 : CloseTok d2) (hrot : rotOf st (curSettings st) = some rot) (hne : rot.disp ≠ [])
    (hls : settingsOf T (curSettings st) = some ls) (hds : st.displayedSimple = false) :
    ∃ st1, Sim st st1 ∧
      rotOf st1 (curSettings st)
        = some { rot with disp := (eqnNew T st.mathOperators ls.opText d rot.disp d1.pos tr).2.r } ∧
      SeqRun T envStop 0 (rowsCost tr + 3) ((Piece.disp d1 tr d2).toks ++ flat ps) out st (flat ps)
        (out ++ eqnToks T st.mathOperators ls.opText d rot.disp d1.pos tr) st1 := by
  obtain ⟨env, henv, hequ, hrem⟩ := defEnvOk_facts hdef
  have he3 : (d2.kind == Kind.par) = false := by
    rcases hd2.kind with hk | hk | hk <;> simp [hk]
  obtain ⟨st1, s1, s2, s3⟩ := expandDisplayMath_rows T st d1 env.name ls d tr (d2 :: flat ps) d2
    (flat ps) 1 rot (by simp [txtIs, hd2.txt]) (by simp [txtIs, hd2.txt]) he3 (noBrHead_close d2 _ hd2)
    (termAt_close T st env.name d2 _ hd2) htr hds hrot hls hd hne
  refine ⟨st1, s1, s2, SeqRun.of_eq (m := rowsCost tr + 1) (k := 2) (j := 1) (fun f hf => ?_)
    (by omega) (by omega)⟩
  rw [show (Piece.disp d1 tr d2).toks ++ flat ps = d1 :: (rowsBuf tr ++ d2 :: flat ps) by
      simp [Piece.toks],
    loop_display (Or.inl hd1.kind) (Or.inr hd1.txt) henv hequ, hrem]
  exact M.bind_ok _ (fun r => expandSequence T (f + 1) r.2 envStop (out ++ r.1)) _ _ _ (s3 f hf)

/-- `\begin{name} rows \end{name}` in the loop: `seqRun_begEqu` leads to the pushed-back equation
    token, the next iteration to `expand_display_math`, whose last section parser reads `\end{name}` -/
theorem seqRun_env (T : PTables) (envStop : Option Str) (ls : LangSettings) (d : Str)
    (p q1 q2 : Nat) (nt : List Tok) (tr : RowsT) (hd : HasAmp tr → ls.opDefault = some d) (p' q1' q2' : Nat)
    (nt' : List Tok) (ps : List Piece) (out : List Tok) (st : PState) (rot : Rot)
    (hnea : noEmptyActive T st = true) (hn1 : NameToks T st nt) (hn2 : NameToks T st nt')
    (hnn : PlainMacro.bodyTxt nt' = PlainMacro.bodyTxt nt) (hea : equEnvAt st (PlainMacro.bodyTxt nt) = true)
    (hx1 : PlainMacro.bodyTxt nt ≠ "$".toList) (hx2 : PlainMacro.bodyTxt nt ≠ "\\(".toList)
    (htr : RowsOk T tr) (hrot : rotOf st (curSettings st) = some rot) (hne : rot.disp ≠ [])
    (hls : settingsOf T (curSettings st) = some ls) (hds : st.displayedSimple = false) :
    ∃ st1, Sim st st1 ∧
      rotOf st1 (curSettings st)
        = some { rot with disp := (eqnNew T st.mathOperators ls.opText d rot.disp p tr).2.r } ∧
      SeqRun T envStop 0 (rowsCost tr + nt.length + nt'.length + 10)
        ((Piece.env p q1 q2 nt tr p' q1' q2' nt').toks ++ flat ps) out st (flat ps)
        (out ++ (mkAction p :: mkAction p :: eqnToks T st.mathOperators ls.opText d rot.disp p tr)) st1 := by
  obtain ⟨env', hle, hoke⟩ := equEnvAt_facts hea
  have hterm : TermAt T st (PlainMacro.bodyTxt nt)
      (endTok p' :: lbr q1' :: (nt' ++ rbr q2' :: flat ps)) (endTok p') (flat ps) (nt'.length + 5) := by
    rw [← hnn]
    rw [← hnn] at hle
    exact termAt_end T st p' q1' q2' nt' (flat ps) env' hn2 hle hoke
  obtain ⟨st1, s1, s2, s3⟩ := expandDisplayMath_rows T st (mbTok p (PlainMacro.bodyTxt nt))
    (PlainMacro.bodyTxt nt) ls d tr _ (endTok p') (flat ps) (nt'.length + 5) rot rfl rfl rfl
    (noBrHead_end p' _) hterm htr hds hrot hls hd hne
  have r2 : SeqRun T envStop 0 (rowsCost tr + nt.length + nt'.length + 7)
      (mbTok p (PlainMacro.bodyTxt nt) :: (rowsBuf tr ++ endTok p' :: lbr q1' :: (nt' ++ rbr q2' :: flat ps)))
      (out ++ [mkAction p, mkAction p]) st (flat ps)
      (out ++ [mkAction p, mkAction p] ++ eqnToks T st.mathOperators ls.opText d rot.disp p tr) st1 := by
    refine .of_eq (m := rowsCost tr + nt'.length + 6) (k := 1) (j := 0) (fun F hF => ?_) (by omega) (by omega)
    obtain ⟨f, rfl⟩ : ∃ f, F = f + 1 := ⟨F - 1, by omega⟩
    exact (loop_mathBegin rfl (by simpa [txtIs, mbTok] using hx1) (by simpa [txtIs, mbTok] using hx2)).trans
      (M.bind_ok _ _ _ _ _ (s3 f (by omega)))
  refine ⟨st1, s1, s2, ?_⟩
  rw [show (Piece.env p q1 q2 nt tr p' q1' q2' nt').toks ++ flat ps
        = begTok p :: lbr q1 :: (nt ++ rbr q2 ::
            (rowsBuf tr ++ endTok p' :: lbr q1' :: (nt' ++ rbr q2' :: flat ps))) by simp [Piece.toks]]
  exact ((seqRun_begEqu T p q1 q2 nt _ envStop out st env' hn1 hle hoke hnea).app r2 (by omega)).mono
    (Nat.le_refl _) (by omega)

/-- **the loop on a buffer of plain tokens and equations**: it emits `outD`; the state changes only in
    the rotation records, and the record of the current language holds the display collection
    `finalR` -/
theorem seqRun_rows (T : PTables) (envStop : Option Str) (ls : LangSettings) (d : Str) {st0 : PState} :
    ∀ (ps : List Piece) (out : List Tok) (st : PState) (rot : Rot), Ext st0 st →
      ((∃ p ∈ ps, p.amp) → ls.opDefault = some d) → PiecesOk T st0 ps →
      rotOf st (curSettings st) = some rot → rot.disp ≠ [] →
      settingsOf T (curSettings st) = some ls → st.displayedSimple = false →
      ∃ st', SeqRun T envStop 1 (cost ps) (flat ps) out st []
          (out ++ outD T st0.mathOperators ls.opText d rot.disp ps) st' ∧
        Sim st st' ∧
        rotOf st' (curSettings st)
          = some { rot with disp := finalR T st0.mathOperators ls.opText d rot.disp ps } := by
  intro ps
  induction ps with
  | nil =>
    intro out st rot _ _ _ hrot _ _ _
    refine ⟨st, ?_, Sim.refl st, hrot⟩
    rw [outD, List.append_nil]
    exact SeqRun.refl.mono (Nat.zero_le 1) (Nat.le_refl _)
  | cons p ps ih =>
    intro out st rot hr hd hok hrot hne hls hds
    have ih := fun out st rot hr => ih out st rot hr fun ⟨q, hq, h⟩ => hd ⟨q, by simp [hq], h⟩
    -- behind an equation: the hypothesis of the induction, in a state `st1` that differs from `st`
    -- in the rotation records only and holds the collection `l`
    have ihS : ∀ (out' : List Tok) (st1 : PState) (l : List Str), Sim st st1 →
        rotOf st1 (curSettings st) = some { rot with disp := l } → l ≠ [] →
        ∃ st', SeqRun T envStop 1 (cost ps) (flat ps) out' st1 []
            (out' ++ outD T st0.mathOperators ls.opText d l ps) st' ∧
          Sim st st' ∧
          rotOf st' (curSettings st) = some { rot with disp := finalR T st0.mathOperators ls.opText d l ps } := by
      intro out' st1 l s1 s2 hl
      obtain ⟨st', h1, h2, h3⟩ := ih out' st1 { rot with disp := l } (hr.reads s1.reads) hok.tail
        (by rw [s1.cur]; exact s2) hl (by rw [s1.cur]; exact hls) (by rw [s1.simple]; exact hds)
      exact ⟨st', h1, s1.trans h2, by rw [← s1.cur]; exact h3⟩
    cases p with
    | tok t =>
      exact (seqRun_plainTok hok.1 (hr.passTok hok.2.1)).app_ex_comm
        (ih (out ++ [t]) st rot hr hok.tail hrot hne hls hds) (Nat.zero_le _)
    | disp d1 tr d2 =>
      obtain ⟨st1, s1, s2, r1⟩ := seqRun_disp T envStop ls d d1 tr (fun h => hd ⟨.disp d1 tr d2, by simp, h⟩) d2 ps out
        st rot ((PlainDisplay.defEnvOk_ext hr).trans hok.1) hok.2.1 hok.2.2.1 hok.2.2.2.2.1 hrot hne hls hds
      rw [hr.ops] at s2 r1
      exact r1.app_ex_comm (ihS _ st1 _ s1 s2 (rowsNew_r rotL_ne_nil T _ _ d tr.2 _ tr.1 hne)) (Nat.zero_le _)
    | env p q1 q2 nt tr p' q1' q2' nt' =>
      obtain ⟨hnea, hn1, hn2, hnn, hea, hx1, hx2, htr, _, _⟩ := hok
      obtain ⟨st1, s1, s2, r1⟩ := seqRun_env T envStop ls d p q1 q2 nt tr
        (fun h => hd ⟨.env p q1 q2 nt tr p' q1' q2' nt', by simp, h⟩)
        p' q1' q2' nt' ps out st rot (hr.noEmptyActive hnea) (hn1.ext hr) (hn2.ext hr) hnn
        ((PlainDisplay.equEnvAt_ext hr _).trans hea) hx1 hx2 htr hrot hne hls hds
      rw [hr.ops] at s2 r1
      exact r1.app_ex_comm (ihS _ st1 _ s1 s2 (rowsNew_r rotL_ne_nil T _ _ d tr.2 _ tr.1 hne)) (Nat.zero_le _)

/-! ### the blank-line removal deletes nothing -/

theorem lineTo_outD (T : PTables) (st : PState) (opText : List (Str × Str)) (d : Str) :
    ∀ (ps : List Piece) (l : List Str), ((∃ p ∈ ps, p.amp) → VisWords opText d) → PiecesOk T st ps →
      VisibleRepls l → l ≠ [] → LineTo LOk LOk (outD T st.mathOperators opText d l ps)
  | [], _, _, _, _, _ => .nil
  | .tok _ :: ps, l, hw, hok, hl, hne =>
    (PlainMath.lineTo_tokShape hok.2.2.1).cons
      (lineTo_outD T st opText d ps l (fun ⟨q, hq, h⟩ => hw ⟨q, by simp [hq], h⟩) hok.2.2.2 hl hne)
  | .disp d1 tr d2 :: ps, l, hw, hok, hl, hne => by
    obtain ⟨_, _, htr, hvis, _, hrest⟩ := hok
    exact (lineTo_eqn T st.mathOperators opText d l d1.pos tr (fun h => hw ⟨.disp d1 tr d2, by simp, h⟩)
      htr hl hne hvis).ok.append
      (lineTo_outD T st opText d ps _ (fun ⟨q, hq, h⟩ => hw ⟨q, by simp [hq], h⟩) hrest
        (rowsNew_r @VisibleRepls.rotL T _ _ d tr.2 _ tr.1 hl) (rowsNew_r rotL_ne_nil T _ _ d tr.2 _ tr.1 hne))
  | .env p q1 q2 nt tr p' q1' q2' nt' :: ps, l, hw, hok, hl, hne => by
    obtain ⟨_, _, _, _, _, _, _, htr, hvis, hrest⟩ := hok
    have hA : LineTo LAny LAny [mkAction p] := .actionAny rfl
    exact (hA.cons (hA.cons (lineTo_eqn T st.mathOperators opText d l p tr
      (fun h => hw ⟨.env p q1 q2 nt tr p' q1' q2' nt', by simp, h⟩) htr hl hne hvis))).ok.append
      (lineTo_outD T st opText d ps _ (fun ⟨q, hq, h⟩ => hw ⟨q, by simp [hq], h⟩) hrest
        (rowsNew_r @VisibleRepls.rotL T _ _ d tr.2 _ tr.1 hl) (rowsNew_r rotL_ne_nil T _ _ d tr.2 _ tr.1 hne))

/-- the blank-line removal only drops the (empty) Action tokens -/
theorem removeLines_outD (T : PTables) (st : PState) (opText : List (Str × Str)) (d : Str)
    (ps : List Piece) (hw : (∃ p ∈ ps, p.amp) → VisWords opText d) (l : List Str)
    (hok : PiecesOk T st ps) (hl : VisibleRepls l) (hne : l ≠ []) :
    removeLines (outD T st.mathOperators opText d l ps)
      = some ((outD T st.mathOperators opText d l ps).filter keepOut) :=
  (lineTo_outD T st opText d ps l hw hok hl hne).removeLines

end PlainDispRows
end Yalafi
