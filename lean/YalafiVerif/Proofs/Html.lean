/-
  Proofs/Html.lean — theorems about the structure of the HTML report (Model/Html.lean).
-/
import YalafiVerif.Proofs.LineCol

deriving instance DecidableEq for Yalafi.SOut

namespace Yalafi
namespace Html

/-- a text that ends in a line break (what `proofreader.py` hands over) -/
def EndsNl (s : Str) : Prop := ∃ t, s = t ++ ['\n']

instance (s : Str) : Decidable (EndsNl s) :=
  decidable_of_iff (s.getLast? = some '\n') List.getLast?_eq_some_iff

theorem starts_last (s : Str) (h : EndsNl s) :
    (getLineStarts s).getD ((getLineStarts s).length - 1) 0 = s.length := by
  obtain ⟨t, rfl⟩ := h
  have hl : (getLineStarts (t ++ ['\n'])).length - 1 = (0 :: lineStartsAux 0 t).length := by
    simp [starts_length, aux_length]
  rw [hl]
  simp [getLineStarts, aux_append, lineStartsAux, List.getD]

theorem endsNl_starts_length (s : Str) (h : EndsNl s) : 2 ≤ (getLineStarts s).length := by
  obtain ⟨t, rfl⟩ := h
  simp [starts_length]

theorem slice_append (s : Str) (a b c : Nat) (hab : a ≤ b) (hbc : b ≤ c) :
    slice s a b ++ slice s b c = slice s a c := by
  unfold slice
  have h1 : s.take b = (s.take c).take b := by rw [List.take_take, Nat.min_eq_left hbc]
  rw [h1]
  generalize s.take c = t
  rw [List.drop_take]
  have h2 := List.take_append_drop (b - a) (t.drop a)
  rw [List.drop_drop] at h2
  have : a + (b - a) = b := by omega
  rw [this] at h2
  exact h2

theorem slice_of_length_le (s : Str) (a c : Nat) (h : s.length ≤ c) : slice s a c = s.drop a := by
  unfold slice; rw [List.take_of_length_le h]

theorem slice_append_drop (s : Str) (a b : Nat) (hab : a ≤ b) : slice s a b ++ s.drop b = s.drop a := by
  have h1 := slice_append s a b (max b s.length) hab (Nat.le_max_left _ _)
  rw [slice_of_length_le s b _ (Nat.le_max_right _ _), slice_of_length_le s a _ (Nat.le_max_right _ _)] at h1
  exact h1

theorem slice_append' (s : Str) (a b c : Nat) (hab : a ≤ b) (hbc : b ≤ c ∨ s.length ≤ c) :
    slice s a b ++ slice s b c = slice s a c := by
  rcases hbc with h | h
  · exact slice_append s a b c hab h
  · rw [slice_of_length_le s b c h, slice_of_length_le s a c h]; exact slice_append_drop s a b hab

theorem slice_eq_nil (s : Str) (a b : Nat) (h : b ≤ a) : slice s a b = [] := by
  unfold slice; simp only [List.drop_eq_nil_iff, List.length_take]; omega

theorem count_region_slice (s : Str) (b e : Nat) (hb : b < (getLineStarts s).length)
    (he : e < (getLineStarts s).length) :
    (slice s ((getLineStarts s).getD b 0) ((getLineStarts s).getD e 0)).count '\n' = e - b := by
  by_cases hbe : b ≤ e
  · have := count_take_add s _ _ (starts_mono s b e hbe he)
    rw [starts_count_take s e he, starts_count_take s b (by omega)] at this
    omega
  · rw [slice_eq_nil _ _ _ (starts_mono s e b (by omega) hb)]; simp; omega

theorem macroNameLen_pos (s : Str) (n : Nat) (h : macroNameLen s = some n) : 1 ≤ n := by
  unfold macroNameLen at h
  split at h
  · simp only at h
    split at h
    · simp at h
    · simp only [Option.some.injEq] at h; omega
  · simp at h

theorem correctMark_pos (hb : Int) (tex : Str) : 1 ≤ correctMarkMacroname hb 1 tex := by
  unfold correctMarkMacroname
  split
  · split
    · rename_i n hn
      have := macroNameLen_pos _ _ hn
      omega
    · omega
  · omega

theorem hackEnd_gt (T : Tables) (tex : Str) (u : Bool) (hb he : Int) (c : Char) (h : hb < he) :
    hb < hackEnd T tex u hb he c := by
  unfold hackEnd
  split
  · have := correctMark_pos hb tex; omega
  · split
    · simp only
      split <;> omega
    · exact h

theorem pyEnd_of_nonneg (tex : Str) (o : Int) (h : 0 ≤ o) : pyEnd tex o = o.toNat := by
  simp [pyEnd]; omega

/-- what the first loop stores for a match -/
structure HFacts (tex : Str) (idx : Nat) (h : HData) : Prop where
  idx : h.idx = idx
  lt : h.beg < (h.fin : Int)
  beglin : h.beglin = (tex.take (pyEnd tex h.beg)).count '\n'
  endlin : h.endlin = (tex.take h.fin).count '\n' + 1
  lin : h.lin = h.beglin

/-- what `computeH` has looked up in the map (`cb`, `ce`) and stored when it answers -/
structure HOk (T : Tables) (tex : Str) (cm : List Int) (idx : Nat) (o l : Int) (h : HData) (cb ce : Int) : Prop where
  lo : 0 ≤ o
  hi : o + max 1 l < cm.length
  atBeg : cm[o.toNat]? = some cb
  atEnd : cm[(o + max 1 l - 1).toNat]? = some ce
  idx : h.idx = idx
  unsure : h.unsure = (decide (cb < 0) || decide (ce < 0))
  beg : h.beg = iabs cb - 1
  beglin : h.beglin = (tex.take (pyEnd tex h.beg)).count '\n'
  endlin : h.endlin = (tex.take h.fin).count '\n' + 1
  lin : h.lin = h.beglin
  /-- one character with the two HACKs (always so for an unsure match), or the mapped end -/
  fin : ((h.unsure = true ∨ iabs ce ≤ h.beg + 1) ∧
          ∃ c, pyIndex tex h.beg = some c ∧ h.fin = (hackEnd T tex h.unsure h.beg (h.beg + 1) c).toNat) ∨
        (h.unsure = false ∧ h.beg + 1 < iabs ce ∧ h.fin = (iabs ce).toNat)

theorem computeH_ok (T : Tables) (tex : Str) (cm : List Int) (idx : Nat) (o l : Int) (h : HData)
    (hok : computeH T tex cm idx o l = .ok h) : ∃ cb ce, HOk T tex cm idx o l h cb ce := by
  unfold computeH at hok
  extract_lets n e at hok
  split at hok
  · cases hok
  · rename_i hrange
    simp only [Bool.or_eq_true, decide_eq_true_eq, not_or, Int.not_lt, ge_iff_le, Int.not_le, n, e] at hrange
    split at hok
    · rename_i cb ce hcb hce
      have hmax : max o (e - 1) = o + max 1 l - 1 := by simp only [e]; omega
      rw [hmax] at hce
      refine ⟨cb, ce, ?_⟩
      extract_lets u hb he0 he1 cOpt he2 bl at hok
      have hE : (u = true ∨ iabs ce ≤ hb) ∧ he1 = hb + 1 ∨ (u = false ∧ hb < iabs ce) ∧ he1 = iabs ce := by
        by_cases hc : (u || decide (he0 ≤ hb)) = true
        · exact Or.inl ⟨by simpa using hc, if_pos hc⟩
        · exact Or.inr ⟨by simpa using hc, if_neg hc⟩
      by_cases hone : he1 = hb + 1
      · -- `h.end == h.beg + 1`: `tex[h.beg]` is read
        have hcO : cOpt = some (pyIndex tex hb) := if_pos (by simpa using hone)
        have hA : u = true ∨ iabs ce ≤ hb + 1 := by
          rcases hE with ⟨h1, _⟩ | ⟨_, h2⟩
          · exact h1.imp id (fun h => by omega)
          · exact Or.inr (by omega)
        cases hp : pyIndex tex hb with
        | none => rw [hcO, hp] at hok; cases hok
        | some c =>
          have h2 : he2 = hackEnd T tex u hb (hb + 1) c := by simp only [he2, hcO, hp, ← hone]
          rw [hcO, hp] at hok
          simp only [SOut.ok.injEq] at hok
          subst hok
          exact ⟨hrange.1.1.1, hrange.2, hcb, hce, rfl, rfl, rfl, rfl, rfl, rfl,
            Or.inl ⟨hA, c, hp, congrArg Int.toNat h2⟩⟩
      · have hcO : cOpt = none := if_neg (by simpa using hone)
        have h2 : he2 = he1 := by simp only [he2, hcO]
        rw [hcO] at hok
        simp only [SOut.ok.injEq] at hok
        subst hok
        rcases hE with ⟨_, h3⟩ | ⟨h1, h3⟩
        · exact absurd h3 hone
        · have hlt : hb + 1 < iabs ce := by rw [h3] at hone; omega
          exact ⟨hrange.1.1.1, hrange.2, hcb, hce, rfl, rfl, rfl, rfl, rfl, rfl,
            Or.inr ⟨h1.1, hlt, congrArg Int.toNat (h2.trans h3)⟩⟩
    · cases hok
theorem computeH_facts (T : Tables) (tex : Str) (cm : List Int) (idx : Nat) (o l : Int) (h : HData)
    (hok : computeH T tex cm idx o l = .ok h) : HFacts tex idx h := by
  obtain ⟨cb, ce, k⟩ := computeH_ok T tex cm idx o l h hok
  refine ⟨k.idx, ?_, k.beglin, k.endlin, k.lin⟩
  rcases k.fin with ⟨_, c, _, hf⟩ | ⟨_, hlt, hf⟩
  · have := hackEnd_gt T tex h.unsure h.beg (h.beg + 1) c (by omega)
    omega
  · omega

/-- positions are 1-based: without a map entry `0` no match begins at `-1` -/
theorem computeH_beg_nonneg (T : Tables) (tex : Str) (cm : List Int) (idx : Nat) (o l : Int) (h : HData)
    (hcm : ∀ c ∈ cm, c ≠ 0) (hok : computeH T tex cm idx o l = .ok h) : 0 ≤ h.beg := by
  obtain ⟨cb, ce, k⟩ := computeH_ok T tex cm idx o l h hok
  have := hcm cb (List.mem_of_getElem? k.atBeg)
  rw [k.beg]
  unfold iabs
  split <;> omega

theorem hdataFrom_facts (T : Tables) (tex : Str) (cm : List Int) (i : Nat) (ms : List (Int × Int)) (hs : List HData)
    (hok : hdataFrom T tex cm i ms = .ok hs) :
    hs.map (·.idx) = List.range' i ms.length ∧
    ∀ h ∈ hs, i ≤ h.idx ∧ ∃ m, ms[h.idx - i]? = some m ∧ computeH T tex cm h.idx m.1 m.2 = .ok h := by
  induction ms generalizing i hs with
  | nil => simp only [hdataFrom, SOut.ok.injEq] at hok; subst hok; simp
  | cons m ms ih =>
    simp only [hdataFrom] at hok
    split at hok
    · rename_i h hh
      split at hok
      · rename_i hs' hhs
        simp only [SOut.ok.injEq] at hok; subst hok
        have ⟨ih1, ih2⟩ := ih (i + 1) hs' hhs
        have hidx := (computeH_facts T tex cm i m.1 m.2 h hh).idx
        refine ⟨?_, ?_⟩
        · simp [List.range'_succ, ih1, hidx]
        · intro h' hm
          rcases List.mem_cons.mp hm with e | e
          · subst e
            refine ⟨by omega, m, ?_, ?_⟩
            · simp [hidx]
            · rw [hidx]; exact hh
          · have ⟨a, m', b, c⟩ := ih2 h' e
            refine ⟨by omega, m', ?_, c⟩
            have : h'.idx - i = (h'.idx - (i + 1)) + 1 := by omega
            rw [this]; simpa using b
      · cases hok
      · cases hok
    · cases hok
    · cases hok

theorem piecesText_cons (p : Piece) (ps : List Piece) : piecesText (p :: ps) = p.text ++ piecesText ps := by
  simp [piecesText]

theorem regionPieces_text (tex : Str) (stop : Nat) (hs : List HData) (last : Nat)
    (hlt : ∀ h ∈ hs, h.beg < (h.fin : Int))
    (hstop : ∀ h ∈ hs, h.fin ≤ stop ∨ tex.length ≤ stop) :
    piecesText (regionPieces tex stop last hs) = slice tex last stop := by
  induction hs generalizing last with
  | nil => simp [regionPieces, piecesText, Piece.text]
  | cons h hs ih =>
    have ih' := fun l => ih l (fun x hx => hlt x (List.mem_cons_of_mem _ hx)) (fun x hx => hstop x (List.mem_cons_of_mem _ hx))
    simp only [regionPieces]
    split
    · exact ih' last
    · rename_i hov
      have h1 := hlt h List.mem_cons_self
      have h2 := hstop h List.mem_cons_self
      rw [piecesText_cons, piecesText_cons, ih' h.fin]
      simp only [Piece.text]
      rw [← List.append_assoc, slice_append tex last h.beg.toNat h.fin (by omega) (by omega)]
      exact slice_append' tex last h.fin stop (by omega) h2


theorem foldl_max_le_init (l : List HData) (m : Nat) : m ≤ l.foldl (fun m h => max m h.endlin) m := by
  induction l generalizing m with
  | nil => simp
  | cons h l ih => simp only [List.foldl_cons]; have := ih (max m h.endlin); omega

theorem foldl_max_mem (l : List HData) (m : Nat) (h : HData) (hm : h ∈ l) :
    h.endlin ≤ l.foldl (fun m h => max m h.endlin) m := by
  induction l generalizing m with
  | nil => simp at hm
  | cons x l ih =>
    simp only [List.foldl_cons]
    rcases List.mem_cons.mp hm with e | e
    · subst e; have := foldl_max_le_init l (max m h.endlin); omega
    · exact ih _ e

theorem foldl_max_bound (l : List HData) (m n : Nat) (hm : m ≤ n) (hl : ∀ h ∈ l, h.endlin ≤ n) :
    l.foldl (fun m h => max m h.endlin) m ≤ n := by
  induction l generalizing m with
  | nil => simpa
  | cons x l ih =>
    simp only [List.foldl_cons]
    have := hl x List.mem_cons_self
    exact ih _ (by omega) (fun h hh => hl h (List.mem_cons_of_mem _ hh))

theorem maxEndlin_mem (reg : List HData) (h : HData) (hm : h ∈ reg) : h.endlin ≤ maxEndlin reg :=
  foldl_max_mem reg 0 h hm

theorem maxEndlin_bound (reg : List HData) (n : Nat) (hl : ∀ h ∈ reg, h.endlin ≤ n) : maxEndlin reg ≤ n :=
  foldl_max_bound reg 0 n (Nat.zero_le _) hl

theorem maxEndlin_snoc (cur : List HData) (h : HData) : maxEndlin (cur ++ [h]) = max (maxEndlin cur) h.endlin := by
  simp [maxEndlin, List.foldl_append]

theorem groupAux_flatten (cur hs : List HData) : (groupAux cur hs).flatten = cur ++ hs := by
  induction hs generalizing cur with
  | nil => simp [groupAux]
  | cons h hs ih =>
    simp only [groupAux]
    split
    · simp [ih]
    · simp [ih]

theorem group_flatten (l : List HData) : (group l).flatten = l := by
  cases l with
  | nil => simp [group]
  | cons h hs => simp [group, groupAux_flatten]

theorem groupAux_ne_nil (cur hs : List HData) (hc : cur ≠ []) : ∀ g ∈ groupAux cur hs, g ≠ [] := by
  induction hs generalizing cur with
  | nil => simp [groupAux, hc]
  | cons h hs ih =>
    simp only [groupAux]
    split
    · intro g hg
      rcases List.mem_cons.mp hg with e | e
      · subst e; exact hc
      · exact ih [h] (by simp) g e
    · exact ih (cur ++ [h]) (by simp)

theorem group_ne_nil (l : List HData) : ∀ g ∈ group l, g ≠ [] := by
  cases l with
  | nil => simp [group]
  | cons h hs => exact groupAux_ne_nil [h] hs (by simp)

theorem mem_group (l : List HData) (g : List HData) (hg : g ∈ group l) (h : HData) (hh : h ∈ g) : h ∈ l := by
  rw [← group_flatten l]; exact List.mem_flatten.mpr ⟨g, hg, hh⟩

theorem mem_group_widen {ctx n : Nat} {hs reg : List HData} (hreg : reg ∈ group (hs.map (widen ctx n)))
    {h' : HData} (hh : h' ∈ reg) : ∃ h ∈ hs, widen ctx n h = h' :=
  List.mem_map.mp (mem_group _ reg hreg h' hh)

theorem group_head {ctx n : Nat} {hs reg : List HData} (hreg : reg ∈ group (hs.map (widen ctx n))) :
    ∃ h ∈ hs, ∃ rest, reg = widen ctx n h :: rest := by
  cases reg with
  | nil => exact absurd rfl (group_ne_nil _ _ hreg)
  | cons h' rest =>
    obtain ⟨h, hh, rfl⟩ := mem_group_widen hreg List.mem_cons_self
    exact ⟨h, hh, rest, rfl⟩

theorem regBeglin_cons (h : HData) (rest : List HData) : regBeglin (h :: rest) = h.beglin := rfl

theorem map_idx_widen (ctx n : Nat) (hs : List HData) : (hs.map (widen ctx n)).map (·.idx) = hs.map (·.idx) := by
  simp [widen, Function.comp_def]

section
variable {T : Tables} {tex : Str} {cm : List Int} {ms : List (Int × Int)} {ctx : Nat} {rep : Report}

theorem generateHtml_ok (hok : generateHtml T tex cm ms ctx = .ok rep) :
    rep.hdata.map (·.idx) = List.range' 0 ms.length ∧
    (∀ h ∈ rep.hdata, ∃ m, ms[h.idx]? = some m ∧ computeH T tex cm h.idx m.1 m.2 = .ok h) ∧
    rep.regions = (group (rep.hdata.map (widen ctx ((getLineStarts tex).length - 1)))).map (mkRegion tex (getLineStarts tex)) ∧
    rep.first = if rep.regions.isEmpty then some (noProblems tex (getLineStarts tex) ctx) else none := by
  unfold generateHtml at hok
  split at hok
  · cases hok
  · cases hok
  · rename_i hs hh
    simp only [SOut.ok.injEq] at hok
    subst hok
    have ⟨h1, h2⟩ := hdataFrom_facts T tex cm 0 ms hs hh
    exact ⟨h1, fun h hm => by simpa using (h2 h hm).2, rfl, rfl⟩

theorem hdata_facts (hok : generateHtml T tex cm ms ctx = .ok rep) : ∀ h ∈ rep.hdata, HFacts tex h.idx h := by
  intro h hm
  obtain ⟨m, _, c⟩ := (generateHtml_ok hok).2.1 h hm
  exact computeH_facts T tex cm h.idx m.1 m.2 h c

theorem hdata_beg_nonneg (hok : generateHtml T tex cm ms ctx = .ok rep) (hcm : ∀ c ∈ cm, c ≠ 0) :
    ∀ h ∈ rep.hdata, 0 ≤ h.beg := by
  intro h hm
  obtain ⟨m, _, c⟩ := (generateHtml_ok hok).2.1 h hm
  exact computeH_beg_nonneg T tex cm h.idx m.1 m.2 h hcm c

theorem mem_regions (hok : generateHtml T tex cm ms ctx = .ok rep) (r : Region) (hr : r ∈ rep.regions) :
    ∃ reg ∈ group (rep.hdata.map (widen ctx ((getLineStarts tex).length - 1))),
      mkRegion tex (getLineStarts tex) reg = r := by
  rw [(generateHtml_ok hok).2.2.1] at hr
  exact List.mem_map.mp hr

end

theorem widen_stop (tex : Str) (hnl : EndsNl tex) (ctx : Nat) (h : HData) (idx : Nat) (hf : HFacts tex idx h) :
    let h' := widen ctx ((getLineStarts tex).length - 1) h
    h'.endlin < (getLineStarts tex).length ∧
    (h'.fin ≤ (getLineStarts tex).getD h'.endlin 0 ∨ tex.length ≤ (getLineStarts tex).getD h'.endlin 0) := by
  have h2 := endsNl_starts_length tex hnl
  simp only [widen]
  refine ⟨by omega, ?_⟩
  by_cases hc : h.endlin + ctx ≤ (getLineStarts tex).length - 1
  · left
    rw [Nat.min_eq_left hc]
    have h3 : h.endlin < (getLineStarts tex).length := by omega
    have h4 := starts_gt tex h.fin (by rw [← hf.endlin]; exact h3)
    rw [← hf.endlin] at h4
    have := starts_mono tex h.endlin (h.endlin + ctx) (by omega) (by omega)
    omega
  · right
    rw [Nat.min_eq_right (by omega), starts_last tex hnl]
    exact Nat.le_refl _

theorem mkRegion_text (tex : Str) (hnl : EndsNl tex) (ctx : Nat) (hs : List HData)
    (hf : ∀ h ∈ hs, HFacts tex h.idx h) (reg : List HData)
    (hreg : reg ∈ group (hs.map (widen ctx ((getLineStarts tex).length - 1)))) :
    let r := mkRegion tex (getLineStarts tex) reg
    r.text = slice tex ((getLineStarts tex).getD r.beglin 0) ((getLineStarts tex).getD r.endlin 0) ∧
    r.endlin < (getLineStarts tex).length := by
  have hmem : ∀ h' ∈ reg, ∃ h ∈ hs, widen ctx ((getLineStarts tex).length - 1) h = h' :=
    fun _ hh => mem_group_widen hreg hh
  have h2 := endsNl_starts_length tex hnl
  have hend : maxEndlin reg < (getLineStarts tex).length := by
    have : maxEndlin reg ≤ (getLineStarts tex).length - 1 := by
      apply maxEndlin_bound
      intro h' hh
      obtain ⟨h, _, rfl⟩ := hmem h' hh
      simp only [widen]; omega
    omega
  refine ⟨?_, hend⟩
  simp only [mkRegion, Region.text]
  apply regionPieces_text
  · intro h' hh
    obtain ⟨h, hh1, rfl⟩ := hmem h' hh
    exact (hf h hh1).lt
  · intro h' hh
    obtain ⟨h, hh1, rfl⟩ := hmem h' hh
    have ⟨w1, w2⟩ := widen_stop tex hnl ctx h h.idx (hf h hh1)
    have hle := maxEndlin_mem reg _ hh
    have hm := starts_mono tex _ _ hle hend
    rcases w2 with w | w
    · left; omega
    · right; omega

/-- (a) the cells of a region are the source lines `beglin … endlin-1`, none lost, none twice -/
theorem region_text (T : Tables) (tex : Str) (cm : List Int) (ms : List (Int × Int)) (ctx : Nat) (rep : Report)
    (hnl : EndsNl tex) (hok : generateHtml T tex cm ms ctx = .ok rep) :
    ∀ r ∈ rep.regions,
      r.text = slice tex ((getLineStarts tex).getD r.beglin 0) ((getLineStarts tex).getD r.endlin 0) := by
  intro r hr
  obtain ⟨reg, hreg, rfl⟩ := mem_regions hok r hr
  exact (mkRegion_text tex hnl ctx rep.hdata (hdata_facts hok) reg hreg).1


theorem splitRows_ne_nil {α} (l : List (α × Char)) : splitRows l ≠ [] := by
  cases l with
  | nil => simp [splitRows]
  | cons x rest =>
    simp only [splitRows]
    split
    · simp
    · split <;> simp

theorem splitRows_length {α} (l : List (α × Char)) : (splitRows l).length = (l.map (·.2)).count '\n' + 1 := by
  induction l with
  | nil => simp [splitRows]
  | cons x rest ih =>
    simp only [splitRows, List.map_cons, List.count_cons]
    split
    · rename_i hc
      simp [ih]
    · rename_i hc
      have hc' : (x.2 == '\n') = false := by simpa using hc
      split
      · rename_i r rs hr
        rw [hr] at ih
        simp only [List.length_cons] at ih ⊢
        simp [← ih]
      · rename_i hr
        exact absurd hr (splitRows_ne_nil rest)

theorem taggedChars_snd (ps : List Piece) : (taggedChars ps).map (·.2) = piecesText ps := by
  induction ps with
  | nil => simp [taggedChars, piecesText]
  | cons p ps ih =>
    simp only [taggedChars, piecesText, List.flatMap_cons, List.map_append] at ih ⊢
    rw [ih]
    simp [Function.comp_def]

theorem rows_length (r : Region) : r.rows.length = r.text.count '\n' + 1 := by
  simp [Region.rows, Region.text, splitRows_length, taggedChars_snd]

theorem regBeglin_lt (tex : Str) (ctx : Nat) (hs : List HData)
    (hf : ∀ h ∈ hs, HFacts tex h.idx h) (reg : List HData)
    (hreg : reg ∈ group (hs.map (widen ctx ((getLineStarts tex).length - 1)))) :
    regBeglin reg < (getLineStarts tex).length := by
  obtain ⟨h, hh, rest, rfl⟩ := group_head hreg
  have h3 := (hf h hh).beglin
  have h4 := count_take_le tex (pyEnd tex h.beg)
  simp only [regBeglin_cons, widen, starts_length]
  omega

/-- (b) the line numbers of a region are `beglin … endlin-1` and the separator `-1`; there is exactly
    one number per table row -/
theorem region_line_numbers (T : Tables) (tex : Str) (cm : List Int) (ms : List (Int × Int)) (ctx : Nat) (rep : Report)
    (hnl : EndsNl tex) (hok : generateHtml T tex cm ms ctx = .ok rep) :
    ∀ r ∈ rep.regions,
      r.lineNumbers = (List.range' r.beglin (r.endlin - r.beglin)).map Int.ofNat ++ [-1] ∧
      r.rows.length = r.lineNumbers.length := by
  intro r hr
  obtain ⟨reg, hreg, rfl⟩ := mem_regions hok r hr
  have ⟨ht, he⟩ := mkRegion_text tex hnl ctx rep.hdata (hdata_facts hok) reg hreg
  have hb : (mkRegion tex (getLineStarts tex) reg).beglin < (getLineStarts tex).length :=
    regBeglin_lt tex ctx rep.hdata (hdata_facts hok) reg hreg
  refine ⟨rfl, ?_⟩
  rw [rows_length, ht, count_region_slice tex _ _ hb he]
  simp [mkRegion]

def Region.hiIdx (r : Region) : List Nat := r.pieces.filterMap Piece.tag
/-- the matches highlighted in place, in the order of the report -/
def Report.hiIdx (r : Report) : List Nat := r.regions.flatMap Region.hiIdx
/-- the matches in the list of overlapping messages -/
def Report.ovIdx (r : Report) : List Nat := r.overlaps.map (·.idx)

theorem region_count (tex : Str) (stop : Nat) (reg : List HData) (last : Nat) (i : Nat) :
    ((regionPieces tex stop last reg).filterMap Piece.tag).count i
      + ((regionOverlaps tex last reg).map (·.idx)).count i = (reg.map (·.idx)).count i := by
  induction reg generalizing last with
  | nil => simp [regionPieces, regionOverlaps, List.filterMap_cons, Piece.tag]
  | cons h hs ih =>
    simp only [regionPieces, regionOverlaps]
    split
    · simp only [List.map_cons, List.count_cons]
      have := ih last
      omega
    · simp only [List.filterMap_cons, Piece.tag, List.map_cons, List.count_cons]
      have := ih h.fin
      omega

theorem regions_count (tex : Str) (starts : List Nat) (gs : List (List HData)) (i : Nat) :
    ((gs.map (mkRegion tex starts)).flatMap Region.hiIdx).count i
      + (((gs.map (mkRegion tex starts)).flatMap (·.overlaps)).map (·.idx)).count i
      = (gs.flatten.map (·.idx)).count i := by
  induction gs with
  | nil => simp
  | cons g gs ih =>
    simp only [List.map_cons, List.flatMap_cons, List.count_append, List.map_append, List.flatten_cons] at ih ⊢
    have := region_count tex (starts.getD (maxEndlin g) 0) g (starts.getD (regBeglin g) 0) i
    simp only [Region.hiIdx, mkRegion]
    omega

theorem count_range' (i s n : Nat) : (List.range' s n).count i = if s ≤ i ∧ i < s + n then 1 else 0 := by
  simp only [List.Nodup.count (List.nodup_range' (s := s) (n := n)), List.mem_range'_1]

/-- (c) every match occurs exactly once: as a highlight in place or in the list of overlapping messages -/
theorem each_match_once (T : Tables) (tex : Str) (cm : List Int) (ms : List (Int × Int)) (ctx : Nat) (rep : Report)
    (hok : generateHtml T tex cm ms ctx = .ok rep) (i : Nat) :
    (rep.hiIdx ++ rep.ovIdx).count i = if i < ms.length then 1 else 0 := by
  obtain ⟨h1, _, h2, _⟩ := generateHtml_ok hok
  simp only [Report.hiIdx, Report.ovIdx, Report.overlaps, List.count_append, h2]
  rw [regions_count, group_flatten, map_idx_widen, h1, count_range']
  simp


theorem regionPieces_hi (tex : Str) (stop : Nat) (reg : List HData) (last : Nat) (i : Nat) (s : Str)
    (hm : Piece.hi i s ∈ regionPieces tex stop last reg) :
    ∃ h ∈ reg, h.idx = i ∧ 0 ≤ h.beg ∧ s = slice tex h.beg.toNat h.fin := by
  induction reg generalizing last with
  | nil => simp [regionPieces] at hm
  | cons h hs ih =>
    simp only [regionPieces] at hm
    split at hm
    · obtain ⟨h', a, b⟩ := ih last hm
      exact ⟨h', List.mem_cons_of_mem _ a, b⟩
    · rename_i hov
      simp only [List.mem_cons, reduceCtorEq, Piece.hi.injEq, false_or] at hm
      rcases hm with ⟨e1, e2⟩ | hm
      · exact ⟨h, List.mem_cons_self, e1.symm, by omega, e2⟩
      · obtain ⟨h', a, b⟩ := ih h.fin hm
        exact ⟨h', List.mem_cons_of_mem _ a, b⟩

theorem regionOverlaps_mem (tex : Str) (reg : List HData) (last : Nat) (o : Overlap)
    (hm : o ∈ regionOverlaps tex last reg) :
    ∃ h ∈ reg, h.idx = o.idx ∧ o.lin = h.lin + 1 ∧ o.text = sliceI tex h.beg h.fin := by
  induction reg generalizing last with
  | nil => simp [regionOverlaps] at hm
  | cons h hs ih =>
    simp only [regionOverlaps] at hm
    split at hm
    · rcases List.mem_cons.mp hm with e | hm
      · subst e; exact ⟨h, List.mem_cons_self, rfl, rfl, rfl⟩
      · obtain ⟨h', a, b⟩ := ih last hm
        exact ⟨h', List.mem_cons_of_mem _ a, b⟩
    · obtain ⟨h', a, b⟩ := ih h.fin hm
      exact ⟨h', List.mem_cons_of_mem _ a, b⟩

/-- (c) the text of a highlight in place is the source span `tex[h.beg:h.end]` of its match, where
    `h` is what the first loop computes for match number `i` -/
theorem hi_text (T : Tables) (tex : Str) (cm : List Int) (ms : List (Int × Int)) (ctx : Nat) (rep : Report)
    (hok : generateHtml T tex cm ms ctx = .ok rep) :
    ∀ r ∈ rep.regions, ∀ i s, Piece.hi i s ∈ r.pieces →
      ∃ m h, ms[i]? = some m ∧ computeH T tex cm i m.1 m.2 = .ok h ∧ 0 ≤ h.beg ∧
        s = slice tex h.beg.toNat h.fin := by
  intro r hr i s hp
  obtain ⟨reg, hreg, rfl⟩ := mem_regions hok r hr
  obtain ⟨h', hh', e1, e2, e3⟩ := regionPieces_hi tex _ reg _ i s hp
  obtain ⟨h, hh, rfl⟩ := mem_group_widen hreg hh'
  obtain ⟨m, hm1, hm2⟩ := (generateHtml_ok hok).2.1 h hh
  subst e1
  exact ⟨m, h, hm1, hm2, e2, e3⟩

/-- the same for an entry of the list of overlapping messages, with its line number -/
theorem overlap_text (T : Tables) (tex : Str) (cm : List Int) (ms : List (Int × Int)) (ctx : Nat) (rep : Report)
    (hok : generateHtml T tex cm ms ctx = .ok rep) :
    ∀ o ∈ rep.overlaps,
      ∃ m h, ms[o.idx]? = some m ∧ computeH T tex cm o.idx m.1 m.2 = .ok h ∧
        o.lin = h.lin + 1 ∧ o.text = sliceI tex h.beg h.fin := by
  intro o ho
  obtain ⟨r, hr, ho⟩ := List.mem_flatMap.mp ho
  obtain ⟨reg, hreg, rfl⟩ := mem_regions hok r hr
  obtain ⟨h', hh', e1, e2, e3⟩ := regionOverlaps_mem tex reg _ o ho
  obtain ⟨h, hh, rfl⟩ := mem_group_widen hreg hh'
  obtain ⟨m, hm1, hm2⟩ := (generateHtml_ok hok).2.1 h hh
  rw [← e1]
  exact ⟨m, h, hm1, hm2, e2, e3⟩

def Ordered : List (List HData) → Prop
  | [] => True
  | [_] => True
  | a :: b :: rest => maxEndlin a ≤ regBeglin b ∧ Ordered (b :: rest)

theorem regBeglin_snoc (cur : List HData) (h : HData) (hc : cur ≠ []) : regBeglin (cur ++ [h]) = regBeglin cur := by
  cases cur with
  | nil => exact absurd rfl hc
  | cons x xs => simp [regBeglin]

theorem groupAux_ordered (cur hs : List HData) (hc : cur ≠ []) :
    Ordered (groupAux cur hs) ∧ ∃ g rest, groupAux cur hs = g :: rest ∧ regBeglin g = regBeglin cur := by
  induction hs generalizing cur with
  | nil => simp [groupAux, Ordered]
  | cons h hs ih =>
    simp only [groupAux]
    split
    · rename_i hge
      obtain ⟨o, g, rest, e1, e2⟩ := ih [h] (by simp)
      refine ⟨?_, cur, _, rfl, rfl⟩
      rw [e1]
      simp only [Ordered]
      rw [← e1]
      refine ⟨?_, o⟩
      rw [e2]; simpa [regBeglin] using hge
    · obtain ⟨o, g, rest, e1, e2⟩ := ih (cur ++ [h]) (by simp)
      exact ⟨o, g, rest, e1, by rw [e2, regBeglin_snoc cur h hc]⟩

theorem group_ordered (l : List HData) : Ordered (group l) := by
  cases l with
  | nil => simp [group, Ordered]
  | cons h hs => exact (groupAux_ordered [h] hs (by simp)).1

theorem ordered_getElem (gs : List (List HData)) (ho : Ordered gs) (k : Nat) (hk : k + 1 < gs.length) :
    maxEndlin gs[k] ≤ regBeglin gs[k + 1] := by
  induction gs generalizing k with
  | nil => simp at hk
  | cons a gs ih =>
    cases gs with
    | nil => simp at hk
    | cons b rest =>
      simp only [Ordered] at ho
      cases k with
      | zero => simpa using ho.1
      | succ k =>
        have := ih ho.2 k (by simpa using hk)
        simpa using this

/-- (d) regions follow each other in the order of the file: a region ends (exclusive line `endlin`)
    before or where the next one begins; no hypothesis on the matches is needed -/
theorem regions_ordered (T : Tables) (tex : Str) (cm : List Int) (ms : List (Int × Int)) (ctx : Nat) (rep : Report)
    (hok : generateHtml T tex cm ms ctx = .ok rep) (k : Nat) (hk : k + 1 < rep.regions.length) :
    rep.regions[k].endlin ≤ rep.regions[k + 1].beglin := by
  have h2 := (generateHtml_ok hok).2.2.1
  have hk' : k + 1 < (group (rep.hdata.map (widen ctx ((getLineStarts tex).length - 1)))).length := by
    have := congrArg List.length h2
    simp only [List.length_map] at this
    omega
  have := ordered_getElem _ (group_ordered _) k hk'
  simp only [h2, List.getElem_map, mkRegion]
  exact this


theorem maxEndlin_const (cur : List HData) (n : Nat) (hc : cur ≠ []) (hall : ∀ h ∈ cur, h.endlin = n) :
    maxEndlin cur = n := by
  cases cur with
  | nil => exact absurd rfl hc
  | cons x xs =>
    have h1 := maxEndlin_mem (x :: xs) x List.mem_cons_self
    have h2 := maxEndlin_bound (x :: xs) n (fun h hh => Nat.le_of_eq (hall h hh))
    have := hall x List.mem_cons_self
    omega

theorem groupAux_single (cur hs : List HData) (n : Nat) (hn : 1 ≤ n) (hc : cur ≠ [])
    (hcur : ∀ h ∈ cur, h.endlin = n) (hall : ∀ h ∈ hs, h.beglin = 0 ∧ h.endlin = n) :
    groupAux cur hs = [cur ++ hs] := by
  induction hs generalizing cur with
  | nil => simp [groupAux]
  | cons h hs ih =>
    have hh := hall h List.mem_cons_self
    simp only [groupAux]
    rw [maxEndlin_const cur n hc hcur]
    have : ¬ (h.beglin ≥ n) := by omega
    simp only [this, ite_false]
    rw [ih (cur ++ [h]) (by simp)]
    · simp
    · intro x hx
      rcases List.mem_append.mp hx with e | e
      · exact hcur x e
      · simp only [List.mem_singleton] at e; subst e; exact hh.2
    · exact fun x hx => hall x (List.mem_cons_of_mem _ hx)

theorem group_single (l : List HData) (n : Nat) (hn : 1 ≤ n) (hne : l ≠ [])
    (hall : ∀ h ∈ l, h.beglin = 0 ∧ h.endlin = n) : group l = [l] := by
  cases l with
  | nil => exact absurd rfl hne
  | cons x xs =>
    exact groupAux_single [x] xs n hn (by simp)
      (fun h hh => by rw [List.mem_singleton.mp hh]; exact (hall x List.mem_cons_self).2)
      (fun h hh => hall h (List.mem_cons_of_mem _ hh))

theorem slice_all (tex : Str) : slice tex 0 tex.length = tex := by simp [slice]

/-- (e) a context that reaches over the whole file (at least as many lines as the file has; this is
    what `shell.py` makes of a negative `--context`, see `whole_file_negative`): if there is a match
    at all, the report consists of ONE region, it runs from the first line to the last, its cells
    are the whole file and the line numbers are `0 … N-1` and the separator -/
theorem whole_file (T : Tables) (tex : Str) (cm : List Int) (ms : List (Int × Int)) (ctx : Nat) (rep : Report)
    (hnl : EndsNl tex) (hctx : tex.count '\n' ≤ ctx) (hms : ms ≠ [])
    (hok : generateHtml T tex cm ms ctx = .ok rep) :
    ∃ r, rep.regions = [r] ∧ r.beglin = 0 ∧ r.endlin = tex.count '\n' ∧ r.text = tex ∧
      r.lineNumbers = (List.range (tex.count '\n')).map Int.ofNat ++ [-1] ∧ rep.first = none := by
  obtain ⟨hidx, _, h2, h3⟩ := generateHtml_ok hok
  have hN : (getLineStarts tex).length - 1 = tex.count '\n' := by simp [starts_length]
  have hn1 : 1 ≤ tex.count '\n' := by have := endsNl_starts_length tex hnl; omega
  -- every widened match spans the whole file
  have hall : ∀ h' ∈ rep.hdata.map (widen ctx ((getLineStarts tex).length - 1)),
      h'.beglin = 0 ∧ h'.endlin = tex.count '\n' := by
    intro h' hh
    obtain ⟨h, hh1, rfl⟩ := List.mem_map.mp hh
    have f := hdata_facts hok h hh1
    have := count_take_le tex (pyEnd tex h.beg)
    simp only [widen, hN]
    rw [f.beglin]
    omega
  have hne : rep.hdata.map (widen ctx ((getLineStarts tex).length - 1)) ≠ [] := by
    intro e
    have hl := congrArg List.length hidx
    rw [List.map_eq_nil_iff.mp e] at hl
    exact hms (List.length_eq_zero_iff.mp (by simpa using hl.symm))
  -- so they form one group
  generalize rep.hdata.map (widen ctx ((getLineStarts tex).length - 1)) = reg at h2 hall hne
  rw [group_single reg _ hn1 hne hall] at h2
  simp only [List.map_cons, List.map_nil] at h2
  have hr : mkRegion tex (getLineStarts tex) reg ∈ rep.regions := by rw [h2]; exact List.mem_singleton_self _
  have hb : (mkRegion tex (getLineStarts tex) reg).beglin = 0 := by
    obtain ⟨x, xs, rfl⟩ := List.exists_cons_of_ne_nil hne
    exact (hall x List.mem_cons_self).1
  have he : (mkRegion tex (getLineStarts tex) reg).endlin = tex.count '\n' :=
    maxEndlin_const reg _ hne (fun h hh => (hall h hh).2)
  have ht := region_text T tex cm ms ctx rep hnl hok _ hr
  have hl := starts_last tex hnl
  rw [hN] at hl
  rw [hb, he, starts_zero, hl, slice_all] at ht
  refine ⟨_, h2, hb, he, ht, ?_, ?_⟩
  · rw [(region_line_numbers T tex cm ms ctx rep hnl hok _ hr).1, hb, he]
    simp [List.range_eq_range']
  · rw [h3, h2]; simp

/-- `shell.py` turns a negative `--context` into 10^8 lines: the whole file for every file with at
    most 10^8 lines -/
theorem whole_file_negative (T : Tables) (tex : Str) (cm : List Int) (ms : List (Int × Int)) (c : Int) (rep : Report)
    (hc : c < 0) (hnl : EndsNl tex) (hsize : tex.count '\n' ≤ 100000000) (hms : ms ≠ [])
    (hok : generateHtml T tex cm ms (normContext c) = .ok rep) :
    ∃ r, rep.regions = [r] ∧ r.beglin = 0 ∧ r.endlin = tex.count '\n' ∧ r.text = tex ∧
      r.lineNumbers = (List.range (tex.count '\n')).map Int.ofNat ++ [-1] ∧ rep.first = none := by
  have : normContext c = 100000000 := by simp [normContext, hc]
  rw [this] at hok
  exact whole_file T tex cm ms _ rep hnl hsize hms hok


/-- a text cut at its line breaks (the pieces behind the last line break included) -/
def splitText : Str → List Str
  | [] => [[]]
  | c :: rest =>
    if c == '\n' then [] :: splitText rest
    else match splitText rest with
      | r :: rs => (c :: r) :: rs
      | [] => [[c]]

def Region.rowTexts (r : Region) : List Str := r.rows.map (·.map (·.2))

/-- source line `k` (0-based) without its line break -/
def lineOf (tex : Str) (k : Nat) : Str :=
  slice tex ((getLineStarts tex).getD k 0) ((getLineStarts tex).getD (k + 1) 0 - 1)

theorem splitRows_texts {α} (l : List (α × Char)) :
    (splitRows l).map (·.map (·.2)) = splitText (l.map (·.2)) := by
  induction l with
  | nil => simp [splitRows, splitText]
  | cons x rest ih =>
    simp only [splitRows, List.map_cons, splitText]
    split
    · simp [ih]
    · rw [← ih]
      split
      · rename_i r rs hr
        simp [hr]
      · rename_i hr
        exact absurd hr (splitRows_ne_nil rest)

theorem splitText_ne_nil (s : Str) : splitText s ≠ [] := by
  cases s with
  | nil => simp [splitText]
  | cons c rest =>
    simp only [splitText]
    split
    · simp
    · split <;> simp

theorem splitText_line (a b : Str) (ha : '\n' ∉ a) : splitText (a ++ '\n' :: b) = a :: splitText b := by
  induction a with
  | nil => simp [splitText]
  | cons c cs ih =>
    have hc : (c == '\n') = false := by
      have : c ≠ '\n' := fun e => ha (by simp [e])
      simpa using this
    have := ih (fun h => ha (List.mem_cons_of_mem _ h))
    simp only [List.cons_append, splitText, hc, Bool.false_eq_true, ite_false, this]

theorem slice_one (s : Str) (p : Nat) (c : Char) (h : s[p]? = some c) : slice s p (p + 1) = [c] := by
  unfold slice
  rw [List.drop_take]
  have : p + 1 - p = 1 := by omega
  rw [this]
  have h2 := List.getElem?_eq_some_iff.mp h
  obtain ⟨hlt, he⟩ := h2
  rw [List.drop_eq_getElem_cons hlt]
  simp [he]

theorem line_slice (s : Str) (k : Nat) (hk : k + 1 < (getLineStarts s).length) :
    slice s ((getLineStarts s).getD k 0) ((getLineStarts s).getD (k + 1) 0) = lineOf s k ++ ['\n'] ∧
    '\n' ∉ lineOf s k := by
  have hlt := starts_lt s k (k + 1) (Nat.lt_succ_self k) hk
  have h1 := slice_one s _ _ (starts_prev s k hk)
  have hq : (getLineStarts s).getD (k + 1) 0 - 1 + 1 = (getLineStarts s).getD (k + 1) 0 := by omega
  rw [hq] at h1
  have hs : slice s ((getLineStarts s).getD k 0) ((getLineStarts s).getD (k + 1) 0) = lineOf s k ++ ['\n'] := by
    rw [← h1, lineOf]
    exact (slice_append s _ _ _ (by omega) (by omega)).symm
  refine ⟨hs, ?_⟩
  -- the slice holds one line break: the one at its end
  have hc := count_region_slice s k (k + 1) (by omega) hk
  rw [hs, List.count_append, List.count_singleton_self] at hc
  exact List.count_eq_zero.mp (by omega)

theorem splitText_lines (s : Str) (b n : Nat) (he : b + n < (getLineStarts s).length) :
    splitText (slice s ((getLineStarts s).getD b 0) ((getLineStarts s).getD (b + n) 0))
      = (List.range' b n).map (lineOf s) ++ [[]] := by
  induction n generalizing b with
  | zero =>
    rw [Nat.add_zero, slice_eq_nil _ _ _ (Nat.le_refl _)]; simp [splitText]
  | succ n ih =>
    have h1 := line_slice s b (by omega)
    have hm := starts_mono s (b + 1) (b + (n + 1)) (by omega) he
    have hl := starts_lt s b (b + 1) (Nat.lt_succ_self b) (by omega)
    rw [← slice_append s _ ((getLineStarts s).getD (b + 1) 0) _ (by omega) hm, h1.1]
    simp only [List.append_assoc, List.singleton_append]
    rw [splitText_line _ _ h1.2]
    have : b + (n + 1) = b + 1 + n := by omega
    rw [this, ih (b + 1) (by omega)]
    simp [List.range'_succ]

theorem splitText_region (s : Str) (b e : Nat) (hb : b < (getLineStarts s).length)
    (he : e < (getLineStarts s).length) :
    splitText (slice s ((getLineStarts s).getD b 0) ((getLineStarts s).getD e 0))
      = (List.range' b (e - b)).map (lineOf s) ++ [[]] := by
  by_cases hbe : b ≤ e
  · have := splitText_lines s b (e - b) (by omega)
    rwa [(by omega : b + (e - b) = e)] at this
  · rw [slice_eq_nil _ _ _ (starts_mono s e b (by omega) hb), (by omega : e - b = 0)]
    simp [splitText]

/-- (b') the table rows of a region are the source lines `beglin … endlin-1`, in this order, followed
    by one empty row (the separator, which carries the number `-1`): with `region_line_numbers`
    row `j` shows line `beglin + j` next to the number `beglin + j` -/
theorem region_rows (T : Tables) (tex : Str) (cm : List Int) (ms : List (Int × Int)) (ctx : Nat) (rep : Report)
    (hnl : EndsNl tex) (hok : generateHtml T tex cm ms ctx = .ok rep) :
    ∀ r ∈ rep.regions,
      r.rowTexts = (List.range' r.beglin (r.endlin - r.beglin)).map (lineOf tex) ++ [[]] := by
  intro r hr
  obtain ⟨reg, hreg, rfl⟩ := mem_regions hok r hr
  have ⟨ht, he⟩ := mkRegion_text tex hnl ctx rep.hdata (hdata_facts hok) reg hreg
  have hb : (mkRegion tex (getLineStarts tex) reg).beglin < (getLineStarts tex).length :=
    regBeglin_lt tex ctx rep.hdata (hdata_facts hok) reg hreg
  simp only [Region.rowTexts, Region.rows, splitRows_texts, taggedChars_snd]
  simp only [Region.text] at ht
  rw [ht]
  exact splitText_region tex _ _ hb he


/-- no match at all: the first `context` lines of the file (all lines if it has fewer), numbered
    `0 … e-1`, one row per line -/
theorem no_problems (T : Tables) (tex : Str) (cm : List Int) (ctx : Nat) :
    ∃ txt, generateHtml T tex cm [] ctx
        = .ok (Report.mk [] [] (some (txt, (List.range (min ctx (tex.count '\n'))).map Int.ofNat))) ∧
      firstRows txt = (List.range (min ctx (tex.count '\n'))).map (lineOf tex) := by
  refine ⟨slice tex 0 ((getLineStarts tex).getD (min ctx (tex.count '\n')) 0), ?_, ?_⟩
  · simp [generateHtml, hdataFrom, group, noProblems, starts_length]
  · have h := splitText_lines tex 0 (min ctx (tex.count '\n')) (by rw [starts_length]; omega)
    simp only [Nat.zero_add, starts_zero] at h
    have h2 := splitRows_texts ((slice tex 0 ((getLineStarts tex).getD (min ctx (tex.count '\n')) 0)).map (fun c => ((), c)))
    simp only [List.map_map, Function.comp_def, List.map_id'] at h2
    simp only [firstRows]
    rw [h2, h, List.dropLast_concat, List.range_eq_range']

theorem widen_beglin_le (tex : Str) (ctx : Nat) (h : HData) (idx : Nat) (hf : HFacts tex idx h) (hb : 0 ≤ h.beg) :
    (widen ctx ((getLineStarts tex).length - 1) h).beglin ≤ (widen ctx ((getLineStarts tex).length - 1) h).endlin := by
  have h1 := hf.beglin
  have h2 := hf.endlin
  have h3 := hf.lt
  rw [pyEnd_of_nonneg tex h.beg hb] at h1
  have h4 : (tex.take h.beg.toNat).count '\n' ≤ (tex.take h.fin).count '\n' := by
    have := List.Sublist.count_le '\n' (List.take_sublist h.beg.toNat (tex.take h.fin))
    rw [List.take_take, Nat.min_eq_left (by omega)] at this
    exact this
  have h5 := count_take_le tex h.beg.toNat
  simp only [widen, starts_length]
  omega

theorem ordered_pairwise (gs : List (List HData)) (ho : Ordered gs) (hbe : ∀ g ∈ gs, regBeglin g ≤ maxEndlin g) :
    gs.Pairwise (fun a b => maxEndlin a ≤ regBeglin b) := by
  induction gs with
  | nil => simp
  | cons a gs ih =>
    cases gs with
    | nil => simp
    | cons b rest =>
      simp only [Ordered] at ho
      have ih' := ih ho.2 (fun g hg => hbe g (List.mem_cons_of_mem _ hg))
      refine List.pairwise_cons.mpr ⟨?_, ih'⟩
      intro x hx
      rcases List.mem_cons.mp hx with e | e
      · subst e; exact ho.1
      · have h1 := (List.pairwise_cons.mp ih').1 x e
        have h2 := hbe b (List.mem_cons_of_mem _ List.mem_cons_self)
        omega

/-- (d') with a position map without the entry 0 (positions are 1-based: the filter never produces one)
    every region begins in front of its end, hence ANY two regions are disjoint in lines: no
    source line is shown twice -/
theorem regions_disjoint (T : Tables) (tex : Str) (cm : List Int) (ms : List (Int × Int)) (ctx : Nat) (rep : Report)
    (hcm : ∀ c ∈ cm, c ≠ 0) (hok : generateHtml T tex cm ms ctx = .ok rep) :
    (∀ r ∈ rep.regions, r.beglin ≤ r.endlin) ∧
    rep.regions.Pairwise (fun r r' => r.endlin ≤ r'.beglin) := by
  have hbe : ∀ g ∈ group (rep.hdata.map (widen ctx ((getLineStarts tex).length - 1))), regBeglin g ≤ maxEndlin g := by
    intro g hg
    obtain ⟨h, hh, rest, rfl⟩ := group_head hg
    have h3 := widen_beglin_le tex ctx h h.idx (hdata_facts hok h hh) (hdata_beg_nonneg hok hcm h hh)
    have h4 := maxEndlin_mem (widen ctx ((getLineStarts tex).length - 1) h :: rest) _ List.mem_cons_self
    rw [regBeglin_cons]
    omega
  constructor
  · intro r hr
    obtain ⟨reg, hreg, rfl⟩ := mem_regions hok r hr
    exact hbe reg hreg
  · rw [(generateHtml_ok hok).2.2.1, List.pairwise_map]
    exact ordered_pairwise _ (group_ordered _) hbe


def Disjoint : List HData → Prop
  | [] => True
  | [_] => True
  | a :: b :: rest => (a.fin : Int) ≤ b.beg ∧ Disjoint (b :: rest)

theorem disjoint_tail (a : HData) (l : List HData) (h : Disjoint (a :: l)) : Disjoint l := by
  cases l with
  | nil => simp [Disjoint]
  | cons b rest => exact h.2

theorem disjoint_append_right (a b : List HData) (h : Disjoint (a ++ b)) : Disjoint b := by
  induction a with
  | nil => simpa using h
  | cons x xs ih => exact ih (disjoint_tail x _ h)

theorem disjoint_append_left (a b : List HData) (h : Disjoint (a ++ b)) : Disjoint a := by
  induction a with
  | nil => simp [Disjoint]
  | cons x xs ih =>
    cases xs with
    | nil => simp [Disjoint]
    | cons y ys =>
      simp only [List.cons_append, Disjoint] at h ⊢
      exact ⟨h.1, ih h.2⟩

theorem groupAux_disjoint (cur hs : List HData) (h : Disjoint (cur ++ hs)) : ∀ g ∈ groupAux cur hs, Disjoint g := by
  induction hs generalizing cur with
  | nil => simpa [groupAux] using h
  | cons x hs ih =>
    simp only [groupAux]
    split
    · intro g hg
      rcases List.mem_cons.mp hg with e | e
      · subst e; exact disjoint_append_left _ _ h
      · exact ih [x] (disjoint_append_right cur _ h) g e
    · exact ih (cur ++ [x]) (by simpa using h)

theorem group_disjoint (l : List HData) (h : Disjoint l) : ∀ g ∈ group l, Disjoint g := by
  cases l with
  | nil => simp [group]
  | cons x xs => exact groupAux_disjoint [x] xs h

theorem regionOverlaps_nil (tex : Str) (reg : List HData) (last : Nat) (hd : Disjoint reg)
    (hfirst : ∀ h, reg.head? = some h → (last : Int) ≤ h.beg) : regionOverlaps tex last reg = [] := by
  induction reg generalizing last with
  | nil => simp [regionOverlaps]
  | cons h hs ih =>
    have := hfirst h rfl
    simp only [regionOverlaps]
    have hn : ¬ (h.beg < (last : Int)) := by omega
    simp only [hn, ite_false]
    apply ih h.fin (disjoint_tail h hs hd)
    intro x hx
    cases hs with
    | nil => simp at hx
    | cons y ys =>
      simp only [List.head?_cons, Option.some.injEq] at hx
      subst hx
      exact hd.1

theorem disjoint_widen (ctx n : Nat) (l : List HData) (h : Disjoint l) : Disjoint (l.map (widen ctx n)) := by
  induction l with
  | nil => simp [Disjoint]
  | cons a l ih =>
    cases l with
    | nil => simp [Disjoint]
    | cons b rest =>
      simp only [List.map_cons, Disjoint] at ih ⊢
      exact ⟨h.1, ih h.2⟩

theorem regionPieces_tags (tex : Str) (stop : Nat) (g : List HData) (last : Nat)
    (h0 : regionOverlaps tex last g = []) :
    (regionPieces tex stop last g).filterMap Piece.tag = g.map (·.idx) := by
  induction g generalizing last with
  | nil => simp [regionPieces, Piece.tag]
  | cons h hs ihg =>
    simp only [regionOverlaps] at h0
    simp only [regionPieces]
    split
    · rename_i hlt; simp [hlt] at h0
    · rename_i hlt
      simp only [hlt, ite_false] at h0
      simp only [List.filterMap_cons, Piece.tag, List.map_cons, ihg h.fin h0]

theorem regions_tags (tex : Str) (starts : List Nat) (gs : List (List HData))
    (hgs : ∀ g ∈ gs, (mkRegion tex starts g).overlaps = []) :
    (gs.map (mkRegion tex starts)).flatMap Region.hiIdx = gs.flatten.map (·.idx) := by
  induction gs with
  | nil => simp
  | cons g gs ih =>
    simp only [List.map_cons, List.flatMap_cons, List.flatten_cons, List.map_append]
    rw [ih (fun g' hg' => hgs g' (List.mem_cons_of_mem _ hg'))]
    congr 1
    exact regionPieces_tags tex _ g _ (hgs g List.mem_cons_self)

/-- (c') matches that follow each other in the file without overlapping (as the first loop maps
    them: `h.end ≤ h'.beg` for consecutive matches; map without entry 0) are ALL highlighted in
    place: the list of overlapping messages is empty -/
theorem no_overlaps (T : Tables) (tex : Str) (cm : List Int) (ms : List (Int × Int)) (ctx : Nat) (rep : Report)
    (hcm : ∀ c ∈ cm, c ≠ 0) (hok : generateHtml T tex cm ms ctx = .ok rep) (hd : Disjoint rep.hdata) :
    rep.overlaps = [] ∧ rep.hiIdx = List.range ms.length := by
  obtain ⟨hnum, _, h2, _⟩ := generateHtml_ok hok
  have hreg : ∀ g ∈ group (rep.hdata.map (widen ctx ((getLineStarts tex).length - 1))),
      (mkRegion tex (getLineStarts tex) g).overlaps = [] := by
    intro g hg
    simp only [mkRegion]
    apply regionOverlaps_nil tex g _ (group_disjoint _ (disjoint_widen _ _ _ hd) g hg)
    -- the first match of a region begins behind the begin of the region's first line
    obtain ⟨h, hh, rest, rfl⟩ := group_head hg
    intro h' hh'
    simp only [List.head?_cons, Option.some.injEq] at hh'
    subst hh'
    have f := hdata_facts hok h hh
    have hb := hdata_beg_nonneg hok hcm h hh
    have hpe := pyEnd_of_nonneg tex h.beg hb
    have h3 := starts_le tex h.beg.toNat
    have hlen : (tex.take h.beg.toNat).count '\n' < (getLineStarts tex).length := by
      have := count_take_le tex h.beg.toNat; rw [starts_length]; omega
    have h4 := starts_mono tex ((tex.take h.beg.toNat).count '\n' - ctx) ((tex.take h.beg.toNat).count '\n') (by omega) hlen
    simp only [regBeglin_cons, widen, f.beglin, hpe]
    omega
  have hov : rep.overlaps = [] := by
    simp only [Report.overlaps, h2, List.flatMap_eq_nil_iff, List.mem_map]
    rintro r ⟨g, hg, rfl⟩
    exact hreg g hg
  refine ⟨hov, ?_⟩
  simp only [Report.hiIdx, h2]
  rw [regions_tags _ _ _ hreg, group_flatten, map_idx_widen, hnum, List.range_eq_range']


end Html
end Yalafi
