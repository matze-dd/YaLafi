/-
  Proofs/PlainMix.lean — token level of the UNION grammar (documents that mix seven kinds of
  constructs; header with the end-to-end statement and all side conditions:
  Proofs/PlainMixE2E.lean; documents, side conditions and scanner: Proofs/PlainMixSrc.lean).

  `Piece`, `flat`, `PiecesOk`    a token buffer that is the scan of a mixed document: plain tokens,
                                 special tokens, undeclared control words with the tokens that
                                 `skip_space` drops behind them, calls of vanishing macros,
                                 comment tokens, `\verb` tokens, simple inline formulas
  `outP`, `cost`, `names`, `nMath`   what the loop emits for it (threading the rotating collection of
                                 inline placeholders), its iterations, the unknown names, the
                                 number of formulas
  `dropComs`, `dropComs_facts`   behind a control word `skip_space` drops white space AND comment
                                 tokens; dropping the comment pieces in front changes neither the
                                 output nor the names nor the formulas
  `MathSt`                       what a formula needs from the state (only asked for if there is one)
  `seqRun_cwU`, `seqRun_mathU`   the loop on a control word / a formula in front of an arbitrary
                                 buffer (also used by Proofs/PlainMix2.lean)
  `seqRun_mix`                   ONE loop lemma by induction over the (number of) pieces; it dispatches to the
                                 runs of the single-construct files (`seqRun_plainTok`,
                                 `seqRun_specialTok`, `seqRun_cw`, `PlainVanish.seqRun_van_step`,
                                 `Comment.seqRun_comTok`, `seqRun_verbTok`, `PlainMath.seqRun_formula`);
                                 state: `unknowns` grows by the control words, `rots` changes,
                                 nothing else
  `PiecesOk.nobegin`                     frame lemma for the way to `tex2txt` (`noCom_math`: no
                                 comment token inside a formula)
-/
import YalafiVerif.Proofs.PlainVanish
import YalafiVerif.Proofs.PlainSpecial
import YalafiVerif.Proofs.PlainComment
import YalafiVerif.Proofs.PlainVerb
import YalafiVerif.Proofs.PlainMath
namespace Yalafi
namespace PlainMix

open M
open PlainMacro

/-! ### the token buffers -/

/-- the tokens `skip_space(stop_lang=True, stop_action=True)` drops behind a macro name -/
def droppable (t : Tok) : Bool := isSpaceTok t && !isLangK t && !(t.kind == .action)

inductive Piece where
  /-- a plain token (text, white space, paragraph break): copied -/
  | tok (t : Tok)
  /-- a special token that reaches the `.special` branch: Action token + table value -/
  | spc (t : Tok)
  /-- the macro token of an undeclared control word and the tokens dropped behind it -/
  | cw (p : Nat) (name : Str) (skipped : List Tok)
  /-- a call `\name { key }` of a vanishing macro with replacement `repl` -/
  | van (p q1 q2 : Nat) (name : Str) (key repl : List Tok)
  /-- a comment token: dropped -/
  | com (t : Tok)
  /-- the token of a complete `\verb`: Action token + text token with the content -/
  | verb (t : Tok)
  /-- a simple inline formula: `$`, body tokens, `$` -/
  | math (d1 : Tok) (body : List Tok) (d2 : Tok)

def Piece.toks : Piece → List Tok
  | .tok t => [t]
  | .spc t => [t]
  | .cw p name sk => cwTok p name :: sk
  | .van p q1 q2 name key _ => cwTok p name :: lbr q1 :: (key ++ [rbr q2])
  | .com t => [t]
  | .verb t => [t]
  | .math d1 b d2 => d1 :: (b ++ [d2])

def flat : List Piece → List Tok
  | [] => []
  | p :: ps => p.toks ++ flat ps

/-- the pieces without the comments in front: `skip_space` behind a control word also drops
    comment tokens -/
def dropComs : List Piece → List Piece
  | .com _ :: rest => dropComs rest
  | ps => ps

def PiecesOk (T : PTables) (st : PState) : List Piece → Prop
  | [] => True
  | .tok t :: rest => PlainTok t ∧ PassTok T st t (flat rest) ∧ PiecesOk T st rest
  | .spc t :: rest => SpecialTok T.toTables t ∧ PiecesOk T st rest
  | .cw p name sk :: rest =>
    CwTokOk st (cwTok p name) ∧ (∀ t ∈ sk, droppable t = true ∧ t.kind ≠ .comment) ∧
    (∀ t ts, flat (dropComs rest) = t :: ts → droppable t = false) ∧ PiecesOk T st rest
  | .van _ _ _ name key repl :: rest =>
    PlainVanish.VanName st name ∧ PlainVanish.replOf st name = repl ∧
    (∀ t ∈ key, NoBrace t ∧ t.kind ≠ .comment) ∧ PiecesOk T st rest
  | .com t :: rest => Comment.ComTok T st t ∧ PiecesOk T st rest
  | .verb t :: rest => t.kind = .verb false ∧ PiecesOk T st rest
  | .math d1 b d2 :: rest =>
    PlainMath.DollarTok d1 ∧ PlainMath.mathToks b ≠ [] ∧ (∀ t ∈ b, PlainMath.BodyItem T t) ∧
    PlainMath.DollarTok d2 ∧ PiecesOk T st rest

/-- what `expandSequence` emits for the pieces before the blank-line removal, `l` being the stored
    collection of inline placeholders: the formulas take the heads of `rotL l`, `rotL (rotL l)`, … -/
def outP (T : PTables) : List Str → List Piece → List Tok
  | _, [] => []
  | l, .tok t :: rest => t :: outP T l rest
  | l, .spc t :: rest => expTok T.toTables t ++ outP T l rest
  | l, .cw p _ _ :: rest => mkAction p :: outP T l rest
  | l, .van p _ _ _ _ repl :: rest => mkAction p :: (repl.map (restamp p) ++ outP T l rest)
  | l, .com _ :: rest => outP T l rest
  | l, .verb t :: rest => expTokV t ++ outP T l rest
  | l, .math d1 b _ :: rest =>
    PlainMath.formulaOut T ((rotL l).headD []) d1.pos (PlainMath.firstPos (PlainMath.mathToks b))
        (PlainMath.bodyTxt (PlainMath.mathToks b))
      ++ outP T (rotL l) rest

/-- iterations of `expandSequence` -/
def cost : List Piece → Nat
  | [] => 0
  | .tok _ :: rest => 1 + cost rest
  | .spc _ :: rest => 1 + cost rest
  | .cw _ _ _ :: rest => 2 + cost rest
  | .van _ _ _ _ _ repl :: rest => 2 + repl.length + cost rest
  | .com _ :: rest => 1 + cost rest
  | .verb _ :: rest => 1 + cost rest
  | .math _ b _ :: rest => b.length + 2 + cost rest

def nMath : List Piece → Nat
  | [] => 0
  | .math .. :: rest => nMath rest + 1
  | _ :: rest => nMath rest

/-- the names of the undeclared control words, with backslash, in order of occurrence -/
def names : List Piece → List Str
  | [] => []
  | .cw _ name _ :: rest => ('\\' :: name) :: names rest
  | _ :: rest => names rest

theorem dropWhile_prefix {α} (p : α → Bool) : ∀ (a b : List α), (∀ x ∈ a, p x = true) →
    (∀ y ys, b = y :: ys → p y = false) → (a ++ b).dropWhile p = b
  | [], [], _, _ => rfl
  | [], y :: ys, _, hb => by simp [hb y ys rfl]
  | x :: a, b, ha, hb => by
    simp only [List.cons_append, List.dropWhile_cons, ha x (List.mem_cons_self ..), if_true]
    exact dropWhile_prefix p a b (fun z hz => ha z (List.mem_cons_of_mem _ hz)) hb

theorem skip_droppable (X : List Tok) : ∀ sk : List Tok, (∀ t ∈ sk, droppable t = true) →
    skipSpaceStopLangAct (sk ++ X) = skipSpaceStopLangAct X
  | [], _ => rfl
  | x :: xs, h => by
    have hx : droppable x = true := h x (List.mem_cons_self ..)
    have ih := skip_droppable X xs (fun y hy => h y (List.mem_cons_of_mem _ hy))
    unfold droppable at hx
    unfold skipSpaceStopLangAct at ih ⊢
    rw [List.cons_append, List.dropWhile_cons, if_pos hx]
    exact ih

theorem dropComs_cases : ∀ ps : List Piece, (∃ t rest, ps = .com t :: rest) ∨ dropComs ps = ps
  | [] => .inr rfl
  | .com t :: rest => .inl ⟨t, rest, rfl⟩
  | .tok _ :: _ => .inr rfl
  | .spc _ :: _ => .inr rfl
  | .cw .. :: _ => .inr rfl
  | .van .. :: _ => .inr rfl
  | .verb _ :: _ => .inr rfl
  | .math .. :: _ => .inr rfl

theorem dropComs_length (ps : List Piece) : (dropComs ps).length ≤ ps.length := by
  induction ps with
  | nil => exact Nat.le_refl _
  | cons pc ps ih =>
    rcases dropComs_cases (pc :: ps) with ⟨t, rest, e⟩ | e
    · cases e
      exact Nat.le_succ_of_le ih
    · rw [e]; exact Nat.le_refl _

theorem dropComs_facts (T : PTables) (st : PState) (ps : List Piece) (h : PiecesOk T st ps) :
    PiecesOk T st (dropComs ps) ∧ (∀ l, outP T l (dropComs ps) = outP T l ps) ∧
    names (dropComs ps) = names ps ∧ nMath (dropComs ps) = nMath ps ∧
    cost (dropComs ps) ≤ cost ps ∧
    skipSpaceStopLangAct (flat ps) = skipSpaceStopLangAct (flat (dropComs ps)) := by
  induction ps with
  | nil => exact ⟨h, fun _ => rfl, rfl, rfl, Nat.le_refl _, rfl⟩
  | cons pc ps ih =>
    rcases dropComs_cases (pc :: ps) with ⟨t, rest, e⟩ | e
    · cases e
      obtain ⟨h1, h2, h3, h4, h5, h6⟩ := ih h.2
      refine ⟨h1, h2, h3, h4, Nat.le_trans h5 (Nat.le_add_left ..), ?_⟩
      -- `skip_space` drops the comment token
      have hd : (isSpaceTok t && !isLangK t && !(t.kind == .action)) = true := by
        simp [isSpaceTok, isLangK, h.1.kind]
      simp only [dropComs, flat, Piece.toks, List.singleton_append]
      unfold skipSpaceStopLangAct at h6 ⊢
      rw [List.dropWhile_cons, if_pos hd]
      exact h6
    · rw [e]; exact ⟨h, fun _ => rfl, rfl, rfl, Nat.le_refl _, rfl⟩

/-- what the formulas need from the state: the inline collection `rot.inl` of the current language
    is stored and not empty, the language settings exist -/
def MathSt (T : PTables) (st : PState) (rot : Rot) (ls : LangSettings) : Prop :=
  rotOf st (curSettings st) = some rot ∧ rot.inl ≠ [] ∧ settingsOf T (curSettings st) = some ls

/-- the loop on an undeclared control word: the tokens `sk` behind it are dropped, and so is what
    `skip_space` drops of the buffer `X` behind them, `X'` remaining -/
theorem seqRun_cwU (T : PTables) (p : Nat) (name : Str) (sk X X' : List Tok) (envStop : Option Str)
    (out : List Tok) (st : PState) (hcw : CwTokOk st (cwTok p name)) (ha : noEmptyActive T st = true)
    (hsk : ∀ t ∈ sk, droppable t = true) (hX : skipSpaceStopLangAct X = skipSpaceStopLangAct X')
    (hhead : ∀ t ts, X' = t :: ts → droppable t = false) :
    SeqRun T envStop 0 2 (cwTok p name :: (sk ++ X)) out st X' (out ++ [mkAction p])
      { st with unknowns := addU st.unknowns ('\\' :: name) } := by
  have h := seqRun_cw (T := T) (envStop := envStop) (out := out) (rest := sk ++ X) hcw ha
  have : skipSpaceStopLangAct X' = X' := dropWhile_prefix _ [] X' (fun _ h => nomatch h) hhead
  rwa [skip_droppable X sk hsk, hX, this] at h

theorem seqRun_mathU (T : PTables) (d1 d2 : Tok) (b X : List Tok) (envStop : Option Str)
    (out : List Tok) (st : PState) (rot : Rot) (ls : LangSettings)
    (hd1 : PlainMath.DollarTok d1) (hbne : PlainMath.mathToks b ≠ [])
    (hb : ∀ t ∈ b, PlainMath.BodyItem T t) (hd2 : PlainMath.DollarTok d2) (hm : MathSt T st rot ls) :
    SeqRun T envStop 1 (b.length + 2) (d1 :: (b ++ d2 :: X)) out st X
        (out ++ PlainMath.formulaOut T ((rotL rot.inl).headD []) d1.pos
          (PlainMath.firstPos (PlainMath.mathToks b)) (PlainMath.bodyTxt (PlainMath.mathToks b)))
        (setRot st { rot with inl := rotL rot.inl }) ∧
    MathSt T (setRot st { rot with inl := rotL rot.inl }) { rot with inl := rotL rot.inl } ls := by
  obtain ⟨hrot, hne, hls⟩ := hm
  exact ⟨PlainMath.seqRun_formula X out hd1 hbne hb hd2 hrot hne hls,
    PlainMath.rotOf_setRot st (curSettings st) rot (rotL rot.inl) hrot, rotL_ne_nil _ hne, hls⟩

/-- **the loop on the scan of a mixed document**, in a state `st` that reads as the state `st0` of the
    conditions.  The output is `outP`; the names of the undeclared
    control words are recorded in order (each once); the rotation records change (only if there is a
    formula: then `MathSt` is needed); nothing else in the state changes.  One unit of fuel below the
    `cost` iterations: a formula works one level below the loop. -/
theorem seqRun_mix (T : PTables) (envStop : Option Str) (ls : LangSettings) {st0 : PState}
    (ha0 : noEmptyActive T st0 = true) :
    ∀ (n : Nat) (ps : List Piece), ps.length ≤ n →
      ∀ (out : List Tok) (st : PState) (rot : Rot),
      Reads st0 st → PiecesOk T st0 ps → (nMath ps ≠ 0 → MathSt T st rot ls) →
      ∃ st', SeqRun T envStop 1 (cost ps) (flat ps) out st [] (out ++ outP T rot.inl ps) st' ∧
        st' = { st with unknowns := (names ps).foldl addU st.unknowns, rots := st'.rots } := by
  have hnil : ∀ (out : List Tok) (st : PState) (rot : Rot),
      ∃ st', SeqRun T envStop 1 (cost []) (flat []) out st [] (out ++ outP T rot.inl []) st' ∧
        st' = { st with unknowns := (names []).foldl addU st.unknowns, rots := st'.rots } := fun out st rot =>
    ⟨st, by rw [outP, List.append_nil]; exact SeqRun.refl.mono (Nat.zero_le _) (Nat.le_refl _), rfl⟩
  intro n
  induction n with
  | zero =>
    intro ps hn out st rot _ _ _
    cases ps with
    | nil => exact hnil out st rot
    | cons => simp at hn
  | succ n ih0 =>
    intro ps hlenN out st rot hR hok hm
    cases ps with
    | nil => exact hnil out st rot
    | cons pc ps =>
    have hlen : ps.length ≤ n := by simpa using hlenN
    have ih := ih0 ps hlen
    have hE := hR.ext
    have ha := hE.noEmptyActive ha0
    -- every case: the run through the piece, then the induction hypothesis with its output appended
    cases pc with
    | tok t =>
      exact (seqRun_plainTok hok.1 (hE.passTok hok.2.1)).app_ex (ih (out ++ [t]) st rot hR hok.2.2 hm)
        (Nat.zero_le _)
    | spc t =>
      exact (seqRun_specialTok hok.1).app_ex (ih _ st rot hR hok.2 hm) (Nat.zero_le _)
    | cw p name sk =>
      obtain ⟨hcw, hsk, hhead, hrest⟩ := hok
      obtain ⟨d1, d2, d3, d4, d5, d6⟩ := dropComs_facts T st0 ps hrest
      obtain ⟨st', h1, h2⟩ := ih0 (dropComs ps) (Nat.le_trans (dropComs_length ps) hlen)
          (out ++ [mkAction p]) { st with unknowns := addU st.unknowns ('\\' :: name) } rot
          (hR.trans ⟨rfl, rfl⟩) d1 (by rw [d4]; exact hm)
      rw [d2] at h1
      refine ⟨st', ?_, by rw [d3] at h2; exact h2.trans rfl⟩
      exact (seqRun_cwU T p name sk _ _ envStop out st (hcw.reads hR) ha (fun x hx => (hsk x hx).1) d6 hhead).app
        (h1.mono (Nat.le_refl _) d5) (Nat.zero_le _)
    | van p q1 q2 name key repl =>
      obtain ⟨hn, hr, hkey, hrest⟩ := hok
      subst hr
      obtain ⟨hn', he⟩ := hn.ext hE
      have hstep := PlainVanish.seqRun_van_step T p q1 q2 name key (flat ps) envStop out st hn'
        (fun t ht => (hkey t ht).1) ha
      rw [he] at hstep
      simp only [flat, Piece.toks, List.cons_append, List.append_assoc, List.nil_append]
      exact hstep.app_ex (ih _ st rot hR hrest hm) (Nat.le_add_right ..)
    | com t =>
      obtain ⟨st', h1, h2⟩ := ih out st rot hR hok.2 hm
      exact ⟨st', (Comment.seqRun_comTok (hok.1.ext hE)).trans h1 (Nat.zero_le _), h2⟩
    | verb t =>
      exact (seqRun_verbTok hok.1).app_ex (ih _ st rot hR hok.2 hm) (Nat.zero_le _)
    | math d1 b d2 =>
      obtain ⟨hd1, hbne, hb, hd2, hrest⟩ := hok
      obtain ⟨hstep, hm'⟩ := seqRun_mathU T d1 d2 b (flat ps) envStop out st rot ls hd1 hbne hb hd2
        (hm (by simp [nMath]))
      simp only [flat, Piece.toks, List.cons_append, List.append_assoc, List.nil_append]
      obtain ⟨st', h1, h2⟩ := ih _ (setRot st { rot with inl := rotL rot.inl }) { rot with inl := rotL rot.inl }
        (hR.trans ⟨rfl, rfl⟩) hrest (fun _ => hm')
      exact ⟨st', hstep.app h1 (Nat.le_add_right ..), h2.trans rfl⟩

theorem noCom_math {T : PTables} {d1 d2 : Tok} {b : List Tok} (h1 : PlainMath.DollarTok d1)
    (hb : ∀ t ∈ b, PlainMath.BodyItem T t) (h2 : PlainMath.DollarTok d2) : NoCom (d1 :: (b ++ [d2])) :=
  .cons h1.notComment (.append (PlainMath.noCom_body hb) (.cons h2.notComment .nil))

/-- the skip pre-pass of `parser_work` sees no begin marker: the comment pieces are no markers, and
    no other piece holds a comment token -/
theorem PiecesOk.nobegin {T : PTables} {st : PState} : ∀ {ps : List Piece}, PiecesOk T st ps →
    NoBegin st.skipBegin (flat ps)
  | [], _ => .nil
  | .tok t :: rest, hok => .cons (NoBegin.of_notComment _ hok.1.notComment) (PiecesOk.nobegin hok.2.2)
  | .spc t :: rest, hok => .cons (NoBegin.of_notComment _ (NoCom.of_kind hok.1.1)) (PiecesOk.nobegin hok.2)
  | .cw p name sk :: rest, hok =>
    .append (NoCom.noBegin (toks := cwTok p name :: sk) (.cons nofun fun t ht => (hok.2.1 t ht).2) _)
      (PiecesOk.nobegin hok.2.2.2)
  | .van p q1 q2 name key repl :: rest, hok =>
    .append ((NoCom.cmdBraced (t0 := cwTok p name) (lb := lbr q1) (rb := rbr q2) nofun nofun nofun
      fun t ht => (hok.2.2.1 t ht).2).noBegin _) (PiecesOk.nobegin hok.2.2.2)
  | .com t :: rest, hok => .cons (by rw [hok.1.nskip, Bool.and_false]) (PiecesOk.nobegin hok.2)
  | .verb t :: rest, hok => .cons (NoBegin.of_notComment _ (NoCom.of_kind hok.1)) (PiecesOk.nobegin hok.2)
  | .math d1 b d2 :: rest, hok =>
    .append ((noCom_math hok.1 hok.2.2.1 hok.2.2.2.1).noBegin _) (PiecesOk.nobegin hok.2.2.2.2)

end PlainMix
end Yalafi
