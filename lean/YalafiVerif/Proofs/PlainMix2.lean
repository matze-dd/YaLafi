/-
  Proofs/PlainMix2.lean — token level of the ENLARGED union grammar (the seven kinds of
  Proofs/PlainMix.lean plus braces / groups, `\ref` / `\cite`, footnotes, headings; header with the
  end-to-end statement and all side conditions: Proofs/PlainMix2E2E.lean).

  `Piece`, `flat`, `PiecesOk`    a token buffer that is the scan of a mixed document: plain tokens,
                                 special tokens, braces, undeclared control words with the tokens
                                 `skip_space` drops behind them, vanishing calls, comments, `\verb`,
                                 inline formulas, references, citations (with / without note),
                                 footnotes, headings
  `outP`, `flowsOf`, `cost`, `names`, `nMath`
                                 what the loop emits into the main flow, the detached flows, its
                                 iterations, the unknown names, the number of formulas
  `endSt`                        the state behind the loop: `unknowns`, `rots`, `extracted`,
                                 `foreign` change, nothing else
  `seqRun_mix2`                  ONE loop lemma by induction over the (number of) pieces; it
                                 dispatches to the runs of the single-construct files:
                                 `seqRun_plainTok`, `seqRun_specialTok`, `seqRun_brace`,
                                 `seqRun_cw`, `PlainVanish.seqRun_van_step`, `Comment.seqRun_comTok`,
                                 `seqRun_verbTok`, `PlainMath.seqRun_formula`,
                                 `PlainRef.seqRun_refCall` / `seqRun_cite` / `seqRun_citeN`,
                                 `PlainFootnote.seqRun_foot`, `PlainHeading.seqRun_head`
-/
import YalafiVerif.Proofs.PlainMixRead
import YalafiVerif.Proofs.PlainGroup
import YalafiVerif.Proofs.PlainRef
import YalafiVerif.Proofs.PlainFootnote
import YalafiVerif.Proofs.PlainHeading
namespace Yalafi
namespace PlainMix2

open M
open PlainMacro
open PlainMix (droppable MathSt noCom_math)
open PlainFootnote (CopyTok FnTok BraceTok FlowSafe)

/-! ### the token buffers -/

inductive Piece where
  | tok (t : Tok)
  | spc (t : Tok)
  /-- a brace token: an Action token -/
  | br (t : Tok)
  | cw (p : Nat) (name : Str) (skipped : List Tok)
  | van (p q1 q2 : Nat) (name : Str) (key repl : List Tok)
  | com (t : Tok)
  | verb (t : Tok)
  | math (d1 : Tok) (body : List Tok) (d2 : Tok)
  /-- a reference `\name { key }` with placeholder tokens `repl` -/
  | ref (p q1 q2 : Nat) (name : Str) (key repl : List Tok)
  /-- a citation `\name { key }` -/
  | cite (p q1 q2 : Nat) (name : Str) (key : List Tok)
  /-- a citation with a note `\name [ note ] { key }` -/
  | citeN (p b1 b2 q1 q2 : Nat) (name : Str) (note key : List Tok)
  /-- `\footnote { body }` -/
  | foot (fn lb : Tok) (body : List Tok) (rb : Tok)
  /-- a heading `\name { title }` -/
  | head (hd lb : Tok) (body : List Tok) (rb : Tok)

def Piece.toks : Piece → List Tok
  | .tok t => [t]
  | .spc t => [t]
  | .br t => [t]
  | .cw p name sk => cwTok p name :: sk
  | .van p q1 q2 name key _ => cwTok p name :: lbr q1 :: (key ++ [rbr q2])
  | .com t => [t]
  | .verb t => [t]
  | .math d1 b d2 => d1 :: (b ++ [d2])
  | .ref p q1 q2 name key _ => cwTok p name :: lbr q1 :: (key ++ [rbr q2])
  | .cite p q1 q2 name key => cwTok p name :: lbr q1 :: (key ++ [rbr q2])
  | .citeN p b1 b2 q1 q2 name note key =>
    cwTok p name :: PlainRef.chTok b1 '[' ::
      (note ++ PlainRef.chTok b2 ']' :: lbr q1 :: (key ++ [rbr q2]))
  | .foot fn lb b rb => fn :: lb :: (b ++ [rb])
  | .head hd lb b rb => hd :: lb :: (b ++ [rb])

def flat : List Piece → List Tok
  | [] => []
  | p :: ps => p.toks ++ flat ps

/-- the pieces without the comments in front: `skip_space` behind a control word also drops
    comment tokens -/
def dropComs : List Piece → List Piece
  | .com _ :: rest => dropComs rest
  | ps => ps

def PiecesOk (T : PTables) (st : PState) : List Piece → Prop
  | [] => True
  | .tok t :: rest => PlainTok t ∧ PassTok T st t (flat rest) ∧ PiecesOk T st rest
  | .spc t :: rest => SpecialTok T.toTables t ∧ PiecesOk T st rest
  | .br t :: rest => PlainGroup.BrTok t ∧ PiecesOk T st rest
  | .cw p name sk :: rest =>
    CwTokOk st (cwTok p name) ∧ (∀ t ∈ sk, droppable t = true ∧ t.kind ≠ .comment) ∧
    (∀ t ts, flat (dropComs rest) = t :: ts → droppable t = false) ∧ PiecesOk T st rest
  | .van _ _ _ name key repl :: rest =>
    PlainVanish.VanName st name ∧ PlainVanish.replOf st name = repl ∧
    (∀ t ∈ key, NoBrace t ∧ t.kind ≠ .comment) ∧ PiecesOk T st rest
  | .com t :: rest => Comment.ComTok T st t ∧ PiecesOk T st rest
  | .verb t :: rest => t.kind = .verb false ∧ PiecesOk T st rest
  | .math d1 b d2 :: rest =>
    PlainMath.DollarTok d1 ∧ PlainMath.mathToks b ≠ [] ∧ (∀ t ∈ b, PlainMath.BodyItem T t) ∧
    PlainMath.DollarTok d2 ∧ PiecesOk T st rest
  | .ref _ _ _ name key repl :: rest =>
    PlainRef.RefName T st name ∧ PlainRef.replOf st name = repl ∧ PlainRef.KeyToks key ∧
    PiecesOk T st rest
  | .cite _ _ _ name key :: rest =>
    PlainRef.CiteName st name ∧ PlainRef.KeyToks key ∧ PlainRef.StateFacts T st ∧ PiecesOk T st rest
  | .citeN _ _ _ _ _ name note key :: rest =>
    PlainRef.CiteName st name ∧ note ≠ [] ∧ (∀ t ∈ note, CopyTok T st t ∧ t.txt ≠ [']']) ∧
    PlainRef.KeyToks key ∧ PlainRef.StateFacts T st ∧ PiecesOk T st rest
  | .foot fn lb b rb :: rest =>
    FnTok fn ∧ BraceTok '{' lb ∧ BraceTok '}' rb ∧ b ≠ [] ∧ (∀ t ∈ b, CopyTok T st t) ∧
    FlowSafe b ∧ PlainFootnote.StateFacts T st ∧ PiecesOk T st rest
  | .head hd lb b rb :: rest =>
    PlainHeading.HdTok st hd ∧ BraceTok '{' lb ∧ BraceTok '}' rb ∧ b ≠ [] ∧
    (∀ t ∈ b, CopyTok T st t) ∧ PlainHeading.StateFacts T st ∧ PiecesOk T st rest

/-- what `expandSequence` emits into the main flow for the pieces before the blank-line removal,
    `l` being the stored collection of inline placeholders -/
def outP (T : PTables) : List Str → List Piece → List Tok
  | _, [] => []
  | l, .tok t :: rest => t :: outP T l rest
  | l, .spc t :: rest => expTok T.toTables t ++ outP T l rest
  | l, .br t :: rest => mkAction t.pos :: outP T l rest
  | l, .cw p _ _ :: rest => mkAction p :: outP T l rest
  | l, .van p _ _ _ _ repl :: rest => mkAction p :: (repl.map (restamp p) ++ outP T l rest)
  | l, .com _ :: rest => outP T l rest
  | l, .verb t :: rest => expTokV t ++ outP T l rest
  | l, .math d1 b _ :: rest =>
    PlainMath.formulaOut T ((rotL l).headD []) d1.pos (PlainMath.firstPos (PlainMath.mathToks b))
        (PlainMath.bodyTxt (PlainMath.mathToks b))
      ++ outP T (rotL l) rest
  | l, .ref p _ _ _ _ repl :: rest => mkAction p :: (repl.map (restamp p) ++ outP T l rest)
  | l, .cite p _ _ _ _ :: rest => mkAction p :: (PlainRef.citeToks p ++ outP T l rest)
  | l, .citeN p _ _ _ _ _ note _ :: rest => mkAction p :: (PlainRef.citeNToks p note ++ outP T l rest)
  | l, .foot fn _ _ _ :: rest => mkAction fn.pos :: outP T l rest
  | l, .head hd _ b _ :: rest => PlainHeading.headOut T hd b ++ outP T l rest

/-- the detached flows (footnote bodies), in order -/
def flowsOf : List Piece → List (List Tok)
  | [] => []
  | .foot _ _ b _ :: rest => b :: flowsOf rest
  | _ :: rest => flowsOf rest

/-- iterations of `expandSequence` -/
def cost : List Piece → Nat
  | [] => 0
  | .tok _ :: rest => 1 + cost rest
  | .spc _ :: rest => 1 + cost rest
  | .br _ :: rest => 1 + cost rest
  | .cw _ _ _ :: rest => 2 + cost rest
  | .van _ _ _ _ _ repl :: rest => 2 + repl.length + cost rest
  | .com _ :: rest => 1 + cost rest
  | .verb _ :: rest => 1 + cost rest
  | .math _ b _ :: rest => b.length + 2 + cost rest
  | .ref _ _ _ _ _ repl :: rest => 2 + repl.length + cost rest
  | .cite _ _ _ _ _ :: rest => 4 + cost rest
  | .citeN _ _ _ _ _ _ note _ :: rest => 6 + note.length + cost rest
  | .foot _ _ b _ :: rest => b.length + 6 + cost rest
  | .head _ _ b _ :: rest => b.length + 3 + cost rest

def nMath : List Piece → Nat
  | [] => 0
  | .math .. :: rest => nMath rest + 1
  | _ :: rest => nMath rest

/-- the names of the undeclared control words, with backslash, in order of occurrence -/
def names : List Piece → List Str
  | [] => []
  | .cw _ name _ :: rest => ('\\' :: name) :: names rest
  | _ :: rest => names rest

theorem dropComs_cases : ∀ ps : List Piece, (∃ t rest, ps = .com t :: rest) ∨ dropComs ps = ps
  | [] => .inr rfl
  | .com t :: rest => .inl ⟨t, rest, rfl⟩
  | .tok _ :: _ => .inr rfl
  | .spc _ :: _ => .inr rfl
  | .br _ :: _ => .inr rfl
  | .cw .. :: _ => .inr rfl
  | .van .. :: _ => .inr rfl
  | .verb _ :: _ => .inr rfl
  | .math .. :: _ => .inr rfl
  | .ref .. :: _ => .inr rfl
  | .cite .. :: _ => .inr rfl
  | .citeN .. :: _ => .inr rfl
  | .foot .. :: _ => .inr rfl
  | .head .. :: _ => .inr rfl

theorem dropComs_length (ps : List Piece) : (dropComs ps).length ≤ ps.length := by
  induction ps with
  | nil => exact Nat.le_refl _
  | cons pc ps ih =>
    rcases dropComs_cases (pc :: ps) with ⟨t, rest, e⟩ | e
    · cases e
      exact Nat.le_succ_of_le ih
    · rw [e]; exact Nat.le_refl _

theorem dropComs_facts (T : PTables) (st : PState) (ps : List Piece) (h : PiecesOk T st ps) :
    PiecesOk T st (dropComs ps) ∧ (∀ l, outP T l (dropComs ps) = outP T l ps) ∧
    names (dropComs ps) = names ps ∧ nMath (dropComs ps) = nMath ps ∧
    flowsOf (dropComs ps) = flowsOf ps ∧ cost (dropComs ps) ≤ cost ps ∧
    skipSpaceStopLangAct (flat ps) = skipSpaceStopLangAct (flat (dropComs ps)) := by
  induction ps with
  | nil => exact ⟨h, fun _ => rfl, rfl, rfl, rfl, Nat.le_refl _, rfl⟩
  | cons pc ps ih =>
    rcases dropComs_cases (pc :: ps) with ⟨t, rest, e⟩ | e
    · cases e
      obtain ⟨h1, h2, h3, h4, h5, h6, h7⟩ := ih h.2
      refine ⟨h1, h2, h3, h4, h5, Nat.le_trans h6 (Nat.le_add_left ..), ?_⟩
      -- `skip_space` drops the comment token
      have hd : (isSpaceTok t && !isLangK t && !(t.kind == .action)) = true := by
        simp [isSpaceTok, isLangK, h.1.kind]
      simp only [dropComs, flat, Piece.toks, List.singleton_append]
      unfold skipSpaceStopLangAct at h7 ⊢
      rw [List.dropWhile_cons, if_pos hd]
      exact h7
    · rw [e]; exact ⟨h, fun _ => rfl, rfl, rfl, rfl, Nat.le_refl _, rfl⟩

/-! ### the state behind the loop -/

/-- the state behind the loop: the unknown names are recorded, the rotation records changed, the
    flows appended; nothing else changes -/
def endSt (st : PState) (nms : List Str) (fl : List (List Tok)) (rots : List Rot) : PState :=
  { st with unknowns := nms.foldl addU st.unknowns, rots := rots,
            extracted := st.extracted ++ fl,
            foreign := st.foreign || (!fl.isEmpty && st.nest != 1) }

theorem endSt_addFlow (st : PState) (b : List Tok) (nms : List Str) (fl : List (List Tok))
    (rots : List Rot) :
    endSt (PlainFootnote.addFlow st b) nms fl rots = endSt st nms (b :: fl) rots := by
  simp only [endSt, PlainFootnote.addFlow, List.append_assoc, List.singleton_append,
    List.isEmpty_cons, Bool.not_false, Bool.true_and]
  congr 1
  cases st.foreign <;> cases (st.nest != 1) <;> cases fl.isEmpty <;> rfl

/-- **the loop on the scan of a mixed document**, in a state `st` that reads as the state `st0` of the
    conditions.  The main output is `outP` (the blank-line removal comes behind the loop); the state behind
    it is `endSt`.  Fuel: `cost` iterations, the final one, and two more (a heading needs them below the loop). -/
theorem seqRun_mix2 (T : PTables) (envStop : Option Str) (ls : LangSettings) {st0 : PState}
    (ha0 : noEmptyActive T st0 = true) :
    ∀ (n : Nat) (ps : List Piece), ps.length ≤ n →
      ∀ (out : List Tok) (st : PState) (rot : Rot),
      Reads st0 st → PiecesOk T st0 ps → (nMath ps ≠ 0 → MathSt T st rot ls) →
      ∃ st', SeqRun T envStop 3 (cost ps) (flat ps) out st [] (out ++ outP T rot.inl ps) st' ∧
        st' = endSt st (names ps) (flowsOf ps) st'.rots := by
  have hnil : ∀ (out : List Tok) (st : PState) (rot : Rot),
      ∃ st', SeqRun T envStop 3 (cost []) (flat []) out st [] (out ++ outP T rot.inl []) st' ∧
        st' = endSt st (names []) (flowsOf []) st'.rots := fun out st rot =>
    ⟨st, by rw [outP, List.append_nil]; exact SeqRun.refl.mono (Nat.zero_le _) (Nat.le_refl _),
      by simp [endSt, names, flowsOf]⟩
  intro n
  induction n with
  | zero =>
    intro ps hn out st rot _ _ _
    cases ps with
    | nil => exact hnil out st rot
    | cons => simp at hn
  | succ n ih0 =>
    intro ps hlenN out st rot hR hok hm
    cases ps with
    | nil => exact hnil out st rot
    | cons pc ps =>
    have hlen : ps.length ≤ n := by simpa using hlenN
    have ih := ih0 ps hlen
    have hE := hR.ext
    have ha := hE.noEmptyActive ha0
    cases pc with
    | tok t =>
      exact (seqRun_plainTok hok.1 (hE.passTok hok.2.1)).app_ex (ih (out ++ [t]) st rot hR hok.2.2 hm)
        (Nat.zero_le _)
    | spc t =>
      exact (seqRun_specialTok hok.1).app_ex (ih _ st rot hR hok.2 hm) (Nat.zero_le _)
    | br t =>
      exact (seqRun_brace hok.1.kind hok.1.txt).app_ex (ih _ st rot hR hok.2 hm) (Nat.zero_le _)
    | cw p name sk =>
      obtain ⟨hcw, hsk, hhead, hrest⟩ := hok
      obtain ⟨d1, d2, d3, d4, d5, d6, d7⟩ := dropComs_facts T st0 ps hrest
      obtain ⟨st', h1, h2⟩ := ih0 (dropComs ps) (Nat.le_trans (dropComs_length ps) hlen)
          (out ++ [mkAction p]) { st with unknowns := addU st.unknowns ('\\' :: name) } rot
          (hR.trans ⟨rfl, rfl⟩) d1 (by rw [d4]; exact hm)
      rw [d2] at h1
      refine ⟨st', ?_, by rw [d3, d5] at h2; exact h2.trans rfl⟩
      exact (PlainMix.seqRun_cwU T p name sk _ _ envStop out st (hcw.reads hR) ha (fun x hx => (hsk x hx).1) d7
        hhead).app (h1.mono (Nat.le_refl _) d6) (Nat.zero_le _)
    | van p q1 q2 name key repl =>
      obtain ⟨hn, hr, hkey, hrest⟩ := hok
      subst hr
      obtain ⟨hn', he⟩ := hn.ext hE
      have hstep := PlainVanish.seqRun_van_step T p q1 q2 name key (flat ps) envStop out st hn'
        (fun t ht => (hkey t ht).1) ha
      rw [he] at hstep
      simp only [flat, Piece.toks, List.cons_append, List.append_assoc, List.nil_append]
      exact hstep.app_ex (ih _ st rot hR hrest hm) (Nat.le_add_right_of_le (by decide))
    | com t =>
      obtain ⟨st', h1, h2⟩ := ih out st rot hR hok.2 hm
      exact ⟨st', (Comment.seqRun_comTok (hok.1.ext hE)).trans h1 (Nat.zero_le _), h2⟩
    | verb t =>
      exact (seqRun_verbTok hok.1).app_ex (ih _ st rot hR hok.2 hm) (Nat.zero_le _)
    | math d1 b d2 =>
      obtain ⟨hd1, hbne, hb, hd2, hrest⟩ := hok
      obtain ⟨hstep, hm'⟩ := PlainMix.seqRun_mathU T d1 d2 b (flat ps) envStop out st rot ls hd1 hbne hb hd2
        (hm (by simp [nMath]))
      simp only [flat, Piece.toks, List.cons_append, List.append_assoc, List.nil_append]
      exact (hstep.mono (d' := 3) (by decide) (Nat.le_refl _)).app_ex
        (ih _ (setRot st { rot with inl := rotL rot.inl }) { rot with inl := rotL rot.inl }
          (hR.trans ⟨rfl, rfl⟩) hrest (fun _ => hm')) (Nat.le_add_right ..)
    | ref p q1 q2 name key repl =>
      obtain ⟨hn, hr, hkey, hrest⟩ := hok
      subst hr
      obtain ⟨hn', he⟩ := hn.ext hE
      have hstep := PlainRef.seqRun_refCall (T := T) (envStop := envStop) (out := out) p q1 q2 (flat ps) hn'
        (fun t ht => (hkey t ht).1) ha
      rw [he] at hstep
      simp only [flat, Piece.toks, List.cons_append, List.append_assoc, List.nil_append]
      exact hstep.app_ex (ih _ st rot hR hrest hm) (Nat.le_add_right_of_le (by decide))
    | cite p q1 q2 name key =>
      obtain ⟨hn, hkey, hS, hrest⟩ := hok
      simp only [flat, Piece.toks, List.cons_append, List.append_assoc, List.nil_append]
      exact (PlainRef.seqRun_cite p q1 q2 (flat ps) (hn.ext hE) (fun t ht => (hkey t ht).1) (hS.ext hE)).app_ex
        (ih _ st rot hR hrest hm) (Nat.le_add_right_of_le (by decide))
    | citeN p b1 b2 q1 q2 name note key =>
      obtain ⟨hn, hne, hnote, hkey, hS, hrest⟩ := hok
      simp only [flat, Piece.toks, List.cons_append, List.append_assoc, List.nil_append]
      exact (PlainRef.seqRun_citeN p b1 b2 q1 q2 (flat ps) (hn.ext hE)
        (fun t ht => ⟨(hnote t ht).1.ext hE, (hnote t ht).2⟩) hne (fun t ht => (hkey t ht).1) (hS.ext hE)).app_ex
        (ih _ st rot hR hrest hm) (Nat.le_add_right_of_le (by decide))
    | foot fn lb b rb =>
      obtain ⟨hfn, hlb, hrb, hne, hb, hsafe, hS, hrest⟩ := hok
      simp only [flat, Piece.toks, List.cons_append, List.append_assoc, List.nil_append]
      obtain ⟨st', h1, h2⟩ := ih (out ++ [mkAction fn.pos]) (PlainFootnote.addFlow st b) rot
        (hR.trans ⟨rfl, rfl⟩) hrest (fun h0 => hm (by simpa [nMath] using h0))
      refine ⟨st', ?_, by rw [h2, endSt_addFlow]; rfl⟩
      exact (PlainFootnote.seqRun_foot T fn lb rb b (flat ps) envStop out st hfn (hS.ext hE) hlb hrb
        (fun t ht => (hb t ht).ext hE) hne hsafe).app h1 (Nat.le_add_right_of_le (by decide))
    | head hd lb b rb =>
      obtain ⟨hhd, hlb, hrb, hne, hb, hS, hrest⟩ := hok
      simp only [flat, Piece.toks, List.cons_append, List.append_assoc, List.nil_append]
      exact (PlainHeading.seqRun_head T hd lb rb b (flat ps) envStop out st (hhd.ext hE) (hS.ext hE) hlb hrb
        (fun t ht => (hb t ht).ext hE) hne).app_ex (ih _ st rot hR hrest hm) (Nat.le_add_right ..)

/-- the skip pre-pass of `parser_work` sees no begin marker: the comment pieces are no markers, and
    no other piece holds a comment token -/
theorem PiecesOk.nobegin {T : PTables} {st : PState} : ∀ {ps : List Piece}, PiecesOk T st ps →
    NoBegin st.skipBegin (flat ps)
  | [], _ => .nil
  | .tok t :: rest, hok => .cons (NoBegin.of_notComment _ hok.1.notComment) (PiecesOk.nobegin hok.2.2)
  | .spc t :: rest, hok => .cons (NoBegin.of_notComment _ (NoCom.of_kind hok.1.1)) (PiecesOk.nobegin hok.2)
  | .br t :: rest, hok => .cons (NoBegin.of_notComment _ (NoCom.of_kind hok.1.kind)) (PiecesOk.nobegin hok.2)
  | .cw p name sk :: rest, hok =>
    .append (NoCom.noBegin (toks := cwTok p name :: sk) (.cons nofun fun t ht => (hok.2.1 t ht).2) _)
      (PiecesOk.nobegin hok.2.2.2)
  | .van p q1 q2 name key repl :: rest, hok =>
    .append ((NoCom.cmdBraced (t0 := cwTok p name) (lb := lbr q1) (rb := rbr q2) nofun nofun nofun
      fun t ht => (hok.2.2.1 t ht).2).noBegin _) (PiecesOk.nobegin hok.2.2.2)
  | .com t :: rest, hok => .cons (by rw [hok.1.nskip, Bool.and_false]) (PiecesOk.nobegin hok.2)
  | .verb t :: rest, hok => .cons (NoBegin.of_notComment _ (NoCom.of_kind hok.1)) (PiecesOk.nobegin hok.2)
  | .math d1 b d2 :: rest, hok =>
    .append ((noCom_math hok.1 hok.2.2.1 hok.2.2.2.1).noBegin _) (PiecesOk.nobegin hok.2.2.2.2)
  | .ref p q1 q2 name key repl :: rest, hok =>
    .append ((NoCom.cmdBraced (t0 := cwTok p name) (lb := lbr q1) (rb := rbr q2) nofun nofun nofun
      fun t ht => (hok.2.2.1 t ht).2).noBegin _) (PiecesOk.nobegin hok.2.2.2)
  | .cite p q1 q2 name key :: rest, hok =>
    .append ((NoCom.cmdBraced (t0 := cwTok p name) (lb := lbr q1) (rb := rbr q2) nofun nofun nofun
      fun t ht => (hok.2.1 t ht).2).noBegin _) (PiecesOk.nobegin hok.2.2.2)
  | .citeN p b1 b2 q1 q2 name note key :: rest, hok => by
    obtain ⟨_, _, hnote, hkey, _, hrest⟩ := hok
    -- `\name`, `[`, the note, `]`, `{`, the key, `}`
    have h : NoCom (cwTok p name :: PlainRef.chTok b1 '[' ::
        (note ++ PlainRef.chTok b2 ']' :: lbr q1 :: (key ++ [rbr q2]))) :=
      .cons nofun (.cons nofun (.append (fun t ht => (hnote t ht).1.plain.notComment)
        (.cons nofun (.cons nofun (.append (fun t ht => (hkey t ht).2) (.cons nofun .nil))))))
    exact .append (h.noBegin _) (PiecesOk.nobegin hrest)
  | .foot fn lb b rb :: rest, hok =>
    .append ((NoCom.cmdBraced (NoCom.of_kind hok.1.kind) hok.2.1.notComment hok.2.2.1.notComment
      fun t ht => (hok.2.2.2.2.1 t ht).plain.notComment).noBegin _) (PiecesOk.nobegin hok.2.2.2.2.2.2.2)
  | .head hd lb b rb :: rest, hok =>
    .append ((NoCom.cmdBraced (NoCom.of_kind hok.1.kind) hok.2.1.notComment hok.2.2.1.notComment
      fun t ht => (hok.2.2.2.2.1 t ht).plain.notComment).noBegin _) (PiecesOk.nobegin hok.2.2.2.2.2.2)

end PlainMix2
end Yalafi
