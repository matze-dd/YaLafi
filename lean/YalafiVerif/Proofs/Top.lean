/-
  Proofs/Top.lean — `tex2txt` behind `Parser.__init__`.

  `tex2txt` runs the initialisation and `parse` in one monadic block and then turns the token list into
  text and positions.  `finishT2T` is that last part as a function of the outcome of the run, and
  `tex2txt_of_init` starts the run from the initialised state.  The end-to-end proofs lift a statement
  about `parse` through it; the instances on the current tables evaluate `parse` from the normal form of
  the initialised state instead of repeating the initialisation (Generated/Init.lean).

  The rest is the ladder every document class climbs: `parserWork_of_prePass` (`parserWork` is
  scanner, skip pre-pass `prePass`, loop, in the state `workState`; special cases `parserWork_of_seq_diags`,
  `parserWork_of_seq`), `parse_of_parserWork` (from `rootState`, with the extracted flows `flowsToks`
  behind the main text), `tex2txt_of_parse` / `tex2txt_of_work` (the result record in single-language
  mode without `--defs --extr --repl --unkn`); `parse_extr_of_parserWork` (`--extr`), `finishT2T_of_unkn`
  (`--unkn`), `finishT2T_multi` (multi-language mode); `initParser_of_work` / `initParser_of_loop` (the
  initialisation itself is `parserWork` on `T.macroDefsLatex` in `builtinState`, then `initModules`).
  Then the setting of a document class as one structure (`Setup`, `PlainSetup`), `NoCom` / `NoBegin` (no
  skip region), and the way from the loop on the scanned tokens to `tex2txt`: `parse_of_loop_diags`,
  `Setup.of_loop_diags`, `PlainSetup.of_loop_diags` (the scanner may report diagnostics) with
  `parse_of_loop`, `Setup.of_loop`, `PlainSetup.of_loop`, `.of_lines` (it does not).
-/
import YalafiVerif.Model.Tex2txt
namespace Yalafi

open M

/-- `--extr` as `parse` receives it -/
def extrOf (o : Options) : List Str :=
  if o.extr.isEmpty then [] else (splitOn ',' o.extr []).map (fun s => '\\' :: s)

def finishT2T (T : PTables) (o : Options) (multi : Bool) (thresh : Nat) :
    Outcome (List Tok × PState) → Outcome T2TResult
  | .fatal m => .fatal m
  | .crash c => .crash c
  | .outOfFuel => .outOfFuel
  | .ok (toks, st) =>
    if !multi then
      let tp := getTxtPos toks
      let tp1 := if o.hasRepl then replacePhrases T.toTables tp.1 tp.2 o.repl else tp
      let tp2 : Str × List Nat :=
        if o.unkn then
          let t := strJoin [nl] st.unknowns ++ [nl]
          (t, List.replicate t.length 0)
        else tp1
      .ok { toks := toks, txt := tp2.1, pos := tp2.2.map (· + 1), parts := [], unknowns := st.unknowns,
            diags := st.diags, foreign := st.foreign }
    else
      let lc : LangChange := st.rots.map (fun r => (r.code, r.chg))
      match getTxtPosML toks o.lang thresh lc with
      | none => .crash "utils.py:get_txt_pos_ml"
      | some (parts, _) =>
        let parts1 : Parts := parts.map (fun e =>
          if o.hasRepl && e.1 == o.lang then
            (e.1, e.2.map (fun tp => replacePhrases T.toTables tp.1 tp.2 o.repl)) else e)
        let parts2 : Parts := parts1.map (fun e => (e.1, e.2.map (fun tp => (tp.1, tp.2.map (· + 1)))))
        .ok { toks := toks, txt := [], pos := [], parts := parts2, unknowns := st.unknowns,
              diags := st.diags, foreign := st.foreign }

theorem tex2txt_eq_finish (T : PTables) (fuel : Nat) (latex : Str) (o : Options) (multi : Bool)
    (thresh : Nat) (fs : FS) :
    tex2txt T fuel latex o multi thresh fs
      = finishT2T T o multi thresh
          ((initParser T fuel o >>= fun _ => parse T fuel latex o.defs (extrOf o))
            (initialState T o multi fs)) := by
  unfold tex2txt finishT2T extrOf
  split <;> rfl

theorem M.bind_ok {α β} (x : M α) (f : α → M β) (s s' : PState) (a : α) (h : x s = .ok (a, s')) :
    (x >>= f) s = f a s' := by
  show M.bind' x f s = _
  simp only [M.bind', h]

theorem tex2txt_of_init {T : PTables} {fuel : Nat} {o : Options} {multi : Bool} {fs : FS} {st1 : PState}
    (hinit : initParser T fuel o (initialState T o multi fs) = .ok ((), st1)) (latex : Str) (thresh : Nat) :
    tex2txt T fuel latex o multi thresh fs
      = finishT2T T o multi thresh (parse T fuel latex o.defs (extrOf o) st1) := by
  rw [tex2txt_eq_finish, M.bind_ok _ _ _ _ _ hinit]

/-! ### `parserWork` and `parse` in terms of the loop -/

/-- the state in which `parserWork` on `src` runs the skip pre-pass and starts the expander loop, `ds`
    the scanner diagnostics -/
def workState (st : PState) (src : Str) (ds : List Diag) : PState :=
  { st with latex := src, nest := st.nest + 1, diags := st.diags ++ ds }

/-- the skip pre-pass of `parser_work` over the scanned tokens, with the recovery at a region that is
    never closed; `st` is the state the markers are read from (the one it runs in) -/
def prePass (T : PTables) (st : PState) (toks : List Tok) : M (List Tok) :=
  let sp := skipPass st (toks.length + 1) toks []
  match sp.2.1 with
  | none => pure sp.1
  | some bpos => do
    let er ← latexError T.toTables ("cannot find closing LaTeX comment ".toList ++ reprStr st.skipEnd) bpos
    pure (sp.1 ++ er ++ sp.2.2)

/-- `parserWork` is: scanner, pre-pass, loop, restoring of the bookkeeping fields — whatever the
    scanner reports and the pre-pass does.  One unit of fuel for `parser_work` itself. -/
theorem parserWork_of_prePass {T : PTables} {f : Nat} {src : Str} {st stW st2 : PState}
    {toks r b : List Tok}
    (hpp : prePass T (workState st src (scan T.toTables src).diags) (scan T.toTables src).toks
        (workState st src (scan T.toTables src).diags) = .ok (toks, stW))
    (hs : expandSequence T f toks none [] stW = .ok ((r, b), st2)) :
    parserWork T (f + 1) src st = .ok (r, { st2 with latex := st.latex, nest := st2.nest - 1 }) := by
  rw [parserWork.eq_2]
  refine (M.bind_ok _ _ _ _ _ (rfl : M.get st = _)).trans ?_
  refine (M.bind_ok _ _ _ _ _ (rfl : M.modify _ _ = _)).trans ?_
  refine (M.bind_ok _ _ _ _ _ (rfl : M.modify _ _ = _)).trans ?_
  refine (M.bind_ok _ _ _ _ _ (rfl : M.get _ = _)).trans ?_
  refine (M.bind_ok _ _ _ _ _ hpp).trans ?_
  refine (M.bind_ok _ _ _ _ _ hs).trans ?_
  rfl

theorem parserWork_of_seq_diags {T : PTables} {f : Nat} {src : Str} {st st2 : PState}
    {toks rest r b : List Tok}
    (hsp : skipPass (workState st src (scan T.toTables src).diags)
      ((scan T.toTables src).toks.length + 1) (scan T.toTables src).toks [] = (toks, none, rest))
    (hs : expandSequence T f toks none [] (workState st src (scan T.toTables src).diags) = .ok ((r, b), st2)) :
    parserWork T (f + 1) src st = .ok (r, { st2 with latex := st.latex, nest := st2.nest - 1 }) :=
  parserWork_of_prePass (by simp only [prePass, hsp]; rfl) hs

theorem parserWork_of_seq {T : PTables} {f : Nat} {src : Str} {st st2 : PState} {toks rest r b : List Tok}
    (hd : (scan T.toTables src).diags = [])
    (hsp : skipPass { st with latex := src, nest := st.nest + 1 } ((scan T.toTables src).toks.length + 1)
      (scan T.toTables src).toks [] = (toks, none, rest))
    (hs : expandSequence T f toks none [] { st with latex := src, nest := st.nest + 1 } = .ok ((r, b), st2)) :
    parserWork T (f + 1) src st = .ok (r, { st2 with latex := st.latex, nest := st2.nest - 1 }) := by
  have e : workState st src (scan T.toTables src).diags = { st with latex := src, nest := st.nest + 1 } := by
    simp only [workState, hd, List.append_nil]
  exact parserWork_of_seq_diags (e ▸ hsp) (e ▸ hs)

/-! ### `Parser.__init__` in terms of `parserWork` and the loop

  The initialisation enters the built-in Python definitions, reads the built-in LaTeX definitions
  (`T.macroDefsLatex`) with `parserWork`, and loads the modules of the document classes and packages.
  The scanner's part of the second step depends on the tables alone. -/

/-- the state in which `Parser.__init__` reads the built-in LaTeX definitions; the `++ []` are what
    `modifyParameters` computes for the three lists of the built-in module, which are empty (the
    state is written as the model computes it) -/
def builtinState (T : PTables) (o : Options) (st0 : PState) : PState :=
  { st0 with
    mathTextMacros := st0.mathTextMacros ++ [], mathOperators := st0.mathOperators ++ [],
    newcommandIgnore := st0.newcommandIgnore ++ [],
    macros := (builtinModule T o).macros.foldl setMacro st0.macros,
    envs := (builtinModule T o).envs.foldl setMacro st0.envs }

/-- the last step of `Parser.__init__`: the modules of the document classes, then those of the packages -/
def initModules (T : PTables) (fuel : Nat) (o : Options) : M Unit :=
  (getPackages T true o.dcls ++ getPackages T false o.pack).forM
    (fun nm => do let _ ← initPackage T fuel nm.1 nm.2 false [] 0; pure ())

theorem initModules_none {T : PTables} {fuel : Nat} {o : Options} (hp : o.pack = []) (hd : o.dcls = [])
    (st : PState) : initModules T fuel o st = .ok ((), st) := by
  simp only [initModules, hp, hd, getPackages, List.isEmpty_nil, if_true, List.append_nil]
  rfl

theorem modifyParameters_builtin {T : PTables} {o : Options} {f : Nat} {st0 st2 : PState} {r : List Tok}
    (hne : T.macroDefsLatex.isEmpty = false)
    (h : parserWork T f T.macroDefsLatex (builtinState T o st0) = .ok (r, st2)) :
    modifyParameters T (f + 1) (builtinModule T o) [] 0 st0 = .ok ([], st2) := by
  rw [modifyParameters.eq_2]
  have e1 : (builtinModule T o).isOpaque = false := rfl
  have e2 : (builtinModule T o).babelInject = false := rfl
  have e3 : (builtinModule T o).crefInject = false := rfl
  have e4 : (builtinModule T o).macrosLatex = T.macroDefsLatex := rfl
  simp only [e1, e2, e3, e4, hne, Bool.false_eq_true, if_false, Bool.false_and, Bool.not_false, if_true,
    List.append_nil]
  refine (M.bind_ok _ _ _ _ _ (rfl : M.get st0 = _)).trans ?_
  refine (M.bind_ok _ _ _ _ _ (rfl : (pure [] : M (List Tok)) st0 = _)).trans ?_
  refine (M.bind_ok _ _ _ _ _ (rfl : M.modify _ _ = _)).trans ?_
  refine (M.bind_ok _ _ _ _ _ h).trans ?_
  rfl

/-- `Parser.__init__` is `parserWork` on the built-in definitions, then the modules; two units of fuel for
    `init_package` and `modify_parameters` of the built-in module -/
theorem initParser_of_work {T : PTables} {o : Options} {f : Nat} {st0 st2 : PState} {r : List Tok}
    (hne : T.macroDefsLatex.isEmpty = false)
    (h : parserWork T f T.macroDefsLatex (builtinState T o st0) = .ok (r, st2)) :
    initParser T (f + 2) o st0 = initModules T (f + 2) o st2 := by
  unfold initParser
  rw [initPackage.eq_2]
  have e : (builtinModule T o).requires = [] := rfl
  simp only [e, List.foldlM_nil, List.isEmpty_nil, Bool.not_true, Bool.false_and, Bool.false_eq_true, if_false]
  refine (M.bind_ok _ _ _ _ _ (?_ : _ = Outcome.ok (([] : List Tok), st2))).trans rfl
  refine (M.bind_ok _ _ _ _ _ (rfl : M.get st0 = _)).trans ?_
  show catchAll _ _ st0 = _
  unfold catchAll
  rw [M.bind_ok _ _ _ _ _ (rfl : (pure [] : M (List Tok)) st0 = _),
    M.bind_ok _ _ _ _ _ (modifyParameters_builtin hne h)]
  rfl

theorem initParser_of_loop {T : PTables} {o : Options} {f : Nat} {st0 st2 : PState}
    {toks0 toks rest r b : List Tok} (hne : T.macroDefsLatex.isEmpty = false)
    (ht : (scan T.toTables T.macroDefsLatex).toks = toks0) (hdg : (scan T.toTables T.macroDefsLatex).diags = [])
    (hsp : skipPass { builtinState T o st0 with latex := T.macroDefsLatex, nest := st0.nest + 1 }
      (toks0.length + 1) toks0 [] = (toks, none, rest))
    (hs : expandSequence T f toks none []
      { builtinState T o st0 with latex := T.macroDefsLatex, nest := st0.nest + 1 } = .ok ((r, b), st2)) :
    initParser T (f + 3) o st0
      = initModules T (f + 3) o { st2 with latex := st0.latex, nest := st2.nest - 1 } :=
  initParser_of_work hne (parserWork_of_seq hdg (by rw [ht]; exact hsp) hs)

def rootState (st1 : PState) : PState :=
  { st1 with extracted := [], unknowns := [], foreign := false, nest := 0 }

def flowsToks (extracted : List (List Tok)) : List Tok :=
  (extracted.map (fun e =>
    match e.head?, e.getLast? with
    | some h, some l => [mkFix .par h.pos [nl, nl, nl]] ++ e ++ [mkFix .space l.pos [nl]]
    | _, _ => [])).flatten

theorem parse_of_parserWork {T : PTables} {fuel : Nat} {src : Str} {st st2 : PState} {body : List Tok}
    (hw : parserWork T fuel src (rootState st) = .ok (body, st2)) :
    parse T fuel src [] [] st = .ok (body ++ flowsToks st2.extracted, st2) := by
  unfold parse
  simp only [List.isEmpty_nil, Bool.not_true, Bool.false_eq_true, if_false, if_true]
  refine (M.bind_ok _ _ _ _ _ (rfl : M.modify _ _ = _)).trans ?_
  refine (M.bind_ok _ _ _ _ _ (rfl : (pure _ : M (List Tok)) _ = _)).trans ?_
  refine (M.bind_ok _ _ _ _ _ (rfl : M.modify _ _ = _)).trans ?_
  refine (M.bind_ok _ _ _ _ _ hw).trans ?_
  refine (M.bind_ok _ _ _ _ _ (rfl : M.get _ = _)).trans ?_
  rfl

theorem tex2txt_of_parse {T : PTables} {fuel : Nat} {o : Options} {fs : FS} {st1 st2 : PState} {src : Str}
    {toks : List Tok} (thresh : Nat)
    (hdefs : o.defs = []) (hextr : o.extr = []) (hrepl : o.hasRepl = false) (hunkn : o.unkn = false)
    (hinit : initParser T fuel o (initialState T o false fs) = .ok ((), st1))
    (hp : parse T fuel src [] [] st1 = .ok (toks, st2)) :
    tex2txt T fuel src o false thresh fs
      = .ok { toks := toks, txt := (getTxtPos toks).1, pos := (getTxtPos toks).2.map (· + 1), parts := [],
              unknowns := st2.unknowns, diags := st2.diags, foreign := st2.foreign } := by
  rw [tex2txt_of_init hinit, hdefs]
  simp only [extrOf, hextr, List.isEmpty_nil, if_true, hp, finishT2T, hrepl, hunkn, Bool.not_false,
    Bool.false_eq_true, if_false]

theorem tex2txt_of_work (T : PTables) (o : Options) (fs : FS) (thresh : Nat) (src : Str) (fuel : Nat)
    (st1 st2 : PState) (body : List Tok)
    (hdefs : o.defs = []) (hextr : o.extr = []) (hrepl : o.hasRepl = false) (hunkn : o.unkn = false)
    (hinit : initParser T fuel o (initialState T o false fs) = .ok ((), st1))
    (hw : parserWork T fuel src (rootState st1) = .ok (body, st2)) :
    tex2txt T fuel src o false thresh fs
      = .ok { toks := body ++ flowsToks st2.extracted,
              txt := (getTxtPos (body ++ flowsToks st2.extracted)).1,
              pos := (getTxtPos (body ++ flowsToks st2.extracted)).2.map (· + 1),
              parts := [], unknowns := st2.unknowns, diags := st2.diags, foreign := st2.foreign } :=
  tex2txt_of_parse thresh hdefs hextr hrepl hunkn hinit (parse_of_parserWork hw)

/-! ### `parse` with `--extr`, the result record with `--unkn` and in multi-language mode -/

theorem parse_extr_of_parserWork {T : PTables} {fuel : Nat} {src : Str} {st st2 : PState}
    {extract : List Str} {main : List Tok} (hex : extract.isEmpty = false)
    (hw : parserWork T fuel src (rootState (initExtractions T st extract)) = .ok (main, st2)) :
    parse T fuel src [] extract st = .ok (flowsToks st2.extracted, st2) := by
  unfold parse
  simp only [hex, Bool.not_false, List.isEmpty_nil, Bool.false_eq_true, if_false, if_true]
  refine (M.bind_ok _ _ _ _ _ (rfl : M.modify _ _ = _)).trans ?_
  refine (M.bind_ok _ _ _ _ _ (rfl : M.modify _ _ = _)).trans ?_
  refine (M.bind_ok _ _ _ _ _ (rfl : (pure _ : M (List Tok)) _ = _)).trans ?_
  refine (M.bind_ok _ _ _ _ _ (rfl : M.modify _ _ = _)).trans ?_
  refine (M.bind_ok _ _ _ _ _ hw).trans ?_
  refine (M.bind_ok _ _ _ _ _ (rfl : M.get _ = _)).trans ?_
  rfl

theorem finishT2T_of_unkn (T : PTables) (o : Options) (thresh : Nat) (toks : List Tok) (st : PState)
    (hrepl : o.hasRepl = false) :
    finishT2T T o false thresh (.ok (toks, st))
      = .ok { toks := toks,
              txt := if o.unkn then strJoin [nl] st.unknowns ++ [nl] else (getTxtPos toks).1,
              pos := if o.unkn then List.replicate (strJoin [nl] st.unknowns ++ [nl]).length 1
                     else (getTxtPos toks).2.map (· + 1),
              parts := [], unknowns := st.unknowns, diags := st.diags, foreign := st.foreign } := by
  cases hu : o.unkn <;> simp [finishT2T, hrepl, hu, List.map_replicate]

theorem finishT2T_multi {T : PTables} {o : Options} {thresh : Nat} {toks : List Tok} {st : PState}
    {parts : Parts} {lc : LangChange} (hrepl : o.hasRepl = false)
    (hml : getTxtPosML toks o.lang thresh (st.rots.map (fun r => (r.code, r.chg))) = some (parts, lc)) :
    finishT2T T o true thresh (.ok (toks, st))
      = .ok { toks := toks, txt := [], pos := [],
              parts := parts.map (fun e => (e.1, e.2.map (fun tp => (tp.1, tp.2.map (· + 1))))),
              unknowns := st.unknowns, diags := st.diags, foreign := st.foreign } := by
  simp only [finishT2T, Bool.not_true, Bool.false_eq_true, if_false, hml, hrepl, Bool.false_and, List.map_id']

/-! ### the setting of a document class, and the way from the loop to `tex2txt` -/

theorem takeWhile_all {α} (p : α → Bool) (l : List α) (h : ∀ x ∈ l, p x = true) :
    l.takeWhile p = l := by
  induction l with
  | nil => rfl
  | cons a l ih =>
    rw [List.takeWhile_cons, h a (List.mem_cons_self ..), if_pos rfl,
      ih (fun x hx => h x (List.mem_cons_of_mem _ hx))]

structure Setup (T : PTables) (o : Options) (multi : Bool) (fs : FS) (fuel : Nat) (st1 : PState) : Prop where
  defs : o.defs = []
  extr : o.extr = []
  init : initParser T fuel o (initialState T o multi fs) = .ok ((), st1)

structure PlainSetup (T : PTables) (o : Options) (fs : FS) (fuel : Nat) (st1 : PState) : Prop
    extends Setup T o false fs fuel st1 where
  repl : o.hasRepl = false
  unkn : o.unkn = false

def startState (st1 : PState) (src : Str) : PState :=
  { st1 with extracted := [], unknowns := [], foreign := false, nest := 1, latex := src }

theorem workState_rootState (st1 : PState) (src : Str) :
    workState (rootState st1) src [] = startState st1 src := by
  simp only [workState, rootState, startState, List.append_nil]

def NoCom (ts : List Tok) : Prop := ∀ t ∈ ts, t.kind ≠ .comment

theorem NoCom.nil : NoCom [] := fun _ h => nomatch h

theorem NoCom.cons {t : Tok} {ts : List Tok} (h : t.kind ≠ .comment) (hs : NoCom ts) : NoCom (t :: ts) :=
  List.forall_mem_cons.mpr ⟨h, hs⟩

theorem NoCom.append {as bs : List Tok} (ha : NoCom as) (hb : NoCom bs) : NoCom (as ++ bs) :=
  List.forall_mem_append.mpr ⟨ha, hb⟩

theorem NoCom.of_kind {t : Tok} {k : Kind} (h : t.kind = k) (hk : k ≠ .comment := by nofun) :
    t.kind ≠ .comment :=
  h ▸ hk

/-- a brace or delimiter token: `.special` or `.text` -/
theorem NoCom.of_kind2 {t : Tok} (h : t.kind = .special ∨ t.kind = .text) : t.kind ≠ .comment :=
  h.elim (NoCom.of_kind ·) (NoCom.of_kind ·)

theorem NoCom.cmdBraced {t0 lb rb : Tok} {nt : List Tok} (h0 : t0.kind ≠ .comment)
    (hl : lb.kind ≠ .comment) (hr : rb.kind ≠ .comment) (hn : NoCom nt) :
    NoCom (t0 :: lb :: (nt ++ [rb])) :=
  .cons h0 (.cons hl (.append hn (.cons hr .nil)))

def NoBegin (sb : Str) (toks : List Tok) : Prop :=
  ∀ t ∈ toks, (t.kind == .comment && startsWith t.txt sb) = false

theorem NoCom.noBegin {toks : List Tok} (h : NoCom toks) (sb : Str) : NoBegin sb toks :=
  fun t ht => by simp [h t ht]

theorem NoBegin.nil {sb : Str} : NoBegin sb [] := fun _ h => nomatch h

theorem NoBegin.cons {sb : Str} {t : Tok} {ts : List Tok}
    (h : (t.kind == .comment && startsWith t.txt sb) = false) (hs : NoBegin sb ts) :
    NoBegin sb (t :: ts) :=
  List.forall_mem_cons.mpr ⟨h, hs⟩

theorem NoBegin.append {sb : Str} {as bs : List Tok} (ha : NoBegin sb as) (hb : NoBegin sb bs) :
    NoBegin sb (as ++ bs) :=
  List.forall_mem_append.mpr ⟨ha, hb⟩

theorem NoBegin.of_notComment (sb : Str) {t : Tok} (h : t.kind ≠ .comment) :
    (t.kind == .comment && startsWith t.txt sb) = false := by
  simp [h]

theorem skipPass_noBegin (st : PState) (fuel : Nat) {toks : List Tok} (h : NoBegin st.skipBegin toks) :
    skipPass st (fuel + 1) toks [] = (toks, none, []) := by
  have hpre : toks.takeWhile
      (fun t => !(t.kind == .comment && startsWith t.txt st.skipBegin)) = toks :=
    takeWhile_all _ _ (fun t ht => by simp [h t ht])
  simp only [skipPass, hpre, List.drop_length, List.nil_append]

variable {T : PTables} {o : Options} {multi : Bool} {fs : FS} {fuel : Nat} {st1 st2 : PState} {src : Str}
  {toks out r b : List Tok}

theorem parse_of_loop_diags {ds : List Diag}
    (hscan : (scan T.toTables src).diags = ds ∧ (scan T.toTables src).toks = toks)
    (hnb : NoBegin st1.skipBegin toks) (hfuel : 0 < fuel)
    (hs : expandSequence T (fuel - 1) toks none [] (workState (rootState st1) src ds) = .ok ((r, b), st2)) :
    parse T fuel src [] [] st1
      = .ok (r ++ flowsToks st2.extracted, { st2 with latex := st1.latex, nest := st2.nest - 1 }) := by
  obtain ⟨f, rfl⟩ : ∃ f, fuel = f + 1 := ⟨fuel - 1, by omega⟩
  obtain ⟨rfl, rfl⟩ := hscan
  rw [Nat.add_sub_cancel] at hs
  exact parse_of_parserWork (parserWork_of_seq_diags (skipPass_noBegin _ _ hnb) hs)

theorem parse_of_loop
    (hscan : (scan T.toTables src).diags = [] ∧ (scan T.toTables src).toks = toks)
    (hnb : NoBegin st1.skipBegin toks) (hfuel : 0 < fuel)
    (hs : expandSequence T (fuel - 1) toks none [] (startState st1 src) = .ok ((r, b), st2)) :
    parse T fuel src [] [] st1
      = .ok (r ++ flowsToks st2.extracted, { st2 with latex := st1.latex, nest := st2.nest - 1 }) :=
  parse_of_loop_diags hscan hnb hfuel (workState_rootState st1 src ▸ hs)

theorem Setup.of_loop_diags (R : Setup T o multi fs fuel st1) (thresh : Nat) {ds : List Diag}
    (hscan : (scan T.toTables src).diags = ds ∧ (scan T.toTables src).toks = toks)
    (hnb : NoBegin st1.skipBegin toks) (hfuel : 0 < fuel)
    (hs : expandSequence T (fuel - 1) toks none [] (workState (rootState st1) src ds) = .ok ((r, b), st2)) :
    tex2txt T fuel src o multi thresh fs
      = finishT2T T o multi thresh (.ok (r ++ flowsToks st2.extracted, st2)) := by
  rw [tex2txt_of_init R.init, R.defs, show extrOf o = [] by simp [extrOf, R.extr],
    parse_of_loop_diags hscan hnb hfuel hs]
  rfl

theorem Setup.of_loop (R : Setup T o multi fs fuel st1) (thresh : Nat)
    (hscan : (scan T.toTables src).diags = [] ∧ (scan T.toTables src).toks = toks)
    (hnb : NoBegin st1.skipBegin toks) (hfuel : 0 < fuel)
    (hs : expandSequence T (fuel - 1) toks none [] (startState st1 src) = .ok ((r, b), st2)) :
    tex2txt T fuel src o multi thresh fs
      = finishT2T T o multi thresh (.ok (r ++ flowsToks st2.extracted, st2)) :=
  R.of_loop_diags thresh hscan hnb hfuel (workState_rootState st1 src ▸ hs)

namespace PlainSetup

theorem of_loop_diags (R : PlainSetup T o fs fuel st1) (thresh : Nat) {ds : List Diag}
    (hscan : (scan T.toTables src).diags = ds ∧ (scan T.toTables src).toks = toks)
    (hnb : NoBegin st1.skipBegin toks) (hfuel : 0 < fuel)
    (hs : expandSequence T (fuel - 1) toks none [] (workState (rootState st1) src ds) = .ok ((r, b), st2)) :
    tex2txt T fuel src o false thresh fs
      = .ok { toks := r ++ flowsToks st2.extracted,
              txt := (getTxtPos (r ++ flowsToks st2.extracted)).1,
              pos := (getTxtPos (r ++ flowsToks st2.extracted)).2.map (· + 1),
              parts := [], unknowns := st2.unknowns, diags := st2.diags, foreign := st2.foreign } := by
  rw [R.toSetup.of_loop_diags thresh hscan hnb hfuel hs]
  simp only [finishT2T, R.repl, R.unkn, Bool.not_false, Bool.false_eq_true, if_false, if_true]

theorem of_loop (R : PlainSetup T o fs fuel st1) (thresh : Nat)
    (hscan : (scan T.toTables src).diags = [] ∧ (scan T.toTables src).toks = toks)
    (hnb : NoBegin st1.skipBegin toks) (hfuel : 0 < fuel)
    (hs : expandSequence T (fuel - 1) toks none [] (startState st1 src) = .ok ((r, b), st2)) :
    tex2txt T fuel src o false thresh fs
      = .ok { toks := r ++ flowsToks st2.extracted,
              txt := (getTxtPos (r ++ flowsToks st2.extracted)).1,
              pos := (getTxtPos (r ++ flowsToks st2.extracted)).2.map (· + 1),
              parts := [], unknowns := st2.unknowns, diags := st2.diags, foreign := st2.foreign } :=
  R.of_loop_diags thresh hscan hnb hfuel (workState_rootState st1 src ▸ hs)

/-- … when the loop ends with the blank-line removal of `out` -/
theorem of_lines (R : PlainSetup T o fs fuel st1) (thresh : Nat)
    (hscan : (scan T.toTables src).diags = [] ∧ (scan T.toTables src).toks = toks)
    (hnb : NoBegin st1.skipBegin toks) (hfuel : 0 < fuel)
    (hs : expandSequence T (fuel - 1) toks none [] (startState st1 src)
      = match removeLines out with
        | some r => .ok ((r, []), st2)
        | none => .outOfFuel)
    (hr : removeLines out = some r) :
    tex2txt T fuel src o false thresh fs
      = .ok { toks := r ++ flowsToks st2.extracted,
              txt := (getTxtPos (r ++ flowsToks st2.extracted)).1,
              pos := (getTxtPos (r ++ flowsToks st2.extracted)).2.map (· + 1),
              parts := [], unknowns := st2.unknowns, diags := st2.diags, foreign := st2.foreign } :=
  R.of_loop thresh hscan hnb hfuel (by rw [hs, hr])

end PlainSetup

end Yalafi
