/-
  Proofs/PlainRepl.lean — C13 / C01 end to end on plain prose: with a replacement list
  (`--repl`) the result of `tex2txt` on a source of inert characters is exactly
  `replace_phrases` applied to the source and the identity map; hence text and position list
  have equal length and every reported position is a position of the source (1 … len).
-/
import YalafiVerif.Proofs.Plain
import YalafiVerif.Proofs.Replace
namespace Yalafi

theorem tex2txt_plain_repl_text (T : PTables) (o : Options) (fs : FS) (thresh : Nat) (src : Str) (fuel : Nat)
    (st1 : PState) (hdefs : o.defs = []) (hextr : o.extr = []) (hrepl : o.hasRepl = true)
    (hunkn : o.unkn = false)
    (hinit : initParser T fuel o (initialState T o false fs) = .ok ((), st1))
    (h : inertText T st1 src = true) (hf : src.length + 2 ≤ fuel) :
    tex2txt T fuel src o false thresh fs
      = .ok { toks := (scan T.toTables src).toks,
              txt := (replacePhrases T.toTables src (List.range src.length) o.repl).1,
              pos := (replacePhrases T.toTables src (List.range src.length) o.repl).2.map (· + 1),
              parts := [], unknowns := [], diags := st1.diags, foreign := false } := by
  rw [tex2txt_of_init hinit, hdefs]
  simp only [extrOf, hextr, List.isEmpty_nil, if_true, parse_plain_text T st1 src fuel hf h, finishT2T,
    hrepl, hunkn, Bool.not_false, Bool.false_eq_true, if_false, (scan_plain T st1 src h).2.2.2.1]

/-- **C13 / C01 on `tex2txt` with a replacement list.**  For plain prose the output is the
    phrase replacement of the source with the identity map; text and map have equal length and
    every reported position lies in `1 … len(source)`. -/
theorem tex2txt_plain_repl (T : PTables) (o : Options) (fs : FS) (thresh : Nat) (src : Str) (fuel : Nat)
    (st1 : PState) (hdefs : o.defs = []) (hextr : o.extr = []) (hrepl : o.hasRepl = true)
    (hunkn : o.unkn = false)
    (hinit : initParser T fuel o (initialState T o false fs) = .ok ((), st1))
    (h : ∀ c ∈ src, inertChar T st1 c = true) (hf : src.length + 2 ≤ fuel) :
    ∃ r, tex2txt T fuel src o false thresh fs = .ok r ∧
      r.txt = (replacePhrases T.toTables src (List.range src.length) o.repl).1 ∧
      r.pos = (replacePhrases T.toTables src (List.range src.length) o.repl).2.map (· + 1) ∧
      r.txt.length = r.pos.length ∧ (∀ p ∈ r.pos, 1 ≤ p ∧ p ≤ src.length) ∧
      r.unknowns = [] ∧ r.diags = st1.diags := by
  refine ⟨_, tex2txt_plain_repl_text T o fs thresh src fuel st1 hdefs hextr hrepl hunkn hinit
    (inertText_of_inertChar T st1 src h) hf, rfl, rfl, ?_, ?_, rfl, rfl⟩
  · have := (replacePhrases_ok T.toTables src (List.range src.length) o.repl (by simp)).1
    simpa using this
  · intro p hp
    simp only [List.mem_map] at hp
    obtain ⟨q, hq, rfl⟩ := hp
    have := (replacePhrases_ok T.toTables src (List.range src.length) o.repl (by simp)).2 q hq
    simp at this
    omega

end Yalafi
