/-
  Proofs/PlainPara.lean — C05 "text flow is preserved", the PARAGRAPH-LEVEL reading of the exact
  character-level reference `PlainMacro.delLines` (= `remove_pure_action_lines`), on the level of MARKS
  (`PlainMacro.Mark` = an output character with its position, or `none` for a text-less Action mark).
  Independent of any document grammar; lifted to documents in Proofs/PlainParaSrc.lean.

  Setting.  A mark list `X ++ some a :: (M ++ some b :: Y)` with two VISIBLE characters `a`, `b` (no
  white space).  Both survive (`PlainMix.delLines_words`), and

    `delLines_between`   delLines (X ++ some a :: (M ++ some b :: Y))
                           = pre X ++ a :: (sep M ++ b :: post Y)

  where `sep M` — THE OUTPUT CHARACTERS STRICTLY BETWEEN `a` AND `b` — depends on `M` only:
    `sep`, `pre`, `mid`  `mid cur bl act` = `delGo cur bl act`, except that the last line is kept (a
                         visible character follows); `sep M = mid [] false false M` (the line of `a`
                         is not blank), `pre X = mid [] true false X`
    `sep_nonl`           no line break in `M`: `sep M` = the characters of `M`
    `sep_line`           `M = L ++ nl :: R` (`L` the rest of the line of `a`): `sep M` = the characters
                         of `L`, the line break, `pre R` — the line of `a` is never deleted
    `pre_line`, `pre_last`   a further line is deleted with its line break iff it is pure
                         (`PlainMix.pureLine`: white space only and at least one text-less mark); the
                         last line (in front of `b`) is never deleted
    `sep_sublist`        nothing is added
    `pureLine_iff`, `not_pure_of_vis`, `not_pure_of_nomark`   a deleted line is a pure-mark line; a
                         line with a visible character, or without a text-less mark (e.g. the empty
                         line: a line break that follows another line break), is never deleted

  Classes and blank lines
    `Cls`, `clsC`, `clsM`    a character / a mark is a line break, other white space, or ink
                         (visible; a text-less mark counts as ink: it stands for a construct)
    `hasBlank`, `hasBlank_iff`   a list of classes holds a BLANK LINE: two line breaks with nothing
                         but white space between them

  The three paragraph-level facts (mark level)
    `sep_blank`  (i)+(ii)   `hasBlank (sep M) = hasBlank M`: the output between `a` and `b` holds a
                         blank line IFF the marks between them do — a line that is blank only because
                         its constructs vanished (white space and text-less marks) is NOT a blank line
                         of `M` (a mark is ink) and never becomes one; a line that is blank in `M`
                         (white space only, no mark) stays, and the line break in front of it stays
                         or is replaced by an earlier one
    `sep_space`  (iii)      `sep M` holds white space IFF `M` holds a white-space character

  For the document grammars (Proofs/PlainParaSrc.lean, PlainParaMix3.lean, PlainParEnvRead.lean)
    `clsM_posText`, `clsM_fix`, `any_space_posText`, `any_nonink_str`, `posText_space`
                         the classes of text that stands in the source, of generated text
    `blankGo_str`, `blankGo_prefix_eq`, `blankGo_prefix`, `blankGo_blob`
                         the blank-line scanner across a string without line break, behind a
                         common prefix, across a construct that starts with a visible character
-/
import YalafiVerif.Proofs.PlainMixRead
namespace Yalafi
namespace PlainPara

open PlainMacro
open PlainMix (isNlMark blankMark pureLine)

/-! ### classes, blank lines -/

/-- line break / other white space / visible -/
inductive Cls where
  | nl
  | ws
  | ink
deriving DecidableEq, Repr

def clsC (c : Char) : Cls := if c == nl then .nl else if isSpace c then .ws else .ink

/-- the class of a mark: a text-less mark stands for a construct — ink -/
def clsM : Mark → Cls
  | none => .ink
  | some cp => clsC cp.1

def clsP (cp : Char × Nat) : Cls := clsC cp.1

/-- `s` = "a line break has been seen, and nothing but white space since" -/
def blankGo : Bool → List Cls → Bool
  | _, [] => false
  | s, .nl :: r => s || blankGo true r
  | s, .ws :: r => blankGo s r
  | _, .ink :: r => blankGo false r

/-- the list holds a blank line: two line breaks separated by white space only -/
def hasBlank (l : List Cls) : Bool := blankGo false l

def hasBlankLine (s : Str) : Bool := hasBlank (s.map clsC)

theorem blankGo_mono : ∀ (l : List Cls) (s : Bool), blankGo false l = true → blankGo s l = true
  | [], _, h => by simp [blankGo] at h
  | .nl :: r, s, h => by
    simp only [blankGo, Bool.false_or] at h
    simp [blankGo, h]
  | .ws :: r, s, h => by
    simp only [blankGo] at h ⊢
    exact blankGo_mono r s h
  | .ink :: r, s, h => by
    simpa [blankGo] using h

theorem blankGo_ws_prefix : ∀ (L : List Cls) (s : Bool) (r : List Cls), (∀ x ∈ L, x = .ws) →
    blankGo s (L ++ r) = blankGo s r
  | [], _, _, _ => rfl
  | x :: L, s, r, h => by
    have hx : x = .ws := h x (List.mem_cons_self ..)
    subst hx
    simp only [List.cons_append, blankGo]
    exact blankGo_ws_prefix L s r (fun y hy => h y (List.mem_cons_of_mem _ hy))

theorem blankGo_iff : ∀ (l : List Cls) (s : Bool), blankGo s l = true ↔
    ((s = true ∧ ∃ L B, l = L ++ .nl :: B ∧ ∀ x ∈ L, x = .ws) ∨
     ∃ A L B, l = A ++ .nl :: (L ++ .nl :: B) ∧ ∀ x ∈ L, x = .ws)
  | [], s => by
    simp [blankGo]
  | .nl :: r, s => by
    simp only [blankGo, Bool.or_eq_true]
    rw [blankGo_iff r true]
    constructor
    · rintro (h | h)
      · exact Or.inl ⟨h, [], r, rfl, by simp⟩
      · rcases h with ⟨_, L, B, e, hL⟩ | ⟨A, L, B, e, hL⟩
        · exact Or.inr ⟨[], L, B, by simp [e], hL⟩
        · exact Or.inr ⟨.nl :: A, L, B, by simp [e], hL⟩
    · rintro (⟨hs, L, B, e, hL⟩ | ⟨A, L, B, e, hL⟩)
      · exact Or.inl hs
      · right
        cases A with
        | nil =>
          simp only [List.nil_append, List.cons.injEq, true_and] at e
          exact Or.inl ⟨rfl, L, B, e, hL⟩
        | cons x A =>
          simp only [List.cons_append, List.cons.injEq] at e
          exact Or.inr ⟨A, L, B, e.2, hL⟩
  | .ws :: r, s => by
    simp only [blankGo]
    rw [blankGo_iff r s]
    constructor
    · rintro (⟨hs, L, B, e, hL⟩ | ⟨A, L, B, e, hL⟩)
      · exact Or.inl ⟨hs, .ws :: L, B, by simp [e], by
          intro x hx
          rcases List.mem_cons.mp hx with rfl | hx
          · rfl
          · exact hL x hx⟩
      · exact Or.inr ⟨.ws :: A, L, B, by simp [e], hL⟩
    · rintro (⟨hs, L, B, e, hL⟩ | ⟨A, L, B, e, hL⟩)
      · cases L with
        | nil => simp at e
        | cons x L =>
          simp only [List.cons_append, List.cons.injEq] at e
          exact Or.inl ⟨hs, L, B, e.2, fun y hy => hL y (List.mem_cons_of_mem _ hy)⟩
      · cases A with
        | nil => simp at e
        | cons x A =>
          simp only [List.cons_append, List.cons.injEq] at e
          exact Or.inr ⟨A, L, B, e.2, hL⟩
  | .ink :: r, s => by
    simp only [blankGo]
    rw [blankGo_iff r false]
    constructor
    · rintro (⟨hs, _⟩ | ⟨A, L, B, e, hL⟩)
      · simp at hs
      · exact Or.inr ⟨.ink :: A, L, B, by simp [e], hL⟩
    · rintro (⟨hs, L, B, e, hL⟩ | ⟨A, L, B, e, hL⟩)
      · cases L with
        | nil => simp at e
        | cons x L =>
          simp only [List.cons_append, List.cons.injEq] at e
          have := hL x (List.mem_cons_self ..)
          rw [← e.1] at this
          cases this
      · cases A with
        | nil => simp at e
        | cons x A =>
          simp only [List.cons_append, List.cons.injEq] at e
          exact Or.inr ⟨A, L, B, e.2, hL⟩

theorem hasBlank_iff (l : List Cls) : hasBlank l = true ↔
    ∃ A L B, l = A ++ .nl :: (L ++ .nl :: B) ∧ ∀ x ∈ L, x = .ws := by
  unfold hasBlank
  rw [blankGo_iff]
  simp

theorem blankGo_append_right (x y : List Cls) (s : Bool) (h : blankGo false y = true) :
    blankGo s (x ++ y) = true := by
  induction x generalizing s with
  | nil => exact blankGo_mono y s h
  | cons c x ih =>
    cases c <;> simp [blankGo, ih]

/-! ### the output between two visible characters -/

/-- `delGo`, except that the last line is kept (a visible character follows it) -/
def mid : List (Char × Nat) → Bool → Bool → List Mark → List (Char × Nat)
  | cur, _, _, [] => cur
  | cur, bl, _, none :: xs => mid cur bl true xs
  | cur, bl, act, some cp :: xs =>
    if cp.1 == nl then (if bl && act then [] else cur ++ [cp]) ++ mid [] true false xs
    else mid (cur ++ [cp]) (bl && isSpace cp.1) act xs

/-- **the output characters between two visible characters** whose marks are separated by `M` -/
def sep (M : List Mark) : List (Char × Nat) := mid [] false false M

/-- the output in front of the first visible character, `X` = the marks in front of it -/
def pre (X : List Mark) : List (Char × Nat) := mid [] true false X

/-- the output behind a visible character, `Y` = the marks behind it -/
def post (Y : List Mark) : List (Char × Nat) := delGo [] false false Y

theorem nl_of_vis {c : Char} (h : isSpace c = false) : (c == nl) = false := by
  cases hc : c == nl
  · rfl
  · have : c = nl := by simpa using hc
    rw [this] at h
    exact absurd h (by decide)

theorem delGo_mid : ∀ (M : List Mark) (cur : List (Char × Nat)) (bl act : Bool) (b : Char × Nat)
    (Y : List Mark), isSpace b.1 = false →
    delGo cur bl act (M ++ some b :: Y) = mid cur bl act M ++ b :: post Y
  | [], cur, bl, act, b, Y, hb => by
    simp only [List.nil_append, delGo, nl_of_vis hb, Bool.false_eq_true, if_false, hb, Bool.and_false,
      mid, post]
    rw [delGo_nb]
    simp
  | none :: xs, cur, bl, act, b, Y, hb => by
    simp only [List.cons_append, delGo, mid]
    exact delGo_mid xs cur bl true b Y hb
  | some cp :: xs, cur, bl, act, b, Y, hb => by
    simp only [List.cons_append, delGo, mid]
    split
    · rw [delGo_mid xs [] true false b Y hb]
      simp
    · exact delGo_mid xs _ _ act b Y hb

theorem delLines_between (X M Y : List Mark) (a b : Char × Nat) (ha : isSpace a.1 = false)
    (hb : isSpace b.1 = false) :
    delLines (X ++ some a :: (M ++ some b :: Y)) = pre X ++ a :: (sep M ++ b :: post Y) := by
  unfold delLines
  rw [delGo_mid X [] true false a _ ha]
  unfold post
  rw [delGo_mid M [] false false b Y hb]
  rfl

/-! ### `sep` line by line -/

theorem mid_nb : ∀ (M : List Mark) (cur : List (Char × Nat)) (act : Bool),
    mid cur false act M = cur ++ mid [] false false M
  | [], cur, act => by simp [mid]
  | none :: xs, cur, act => by
    rw [mid, mid, mid_nb xs cur true, mid_nb xs [] true]; simp
  | some cp :: xs, cur, act => by
    rw [mid, mid]
    by_cases h : (cp.1 == nl) = true
    · simp [h]
    · simp only [h, Bool.false_eq_true, if_false, Bool.false_and]
      rw [mid_nb xs (cur ++ [cp]) act, mid_nb xs ([] ++ [cp]) false]
      simp

theorem mid_line : ∀ (L : List Mark) (cur : List (Char × Nat)) (b a : Bool) (X : List Mark),
    L.any isNlMark = false →
    mid cur b a (L ++ X)
      = mid (cur ++ L.filterMap id) (b && L.all blankMark) (a || L.any Option.isNone) X
  | [], cur, b, a, X, _ => by simp
  | none :: L, cur, b, a, X, h => by
    simp only [List.any_cons, isNlMark, Bool.false_or] at h
    simp only [List.cons_append, mid]
    rw [mid_line L cur b true X h]
    simp [blankMark]
  | some cp :: L, cur, b, a, X, h => by
    simp only [List.any_cons, isNlMark, Bool.or_eq_false_iff] at h
    simp only [List.cons_append, mid, h.1, Bool.false_eq_true, if_false]
    rw [mid_line L _ _ a X h.2]
    simp [blankMark, Bool.and_assoc]

theorem sep_nonl (M : List Mark) (h : M.any isNlMark = false) : sep M = M.filterMap id := by
  have := mid_line M [] false false [] h
  rw [List.append_nil] at this
  unfold sep
  rw [this]
  simp [mid]

theorem sep_line (L R : List Mark) (nlp : Char × Nat) (hL : L.any isNlMark = false)
    (hn : (nlp.1 == nl) = true) :
    sep (L ++ some nlp :: R) = L.filterMap id ++ nlp :: pre R := by
  unfold sep pre
  rw [mid_line L [] false false _ hL]
  simp [mid, hn]

theorem pre_line (L R : List Mark) (nlp : Char × Nat) (hL : L.any isNlMark = false)
    (hn : (nlp.1 == nl) = true) :
    pre (L ++ some nlp :: R) = (if pureLine L then [] else L.filterMap id ++ [nlp]) ++ pre R := by
  unfold pre
  rw [mid_line L [] true false _ hL]
  cases h1 : L.all blankMark <;> cases h2 : L.any Option.isNone <;>
    simp [mid, hn, pureLine, h1, h2]

theorem pre_last (L : List Mark) (hL : L.any isNlMark = false) : pre L = L.filterMap id := by
  have := mid_line L [] true false [] hL
  rw [List.append_nil] at this
  unfold pre
  rw [this]
  simp [mid]

theorem mid_sublist : ∀ (ms : List Mark) (cur : List (Char × Nat)) (b a : Bool),
    List.Sublist (mid cur b a ms) (cur ++ ms.filterMap id)
  | [], cur, b, a => by simp [mid]
  | none :: xs, cur, b, a => by
    simp only [mid, List.filterMap_cons, id]
    exact mid_sublist xs cur b true
  | some cp :: xs, cur, b, a => by
    simp only [mid, List.filterMap_cons, id]
    split
    · have h1 : List.Sublist (if (b && a) = true then [] else cur ++ [cp]) (cur ++ [cp]) := by
        split
        · exact List.nil_sublist _
        · exact List.Sublist.refl _
      have h2 := mid_sublist xs [] true false
      have := List.Sublist.append h1 h2
      simpa using this
    · have := mid_sublist xs (cur ++ [cp]) (b && isSpace cp.1) a
      simpa using this

theorem sep_sublist (M : List Mark) : List.Sublist (sep M) (M.filterMap id) := by
  simpa [sep] using mid_sublist M [] false false

/-! ### which lines are deleted -/

theorem pureLine_iff (L : List Mark) : pureLine L = true ↔
    (∀ m ∈ L, m = none ∨ ∃ cp, m = some cp ∧ isSpace cp.1 = true) ∧ none ∈ L := by
  simp only [pureLine, Bool.and_eq_true, List.all_eq_true, List.any_eq_true]
  constructor
  · rintro ⟨h1, m, hm, hn⟩
    refine ⟨fun x hx => ?_, ?_⟩
    · cases x with
      | none => exact Or.inl rfl
      | some cp => exact Or.inr ⟨cp, rfl, by simpa [blankMark] using h1 _ hx⟩
    · cases m with
      | none => exact hm
      | some cp => simp at hn
  · rintro ⟨h1, h2⟩
    refine ⟨fun x hx => ?_, none, h2, rfl⟩
    rcases h1 x hx with rfl | ⟨cp, rfl, hcp⟩
    · rfl
    · simpa [blankMark] using hcp

theorem not_pure_of_vis (L : List Mark) (cp : Char × Nat) (h : some cp ∈ L)
    (hv : isSpace cp.1 = false) : pureLine L = false := by
  cases hp : pureLine L with
  | false => rfl
  | true =>
    rcases ((pureLine_iff L).mp hp).1 _ h with h0 | ⟨cq, hq, hs⟩
    · cases h0
    · cases hq
      rw [hv] at hs
      cases hs

theorem not_pure_of_nomark (L : List Mark) (h : none ∉ L) : pureLine L = false := by
  cases hp : pureLine L with
  | false => rfl
  | true => exact absurd ((pureLine_iff L).mp hp).2 h

theorem not_pure_nil : pureLine [] = false := rfl

/-! ### (i) + (ii): blank lines -/

theorem clsC_nl {c : Char} (h : (c == nl) = true) : clsC c = .nl := by simp [clsC, h]

theorem clsC_not_nl {c : Char} (h : ¬ (c == nl) = true) :
    clsC c = if isSpace c then .ws else .ink := by simp [clsC, h]

theorem blankGo_nonl : ∀ (cur : List (Char × Nat)) (s : Bool) (r : List Cls), NoNl cur →
    blankGo s (cur.map clsP ++ r) = blankGo (s && cur.all (fun cp => isSpace cp.1)) r
  | [], s, r, _ => by simp
  | cp :: cur, s, r, h => by
    have h1 : ¬ (cp.1 == nl) = true := by simp [h cp (List.mem_cons_self ..)]
    have ih := blankGo_nonl cur
    simp only [List.map_cons, List.cons_append, clsP, clsC_not_nl h1, List.all_cons]
    by_cases hs : isSpace cp.1 = true
    · simp only [hs, if_true, blankGo, Bool.true_and]
      exact ih s r (fun x hx => h x (List.mem_cons_of_mem _ hx))
    · simp only [hs, Bool.false_eq_true, if_false, blankGo, Bool.false_and, Bool.and_false]
      rw [ih false r (fun x hx => h x (List.mem_cons_of_mem _ hx))]
      simp

theorem mid_blank : ∀ (M : List Mark) (cur : List (Char × Nat)) (bl act s : Bool), NoNl cur →
    bl = (s && cur.all (fun cp => isSpace cp.1)) →
    blankGo s ((mid cur bl act M).map clsP) = blankGo (bl && !act) (M.map clsM)
  | [], cur, bl, act, s, hc, _ => by
    have := blankGo_nonl cur s [] hc
    simp only [List.append_nil] at this
    simp [mid, this, blankGo]
  | none :: xs, cur, bl, act, s, hc, hb => by
    simp only [mid, List.map_cons, clsM, blankGo]
    rw [mid_blank xs cur bl true s hc hb]
    simp
  | some cp :: xs, cur, bl, act, s, hc, hb => by
    simp only [mid, List.map_cons, clsM]
    by_cases hn : (cp.1 == nl) = true
    · simp only [hn, if_true, clsC_nl hn, blankGo]
      have ih := mid_blank xs [] true false
      by_cases hd : (bl && act) = true
      · simp only [hd, if_true, List.nil_append]
        simp only [Bool.and_eq_true] at hd
        have hs : s = true := by
          have := hd.1
          rw [hb] at this
          simp only [Bool.and_eq_true] at this
          exact this.1
        rw [ih s (by intro x hx; simp at hx) (by simp [hs])]
        simp [hd.1, hd.2]
      · simp only [hd, Bool.false_eq_true, if_false, List.map_append, List.map_cons,  
          List.append_assoc, List.singleton_append]
        rw [blankGo_nonl cur s _ hc, ← hb]
        simp only [clsP, clsC_nl hn, blankGo]
        rw [ih true (by intro x hx; simp at hx) (by simp)]
        cases bl <;> cases act <;> simp_all
    · simp only [hn, Bool.false_eq_true, if_false, clsC_not_nl hn]
      have hn' : (cp.1 == nl) = false := by simpa using hn
      rw [mid_blank xs (cur ++ [cp]) (bl && isSpace cp.1) act s
        (by
          intro x hx
          rcases List.mem_append.mp hx with hx | hx
          · exact hc x hx
          · simp only [List.mem_singleton] at hx
            rw [hx]; exact hn')
        (by simp [hb, Bool.and_assoc])]
      by_cases hs : isSpace cp.1 = true
      · simp [hs, blankGo]
      · simp [hs, blankGo]

/-- **(i) + (ii), mark level.**  The output between `a` and `b` holds a blank line iff the marks
    between them do (a text-less mark counts as ink). -/
theorem sep_blank (M : List Mark) : hasBlank ((sep M).map clsP) = hasBlank (M.map clsM) := by
  unfold hasBlank sep
  rw [mid_blank M [] false false false (by intro x hx; simp at hx) (by simp)]
  simp

/-! ### (iii): white space -/

def spaceMark : Mark → Bool
  | none => false
  | some cp => isSpace cp.1

theorem mid_space : ∀ (M : List Mark) (cur : List (Char × Nat)) (act : Bool),
    (mid cur false act M).any (fun cp => isSpace cp.1)
      = (cur.any (fun cp => isSpace cp.1) || M.any spaceMark)
  | [], cur, act => by simp [mid]
  | none :: xs, cur, act => by
    simp only [mid, List.any_cons, spaceMark, Bool.false_or]
    exact mid_space xs cur true
  | some cp :: xs, cur, act => by
    simp only [mid, List.any_cons, spaceMark, Bool.false_and]
    by_cases hn : (cp.1 == nl) = true
    · have hsp : isSpace cp.1 = true := by
        have : cp.1 = nl := by simpa using hn
        rw [this]; decide
      simp [hn, hsp]
    · simp only [hn, Bool.false_eq_true, if_false]
      rw [mid_space xs (cur ++ [cp]) act]
      simp [Bool.or_assoc]

/-- **(iii), mark level.**  The output between `a` and `b` holds white space iff the marks between
    them hold a white-space character. -/
theorem sep_space (M : List Mark) :
    (sep M).any (fun cp => isSpace cp.1) = M.any spaceMark := by
  unfold sep
  rw [mid_space]
  simp

/-! ### text of a document, read by classes -/

theorem clsM_posText : ∀ (s : Str) (p : Nat), ((posText p s).map some).map clsM = s.map clsC
  | [], _ => rfl
  | c :: cs, p => by simp [posText, clsM, clsM_posText cs]

theorem clsM_fix (s : Str) (f : Char → Char × Nat) (hf : ∀ c, (f c).1 = c) :
    (s.map (fun c => some (f c))).map clsM = s.map clsC := by
  induction s with
  | nil => rfl
  | cons c cs ih => simp [clsM, hf, ih]

theorem any_space_posText : ∀ (s : Str) (p : Nat),
    ((posText p s).map some).any spaceMark = s.any isSpace
  | [], _ => rfl
  | c :: cs, p => by simp [posText, spaceMark, any_space_posText cs]

theorem any_nonink_str : ∀ (s : Str), (s.map clsC).any (fun c => c != .ink) = s.any isSpace
  | [] => rfl
  | c :: cs => by
    have hc : (clsC c != .ink) = isSpace c := by
      unfold clsC
      by_cases h1 : (c == nl) = true
      · have : c = nl := by simpa using h1
        subst this
        decide
      · by_cases h2 : isSpace c = true <;> simp [h1, h2]
    simp [hc, any_nonink_str cs]

theorem posText_space : ∀ (s : Str) (p : Nat), s.all isSpace = true →
    ∀ cp ∈ posText p s, isSpace cp.1 = true
  | [], _, _ => by simp [posText]
  | c :: cs, p, h => by
    simp only [List.all_cons, Bool.and_eq_true] at h
    intro cp hcp
    simp only [posText, List.mem_cons] at hcp
    rcases hcp with rfl | hcp
    · exact h.1
    · exact posText_space cs _ h.2 cp hcp

theorem blankGo_str : ∀ (s : Str) (r : List Cls), hasNl s = false →
    blankGo false (s.map clsC ++ r) = blankGo false r
  | [], _, _ => rfl
  | c :: cs, r, h => by
    have h' : ¬ c = nl ∧ hasNl cs = false := by
      simp only [hasNl, List.contains_cons, Bool.or_eq_false_iff, beq_eq_false_iff_ne, ne_eq] at h
      exact ⟨fun e => h.1 e.symm, h.2⟩
    have hc : clsC c ≠ .nl := by
      simp only [clsC, beq_iff_eq, h'.1, if_false]
      split <;> simp
    simp only [List.map_cons, List.cons_append]
    cases hcc : clsC c with
    | nl => exact absurd hcc hc
    | ws => simp only [blankGo]; exact blankGo_str cs r h'.2
    | ink => simp only [blankGo]; exact blankGo_str cs r h'.2

theorem blankGo_prefix_eq : ∀ (x y y' : List Cls) (s : Bool),
    (∀ s', blankGo s' y = blankGo s' y') → blankGo s (x ++ y) = blankGo s (x ++ y')
  | [], _, _, s, h => h s
  | .nl :: x, y, y', s, h => by
    simp only [List.cons_append, blankGo, blankGo_prefix_eq x y y' true h]
  | .ws :: x, y, y', s, h => by
    simp only [List.cons_append, blankGo, blankGo_prefix_eq x y y' s h]
  | .ink :: x, y, y', s, h => by
    simp only [List.cons_append, blankGo, blankGo_prefix_eq x y y' false h]

theorem blankGo_prefix : ∀ (x y y' : List Cls) (s : Bool),
    (∀ s', blankGo s' y = true → blankGo s' y' = true) →
    blankGo s (x ++ y) = true → blankGo s (x ++ y') = true
  | [], _, _, s, h, h1 => h s h1
  | .nl :: x, y, y', s, h, h1 => by
    simp only [List.cons_append, blankGo, Bool.or_eq_true] at h1 ⊢
    exact h1.imp id (blankGo_prefix x y y' true h)
  | .ws :: x, y, y', s, h, h1 => by
    simp only [List.cons_append, blankGo] at h1 ⊢
    exact blankGo_prefix x y y' s h h1
  | .ink :: x, y, y', s, h, h1 => by
    simp only [List.cons_append, blankGo] at h1 ⊢
    exact blankGo_prefix x y y' false h h1

/-- a construct that starts with a visible character: a blank line of the view behind it is a
    blank line of the raw source -/
theorem blankGo_blob (c : Char) (more : Str) (y y' : List Cls) (s : Bool) (hc : isSpace c = false)
    (h : ∀ s', blankGo s' y = true → blankGo s' y' = true)
    (h1 : blankGo s (.ink :: y) = true) :
    blankGo s ((c :: more).map clsC ++ y') = true := by
  have hcc : clsC c = .ink := by
    simp [clsC, nl_of_vis hc, hc]
  simp only [blankGo] at h1
  simp only [List.map_cons, List.cons_append, hcc, blankGo]
  exact blankGo_append_right _ _ false (h false h1)

end PlainPara
end Yalafi
