/-
  Proofs/PlainMix3Read.lean — readings of the reference `delLines (marks …) ++ flows …` of the third
  union grammar (Proofs/PlainMix3E2E.lean).  The general facts about `PlainMacro.delLines`
  (`delLines_sublist`, `delLines_words`, `delLines_mid`, `delLines_end`, `pureLine`) are those of
  Proofs/DelLines.lean.

  `plain`, `marks_chars`    the characters of the marks of a document: text, special values, `\verb`
                            contents, placeholders of formulas / references / citations, notes,
                            titles with their full stops, the values of accent calls, the
                            EXPANSION of the uses (body of the definition in force with the
                            arguments substituted, surplus groups), the two blanks / placeholder /
                            punctuation of the displayed equations, the labels of the items with
                            their blanks, the paragraph breaks of list environments with `add_pars`
                            — nothing of keys, labels, comments, control-word names, formula and
                            equation bodies, footnote bodies, definitions, environment names
  `flows_vis`               the visible characters of the flows are those of the footnote bodies
-/
import YalafiVerif.Proofs.PlainMix3Emb
import YalafiVerif.Proofs.PlainMix4Read
namespace Yalafi
namespace PlainMix3

open M
open PlainMacro hiding useSt useBody userMacro defSt Rel_init Rel
open PlainMix (filterMap_map_some')
open PlainFootnote (lastTokOff flowOut)
open PlainMacroArgs (bodyStr argSpans startCur defOf argsLen bodyChars groupChars bodyMarks_chars
  groupMarks_chars)
open PlainMathRich (mtoks fTxt anchor)

/-- the output characters of the main flow before the blank-line removal, with their positions;
    `env` = the definitions in force, `k` / `k2` = the number of formulas / displayed equations in
    front -/
def plain (T : PTables) (st : PState) (repls drepls : List Str) :
    Env → List ItemGen → Nat → Nat → Nat → List Seg → List (Char × Nat)
  | _, _, _, _, _, [] => []
  | env, stk, k, k2, p, .txt s :: rest => posText p s ++ plain T st repls drepls env stk k k2 (p + s.length) rest
  | env, stk, k, k2, p, .spc key :: rest =>
    posText p (specialValD T.toTables key) ++ plain T st repls drepls env stk k k2 (p + (Seg.spc key).len) rest
  | env, stk, k, k2, p, .opn :: rest => plain T st repls drepls env stk k k2 (p + Seg.opn.len) rest
  | env, stk, k, k2, p, .cls :: rest => plain T st repls drepls env stk k k2 (p + Seg.cls.len) rest
  | env, stk, k, k2, p, .cw name sp :: rest => plain T st repls drepls env stk k k2 (p + (Seg.cw name sp).len) rest
  | env, stk, k, k2, p, .van name key :: rest => plain T st repls drepls env stk k k2 (p + (Seg.van name key).len) rest
  | env, stk, k, k2, p, .com body :: rest => plain T st repls drepls env stk k k2 (p + (Seg.com body).len) rest
  | env, stk, k, k2, p, .verb d s :: rest =>
    posText (p + 6) s ++ plain T st repls drepls env stk k k2 (p + (Seg.verb d s).len) rest
  | env, stk, k, k2, p, .math par body :: rest =>
    (fTxt T (PlainMath.placeholder repls (k + 1)) (mtoks T (p + (PlainMathRich.opn par).length) body)).map
        (fun c => (c, anchor (mtoks T (p + (PlainMathRich.opn par).length) body)))
      ++ plain T st repls drepls env stk (k + 1) k2 (p + (Seg.math par body).len) rest
  | env, stk, k, k2, p, .ref name key :: rest =>
    PlainRef.fixChars p (PlainRef.phOf st name) ++ plain T st repls drepls env stk k k2 (p + (Seg.ref name key).len) rest
  | env, stk, k, k2, p, .cite name key :: rest =>
    PlainRef.fixChars p "[0]".toList ++ plain T st repls drepls env stk k k2 (p + (Seg.cite name key).len) rest
  | env, stk, k, k2, p, .citeN name note key :: rest =>
    PlainRef.fixChars p "[0, ".toList ++ (posText (p + name.length + 2) note ++
      (']', p + name.length + 2 + lastTokOff note) ::
        plain T st repls drepls env stk k k2 (p + (Seg.citeN name note key).len) rest)
  | env, stk, k, k2, p, .foot body :: rest => plain T st repls drepls env stk k k2 (p + (Seg.foot body).len) rest
  | env, stk, k, k2, p, .head name title :: rest =>
    posText (p + name.length + 2) title ++
      ((if PlainHeading.needsDot T title then [('.', p + name.length + 2 + lastTokOff title)] else [])
        ++ plain T st repls drepls env stk k k2 (p + (Seg.head name title).len) rest)
  | env, stk, k, k2, p, .acc name ws bo l :: rest =>
    (PlainAccent.accVal T name l).map (fun x => (x, p))
      ++ plain T st repls drepls env stk k k2 (p + (Seg.acc name ws bo l).len) rest
  | env, stk, k, k2, p, .defn name n body :: rest =>
    plain T st repls drepls ((name, n, body) :: env) stk k k2 (p + (Seg.defn name n body).len) rest
  | env, stk, k, k2, p, .use name args :: rest =>
    bodyChars (argSpans (p + name.length + 1) args)
        (startCur (argSpans (p + name.length + 1) args) p (defOf env name).2) (defOf env name).2
      ++ (groupChars ((argSpans (p + name.length + 1) args).drop (defOf env name).1)
      ++ plain T st repls drepls env stk k k2 (p + (Seg.use name args).len) rest)
  | env, stk, k, k2, p, .disp body :: rest =>
    (' ', p) :: (' ', p) ::
      ((PlainMath.placeholder drepls (k2 + 1)).map
          (fun c => (c, p + 2 + PlainDisplay.elemOff T st.mathOperators body)) ++
        ((PlainMath.punctOf T body).map (fun c => (c, p + 2 + PlainMath.leadBlanks body))
          ++ plain T st repls drepls env stk k (k2 + 1) (p + (Seg.disp body).len) rest))
  | env, stk, k, k2, p, .denv name body :: rest =>
    (' ', p) :: (' ', p) ::
      ((PlainMath.placeholder drepls (k2 + 1)).map
          (fun c => (c, p + (name.length + 8) + PlainDisplay.elemOff T st.mathOperators body)) ++
        ((PlainMath.punctOf T body).map (fun c => (c, p + (name.length + 8) + PlainMath.leadBlanks body))
          ++ plain T st repls drepls env stk k (k2 + 1) (p + (Seg.denv name body).len) rest))
  | env, stk, k, k2, p, .beg name :: rest =>
    (PlainItem.envMarks (PlainItem.envOf st name) p).filterMap id
      ++ plain T st repls drepls env (PlainItem.begStk st stk name) k k2 (p + (Seg.beg name).len) rest
  | env, stk, k, k2, p, .item ws :: rest =>
    (' ', p) :: ((PlainItem.labOf T stk).map (fun c => (c, p)) ++ (' ', p) ::
      plain T st repls drepls env (PlainItem.itemStk stk) k k2 (p + (Seg.item ws).len) rest)
  | env, stk, k, k2, p, .en name :: rest =>
    (PlainItem.envMarks (PlainItem.envOf st name) p).filterMap id
      ++ plain T st repls drepls env (PlainItem.endStk stk) k k2 (p + (Seg.en name).len) rest

theorem plain_emb (T : PTables) (st : PState) (repls drepls : List Str) :
    ∀ (segs : List Seg) (env : Env) (stk : List ItemGen) (k k2 p : Nat),
      PlainMix4.plain T st repls drepls env stk k k2 p (segs.map emb)
        = plain T st repls drepls env stk k k2 p segs
  | [], _, _, _, _, _ => rfl
  | s :: rest, env, stk, k, k2, p => by
    cases s <;>
      simp only [List.map, emb, PlainMix4.plain, plain, plain_emb T st repls drepls rest, ← len_emb] <;> rfl

theorem marks_chars (T : PTables) (st : PState) (repls drepls : List Str)
    (segs : List Seg) (env : Env) (stk : List ItemGen) (k k2 p : Nat) :
    (marks T st repls drepls env stk k k2 p segs).filterMap id
      = plain T st repls drepls env stk k k2 p segs := by
  rw [← marks_emb, ← plain_emb, PlainMix4.marks_chars]

def footBodies : Nat → List Seg → List (Char × Nat)
  | _, [] => []
  | p, .foot body :: rest => posText (p + 10) body ++ footBodies (p + (Seg.foot body).len) rest
  | p, s :: rest => footBodies (p + s.len) rest

theorem footBodies_emb : ∀ (segs : List Seg) (p : Nat),
    PlainMix4.footBodies p (segs.map emb) = footBodies p segs
  | [], _ => rfl
  | s :: rest, p => by
    cases s <;>
      simp only [List.map, emb, PlainMix4.footBodies, footBodies, footBodies_emb rest, ← len_emb] <;> rfl

/-- the separators `flowOut` adds are line breaks -/
theorem flows_vis (segs : List Seg) (p : Nat) :
    (flows p segs).filter PlainMix.vis = (footBodies p segs).filter PlainMix.vis := by
  rw [← flows_emb, ← footBodies_emb, PlainMix4.flows_vis]

end PlainMix3
end Yalafi
