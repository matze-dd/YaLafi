/-
  Proofs/PlainThmBase.lean — first half of the development of Proofs/PlainThm.lean (see the header
  there): the environment `thmEnv` that `h_newtheorem` stores, the declaration `ntDeclOk` of
  `\newtheorem`, the tokens `thmToks` / `thmNToks` of `h_theorem(title)`, the expander level
  (`NameToks.item`, `txtOf_eq`: the name tokens in the terms of Proofs/PlainItem.lean), the pieces as
  runs of the loop (`seqRun_nt`; `seqRun_beg`, `seqRun_begN`, `seqRun_end`: instances of
  `PlainItem.seqRun_envBegin` / `seqRun_envEnd`), the state as a function of the definitions so far
  (`Env`, `titleOf`, `stOf`, `lookupEnv_stOf`) and the loop on token buffers (`Piece`, `PiecesOk`, `outP`,
  `finalEnv`, `cost`, `seqRun_thm`).
-/
import YalafiVerif.Proofs.PlainRefBase
import YalafiVerif.Proofs.PlainHeading
import YalafiVerif.Proofs.PlainItem
namespace Yalafi
namespace PlainThm

open M
open PlainMacro
open PlainFootnote (CopyTok lastTokOff)
open PlainRef (chTok chTok_brace lastPos lastPos_of_getLast)
open PlainItem (begTok endTok skipSpace_sp skippedLangs_sp)

/-- the environment `h_newtheorem` stores: one optional argument, the handler `h_theorem(title)` -/
def thmEnv (name title : Str) : MacroDef := { name := name, args := ['O'], handler := .theorem title }

/-- the declaration of `\newtheorem` the development relies on (as in the real tables):
    argument codes `AOAO`, the handler `h_newtheorem`, no extraction, no default values -/
def ntDeclOk (m : MacroDef) : Bool :=
  m.args == ['A', 'O', 'A', 'O'] && m.handler == .newtheorem && m.extract.isEmpty &&
  m.defaults.isEmpty

def ntName : Str := "newtheorem".toList

def NtOk (st : PState) : Prop := ∃ m, lookupMacro st ('\\' :: ntName) = some m ∧ ntDeclOk m = true

def ntOk (st : PState) : Bool :=
  match lookupMacro st ('\\' :: ntName) with
  | some m => ntDeclOk m
  | none => false

theorem NtOk.congr {st st' : PState} (hm : st'.macros = st.macros) (h : NtOk st) : NtOk st' := by
  obtain ⟨m, h1, h2⟩ := h
  exact ⟨m, by simpa [lookupMacro, hm] using h1, h2⟩

theorem NtOk_of_ntOk {st : PState} (h : ntOk st = true) : NtOk st := by
  unfold ntOk at h
  split at h
  · exact ⟨_, ‹_›, h⟩
  · cases h

structure NtDecl (m : MacroDef) : Prop where
  args : m.args = ['A', 'O', 'A', 'O']
  handler : m.handler = .newtheorem
  extract : m.extract = []
  defaults : m.defaults = []

theorem ntDecl {m : MacroDef} (h : ntDeclOk m = true) : NtDecl m := by
  simp only [ntDeclOk, Bool.and_eq_true, beq_iff_eq, List.isEmpty_iff] at h
  exact ⟨h.1.1.1, h.1.1.2, h.1.2, h.2⟩

def txtOf (ts : List Tok) : Str := (getTxtPos ts).1

def NameToks (T : PTables) (st : PState) (nt : List Tok) : Prop :=
  nt ≠ [] ∧ ∀ t ∈ nt, CopyTok T st t

theorem NameToks.congr {T : PTables} {st st' : PState} (hl : st'.langStack = st.langStack)
    {nt : List Tok} (h : NameToks T st nt) : NameToks T st' nt :=
  ⟨h.1, fun t ht => (h.2 t ht).congr hl⟩

theorem NameToks.item {T : PTables} {st : PState} {nt : List Tok} (h : NameToks T st nt) :
    PlainItem.NameToks T st nt :=
  ⟨h.1, fun t ht => ⟨(h.2 t ht).plain, (h.2 t ht).nact, (h.2 t ht).shape.1⟩⟩

theorem txtOf_eq (ts : List Tok) : txtOf ts = bodyTxt ts :=
  (PlainItem.bodyTxt_getTxtPos ts).symm

theorem NameToks.ext {T : PTables} {st st' : PState} (h : Ext st st') {nt : List Tok}
    (hn : NameToks T st nt) : NameToks T st' nt :=
  ⟨hn.1, fun t ht => (hn.2 t ht).ext h⟩

def HeadOk (rest : Buf) : Prop :=
  (∀ t, rest.head? = some t → isSpaceTok t = false) ∧ (∀ t, rest.head? = some t → txtIs t "[" = false)

/-- white-space tokens (what `skip_space` passes over) -/
def SpToks (sp : List Tok) : Prop := ∀ t ∈ sp, t.kind = .space

theorem SpToks.skip {sp : List Tok} (h : SpToks sp) :
    ∀ t ∈ sp, isSpaceTok t = true ∧ isLangK t = false := by
  intro t ht
  simp [isSpaceTok, isLangK, h t ht]

theorem skipAct_sp : ∀ (sp rest : Buf), SpToks sp →
    (∀ t, rest.head? = some t → (isSpaceTok t && !isLangK t && !(t.kind == .action)) = false) →
    skipSpaceStopLangAct (sp ++ rest) = rest
  | [], [], _, _ => rfl
  | [], t :: ts, _, hr => by
    simp only [List.nil_append, skipSpaceStopLangAct, List.dropWhile_cons, hr t rfl, Bool.false_eq_true, if_false]
  | s :: sp, rest, hs, hr => by
    have h1 : s.kind = .space := hs s (List.mem_cons_self ..)
    have hd : (isSpaceTok s && !isLangK s && !(s.kind == .action)) = true := by
      simp [isSpaceTok, isLangK, h1]
    have := skipAct_sp sp rest (fun x hx => hs x (List.mem_cons_of_mem _ hx)) hr
    simp only [skipSpaceStopLangAct] at this ⊢
    rw [List.cons_append, List.dropWhile_cons, hd, if_pos rfl]
    exact this

/-! ### the tokens the handler `h_theorem(title)` returns -/

def parTok (p : Nat) : Tok := mkFix .par p [nl, nl]

/-- without a note: `Title`, `.`, line break — all at the position of `\begin` -/
def thmToks (p : Nat) (title : Str) : List Tok :=
  [mkFix .text p title, mkFix .text p ['.'], mkFix .space p [nl]]

/-- with a note: `Title`, blank, `(` at the position of `\begin`, the note tokens, `).` and the
    line break at the position of the last note token -/
def thmNToks (p : Nat) (title : Str) (note : List Tok) : List Tok :=
  mkFix .text p title :: mkFix .space p [' '] :: mkFix .text p ['('] ::
    (note ++ [mkFix .text (lastPos note) [')', '.'], mkFix .space (lastPos note) [nl]])

theorem callHandler_thm0 (T : PTables) (fuel : Nat) (buf : Buf) (mac : MacroDef) (title : Str)
    (pos : Nat) (st : PState) :
    callHandler T (fuel + 1) (.theorem title) buf mac [[]] pos st = .ok (thmToks pos title, st) := by
  unfold callHandler
  rfl

theorem callHandler_thmN (T : PTables) (fuel : Nat) (buf : Buf) (mac : MacroDef) (title : Str)
    (note : List Tok) (hne : note ≠ []) (pos : Nat) (st : PState) :
    callHandler T (fuel + 1) (.theorem title) buf mac [note] pos st
      = .ok (thmNToks pos title note, st) := by
  obtain ⟨l, hl⟩ := Call.getLast?_of_ne hne
  unfold callHandler
  simp only []
  refine (M.bind_ok _ _ _ _ _ (rfl : (pure note : M (List Tok)) st = _)).trans ?_
  simp only [hl, thmNToks, lastPos_of_getLast hl]
  show Outcome.ok _ = _
  simp

theorem getEnvironmentName_copy (T : PTables) (fuel : Nat) (p q : Nat) (nt : List Tok) (rest : Buf)
    (tok : Tok) (st : PState) (h : NameToks T st nt) (hf : nt.length + 2 ≤ fuel) :
    getEnvironmentName T (fuel + 1) (lbr p :: (nt ++ rbr q :: rest)) tok st
      = .ok ((txtOf nt, rest), st) := by
  obtain ⟨f, rfl⟩ : ∃ f, fuel = f + 1 := ⟨fuel - 1, by omega⟩
  rw [txtOf_eq]
  exact PlainItem.getEnvironmentName_braced T f p q nt rest tok st h.item (by omega)

theorem HeadOk.noOpt {rest : Buf} (h : HeadOk rest) (t : Tok) (ht : rest.head? = some t) :
    txtIsNV t "[" = false := by
  have := h.2 t ht
  simp only [txtIs] at this
  simp only [txtIsNV, this, Bool.and_false]

theorem collectArgs_opt0 (T : PTables) (mac : MacroDef) (hd : mac.defaults = []) (sp rest : Buf)
    (start : Nat) (st : PState) (hsp : SpToks sp) (hh : HeadOk rest) :
    collectArgs T mac ['O'] 0 (sp ++ rest) start {} st
      = .ok (({ args := [[]], extr := [[]], langs := [] }, rest), st) := by
  rw [Call.collectArgs_noOpt_of T mac [] 0 start {} st
      (skipSpace_sp sp rest (fun t ht => (hsp.skip t ht).1) hh.1) (skippedLangs_sp sp rest hsp.skip hh.1)
      hh.noOpt,
    Call.collectArgs_nil, Call.dfltArg_nil hd]
  rfl

theorem collectArgs_optN (T : PTables) (mac : MacroDef) (b1 b2 : Nat) (note : List Tok)
    (hnote : ∀ t ∈ note, NoBrace t ∧ t.txt ≠ [']']) (hne : note ≠ []) (rest : Buf) (start : Nat)
    (st : PState) :
    collectArgs T mac ['O'] 0 (chTok b1 '[' :: (note ++ chTok b2 ']' :: rest)) start {} st
      = .ok (({ args := [note], extr := [note], langs := [] }, rest), st) := by
  rw [Call.collectArgs_bracketed T mac [] 0 start {} st note rest (chTok_brace b1 '[') (chTok_brace b2 ']') hnote,
    Call.collectArgs_nil, Call.argOr_of_ne hne]
  rfl

theorem thmEnv_handler (name title : Str) : (thmEnv name title).handler ≠ .none := nofun

theorem expandArguments_thm0 (T : PTables) (fuel : Nat) (name title : Str) (sp rest : Buf)
    (start : Nat) (st : PState) (hsp : SpToks sp) (hh : HeadOk rest) :
    expandArguments T (fuel + 2) (sp ++ rest) (thmEnv name title) start st
      = .ok ((mkAction start :: thmToks start title, rest), st) := by
  rw [Call.expandArguments_noExtr (fuel + 1) (collectArgs_opt0 T (thmEnv name title) rfl sp rest start st hsp hh)
      rfl,
    Call.finishArgs_handler (fuel + 1) (thmEnv_handler name title) (callHandler_thm0 T fuel rest _ title start st)]
  rfl

theorem expandArguments_thmN (T : PTables) (fuel : Nat) (name title : Str) (b1 b2 : Nat)
    (note : List Tok) (hnote : ∀ t ∈ note, NoBrace t ∧ t.txt ≠ [']']) (hne : note ≠ [])
    (rest : Buf) (start : Nat) (st : PState) :
    expandArguments T (fuel + 2) (chTok b1 '[' :: (note ++ chTok b2 ']' :: rest))
        (thmEnv name title) start st
      = .ok ((mkAction start :: thmNToks start title note, rest), st) := by
  rw [Call.expandArguments_noExtr (fuel + 1)
      (collectArgs_optN T (thmEnv name title) b1 b2 note hnote hne rest start st) rfl,
    Call.finishArgs_handler (fuel + 1) (thmEnv_handler name title)
      (callHandler_thmN T fuel rest _ title note hne start st)]
  exact congrArg (fun l => Outcome.ok ((mkAction start :: l, rest), st)) (List.append_nil _)

def defSt (st : PState) (name title : Str) : PState :=
  { st with envs := setMacro st.envs (thmEnv name title) }

theorem callHandler_nt (T : PTables) (fuel : Nat) (buf : Buf) (mac : MacroDef)
    (nt a1 tt a3 : List Tok) (pos : Nat) (st : PState) (hn : NameToks T st nt)
    (ht : NameToks T st tt) (hf : nt.length + 2 ≤ fuel) (hf2 : tt.length + 2 ≤ fuel) :
    callHandler T (fuel + 1) .newtheorem buf mac [nt, a1, tt, a3] pos st
      = .ok ([], defSt st (txtOf nt) (txtOf tt)) := by
  unfold callHandler
  simp only []
  refine (M.bind_ok _ _ _ _ _ (rfl : (pure nt : M (List Tok)) st = _)).trans ?_
  refine (M.bind_ok _ _ _ _ _ (rfl : (pure tt : M (List Tok)) st = _)).trans ?_
  refine (M.bind_ok _ _ _ _ _ (PlainHeading.getTextExpanded_copy T st nt fuel hn.2 hf)).trans ?_
  refine (M.bind_ok _ _ _ _ _ (PlainHeading.getTextExpanded_copy T st tt fuel ht.2 hf2)).trans ?_
  rfl

theorem collectArgs_nt (T : PTables) (mac : MacroDef) (hd : mac.defaults = [])
    (q1 q2 q3 q4 : Nat) (nt tt : List Tok) (hnt : ∀ t ∈ nt, NoBrace t) (hnne : nt ≠ [])
    (htt : ∀ t ∈ tt, NoBrace t) (htne : tt ≠ []) (sp rest : Buf) (hsp : SpToks sp)
    (hh : HeadOk rest) (start : Nat) (st : PState) :
    collectArgs T mac ['A', 'O', 'A', 'O'] 0
        (lbr q1 :: (nt ++ rbr q2 :: lbr q3 :: (tt ++ rbr q4 :: (sp ++ rest)))) start {} st
      = .ok (({ args := [nt, [], tt, []], extr := [nt, [], tt, []], langs := [] }, rest), st) := by
  rw [Call.collectArgs_braced T mac _ 0 start {} st nt _ (lbr_brace q1) (rbr_brace q2) hnt,
    Call.collectArgs_noOpt T mac _ 1 _ _ st (.of_not rfl) rfl,
    Call.collectArgs_braced T mac _ 2 _ _ st tt _ (lbr_brace q3) (rbr_brace q4) htt,
    Call.collectArgs_noOpt_of T mac [] 3 _ _ st
      (skipSpace_sp sp rest (fun t ht => (hsp.skip t ht).1) hh.1) (skippedLangs_sp sp rest hsp.skip hh.1)
      hh.noOpt,
    Call.collectArgs_nil, Call.dfltArg_nil hd, Call.dfltArg_nil hd, Call.argOr_of_ne hnne,
    Call.argOr_of_ne htne]
  rfl

theorem NtDecl.hasHandler {m : MacroDef} (h : NtDecl m) : m.handler ≠ .none := by
  rw [h.handler]; decide

theorem expandMacro_nt (T : PTables) (fuel : Nat) (mac : MacroDef) (hmac : NtDecl mac)
    (q1 q2 q3 q4 : Nat) (nt tt : List Tok) (sp rest : Buf) (tok : Tok) (st : PState)
    (hn : NameToks T st nt) (ht : NameToks T st tt) (hsp : SpToks sp) (hh : HeadOk rest)
    (hl : lookupMacro st tok.txt = some mac)
    (hf : nt.length + 2 ≤ fuel) (hf2 : tt.length + 2 ≤ fuel) :
    expandMacro T (fuel + 3)
        (lbr q1 :: (nt ++ rbr q2 :: lbr q3 :: (tt ++ rbr q4 :: (sp ++ rest)))) tok false st
      = .ok (([mkAction tok.pos], rest), defSt st (txtOf nt) (txtOf tt)) :=
  Call.expandMacro_handler (fuel + 1) false hl hmac.extract hmac.hasHandler (Call.skipSpaceStopLangAct_cons rfl)
    (hmac.args ▸ collectArgs_nt T mac hmac.defaults q1 q2 q3 q4 nt tt
      (fun t h => plainTok_noBrace (hn.2 t h).plain) hn.1 (fun t h => plainTok_noBrace (ht.2 t h).plain) ht.1
      sp rest hsp hh tok.pos st) rfl
    (by rw [hmac.handler]; exact callHandler_nt T fuel rest mac nt [] tt [] tok.pos st hn ht hf hf2)

theorem plain_parTok (p : Nat) : PlainTok (parTok p) :=
  plainTok_of_head _ nl [nl] rfl (.inr (.inr rfl)) (by decide)

/-- the conditions on the initialised parser state: the empty string, the blank, the line break,
    `.` and `(` are no "active characters" of the language settings (else the generated tokens would
    go to `expand_short_macro`); `\newtheorem` is declared as in `ntDeclOk` -/
def stateOk (T : PTables) (st : PState) : Bool :=
  noEmptyActive T st && !(activeChars T st).contains [' '] && !(activeChars T st).contains [nl] &&
  !(activeChars T st).contains ['.'] && !(activeChars T st).contains ['('] && ntOk st

structure StFacts (T : PTables) (st : PState) : Prop where
  ne : noEmptyActive T st = true
  sp : (activeChars T st).contains [' '] = false
  nl : (activeChars T st).contains [Yalafi.nl] = false
  dot : (activeChars T st).contains ['.'] = false
  lp : (activeChars T st).contains ['('] = false

theorem stFacts {T : PTables} {st : PState} (h : stateOk T st = true) : StFacts T st ∧ NtOk st := by
  simp only [stateOk, Bool.and_eq_true, Bool.not_eq_true'] at h
  obtain ⟨⟨⟨⟨⟨h1, h2⟩, h3⟩, h4⟩, h5⟩, h6⟩ := h
  exact ⟨⟨h1, h2, h3, h4, h5⟩, NtOk_of_ntOk h6⟩

theorem StFacts.congr {T : PTables} {st st' : PState} (hl : st'.langStack = st.langStack)
    (h : StFacts T st) : StFacts T st' :=
  ⟨(noEmptyActive_congr T st st' hl).trans h.ne, by rw [activeChars_congr T st st' hl]; exact h.sp,
   by rw [activeChars_congr T st st' hl]; exact h.nl,
   by rw [activeChars_congr T st st' hl]; exact h.dot,
   by rw [activeChars_congr T st st' hl]; exact h.lp⟩

structure TitleOk (T : PTables) (st : PState) (title : Str) : Prop where
  plain : ∀ p, PlainTok (mkFix .text p title)
  nact : (activeChars T st).contains title = false
  nonl : hasNl title = false

theorem TitleOk.congr {T : PTables} {st st' : PState} (hl : st'.langStack = st.langStack)
    {title : Str} (h : TitleOk T st title) : TitleOk T st' title :=
  ⟨h.plain, by rw [activeChars_congr T st st' hl]; exact h.nact, h.nonl⟩

theorem copied_parTok {T : PTables} {st : PState} (p : Nat) (r : Buf) : CopiedTok T st (parTok p) r :=
  .of_plain (plain_parTok p) (.inl (not_active_long T st _ (by simp [parTok, mkFix])))

theorem copied_thmToks {T : PTables} {st : PState} (S : StFacts T st) {title : Str}
    (ht : TitleOk T st title) (p : Nat) :
    ∀ t ∈ parTok p :: mkAction p :: thmToks p title, ∀ r, CopiedTok T st t r := by
  intro t h r
  simp only [thmToks, List.mem_cons, List.not_mem_nil, or_false] at h
  rcases h with rfl | rfl | rfl | rfl | rfl
  · exact copied_parTok p r
  · exact .action (notActive_nil S.ne) p
  · exact .of_plain (ht.plain p) (.inl ht.nact)
  · exact .head '.' rfl (.inl rfl) (by decide) (.inl S.dot)
  · exact .head nl rfl (.inr (.inl rfl)) (by decide) (.inl S.nl)

theorem copied_thmNToks {T : PTables} {st : PState} (S : StFacts T st) {title : Str}
    (ht : TitleOk T st title) (p : Nat) {note : List Tok} (hnote : ∀ t ∈ note, CopyTok T st t) :
    ∀ t ∈ parTok p :: mkAction p :: thmNToks p title note, ∀ r, CopiedTok T st t r := by
  intro t h r
  simp only [thmNToks, List.mem_cons, List.mem_append, List.not_mem_nil, or_false] at h
  rcases h with rfl | rfl | rfl | rfl | rfl | h | rfl | rfl
  · exact copied_parTok p r
  · exact .action (notActive_nil S.ne) p
  · exact .of_plain (ht.plain p) (.inl ht.nact)
  · exact .head ' ' rfl (.inr (.inl rfl)) (by decide) (.inl S.sp)
  · exact .head '(' rfl (.inl rfl) (by decide) (.inl S.lp)
  · exact .of_plain (hnote t h).plain (.inl (hnote t h).nact)
  · exact .head ')' rfl (.inl rfl) (by decide) (.inl (not_active_long T st _ (by simp [mkFix])))
  · exact .head nl rfl (.inr (.inl rfl)) (by decide) (.inl S.nl)

section steps
variable {T : PTables} {envStop : Option Str} {out : List Tok} {st : PState} {nt : List Tok}

/-- Two iterations; the cost also pays for reading name and title. -/
theorem seqRun_nt (p q1 q2 q3 q4 : Nat) {tt sp : List Tok} (rest : Buf) (hnt : NtOk st) (S : StFacts T st)
    (hn : NameToks T st nt) (ht : NameToks T st tt) (hsp : SpToks sp) (hh : HeadOk rest) :
    SeqRun T envStop 1 (nt.length + tt.length + 6)
      (cwTok p ntName :: lbr q1 :: (nt ++ rbr q2 :: lbr q3 :: (tt ++ rbr q4 :: (sp ++ rest)))) out st
      rest (out ++ [mkAction p]) (defSt st (txtOf nt) (txtOf tt)) := by
  obtain ⟨m, hm, hmd⟩ := hnt
  have ha : noEmptyActive T (defSt st (txtOf nt) (txtOf tt)) = true := S.ne
  refine seqRun_pushed (d := nt.length + tt.length + 2 + 3) (fun f hf => ?_)
    (.of_forall fun t h r => by rw [List.mem_singleton.mp h]; exact .action (notActive_nil ha) p)
    (Nat.le_add_right _ 1) (Nat.le_add_left 1 (nt.length + tt.length + 4))
  obtain ⟨g, rfl⟩ := Nat.exists_eq_add_of_le' (Nat.le_trans (Nat.le_add_left 3 _) hf)
  have hg : nt.length + tt.length + 2 ≤ g := Nat.le_of_add_le_add_right hf
  exact loop_macro_ok rfl (PlainMacroArgs.txtIs_def_cw _ _ (by decide))
    (expandMacro_nt T g m (ntDecl hmd) q1 q2 q3 q4 nt tt sp rest (cwTok p ntName) st hn ht hsp hh hm
      (Nat.le_trans (Nat.add_le_add_right (Nat.le_add_right ..) 2) hg)
      (Nat.le_trans (Nat.add_le_add_right (Nat.le_add_left ..) 2) hg))

theorem seqRun_beg (p q1 q2 : Nat) {sp : List Tok} (rest : Buf) {title : Str} (S : StFacts T st)
    (h : NameToks T st nt) (hl : lookupEnv st (txtOf nt) = some (thmEnv (txtOf nt) title))
    (hsp : SpToks sp) (hh : HeadOk rest) (ht : TitleOk T st title) :
    SeqRun T envStop 1 (nt.length + 6) (begTok p :: lbr q1 :: (nt ++ rbr q2 :: (sp ++ rest))) out st
      rest (out ++ parTok p :: mkAction p :: thmToks p title) st :=
  PlainItem.seqRun_envBegin p q1 q2 envStop out h.item (txtOf_eq nt ▸ hl) rfl rfl
    (fun f => expandArguments_thm0 T f (txtOf nt) title sp rest p st hsp hh)
    (.of_forall (copied_thmToks S ht p)) (Nat.le_add_left 6 _) (by omega) (by omega)

theorem seqRun_begN (p q1 q2 b1 b2 : Nat) {note : List Tok} (rest : Buf) {title : Str} (S : StFacts T st)
    (h : NameToks T st nt) (hl : lookupEnv st (txtOf nt) = some (thmEnv (txtOf nt) title))
    (hnote : ∀ t ∈ note, CopyTok T st t ∧ t.txt ≠ [']']) (hne : note ≠ []) (ht : TitleOk T st title) :
    SeqRun T envStop 1 (nt.length + note.length + 8)
      (begTok p :: lbr q1 :: (nt ++ rbr q2 :: chTok b1 '[' :: (note ++ chTok b2 ']' :: rest))) out st
      rest (out ++ parTok p :: mkAction p :: thmNToks p title note) st :=
  PlainItem.seqRun_envBegin p q1 q2 envStop out h.item (txtOf_eq nt ▸ hl) rfl rfl
    (fun f => expandArguments_thmN T f (txtOf nt) title b1 b2 note
      (fun t ht => ⟨plainTok_noBrace (hnote t ht).1.plain, (hnote t ht).2⟩) hne rest p st)
    (.of_forall (copied_thmNToks S ht p fun t ht => (hnote t ht).1))
    (by simp only [thmNToks, List.length_cons, List.length_append, List.length_nil]; omega) (by omega) (by omega)

theorem seqRun_end (p q1 q2 : Nat) (rest : Buf) {title : Str} (h : NameToks T st nt)
    (hl : lookupEnv st (txtOf nt) = some (thmEnv (txtOf nt) title)) :
    SeqRun T none 1 (nt.length + 5) (endTok p :: lbr q1 :: (nt ++ rbr q2 :: rest)) out st
      rest (out ++ [parTok p]) st :=
  PlainItem.seqRun_envEnd (env := thmEnv (txtOf nt) title) p q1 q2 out h.item (txtOf_eq nt ▸ hl) rfl
    (show CopiedSeq T _ [parTok p] rest from ⟨copied_parTok p rest, trivial⟩) (by omega) (by omega)

end steps

/-- the theorem environments defined by the document so far: name and title, latest first -/
abbrev Env := List (Str × Str)

def titleOf (E : Env) (name : Str) : Option Str := (E.find? (·.1 == name)).map (·.2)

def stOf (st : PState) : Env → PState
  | [] => st
  | e :: E => defSt (stOf st E) e.1 e.2

theorem stOf_eq (st : PState) : ∀ E : Env, ∃ envs, stOf st E = { st with envs := envs }
  | [] => ⟨st.envs, rfl⟩
  | e :: E => by
    obtain ⟨envs, h⟩ := stOf_eq st E
    exact ⟨_, by rw [stOf, h]; rfl⟩

theorem lookupEnv_stOf (st : PState) : ∀ (E : Env) (n : Str),
    lookupEnv (stOf st E) n = match titleOf E n with
      | some t => some (thmEnv n t)
      | none => lookupEnv st n
  | [], n => rfl
  | e :: E, n => by
    have ih := lookupEnv_stOf st E n
    simp only [stOf, defSt, lookupEnv] at ih ⊢
    rw [find_setMacro]
    by_cases he : e.1 = n
    · subst he
      simp [thmEnv, titleOf]
    · have he' : (e.1 == n) = false := by simpa using he
      simp only [thmEnv, he', Bool.false_eq_true, if_false, titleOf, List.find?_cons]
      exact ih

theorem lookupEnv_stOf_some (st : PState) (E : Env) (n t : Str) (h : titleOf E n = some t) :
    lookupEnv (stOf st E) n = some (thmEnv n t) := by
  rw [lookupEnv_stOf, h]

inductive Piece where
  | tok (t : Tok)
  | newthm (p q1 q2 q3 q4 : Nat) (nt tt sp : List Tok)
  | beg (p q1 q2 : Nat) (nt sp : List Tok)
  | begN (p q1 q2 b1 b2 : Nat) (nt note : List Tok)
  | en (p q1 q2 : Nat) (nt : List Tok)

def Piece.toks : Piece → List Tok
  | .tok t => [t]
  | .newthm p q1 q2 q3 q4 nt tt sp =>
    cwTok p ntName :: lbr q1 :: (nt ++ rbr q2 :: lbr q3 :: (tt ++ rbr q4 :: sp))
  | .beg p q1 q2 nt sp => begTok p :: lbr q1 :: (nt ++ rbr q2 :: sp)
  | .begN p q1 q2 b1 b2 nt note =>
    begTok p :: lbr q1 :: (nt ++ rbr q2 :: chTok b1 '[' :: (note ++ [chTok b2 ']']))
  | .en p q1 q2 nt => endTok p :: lbr q1 :: (nt ++ [rbr q2])

def flat : List Piece → List Tok
  | [] => []
  | p :: ps => p.toks ++ flat ps

def TitleAt (T : PTables) (st : PState) (E : Env) (name : Str) : Prop :=
  ∃ t, titleOf E name = some t ∧ TitleOk T st t

def PiecesOk (T : PTables) (st : PState) : Env → List Piece → Prop
  | _, [] => True
  | E, .tok t :: rest => PlainTok t ∧ PassTok T st t (flat rest) ∧ PiecesOk T st E rest
  | E, .newthm _ _ _ _ _ nt tt sp :: rest =>
    NameToks T st nt ∧ NameToks T st tt ∧ SpToks sp ∧ HeadOk (flat rest) ∧
      PiecesOk T st ((txtOf nt, txtOf tt) :: E) rest
  | E, .beg _ _ _ nt sp :: rest =>
    NameToks T st nt ∧ TitleAt T st E (txtOf nt) ∧ SpToks sp ∧ HeadOk (flat rest) ∧
      PiecesOk T st E rest
  | E, .begN _ _ _ _ _ nt note :: rest =>
    NameToks T st nt ∧ TitleAt T st E (txtOf nt) ∧ note ≠ [] ∧
      (∀ t ∈ note, CopyTok T st t ∧ t.txt ≠ [']']) ∧ PiecesOk T st E rest
  | E, .en _ _ _ nt :: rest =>
    NameToks T st nt ∧ (titleOf E (txtOf nt)).isSome = true ∧ PiecesOk T st E rest

def titleD (E : Env) (name : Str) : Str := (titleOf E name).getD []

def outP : Env → List Piece → List Tok
  | _, [] => []
  | E, .tok t :: rest => t :: outP E rest
  | E, .newthm p _ _ _ _ nt tt _ :: rest => mkAction p :: outP ((txtOf nt, txtOf tt) :: E) rest
  | E, .beg p _ _ nt _ :: rest =>
    parTok p :: mkAction p :: (thmToks p (titleD E (txtOf nt)) ++ outP E rest)
  | E, .begN p _ _ _ _ nt note :: rest =>
    parTok p :: mkAction p :: (thmNToks p (titleD E (txtOf nt)) note ++ outP E rest)
  | E, .en p _ _ _ :: rest => parTok p :: outP E rest

def finalEnv : Env → List Piece → Env
  | E, [] => E
  | E, .newthm _ _ _ _ _ nt tt _ :: rest => finalEnv ((txtOf nt, txtOf tt) :: E) rest
  | E, _ :: rest => finalEnv E rest

/-- iterations of `expandSequence` (and of the nested calls that read names and titles) -/
def cost : List Piece → Nat
  | [] => 0
  | .tok _ :: rest => 1 + cost rest
  | .newthm _ _ _ _ _ nt tt _ :: rest => nt.length + tt.length + 6 + cost rest
  | .beg _ _ _ nt _ :: rest => nt.length + 6 + cost rest
  | .begN _ _ _ _ _ nt note :: rest => nt.length + note.length + 8 + cost rest
  | .en _ _ _ nt :: rest => nt.length + 5 + cost rest

theorem stOf_langStack (st : PState) (E : Env) : (stOf st E).langStack = st.langStack := by
  obtain ⟨_, h⟩ := stOf_eq st E
  rw [h]

theorem stOf_macros (st : PState) (E : Env) : (stOf st E).macros = st.macros := by
  obtain ⟨_, h⟩ := stOf_eq st E
  rw [h]

/-- The conditions are read at `st0`; the loop runs in `stOf st1 E`, which has the language stack
    and the macro table of `st0` and more environments. -/
theorem seqRun_thm (T : PTables) {st0 st1 : PState} (hr : Reads st0 st1) (S : StFacts T st0) (hnt : NtOk st0) :
    ∀ (ps : List Piece) (out : List Tok) (E : Env), PiecesOk T st0 E ps →
      SeqRun T none 1 (cost ps) (flat ps) out (stOf st1 E) [] (out ++ outP E ps)
        (stOf st1 (finalEnv E ps))
  | [], out, E, _ => by rw [outP, List.append_nil]; exact SeqRun.refl.mono (Nat.zero_le 1) (Nat.le_refl _)
  | .tok t :: ps, out, E, hok =>
    (seqRun_plainTok hok.1 (PassTok_congr ((stOf_langStack st1 E).trans hr.ext.lang) hok.2.1)).app
      (seqRun_thm T hr S hnt ps (out ++ [t]) E hok.2.2) (Nat.zero_le _)
  | .newthm p q1 q2 q3 q4 nt tt sp :: ps, out, E, hok => by
    have hl := (stOf_langStack st1 E).trans hr.ext.lang
    simp only [flat, Piece.toks, List.cons_append, List.append_assoc]
    exact (seqRun_nt p q1 q2 q3 q4 (flat ps) (hnt.congr ((stOf_macros st1 E).trans hr.macros)) (S.congr hl)
        (hok.1.congr hl) (hok.2.1.congr hl) hok.2.2.1 hok.2.2.2.1).app
      (seqRun_thm T hr S hnt ps _ ((txtOf nt, txtOf tt) :: E) hok.2.2.2.2) (Nat.le_add_right ..)
  | .beg p q1 q2 nt sp :: ps, out, E, hok => by
    have hl := (stOf_langStack st1 E).trans hr.ext.lang
    obtain ⟨hn, ⟨title, htl, hto⟩, hsp, hh, hrest⟩ := hok
    simp only [flat, Piece.toks, List.cons_append, List.append_assoc, outP, titleD, htl, Option.getD_some]
    exact (seqRun_beg p q1 q2 (flat ps) (S.congr hl) (hn.congr hl) (lookupEnv_stOf_some st1 E _ _ htl) hsp hh
        (hto.congr hl)).app (seqRun_thm T hr S hnt ps _ E hrest) (Nat.le_add_right ..)
  | .begN p q1 q2 b1 b2 nt note :: ps, out, E, hok => by
    have hl := (stOf_langStack st1 E).trans hr.ext.lang
    obtain ⟨hn, ⟨title, htl, hto⟩, hne, hnote, hrest⟩ := hok
    simp only [flat, Piece.toks, List.cons_append, List.append_assoc, List.nil_append, outP, titleD, htl,
      Option.getD_some]
    exact (seqRun_begN p q1 q2 b1 b2 (flat ps) (S.congr hl) (hn.congr hl) (lookupEnv_stOf_some st1 E _ _ htl)
        (fun t ht => ⟨(hnote t ht).1.congr hl, (hnote t ht).2⟩) hne (hto.congr hl)).app
      (seqRun_thm T hr S hnt ps _ E hrest) (Nat.le_add_right ..)
  | .en p q1 q2 nt :: ps, out, E, hok => by
    obtain ⟨hn, hsome, hrest⟩ := hok
    obtain ⟨title, htl⟩ := Option.isSome_iff_exists.mp hsome
    simp only [flat, Piece.toks, List.cons_append, List.append_assoc, List.nil_append]
    exact (seqRun_end p q1 q2 (flat ps) (hn.congr ((stOf_langStack st1 E).trans hr.ext.lang))
        (lookupEnv_stOf_some st1 E _ _ htl)).app (seqRun_thm T hr S hnt ps _ E hrest) (Nat.le_add_right ..)

theorem NameToks.notComment {T : PTables} {st : PState} {nt : List Tok} (h : NameToks T st nt) :
    ∀ t ∈ nt, t.kind ≠ .comment := fun t ht => (h.2 t ht).plain.notComment

theorem SpToks.noCom {sp : List Tok} (h : SpToks sp) : NoCom sp := fun t ht => NoCom.of_kind (h t ht)

theorem PiecesOk.noCom {T : PTables} {st : PState} : ∀ {ps : List Piece} {E : Env},
    PiecesOk T st E ps → NoCom (flat ps)
  | [], _, _ => .nil
  | .tok _ :: _, _, h => .cons h.1.notComment (noCom h.2.2)
  | .newthm .. :: _, _, h =>
    .append (.cons nofun (.cons nofun (.append h.1.notComment (.cons nofun (.cons nofun
      (.append h.2.1.notComment (.cons nofun h.2.2.1.noCom))))))) (noCom h.2.2.2.2)
  | .beg .. :: _, _, h =>
    .append (.cons nofun (.cons nofun (.append h.1.notComment (.cons nofun h.2.2.1.noCom)))) (noCom h.2.2.2.2)
  | .begN .. :: _, _, h =>
    .append (.cons nofun (.cons nofun (.append h.1.notComment (.cons nofun (.cons nofun
      (.append (fun t ht => (h.2.2.2.1 t ht).1.plain.notComment) (.cons nofun .nil)))))))
      (noCom h.2.2.2.2)
  | .en .. :: _, _, h => .append (.cmdBraced nofun nofun nofun h.1.notComment) (noCom h.2.2)

end PlainThm
end Yalafi
