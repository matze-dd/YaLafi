/-
  Proofs/PlainMathRichE2E.lean — C10 for the FULL body class of the property, END TO END on the
  model: documents of inert text and inline formulas `$…$` / `\(…\)` whose bodies consist of letters,
  digits, ASCII operators, `^` `_`, braces (any nesting), undeclared control words (`\alpha`,
  `\frac`, `\sqrt`), maths-space tokens (`\,` `\;` `\:` `\ ` `~`) and punctuation.
  (Token level: Proofs/PlainMathRich.lean; documents, side conditions, scanner on a body:
  Proofs/PlainMathRichSrc.lean; statements: Properties/PlainMathRichStmt.lean.)  Here: the scanner on a
  document (`scanAll_rich`) and the way from the loop to `tex2txt` (`tex2txt_inline_rich`).

  The reference output (`refRich`): text segments are copied with their positions; the `k`-th
  formula of the document (k = 1, 2, …) with the maths tokens `m = mtoks T (offset of the body) body`
  is replaced by
        `fTxt T (placeholder repls k) m  =  leadSp m ++ placeholder repls k ++ punctM T m ++ trailSp m`
    `leadSp m`   one blank if the FIRST maths token is maths space (white space and ignored tokens
                 in front of it do not count), else nothing
    `placeholder repls k`   entry `k mod length` of the inline collection of the current language
    `punctM T m` the last character of the concatenated texts of the maths tokens that is no white
                 space (maths space has the text `" "`), if it is one of `math_punctuation`
    `trailSp m`  one blank if the LAST maths token is maths space
  and every character of the replacement carries the position `anchor m` of the first maths token of
  the body (NOT of the opening delimiter; NOT of the first token that is not maths space).

  Side conditions of `tex2txt_inline_rich`
    options / initialisation   no `--defs`, `--extr`, `--repl`, `--unkn`, single-language mode, `st1` =
                               state after `Parser.__init__`
    `SegsOk T st1 segs`        see Proofs/PlainMathRichSrc.lean
    `rotOf st1 (curSettings st1) = some rot`, `rot.inl = repls`, `repls ≠ []`
                               the inline collection of the current language (Python: `IndexError`
                               on an empty collection)
    `VisibleRepls repls`       no placeholder is blank or contains a line break: then every formula
                               leaves visible text and `remove_pure_action_lines` deletes nothing
    `(settingsOf T (curSettings st1)).isSome`   the language settings exist (Python: `KeyError`)
    fuel                       `(render segs).length + 2 ≤ fuel`
  NOT covered: formulas that consist only of maths space / ignored tokens / white space (the model
  emits one blank for `$\,$` and nothing for `${}$`, and does not rotate the collection); declared
  macros in formulas (`\quad`, `\qquad`, `\text`-like macros `\mbox{…}`: their expansion / argument is
  parsed); `\begin`/`\end` in formulas; a paragraph break in a formula; displayed formulas; touching
  formulas `$a$$b$`; mixed delimiters `$x\)` (the model accepts them: the section ends at the first
  `$` or `\)` — the token-level lemmas cover this, the document grammar does not offer it).
-/
import YalafiVerif.Proofs.PlainMathRichSrc
namespace Yalafi
namespace PlainMathRich

open M
open PlainMath (Piece flat nMath rotN VisibleRepls placeholder placeholder_mem)
open PlainUnkn2 (MPart renderM)

/-! ### the reference rendering of one formula -/

def leadSp (m : List MT) : Str := if (m.head?.map (·.sp)).getD false then [' '] else []
def trailSp (m : List MT) : Str := if (m.getLast?.map (·.sp)).getD false then [' '] else []
def anchor (m : List MT) : Nat := (m.head?.map (·.pos)).getD 0
def mText (m : List MT) : Str := m.flatMap (·.txt)
/-- the closing punctuation mark: the last character of `mText m` that is no white space, if it is
    one of the `math_punctuation` characters -/
def punctM (T : PTables) (m : List MT) : Str :=
  match lastNonBlank (mText m) with
  | some c => if T.mathPunctuation.contains [c] then [c] else []
  | none => []

def fTxt (T : PTables) (ph : Str) (m : List MT) : Str := leadSp m ++ ph ++ punctM T m ++ trailSp m

theorem getTextDirect_math (mb : List Tok) (hm : ∀ t ∈ mb, isMathTok t = true) :
    getTextDirect mb = mText (mb.map toMT) := by
  unfold getTextDirect mText
  have : mb.filter (fun t => t.kind != Kind.comment) = mb := by
    rw [List.filter_eq_self]
    intro t ht
    have := hm t ht
    unfold isMathTok at this
    cases hk : t.kind <;> simp_all
  rw [this]
  clear this hm
  induction mb with
  | nil => rfl
  | cons a l ih => simp only [List.flatMap_cons, List.map_cons, ih]; rfl

/-- the token-level text `shapeTxt` and the anchor, read off the abstraction of the maths tokens -/
theorem shapeTxt_eq (T : PTables) (mb : List Tok) (ph : Str) (hm : ∀ t ∈ mb, isMathTok t = true)
    (hne : mb ≠ []) :
    shapeTxt T mb ph = fTxt T ph (mb.map toMT) ∧ (hdTok mb).pos = anchor (mb.map toMT) := by
  have h0 : mb.head? = some (hdTok mb) := by
    cases mb with
    | nil => exact absurd rfl hne
    | cons a l => rfl
  have hl : mb.getLast? = some (ltTok mb) := by
    unfold ltTok
    rw [List.getLast?_eq_some_getLast hne]; rfl
  have e1 : ((mb.map toMT).head?.map (·.sp)).getD false = ((hdTok mb).kind == .mathSpace) := by
    rw [List.head?_map, h0]; rfl
  have e2 : ((mb.map toMT).getLast?.map (·.sp)).getD false = ((ltTok mb).kind == .mathSpace) := by
    rw [List.getLast?_map, hl]; rfl
  have e3 : (partPunct T mb).toList = punctM T (mb.map toMT) := by
    unfold partPunct punctM
    rw [getTextDirect_math mb hm]
    cases lastNonBlank (mText (mb.map toMT)) with
    | none => rfl
    | some c => simp only []; split <;> rfl
  refine ⟨?_, ?_⟩
  · unfold shapeTxt fTxt leadSp trailSp
    rw [e1, e2, e3]
    simp only [beq_iff_eq]
  · unfold anchor
    rw [List.head?_map, h0]; rfl

/-! ### the reference output for a list of items -/

/-- the reference output (text, 0-based positions) for a list of items, `l` being the stored
    placeholder collection -/
def refItems (T : PTables) : List Str → List Item → Str × List Nat
  | _, [] => ([], [])
  | l, .chr c p :: rest => (c :: (refItems T l rest).1, p :: (refItems T l rest).2)
  | l, .math m :: rest =>
    (fTxt T ((rotL l).headD []) m ++ (refItems T (rotL l) rest).1,
     List.replicate (fTxt T ((rotL l).headD []) m).length (anchor m) ++ (refItems T (rotL l) rest).2)

def nFormulas : List Item → Nat
  | [] => 0
  | .chr .. :: rest => nFormulas rest
  | .math .. :: rest => nFormulas rest + 1

theorem nFormulas_chrItems (items : List Item) : ∀ (s : Str) (p : Nat),
    nFormulas (chrItems p s ++ items) = nFormulas items
  | [], _ => rfl
  | c :: cs, p => by simp only [chrItems, List.cons_append, nFormulas, nFormulas_chrItems items cs (p + 1)]

theorem refItems_chrItems (T : PTables) (l : List Str) (items : List Item) :
    ∀ (s : Str) (p : Nat), refItems T l (chrItems p s ++ items)
      = (s ++ (refItems T l items).1, List.range' p s.length ++ (refItems T l items).2)
  | [], _ => rfl
  | c :: cs, p => by
    simp only [chrItems, List.cons_append, refItems, refItems_chrItems T l items cs (p + 1),
      List.length_cons, List.range'_succ]

/-! ### the scanner on a document -/

theorem firstTokTxtR_of_text (T : PTables) (c : Char) (cs : Str)
    (h : isSpace c = true ∨ matchSpecial T.toTables (c :: cs) = none) :
    firstTokTxtR T (c :: cs) = firstTokTxt (c :: cs) := by
  unfold firstTokTxtR firstTokTxt
  by_cases hsp : isSpace c = true
  · simp [hsp]
  · rcases h with h | h
    · exact absurd h hsp
    · simp [hsp, h]

structure ScanFacts (T : PTables) (st : PState) (rest : Str) (items : List Item)
    (steps : List ScanStep) : Prop where
  ok : ∀ s ∈ steps, s.diag = none ∧ s.extra = []
  pieces : ∃ ps, steps.map (·.tok) = flat ps ∧ PiecesOk T st ps ∧
    (∀ l, getTxtPos (outP T st l ps) = refItems T l items) ∧ nMath ps = nFormulas items ∧
    cost ps ≤ rest.length
  first : ∀ s ss, steps = s :: ss → s.tok.txt = firstTokTxtR T rest

theorem scanFacts_nil (T : PTables) (st : PState) : ScanFacts T st [] [] [] :=
  ⟨by simp, ⟨[], rfl, trivial, fun _ => rfl, rfl, Nat.le_refl _⟩, by simp⟩

/-- a piece in front of a scanned rest: `ss` are the steps of the scanner through the tokens of the
    piece `pc` -/
theorem ScanFacts.cons {T : PTables} {st : PState} {W R : Str} {ss rs : List ScanStep}
    {items' items : List Item} (pc : Piece) {t0 : Tok} {ts0 : List Tok}
    (hclean : ∀ s ∈ ss, s.diag = none ∧ s.extra = []) (I : ScanFacts T st R items' rs)
    (htoks : ss.map (·.tok) = pc.toks) (hhd : pc.toks = t0 :: ts0)
    (hpc : ∀ ps, rs.map (·.tok) = flat ps → PiecesOk T st ps → PiecesOk T st (pc :: ps))
    (hout : ∀ ps, (∀ l, getTxtPos (outP T st l ps) = refItems T l items') →
      ∀ l, getTxtPos (outP T st l (pc :: ps)) = refItems T l items)
    (hn : ∀ ps, nMath ps = nFormulas items' → nMath (pc :: ps) = nFormulas items)
    (hcost : ∀ ps, cost (pc :: ps) + R.length ≤ cost ps + W.length)
    (hfirst : t0.txt = firstTokTxtR T W) : ScanFacts T st W items (ss ++ rs) := by
  obtain ⟨ps, hflat, hpok, hrefs, hnm, hc⟩ := I.pieces
  refine ⟨fun s hs' => (List.mem_append.mp hs').elim (hclean s) (I.ok s),
    ⟨pc :: ps, ?_, hpc ps hflat hpok, hout ps hrefs, hn ps hnm, ?_⟩, ?_⟩
  · rw [List.map_append, htoks, hflat]; rfl
  · have := hcost ps; omega
  · intro s ss' he
    rw [headTok_of_append htoks hhd he]; exact hfirst

theorem scanAll_rich (T : PTables) (st : PState) (src : Str) (pos : Nat) (rest : Str) (items : List Item)
    (h : OkSrc T st pos rest items) :
      ScanFacts T st rest items (scanAll T.toTables src pos rest).1 := by
  refine scanAll_okSrc T st (firstTokTxtR T) src (ScanFacts T st) (fun _ _ h => h)
    (fun c cs h => firstTokTxtR_of_text T c cs (h.imp id (·.2))) (Con.vis T st) (fun _ _ _ I => I.first)
    (by rintro _ rfl; exact scanFacts_nil T st) ?_ ?_ pos rest items h
  · intro pos c cs s rs items' K I
    rw [chrs_chr]
    refine ScanFacts.cons (.tok s.tok) K.run.clean I rfl rfl
      (fun ps hflat hpok => ⟨K.step.tok, hflat ▸ K.pass, K.tokShape, hpok⟩) (fun ps hout l => ?_)
      (fun ps hnm => by rw [nFormulas_chrItems]; exact hnm)
      (fun ps => by have := K.len; simp only [cost, List.length_cons] at this ⊢; omega) K.first
    rw [refItems_chrItems]
    simp only [outP]
    rw [getTxtPos_cons_plain _ _ K.step.fix, hout l, K.step.pos, K.step.txt]
  · intro pos _ _ _ R items' hc
    cases hc with | math k c tl X _ m _ ho hd hm hvis
    obtain ⟨o1, o2, o3⟩ := ho.facts
    have hXlen := MOk_len hm
    obtain ⟨bsteps, s2, B, r2⟩ := scans_rbody T st src k k (pos + (tl.length + 1)) X R m (Nat.le_refl _) hm
    have r := (Scans.special T.toTables src pos o1 o2 o3 (delimAt_eq hd) (List.drop_left' rfl)).append r2
    have hmath : ∀ t ∈ (bsteps.map (·.tok)).flatMap (mout T st), isMathTok t = true := by
      intro t ht
      obtain ⟨u, _, hu⟩ := List.mem_flatMap.mp ht
      exact mout_math T st u t hu
    have habs : ((bsteps.map (·.tok)).flatMap (mout T st)).map toMT = m := by
      rw [flatMap_mout_toMT, B.abs]
    have hmbne : (bsteps.map (·.tok)).flatMap (mout T st) ≠ [] := by
      intro e
      rw [e] at habs
      rw [← habs] at hvis
      simp at hvis
    refine ⟨_, by simp, r, fun rs _ I => ?_⟩
    refine ScanFacts.cons (.math { kind := .special, pos := pos, txt := c :: tl } (bsteps.map (·.tok)) s2.tok)
      r.clean I (by simp [Piece.toks]) rfl
      (fun ps _ hpok => ⟨⟨Or.inl rfl, ho⟩, by rw [B.abs]; exact hvis,
        List.forall_mem_map.mpr fun x hx => (B.ok x hx).2.2, B.close, hpok⟩)
      (fun ps hout l => ?_) (fun ps hnm => by simp only [nMath, nFormulas, hnm]) ?_
      (by simp only [firstTokTxtR, o1, Bool.false_eq_true, if_false, delimAt_eq hd])
    · obtain ⟨e1, e2⟩ := shapeTxt_eq T _ ((rotL l).headD []) hmath hmbne
      simp only [outP, refItems]
      rw [getTxtPos_fOut, hout (rotL l), e1, e2, habs]
    · intro ps
      have := B.cost
      simp only [cost, List.length_cons, List.length_append]
      omega

/-! ### the reference output of a document -/

def mathLen (par : Bool) (body : List MPart) : Nat :=
  (opn par).length + ((renderM body).length + (cls par).length)

/-- the reference output (text, 0-based positions) of the segments that start at offset `p`, `k`
    formulas having been replaced before: text is copied with its positions; the next formula, with
    the maths tokens `m`, is replaced by `fTxt T (placeholder repls (k + 1)) m`, every character of
    which carries the position `anchor m` of the first maths token -/
def refRich (T : PTables) (repls : List Str) : Nat → Nat → List Seg → Str × List Nat
  | _, _, [] => ([], [])
  | k, p, .txt s :: rest =>
    (s ++ (refRich T repls k (p + s.length) rest).1,
     List.range' p s.length ++ (refRich T repls k (p + s.length) rest).2)
  | k, p, .math par body :: rest =>
    (fTxt T (placeholder repls (k + 1)) (mtoks T (p + (opn par).length) body)
        ++ (refRich T repls (k + 1) (p + mathLen par body) rest).1,
     List.replicate (fTxt T (placeholder repls (k + 1)) (mtoks T (p + (opn par).length) body)).length
          (anchor (mtoks T (p + (opn par).length) body))
        ++ (refRich T repls (k + 1) (p + mathLen par body) rest).2)

theorem refItems_itemsOf (T : PTables) (repls : List Str) (hne : repls ≠ []) :
    ∀ (segs : List Seg) (k p : Nat),
      refItems T (rotN k repls) (itemsOf T p segs) = refRich T repls k p segs
  | [], _, _ => rfl
  | .txt s :: rest, k, p => by
    simp only [itemsOf, refItems_chrItems, refRich, refItems_itemsOf T repls hne rest k]
  | .math par body :: rest, k, p => by
    simp only [itemsOf, refItems, refRich, ← PlainMath.rotN_succ, PlainMath.rotN_headD repls hne,
      refItems_itemsOf T repls hne rest (k + 1), mathLen]

/-- **C10 end to end, full body class.**  The document is a sequence of inert text segments and
    inline formulas `$body$` / `\(body\)` (`SegsOk`); `st1` is the state after `Parser.__init__`; no
    `--defs`, `--extr`, `--repl`, `--unkn`; single-language mode; `repls` is the inline placeholder
    collection stored for the current language, not empty, every entry a visible one-line text; the
    language settings exist.  With one unit of fuel per source character plus two, `tex2txt` succeeds,
    text and positions are `refRich`, nothing is reported as unknown and no diagnostic is added. -/
theorem tex2txt_inline_rich (T : PTables) (o : Options) (fs : FS) (thresh : Nat)
    (segs : List Seg) (fuel : Nat) (st1 : PState) (rot : Rot) (repls : List Str)
    (hdefs : o.defs = []) (hextr : o.extr = []) (hrepl : o.hasRepl = false) (hunkn : o.unkn = false)
    (hinit : initParser T fuel o (initialState T o false fs) = .ok ((), st1))
    (hok : SegsOk T st1 segs)
    (hrot : rotOf st1 (curSettings st1) = some rot) (hrepls : rot.inl = repls)
    (hne : repls ≠ []) (hvis : VisibleRepls repls)
    (hls : (settingsOf T (curSettings st1)).isSome = true)
    (hf : (render segs).length + 2 ≤ fuel) :
    ∃ r, tex2txt T fuel (render segs) o false thresh fs = .ok r ∧
      r.txt = (refRich T repls 0 0 segs).1 ∧
      r.pos = (refRich T repls 0 0 segs).2.map (· + 1) ∧
      r.unknowns = [] ∧ r.diags = st1.diags := by
  subst hrepls
  obtain ⟨ls, hls⟩ := Option.isSome_iff_exists.mp hls
  have F := scanAll_rich T st1 (render segs) 0 _ _ (OkSrc_of_segsOk T st1 segs 0 hok)
  obtain ⟨ps, hflat, hpok, hout, _, hcost⟩ := F.pieces
  let st' := startState st1 (render segs)
  obtain ⟨st2, hs, hst2, _⟩ := seqRun_rich T none ls ps [] st' rot (.startState st1 _) hpok hrot hne hls
  have R : PlainSetup T o fs fuel st1 := ⟨⟨hdefs, hextr, hinit⟩, hrepl, hunkn⟩
  have href := refItems_itemsOf T rot.inl hne segs 0 0
  simp only [rotN] at href
  have htp : getTxtPos ((outP T st1 rot.inl ps).filter keepOut ++ flowsToks st2.extracted)
      = refRich T rot.inl 0 0 segs := by
    rw [hst2, show flowsToks st'.extracted = [] from rfl, List.append_nil, getTxtPos_filter_keepOut,
      hout, href]
  exact ⟨_, R.of_lines thresh ((scan_of_scanAll F.ok).imp_right (·.trans hflat)) (hpok.noCom.noBegin _)
    (by omega) (hs.finish (Nat.le_refl 1) (by omega)) (removeLines_outP T st1 ps rot.inl hpok hvis hne),
    by rw [htp], by rw [htp], by rw [hst2]; rfl, by rw [hst2]; rfl⟩

/-! ### readings of the reference output -/

/-- **no character of the formula source appears**, except the closing punctuation mark: the text
    a formula is replaced by consists of characters of the placeholder, blanks, and at most one
    `math_punctuation` character -/
theorem fTxt_chars (T : PTables) (ph : Str) (m : List MT) :
    ∀ c ∈ fTxt T ph m, c ∈ ph ∨ c = ' ' ∨ T.mathPunctuation.contains [c] = true := by
  intro c hc
  unfold fTxt leadSp trailSp punctM at hc
  simp only [List.mem_append] at hc
  rcases hc with ((hc | hc) | hc) | hc
  · split at hc
    · simp only [List.mem_singleton] at hc; exact Or.inr (Or.inl hc)
    · simp at hc
  · exact Or.inl hc
  · split at hc
    · split at hc
      · rename_i hp
        simp only [List.mem_singleton] at hc
        subst hc; exact Or.inr (Or.inr hp)
      · simp at hc
    · simp at hc
  · split at hc
    · simp only [List.mem_singleton] at hc; exact Or.inr (Or.inl hc)
    · simp at hc

def textOf : List Seg → Str
  | [] => []
  | .txt s :: rest => s ++ textOf rest
  | .math .. :: rest => textOf rest

/-- the output text consists of the characters of the text segments, of placeholders of the
    collection, blanks and `math_punctuation` characters: nothing else of a formula survives -/
theorem refRich_chars (T : PTables) (repls : List Str) (hne : repls ≠ []) :
    ∀ (segs : List Seg) (k p : Nat), ∀ c ∈ (refRich T repls k p segs).1,
      c ∈ textOf segs ∨ (∃ ph ∈ repls, c ∈ ph) ∨ c = ' ' ∨ T.mathPunctuation.contains [c] = true
  | [], _, _, c, hc => by simp [refRich] at hc
  | .txt s :: rest, k, p, c, hc => by
    simp only [refRich, List.mem_append] at hc
    rcases hc with hc | hc
    · exact Or.inl (by simp [textOf, hc])
    · rcases refRich_chars T repls hne rest k _ c hc with h | h
      · exact Or.inl (by simp [textOf, h])
      · exact Or.inr h
  | .math par body :: rest, k, p, c, hc => by
    simp only [refRich, List.mem_append] at hc
    rcases hc with hc | hc
    · rcases fTxt_chars T _ _ c hc with h | h
      · exact Or.inr (Or.inl ⟨_, placeholder_mem repls hne (k + 1), h⟩)
      · exact Or.inr (Or.inr h)
    · rcases refRich_chars T repls hne rest (k + 1) _ c hc with h | h
      · exact Or.inl (by simpa [textOf] using h)
      · exact Or.inr h

theorem charToks_pos : ∀ (s : Str) (p : Nat), ∀ x ∈ charToks p s, p ≤ x.pos ∧ x.pos < p + s.length
  | [], _, x, hx => by simp [charToks] at hx
  | c :: cs, p, x, hx => by
    simp only [charToks, List.mem_append] at hx
    rcases hx with hx | hx
    · split at hx
      · simp at hx
      · simp only [List.mem_singleton] at hx
        subst hx
        simp
    · have := charToks_pos cs (p + 1) x hx
      simp only [List.length_cons]
      omega

theorem mtoks_pos (T : PTables) : ∀ (parts : List MPart) (p : Nat),
    (∀ t, MPart.spec t ∈ parts → t ≠ []) →
    ∀ x ∈ mtoks T p parts, p ≤ x.pos ∧ x.pos < p + (renderM parts).length
  | [], _, _, x, hx => by simp [mtoks] at hx
  | .chars s :: r, p, hs, x, hx => by
    simp only [mtoks, List.mem_append] at hx
    simp only [renderM, MPart.render, List.length_append]
    rcases hx with hx | hx
    · have := charToks_pos s p x hx; omega
    · have := mtoks_pos T r (p + s.length) (fun t ht => hs t (by simp [ht])) x hx; omega
  | .cw name :: r, p, hs, x, hx => by
    simp only [mtoks, List.mem_cons] at hx
    simp only [renderM, MPart.render, List.length_append, List.length_cons]
    rcases hx with rfl | hx
    · simp; omega
    · have := mtoks_pos T r (p + (name.length + 1)) (fun t ht => hs t (by simp [ht])) x hx; omega
  | .spec t :: r, p, hs, x, hx => by
    simp only [mtoks, List.mem_append] at hx
    simp only [renderM, MPart.render, List.length_append]
    have htne : 0 < t.length := List.length_pos_iff.mpr (hs t (by simp))
    rcases hx with hx | hx
    · have : x.pos = p := by
        unfold specToks at hx
        split at hx
        · simp at hx
        · split at hx <;> (simp only [List.mem_singleton] at hx; subst hx; rfl)
      omega
    · have := mtoks_pos T r (p + t.length) (fun t' ht => hs t' (by simp [ht])) x hx; omega

theorem mpartsOk_spec_ne (T : PTables) (st : PState) : ∀ (parts : List MPart) (R : Str),
    mpartsOk T st parts R = true → ∀ t, MPart.spec t ∈ parts → t ≠ []
  | [], _, _, t, ht => by simp at ht
  | .chars s :: r, R, h, t, ht => by
    simp only [mpartsOk, Bool.and_eq_true] at h
    exact mpartsOk_spec_ne T st r R h.2 t (by simpa using ht)
  | .cw n :: r, R, h, t, ht => by
    simp only [mpartsOk, Bool.and_eq_true] at h
    exact mpartsOk_spec_ne T st r R h.2 t (by simpa using ht)
  | .spec t' :: r, R, h, t, ht => by
    simp only [mpartsOk, Bool.and_eq_true] at h
    simp only [List.mem_cons, MPart.spec.injEq] at ht
    rcases ht with rfl | ht
    · intro e; subst e; simp [mspecOkR] at h
    · exact mpartsOk_spec_ne T st r R h.2 t ht

/-- **all generated characters map inside the formula**: the position every character of the
    replacement carries — the anchor, the position of the first maths token — lies strictly between
    the delimiters: it is the offset of a character of the body -/
theorem anchor_inside (T : PTables) (st : PState) (par : Bool) (body : List MPart) (R : Str) (p : Nat)
    (h : mathOk T st par body R = true) :
    p + (opn par).length ≤ anchor (mtoks T (p + (opn par).length) body) ∧
    anchor (mtoks T (p + (opn par).length) body) < p + (opn par).length + (renderM body).length := by
  simp only [mathOk, Bool.and_eq_true] at h
  obtain ⟨⟨⟨_, h2⟩, h3⟩, _⟩ := h
  have hvis := mtoks_any T body (p + (opn par).length)
  rw [h3] at hvis
  cases hm : mtoks T (p + (opn par).length) body with
  | nil => rw [hm] at hvis; simp at hvis
  | cons x xs =>
    have := mtoks_pos T body (p + (opn par).length) (mpartsOk_spec_ne T st body _ h2) x
      (by rw [hm]; simp)
    simpa [anchor] using this

/-- the placeholders are taken cyclically: formula `k + length` gets the placeholder of formula `k` -/
theorem placeholder_cyclic (repls : List Str) (k : Nat) :
    placeholder repls (k + repls.length) = placeholder repls k := by
  unfold placeholder
  rw [Nat.add_mod_right]

/-- successive formulas get successive entries: the index of formula `k + 1` is the index of
    formula `k` plus one, cyclically -/
theorem placeholder_succ (repls : List Str) (k : Nat) :
    placeholder repls (k + 1) = repls.getD ((k % repls.length + 1) % repls.length) [] := by
  unfold placeholder
  rw [Nat.mod_add_mod]

/-- the first `length - 1` formulas get the entries 1, 2, … (entry 0 is used by formula `length`) -/
theorem placeholder_lt (repls : List Str) (k : Nat) (h : k < repls.length) :
    placeholder repls k = repls.getD k [] := by
  unfold placeholder
  rw [Nat.mod_eq_of_lt h]

end PlainMathRich
end Yalafi
