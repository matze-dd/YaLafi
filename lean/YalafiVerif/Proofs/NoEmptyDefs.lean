/-
  Proofs/NoEmptyDefs.lean — the buffer-ORDER invariant that closes the open obligation of C07
  (`glossaries.cap_first` on an empty `TextToken`): definitions, closure lemmas, the monadic
  postcondition, and one specification per function of the mutual block of `Model/Expander.lean`.

  Ground truth found by reading / running the model (see the header of
  `Properties/NoEmptyStmt.lean` for the list): a text token with EMPTY text is created at
  FIVE places:
    (1) `.theorem title` with `title = []`      (`\newtheorem{thm}{}` … `\begin{thm}`)
    (2) `.proof` when the current settings do not exist (`proofName` falls back to `[]`)
    (3) `expand_item`: the default label `item_default_label = ['']` is EMPTY, so every plain
        `\item` of `itemize`/default environments pushes `mkFix .text start []`
    (4) `latexErrorToks` when `pos ≥ n` (the first half of a split error mark is `mark.take 0`);
        excluded only by the RANGE invariant (`t.pos < n` for buffer tokens) — the order
        argument alone cannot close the obligation, positions have to be carried as well
    (5) output-only tokens (`\verb||`, special tokens replaced by `""`, placeholders …): they
        reach a buffer only through an unclosed `remove` environment (`expand_sequence` hands its
        output back when the buffer ends), as a tail that contains no macro/environment/item token.

  Invariant:
    `W n t`    position in range (and the end of a `verbatim` token in range)
    `NE n t`   `W n t` and a text token has non-empty text
    `Skip t`   space-like / paragraph token (consumed by both loops without collecting arguments)
    `Pre n b`  buffer = Skip* ++ [any W-token]? ++ NE*     (closed under `tail`/`drop`)
    `ANC b`    no token of `b` can start a call (no macro, begin, end, item, accent, verbatim)
    `Buf3 n b` `Pre n b ∨ ANC b`
-/
import YalafiVerif.Model.Tex2txt
import YalafiVerif.Spec.Inv
import YalafiVerif.Proofs.Run
namespace Yalafi
namespace NoEmpty

def site : String := "glossaries.py:cap_first:txt[0]"

/-- a `MathBeginToken` names an environment without `end_func` (as `mbOk` of the range bundle):
    the output of a maths section then never contains the result of an end handler -/
def MB (T : PTables) (t : Tok) : Prop :=
  (∀ r, t.kind = .mathBegin r → (endFuncNames T).contains t.txt = false) ∧ ctlEmpty t = true

def W (T : PTables) (n : Nat) (t : Tok) : Prop :=
  t.pos < n ∧ (t.kind = .verb true → t.fix = false → t.pos + t.txt.length < n) ∧ MB T t

/-- stored tokens (re-stamped on use): a text token is not empty -/
def NE0 (T : PTables) (t : Tok) : Prop := (t.kind = .text → t.txt ≠ []) ∧ MB T t

def NE (T : PTables) (n : Nat) (t : Tok) : Prop := W T n t ∧ NE0 T t

def ANE (T : PTables) (n : Nat) (ts : List Tok) : Prop := ∀ t ∈ ts, NE T n t
def ANE0 (T : PTables) (ts : List Tok) : Prop := ∀ t ∈ ts, NE0 T t

def Skip (t : Tok) : Prop := (isSpaceTok t = true ∨ t.kind = .par) ∧ t.txt ≠ ['[']

def noCall (t : Tok) : Bool :=
  (match t.kind with
   | .xmacro | .xbegin | .xend | .item | .accent | .verb _ | .mathBegin _ => false
   | _ => true) && ctlEmpty t

def ANC (ts : List Tok) : Prop := ∀ t ∈ ts, noCall t = true

def Pre (T : PTables) (n : Nat) : List Tok → Prop
  | [] => True
  | t :: ts => W T n t ∧ ((Skip t ∧ Pre T n ts) ∨ ANE T n ts)

def Buf3 (T : PTables) (n : Nat) (b : List Tok) : Prop := Pre T n b ∨ ANC b

variable {T : PTables}

theorem NE.w {n t} (h : NE T n t) : W T n t := h.1

@[simp] theorem ANE_nil (n) : ANE T n [] := fun _ h => by cases h
@[simp] theorem ANE0_nil : ANE0 T [] := fun _ h => by cases h
@[simp] theorem ANC_nil : ANC [] := fun _ h => by cases h
@[simp] theorem ANE_cons (n t ts) : ANE T n (t :: ts) ↔ NE T n t ∧ ANE T n ts := by simp [ANE]
@[simp] theorem ANE0_cons (t ts) : ANE0 T (t :: ts) ↔ NE0 T t ∧ ANE0 T ts := by simp [ANE0]
@[simp] theorem ANC_cons (t ts) : ANC (t :: ts) ↔ noCall t = true ∧ ANC ts := by simp [ANC]
@[simp] theorem ANE_append (n a b) : ANE T n (a ++ b) ↔ ANE T n a ∧ ANE T n b := by
  simp only [ANE, List.mem_append]; constructor
  · intro h; exact ⟨fun t ht => h t (Or.inl ht), fun t ht => h t (Or.inr ht)⟩
  · rintro ⟨h1, h2⟩ t (ht | ht); exact h1 t ht; exact h2 t ht
@[simp] theorem ANE0_append (a b) : ANE0 T (a ++ b) ↔ ANE0 T a ∧ ANE0 T b := by
  simp only [ANE0, List.mem_append]; constructor
  · intro h; exact ⟨fun t ht => h t (Or.inl ht), fun t ht => h t (Or.inr ht)⟩
  · rintro ⟨h1, h2⟩ t (ht | ht); exact h1 t ht; exact h2 t ht
@[simp] theorem ANC_append (a b) : ANC (a ++ b) ↔ ANC a ∧ ANC b := by
  simp only [ANC, List.mem_append]; constructor
  · intro h; exact ⟨fun t ht => h t (Or.inl ht), fun t ht => h t (Or.inr ht)⟩
  · rintro ⟨h1, h2⟩ t (ht | ht); exact h1 t ht; exact h2 t ht
theorem ANC_snoc (out : List Tok) (t : Tok) (ho : ANC out) (ht : noCall t = true) : ANC (out ++ [t]) :=
  (ANC_append out [t]).2 ⟨ho, (ANC_cons t []).2 ⟨ht, ANC_nil⟩⟩

theorem ANE_sublist {n a b} (hs : List.Sublist a b) (h : ANE T n b) : ANE T n a := fun t ht => h t (hs.subset ht)
theorem ANE0_sublist {a b} (hs : List.Sublist a b) (h : ANE0 T b) : ANE0 T a := fun t ht => h t (hs.subset ht)
theorem ANC_sublist {a b} (hs : List.Sublist a b) (h : ANC b) : ANC a := fun t ht => h t (hs.subset ht)
theorem ANE_subset {n} {a b : List Tok} (hs : ∀ t ∈ a, t ∈ b) (h : ANE T n b) : ANE T n a := fun t ht => h t (hs t ht)
theorem ANC_subset {a b : List Tok} (hs : ∀ t ∈ a, t ∈ b) (h : ANC b) : ANC a := fun t ht => h t (hs t ht)
theorem ANE_ANE0 {n ts} (h : ANE T n ts) : ANE0 T ts := fun t ht => (h t ht).2
theorem ANE_reverse {n ts} (h : ANE T n ts) : ANE T n ts.reverse := fun t ht => h t (List.mem_reverse.1 ht)

theorem Skip_noCall {t} (h : Skip t) (hc : ctlEmpty t = true) : noCall t = true := by
  obtain ⟨h | h, _⟩ := h
  · unfold isSpaceTok at h; unfold noCall; split at h <;> simp_all
  · simp [noCall, h, hc]

theorem noCall_ctl {t} (h : noCall t = true) : ctlEmpty t = true := by
  unfold noCall at h; simp only [Bool.and_eq_true] at h; exact h.2

theorem noCall_of_kind {t} (hc : ctlEmpty t = true)
    (hk : (match t.kind with
           | .xmacro | .xbegin | .xend | .item | .accent | .verb _ | .mathBegin _ => false
           | _ => true) = true) : noCall t = true := by
  unfold noCall; rw [hk, hc]; rfl

theorem Pre_nil (n) : Pre T n [] := trivial

theorem Pre_of_ANE {n} : ∀ {b}, ANE T n b → Pre T n b
  | [], _ => trivial
  | t :: ts, h => ⟨(h t (by simp)).1, Or.inr (fun x hx => h x (by simp [hx]))⟩

theorem Pre_tail {n t ts} (h : Pre T n (t :: ts)) : Pre T n ts := by
  rcases h.2 with ⟨_, h⟩ | h
  · exact h
  · exact Pre_of_ANE h

theorem Pre_head {n t ts} (h : Pre T n (t :: ts)) : W T n t := h.1

theorem Pre_W {n} : ∀ {b}, Pre T n b → ∀ t ∈ b, W T n t
  | [], _, t, ht => by cases ht
  | x :: xs, h, t, ht => by
    rcases List.mem_cons.1 ht with rfl | ht
    · exact h.1
    · exact Pre_W (Pre_tail h) t ht

theorem Pre_notSkip {n t ts} (h : Pre T n (t :: ts)) (hs : ¬ Skip t) : ANE T n ts := by
  rcases h.2 with ⟨h1, _⟩ | h
  · exact absurd h1 hs
  · exact h

theorem Pre_cons_skip {n t ts} (hw : W T n t) (hs : Skip t) (h : Pre T n ts) : Pre T n (t :: ts) :=
  ⟨hw, Or.inl ⟨hs, h⟩⟩

theorem Pre_cons_any {n t ts} (hw : W T n t) (h : ANE T n ts) : Pre T n (t :: ts) := ⟨hw, Or.inr h⟩

theorem Pre_append {n} : ∀ {a b}, Pre T n a → ANE T n b → Pre T n (a ++ b)
  | [], _, _, hb => Pre_of_ANE hb
  | t :: ts, b, ha, hb => by
    refine ⟨ha.1, ?_⟩
    rcases ha.2 with ⟨h1, h2⟩ | h
    · exact Or.inl ⟨h1, Pre_append h2 hb⟩
    · exact Or.inr ((ANE_append n ts b).2 ⟨h, hb⟩)

theorem Pre_skips_append {n} : ∀ {a b}, (∀ t ∈ a, Skip t ∧ W T n t) → Pre T n b → Pre T n (a ++ b)
  | [], _, _, hb => hb
  | t :: ts, b, ha, hb =>
    ⟨(ha t (by simp)).2, Or.inl ⟨(ha t (by simp)).1, Pre_skips_append (fun x hx => ha x (by simp [hx])) hb⟩⟩

theorem Pre_drop {n} : ∀ (k : Nat) {b}, Pre T n b → Pre T n (b.drop k)
  | 0, _, h => h
  | _ + 1, [], _ => trivial
  | k + 1, _ :: ts, h => Pre_drop k (Pre_tail h)

theorem Pre_dropWhile {n} (p : Tok → Bool) : ∀ {b}, Pre T n b → Pre T n (b.dropWhile p)
  | [], _ => trivial
  | t :: ts, h => by
    rw [List.dropWhile_cons]; split
    · exact Pre_dropWhile p (Pre_tail h)
    · exact h

theorem ANC_drop (k : Nat) {b} (h : ANC b) : ANC (b.drop k) := ANC_sublist (List.drop_sublist k b) h
theorem ANC_dropWhile (p : Tok → Bool) {b} (h : ANC b) : ANC (b.dropWhile p) :=
  ANC_sublist (List.dropWhile_sublist p) h
theorem ANE_drop {n} (k : Nat) {b} (h : ANE T n b) : ANE T n (b.drop k) := ANE_sublist (List.drop_sublist k b) h
theorem ANE_dropWhile {n} (p : Tok → Bool) {b} (h : ANE T n b) : ANE T n (b.dropWhile p) :=
  ANE_sublist (List.dropWhile_sublist p) h

theorem Buf3_of_ANE {n b} (h : ANE T n b) : Buf3 T n b := Or.inl (Pre_of_ANE h)
theorem Buf3_of_Pre {n b} (h : Pre T n b) : Buf3 T n b := Or.inl h
theorem Buf3_nil (n) : Buf3 T n [] := Or.inl trivial
theorem Buf3_tail {n t ts} (h : Buf3 T n (t :: ts)) : Buf3 T n ts := by
  rcases h with h | h
  · exact Or.inl (Pre_tail h)
  · exact Or.inr (fun x hx => h x (by simp [hx]))
theorem Buf3_drop {n} (k : Nat) {b} (h : Buf3 T n b) : Buf3 T n (b.drop k) :=
  h.elim (fun h => Or.inl (Pre_drop k h)) (fun h => Or.inr (ANC_drop k h))
theorem Buf3_dropWhile {n} (p : Tok → Bool) {b} (h : Buf3 T n b) : Buf3 T n (b.dropWhile p) :=
  h.elim (fun h => Or.inl (Pre_dropWhile p h)) (fun h => Or.inr (ANC_dropWhile p h))

theorem Buf3_call {n t ts} (h : Buf3 T n (t :: ts)) (hc : noCall t = false) : W T n t ∧ ANE T n ts := by
  rcases h with h | h
  · refine ⟨h.1, Pre_notSkip h ?_⟩
    intro hs; rw [Skip_noCall hs h.1.2.2.2] at hc; cases hc
  · have := h t (by simp); rw [hc] at this; cases this

theorem Buf3_head_ctl {n t ts} (h : Buf3 T n (t :: ts)) : ctlEmpty t = true := by
  rcases h with h | h
  · exact h.1.2.2.2
  · exact noCall_ctl (h t (by simp))

/-- a token with text `[` in front: an optional argument can be collected behind it -/
theorem Pre_bracket {n t ts} (h : Pre T n (t :: ts)) (ht : t.txt = ['[']) : ANE T n (t :: ts) := by
  have h2 : ANE T n ts := Pre_notSkip h (fun hs => hs.2 ht)
  refine (ANE_cons n t ts).2 ⟨⟨h.1, fun _ => by rw [ht]; simp, h.1.2.2⟩, h2⟩

theorem W_skip_ctl {n t} (h : W T n t) (hk : t.kind = .action ∨ isLangK t = true) : Skip t := by
  have hc := h.2.2.2
  unfold ctlEmpty at hc
  unfold Skip isSpaceTok
  unfold isLangK at hk
  rcases hk with hk | hk
  · rw [hk] at hc ⊢; simp_all
  · split at hk <;> simp_all

structure MacOk (T : PTables) (m : MacroDef) : Prop where
  repl : ANE0 T m.repl
  defaults : ∀ d ∈ m.defaults, ANE0 T d
  extract : ANE0 T m.extract

/-- handlers whose result may START with an empty text token -/
def isFront : Handler → Bool
  | .theorem _ => true
  | .proof => true
  | _ => false

def EnvOk (T : PTables) (m : MacroDef) : Prop :=
  MacOk T m ∧ isFront m.endFunc = false ∧ (m.remove = true → m.handler = .none ∧ m.repl = []) ∧ envOk T m = true

def glossOk (T : PTables) (g : List (Str × List (Str × Option (List Tok)))) : Prop :=
  ∀ e ∈ g, ∀ kv ∈ e.2, ∀ ts, kv.2 = some ts → ANE0 T ts

structure StOk (T : PTables) (st : PState) : Prop where
  macros : ∀ m ∈ st.macros, MacOk T m ∧ isFront m.handler = false
  envs : ∀ m ∈ st.envs, EnvOk T m
  gloss : glossOk T st.glossary

theorem StOk_congr {st st' : PState} (h : StOk T st) (h1 : st'.macros = st.macros) (h2 : st'.envs = st.envs)
    (h3 : st'.glossary = st.glossary) : StOk T st' :=
  ⟨by rw [h1]; exact h.macros, by rw [h2]; exact h.envs, by rw [h3]; exact h.gloss⟩

def ModOk (T : PTables) (md : ModuleDef) : Prop :=
  (∀ m ∈ md.macros, MacOk T m ∧ isFront m.handler = false) ∧ (∀ m ∈ md.envs, EnvOk T m)

/-- `NE0`, `MB` and `ctlEmpty` on one table token, as a Bool (the building block of `tblOkB`) -/
def ne0B (t : Tok) : Bool :=
  (!(t.kind == .text) || !t.txt.isEmpty) && (match t.kind with | .mathBegin _ => false | _ => true) && ctlEmpty t
def macOkB (m : MacroDef) : Bool :=
  m.repl.all ne0B && m.defaults.all (·.all ne0B) && m.extract.all ne0B
def macroOkB (m : MacroDef) : Bool := macOkB m && !isFront m.handler
def envOkB (T : PTables) (m : MacroDef) : Bool :=
  macOkB m && !isFront m.endFunc && (!m.remove || (m.handler == .none && m.repl.isEmpty)) && envOk T m

/-- the decidable condition on the tables -/
def tblOkB (T : PTables) : Bool :=
  (T.macroDefsPython ++ T.noSpecialsMacros).all macroOkB
  && T.environmentDefs.all (envOkB T)
  && (T.packageModules ++ T.classModules).all (fun md => md.macros.all macroOkB && md.envs.all (envOkB T))
  && !T.citeText.isEmpty
  && T.upperMap.all (fun e => !e.2.isEmpty)

theorem ne0B_iff (t : Tok) (h : ne0B t = true) : NE0 T t := by
  unfold ne0B at h; unfold NE0 MB
  cases hk : t.kind <;> simp_all [List.isEmpty_iff, ctlEmpty]

theorem macOkB_MacOk (m : MacroDef) (h : macOkB m = true) : MacOk T m := by
  simp only [macOkB, Bool.and_eq_true, List.all_eq_true] at h
  exact ⟨fun t ht => ne0B_iff t (h.1.1 t ht), fun d hd t ht => ne0B_iff t (h.1.2 d hd t ht),
    fun t ht => ne0B_iff t (h.2 t ht)⟩

theorem macroOkB_ok (m : MacroDef) (h : macroOkB m = true) : MacOk T m ∧ isFront m.handler = false := by
  simp only [macroOkB, Bool.and_eq_true, Bool.not_eq_true'] at h
  exact ⟨macOkB_MacOk m h.1, h.2⟩

theorem envOkB_ok (m : MacroDef) (h : envOkB T m = true) : EnvOk T m := by
  simp only [envOkB, Bool.and_eq_true, Bool.not_eq_true', Bool.or_eq_true, beq_iff_eq,
    List.isEmpty_iff] at h
  refine ⟨macOkB_MacOk m h.1.1.1, h.1.1.2, fun hr => ?_, h.2⟩
  rcases h.1.2 with h2 | h2
  · rw [hr] at h2; cases h2
  · exact h2

/-! ### postcondition (`Post' x Q` is `PostC (· ≠ site) x Q`) -/

/-- nothing is claimed for `fatal` / `outOfFuel`; a crash is never the `cap_first` site -/
def Post' {α} (x : Outcome (α × PState)) (Q : α → PState → Prop) : Prop :=
  match x with
  | .ok (a, s) => Q a s
  | .crash c => c ≠ site
  | _ => True

theorem Post'_pure {α} (a : α) (st : PState) (Q : α → PState → Prop) (h : Q a st) :
    Post' ((pure a : M α) st) Q := h

theorem Post'_bind {α β} (x : M α) (f : α → M β) (st : PState) (Q : α → PState → Prop) (R : β → PState → Prop)
    (hx : Post' (x st) Q) (hf : ∀ a s, Q a s → Post' (f a s) R) : Post' ((x >>= f) st) R :=
  PostC.bind hx hf

theorem Post'_mono {α} (x : Outcome (α × PState)) (Q R : α → PState → Prop)
    (h : Post' x Q) (hi : ∀ a s, Q a s → R a s) : Post' x R :=
  PostC.mono h hi

theorem Post'_get (st : PState) (Q : PState → PState → Prop) (h : Q st st) : Post' (M.get st) Q := h
theorem Post'_modify (f : PState → PState) (st : PState) (Q : Unit → PState → Prop) (h : Q () (f st)) :
    Post' (M.modify f st) Q := h
/-- `h` by `simp [site]`: `String.reduceEq` points at the first character that differs, where `decide` would have the
    kernel decode both literals -/
theorem Post'_crash {α} (s : String) (st : PState) (Q : α → PState → Prop) (h : s ≠ site) :
    Post' ((M.crash s : M α) st) Q := h
theorem Post'_fatal {α} (msg : Str) (st : PState) (Q : α → PState → Prop) : Post' ((M.fatal msg : M α) st) Q :=
  trivial
theorem Post'_outOfFuel {α} (st : PState) (Q : α → PState → Prop) : Post' ((M.outOfFuel : M α) st) Q := trivial
theorem Post'_catchAll {α} (x : M α) (msg : Str) (st : PState) (Q : α → PState → Prop) (h : Post' (x st) Q) :
    Post' (catchAll x msg st) Q :=
  PostC.catchAll h

theorem Post'_get_bind {β} (f : PState → M β) (st : PState) (R : β → PState → Prop)
    (h : Post' (f st st) R) : Post' ((M.get >>= f) st) R :=
  PostC.get_bind h

theorem Post'_modifyPure {β} (f : PState → PState) (x : β) (st : PState) (R : β → PState → Prop)
    (h : R x (f st)) : Post' ((M.modify f >>= fun _ => (pure x : M β)) st) R :=
  PostC.modifyPure (C := (· ≠ site)) h

theorem Post'_ite {α} (c : Prop) [Decidable c] (x y : M α) (st : PState) (Q : α → PState → Prop)
    (h1 : c → Post' (x st) Q) (h2 : ¬ c → Post' (y st) Q) : Post' ((if c then x else y) st) Q :=
  PostC.ite h1 h2

theorem Post'_foldlM {α β} (f : β → α → M β) (I : β → PState → Prop) (l : List α) (b : β) (st : PState)
    (hI : I b st) (hf : ∀ b a s, a ∈ l → I b s → Post' (f b a s) I) : Post' (l.foldlM f b st) I :=
  PostC.foldlM (C := (· ≠ site)) (f := f) l b st hI hf

/-- the local `arg k` of `callHandler`, bound to a continuation -/
theorem Post'_argBind {β} (args : List (List Tok)) (k : Nat) (f : List Tok → M β) (st : PState)
    (R : β → PState → Prop)
    (h : ∀ a ∈ args, args[k]? = some a → Post' (f a st) R) :
    Post' (((match args[k]? with
            | some a => pure a
            | none => M.crash "handler:args[k]" : M (List Tok)) >>= f) st) R := by
  apply Post'_bind _ _ _ (fun a s => s = st ∧ a ∈ args ∧ args[k]? = some a)
  · cases he : args[k]? with
    | none => exact Post'_crash _ _ _ (by simp [site])
    | some a => exact Post'_pure _ _ _ ⟨rfl, List.mem_of_getElem? he, rfl⟩
  · rintro a s ⟨rfl, ha, he⟩
    exact h a ha he

/-- frame: invariant kept, `latex` (hence `n`) unchanged -/
def Fr (T : PTables) (st st' : PState) : Prop := StOk T st' ∧ st'.latex = st.latex

theorem Fr.refl {st} (h : StOk T st) : Fr T st st := ⟨h, rfl⟩
theorem Fr.trans {a b c} (h1 : Fr T a b) (h2 : Fr T b c) : Fr T a c := ⟨h2.1, h2.2.trans h1.2⟩
theorem Fr.len {a b} (h : Fr T a b) : b.latex.length = a.latex.length := by rw [h.2]

/-! ### specifications (`n` = `st.latex.length`) -/

/-- tokens a package injects on loading: `NE` if the place of the `\usepackage` is inside the text; never
    verbatim tokens (they are re-stamped by `filter_set_toks` WITHOUT pinning) -/
def InjOk (T : PTables) (n position : Nat) (r : List Tok) : Prop :=
  (position < n → ANE T n r) ∧ (∀ t ∈ r, t.kind ≠ .verb true)

theorem InjOk_nil (T : PTables) (n position : Nat) : InjOk T n position [] :=
  ⟨fun _ => ANE_nil n, fun _ h => by cases h⟩

theorem InjOk_append {T : PTables} {n position : Nat} {a b : List Tok} (ha : InjOk T n position a)
    (hb : InjOk T n position b) : InjOk T n position (a ++ b) :=
  ⟨fun hp => (ANE_append n a b).2 ⟨ha.1 hp, hb.1 hp⟩, fun t ht => by
    rcases List.mem_append.1 ht with h | h
    · exact ha.2 t h
    · exact hb.2 t h⟩

def kvOk (T : PTables) (n : Nat) (kvs : List (Str × Option (List Tok))) : Prop :=
  ∀ kv ∈ kvs, ∀ ts, kv.2 = some ts → ANE T n ts

/-- result of a handler: in range, `NE` behind the first token, wholly `NE` unless `isFront` -/
def HRes (T : PTables) (n : Nat) (h : Handler) (r : List Tok) : Prop :=
  (isFront h = false → ANE T n r) ∧
  (match r with | [] => True | t :: ts => W T n t ∧ ANE T n ts)

section
variable (T)

def SpecSeq (fuel : Nat) : Prop :=
  ∀ (buf : Buf) (envStop : Option Str) (out : List Tok) (st : PState),
    StOk T st → Buf3 T st.latex.length buf → ANC out →
    Post' (expandSequence T fuel buf envStop out st) (fun r st' =>
      Fr T st st' ∧ ANE T st.latex.length r.2 ∧ (envStop = none → ANC r.1) ∧
      (ANE T st.latex.length r.1 ∨ (ANC r.1 ∧ r.2 = [])))

def SpecText (fuel : Nat) : Prop :=
  ∀ (toks : List Tok) (st : PState), StOk T st → Buf3 T st.latex.length toks →
    Post' (getTextExpanded T fuel toks st) (fun _ st' => Fr T st st')

def SpecEnvName (fuel : Nat) : Prop :=
  ∀ (buf : Buf) (tok : Tok) (st : PState), StOk T st → ANE T st.latex.length buf → tok.pos < st.latex.length →
    Post' (getEnvironmentName T fuel buf tok st) (fun r st' => Fr T st st' ∧ ANE T st.latex.length r.2)

def SpecBegin (fuel : Nat) : Prop :=
  ∀ (buf : Buf) (tok : Tok) (math : Bool) (st : PState),
    StOk T st → ANE T st.latex.length buf → tok.pos < st.latex.length →
    Post' (beginEnvironment T fuel buf tok math st) (fun r st' =>
      Fr T st st' ∧ Buf3 T st.latex.length (r.1 ++ r.2))

def SpecEnd (fuel : Nat) : Prop :=
  ∀ (buf : Buf) (tok : Tok) (envStop : Option Str) (st : PState),
    StOk T st → ANE T st.latex.length buf → tok.pos < st.latex.length →
    Post' (endEnvironment T fuel buf tok envStop st) (fun r st' =>
      Fr T st st' ∧ ANE T st.latex.length r.1.1 ∧ ANE T st.latex.length r.2 ∧ (r.1.2 = true → envStop ≠ none) ∧
      (r.1.2 = true → ∀ nm, envStop = some nm → (endFuncNames T).contains nm = false → ANC r.1.1))

def SpecMacro (fuel : Nat) : Prop :=
  ∀ (buf : Buf) (tok : Tok) (math : Bool) (st : PState),
    StOk T st → ANE T st.latex.length buf → tok.pos < st.latex.length →
    Post' (expandMacro T fuel buf tok math st) (fun r st' =>
      Fr T st st' ∧ ANE T st.latex.length r.1 ∧ ANE T st.latex.length r.2)

def SpecArgs (fuel : Nat) : Prop :=
  ∀ (buf : Buf) (mac : MacroDef) (start : Nat) (st : PState),
    StOk T st → ANE T st.latex.length buf → MacOk T mac → start < st.latex.length →
    Post' (expandArguments T fuel buf mac start st) (fun r st' =>
      Fr T st st' ∧ Pre T st.latex.length r.1 ∧ ANE T st.latex.length r.2 ∧
      (isFront mac.handler = false → ANE T st.latex.length r.1) ∧
      (mac.handler = .none → mac.repl = [] → ANC r.1))

def SpecItem (fuel : Nat) : Prop :=
  ∀ (buf : Buf) (tok : Tok) (outSoFar : List Tok) (st : PState),
    StOk T st → ANE T st.latex.length buf → tok.pos < st.latex.length →
    Post' (expandItem T fuel buf tok outSoFar st) (fun r st' =>
      Fr T st st' ∧ Pre T st.latex.length r.1 ∧ ANE T st.latex.length r.2)

def SpecAccent (fuel : Nat) : Prop :=
  ∀ (buf : Buf) (tok : Tok) (st : PState),
    StOk T st → ANE T st.latex.length buf → tok.pos < st.latex.length →
    Post' (expandAccent T fuel buf tok st) (fun r st' =>
      Fr T st st' ∧ ANC r.1 ∧ ANE T st.latex.length r.2)

def SpecWork (fuel : Nat) : Prop :=
  ∀ (latex : Str) (st : PState), StOk T st →
    Post' (parserWork T fuel latex st) (fun r st' => Fr T st st' ∧ ANC r)

def langOnly (ts : List Tok) : Prop := ∀ t ∈ ts, isLang t = true ∧ t.txt = []

/- NB: the tokens a package injects on loading (`inject_tokens`) are language
   tokens at position 0 or the halves of an error mark at the place of the `\usepackage`; they are `NE`
   whenever that place is inside the text (`position < n`; at parser initialisation, `n = 0`, they are
   dropped by `initParser`). -/

def SpecInit (fuel : Nat) : Prop :=
  ∀ (name : Str) (md : ModuleDef) (builtin : Bool) (options : List KeyVal) (position : Nat) (st : PState),
    StOk T st → ModOk T md →
    Post' (initPackage T fuel name md builtin options position st) (fun r st' =>
      Fr T st st' ∧ InjOk T st.latex.length position r)

def SpecModParams (fuel : Nat) : Prop :=
  ∀ (md : ModuleDef) (options : List KeyVal) (position : Nat) (st : PState),
    StOk T st → ModOk T md →
    Post' (modifyParameters T fuel md options position st) (fun r st' =>
      Fr T st st' ∧ InjOk T st.latex.length position r)

def SpecKeyvals (fuel : Nat) : Prop :=
  ∀ (buf : Buf) (acc : List (Str × Option (List Tok))) (st : PState),
    StOk T st → ANE T st.latex.length buf → kvOk T st.latex.length acc →
    Post' (parseKeyvals T fuel buf acc st) (fun r st' => Fr T st st' ∧ kvOk T st.latex.length r)

def SpecValue (fuel : Nat) : Prop :=
  ∀ (buf : Buf) (val : List Tok) (st : PState),
    StOk T st → ANE T st.latex.length buf → ANE T st.latex.length val →
    Post' (parseValue T fuel buf val st) (fun r st' =>
      Fr T st st' ∧ ANE T st.latex.length r.1 ∧ ANE T st.latex.length r.2)

def SpecExpandKv (fuel : Nat) : Prop :=
  ∀ (kvs : List (Str × Option (List Tok))) (st : PState), StOk T st → kvOk T st.latex.length kvs →
    Post' (expandKeyvals T fuel kvs st) (fun _ st' => Fr T st st')

def SpecModDesc (fuel : Nat) : Prop :=
  ∀ (toks : List Tok) (st : PState), StOk T st → ANE T st.latex.length toks →
    Post' (modifyDescription T fuel toks st) (fun r st' => Fr T st st' ∧ ANE T st.latex.length r)

def SpecHandler (fuel : Nat) : Prop :=
  ∀ (h : Handler) (buf : Buf) (mac : MacroDef) (args : List (List Tok)) (pos : Nat) (st : PState),
    StOk T st → (∀ a ∈ args, ANE T st.latex.length a) → pos < st.latex.length →
    Post' (callHandler T fuel h buf mac args pos st) (fun r st' => Fr T st st' ∧ HRes T st.latex.length h r)

def SpecMathSec (fuel : Nat) : Prop :=
  ∀ (buf : Buf) (start : Nat) (toksStop : List Str) (envStop : Option Str) (out : List Tok) (st : PState),
    StOk T st → Buf3 T st.latex.length buf → ANC out →
    (∀ nm, envStop = some nm → (endFuncNames T).contains nm = false) →
    Post' (expandMathSection T fuel buf start toksStop envStop out st) (fun r st' =>
      Fr T st st' ∧ Buf3 T st.latex.length r.buf ∧ ANC r.out)

def SpecInline (fuel : Nat) : Prop :=
  ∀ (buf : Buf) (tok : Tok) (st : PState), StOk T st → Buf3 T st.latex.length buf →
    Post' (expandInlineMath T fuel buf tok st) (fun r st' =>
      Fr T st st' ∧ ANC r.1 ∧ Buf3 T st.latex.length r.2)

def SpecDispLoop (fuel : Nat) : Prop :=
  ∀ (buf : Buf) (start : Nat) (envName : Str) (first next : Bool) (out : List Tok) (st : PState),
    StOk T st → Buf3 T st.latex.length buf → ANC out → (endFuncNames T).contains envName = false →
    Post' (displayLoop T fuel buf start envName first next out st) (fun r st' =>
      Fr T st st' ∧ ANC r.1 ∧ Buf3 T st.latex.length r.2.1 ∧ ANC r.2.2)

def SpecDisplay (fuel : Nat) : Prop :=
  ∀ (buf : Buf) (tok : Tok) (envName : Str) (remove : Bool) (st : PState),
    StOk T st → Buf3 T st.latex.length buf → (endFuncNames T).contains envName = false →
    Post' (expandDisplayMath T fuel buf tok envName remove st) (fun r st' =>
      Fr T st st' ∧ ANC r.1 ∧ Buf3 T st.latex.length r.2)

structure AllSpecs (fuel : Nat) : Prop where
  seq : SpecSeq T fuel
  text : SpecText T fuel
  envName : SpecEnvName T fuel
  begin_ : SpecBegin T fuel
  end_ : SpecEnd T fuel
  macro_ : SpecMacro T fuel
  args : SpecArgs T fuel
  item : SpecItem T fuel
  accent : SpecAccent T fuel
  work : SpecWork T fuel
  init : SpecInit T fuel
  modParams : SpecModParams T fuel
  keyvals : SpecKeyvals T fuel
  value : SpecValue T fuel
  expandKv : SpecExpandKv T fuel
  modDesc : SpecModDesc T fuel
  handler : SpecHandler T fuel
  mathSec : SpecMathSec T fuel
  inline : SpecInline T fuel
  dispLoop : SpecDispLoop T fuel
  display : SpecDisplay T fuel

end

end NoEmpty
end Yalafi
