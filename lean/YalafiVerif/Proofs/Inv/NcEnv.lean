/-
  Proofs/Inv/NcEnv.lean — helper lemmas for "no crash" (C07) used by StepEnv.lean:
  the shape of what `collectArgs` returns and the projections of `arityOk`.
  Everything lives in the namespace `Yalafi.NcEnv` (no clashes with the other helper files).
-/
import YalafiVerif.Proofs.Inv.Basic
namespace Yalafi
namespace NcEnv

variable (T : PTables)

theorem Post_and {α} (x : Outcome (α × PState)) (Q R : α → PState → Prop)
    (h1 : Post x Q) (h2 : Post x R) : Post x (fun a s => Q a s ∧ R a s) :=
  Yalafi.Post_and x Q R h1 h2

/-- one list per argument code; the list for a mandatory argument (`'A'`) is not empty -/
def Shape : List Char → List (List Tok) → Prop
  | [], [] => True
  | c :: cs, a :: as => (c = 'A' → a ≠ []) ∧ Shape cs as
  | _, _ => False

theorem Shape_length : ∀ (codes : List Char) (sa : List (List Tok)), Shape codes sa → sa.length = codes.length := by
  intro codes
  induction codes with
  | nil => intro sa h; cases sa with
    | nil => rfl
    | cons a as => simp [Shape] at h
  | cons c cs ih => intro sa h; cases sa with
    | nil => simp [Shape] at h
    | cons a as =>
      simp only [Shape] at h
      simp [ih as h.2]

theorem Shape_get : ∀ (codes : List Char) (sa : List (List Tok)), Shape codes sa →
    ∀ k : Nat, codes[k]? = some 'A' → ∃ a, sa[k]? = some a ∧ a ≠ [] := by
  intro codes
  induction codes with
  | nil => intro sa _ k hk; simp at hk
  | cons c cs ih => intro sa h k hk; cases sa with
    | nil => simp [Shape] at h
    | cons a as =>
      simp only [Shape] at h
      cases k with
      | zero =>
        simp only [List.getElem?_cons_zero, Option.some.injEq] at hk
        exact ⟨a, by simp, h.1 hk⟩
      | succ k =>
        simp only [List.getElem?_cons_succ] at hk ⊢
        exact ih as h.2 k hk

/-- what `collectArgs` appends to its accumulator -/
def Collected (codes : List Char) (acc r : Args) : Prop :=
  ∃ sa se, r.args = acc.args ++ sa ∧ r.extr = acc.extr ++ se ∧ se.length = codes.length ∧ Shape codes sa

theorem Collected_step (code : Char) (codes : List Char) (acc acc' r : Args) (x e : List Tok)
    (ha : acc'.args = acc.args ++ [x]) (he : acc'.extr = acc.extr ++ [e]) (hx : code = 'A' → x ≠ [])
    (h : Collected codes acc' r) : Collected (code :: codes) acc r := by
  obtain ⟨sa, se, h1, h2, h3, h4⟩ := h
  refine ⟨x :: sa, e :: se, ?_, ?_, ?_, ?_⟩
  · rw [h1, ha]; simp
  · rw [h2, he]; simp
  · simp [h3]
  · exact ⟨hx, h4⟩

theorem collectArgs_shape (mac : MacroDef) :
    ∀ (codes : List Char) (k : Nat) (buf : Buf) (pos : Nat) (acc : Args) (st : PState),
    Post (collectArgs T mac codes k buf pos acc st) (fun r _ => Collected codes acc r.1) := by
  intro codes
  induction codes with
  | nil =>
    intro k buf pos acc st
    simp only [collectArgs]
    apply Post_pure
    exact ⟨[], [], by simp, by simp, rfl, trivial⟩
  | cons code codes ih =>
    intro k buf pos acc st
    have step : ∀ (x e : List Tok) (langs : List Tok) (buf' : Buf) (pos' : Nat) (s : PState),
        (code = 'A' → x ≠ []) →
        Post (collectArgs T mac codes (k + 1) buf' pos'
          { args := acc.args ++ [x], extr := acc.extr ++ [e], langs := langs } s)
          (fun r _ => Collected (code :: codes) acc r.1) := by
      intro x e langs buf' pos' s hx
      refine Post_mono _ _ _ (ih (k + 1) buf' pos' _ s) ?_
      intro r _ h
      exact Collected_step code codes acc _ r.1 x e rfl rfl hx h
    simp only [collectArgs]
    cases htok : (skipSpace buf).head? <;> simp only []
    all_goals
    by_cases h1 : (code == '*') = true
    · have hne : code = 'A' → False := by
        intro e; rw [e] at h1; exact absurd h1 (by decide)
      rw [if_pos h1]
      repeat' split
      all_goals exact step _ _ _ _ _ _ (fun e => (hne e).elim)
    · rw [if_neg h1]
      by_cases h2 : (code == 'O') = true
      · have hne : code = 'A' → False := by
          intro e; rw [e] at h2; exact absurd h2 (by decide)
        rw [if_pos h2]
        repeat' split
        all_goals first
          | exact step _ _ _ _ _ _ (fun e => (hne e).elim)
          | (apply Post_bind _ _ _ (Q := fun _ _ => True)
             · exact Post_mono _ _ _ (argBuffer_ne_nil T.toTables _ _ _ st) (fun _ _ _ => trivial)
             · intro r s _
               exact step _ _ _ _ _ _ (fun e => (hne e).elim))
      · rw [if_neg h2]
        by_cases h3 : (code == 'A') = true
        · rw [if_pos h3]
          repeat' split
          all_goals first
            | exact step _ _ _ _ _ _ (fun _ => by simp)
            | (apply Post_bind _ _ _ (Q := fun r _ => r.1 ≠ [])
               · exact argBuffer_ne_nil T.toTables _ _ _ st
               · intro r s hr
                 exact step _ _ _ _ _ _ (fun _ => hr))
        · rw [if_neg h3]
          exact Post_fatal _ _ _

theorem collectArgs_shape0 (mac : MacroDef) (codes : List Char) (k : Nat) (buf : Buf) (pos : Nat) (st : PState) :
    Post (collectArgs T mac codes k buf pos {} st) (fun r _ =>
      r.1.args.length = codes.length ∧ r.1.extr.length = codes.length ∧
      ∀ i : Nat, codes[i]? = some 'A' → ∃ a, r.1.args[i]? = some a ∧ a ≠ []) := by
  refine Post_mono _ _ _ (collectArgs_shape T mac codes k buf pos {} st) ?_
  intro r _ h
  obtain ⟨sa, se, h1, h2, h3, h4⟩ := h
  have h1' : r.1.args = sa := by simpa using h1
  have h2' : r.1.extr = se := by simpa using h2
  rw [h1', h2']
  exact ⟨Shape_length _ _ h4, h3, Shape_get _ _ h4⟩

theorem macroToksOk_arity (m : MacroDef) (h : macroToksOk T m = true) : arityOk m = true := by
  simp only [macroToksOk, Bool.and_eq_true] at h
  exact h.2

theorem arityOk_handler (m : MacroDef) (h : arityOk m = true) : handlerArity m.handler ≤ m.args.length := by
  simp only [arityOk, Bool.and_eq_true, decide_eq_true_eq] at h
  exact h.1.1

theorem arityOk_needsA (m : MacroDef) (h : arityOk m = true) :
    ∀ k ∈ handlerNeedsA m.handler, m.args[k]? = some 'A' := by
  simp only [arityOk, Bool.and_eq_true, List.all_eq_true] at h
  intro k hk
  simpa using h.1.2 k hk

theorem arityOk_refs (m : MacroDef) (h : arityOk m = true) :
    ∀ t ∈ m.repl ++ m.extract, ∀ k, argRef t = some k → 1 ≤ k ∧ k ≤ m.args.length :=
  Yalafi.arityOk_refs m h

theorem HandlerArgs_of_shape (m : MacroDef) (args : List (List Tok)) (h : arityOk m = true)
    (hlen : args.length = m.args.length)
    (hA : ∀ i : Nat, m.args[i]? = some 'A' → ∃ a, args[i]? = some a ∧ a ≠ []) :
    HandlerArgs m.handler args := by
  refine ⟨?_, ?_⟩
  · rw [hlen]; exact arityOk_handler m h
  · intro k hk
    exact hA k (arityOk_needsA m h k hk)

theorem envOk_arity (e : MacroDef) (h : envOk T e = true) : handlerArity e.endFunc = 0 := by
  simp only [envOk, Bool.and_eq_true, decide_eq_true_eq] at h
  exact h.2

theorem HandlerArgs_nil (h : Handler) (h0 : handlerArity h = 0) : HandlerArgs h [] := by
  refine ⟨by rw [h0]; exact Nat.le_refl _, ?_⟩
  intro k hk
  cases h <;> simp [handlerArity, handlerNeedsA] at h0 hk

end NcEnv

variable (T : PTables)

/-- the arguments `expand_arguments` collects for a consistent definition: one argument and one
    extraction list per code, and what the handler of the macro may assume (`SpecHandler`) -/
theorem collectArgs_shape (mac : MacroDef) (hm : macroToksOk T mac = true) (buf : Buf) (pos : Nat) (st : PState) :
    Post (collectArgs T mac mac.args 0 buf pos {} st) (fun r _ =>
      r.1.args.length = mac.args.length ∧ r.1.extr.length = mac.args.length ∧
      HandlerArgs mac.handler r.1.args) := by
  refine Post_mono _ _ _ (NcEnv.collectArgs_shape0 T mac mac.args 0 buf pos st) ?_
  intro r _ ⟨h1, h2, hA⟩
  exact ⟨h1, h2, NcEnv.HandlerArgs_of_shape mac r.1.args (NcEnv.macroToksOk_arity T mac hm) h1 hA⟩

end Yalafi
