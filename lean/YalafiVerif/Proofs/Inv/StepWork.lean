/-
  Proofs/Inv/StepWork.lean — step lemmas of the range-invariant bundle: each shows the
  specification of one function at `fuel + 1` from all specifications at `fuel`.
-/
import YalafiVerif.Proofs.Inv.Basic
namespace Yalafi
set_option linter.unusedVariables false

variable (T : PTables)

/-! ### generic helpers (in namespace `StepWork` to avoid clashes with the other step files) -/
namespace StepWork

/-- `Post_bind` with implicit arguments -/
theorem pbind {α β} {x : M α} {f : α → M β} {st : PState} {R : β → PState → Prop}
    (Q : α → PState → Prop) (hx : Post (x st) Q) (hf : ∀ a s, Q a s → Post (f a s) R) :
    Post ((x >>= f) st) R := Post_bind x f st Q R hx hf

theorem ppure {α} {a : α} {st : PState} {Q : α → PState → Prop} (h : Q a st) :
    Post ((pure a : M α) st) Q := Post_pure a st Q h

theorem pmono {α} {x : Outcome (α × PState)} {Q R : α → PState → Prop}
    (h : Post x Q) (hi : ∀ a s, Q a s → R a s) : Post x R := Post_mono x Q R h hi

/-! ### `cap_first` -/

theorem BTok_upperTok (n : Nat) (t : Tok) (txt : Str) (h : BTok T n t) (hk : t.kind = .text) :
    BTok T n (upperTok t txt) := by
  obtain ⟨⟨hp, he, hc, hm⟩, hmath⟩ := h
  refine ⟨⟨hp, ?_, ?_, ?_⟩, ?_⟩
  · intro hf
    simp only [upperTok] at hf ⊢
    split at hf
    · cases hf
    · rename_i hl
      have hl' : txt.length = t.txt.length := by simpa using hl
      have := he hf
      simp only [extent, hk] at this ⊢
      omega
  · simp [ctlEmpty, upperTok, hk]
  · simp [mbOk, upperTok, hk]
  · simp [isMathTok, upperTok, hk]

theorem capFirst_BL (n : Nat) (toks ts : List Tok) (h : BL T n toks) (hc : capFirst T toks = some ts) :
    BL T n ts := by
  unfold capFirst at hc
  split at hc
  · cases hc; exact h
  · rename_i i hi
    split at hc
    · cases hc; exact h
    · rename_i t ht
      split at hc
      · cases hc
      · cases hc
        intro x hx
        rcases List.mem_or_eq_of_mem_set hx with hx | hx
        · exact h x hx
        · subst hx
          have hmem : t ∈ toks := List.mem_of_getElem? ht
          apply BTok_upperTok T n t _ (h t hmem)
          rw [List.findIdx?_eq_some_iff_getElem] at hi
          obtain ⟨hlt, hp, _⟩ := hi
          rw [List.getElem?_eq_getElem hlt] at ht
          cases ht
          simpa using hp

theorem Good_of_diags {T : PTables} {nroot : Nat} {st st' : PState} (hg : G T nroot st)
    (h : st' = { st with diags := st'.diags }) : Good T nroot st st' := by
  rw [h]; exact ⟨G_diags T nroot st _ hg, rfl, rfl⟩

theorem BL_cons {T : PTables} {n : Nat} {t : Tok} {ts : List Tok} :
    BL T n (t :: ts) ↔ BTok T n t ∧ BL T n ts := by
  simp [BL]

theorem BL_nil {T : PTables} {n : Nat} : BL T n [] := by simp [BL]

theorem parseValue_seq_BL (hw : T.WFInv) (n : Nat) (t : Tok) (a : List Tok) (ht : t.pos < n)
    (ha : BL T n a) :
    BL T n (match (generalizing := false) a with
      | [v] => if v.kind == .void then [] else
          [mkTok .special t.pos ['{'], v, mkTok .special v.pos ['}']]
      | s => [mkTok .special t.pos ['{']] ++ s ++ [mkTok .special ((s.getLast?.map (·.pos)).getD 0) ['}']]) := by
  have h0 : 0 < n := by omega
  have hS := fun p k hk hp => BTok_mkTok_special T hw n p k hk hp
  rcases a with _ | ⟨v, _ | ⟨w, tl⟩⟩
  · simp only [BL_cons, List.append_nil, List.nil_append, List.cons_append, List.getLast?_nil,
      Option.map_none, Option.getD_none]
    exact ⟨hS _ _ (by simp) ht, hS _ _ (by simp) h0, BL_nil⟩
  · have hv := ha v (by simp)
    dsimp only
    split
    · exact BL_nil
    · simp only [BL_cons]
      exact ⟨hS _ _ (by simp) ht, hv, hS _ _ (by simp) hv.1.1, BL_nil⟩
  · dsimp only
    rw [BL_append, BL_append]
    refine ⟨⟨?_, ha⟩, ?_⟩
    · simp only [BL_cons]; exact ⟨hS _ _ (by simp) ht, BL_nil⟩
    · simp only [BL_cons]
      refine ⟨hS _ _ (by simp) ?_, BL_nil⟩
      cases hl : (v :: w :: tl).getLast? with
      | none => simpa using h0
      | some l => simpa using (ha l (List.mem_of_getLast? hl)).1.1

theorem BL_sub {T : PTables} {n : Nat} {a b : List Tok} (hb : BL T n b) (h : a.Sublist b) : BL T n a :=
  fun t ht => hb t (h.subset ht)

theorem kvOk_snoc {T : PTables} {n : Nat} {acc : List (Str × Option (List Tok))} {k : Str}
    {v : Option (List Tok)} (ha : kvOk T n acc) (hv : ∀ ts, v = some ts → BL T n ts) :
    kvOk T n (acc ++ [(k, v)]) := by
  intro kv hkv ts hts
  rcases List.mem_append.1 hkv with h | h
  · exact ha kv h ts hts
  · simp only [List.mem_singleton] at h
    subst h
    exact hv ts hts

theorem pmodify {f : PState → PState} {st : PState} : Post (M.modify f st) (fun _ s => s = f st) :=
  Post_modify f st _ rfl

theorem G0_congr {T : PTables} {nroot : Nat} {st st' : PState} (h : G0 T nroot st)
    (hf : st'.foreign = st.foreign) (he : st'.extracted = st.extracted) (hm : st'.macros = st.macros)
    (hv : st'.envs = st.envs) (hgl : st'.glossary = st.glossary)
    (hi : st'.itemStack = st.itemStack) (hl : st'.langStack = st.langStack) (hr : st'.rots = st.rots)
    (hu : st'.unknowns = st.unknowns) :
    G0 T nroot st' := by
  refine ⟨?_, ?_, ?_, ?_, ?_, ?_, ?_, ?_⟩
  · rw [hf, he]; exact h.flows
  · rw [hm, hv]; exact h.macros
  · rw [hv]; exact h.envs
  · rw [hgl]; exact h.gloss
  · rw [hi]; exact h.items
  · rw [hl]; exact h.langs
  · unfold rotOf; rw [hr]; exact h.rots
  · rw [hu]; exact h.unk

theorem getTextExpanded_nil (T : PTables) (fuel : Nat) (st : PState) :
    Post (getTextExpanded T fuel [] st) (fun txt s => txt = [] ∧ s = st) := by
  cases fuel with
  | zero => rw [getTextExpanded.eq_1]; exact Post_outOfFuel _ _
  | succ fuel =>
    rw [getTextExpanded.eq_2]
    refine pbind (fun r s => r.1 = [] ∧ s = st) ?_ ?_
    · cases fuel with
      | zero => rw [expandSequence.eq_1]; exact Post_outOfFuel _ _
      | succ fuel =>
        rw [expandSequence.eq_2]
        have : removeLines [] = some [] := by decide
        rw [this]
        exact ppure ⟨rfl, rfl⟩
    · rintro r s ⟨hr, rfl⟩
      refine ppure ⟨?_, rfl⟩
      rw [hr]; rfl

section
variable (nroot : Nat)

theorem injOk_babel (opts : List KeyVal) : injOk (babelLanguageToken T opts) := by
  unfold babelLanguageToken
  split
  · intro t ht
    simp only [List.mem_singleton] at ht
    subst ht
    exact Or.inl ⟨rfl, rfl⟩
  · intro t ht; cases ht

theorem injOk_latexErrorToks (T' : Tables) (err : Str) (pos n : Nat) : injOk (latexErrorToks T' err pos n) := by
  unfold latexErrorToks
  intro t ht
  dsimp only at ht
  split at ht
  · simp only [List.mem_cons, List.not_mem_nil, or_false] at ht
    rcases ht with rfl | rfl <;> exact Or.inr ⟨rfl, rfl⟩
  · simp only [List.mem_singleton] at ht
    subst ht
    exact Or.inr ⟨rfl, rfl⟩

theorem injOk_nil : injOk [] := by intro t ht; cases ht

theorem injOk_append {a b : List Tok} (ha : injOk a) (hb : injOk b) : injOk (a ++ b) := by
  intro t ht
  rcases List.mem_append.1 ht with h | h
  · exact ha t h
  · exact hb t h

theorem G_of_G0_Same {T : PTables} {nroot : Nat} {st st' : PState} (hg : G T nroot st) (h0 : G0 T nroot st')
    (hs : Same st st') : Good T nroot st st' := by
  refine ⟨⟨h0, ?_, ?_⟩, hs⟩
  · rw [hs.1, hs.2]; exact hg.root
  · rw [hs.2]; exact hg.inFrame

theorem modParams_core (fuel : Nat) (IHwork : SpecWork T nroot fuel) :
    SpecModParams T nroot (fuel + 1) := by
  intro md options position st hg hm he
  rw [modifyParameters.eq_2]
  refine Post_ite _ _ _ _ _ (fun _ => ?_) (fun _ => ?_)
  · exact Post_crash _ _ _ (by simp [allowedCrash])
  · apply Post_get_bind
    dsimp only
    have hinj0 : injOk (if md.babelInject = true then babelLanguageToken T (st.globalOptions ++ options) else []) := by
      split
      · exact injOk_babel T _
      · exact injOk_nil
    generalize (if md.babelInject = true then babelLanguageToken T (st.globalOptions ++ options) else []) = inject0
      at hinj0 ⊢
    -- cleveref's warning: an error mark, only the diagnostics change
    refine pbind (fun c s => Good T nroot st s ∧ injOk c) ?_ ?_
    · refine Post_ite _ _ _ _ _ (fun _ => ?_) (fun _ => ?_)
      · exact ⟨⟨G_diags T nroot st _ hg, rfl, rfl⟩, injOk_latexErrorToks _ _ _ _⟩
      · exact ppure ⟨Good_refl T _ _ hg, injOk_nil⟩
    intro cinj s0 ⟨hgood0, hcinj⟩
    have hg0 := hgood0.1
    have hinj : injOk (inject0 ++ cinj) := injOk_append hinj0 hcinj
    generalize inject0 ++ cinj = inject at hinj ⊢
    refine pbind _ pmodify ?_
    intro _ s1 hs1
    have hgood1 : Good T nroot s0 s1 := by
      refine ⟨⟨⟨?_, ?_, ?_, ?_, ?_, ?_, ?_, ?_⟩, ?_, ?_⟩, ?_, ?_⟩ <;> rw [hs1]
      · exact hg0.flows
      · intro m hmem
        rcases List.mem_append.1 hmem with h | h
        · rcases foldl_setMacro_mem _ _ _ h with h | h
          · exact hg0.macros m (by simp [h])
          · exact hm m (by simp [h])
        · rcases foldl_setMacro_mem _ _ _ h with h | h
          · exact hg0.macros m (by simp [h])
          · exact hm m (by simp [h])
      · intro e hmem
        rcases foldl_setMacro_mem _ _ _ hmem with h | h
        · exact hg0.envs e h
        · exact he e h
      · exact hg0.gloss
      · exact hg0.items
      · exact hg0.langs
      · exact hg0.rots
      · exact hg0.unk
      · exact hg0.root
      · exact hg0.inFrame
    clear hs1
    refine Post_ite _ _ _ _ _ (fun _ => ?_) (fun _ => ?_)
    · have hw1 := IHwork md.macrosLatex s1 hgood1.1.toG0 (fun h => absurd h hgood1.1.inFrame) hgood1.1.root
      refine pbind _ hw1 ?_
      intro _ s2 ⟨g0, hs, _⟩
      exact ppure ⟨Good_trans T _ _ _ _ hgood0 (Good_trans T _ _ _ _ hgood1 (G_of_G0_Same hgood1.1 g0 hs)), hinj⟩
    · exact ppure ⟨Good_trans T _ _ _ _ hgood0 hgood1, hinj⟩
theorem init_core (P : ModuleDef → Prop) (fuel : Nat)
    (hfound : ∀ requ, P ((findModule T false requ).getD (emptyModule requ)))
    (IHmod : ∀ (md : ModuleDef) (options : List KeyVal) (position : Nat) (st : PState), G T nroot st → P md →
      Post (modifyParameters T fuel md options position st) (fun r st' => Good T nroot st st' ∧ injOk r))
    (IHinit : ∀ (name : Str) (md : ModuleDef) (builtin : Bool) (options : List KeyVal) (position : Nat)
      (st : PState), G T nroot st → P md →
      Post (initPackage T fuel name md builtin options position st) (fun r st' => Good T nroot st st' ∧ injOk r))
    (name : Str) (md : ModuleDef) (builtin : Bool) (options : List KeyVal) (position : Nat) (st : PState)
    (hg : G T nroot st) (hmd : P md) :
    Post (initPackage T (fuel + 1) name md builtin options position st)
      (fun r st' => Good T nroot st st' ∧ injOk r) := by
  rw [initPackage.eq_2]
  apply Post_get_bind
  refine Post_ite _ _ _ _ _ (fun _ => ?_) (fun _ => ?_)
  · exact ppure ⟨Good_refl T _ _ hg, injOk_nil⟩
  · apply Post_catchAll
    refine pbind (fun acc s => Good T nroot st s ∧ injOk acc) ?_ ?_
    · apply Post_foldlM
      · exact ⟨Good_refl T _ _ hg, injOk_nil⟩
      · intro acc requ s _ ⟨hgood, hacc⟩
        apply Post_get_bind
        dsimp only
        refine Post_ite _ _ _ _ _ (fun _ => ?_) (fun _ => ?_)
        · refine pbind _ (IHinit requ _ false options position s hgood.1 (hfound requ)) ?_
          intro o s' ⟨g', ho⟩
          exact ppure ⟨Good_trans T _ _ _ _ hgood g', injOk_append hacc ho⟩
        · exact ppure ⟨hgood, hacc⟩
    · intro reqOut s ⟨hgood, hacc⟩
      dsimp only
      have hjp : ∀ s1, Good T nroot st s1 →
          Post ((do let o ← modifyParameters T fuel md options position; pure (reqOut ++ o)) s1)
            (fun r st' => Good T nroot st st' ∧ injOk r) := by
        intro s1 hgood1
        refine pbind _ (IHmod md options position s1 hgood1.1 hmd) ?_
        intro o s' ⟨g', ho⟩
        exact ppure ⟨Good_trans T _ _ _ _ hgood1 g', injOk_append hacc ho⟩
      refine Post_ite _ _ _ _ _ (fun _ => ?_) (fun _ => ?_)
      · refine pbind _ pmodify ?_
        intro _ s1 hs1
        refine hjp s1 ?_
        rw [hs1]
        exact Good_trans T _ _ _ _ hgood ⟨⟨G0_congr hgood.1.toG0 rfl rfl rfl rfl rfl rfl rfl rfl rfl, hgood.1.root, hgood.1.inFrame⟩, rfl, rfl⟩
      · exact hjp s hgood

theorem found_macrosOk (hw : T.WFInv) (cls : Bool) (requ : Str) :
    ∀ m ∈ ((findModule T cls requ).getD (emptyModule requ)).macros ++
      ((findModule T cls requ).getD (emptyModule requ)).envs, macroToksOk T m = true := by
  cases h : findModule T cls requ with
  | none => intro m hm; simp [emptyModule] at hm
  | some md => exact hw.modules_ok md (findModule_mem T h)

theorem found_envsOk (hw : T.WFInv) (cls : Bool) (requ : Str) :
    ∀ e ∈ ((findModule T cls requ).getD (emptyModule requ)).envs, envOk T e = true := by
  cases h : findModule T cls requ with
  | none => intro m hm; simp [emptyModule] at hm
  | some md =>
    intro e he
    refine hw.envs_ok e ?_
    unfold allTableEnvs
    exact List.mem_append.2 (Or.inr (List.mem_flatMap.2 ⟨md, findModule_mem T h, he⟩))

end

end StepWork
open StepWork

theorem work_step (hw : T.WFInv) (nroot fuel : Nat) (IH : AllSpecs T nroot fuel) :
    SpecWork T nroot (fuel + 1) := by
  intro latex st hg h0 h1
  rw [parserWork.eq_2]
  apply Post_get_bind
  refine pbind _ pmodify ?_
  intro _ s1 hs1
  refine pbind _ pmodify ?_
  intro _ s2 hs2
  rw [hs1] at hs2
  clear hs1 s1
  have hl2 : s2.latex = latex := by rw [hs2]
  have hn2 : s2.nest = st.nest + 1 := by rw [hs2]
  have hG2 : G T nroot s2 := by
    refine ⟨G0_congr hg (by rw [hs2]) (by rw [hs2]) (by rw [hs2]) (by rw [hs2]) (by rw [hs2])
      (by rw [hs2]) (by rw [hs2]) (by rw [hs2]) (by rw [hs2]), ?_, ?_⟩
    · rw [hn2, hl2]; intro h; exact h0 (by omega)
    · rw [hn2]; omega
  clear hs2
  apply Post_get_bind
  refine pbind (fun toks s3 => BL T latex.length toks ∧ s3 = { s2 with diags := s3.diags }) ?_ ?_
  · have hsp := skipPass_BL T latex.length s2 ((scan T.toTables latex).toks.length + 1)
      (scan T.toTables latex).toks [] (scan_BL T hw latex) BL_nil
    generalize skipPass s2 _ _ _ = sp at hsp ⊢
    obtain ⟨p1, p2, p3⟩ := hsp
    cases hb : sp.2.1 with
    | none => exact ppure ⟨p1, rfl⟩
    | some bpos =>
      dsimp only
      have hlt := p3 bpos hb
      refine pbind _ (latexError_spec T hw _ bpos s2 (by rw [hl2]; exact hlt)) ?_
      intro er s3 ⟨he, hs3⟩
      rw [hl2] at he
      exact ppure ⟨by rw [BL_append, BL_append]; exact ⟨⟨p1, OL_BL T _ _ he⟩, p2⟩, hs3⟩
  · intro toks s3 ⟨ht, hs3⟩
    have hgood3 := Good_of_diags hG2 hs3
    have hl3 : s3.latex = latex := by rw [hgood3.2.1, hl2]
    refine pbind _ (IH.seq toks none [] s3 hgood3.1 (by rw [hl3]; exact ht) (by intro x hx; cases hx)) ?_
    intro r s4 ⟨g4, _, _, ho⟩
    refine pbind _ pmodify ?_
    intro _ s5 hs5
    refine ppure ⟨?_, ⟨?_, ?_⟩, ?_⟩
    · rw [hs5]; exact G0_congr g4.1.toG0 rfl rfl rfl rfl rfl rfl rfl rfl rfl
    · rw [hs5]
    · rw [hs5]; show s4.nest - 1 = st.nest; rw [g4.2.2, hgood3.2.2, hn2]; omega
    · have := ho rfl; rw [hl3] at this; exact this


theorem init_step (hw : T.WFInv) (nroot fuel : Nat) (IH : AllSpecs T nroot fuel) :
    SpecInit T nroot (fuel + 1) := by
  intro name md builtin options position st hg hm he
  exact init_core T nroot
    (fun md => (∀ m ∈ md.macros ++ md.envs, macroToksOk T m = true) ∧ (∀ e ∈ md.envs, envOk T e = true)) fuel
    (fun requ => ⟨found_macrosOk T hw false requ, found_envsOk T hw false requ⟩)
    (fun md o p st hg hp => IH.modParams md o p st hg hp.1 hp.2)
    (fun nm md b o p st hg hp => IH.init nm md b o p st hg hp.1 hp.2)
    name md builtin options position st hg ⟨hm, he⟩

theorem modParams_step (hw : T.WFInv) (nroot fuel : Nat) (IH : AllSpecs T nroot fuel) :
    SpecModParams T nroot (fuel + 1) := by
  exact modParams_core T nroot fuel IH.work

theorem keyvals_step (hw : T.WFInv) (nroot fuel : Nat) (IH : AllSpecs T nroot fuel) :
    SpecKeyvals T nroot (fuel + 1) := by
  intro buf acc st hg hb ha
  rw [parseKeyvals.eq_2]
  have hsk := BL_skipSpace T _ _ hb
  cases hb' : skipSpace buf with
  | nil => exact ppure ⟨Good_refl T _ _ hg, ha⟩
  | cons t0 l0 =>
    rw [hb'] at hsk
    dsimp only
    generalize t0 :: l0 = b at hsk
    refine pbind (fun _ s => Good T nroot st s)
      (IH.text _ st hg (BL_sub hsk (List.takeWhile_sublist _))) ?_
    intro key s hgood
    have hlen := Good_len _ hgood
    have hb1 := BL_skipSpace T _ _ (BL_sub hsk (List.drop_sublist
      (List.takeWhile (fun t => t.kind == Kind.text && !(txtIs t "=" || txtIs t ",")) b).length b))
    have hnone : kvOk T st.latex.length (acc ++ [(key, none)]) :=
      kvOk_snoc ha (by intro ts h; cases h)
    cases hb1' : skipSpace (List.drop
      (List.takeWhile (fun t => t.kind == Kind.text && !(txtIs t "=" || txtIs t ",")) b).length b) with
    | nil => exact ppure ⟨hgood, hnone⟩
    | cons t rest =>
      rw [hb1'] at hb1
      have hrest : BL T st.latex.length rest := fun x hx => hb1 x (by simp [hx])
      dsimp only
      refine Post_ite _ _ _ _ _ (fun _ => ?_) (fun _ => ?_)
      · refine pmono (IH.keyvals rest _ s hgood.1 (by rw [hlen]; exact hrest) (by rw [hlen]; exact hnone)) ?_
        intro a s' ⟨g, k⟩
        rw [hlen] at k
        exact ⟨Good_trans T _ _ _ _ hgood g, k⟩
      · refine pbind _ (IH.value (skipSpace rest) [] s hgood.1
          (by rw [hlen]; exact BL_skipSpace T _ _ hrest) BL_nil) ?_
        intro r s2 ⟨g2, r1, r2⟩
        rw [hlen] at r1 r2
        have hgood2 := Good_trans T _ _ _ _ hgood g2
        have hlen2 := Good_len _ hgood2
        refine pmono (IH.keyvals _ _ s2 hgood2.1 (by rw [hlen2]; exact BL_sub r2 (List.drop_sublist 1 _))
          (by
            rw [hlen2]
            refine kvOk_snoc ha ?_
            intro ts hts
            cases hts
            split
            · split
              · exact BL_sub r1 (List.dropLast_sublist _)
              · exact r1
            · exact r1)) ?_
        intro a s' ⟨g, k⟩
        rw [hlen2] at k
        exact ⟨Good_trans T _ _ _ _ hgood2 g, k⟩


theorem value_step (hw : T.WFInv) (nroot fuel : Nat) (IH : AllSpecs T nroot fuel) :
    SpecValue T nroot (fuel + 1) := by
  intro buf val st hg hb hv
  cases buf with
  | nil => rw [parseValue.eq_2]; exact ppure ⟨Good_refl T _ _ hg, hv, BL_nil⟩
  | cons t rest =>
    rw [parseValue.eq_3]
    have ht := (hb t (by simp)).1.1
    refine Post_ite _ _ _ st _ (fun _ => ?_) (fun _ => ?_)
    · exact ppure ⟨Good_refl T _ _ hg, hv, hb⟩
    · refine Post_ite _ _ _ st _ (fun _ => ?_) (fun _ => ?_)
      · refine pbind _ (argBuffer_spec T hw (t :: rest) 0 true st hb (by omega)) ?_
        intro r s ⟨h1, _, h2, hs⟩
        have hgood := Good_of_diags hg hs
        have hlen := Good_len _ hgood
        refine Post_ite _ _ _ s _ (fun _ => ?_) (fun _ => ?_)
        · -- no closing brace: the brace is an ordinary token of the value
          refine pmono (IH.value (r.2.drop 1) _ s hgood.1
            (by rw [hlen]; exact BL_sub h2 (List.drop_sublist 1 _)) ?_) ?_
          · rw [hlen, BL_append]
            exact ⟨hv, by simp only [BL_cons]; exact ⟨hb t (by simp), BL_nil⟩⟩
          · intro a s' ⟨g, b1, b2⟩
            rw [hlen] at b1 b2
            exact ⟨Good_trans T _ _ _ _ hgood g, b1, b2⟩
        · refine pmono (IH.value r.2 _ s hgood.1 (by rw [hlen]; exact h2) ?_) ?_
          · rw [hlen, BL_append]
            exact ⟨hv, parseValue_seq_BL T hw _ t r.1 ht h1⟩
          · intro a s' ⟨g, b1, b2⟩
            rw [hlen] at b1 b2
            exact ⟨Good_trans T _ _ _ _ hgood g, b1, b2⟩
      · refine IH.value rest _ st hg ?_ ?_
        · exact fun x hx => hb x (by simp [hx])
        · rw [BL_append]; exact ⟨hv, by simp only [BL_cons]; exact ⟨hb t (by simp), BL_nil⟩⟩


theorem expandKv_step (hw : T.WFInv) (nroot fuel : Nat) (IH : AllSpecs T nroot fuel) :
    SpecExpandKv T nroot (fuel + 1) := by
  intro kvs st hg hk
  cases kvs with
  | nil => rw [expandKeyvals.eq_2]; exact Post_pure _ _ _ (Good_refl T _ _ hg)
  | cons kv kvs =>
    obtain ⟨k, v⟩ := kv
    have hrest : ∀ s, Good T nroot st s →
        Post (expandKeyvals T fuel kvs s) (fun _ s' => Good T nroot st s') := by
      intro s h
      have := IH.expandKv kvs s h.1 (by rw [h.2.1]; intro kv hkv; exact hk kv (by simp [hkv]))
      exact Post_mono _ _ _ this (fun a s' h' => Good_trans T _ _ _ _ h h')
    cases v with
    | none =>
      rw [expandKeyvals.eq_3]
      refine pbind (fun _ s => Good T nroot st s) (ppure (Good_refl T _ _ hg)) ?_
      intro a s h
      refine pbind (fun _ s' => Good T nroot st s') (hrest s h) ?_
      intro a s h; exact ppure h
    | some toks =>
      rw [expandKeyvals.eq_4]
      refine pbind (fun _ s => Good T nroot st s) ?_ ?_
      · refine pbind (fun _ s => Good T nroot st s) ?_ ?_
        · exact IH.text toks st hg (hk (k, some toks) (by simp) _ rfl)
        · intro a s h; exact ppure h
      · intro a s h
        refine pbind (fun _ s' => Good T nroot st s') (hrest s h) ?_
        intro a s h; exact ppure h

theorem modDesc_step (hw : T.WFInv) (nroot fuel : Nat) (IH : AllSpecs T nroot fuel) :
    SpecModDesc T nroot (fuel + 1) := by
  intro toks st hg hb
  rw [modifyDescription.eq_2]
  cases hc : capFirst T toks with
  | none => exact Post_crash _ _ _ (by simp [allowedCrash])
  | some ts =>
    dsimp only
    have hts := capFirst_BL T _ _ _ hb hc
    by_cases hnil : ts = []
    · -- `toks[-1]` is never evaluated: the expanded text of no tokens is empty
      subst hnil
      refine pbind _ (getTextExpanded_nil T fuel st) ?_
      rintro txt s ⟨rfl, rfl⟩
      exact ppure ⟨Good_refl T _ _ hg, hts⟩
    refine pbind (fun _ s => Good T nroot st s) (IH.text ts st hg hts) ?_
    intro txt s h
    cases txt.getLast? with
    | none => exact ppure ⟨h, hts⟩
    | some c =>
      dsimp only
      refine Post_ite _ _ _ _ _ (fun _ => ?_) (fun _ => ?_)
      · exact ppure ⟨h, hts⟩
      · cases hl : ts.getLast? with
        | none => exact absurd (List.getLast?_eq_none_iff.1 hl) hnil
        | some l =>
          refine ppure ⟨h, ?_⟩
          rw [BL_append]
          refine ⟨hts, ?_⟩
          intro x hx
          simp only [List.mem_singleton] at hx
          subst hx
          have hlm : l ∈ ts := List.mem_of_getLast? hl
          exact OTok_BTok T _ _ (OTok_mkFix T _ _ _ _ (hts l hlm).1.1 (Or.inl rfl))

end Yalafi
