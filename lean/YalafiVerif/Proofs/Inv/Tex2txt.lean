/-
  Proofs/Inv/Tex2txt.lean — C01, C07 and C19 for `tex2txt` as a whole, from the bundle.
-/
import YalafiVerif.Proofs.Inv.Main
namespace Yalafi

variable (T : PTables)

def PartOk (n : Nat) (tp : Str × List Nat) : Prop :=
  tp.1.length = tp.2.length ∧ ∀ p ∈ tp.2, 1 ≤ p ∧ p ≤ n

theorem partOk_shift (n : Nat) (txt : Str) (pos : List Nat) (hl : txt.length = pos.length)
    (hr : ∀ p ∈ pos, p < n) : PartOk n (txt, pos.map (· + 1)) := by
  refine ⟨by simpa using hl, ?_⟩
  intro p hp
  simp only [List.mem_map] at hp
  obtain ⟨q, hq, rfl⟩ := hp
  have := hr q hq
  omega

theorem filter_inRange (n : Nat) (toks : List Tok)
    (h : ∀ t ∈ toks, t.txt ≠ [] → TokInRange n t) :
    ∀ t ∈ toks.filter (fun t => !isLangTok t), t.txt ≠ [] → TokInRange n t :=
  fun t ht => h t (List.mem_filter.1 ht).1

/-- C01 on the model of the whole filter, for every source text, option record, file system
    and fuel: whenever `tex2txt` returns (and no text flow was extracted outside the root
    document — ghost flag, never set with the bundled modules), text and position list have
    equal length and every position lies in `1 … len(source)`; with `--unkn` only the
    lengths are claimed. -/
theorem tex2txt_inRange (hw : T.WFInv) (fuel : Nat) (latex : Str) (o : Options) (multi : Bool)
    (thresh : Nat) (fs : FS) :
    match tex2txt T fuel latex o multi thresh fs with
    | .ok r =>
      r.txt.length = r.pos.length ∧
      (r.foreign = false → o.unkn = false → PartOk latex.length (r.txt, r.pos)) ∧
      (r.foreign = false → ∀ tp ∈ allParts r.parts, PartOk latex.length tp)
    | _ => True := by
  have hp := parse_inRange T hw fuel latex o multi fs
  rw [tex2txt_eq_run]
  revert hp
  generalize runT2T T fuel latex o multi fs = out
  intro hp
  rcases out with ⟨toks, st⟩ | m | c | _
  case fatal => trivial
  case crash => trivial
  case outOfFuel => trivial
  simp only [Post] at hp
  simp only [finishT2T]
  cases multi with
  | false =>
    simp only [Bool.not_false, if_true]
    have hl := getTxtPos_length toks
    have hrp := replacePhrases_ok T.toTables _ _ o.repl hl
    refine ⟨?_, ?_, ?_⟩
    · cases o.unkn <;> cases o.hasRepl <;> simp [hl, hrp.1]
    · intro hf hu
      have hr := getTxtPos_range latex.length toks (hp.1 hf)
      simp only [hu, Bool.false_eq_true, if_false]
      cases o.hasRepl with
      | false => exact partOk_shift _ _ _ hl hr
      | true => exact partOk_shift _ _ _ hrp.1 (fun p h => hr p (hrp.2 p h))
    · intro _ tp htp
      simp [allParts] at htp
  | true =>
    simp only [Bool.not_true, Bool.false_eq_true, if_false]
    cases hml : getTxtPosML toks o.lang thresh (List.map (fun r => (r.code, r.chg)) st.rots) with
    | none => trivial
    | some pr =>
      obtain ⟨parts, lc'⟩ := pr
      dsimp only
      refine ⟨rfl, fun _ _ => ⟨rfl, fun p hp => by cases hp⟩, ?_⟩
      intro hf tp htp
      have hparts := getTxtPosML_parts toks o.lang thresh _ lc' parts hml
      have hr := getTxtPos_range latex.length _ (filter_inRange latex.length toks (hp.1 hf))
      simp only [allParts, List.map_map, List.mem_flatten, List.mem_map, Function.comp] at htp
      obtain ⟨l, ⟨e, he, rfl⟩, hl⟩ := htp
      simp only [List.mem_map] at hl
      obtain ⟨tp0, htp0, rfl⟩ := hl
      split at htp0
      · simp only [List.mem_map] at htp0
        obtain ⟨tp1, htp1, rfl⟩ := htp0
        have h1 := hparts tp1 (by
          simp only [allParts, List.mem_flatten, List.mem_map]
          exact ⟨e.2, ⟨e, he, rfl⟩, htp1⟩)
        have hrp := replacePhrases_ok T.toTables tp1.1 tp1.2 o.repl h1.1
        exact partOk_shift _ _ _ hrp.1 (fun p h => hr p (h1.2 p (hrp.2 p h)))
      · have h1 := hparts tp0 (by
          simp only [allParts, List.mem_flatten, List.mem_map]
          exact ⟨e.2, ⟨e, he, rfl⟩, htp0⟩)
        exact partOk_shift _ _ _ h1.1 (fun p h => hr p (h1.2 p h))

/-- the `lang_change` table handed to the splitter is well formed: one entry per language,
    non-empty, 'en' present -/
theorem langChangeOk_of_G0 (hw : T.WFInv) (nroot : Nat) (st : PState) (h : G0 T nroot st) :
    LangChangeOk (st.rots.map (fun r => (r.code, r.chg))) := by
  refine ⟨?_, ?_⟩
  · intro e he
    simp only [List.mem_map] at he
    obtain ⟨r, hr, rfl⟩ := he
    exact (h.rots.2 r hr).2.2
  · have hen := hw.lang_en
    unfold settingsOf at hen
    rw [List.find?_isSome] at hen
    obtain ⟨ls, hls, hc⟩ := hen
    have h1 := h.rots.1 ls hls
    unfold rotOf at h1
    rw [List.find?_isSome] at h1
    obtain ⟨r, hr, hrc⟩ := h1
    simp only [List.map_map, List.mem_map, Function.comp]
    refine ⟨r, hr, ?_⟩
    have e1 : r.code = ls.code := by simpa using hrc
    have e2 : ls.code = "en".toList := by simpa using hc
    rw [e1, e2]

/-- C07 on the model: whatever the source, options, files and fuel, the filter model never ends
    in a Python exception outside the listed sites (`allowedCrash`: code that is not modelled, and
    the sites whose unreachability is not proved). -/
theorem tex2txt_crashSites (hw : T.WFInv) (fuel : Nat) (latex : Str) (o : Options) (multi : Bool)
    (thresh : Nat) (fs : FS) (site : String)
    (h : tex2txt T fuel latex o multi thresh fs = .crash site) : site ∈ allowedCrash := by
  have hp := parse_inRange T hw fuel latex o multi fs
  rcases tex2txt_crash h with hr | ⟨_, toks, st, hr, hml⟩
  · rw [hr] at hp; exact hp
  · rw [hr] at hp
    have htot := getTxtPosML_total toks o.lang thresh _ (langChangeOk_of_G0 T hw _ st hp.2)
    rw [hml] at htot; cases htot

/-- C19 on the model: the list of unknowns returned by the filter never names a macro or
    environment twice, whatever the input -/
theorem tex2txt_unknowns_nodup (hw : T.WFInv) (fuel : Nat) (latex : Str) (o : Options) (multi : Bool)
    (thresh : Nat) (fs : FS) (r : T2TResult)
    (h : tex2txt T fuel latex o multi thresh fs = .ok r) : r.unknowns.Nodup := by
  obtain ⟨st, hr, hu, _⟩ := tex2txt_ok h
  have hp := parse_inRange T hw fuel latex o multi fs
  rw [hr] at hp
  rw [hu]; exact hp.2.unk

end Yalafi
