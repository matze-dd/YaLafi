/-
  Proofs/Inv/StepHandler.lean — step lemmas of the range-invariant bundle: each shows the
  specification of one function at `fuel + 1` from all specifications at `fuel`.
-/
import YalafiVerif.Proofs.Inv.Basic
namespace Yalafi

variable (T : PTables)

/- helper lemmas live in their own namespace to avoid clashes with the other step files -/
namespace HandlerStep


theorem BL_last_pos {n : Nat} {a : List Tok} {l : Tok} (ha : BL T n a) (h : a.getLast? = some l) : l.pos < n :=
  (ha l (List.mem_of_getLast? h)).1.1

theorem BL_head_pos {n : Nat} {a : List Tok} {l : Tok} (ha : BL T n a) (h : a.head? = some l) : l.pos < n :=
  (ha l (List.mem_of_mem_head? (by simp [h]))).1.1

theorem BTok_mkFix_text (n p : Nat) (txt : Str) (h : p < n) : BTok T n (mkFix .text p txt) :=
  OTok_BTok T n _ (OTok_mkFix T n p .text txt h (Or.inl rfl))

theorem BTok_mkFix_space (n p : Nat) (txt : Str) (h : p < n) : BTok T n (mkFix .space p txt) :=
  OTok_BTok T n _ (OTok_mkFix T n p .space txt h (Or.inr (Or.inl rfl)))

theorem BTok_mkAction (n p : Nat) (h : p < n) : BTok T n (mkAction p) :=
  OTok_BTok T n _ (OTok_mkAction T n p h)

theorem BTok_mkLang (n p : Nat) (l : Str) (b h k : Bool) (hp : p < n) : BTok T n (mkLang p l b h k) :=
  OTok_BTok T n _ (OTok_mkLang T n p l b h k hp)

theorem BTok_mkTok1_text (n p : Nat) (c : Char) (h : p < n) : BTok T n (mkTok .text p [c]) :=
  OTok_BTok T n _ (OTok_mkTok1 T n p .text c h (Or.inl rfl))

theorem BTok_mkTok1_space (n p : Nat) (c : Char) (h : p < n) : BTok T n (mkTok .space p [c]) :=
  OTok_BTok T n _ (OTok_mkTok1 T n p .space c h (Or.inr rfl))

theorem BTok_mkTok_xmacro (n p : Nat) (txt : Str) (h : p < n) : BTok T n (mkTok .xmacro p txt) := by
  simp [BTok, TokOk, mkTok, extent, ctlEmpty, mbOk, isMathTok, h]
  omega


theorem Good_trans {nroot : Nat} {st0 s s' : PState} (h0 : Good T nroot st0 s) (h1 : Good T nroot s s') :
    Good T nroot st0 s' :=
  ⟨h1.1, h1.2.1.trans h0.2.1, h1.2.2.trans h0.2.2⟩

/-- the local `arg k` of `callHandler`, bound to a continuation: the index is in range, so the
    `handler:args[k]` crash is unreachable -/
theorem Post_argBind {β} (args : List (List Tok)) (k : Nat) (f : List Tok → M β) (st : PState)
    (R : β → PState → Prop) (hk : k < args.length)
    (h : ∀ a ∈ args, args[k]? = some a → Post (f a st) R) :
    Post (((match args[k]? with
            | some a => pure a
            | none => M.crash "handler:args[k]" : M (List Tok)) >>= f) st) R := by
  apply Post_bind _ _ _ (fun a s => s = st ∧ a ∈ args ∧ args[k]? = some a)
  · rw [List.getElem?_eq_getElem hk]
    exact Post_pure _ _ _ ⟨rfl, List.getElem_mem hk, rfl⟩
  · rintro a s ⟨rfl, ha, he⟩
    exact h a ha he

theorem arity_lt {h : Handler} {args : List (List Tok)} {k : Nat} (hh : HandlerArgs h args)
    (hk : k < handlerArity h) : k < args.length :=
  Nat.lt_of_lt_of_le hk hh.1

/-- an argument a handler takes the first/last token of is not empty -/
theorem needsA_ne_nil {h : Handler} {args : List (List Tok)} {k : Nat} {a : List Tok} (hh : HandlerArgs h args)
    (hk : k ∈ handlerNeedsA h) (he : args[k]? = some a) : a ≠ [] := by
  obtain ⟨a', h1, h2⟩ := hh.2 k hk
  rw [he] at h1
  cases h1
  exact h2

/-- `h_cite` (biblatex) finds `args[1]`, `args[2]` -/
theorem bibCite_ne_none (args : List (List Tok)) (pos : Nat) (h : 3 ≤ args.length) :
    bibCite T args pos ≠ none := by
  unfold bibCite
  rw [List.getElem?_eq_getElem (show 1 < args.length by omega),
    List.getElem?_eq_getElem (show 2 < args.length by omega)]
  simp


theorem G_setMacros {nroot : Nat} {s : PState} (hg : G T nroot s) (m : MacroDef) (hm : macroToksOk T m = true) :
    G T nroot { s with macros := setMacro s.macros m } := by
  refine { flows := hg.flows, macros := ?_, envs := hg.envs, gloss := hg.gloss, root := hg.root,
           inFrame := hg.inFrame, items := hg.items, langs := hg.langs, rots := hg.rots, unk := hg.unk }
  intro x hx
  rcases List.mem_append.mp hx with hx | hx
  · rcases setMacro_mem _ _ _ hx with hx | rfl
    · exact hg.macros x (List.mem_append_left _ hx)
    · exact hm
  · exact hg.macros x (List.mem_append_right _ hx)

theorem G_setEnvs {nroot : Nat} {s : PState} (hg : G T nroot s) (m : MacroDef) (hm : macroToksOk T m = true)
    (he : envOk T m = true) :
    G T nroot { s with envs := setMacro s.envs m } := by
  refine { flows := hg.flows, macros := ?_, envs := ?_, gloss := hg.gloss, root := hg.root,
           inFrame := hg.inFrame, items := hg.items, langs := hg.langs, rots := hg.rots, unk := hg.unk }
  · intro x hx
    rcases List.mem_append.mp hx with hx | hx
    · exact hg.macros x (List.mem_append_left _ hx)
    · rcases setMacro_mem _ _ _ hx with hx | rfl
      · exact hg.macros x (List.mem_append_right _ hx)
      · exact hm
  · intro x hx
    rcases setMacro_mem _ _ _ hx with hx | rfl
    · exact hg.envs x hx
    · exact he

theorem BL_all_storedOk {n : Nat} {ts : List Tok} (h : BL T n ts) : ts.all (storedOk T) = true := by
  rw [List.all_eq_true]
  intro t ht
  exact BTok_storedOk T n t (h t ht)


/-- `\\newcommand` checks every `#k` of the body against the declared number of arguments before it
    defines the macro: the definition is consistent with its argument string -/
theorem arityOk_newcommand (name : Str) (margs : Str) (a4 : List Tok) (defaults : List (List Tok)) (nargs : Nat)
    (hlen : margs.length = nargs)
    (hf : a4.find? (fun t => match argRef t with | some k => decide (k < 1) || decide (k > nargs) | none => false) = none) :
    arityOk { name := name, args := margs, repl := a4, defaults := defaults } = true := by
  simp only [arityOk, handlerArity, handlerNeedsA, List.append_nil, List.all_nil, Nat.zero_le, decide_true,
    Bool.and_true, Bool.true_and, List.all_eq_true]
  intro t ht
  have := List.find?_eq_none.mp hf t ht
  cases hr : argRef t with
  | none => rfl
  | some k =>
    rw [hr] at this
    simp at this
    simp
    omega

theorem lastPos_lt {n pos : Nat} {l : List Tok} (hl : BL T n l) (hp : pos < n) :
    (Option.map (fun x => x.pos) l.getLast?).getD pos < n := by
  cases h : l.getLast? with
  | none => simpa using hp
  | some t => simpa using BL_last_pos T hl h

theorem BL_bibCite (n : Nat) (args : List (List Tok)) (pos : Nat) (o : List Tok)
    (ha : ∀ a ∈ args, BL T n a) (hp : pos < n) (h : bibCite T args pos = some o) : BL T n o := by
  unfold bibCite at h
  split at h
  · rename_i o1 o2 h1 h2
    have hA1 := ha o1 (List.mem_of_getElem? h1)
    have hA2 := ha o2 (List.mem_of_getElem? h2)
    extract_lets isVoid opt1 pre post out0 lastPos out1 out2 out3 at h
    have hopt1 : BL T n opt1 := ite_prop (BL T n) _ _ _ (Basic_BL_nil T n) hA1
    have hpre : BL T n pre := ite_prop (BL T n) _ _ _ (Basic_BL_nil T n) hopt1
    have hpost : BL T n post := ite_prop (BL T n) _ _ _ hopt1 (ite_prop (BL T n) _ _ _ (Basic_BL_nil T n) hA2)
    have hout0 : BL T n out0 := by simp [out0, Basic_BL_cons, Basic_BL_nil, BTok_mkFix_text, hp]
    have hlast : ∀ l, BL T n l → lastPos l < n := fun l hl => lastPos_lt T hl hp
    have hout1 : BL T n out1 := by
      apply ite_prop (BL T n) _ _ _ hout0
      have := hlast (out0 ++ pre) ((BL_append T n _ _).mpr ⟨hout0, hpre⟩)
      simp [BL_append, Basic_BL_cons, Basic_BL_nil, BTok_mkFix_space, hout0, hpre, this]
    have hout2 : BL T n out2 := by
      simp [out2, BL_append, Basic_BL_cons, Basic_BL_nil, BTok_mkFix_text, hout1, hlast out1 hout1]
    have hout3 : BL T n out3 := by
      apply ite_prop (BL T n) _ _ _ hout2
      simp [BL_append, Basic_BL_cons, BTok_mkFix_text, BTok_mkFix_space, hout2, hpost, hlast out2 hout2]
    cases h
    simp [BL_append, Basic_BL_cons, Basic_BL_nil, BTok_mkFix_text, BTok_mkAction, hout3, hlast out3 hout3]
  · cases h

theorem upperTok_storedOk (t : Tok) (x : Str) (hk : t.kind = .text) : storedOk T (upperTok t x) = true := by
  simp [storedOk, upperTok, isMathTok, ctlEmpty, mbOk, hk]

theorem capFirst_storedOk {ts r : List Tok} (h : ∀ t ∈ ts, storedOk T t = true) (hc : capFirst T ts = some r) :
    ∀ t ∈ r, storedOk T t = true := by
  unfold capFirst at hc
  split at hc
  · cases hc; exact h
  · rename_i i hi
    obtain ⟨hlt, hk, -⟩ := List.findIdx?_eq_some_iff_getElem.mp hi
    split at hc
    · cases hc; exact h
    · rename_i t ht
      have : t = ts[i] := by
        rw [List.getElem?_eq_getElem hlt] at ht; cases ht; rfl
      split at hc
      · cases hc
      · cases hc
        intro x hx
        rcases List.mem_or_eq_of_mem_set hx with hx | rfl
        · exact h x hx
        · apply upperTok_storedOk
          subst this
          simpa using hk

theorem capAll_storedOk {ts : List Tok} (h : ∀ t ∈ ts, storedOk T t = true) :
    ∀ t ∈ capAll T ts, storedOk T t = true := by
  intro x hx
  unfold capAll at hx
  rw [List.mem_map] at hx
  obtain ⟨t, ht, rfl⟩ := hx
  split
  · rename_i hk
    exact upperTok_storedOk T t _ (by simpa using hk)
  · exact h t ht

theorem BL_restamp_map {n p : Nat} {ts : List Tok} (h : ∀ t ∈ ts, storedOk T t = true) (hp : p < n) :
    BL T n (ts.map (fun t => { t with pos := p, fix := true })) := by
  intro x hx
  rw [List.mem_map] at hx
  obtain ⟨t, ht, rfl⟩ := hx
  exact BTok_restamp T n p t (h t ht) hp

theorem gloss_lookup {g : List (Str × List (Str × Option (List Tok)))} (hg : glossOk T g)
    {p : Str × List (Str × Option (List Tok)) → Bool} {q : Str × Option (List Tok) → Bool}
    {k : Str} {toks : List Tok}
    (h : (g.find? p).bind (fun e => e.2.find? q) = some (k, some toks)) :
    ∀ t ∈ toks, storedOk T t = true := by
  obtain ⟨e, he, hq⟩ := Option.bind_eq_some_iff.mp h
  exact hg e (List.mem_of_find?_eq_some he) _ (List.mem_of_find?_eq_some hq) toks rfl

theorem kvOk_description {n : Nat} {kv : List (Str × Option (List Tok))} (h : kvOk T n kv)
    (p : Str × Option (List Tok) → Bool) :
    BL T n (((kv.reverse.find? p).bind (·.2)).getD []) := by
  cases hf : (kv.reverse.find? p).bind (·.2) with
  | none => exact Basic_BL_nil T n
  | some ts =>
    obtain ⟨e, he, hq⟩ := Option.bind_eq_some_iff.mp hf
    exact h e (List.mem_reverse.mp (List.mem_of_find?_eq_some he)) ts hq

theorem G_setGloss {nroot : Nat} {s : PState} (hg : G T nroot s) (label : Str) (e : GlossEntry)
    (he : ∀ kv ∈ e, ∀ ts, kv.2 = some ts → ∀ t ∈ ts, storedOk T t = true) :
    G T nroot { s with glossary := setGloss s.glossary label e } := by
  refine { flows := hg.flows, macros := hg.macros, envs := hg.envs, gloss := ?_, root := hg.root,
           inFrame := hg.inFrame, items := hg.items, langs := hg.langs, rots := hg.rots, unk := hg.unk }
  intro x hx
  simp only [setGloss] at hx
  split at hx
  · rw [List.mem_map] at hx
    obtain ⟨y, hy, rfl⟩ := hx
    split
    · exact he
    · exact hg.gloss y hy
  · rcases List.mem_append.mp hx with hx | hx
    · exact hg.gloss x hx
    · simp at hx; subst hx; exact he


/-! ### cleveref -/

theorem G_foldlSetMacros {nroot : Nat} (ms : List MacroDef) (hm : ∀ m ∈ ms, macroToksOk T m = true) :
    ∀ {s : PState}, G T nroot s → G T nroot { s with macros := ms.foldl setMacro s.macros } := by
  induction ms with
  | nil => intro s hg; exact hg
  | cons m ms ih =>
    intro s hg
    have h1 := G_setMacros T hg m (hm m (by simp))
    exact ih (fun x hx => hm x (by simp [hx])) h1

theorem crefMacros_ok (ls : List Cleveref.SedLine) : ∀ m ∈ crefMacros ls, macroToksOk T m = true := by
  intro m hm
  simp only [crefMacros, List.mem_cons, List.not_mem_nil, or_false] at hm
  rcases hm with rfl | rfl | rfl | rfl <;> rfl

theorem crefToks_step (hw : T.WFInv) {nroot : Nat} {st0 s : PState} (h0 : Good T nroot st0 s) (str : Str)
    (pos : Nat) (hp : pos < st0.latex.length) :
    Post (crefToks T str pos s) (fun r s' => Good T nroot st0 s' ∧ BL T st0.latex.length r) := by
  simp only [crefToks]
  refine Post_modifyPure _ _ _ _ ⟨⟨G_diags T nroot s _ h0.1, h0.2⟩, BL_restamp_map T ?_ hp⟩
  have := scan_storedOk T hw str
  rw [List.all_eq_true] at this
  exact this

/-- a macro defined by a command line of the sed file: the constructor has checked the argument
    references (`utils.fatal` otherwise), its text consists of scanner tokens -/
theorem defineSedMacro_step (hw : T.WFInv) {nroot : Nat} {st0 s : PState} (h0 : Good T nroot st0 s)
    (m : Cleveref.SedMacro) :
    Post (defineSedMacro T m s) (fun _ s' => Good T nroot st0 s') := by
  simp only [defineSedMacro]
  refine Post_bind _ _ _ (fun _ s1 => s1 = { s with diags := s.diags ++ (scan T.toTables m.repl).diags }) _
    (Post_modify _ _ _ rfl) ?_
  rintro _ s1 rfl
  cases hf : List.find? (fun t => match argRef t with
      | some k => decide (k < 1) || decide (k > m.nargs)
      | none => false) (scan T.toTables m.repl).toks with
  | some bad => exact Post_fatal _ _ _
  | none =>
    refine Post_modify _ _ _ ⟨G_setMacros T (G_diags T nroot s _ h0.1) _ ?_, h0.2⟩
    simp only [macroToksOk, List.all_nil, Bool.and_true, Bool.and_eq_true]
    exact ⟨scan_storedOk T hw m.repl,
      arityOk_newcommand m.name _ _ [] m.nargs (List.length_replicate ..) hf⟩

theorem forM_defineSedMacro_step (hw : T.WFInv) {nroot : Nat} {st0 : PState} (ms : List Cleveref.SedMacro) :
    ∀ {s : PState}, Good T nroot st0 s → Post (ms.forM (defineSedMacro T) s) (fun _ s' => Good T nroot st0 s') := by
  induction ms with
  | nil => intro s h0; exact Post_pure _ _ _ h0
  | cons m ms ih =>
    intro s h0
    show Post ((defineSedMacro T m >>= fun _ => ms.forM (defineSedMacro T)) s) _
    exact Post_bind _ _ _ _ _ (defineSedMacro_step T hw h0 m) (fun _ s1 h1 => ih h1)

theorem readSedText_step (hw : T.WFInv) {nroot : Nat} {st0 s : PState} (h0 : Good T nroot st0 s) (sed : Str) :
    Post (readSedText T sed s) (fun _ s' => Good T nroot st0 s') := by
  simp only [readSedText]
  refine Post_bind _ _ _ _ _ (forM_defineSedMacro_step T hw _ h0) (fun _ s1 h1 => ?_)
  exact Post_modify _ _ _ ⟨G_foldlSetMacros T _ (crefMacros_ok T _) h1.1, h1.2⟩

section steps
variable {T} {nroot fuel : Nat} (IH : AllSpecs T nroot fuel)
include IH

theorem text_step {st0 s : PState} (h0 : Good T nroot st0 s) (toks : List Tok)
    (hb : BL T st0.latex.length toks) :
    Post (getTextExpanded T fuel toks s) (fun _ s' => Good T nroot st0 s') := by
  apply Post_mono _ _ _ (IH.text toks s h0.1 (by rw [Good_len T h0]; exact hb))
  intro _ s' h1
  exact Good_trans T h0 h1

theorem keyvals_step {st0 s : PState} (h0 : Good T nroot st0 s) (buf : Buf)
    (hb : BL T st0.latex.length buf) :
    Post (parseKeyvals T fuel buf [] s) (fun r s' => Good T nroot st0 s' ∧ kvOk T st0.latex.length r) := by
  apply Post_mono _ _ _ (IH.keyvals buf [] s h0.1 (by rw [Good_len T h0]; exact hb)
    (by intro kv hkv; cases hkv))
  intro r s' h1
  exact ⟨Good_trans T h0 h1.1, by rw [← Good_len T h0]; exact h1.2⟩

theorem expandKv_step {st0 s : PState} (h0 : Good T nroot st0 s) (kvs : List (Str × Option (List Tok)))
    (hb : kvOk T st0.latex.length kvs) :
    Post (expandKeyvals T fuel kvs s) (fun _ s' => Good T nroot st0 s') := by
  apply Post_mono _ _ _ (IH.expandKv kvs s h0.1 (by rw [Good_len T h0]; exact hb))
  intro _ s' h1
  exact Good_trans T h0 h1

theorem modDesc_step {st0 s : PState} (h0 : Good T nroot st0 s) (toks : List Tok)
    (hb : BL T st0.latex.length toks) :
    Post (modifyDescription T fuel toks s) (fun r s' => Good T nroot st0 s' ∧ BL T st0.latex.length r) := by
  apply Post_mono _ _ _ (IH.modDesc toks s h0.1 (by rw [Good_len T h0]; exact hb))
  intro r s' h1
  exact ⟨Good_trans T h0 h1.1, by rw [← Good_len T h0]; exact h1.2⟩

theorem loadModule_fold (hw : T.WFInv) (cls : Bool) (options : List KeyVal) (pos : Nat) (st0 : PState)
    (names : List Str) (acc : List Tok) (s : PState) (hs : Good T nroot st0 s) (hacc : injOk acc) :
    Post (names.foldlM (m := M) (fun acc p => do
        let o ← initPackage T fuel p ((findModule T cls p).getD (emptyModule p)) false options pos
        pure (acc ++ o)) acc s) (fun r s' => Good T nroot st0 s' ∧ injOk r) := by
  induction names generalizing acc s with
  | nil => exact Post_pure _ _ _ ⟨hs, hacc⟩
  | cons p names ih =>
    rw [List.foldlM_cons]
    refine Post_bind _ _ _ (fun r s' => Good T nroot st0 s' ∧ injOk r) _ ?_
      (fun r s' h => ih r s' h.1 h.2)
    have hm : ∀ m ∈ ((findModule T cls p).getD (emptyModule p)).macros ++
        ((findModule T cls p).getD (emptyModule p)).envs, macroToksOk T m = true := by
      cases hf : findModule T cls p with
      | none => intro m hm; simp [emptyModule] at hm
      | some md =>
        have hmem : md ∈ T.packageModules ++ T.classModules := by
          unfold findModule at hf
          split at hf
          · cases hf
          · have := List.mem_of_find?_eq_some hf
            split at this
            · exact List.mem_append_right _ this
            · exact List.mem_append_left _ this
        exact hw.modules_ok md hmem
    have he : ∀ e ∈ ((findModule T cls p).getD (emptyModule p)).envs, envOk T e = true := by
      cases hf : findModule T cls p with
      | none => intro e he; simp [emptyModule] at he
      | some md =>
        have hmem : md ∈ T.packageModules ++ T.classModules := by
          unfold findModule at hf
          split at hf
          · cases hf
          · have := List.mem_of_find?_eq_some hf
            split at this
            · exact List.mem_append_right _ this
            · exact List.mem_append_left _ this
        intro e he
        apply hw.envs_ok
        unfold allTableEnvs
        exact List.mem_append_right _ (List.mem_flatMap.2 ⟨md, hmem, he⟩)
    refine Post_bind _ _ _ _ _ (IH.init p _ false options pos s hs.1 hm he) (fun o s' h => ?_)
    refine Post_pure _ _ _ ⟨Good_trans T hs h.1, ?_⟩
    intro t ht
    rcases List.mem_append.mp ht with ht | ht
    · exact hacc t ht
    · exact h.2 t ht

end steps

theorem latexError_step (hw : T.WFInv) {nroot : Nat} {st0 s : PState} (h0 : Good T nroot st0 s) (err : Str)
    (pos : Nat) (hp : pos < st0.latex.length) :
    Post (latexError T.toTables err pos s) (fun r s' => Good T nroot st0 s' ∧ BL T st0.latex.length r) := by
  apply Post_mono _ _ _ (latexError_spec T hw err pos s (by rw [Good_len T h0]; exact hp))
  intro r s' ⟨h1, h2⟩
  refine ⟨?_, by rw [← Good_len T h0]; exact OL_BL T _ _ h1⟩
  rw [h2]
  exact ⟨G_diags T nroot s _ h0.1, h0.2⟩

section handlers
variable {T} (hw : T.WFInv) {nroot fuel : Nat} (IH : AllSpecs T nroot fuel)
  (buf : Buf) (mac : MacroDef) (args : List (List Tok)) (pos : Nat) (st : PState)
  (hg : G T nroot st) (hb : BL T st.latex.length buf) (ha : ∀ a ∈ args, BL T st.latex.length a)
  (hp : pos < st.latex.length)

include hg in
theorem handler_none :
    Post (callHandler T (fuel + 1) .none buf mac args pos st)
      (fun r st' => Good T nroot st st' ∧ BL T st.latex.length r) := by
  unfold callHandler
  simp only []
  exact Post_pure _ _ _ ⟨Good_refl T nroot st hg, Basic_BL_nil T _⟩

theorem handler_opaqueH (name : Str) :
    Post (callHandler T (fuel + 1) (.opaqueH name) buf mac args pos st)
      (fun r st' => Good T nroot st st' ∧ BL T st.latex.length r) := by
  unfold callHandler
  simp only []
  exact Post_crash _ _ _ (by simp [allowedCrash])

include hg ha hp in
theorem handler_theorem (title : Str) (hh : HandlerArgs (.theorem title) args) :
    Post (callHandler T (fuel + 1) (.theorem title) buf mac args pos st)
      (fun r st' => Good T nroot st st' ∧ BL T st.latex.length r) := by
  unfold callHandler
  simp only []
  refine Post_argBind args 0 _ st _ (arity_lt hh (by simp [handlerArity])) (fun a0 h0 ea0 => ?_)
  have hA := ha a0 h0
  cases hl : a0.getLast? with
  | some l =>
    dsimp only
    have hlp := BL_last_pos T hA hl
    refine Post_pure _ _ _ ⟨Good_refl T nroot st hg, ?_⟩
    simp [BL_append, Basic_BL_cons, Basic_BL_nil, BTok_mkFix_text, BTok_mkFix_space, hp, hlp, hA]
  | none =>
    refine Post_pure _ _ _ ⟨Good_refl T nroot st hg, ?_⟩
    simp [Basic_BL_cons, Basic_BL_nil, BTok_mkFix_text, BTok_mkFix_space, hp]

include hw IH hg ha hp in
theorem handler_phantom (hh : HandlerArgs .phantom args) :
    Post (callHandler T (fuel + 1) .phantom buf mac args pos st)
      (fun r st' => Good T nroot st st' ∧ BL T st.latex.length r) := by
  unfold callHandler
  simp only []
  refine Post_argBind args 0 _ st _ (arity_lt hh (by decide)) (fun a h0 ea => ?_)
  refine Post_bind _ _ _ _ _ (text_step IH (Good_refl T nroot st hg) a (ha a h0)) (fun txt s hs => ?_)
  refine Post_ite _ _ _ _ _ (fun _ => ?_) (fun _ => ?_)
  · refine Post_pure _ _ _ ⟨hs, ?_⟩
    simp [Basic_BL_cons, Basic_BL_nil, BTok_mkTok_special T hw, hp]
  · exact Post_pure _ _ _ ⟨hs, Basic_BL_nil T _⟩

include IH hg ha hp in
theorem handler_hspace (hh : HandlerArgs .hspace args) :
    Post (callHandler T (fuel + 1) .hspace buf mac args pos st)
      (fun r st' => Good T nroot st st' ∧ BL T st.latex.length r) := by
  unfold callHandler
  simp only []
  refine Post_argBind args 1 _ st _ (arity_lt hh (by decide)) (fun a h0 ea => ?_)
  refine Post_bind _ _ _ _ _ (text_step IH (Good_refl T nroot st hg) a (ha a h0)) (fun txt s hs => ?_)
  refine Post_ite _ _ _ _ _ (fun _ => ?_) (fun _ => ?_)
  · exact Post_pure _ _ _ ⟨hs, Basic_BL_nil T _⟩
  · refine Post_pure _ _ _ ⟨hs, ?_⟩
    simp [Basic_BL_cons, Basic_BL_nil, BTok_mkTok1_space, hp]

include hg ha hp in
theorem handler_cite (hh : HandlerArgs .cite args) :
    Post (callHandler T (fuel + 1) .cite buf mac args pos st)
      (fun r st' => Good T nroot st st' ∧ BL T st.latex.length r) := by
  unfold callHandler
  simp only []
  refine Post_argBind args 0 _ st _ (arity_lt hh (by decide)) (fun a0 h0 ea0 => ?_)
  have hA := ha a0 h0
  cases hl : a0.getLast? with
  | some l =>
    dsimp only
    have hlp := BL_last_pos T hA hl
    refine Post_pure _ _ _ ⟨Good_refl T nroot st hg, ?_⟩
    simp [BL_append, Basic_BL_cons, Basic_BL_nil, BTok_mkFix_text, BTok_mkFix_space, BTok_mkTok1_text, BTok_mkAction,
      hp, hlp, hA]
  | none =>
    refine Post_pure _ _ _ ⟨Good_refl T nroot st hg, ?_⟩
    simp [Basic_BL_cons, Basic_BL_nil, BTok_mkFix_text, BTok_mkAction, hp]

include IH hg ha in
theorem handler_heading (hh : HandlerArgs .heading args) :
    Post (callHandler T (fuel + 1) .heading buf mac args pos st)
      (fun r st' => Good T nroot st st' ∧ BL T st.latex.length r) := by
  unfold callHandler
  simp only []
  refine Post_argBind args 2 _ st _ (arity_lt hh (by decide)) (fun a h0 ea => ?_)
  have hA := ha a h0
  refine Post_bind _ _ _ _ _ (text_step IH (Good_refl T nroot st hg) a hA) (fun txt s hs => ?_)
  cases hc : (strip txt).getLast? with
  | none => exact Post_pure _ _ _ ⟨hs, hA⟩
  | some c =>
    cases hl : a.getLast? with
    | none => exact absurd (List.getLast?_eq_none_iff.mp hl) (needsA_ne_nil hh (by simp [handlerNeedsA]) ea)
    | some l =>
      dsimp only
      have hlp := BL_last_pos T hA hl
      refine Post_ite _ _ _ _ _ (fun _ => ?_) (fun _ => ?_)
      · refine Post_pure _ _ _ ⟨hs, ?_⟩
        simp [BL_append, Basic_BL_cons, Basic_BL_nil, BTok_mkTok1_text, hlp, hA]
      · exact Post_pure _ _ _ ⟨hs, hA⟩

include hw IH hg ha hp in
theorem handler_foreignlanguage (hh : HandlerArgs .foreignlanguage args) :
    Post (callHandler T (fuel + 1) .foreignlanguage buf mac args pos st)
      (fun r st' => Good T nroot st st' ∧ BL T st.latex.length r) := by
  unfold callHandler
  simp only []
  refine Post_argBind args 1 _ st _ (arity_lt hh (by decide)) (fun a1 h1 ea1 => ?_)
  refine Post_argBind args 2 _ st _ (arity_lt hh (by decide)) (fun a2 h2 ea2 => ?_)
  have hA := ha a2 h2
  refine Post_bind _ _ _ _ _ (text_step IH (Good_refl T nroot st hg) a1 (ha a1 h1)) (fun l s hs => ?_)
  cases ht : translateLang T (strip l) with
  | none => exact absurd ht (translateLang_isSome T hw _)
  | some lt =>
    cases hl : a2.getLast? with
    | none => exact absurd (List.getLast?_eq_none_iff.mp hl) (needsA_ne_nil hh (by simp [handlerNeedsA]) ea2)
    | some last =>
      dsimp only
      have hlp := BL_last_pos T hA hl
      refine Post_pure _ _ _ ⟨hs, ?_⟩
      simp [BL_append, Basic_BL_cons, Basic_BL_nil, BTok_mkLang, hp, hlp, hA]

include hw IH hg ha hp in
theorem handler_selectlanguage (hh : HandlerArgs .selectlanguage args) :
    Post (callHandler T (fuel + 1) .selectlanguage buf mac args pos st)
      (fun r st' => Good T nroot st st' ∧ BL T st.latex.length r) := by
  unfold callHandler
  simp only []
  refine Post_argBind args 0 _ st _ (arity_lt hh (by decide)) (fun a0 h0 ea0 => ?_)
  refine Post_bind _ _ _ _ _ (text_step IH (Good_refl T nroot st hg) a0 (ha a0 h0)) (fun l s hs => ?_)
  cases ht : translateLang T (strip l) with
  | none => exact absurd ht (translateLang_isSome T hw _)
  | some lt =>
    refine Post_pure _ _ _ ⟨hs, ?_⟩
    simp [Basic_BL_cons, Basic_BL_nil, BTok_mkLang, hp]

include hw IH hg ha hp in
theorem handler_beginOtherlang (hh : HandlerArgs .beginOtherlang args) :
    Post (callHandler T (fuel + 1) .beginOtherlang buf mac args pos st)
      (fun r st' => Good T nroot st st' ∧ BL T st.latex.length r) := by
  unfold callHandler
  simp only []
  refine Post_argBind args 0 _ st _ (arity_lt hh (by decide)) (fun a0 h0 ea0 => ?_)
  refine Post_bind _ _ _ _ _ (text_step IH (Good_refl T nroot st hg) a0 (ha a0 h0)) (fun l s hs => ?_)
  cases ht : translateLang T (strip l) with
  | none => exact absurd ht (translateLang_isSome T hw _)
  | some lt =>
    refine Post_pure _ _ _ ⟨hs, ?_⟩
    simp [Basic_BL_cons, Basic_BL_nil, BTok_mkLang, hp]

include hg hp in
theorem handler_endOtherlang :
    Post (callHandler T (fuel + 1) .endOtherlang buf mac args pos st)
      (fun r st' => Good T nroot st st' ∧ BL T st.latex.length r) := by
  unfold callHandler
  simp only []
  refine Post_pure _ _ _ ⟨Good_refl T nroot st hg, ?_⟩
  simp [Basic_BL_cons, Basic_BL_nil, BTok_mkLang, BTok_mkTok_xmacro, hp]

include hg hp in
theorem handler_endOtherlangStar :
    Post (callHandler T (fuel + 1) .endOtherlangStar buf mac args pos st)
      (fun r st' => Good T nroot st st' ∧ BL T st.latex.length r) := by
  unfold callHandler
  simp only []
  refine Post_pure _ _ _ ⟨Good_refl T nroot st hg, ?_⟩
  simp [Basic_BL_cons, Basic_BL_nil, BTok_mkLang, hp]

omit hw IH buf mac args pos st hg hb ha hp in
theorem BL_substackLoop (hw : T.WFInv) (n : Nat) (lev : Int) (ts : List Tok) (h : BL T n ts) :
    BL T n (substackLoop lev ts) := by
  induction ts generalizing lev with
  | nil => simpa [substackLoop] using Basic_BL_nil T n
  | cons t ts ih =>
    rw [Basic_BL_cons] at h
    simp only [substackLoop]
    rw [Basic_BL_cons]
    exact ⟨ite_prop (BTok T n) _ _ _ (BTok_mkTok_special T hw n t.pos _ (by simp) h.1.1.1) h.1, ih _ h.2⟩

include hw hg ha in
theorem handler_substack (hh : HandlerArgs .substack args) :
    Post (callHandler T (fuel + 1) .substack buf mac args pos st)
      (fun r st' => Good T nroot st st' ∧ BL T st.latex.length r) := by
  unfold callHandler
  simp only []
  refine Post_argBind args 0 _ st _ (arity_lt hh (by decide)) (fun a0 h0 ea0 => ?_)
  exact Post_pure _ _ _ ⟨Good_refl T nroot st hg, BL_substackLoop hw _ _ _ (ha a0 h0)⟩

include hg ha hp in
theorem handler_proof (hh : HandlerArgs .proof args) :
    Post (callHandler T (fuel + 1) .proof buf mac args pos st)
      (fun r st' => Good T nroot st st' ∧ BL T st.latex.length r) := by
  unfold callHandler
  simp only []
  refine Post_argBind args 0 _ st _ (arity_lt hh (by decide)) (fun a0 h0 ea0 => ?_)
  have hA := ha a0 h0
  refine Post_get_bind _ st _ ?_
  have hret : BL T st.latex.length (if (!a0.isEmpty) = true then a0
      else [mkFix .text pos (((settingsOf T (curSettings st)).map (·.proofName)).getD [])]) := by
    apply ite_prop (BL T st.latex.length) _ _ _ hA
    simp [Basic_BL_cons, Basic_BL_nil, BTok_mkFix_text, hp]
  have hne : (if (!a0.isEmpty) = true then a0
      else [mkFix .text pos (((settingsOf T (curSettings st)).map (·.proofName)).getD [])]) ≠ [] := by
    split
    · rename_i h; intro h'; simp [h'] at h
    · simp
  generalize (if (!a0.isEmpty) = true then a0
      else [mkFix .text pos (((settingsOf T (curSettings st)).map (·.proofName)).getD [])]) = ret at hret hne
  cases hl : ret.getLast? with
  | none => exact absurd (List.getLast?_eq_none_iff.mp hl) hne
  | some l =>
    dsimp only
    have hlp := BL_last_pos T hret hl
    refine Post_pure _ _ _ ⟨Good_refl T nroot st hg, ?_⟩
    simp [BL_append, Basic_BL_cons, Basic_BL_nil, BTok_mkFix_text, BTok_mkFix_space, hlp, hret]

include hg hp in
theorem handler_xspace :
    Post (callHandler T (fuel + 1) .xspace buf mac args pos st)
      (fun r st' => Good T nroot st st' ∧ BL T st.latex.length r) := by
  unfold callHandler
  simp only []
  cases hh : buf.head? with
  | none => exact Post_pure _ _ _ ⟨Good_refl T nroot st hg, Basic_BL_nil T _⟩
  | some t =>
    dsimp only
    refine Post_ite _ _ _ _ _ (fun _ => ?_) (fun _ => ?_)
    · exact Post_pure _ _ _ ⟨Good_refl T nroot st hg, Basic_BL_nil T _⟩
    · refine Post_pure _ _ _ ⟨Good_refl T nroot st hg, ?_⟩
      simp [Basic_BL_cons, Basic_BL_nil, BTok_mkTok1_space, hp]

include IH hg ha in
theorem handler_newacronym (hh : HandlerArgs .newacronym args) :
    Post (callHandler T (fuel + 1) .newacronym buf mac args pos st)
      (fun r st' => Good T nroot st st' ∧ BL T st.latex.length r) := by
  unfold callHandler
  simp only []
  refine Post_argBind args 2 _ st _ (arity_lt hh (by decide)) (fun a2 h2 ea2 => ?_)
  exact modDesc_step IH (Good_refl T nroot st hg) a2 (ha a2 h2)

include hw IH hg ha hp in
theorem handler_newcommand (hh : HandlerArgs .newcommand args) :
    Post (callHandler T (fuel + 1) .newcommand buf mac args pos st)
      (fun r st' => Good T nroot st st' ∧ BL T st.latex.length r) := by
  unfold callHandler
  simp only []
  refine Post_argBind args 1 _ st _ (arity_lt hh (by decide)) (fun a1 h1 ea1 => ?_)
  refine Post_argBind args 2 _ st _ (arity_lt hh (by decide)) (fun a2 h2 ea2 => ?_)
  refine Post_argBind args 3 _ st _ (arity_lt hh (by decide)) (fun a3 h3 ea3 => ?_)
  refine Post_argBind args 4 _ st _ (arity_lt hh (by decide)) (fun a4 h4 ea4 => ?_)
  refine Post_get_bind _ st _ ?_
  -- `split` is slow here: it simplifies the whole other branch
  refine Post_ite _ _ _ st _ (fun _ => ?_) (fun _ => ?_)
  · exact Post_pure _ _ _ ⟨Good_refl T nroot st hg, Basic_BL_nil T _⟩
  · refine Post_bind _ _ _ _ _ (text_step IH (Good_refl T nroot st hg) a2 (ha a2 h2)) (fun ns s hs => ?_)
    have hA3 := ha a3 h3
    have hA4 := ha a4 h4
    generalize (if (!List.isEmpty ns && _) = true then _ else 0) = nargs
    -- more than nine parameters: an error mark at the position of the call
    refine Post_ite _ _ _ s _ (fun _ => latexError_step T hw hs _ _ hp) (fun _ => ?_)
    generalize hf : List.find? _ a4 = o
    cases o with
    | some bad =>
      exact latexError_step T hw hs _ _ (hA4 bad (List.mem_of_find?_eq_some hf)).1.1
    | none =>
      dsimp only
      refine Post_ite _ _ _ s _ (fun _ => ?_) (fun hn => ?_)
      · refine Post_ite _ _ _ s _ (fun _ => ?_) (fun hn => ?_)
        · cases hh' : a1.head? with
          | none => exact absurd (List.head?_eq_none_iff.mp hh') (needsA_ne_nil hh (by simp [handlerNeedsA]) ea1)
          | some t => exact latexError_step T hw hs _ _ (BL_head_pos T (ha a1 h1) hh')
        · refine Post_modifyPure _ _ _ _ ⟨⟨G_setMacros T hs.1 _ ?_, hs.2⟩, Basic_BL_nil T _⟩
          simp only [macroToksOk, BL_all_storedOk T hA3, BL_all_storedOk T hA4, List.all_cons, List.all_nil,
            Bool.and_true, Bool.true_and]
          exact arityOk_newcommand _ _ _ _ nargs (by simp; omega) hf
      · refine Post_modifyPure _ _ _ _ ⟨⟨G_setMacros T hs.1 _ ?_, hs.2⟩, Basic_BL_nil T _⟩
        simp only [macroToksOk, BL_all_storedOk T hA4, List.all_nil, Bool.and_true, Bool.true_and]
        exact arityOk_newcommand _ _ _ _ nargs (by simp) hf

include IH hg ha in
theorem handler_newtheorem (hh : HandlerArgs .newtheorem args) :
    Post (callHandler T (fuel + 1) .newtheorem buf mac args pos st)
      (fun r st' => Good T nroot st st' ∧ BL T st.latex.length r) := by
  unfold callHandler
  simp only []
  refine Post_argBind args 0 _ st _ (arity_lt hh (by decide)) (fun a0 h0 ea0 => ?_)
  refine Post_argBind args 2 _ st _ (arity_lt hh (by decide)) (fun a2 h2 ea2 => ?_)
  refine Post_bind _ _ _ _ _ (text_step IH (Good_refl T nroot st hg) a0 (ha a0 h0)) (fun name s hs => ?_)
  refine Post_bind _ _ _ _ _ (text_step IH hs a2 (ha a2 h2)) (fun title s' hs' => ?_)
  refine Post_modifyPure _ _ _ _ ⟨⟨G_setEnvs T hs'.1 _ ?_ ?_, hs'.2⟩, Basic_BL_nil T _⟩
  · rfl
  · simp [envOk, handlerArity]

include hg ha hp in
theorem handler_bibCite (hh : HandlerArgs .bibCite args) :
    Post (callHandler T (fuel + 1) .bibCite buf mac args pos st)
      (fun r st' => Good T nroot st st' ∧ BL T st.latex.length r) := by
  unfold callHandler
  simp only []
  cases h : bibCite T args pos with
  | none => exact absurd h (bibCite_ne_none T args pos hh.1)
  | some o => exact Post_pure _ _ _ ⟨Good_refl T nroot st hg, BL_bibCite T _ args pos o ha hp h⟩

include hw hg ha hp in
theorem handler_footcite (hh : HandlerArgs .footcite args) :
    Post (callHandler T (fuel + 1) .footcite buf mac args pos st)
      (fun r st' => Good T nroot st st' ∧ BL T st.latex.length r) := by
  unfold callHandler
  simp only []
  cases h : bibCite T args pos with
  | none => exact absurd h (bibCite_ne_none T args pos hh.1)
  | some o =>
    dsimp only
    have ho := BL_bibCite T _ args pos o ha hp h
    have hlp := lastPos_lt T ho hp
    generalize (Option.map _ o.getLast?).getD pos = lp at hlp
    refine Post_pure _ _ _ ⟨Good_refl T nroot st hg, ?_⟩
    simp [BL_append, Basic_BL_cons, Basic_BL_nil, BTok_mkFix_text, BTok_mkAction, BTok_mkTok_xmacro,
      BTok_mkTok_special T hw, hp, hlp, ho]

include hw IH hg ha hp in
theorem handler_gls (key : Str) (cf ca : Bool) (hh : HandlerArgs (.gls key cf ca) args) :
    Post (callHandler T (fuel + 1) (.gls key cf ca) buf mac args pos st)
      (fun r st' => Good T nroot st st' ∧ BL T st.latex.length r) := by
  unfold callHandler
  simp only []
  refine Post_argBind args 1 _ st _ (arity_lt hh (by simp [handlerArity])) (fun a1 h1 ea1 => ?_)
  refine Post_bind _ _ _ _ _ (text_step IH (Good_refl T nroot st hg) a1 (ha a1 h1)) (fun label s hs => ?_)
  refine Post_get_bind _ s _ ?_
  generalize he : Option.bind (List.find? _ s.glossary) _ = entry
  match entry, he with
  | none, _ => exact latexError_step T hw hs _ _ hp
  | some (_, none), _ => exact latexError_step T hw hs _ _ hp
  | some (k, some toks), he =>
    dsimp only
    have hst := gloss_lookup T hs.1.gloss he
    generalize hc : (if cf = true then capFirst T toks else some toks) = c
    cases c with
    | none => exact Post_crash _ _ _ (by simp [allowedCrash])
    | some t1 =>
      dsimp only
      have h1 : ∀ t ∈ t1, storedOk T t = true := by
        split at hc
        · exact capFirst_storedOk T hst hc
        · cases hc; exact hst
      refine Post_pure _ _ _ ⟨hs, BL_restamp_map T ?_ hp⟩
      exact ite_prop (fun l => ∀ t ∈ l, storedOk T t = true) _ _ _ (capAll_storedOk T h1) h1

include IH hg ha in
theorem handler_newglossaryentry (hh : HandlerArgs .newglossaryentry args) :
    Post (callHandler T (fuel + 1) .newglossaryentry buf mac args pos st)
      (fun r st' => Good T nroot st st' ∧ BL T st.latex.length r) := by
  unfold callHandler
  simp only []
  refine Post_argBind args 1 _ st _ (arity_lt hh (by decide)) (fun a1 h1 ea1 => ?_)
  refine Post_bind _ _ _ _ _ (keyvals_step IH (Good_refl T nroot st hg) a1 (ha a1 h1)) (fun kv s hs => ?_)
  exact modDesc_step IH hs.1 _ (kvOk_description T hs.2 _)

include IH hg ha in
theorem handler_parseGlsdefs (hh : HandlerArgs .parseGlsdefs args) :
    Post (callHandler T (fuel + 1) .parseGlsdefs buf mac args pos st)
      (fun r st' => Good T nroot st st' ∧ BL T st.latex.length r) := by
  unfold callHandler
  simp only []
  refine Post_argBind args 0 _ st _ (arity_lt hh (by decide)) (fun a0 h0 ea0 => ?_)
  refine Post_argBind args 1 _ st _ (arity_lt hh (by decide)) (fun a1 h1 ea1 => ?_)
  refine Post_bind _ _ _ _ _ (text_step IH (Good_refl T nroot st hg) a0 (ha a0 h0)) (fun label s hs => ?_)
  refine Post_bind _ _ _ _ _ (keyvals_step IH hs a1 (ha a1 h1)) (fun kv s' hs' => ?_)
  refine Post_modifyPure _ _ _ _ ⟨⟨G_setGloss T hs'.1.1 _ _ ?_, hs'.1.2⟩, Basic_BL_nil T _⟩
  intro e he ts hts t ht
  rcases mem_dedup kv [] e he with h | h
  · cases h
  · exact BTok_storedOk T _ t (hs'.2 e h ts hts t ht)

include hw IH hg ha hp in
theorem handler_loadDefs (hh : HandlerArgs .loadDefs args) :
    Post (callHandler T (fuel + 1) .loadDefs buf mac args pos st)
      (fun r st' => Good T nroot st st' ∧ BL T st.latex.length r) := by
  unfold callHandler
  simp only []
  refine Post_get_bind _ st _ ?_
  refine Post_ite _ _ _ _ _ (fun _ => ?_) (fun _ => ?_)
  · exact Post_pure _ _ _ ⟨Good_refl T nroot st hg, Basic_BL_nil T _⟩
  · refine Post_argBind args 0 _ st _ (arity_lt hh (by decide)) (fun a0 h0 ea0 => ?_)
    refine Post_bind _ _ _ _ _ (text_step IH (Good_refl T nroot st hg) a0 (ha a0 h0)) (fun file s hs => ?_)
    refine Post_get_bind _ s _ ?_
    cases hf : List.find? (fun x => x.fst == file) s.fs with
    | none => exact latexError_step T hw hs _ _ hp
    | some f =>
      dsimp only
      refine Post_bind _ _ _ (fun _ s1 => s1 = { s with extracted := [] }) _ (Post_modify _ _ _ rfl) ?_
      rintro _ s1 rfl
      have hG0 : G0 T nroot { s with extracted := [] } :=
        { flows := fun _ e he => (by cases he), macros := hs.1.macros, envs := hs.1.envs, gloss := hs.1.gloss,
          items := hs.1.items, langs := hs.1.langs, rots := hs.1.rots, unk := hs.1.unk }
      refine Post_bind _ _ _ _ _ (IH.work f.2 _ hG0 (fun h => absurd h hs.1.inFrame) hs.1.root)
        (fun toks s2 h2 => ?_)
      obtain ⟨hG2, hSame, hOL⟩ := h2
      refine Post_modifyPure _ _ _ _ ⟨⟨?_, ?_⟩, ?_⟩
      · have e1 : s2.nest = s.nest := hSame.2
        have e2 : s2.latex = s.latex := hSame.1
        refine { flows := hs.1.flows, macros := hG2.macros, envs := hG2.envs, gloss := hG2.gloss,
                 items := hG2.items, langs := hG2.langs, rots := hG2.rots, unk := hG2.unk, root := ?_, inFrame := ?_ }
        · intro h
          show s2.latex.length = nroot
          rw [e2]; exact hs.1.root (e1 ▸ h)
        · intro h
          exact hs.1.inFrame (e1 ▸ h)
      · exact ⟨(show s2.latex = s.latex from hSame.1).trans hs.2.1,
               (show s2.nest = s.nest from hSame.2).trans hs.2.2⟩
      · exact BL_filterSetToks_lang T _ _ pos toks hp hOL

include hw IH hg ha hp in
theorem handler_loadModule (cls : Bool) (hh : HandlerArgs (.loadModule cls) args) :
    Post (callHandler T (fuel + 1) (.loadModule cls) buf mac args pos st)
      (fun r st' => Good T nroot st st' ∧ BL T st.latex.length r) := by
  unfold callHandler
  simp only []
  refine Post_argBind args 0 _ st _ (arity_lt hh (by simp [handlerArity])) (fun a0 h0 ea0 => ?_)
  refine Post_argBind args 1 _ st _ (arity_lt hh (by simp [handlerArity])) (fun a1 h1 ea1 => ?_)
  refine Post_bind _ _ _ _ _ (keyvals_step IH (Good_refl T nroot st hg) a0 (ha a0 h0)) (fun kv s hs => ?_)
  refine Post_bind _ _ _ _ _ (expandKv_step IH hs.1 kv hs.2) (fun options s2 hs2 => ?_)
  refine Post_bind _ _ _ _ _ (text_step IH hs2 a1 (ha a1 h1)) (fun packs s3 hs3 => ?_)
  refine Post_bind _ _ _ _ _ (loadModule_fold IH hw cls options pos st _ [] s3 hs3 (by intro t ht; cases ht))
    (fun out s4 hs4 => ?_)
  exact Post_pure _ _ _ ⟨hs4.1, BL_filterSetToks T _ pos out hp hs4.2⟩

include hw hg hp in
theorem handler_crefWarn :
    Post (callHandler T (fuel + 1) .crefWarn buf mac args pos st)
      (fun r st' => Good T nroot st st' ∧ BL T st.latex.length r) := by
  unfold callHandler
  simp only []
  exact latexError_step T hw (Good_refl T nroot st hg) _ _ hp

include hw hg hp in
theorem handler_cref (plain star : List (Str × Str)) (hh : HandlerArgs (.cref plain star) args) :
    Post (callHandler T (fuel + 1) (.cref plain star) buf mac args pos st)
      (fun r st' => Good T nroot st st' ∧ BL T st.latex.length r) := by
  unfold callHandler
  simp only []
  refine Post_argBind args 0 _ st _ (arity_lt hh (by simp [handlerArity])) (fun a0 h0 ea0 => ?_)
  refine Post_argBind args 1 _ st _ (arity_lt hh (by simp [handlerArity])) (fun a1 h1 ea1 => ?_)
  cases Cleveref.lookupLast (if List.isEmpty (getTextDirect a0) = true then plain else star) (getTextDirect a1) with
  | some str => exact crefToks_step T hw (Good_refl T nroot st hg) _ _ hp
  | none => exact latexError_step T hw (Good_refl T nroot st hg) _ _ hp

include hw hg hp in
theorem handler_crefrange (plain star : List ((Str × Str) × Str)) (hh : HandlerArgs (.crefrange plain star) args) :
    Post (callHandler T (fuel + 1) (.crefrange plain star) buf mac args pos st)
      (fun r st' => Good T nroot st st' ∧ BL T st.latex.length r) := by
  unfold callHandler
  simp only []
  refine Post_argBind args 0 _ st _ (arity_lt hh (by simp [handlerArity])) (fun a0 h0 ea0 => ?_)
  refine Post_argBind args 1 _ st _ (arity_lt hh (by simp [handlerArity])) (fun a1 h1 ea1 => ?_)
  refine Post_argBind args 2 _ st _ (arity_lt hh (by simp [handlerArity])) (fun a2 h2 ea2 => ?_)
  cases Cleveref.lookupLast (if List.isEmpty (getTextDirect a0) = true then plain else star)
      (getTextDirect a1, getTextDirect a2) with
  | some str => exact crefToks_step T hw (Good_refl T nroot st hg) _ _ hp
  | none => exact latexError_step T hw (Good_refl T nroot st hg) _ _ hp

include hw IH hg ha hp in
theorem handler_readSed (hh : HandlerArgs .readSed args) :
    Post (callHandler T (fuel + 1) .readSed buf mac args pos st)
      (fun r st' => Good T nroot st st' ∧ BL T st.latex.length r) := by
  unfold callHandler
  simp only []
  refine Post_get_bind _ st _ ?_
  refine Post_ite _ _ _ _ _ (fun _ => ?_) (fun _ => ?_)
  · exact Post_pure _ _ _ ⟨Good_refl T nroot st hg, Basic_BL_nil T _⟩
  · refine Post_argBind args 0 _ st _ (arity_lt hh (by decide)) (fun a0 h0 ea0 => ?_)
    refine Post_bind _ _ _ _ _ (text_step IH (Good_refl T nroot st hg) a0 (ha a0 h0)) (fun file s hs => ?_)
    refine Post_get_bind _ s _ ?_
    cases hf : List.find? (fun x => x.fst == file) s.fs with
    | none => exact latexError_step T hw hs _ _ hp
    | some f =>
      refine Post_bind _ _ _ _ _ (readSedText_step T hw hs f.2) (fun _ s1 h1 => ?_)
      exact Post_pure _ _ _ ⟨h1, Basic_BL_nil T _⟩

end handlers

end HandlerStep

open HandlerStep in
theorem handler_step (hw : T.WFInv) (nroot fuel : Nat) (IH : AllSpecs T nroot fuel) :
    SpecHandler T nroot (fuel + 1) := by
  intro h buf mac args pos st hg _hb ha hp hh
  cases h with
  | none => exact handler_none buf mac args pos st hg
  | newcommand => exact handler_newcommand hw IH buf mac args pos st hg ha hp hh
  | newtheorem => exact handler_newtheorem IH buf mac args pos st hg ha hh
  | «theorem» title => exact handler_theorem buf mac args pos st hg ha hp title hh
  | heading => exact handler_heading IH buf mac args pos st hg ha hh
  | phantom => exact handler_phantom hw IH buf mac args pos st hg ha hp hh
  | hspace => exact handler_hspace IH buf mac args pos st hg ha hp hh
  | cite => exact handler_cite buf mac args pos st hg ha hp hh
  | loadDefs => exact handler_loadDefs hw IH buf mac args pos st hg ha hp hh
  | loadModule cls => exact handler_loadModule hw IH buf mac args pos st hg ha hp cls hh
  | foreignlanguage => exact handler_foreignlanguage hw IH buf mac args pos st hg ha hp hh
  | selectlanguage => exact handler_selectlanguage hw IH buf mac args pos st hg ha hp hh
  | beginOtherlang => exact handler_beginOtherlang hw IH buf mac args pos st hg ha hp hh
  | endOtherlang => exact handler_endOtherlang buf mac args pos st hg hp
  | endOtherlangStar => exact handler_endOtherlangStar buf mac args pos st hg hp
  | substack => exact handler_substack hw buf mac args pos st hg ha hh
  | proof => exact handler_proof buf mac args pos st hg ha hp hh
  | bibCite => exact handler_bibCite buf mac args pos st hg ha hp hh
  | footcite => exact handler_footcite hw buf mac args pos st hg ha hp hh
  | xspace => exact handler_xspace buf mac args pos st hg hp
  | gls key cf ca => exact handler_gls hw IH buf mac args pos st hg ha hp key cf ca hh
  | newacronym => exact handler_newacronym IH buf mac args pos st hg ha hh
  | newglossaryentry => exact handler_newglossaryentry IH buf mac args pos st hg ha hh
  | parseGlsdefs => exact handler_parseGlsdefs IH buf mac args pos st hg ha hh
  | opaqueH name => exact handler_opaqueH buf mac args pos st name
  | readSed => exact handler_readSed hw IH buf mac args pos st hg ha hp hh
  | crefWarn => exact handler_crefWarn hw buf mac args pos st hg hp
  | cref plain star => exact handler_cref hw buf mac args pos st hg hp plain star hh
  | crefrange plain star => exact handler_crefrange hw buf mac args pos st hg hp plain star hh

end Yalafi
