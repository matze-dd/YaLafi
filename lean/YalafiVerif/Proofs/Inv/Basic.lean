/-
  Proofs/Inv/Basic.lean — leaf lemmas for the range-invariant bundle (no induction
  hypothesis needed): the monad, token predicates, argument collection, replacement
  generation, error marks, blank-line removal and the scanner w.r.t. `TokOk`/`BL`/`OL`.
  Stated for any token predicate, and used by the other invariants as well: `argBufferPure_all`,
  `generateReplacements_all`, `skipPass_all`, and `nextToken_leaf` (what one step of the scanner can yield, `ScanLeaf`).
-/
import YalafiVerif.Spec.Inv
import YalafiVerif.Proofs.Scanner
import YalafiVerif.Proofs.Lines
import YalafiVerif.Proofs.Run
import YalafiVerif.Proofs.InlineShape
import YalafiVerif.Proofs.GenRepl
namespace Yalafi

/-! ### the monad: `Post` is `PostC` for the crash sites of `allowedCrash` -/

theorem Post_pure {α} (a : α) (st : PState) (Q : α → PState → Prop) (h : Q a st) :
    Post ((pure a : M α) st) Q := h

theorem Post_bind {α β} (x : M α) (f : α → M β) (st : PState) (Q : α → PState → Prop) (R : β → PState → Prop)
    (hx : Post (x st) Q) (hf : ∀ a s, Q a s → Post (f a s) R) : Post ((x >>= f) st) R :=
  PostC.bind hx hf

theorem Post_mono {α} (x : Outcome (α × PState)) (Q R : α → PState → Prop)
    (h : Post x Q) (hi : ∀ a s, Q a s → R a s) : Post x R :=
  PostC.mono h hi

theorem Post_and {α} (x : Outcome (α × PState)) (Q R : α → PState → Prop) (h1 : Post x Q) (h2 : Post x R) :
    Post x (fun a s => Q a s ∧ R a s) :=
  PostC.and h1 h2

theorem Post_get (st : PState) (Q : PState → PState → Prop) (h : Q st st) : Post (M.get st) Q := h

theorem Post_modify (f : PState → PState) (st : PState) (Q : Unit → PState → Prop) (h : Q () (f st)) :
    Post (M.modify f st) Q := h

theorem Post_crash {α} (site : String) (st : PState) (Q : α → PState → Prop) (h : site ∈ allowedCrash) :
    Post ((M.crash site : M α) st) Q := h

theorem Post_fatal {α} (msg : Str) (st : PState) (Q : α → PState → Prop) : Post ((M.fatal msg : M α) st) Q :=
  trivial

theorem Post_outOfFuel {α} (st : PState) (Q : α → PState → Prop) : Post ((M.outOfFuel : M α) st) Q :=
  trivial

theorem Post_catchAll {α} (x : M α) (msg : Str) (st : PState) (Q : α → PState → Prop) (h : Post (x st) Q) :
    Post (catchAll x msg st) Q :=
  PostC.catchAll h

theorem Post_get_bind {β} (f : PState → M β) (st : PState) (R : β → PState → Prop)
    (h : Post (f st st) R) : Post ((M.get >>= f) st) R :=
  PostC.get_bind h

theorem Post_modifyPure {β} (f : PState → PState) (x : β) (st : PState) (R : β → PState → Prop)
    (h : R x (f st)) : Post ((M.modify f >>= fun _ => (pure x : M β)) st) R :=
  PostC.modifyPure (C := (· ∈ allowedCrash)) h

theorem Post_ite {α} (c : Prop) [Decidable c] (x y : M α) (st : PState) (Q : α → PState → Prop)
    (h1 : c → Post (x st) Q) (h2 : ¬ c → Post (y st) Q) : Post ((if c then x else y) st) Q :=
  PostC.ite h1 h2

theorem Post_foldlM {α β} (f : β → α → M β) (I : β → PState → Prop) (l : List α) (b : β) (st : PState)
    (hI : I b st) (hf : ∀ b a s, a ∈ l → I b s → Post (f b a s) I) : Post (l.foldlM f b st) I :=
  PostC.foldlM (C := (· ∈ allowedCrash)) (f := f) l b st hI hf

theorem ite_prop {α} (P : α → Prop) (c : Prop) [Decidable c] (a b : α) (ha : P a) (hb : P b) :
    P (if c then a else b) := by
  split <;> assumption

variable (T : PTables)

theorem OTok_BTok (n : Nat) (t : Tok) (h : OTok T n t) : BTok T n t := by
  refine ⟨h.1, ?_⟩
  have := h.2
  unfold outKind at this
  unfold isMathTok
  split <;> simp_all

theorem OL_BL (n : Nat) (ts : List Tok) (h : OL T n ts) : BL T n ts := by
  exact fun t ht => OTok_BTok T n t (h t ht)

theorem BL_append (n : Nat) (a b : List Tok) : BL T n (a ++ b) ↔ BL T n a ∧ BL T n b := by
  unfold BL
  simp only [List.mem_append]
  exact ⟨fun h => ⟨fun t ht => h t (Or.inl ht), fun t ht => h t (Or.inr ht)⟩,
    fun h t ht => ht.elim (h.1 t) (h.2 t)⟩

theorem OL_append (n : Nat) (a b : List Tok) : OL T n (a ++ b) ↔ OL T n a ∧ OL T n b := by
  unfold OL
  simp only [List.mem_append]
  exact ⟨fun h => ⟨fun t ht => h t (Or.inl ht), fun t ht => h t (Or.inr ht)⟩,
    fun h t ht => ht.elim (h.1 t) (h.2 t)⟩

theorem OL_snoc (n : Nat) (a : List Tok) (t : Tok) (ha : OL T n a) (ht : OTok T n t) : OL T n (a ++ [t]) :=
  (OL_append T n a [t]).2 ⟨ha, fun x hx => List.mem_singleton.1 hx ▸ ht⟩

theorem OTok_mkAction (n p : Nat) (h : p < n) : OTok T n (mkAction p) := by
  refine ⟨⟨h, ?_, rfl, rfl⟩, rfl⟩
  intro _; simp [mkAction, extent]; omega

theorem OTok_mkVoid (n p : Nat) (h : p < n) : OTok T n (mkVoid p) := by
  refine ⟨⟨h, ?_, rfl, rfl⟩, rfl⟩
  intro _; simp [mkVoid, extent]; omega

theorem OTok_mkFix (n p : Nat) (k : Kind) (txt : Str) (h : p < n)
    (hk : k = .text ∨ k = .space ∨ k = .par) : OTok T n (mkFix k p txt) := by
  rcases hk with rfl | rfl | rfl <;>
    exact ⟨⟨h, fun hf => by simp [mkFix] at hf, rfl, rfl⟩, rfl⟩

theorem OTok_mkLang (n p : Nat) (l : Str) (b h k : Bool) (hp : p < n) : OTok T n (mkLang p l b h k) := by
  refine ⟨⟨hp, ?_, rfl, rfl⟩, rfl⟩
  intro _; simp [mkLang, extent]; omega

theorem OTok_mkTok1 (n p : Nat) (k : Kind) (c : Char) (h : p < n) (hk : k = .text ∨ k = .space) :
    OTok T n (mkTok k p [c]) := by
  rcases hk with rfl | rfl <;>
    exact ⟨⟨h, fun _ => by simp [mkTok, extent]; omega, rfl, rfl⟩, rfl⟩

theorem BTok_restamp (n p : Nat) (t : Tok) (hs : storedOk T t = true) (hp : p < n) :
    BTok T n { t with pos := p, fix := true } := by
  simp only [storedOk, Bool.and_eq_true, Bool.not_eq_eq_eq_not, Bool.not_true] at hs
  exact ⟨⟨hp, fun hf => by simp at hf, hs.1.2, hs.2⟩, hs.1.1⟩

theorem BTok_storedOk (n : Nat) (t : Tok) (h : BTok T n t) : storedOk T t = true := by
  simp only [storedOk, Bool.and_eq_true, Bool.not_eq_eq_eq_not, Bool.not_true]
  exact ⟨⟨h.2, h.1.2.2.1⟩, h.1.2.2.2⟩

theorem extent_outKind (t : Tok) (h : outKind t = true) : extent T t = t.txt.length := by
  unfold outKind at h
  unfold extent
  split <;> simp_all

theorem isLang_extent (t : Tok) (h : isLang t = true) : extent T t = t.txt.length := by
  unfold isLang at h
  unfold extent
  split <;> simp_all

theorem isLang_outKind (t : Tok) (h : isLang t = true) : outKind t = true := by
  unfold isLang at h
  unfold outKind
  split <;> simp_all

theorem isLang_notMath (t : Tok) (h : isLang t = true) : isMathTok t = false := by
  unfold isLang at h
  unfold isMathTok
  split <;> simp_all

theorem isLang_mbOk (t : Tok) (h : isLang t = true) : mbOk T t = true := by
  unfold isLang at h
  unfold mbOk
  split <;> simp_all

theorem OTok_lang_at (n p : Nat) (t : Tok) (hl : isLang t = true) (ht : t.txt = []) (hp : p < n) :
    OTok T n { t with pos := p } := by
  have hl' : isLang { t with pos := p } = true := hl
  refine ⟨⟨hp, fun _ => ?_, ?_, isLang_mbOk T _ hl'⟩, isLang_outKind _ hl'⟩
  · rw [isLang_extent T _ hl']; simp [ht]; omega
  · unfold ctlEmpty; split <;> simp [ht]

theorem BL_sublist (n : Nat) (a b : List Tok) (hs : a.Sublist b) (h : BL T n b) : BL T n a :=
  fun t ht => h t (hs.subset ht)

theorem OTok_inRange (n : Nat) (t : Tok) (h : OTok T n t) : TokInRange n t := by
  refine ⟨h.1.1, fun hf => ?_⟩
  have := h.1.2.1 hf
  rw [extent_outKind T t h.2] at this
  exact this

theorem BL_skipSpace (n : Nat) (b : Buf) (h : BL T n b) : BL T n (skipSpace b) := by
  exact BL_sublist T n _ _ (List.dropWhile_sublist _) h

theorem BL_skipSpaceStopLang (n : Nat) (b : Buf) (h : BL T n b) : BL T n (skipSpaceStopLang b) := by
  exact BL_sublist T n _ _ (List.dropWhile_sublist _) h

theorem BL_skipSpaceStopLangAct (n : Nat) (b : Buf) (h : BL T n b) : BL T n (skipSpaceStopLangAct b) := by
  exact BL_sublist T n _ _ (List.dropWhile_sublist _) h

theorem BL_filterSetToks (n p : Nat) (ts : List Tok) (hp : p < n) (h : injOk ts) :
    BL T n (filterSetToks ts p false) := by
  intro t ht
  simp only [filterSetToks, List.mem_map, List.mem_filter] at ht
  obtain ⟨u, ⟨hu, _⟩, rfl⟩ := ht
  rcases h u hu with hl | hf
  · exact OTok_BTok T n _ (OTok_lang_at T n p u hl.1 hl.2 hp)
  · refine ⟨⟨hp, ?_, ?_, ?_⟩, ?_⟩
    · intro hfix; simp [hf.2] at hfix
    · simp [ctlEmpty, hf.1]
    · simp [mbOk, hf.1]
    · simp [isMathTok, hf.1]

theorem BL_filterSetToks_lang (n m p : Nat) (ts : List Tok) (hp : p < n) (h : OL T m ts) :
    BL T n (filterSetToks ts p true) := by
  intro t ht
  simp only [filterSetToks, List.mem_map, List.mem_filter] at ht
  obtain ⟨u, ⟨hu, hl⟩, rfl⟩ := ht
  have hl' : isLang u = true := by simpa using hl
  have hc := (h u hu).1.2.2.1
  have : u.txt = [] := by
    unfold isLang at hl'
    unfold ctlEmpty at hc
    split at hc <;> simp_all
  exact OTok_BTok T n _ (OTok_lang_at T n p u hl' this hp)

theorem Good_refl (nroot : Nat) (st : PState) (h : G T nroot st) : Good T nroot st st := ⟨h, rfl, rfl⟩

theorem Good_trans (nroot : Nat) (a b c : PState) (h1 : Good T nroot a b) (h2 : Good T nroot b c) :
    Good T nroot a c :=
  ⟨h2.1, h2.2.1.trans h1.2.1, h2.2.2.trans h1.2.2⟩

theorem Good_len {nroot : Nat} {a b : PState} (h : Good T nroot a b) : b.latex.length = a.latex.length := by
  rw [h.2.1]

theorem Basic_OTok_fixText (n p : Nat) (txt : Str) (h : p < n) :
    OTok T n { kind := .text, pos := p, txt := txt, fix := true } :=
  OTok_mkFix T n p .text txt h (Or.inl rfl)

theorem latexErrorToks_OL (err : Str) (pos n : Nat) (hp : pos < n) :
    OL T n (latexErrorToks T.toTables err pos n) := by
  intro t ht
  unfold latexErrorToks at ht
  simp only [] at ht
  split at ht
  · rename_i hlt
    simp only [List.mem_cons, List.not_mem_nil, or_false] at ht
    rcases ht with rfl | rfl
    · exact Basic_OTok_fixText T n pos _ hp
    · exact Basic_OTok_fixText T n _ _ (by omega)
  · simp only [List.mem_cons, List.not_mem_nil, or_false] at ht
    subst ht
    exact Basic_OTok_fixText T n pos _ hp

theorem latexError_spec (hw : T.WFInv) (err : Str) (pos : Nat) (st : PState) (hp : pos < st.latex.length) :
    Post (latexError T.toTables err pos st) (fun r st' =>
      OL T st.latex.length r ∧ st' = { st with diags := st'.diags }) := by
  have _ := hw
  exact ⟨latexErrorToks_OL T err pos _ hp, rfl⟩

theorem G_diags (nroot : Nat) (st : PState) (d : List Diag) (h : G T nroot st) :
    G T nroot { st with diags := d } := by
  exact { flows := h.flows, macros := h.macros, envs := h.envs, gloss := h.gloss,
          items := h.items, langs := h.langs, rots := h.rots, unk := h.unk,
          root := h.root, inFrame := h.inFrame }

def nextLev (lev : Int) (t : Tok) : Int :=
  if txtIsNV t "}" then (if txtIsNV t "{" then lev + 1 else lev) - 1 else (if txtIsNV t "{" then lev + 1 else lev)

theorem collectArg_cons (endTxt : Str) (lev : Int) (t : Tok) (ts acc : List Tok) :
    collectArg endTxt lev (t :: ts) acc =
      if (!isVerb t && t.txt == endTxt && nextLev lev t == 0) = true then some (acc.reverse, ts)
      else collectArg endTxt (nextLev lev t) ts (t :: acc) := rfl

theorem collectArg_mem (endTxt : Str) : ∀ (buf : Buf) (lev : Int) (acc out rest' : List Tok),
    collectArg endTxt lev buf acc = some (out, rest') →
    (∀ t ∈ out, t ∈ acc ∨ t ∈ buf) ∧ (∀ t ∈ rest', t ∈ buf) := by
  intro buf
  induction buf with
  | nil => intro lev acc out rest' h; simp [collectArg] at h
  | cons t ts ih =>
    intro lev acc out rest' h
    have A : some (acc.reverse, ts) = some (out, rest') →
        (∀ x ∈ out, x ∈ acc ∨ x ∈ t :: ts) ∧ (∀ x ∈ rest', x ∈ t :: ts) := by
      intro h
      simp only [Option.some.injEq, Prod.mk.injEq] at h
      obtain ⟨rfl, rfl⟩ := h
      exact ⟨fun x hx => Or.inl (by simpa using hx), fun x hx => by simp [hx]⟩
    have B : ∀ lev', collectArg endTxt lev' ts (t :: acc) = some (out, rest') →
        (∀ x ∈ out, x ∈ acc ∨ x ∈ t :: ts) ∧ (∀ x ∈ rest', x ∈ t :: ts) := by
      intro lev' h
      obtain ⟨i1, i2⟩ := ih _ _ _ _ h
      refine ⟨fun x hx => ?_, fun x hx => by simp [i2 x hx]⟩
      rcases i1 x hx with h' | h'
      · simp only [List.mem_cons] at h'
        rcases h' with rfl | h'
        · exact Or.inr (by simp)
        · exact Or.inl h'
      · exact Or.inr (by simp [h'])
    rw [collectArg_cons] at h
    split at h
    · exact A h
    · exact B _ h

theorem Basic_BL_cons (n : Nat) (t : Tok) (ts : List Tok) : BL T n (t :: ts) ↔ BTok T n t ∧ BL T n ts := by
  unfold BL
  simp only [List.mem_cons]
  exact ⟨fun h => ⟨h t (Or.inl rfl), fun x hx => h x (Or.inr hx)⟩,
    fun h x hx => hx.elim (fun e => e ▸ h.1) (h.2 x)⟩

theorem Basic_BL_nil (n : Nat) : BL T n [] := fun _ h => by cases h

theorem Basic_OL_cons (n : Nat) (t : Tok) (ts : List Tok) : OL T n (t :: ts) ↔ OTok T n t ∧ OL T n ts := by
  unfold OL
  simp only [List.mem_cons]
  exact ⟨fun h => ⟨h t (Or.inl rfl), fun x hx => h x (Or.inr hx)⟩,
    fun h x hx => hx.elim (fun e => e ▸ h.1) (h.2 x)⟩

theorem Basic_OL_nil (n : Nat) : OL T n [] := fun _ h => by cases h

theorem OL_single (n : Nat) (t : Tok) (h : OTok T n t) : OL T n [t] := by
  intro x hx; simp at hx; subst hx; exact h

theorem argBufferPure_arg_ne_nil (mark : Str) (buf : Buf) (start : Nat) (endBrace : Bool) :
    (argBufferPure mark buf start endBrace).arg ≠ [] := by
  unfold argBufferPure
  split
  · simp
  · split
    · simp
    · split
      · simp
      · simp only []
        split
        · split
          · simp
          · rename_i out _ _ hne
            intro e
            have e' : out = [] := e
            rw [e'] at hne; simp at hne
        · simp

/-- `arg_buffer` without its error mark: the argument consists of tokens of the buffer, or is one token made at
    `start` or at the position of a buffer token; what is left of the buffer is part of the buffer -/
theorem argBufferPure_all (P : Tok → Prop) (R : Nat → Prop) (mark : Str) (buf : Buf) (start : Nat) (endBrace : Bool)
    (hb : ∀ t ∈ buf, P t) (hR : ∀ t ∈ buf, R t.pos) (hs : R start)
    (hmade : ∀ p, R p → P (mkVoid p) ∧ P (mkFix .text p ([' '] ++ mark ++ [' ']))) :
    (∀ x ∈ (argBufferPure mark buf start endBrace).arg, P x) ∧
    (∀ x ∈ (argBufferPure mark buf start endBrace).buf, P x) ∧
    (∀ e, (argBufferPure mark buf start endBrace).err = some e → R (argBufferPure mark buf start endBrace).errPos) := by
  have one : ∀ t, P t → ∀ x ∈ [t], P x := fun t ht x hx => by rw [List.mem_singleton.1 hx]; exact ht
  have hsk : ∀ t ∈ skipSpace buf, t ∈ buf := fun t ht => (List.dropWhile_sublist _).subset ht
  unfold argBufferPure
  split
  · exact ⟨one _ (hmade _ hs).1, by simp, by simp⟩
  · rename_i tok rest heq
    rw [heq] at hsk
    have htok := hsk tok List.mem_cons_self
    have hrest : ∀ x ∈ rest, P x := fun x hx => hb x (hsk x (List.mem_cons_of_mem _ hx))
    have hall : ∀ x ∈ tok :: rest, P x := fun x hx => hb x (hsk x hx)
    have hpos := hR tok htok
    -- `split` is slow on these two: the goal holds four copies of the `if`
    by_cases hpar : (tok.kind == .par) = true
    · rw [if_pos hpar]
      exact ⟨one _ (hmade _ hpos).1, hall, by simp⟩
    rw [if_neg hpar]
    by_cases hone : (endBrace && !txtIsNV tok "{") = true
    · rw [if_pos hone]
      exact ⟨one _ (hb tok htok), hrest, by simp⟩
    rw [if_neg hone]
    simp only []
    split
    · rename_i out rest' hc
      obtain ⟨m1, m2⟩ := collectArg_mem _ _ _ _ _ _ hc
      refine ⟨?_, fun x hx => hrest x (m2 x hx), by simp⟩
      split
      · exact one _ (hmade _ hpos).1
      · intro x hx
        rcases m1 x hx with h' | h'
        · cases h'
        · exact hrest x h'
    · exact ⟨one _ (hmade _ hpos).2, hall, fun _ _ => hpos⟩
theorem argBufferPure_spec (n : Nat) (mark : Str) (buf : Buf) (start : Nat) (endBrace : Bool)
    (hb : BL T n buf) (hs : start < n) :
    BL T n (argBufferPure mark buf start endBrace).arg ∧ (argBufferPure mark buf start endBrace).arg ≠ [] ∧
    BL T n (argBufferPure mark buf start endBrace).buf ∧
    (∀ e, (argBufferPure mark buf start endBrace).err = some e → (argBufferPure mark buf start endBrace).errPos < n) := by
  obtain ⟨h1, h2, h3⟩ := argBufferPure_all (BTok T n) (· < n) mark buf start endBrace hb (fun t ht => (hb t ht).1.1) hs
    (fun p hp => ⟨OTok_BTok T n _ (OTok_mkVoid T n p hp),
      OTok_BTok T n _ (OTok_mkFix T n _ .text _ hp (Or.inl rfl))⟩)
  exact ⟨h1, argBufferPure_arg_ne_nil mark buf start endBrace, h2, h3⟩

theorem argBuffer_spec (hw : T.WFInv) (buf : Buf) (start : Nat) (endBrace : Bool) (st : PState)
    (hb : BL T st.latex.length buf) (hs : start < st.latex.length) :
    Post (argBuffer T.toTables buf start endBrace st) (fun r st' =>
      BL T st.latex.length r.1 ∧ r.1 ≠ [] ∧ BL T st.latex.length r.2 ∧ st' = { st with diags := st'.diags }) := by
  obtain ⟨h1, h2, h3, h4⟩ := argBufferPure_spec T st.latex.length T.mark buf start endBrace hb hs
  simp only [argBuffer]
  generalize argBufferPure T.mark buf start endBrace = r at *
  obtain ⟨arg, rbuf, err, errPos⟩ := r
  simp only [] at h1 h2 h3 h4 ⊢
  cases err with
  | none => exact ⟨h1, h2, h3, rfl⟩
  | some e =>
    simp only []
    apply Post_bind _ _ _ _ _ (latexError_spec T hw e _ st (h4 e rfl))
    intro errToks s ⟨ho, hs'⟩
    have hbl := OL_BL T _ _ ho
    cases rbuf with
    | nil => exact ⟨h1, h2, hbl, hs'⟩
    | cons opening collected =>
      rw [Basic_BL_cons] at h3
      refine ⟨h1, h2, ?_, hs'⟩
      show BL T _ (opening :: (errToks ++ collected))
      rw [Basic_BL_cons, BL_append]
      exact ⟨h3.1, hbl, h3.2⟩

theorem parseNewlineOption_spec (hw : T.WFInv) (buf : Buf) (skip : Bool) (st : PState)
    (hb : BL T st.latex.length buf) :
    Post (parseNewlineOption T buf skip st) (fun r st' =>
      BL T st.latex.length r ∧ st' = { st with diags := st'.diags }) := by
  simp only [parseNewlineOption]
  have hb1 : BL T st.latex.length (if skip = true then (match lookAheadSL buf with
                            | some t => if txtIsNV t "[" = true then skipSpace buf else buf
                            | none => buf) else buf) := by
    split
    · split
      · split
        · exact BL_skipSpace T _ _ hb
        · exact hb
      · exact hb
    · exact hb
  generalize (if skip = true then (match lookAheadSL buf with
                            | some t => if txtIsNV t "[" = true then skipSpace buf else buf
                            | none => buf) else buf) = buf1 at hb1
  cases buf1 with
  | nil => exact ⟨hb1, rfl⟩
  | cons t tail =>
    simp only []
    split
    · apply Post_bind _ _ _ _ _ (argBuffer_spec T hw _ t.pos false st hb1 (hb1 t (by simp)).1.1)
      intro r s ⟨_, _, h3, h4⟩
      exact ⟨h3, h4⟩
    · exact ⟨hb1, rfl⟩

def DiagsOnly (st st' : PState) : Prop := st' = { st with diags := st'.diags }

theorem DiagsOnly.refl (st : PState) : DiagsOnly st st := rfl

theorem DiagsOnly.latex {a b : PState} (h : DiagsOnly a b) : b.latex = a.latex := by
  unfold DiagsOnly at h; rw [h]

theorem DiagsOnly.trans {a b c : PState} (h1 : DiagsOnly a b) (h2 : DiagsOnly b c) : DiagsOnly a c := by
  unfold DiagsOnly at *
  rw [h2]; simp only []; rw [h1]

theorem collectArgs_spec (hw : T.WFInv) (mac : MacroDef) (codes : List Char) (k : Nat) (buf : Buf) (pos : Nat)
    (acc : Args) (st : PState)
    (hm : macroToksOk T mac = true) (hb : BL T st.latex.length buf) (hp : pos < st.latex.length)
    (ha : (∀ a ∈ acc.args, BL T st.latex.length a) ∧ (∀ a ∈ acc.extr, BL T st.latex.length a))
    (hl : BL T st.latex.length acc.langs) :
    Post (collectArgs T mac codes k buf pos acc st) (fun r st' =>
      (∀ a ∈ r.1.args, BL T st.latex.length a) ∧ (∀ a ∈ r.1.extr, BL T st.latex.length a) ∧
      BL T st.latex.length r.2 ∧ st' = { st with diags := st'.diags } ∧ BL T st.latex.length r.1.langs) := by
  refine PostC.mono (collectArgs_all T (BTok T st.latex.length) (BTok T st.latex.length) (· < st.latex.length)
    (DiagsOnly st) mac ?_ (fun t h => h.1.1) (fun t h _ => h) (fun p hp' => OTok_BTok T _ _ (OTok_mkVoid T _ p hp')) ?_
    codes k buf pos acc st (DiagsOnly.refl st) hb hp ⟨ha.1, ha.2, hl⟩)
    (fun r s h => ⟨h.2.1.1, h.2.1.2.1, h.2.2, h.1, h.2.1.2.2⟩)
  · intro b p eb s hI hb' hp'
    have hlen : s.latex.length = st.latex.length := by rw [hI.latex]
    rw [← hlen] at hb' hp' ⊢
    exact PostC.mono (argBuffer_spec T hw b p eb s hb' hp') (fun r s' h => ⟨hI.trans h.2.2.2, h.1, h.2.2.1⟩)
  · intro d hd t ht p hp'
    refine BTok_restamp T _ p t ?_ hp'
    simp only [macroToksOk, Bool.and_eq_true, List.all_eq_true] at hm
    exact hm.1.1.2 d hd t ht

/-! Replacement generation keeps a token predicate `P`: the arguments are copied, between action tokens made at
   their ends; a body token that is `S` becomes `P` when it is pinned to a position that is `R`; the positions are
   those of `P`-tokens or the start. -/
section
variable (P S : Tok → Prop) (R : Nat → Prop) (hpos : ∀ t, P t → R t.pos) (arguments : List (List Tok))
  (ha : ∀ a ∈ arguments, ∀ t ∈ a, P t)
include hpos ha

theorem initCurPos_all : ∀ (repls : List Tok) (cur c : Nat), R cur → initCurPos arguments repls cur = some c → R c := by
  intro repls
  induction repls with
  | nil => intro cur c hc h; simp only [initCurPos, Option.some.injEq] at h; exact h ▸ hc
  | cons t ts ih =>
    intro cur c hc h
    simp only [initCurPos] at h
    split at h
    · exact ih _ _ hc h
    · split at h
      · cases h
      · rename_i a hpa
        refine ih _ _ ?_ h
        split
        · rename_i hd hh
          exact hpos _ (ha a (pyIndex_mem' _ _ _ hpa) hd (List.mem_of_mem_head? hh))
        · exact hc

variable (hact : ∀ p, R p → P (mkAction p)) (hpin : ∀ t p, S t → R p → P { t with pos := p, fix := true })
include hact hpin

theorem genReplLoop_all : ∀ (repls : List Tok) (cur : Nat) (out res : List Tok), R cur → (∀ t ∈ out, P t) →
    (∀ t ∈ repls, S t) → genReplLoop arguments repls cur out = some res → ∀ t ∈ res, P t := by
  intro repls
  induction repls with
  | nil => intro cur out res _ ho _ h; simp only [genReplLoop, Option.some.injEq] at h; subst h; exact ho
  | cons t ts ih =>
    intro cur out res hc ho hr h
    have hr' : ∀ x ∈ ts, S x := fun x hx => hr x (List.mem_cons_of_mem _ hx)
    have snoc : ∀ (l : List Tok) (x : Tok), (∀ t ∈ l, P t) → P x → ∀ t ∈ l ++ [x], P t := fun l x hl hx t ht =>
      (List.mem_append.1 ht).elim (hl t) (fun h => List.mem_singleton.1 h ▸ hx)
    simp only [genReplLoop] at h
    split at h
    · split at h
      · cases h
      · rename_i a hpa
        have hba := ha a (pyIndex_mem' _ _ _ hpa)
        split at h
        · rename_i hd l hh hl
          have h1 := hpos _ (hba hd (List.mem_of_mem_head? hh))
          have h2 := hpos _ (hba l (List.mem_of_getLast? hl))
          refine ih _ _ _ h2 (snoc _ _ (fun t ht => ?_) (hact _ h2)) hr' h
          exact (List.mem_append.1 ht).elim (snoc _ _ ho (hact _ h1) t) (hba t)
        · exact ih _ _ _ hc ho hr' h
    · exact ih _ _ _ hc (snoc _ _ ho (hpin t cur (hr t List.mem_cons_self) hc)) hr' h

theorem generateReplacements_all (repls : List Tok) (start : Nat) (out : List Tok) (hr : ∀ t ∈ repls, S t)
    (hs : R start) (h : generateReplacements arguments repls start = some out) : ∀ t ∈ out, P t := by
  unfold generateReplacements at h
  split at h
  · cases h
  · rename_i cur hc
    exact genReplLoop_all P S R hpos arguments ha hact hpin repls cur [] out
      (initCurPos_all P R hpos arguments ha repls start cur hs hc) (fun _ h => nomatch h) hr h

end

theorem generateReplacements_BL (n : Nat) (arguments : List (List Tok)) (repls : List Tok) (start : Nat)
    (out : List Tok) (ha : ∀ a ∈ arguments, BL T n a) (hr : ∀ t ∈ repls, storedOk T t = true) (hs : start < n)
    (h : generateReplacements arguments repls start = some out) : BL T n out :=
  generateReplacements_all (BTok T n) (storedOk T · = true) (· < n) (fun _ h => h.1.1) arguments ha
    (fun p hp => OTok_BTok T n _ (OTok_mkAction T n p hp)) (fun t p ht hp => BTok_restamp T n p t ht hp) repls start out hr hs h

theorem defArgs_mem : ∀ (fuel : Nat) (buf : Buf) (acc args : List Tok) (buf1 : Buf),
    defArgs fuel buf acc = some (args, buf1) →
    (∀ t ∈ args, t ∈ acc ∨ t ∈ buf) ∧ (∀ t ∈ buf1, t ∈ buf) := by
  intro fuel
  induction fuel with
  | zero => intro buf acc args buf1 h; simp [defArgs] at h
  | succ fuel ih =>
    intro buf acc args buf1 h
    simp only [defArgs] at h
    have hsub : ∀ x ∈ skipSpace buf, x ∈ buf := fun x hx => (List.dropWhile_sublist _).subset hx
    split at h
    · cases h
    · rename_i t rest heq
      rw [heq] at hsub
      split at h
      · simp only [Option.some.injEq, Prod.mk.injEq] at h
        obtain ⟨rfl, rfl⟩ := h
        exact ⟨fun x hx => Or.inl (by simpa using hx), hsub⟩
      · obtain ⟨i1, i2⟩ := ih _ _ _ _ h
        refine ⟨fun x hx => ?_, fun x hx => hsub x (by simp [i2 x hx])⟩
        rcases i1 x hx with h' | h'
        · simp only [List.mem_cons] at h'
          rcases h' with rfl | h'
          · exact Or.inr (hsub _ (by simp))
          · exact Or.inl h'
        · exact Or.inr (hsub x (by simp [h']))

theorem defArgPosMap_err : ∀ (ts : List Tok) (k n : Nat) (acc : List Nat) (t : Tok),
    defArgPosMap ts k n acc = .error t → t ∈ ts := by
  intro ts
  induction ts with
  | nil => intro k n acc t h; simp [defArgPosMap] at h
  | cons u us ih =>
    intro k n acc t h
    simp only [defArgPosMap] at h
    split at h
    · split at h
      · simp only [Except.error.injEq] at h; simp [h]
      · simp [ih _ _ _ _ h]
    · simp [ih _ _ _ _ h]

theorem storedOk_arg (t : Tok) (k : Nat) (_h : storedOk T t = true) (ha : argRef t ≠ none) :
    storedOk T { t with kind := .arg k } = true := by
  unfold argRef at ha
  split at ha
  · rename_i n hk
    simp only [storedOk, isMathTok, ctlEmpty, mbOk]
    rfl
  · exact absurd rfl ha

theorem defMapRepl_spec (map : List Nat) : ∀ (ts acc : List Tok),
    (∀ t ∈ ts, storedOk T t = true) → (∀ t ∈ acc, storedOk T t = true) →
    (∀ t, defMapRepl map ts acc = .error t → t ∈ ts) ∧
    (∀ r, defMapRepl map ts acc = .ok r → ∀ t ∈ r, storedOk T t = true) := by
  intro ts
  induction ts with
  | nil =>
    intro acc _ ha
    refine ⟨fun t h => ?_, fun r h => ?_⟩
    · simp [defMapRepl] at h
    · simp only [defMapRepl, Except.ok.injEq] at h
      subst h
      intro t ht; exact ha t (by simpa using ht)
  | cons u us ih =>
    intro acc hts ha
    have hus : ∀ t ∈ us, storedOk T t = true := fun t ht => hts t (by simp [ht])
    simp only [defMapRepl]
    split
    · rename_i a hau
      split
      · exact ⟨fun t h => by simp only [Except.error.injEq] at h; simp [h], fun r h => by cases h⟩
      · have := ih ({ u with kind := .arg (map.getD (a - 1) 0) } :: acc) hus (by
          intro t ht
          simp only [List.mem_cons] at ht
          rcases ht with rfl | ht
          · exact storedOk_arg T u _ (hts u (by simp)) (by rw [hau]; simp)
          · exact ha t ht)
        exact ⟨fun t h => by simp [this.1 t h], this.2⟩
    · have := ih (u :: acc) hus (by
        intro t ht
        simp only [List.mem_cons] at ht
        rcases ht with rfl | ht
        · exact hts _ (by simp)
        · exact ha t ht)
      exact ⟨fun t h => by simp [this.1 t h], this.2⟩

theorem lookupMacro_mem (st : PState) (name : Str) (m : MacroDef) (h : lookupMacro st name = some m) :
    m ∈ st.macros ∧ m.name = name := by
  unfold lookupMacro at h
  exact ⟨List.mem_of_find?_eq_some h, by simpa using List.find?_some h⟩

theorem lookupEnv_mem (st : PState) (name : Str) (m : MacroDef) (h : lookupEnv st name = some m) :
    m ∈ st.envs ∧ m.name = name := by
  unfold lookupEnv at h
  exact ⟨List.mem_of_find?_eq_some h, by simpa using List.find?_some h⟩

theorem setMacro_mem (ms : List MacroDef) (m x : MacroDef) (h : x ∈ setMacro ms m) : x ∈ ms ∨ x = m := by
  unfold setMacro at h
  split at h
  · simp only [List.mem_map] at h
    obtain ⟨y, hy, rfl⟩ := h
    split
    · exact Or.inr rfl
    · exact Or.inl hy
  · simp only [List.mem_append, List.mem_cons, List.not_mem_nil, or_false] at h
    exact h

theorem foldl_setMacro_mem (add ms : List MacroDef) (x : MacroDef) (h : x ∈ add.foldl setMacro ms) :
    x ∈ ms ∨ x ∈ add := by
  induction add generalizing ms with
  | nil => exact Or.inl h
  | cons a as ih =>
    rw [List.foldl_cons] at h
    rcases ih _ h with h' | h'
    · rcases setMacro_mem _ _ _ h' with h'' | rfl
      · exact Or.inl h''
      · exact Or.inr (by simp)
    · exact Or.inr (by simp [h'])

theorem BTok_mkTok_special (hw : T.WFInv) (n p : Nat) (k : Str) (hk : k ∈ [['{'], ['}'], ['\\', ';']])
    (hp : p < n) : BTok T n (mkTok .special p k) := by
  obtain ⟨v, hv, hl⟩ := hw.special_small k hk
  refine ⟨⟨hp, ?_, rfl, ?_⟩, rfl⟩
  · intro _
    simp only [extent, mkTok, hv, Option.getD_some]
    omega
  · simp [mbOk, mkTok, hv]

theorem Basic_Good_of_diags (nroot : Nat) (st st' : PState) (hg : G T nroot st) (h : DiagsOnly st st') :
    Good T nroot st st' := by
  unfold DiagsOnly at h
  refine ⟨?_, ?_, ?_⟩
  · rw [h]; exact G_diags T nroot st _ hg
  · rw [h]
  · rw [h]

theorem errRet_spec (hw : T.WFInv) (nroot : Nat) (st s : PState) (hg : G T nroot st) (hd : DiagsOnly st s)
    (err : Str) (pos : Nat) (hp : pos < st.latex.length) (b : Buf) (hb : BL T st.latex.length b) :
    Post ((latexError T.toTables err pos >>= fun e => (pure (e, b) : M (List Tok × Buf))) s) (fun r st' =>
      Good T nroot st st' ∧ OL T st.latex.length r.1 ∧ BL T st.latex.length r.2) := by
  have hl := hd.latex
  apply Post_bind _ _ _ _ _ (latexError_spec T hw err pos s (by rw [hl]; exact hp))
  intro e s' ⟨ho, hs'⟩
  have hs'' : DiagsOnly s s' := hs'
  rw [hl] at ho
  exact ⟨Basic_Good_of_diags T nroot st s' hg (hd.trans hs''), ho, hb⟩

theorem defArgPosMap_range : ∀ (ts : List Tok) (k n : Nat) (acc r : List Nat),
    defArgPosMap ts k n acc = .ok r → (∀ x ∈ acc, 1 ≤ x ∧ x < k) → 1 ≤ k →
    ∀ x ∈ r, 1 ≤ x ∧ x < k + ts.length := by
  intro ts
  induction ts with
  | nil =>
    intro k n acc r h ha _ x hx
    simp only [defArgPosMap, Except.ok.injEq] at h
    subst h
    simpa using ha x hx
  | cons u us ih =>
    intro k n acc r h ha hk x hx
    simp only [defArgPosMap] at h
    have hacc : ∀ y ∈ acc, 1 ≤ y ∧ y < k + 1 := fun y hy => ⟨(ha y hy).1, by have := (ha y hy).2; omega⟩
    simp only [List.length_cons]
    split at h
    · split at h
      · cases h
      · have := ih (k + 1) _ _ r h (by
          intro y hy
          simp only [List.mem_append, List.mem_cons, List.not_mem_nil, or_false] at hy
          rcases hy with hy | rfl
          · exact hacc y hy
          · omega) (by omega) x hx
        omega
    · have := ih (k + 1) _ _ r h hacc (by omega) x hx
      omega

theorem defMapRepl_arity (map : List Nat) (N : Nat) (hmap : ∀ x ∈ map, 1 ≤ x ∧ x ≤ N) :
    ∀ (ts acc r : List Tok), (∀ t ∈ acc, ∀ k, argRef t = some k → 1 ≤ k ∧ k ≤ N) →
    defMapRepl map ts acc = .ok r → ∀ t ∈ r, ∀ k, argRef t = some k → 1 ≤ k ∧ k ≤ N := by
  intro ts
  induction ts with
  | nil =>
    intro acc r ha h t ht
    simp only [defMapRepl, Except.ok.injEq] at h
    subst h
    exact ha t (by simpa using ht)
  | cons u us ih =>
    intro acc r ha h
    simp only [defMapRepl] at h
    split at h
    · rename_i a hau
      split at h
      · cases h
      · rename_i hc
        simp only [Bool.or_eq_true, decide_eq_true_eq, not_or, Nat.not_lt] at hc
        refine ih _ r ?_ h
        intro t ht k hk
        simp only [List.mem_cons] at ht
        rcases ht with rfl | ht
        · simp only [argRef, Option.some.injEq] at hk
          subst hk
          have hlt : a - 1 < map.length := by omega
          rw [List.getD_eq_getElem?_getD, List.getElem?_eq_getElem hlt, Option.getD_some]
          exact hmap _ (List.getElem_mem hlt)
        · exact ha t ht k hk
    · refine ih _ r ?_ h
      intro t ht k hk
      simp only [List.mem_cons] at ht
      rcases ht with rfl | ht
      · rename_i hn
        rw [hn] at hk; cases hk
      · exact ha t ht k hk

theorem arityOk_def (name : Str) (n : Nat) (repl : List Tok)
    (h : ∀ t ∈ repl, ∀ k, argRef t = some k → 1 ≤ k ∧ k ≤ n) :
    arityOk { name := name, args := List.replicate n 'A', repl := repl } = true := by
  simp only [arityOk, handlerArity, handlerNeedsA, List.all_nil, List.append_nil, Bool.and_true,
    Nat.zero_le, decide_true, Bool.true_and, List.all_eq_true, List.length_replicate]
  intro t ht
  split
  · rename_i k hk
    have := h t ht k hk
    simp [this.1, this.2]
  · rfl

theorem parseDefMacro_spec (hw : T.WFInv) (nroot : Nat) (buf : Buf) (start : Nat) (st : PState)
    (hg : G T nroot st) (hb : BL T st.latex.length buf) (hs : start < st.latex.length) :
    Post (parseDefMacro T buf start st) (fun r st' =>
      Good T nroot st st' ∧ OL T st.latex.length r.1 ∧ BL T st.latex.length r.2) := by
  have hsk := BL_skipSpace T _ buf hb
  simp only [parseDefMacro]
  generalize skipSpace buf = b at hsk ⊢
  cases b with
  | nil =>
    exact errRet_spec T hw nroot st st hg (DiagsOnly.refl st) _ _ hs _ (Basic_BL_nil T _)
  | cons tok rest =>
    obtain ⟨htok, hrest⟩ := (Basic_BL_cons T _ _ _).1 hsk
    simp only []
    split
    · exact errRet_spec T hw nroot st st hg (DiagsOnly.refl st) _ _ htok.1.1 _ hsk
    · cases hda : defArgs (rest.length + 1) rest [] with
      | none => exact errRet_spec T hw nroot st st hg (DiagsOnly.refl st) _ _ hs _ (Basic_BL_nil T _)
      | some ab =>
        obtain ⟨args, buf1⟩ := ab
        simp only []
        obtain ⟨m1, m2⟩ := defArgs_mem _ _ _ _ _ hda
        have hargs : ∀ t ∈ args, BTok T st.latex.length t := by
          intro t ht
          rcases m1 t ht with h' | h'
          · cases h'
          · exact hrest t h'
        have hbuf1 : BL T st.latex.length buf1 := fun t ht => hrest t (m2 t ht)
        have hp : (match buf1.head? with | some t => t.pos | none => start) < st.latex.length := by
          split
          · rename_i t ht; exact (hbuf1 t (List.mem_of_mem_head? ht)).1.1
          · exact hs
        apply Post_bind _ _ _ _ _ (argBuffer_spec T hw buf1 _ true st hbuf1 hp)
        intro r s ⟨h1, _, h3, h4⟩
        have hd : DiagsOnly st s := h4
        cases hpm : defArgPosMap args 1 1 [] with
        | error t =>
          exact errRet_spec T hw nroot st s hg hd _ _ (hargs t (defArgPosMap_err _ _ _ _ _ hpm)).1.1 _ h3
        | ok map =>
          simp only []
          have hst : ∀ t ∈ r.1, storedOk T t = true := fun t ht => BTok_storedOk T _ t (h1 t ht)
          obtain ⟨e1, e2⟩ := defMapRepl_spec T map r.1 [] hst (by simp)
          cases hmr : defMapRepl map r.1 [] with
          | error t =>
            exact errRet_spec T hw nroot st s hg hd _ _ (h1 t (e1 t hmr)).1.1 _ h3
          | ok repl =>
            simp only []
            apply Post_bind _ _ _ (fun _ s' => Good T nroot st s') _ (Post_modify _ _ _ ?_)
            · intro _ s' hgs
              exact ⟨hgs, OL_single T _ _ (OTok_mkAction T _ start hs), h3⟩
            · obtain ⟨hgs, hsame⟩ := Basic_Good_of_diags T nroot st s hg hd
              refine ⟨{ flows := hgs.flows, macros := ?_, envs := hgs.envs, gloss := hgs.gloss,
                        items := hgs.items, langs := hgs.langs, rots := hgs.rots, unk := hgs.unk,
                        root := hgs.root, inFrame := hgs.inFrame }, hsame⟩
              intro m hm
              simp only [List.mem_append] at hm
              rcases hm with hm | hm
              · rcases setMacro_mem _ _ _ hm with hm | rfl
                · exact hgs.macros m (by simp [hm])
                · have hmapr : ∀ x ∈ map, 1 ≤ x ∧ x ≤ args.length := by
                    intro x hx
                    have := defArgPosMap_range args 1 1 [] map hpm (by simp) (Nat.le_refl _) x hx
                    omega
                  have har := arityOk_def tok.txt args.length repl
                    (defMapRepl_arity map args.length hmapr r.1 [] repl (by simp) hmr)
                  simp only [macroToksOk, List.all_nil, Bool.and_true, Bool.and_eq_true, List.all_eq_true]
                  exact ⟨e2 repl hmr, har⟩
              · exact hgs.macros m (by simp [hm])

theorem expandShortMacro_spec (n : Nat) (st : PState) (tok : Tok) (rest : Buf)
    (ht : BTok T n tok) (hk : outKind tok = true) (hb : BL T n rest) :
    OTok T n (expandShortMacro T st tok rest).1 ∧ BL T n (expandShortMacro T st tok rest).2 := by
  have hto : OTok T n tok := ⟨ht.1, hk⟩
  unfold expandShortMacro
  split
  · exact ⟨hto, Basic_BL_nil T n⟩
  · rename_i cur rest'
    simp only []
    split
    · exact ⟨hto, hb⟩
    · exact ⟨OTok_mkFix T n _ .text _ ht.1.1 (Or.inl rfl), ((Basic_BL_cons T n _ _).1 hb).2⟩

theorem expandVerbEnvToken_BL (hw : T.WFInv) (n : Nat) (t : Tok) (h : BTok T n t) (hk : t.kind = .verb true) :
    BL T n (expandVerbEnvToken t) := by
  obtain ⟨⟨hp, hext, _, _⟩, _⟩ := h
  have hext' : t.fix = false → t.pos + t.txt.length + 14 ≤ n := by
    intro hf; have := hext hf; simp only [extent, hk] at this; omega
  obtain ⟨v1, hv1, hl1⟩ := hw.special_small ['{'] (by simp)
  obtain ⟨v2, hv2, hl2⟩ := hw.special_small ['}'] (by simp)
  have he : (if t.fix = true then t.pos else t.pos + t.txt.length) < n := by
    split
    · exact hp
    · rename_i hf; have := hext' (by simpa using hf); omega
  have hee : t.fix = false → (if t.fix = true then t.pos else t.pos + t.txt.length) + 14 ≤ n := by
    intro hf; have := hext' hf; simp [hf]; omega
  intro x hx
  simp only [expandVerbEnvToken, List.mem_cons, List.not_mem_nil, or_false] at hx
  rcases hx with rfl | rfl | rfl | rfl | rfl | rfl | rfl | rfl | rfl
  · exact ⟨⟨hp, fun hf => by simp [extent]; omega, rfl, rfl⟩, rfl⟩
  · exact ⟨⟨hp, fun hf => by simp [extent, hv1]; omega, rfl, by simp [mbOk, hv1]⟩, rfl⟩
  · exact ⟨⟨hp, fun hf => by have := hext' hf; simp [extent]; omega, rfl, rfl⟩, rfl⟩
  · exact ⟨⟨hp, fun hf => by simp [extent, hv2]; omega, rfl, by simp [mbOk, hv2]⟩, rfl⟩
  · exact ⟨⟨hp, fun hf => by have := hext' hf; simp [extent]; omega, rfl, rfl⟩, rfl⟩
  · exact ⟨⟨he, fun hf => by simp [extent]; omega, rfl, rfl⟩, rfl⟩
  · exact ⟨⟨he, fun hf => by have := hee hf; simp [extent, hv1]; omega, rfl, by simp [mbOk, hv1]⟩, rfl⟩
  · exact ⟨⟨he, fun hf => by have := hee hf; simp [extent]; omega, rfl, rfl⟩, rfl⟩
  · exact ⟨⟨he, fun hf => by have := hee hf; simp [extent, hv2]; omega, rfl, by simp [mbOk, hv2]⟩, rfl⟩

theorem LinesRel_pred (P : Tok → Prop) (hF : ∀ t, P t → P (trimFirst t)) (hL : ∀ t, P t → P (trimLast t))
    (hS : ∀ t, P t → P (sentinel t.pos)) (items : List LItem) (r : List Tok) (hrel : LinesRel items r)
    (h : ∀ i ∈ items, P i.tok) : ∀ t ∈ r, P t := by
  induction hrel with
  | nil => simp
  | skip t rest r hcs _ ih =>
    intro x hx
    simp only [List.mem_cons] at hx
    rcases hx with rfl | hx
    · exact h t (by simp)
    · exact ih (fun i hi => h i (by simp [hi])) x hx
  | one t hcs => intro x hx; simp at hx; subst hx; exact h t (by simp)
  | remove t mid lst rest' r hcs hm hx hb hany _ ih =>
    intro x hx'
    simp only [List.mem_cons, List.mem_append, List.mem_filter, List.mem_map] at hx'
    rcases hx' with rfl | ⟨⟨i, hi, rfl⟩, _⟩ | hx'
    · exact hF _ (h t (by simp))
    · apply h i
      simp only [List.mem_cons, List.mem_append, List.not_mem_nil, or_false] at hi ⊢
      rcases hi with rfl | hi | rfl <;> simp [*]
    · refine ih ?_ x hx'
      intro i hi
      simp only [List.mem_cons] at hi
      rcases hi with rfl | rfl | hi
      · simpa using hS _ (hL _ (h lst (by simp)))
      · simpa using hL _ (h lst (by simp))
      · exact h i (by simp [hi])
  | keep t mid lst rest' r hcs hm hx hb _ ih =>
    intro x hx'
    simp only [List.mem_cons, List.mem_append, List.mem_map] at hx'
    rcases hx' with rfl | ⟨i, hi, rfl⟩ | hx'
    · exact h t (by simp)
    · exact h i (by simp [hi])
    · refine ih ?_ x hx'
      intro i hi
      simp only [List.mem_cons] at hi
      rcases hi with rfl | hi
      · simpa using h lst (by simp)
      · exact h i (by simp [hi])

/-- invariant of the work list of `remove_pure_action_lines`: like `OTok`, but a non-fixed
    token that has lost all its text may sit at position `n` (it is dropped at the end) -/
def LTok (n : Nat) (t : Tok) : Prop :=
  outKind t = true ∧ ctlEmpty t = true ∧ (t.fix = false → t.pos + t.txt.length ≤ n) ∧
  ((t.fix = true ∨ isLang t = true) → t.pos < n)

theorem outKind_mbOk (t : Tok) (h : outKind t = true) : mbOk T t = true := by
  unfold outKind at h
  unfold mbOk
  split <;> simp_all

theorem LTok_of_OTok (n : Nat) (t : Tok) (h : OTok T n t) : LTok n t := by
  refine ⟨h.2, h.1.2.2.1, fun hf => ?_, fun _ => h.1.1⟩
  have := h.1.2.1 hf
  rw [extent_outKind T t h.2] at this
  exact this

theorem OTok_of_LTok (n : Nat) (t : Tok) (h : LTok n t) (hk : keepOut t = true) : OTok T n t := by
  obtain ⟨h1, h2, h3, h4⟩ := h
  refine ⟨⟨?_, fun hf => by rw [extent_outKind T t h1]; exact h3 hf, h2, outKind_mbOk T t h1⟩, h1⟩
  cases hf : t.fix with
  | true => exact h4 (Or.inl hf)
  | false =>
    cases hl : isLang t with
    | true => exact h4 (Or.inr hl)
    | false =>
      simp only [keepOut, hl, Bool.or_false, Bool.not_eq_eq_eq_not, Bool.not_true,
        List.isEmpty_eq_false_iff] at hk
      have := h3 hf
      have : 0 < t.txt.length := List.length_pos_iff.2 hk
      omega

theorem LTok_sentinel (n p : Nat) (h : p ≤ n) : LTok n (sentinel p) := by
  refine ⟨rfl, rfl, fun _ => by simpa [sentinel] using h, fun hh => ?_⟩
  rcases hh with hh | hh <;> simp [sentinel, isLang] at hh

theorem LTok_pos_le (n : Nat) (t : Tok) (h : LTok n t) : t.pos ≤ n := by
  cases hf : t.fix with
  | true => exact Nat.le_of_lt (h.2.2.2 (Or.inl hf))
  | false => have := h.2.2.1 hf; omega

theorem ctlEmpty_shrink (t u : Tok) (hk : u.kind = t.kind) (hl : u.txt.length ≤ t.txt.length)
    (h : ctlEmpty t = true) : ctlEmpty u = true := by
  unfold ctlEmpty at h ⊢
  rw [hk]
  split <;> simp_all

theorem LTok_trimFirst (n : Nat) (t : Tok) (h : LTok n t) : LTok n (trimFirst t) := by
  obtain ⟨h1, h2, h3, h4⟩ := h
  have hl := trimFirst_txt_length t
  refine ⟨h1, ctlEmpty_shrink t _ rfl hl h2, fun hf => ?_, h4⟩
  have := h3 hf
  show t.pos + (trimFirst t).txt.length ≤ n
  omega

theorem trimLast_len (t : Tok) :
    (trimLast t).txt.length ≤ t.txt.length ∧
    (t.fix = false → (trimLast t).pos + (trimLast t).txt.length = t.pos + t.txt.length) ∧
    (t.fix = true → (trimLast t).pos = t.pos) ∧ (t.txt = [] → (trimLast t).pos = t.pos) := by
  by_cases hn : hasNl t.txt = true
  · have hs := congrArg List.length (split_first t.txt hn)
    simp only [List.length_append, List.length_cons] at hs
    have hne : t.txt ≠ [] := by intro e; rw [e] at hn; simp [hasNl] at hn
    simp only [trimLast, hn, if_true]
    refine ⟨by omega, fun hf => by simp [hf]; omega, fun hf => by simp [hf], fun e => absurd e hne⟩
  · simp only [trimLast, hn]
    refine ⟨by simp, fun hf => by simp [hf], fun hf => by simp [hf], fun e => by simp [e]⟩

theorem LTok_trimLast (n : Nat) (t : Tok) (h : LTok n t) : LTok n (trimLast t) := by
  obtain ⟨h1, h2, h3, h4⟩ := h
  obtain ⟨l1, l2, l3, l4⟩ := trimLast_len t
  refine ⟨h1, ctlEmpty_shrink t _ rfl l1 h2, fun hf => ?_, fun hh => ?_⟩
  · have hf' : t.fix = false := hf
    rw [l2 hf']; exact h3 hf'
  · rcases hh with hh | hh
    · have hf' : t.fix = true := hh
      rw [l3 hf']; exact h4 (Or.inl hf')
    · have hl' : isLang t = true := hh
      have : t.txt = [] := by
        unfold isLang at hl'
        unfold ctlEmpty at h2
        split at h2 <;> simp_all
      rw [l4 this]; exact h4 (Or.inr hl')

theorem removeLines_OL (n : Nat) (ts out : List Tok) (h : OL T n ts) (hr : removeLines ts = some out) :
    OL T n out := by
  obtain ⟨r, hrel, rfl⟩ := removeLines_rel ts out hr
  intro t ht
  simp only [List.mem_filter] at ht
  refine OTok_of_LTok T n t ?_ ht.2
  refine LinesRel_pred (LTok n) (LTok_trimFirst n) (LTok_trimLast n) (fun t h => LTok_sentinel n _ (LTok_pos_le n t h)) _ r hrel ?_ t ht.1
  intro i hi
  simp only [linesInit, List.mem_cons, List.mem_append, List.mem_map, List.mem_filter,
    List.not_mem_nil, or_false] at hi
  rcases hi with (rfl | ⟨u, hu, rfl⟩) | rfl
  · exact LTok_sentinel n 0 (Nat.zero_le _)
  · rw [evalTok_tok]; exact LTok_of_OTok T n u (h u hu.1)
  · refine LTok_sentinel n _ ?_
    split
    · rename_i u hu
      have := List.mem_of_getLast? hu
      simp only [List.mem_filter] at this
      exact Nat.le_of_lt (h u this.1).1.1
    · exact Nat.zero_le _

/-- token classes the scanner produces -/
def scanKind (k : Kind) : Bool :=
  match k with
  | .action | .void | .lang .. | .mathBegin _ | .mathElem | .mathOper | .mathSpace => false
  | _ => true

theorem scanKind_ctlEmpty (t : Tok) (h : scanKind t.kind = true) : ctlEmpty t = true := by
  unfold scanKind at h
  unfold ctlEmpty
  split <;> simp_all

/-- special and accent tokens need a table fact, see `ScanLeaf.mbOk` -/
theorem scanKind_mbOk (t : Tok) (h : scanKind t.kind = true) (hs : t.kind ≠ .special) (ha : t.kind ≠ .accent) :
    mbOk T t = true := by
  unfold scanKind at h
  unfold mbOk
  split <;> simp_all

theorem mbOk_text (t : Tok) (h : t.kind = .text) : mbOk T t = true := by
  unfold mbOk; rw [h]

theorem specialVal_isSome_of_key (k : Str) (h : k ∈ T.special.map (·.1)) :
    (T.toTables.specialVal k).isSome = true := by
  simp only [List.mem_map] at h
  obtain ⟨kv, hkv, rfl⟩ := h
  unfold Tables.specialVal
  rw [Option.isSome_map, List.find?_isSome]
  exact ⟨kv, hkv, by simp⟩

theorem accentOk_of_isAccent (hw : T.WFInv) (k : Str) (h : T.toTables.isAccent k = true) : accentOk T k = true := by
  unfold Tables.isAccent at h
  unfold accentOk
  cases hf : T.accents.find? (·.1 == k) with
  | none =>
    rw [List.find?_eq_none] at hf
    rw [List.any_eq_true] at h
    obtain ⟨a, ha, hak⟩ := h
    exact absurd hak (hf a ha)
  | some a =>
    have := hw.accent_names a (List.mem_of_find?_eq_some hf)
    simp only [Bool.not_eq_eq_eq_not, Bool.not_true, List.isEmpty_eq_false_iff]
    exact this

theorem scanKind_notMath (t : Tok) (h : scanKind t.kind = true) : isMathTok t = false := by
  unfold scanKind at h
  unfold isMathTok
  split <;> simp_all

theorem specialVal_len (hw : T.WFInv) (k : Str) : ((T.toTables.specialVal k).getD k).length ≤ k.length := by
  unfold Tables.specialVal
  cases hf : T.special.find? (·.1 == k) with
  | none => simp
  | some kv =>
    have hm := List.mem_of_find?_eq_some hf
    have hp := List.find?_some hf
    simp only [beq_iff_eq] at hp
    have := hw.special_len kv hm
    simp only [Option.map_some, Option.getD_some]
    rw [← hp]; exact this

theorem extent_le (hw : T.WFInv) (t : Tok) (h : t.kind ≠ .verb true) : extent T t ≤ t.txt.length := by
  unfold extent
  split
  all_goals first
    | exact specialVal_len T hw _
    | exact absurd ‹_› h
    | exact Nat.zero_le _
    | exact Nat.le_refl _

theorem errTok_kind (T' : Tables) (e : Str) (p n : Nat) :
    ((latexErrorToks T' e p n).headD default).kind = .text := by
  unfold latexErrorToks
  simp only []
  split <;> rfl

/-- kinds of scanner tokens about which the invariants need to know the kind only -/
def plainKind : Kind → Bool
  | .space | .par | .comment | .xbegin | .xend | .item | .xmacro | .verb false => true
  | _ => false

theorem plainKind_facts {k : Kind} (h : plainKind k = true) :
    scanKind k = true ∧ k ≠ .verb true ∧ k ≠ .text ∧ k ≠ .special ∧ k ≠ .accent ∧ ∀ v, k ≠ .arg v := by
  unfold plainKind at h
  split at h <;> simp_all [scanKind]

/-- What one step of the scanner yields on a non-empty rest, i.e. the leaves of the decision tree `nextToken` /
    `scanArgToken` / `scanMacro` / `scanVerb` / `scanVerbatim`: an error mark, or a token whose kind is a literal. -/
inductive ScanLeaf (T' : Tables) (src : Str) (start : Nat) (rest : Str) : ScanStep → Prop
  | err (e : Str) (k : Nat) (d : Option Diag) : ScanLeaf T' src start rest
      { tok := (latexErrorToks T' e start src.length).headD default, len := k, diag := d,
        extra := (latexErrorToks T' e start src.length).tail }
  | plain (tok : Tok) (k : Nat) (hk : plainKind tok.kind = true) : ScanLeaf T' src start rest { tok := tok, len := k }
  | text (c : Char) : ScanLeaf T' src start rest { tok := { kind := .text, pos := start, txt := [c] }, len := 1 }
  | special (t : Str) (k : Nat) (ht : matchSpecial T' rest = some t ∨ t = ['#']) :
      ScanLeaf T' src start rest { tok := { kind := .special, pos := start, txt := t }, len := k }
  | arg (d : Char) (tl : Str) (v : Nat) (hrest : rest = '#' :: d :: tl)
      (hv : decimalValue T'.decimalZeros d = some v) :
      ScanLeaf T' src start rest { tok := { kind := .arg v, pos := start, txt := rest.take 2 }, len := 2 }
  | accent (mac : Str) (k : Nat) (hacc : T'.isAccent mac = true) :
      ScanLeaf T' src start rest { tok := { kind := .accent, pos := start, txt := mac }, len := k }
  | verbatim (p e : Nat) : ScanLeaf T' src start rest
      { tok := { kind := .verb true, pos := start + p, txt := (rest.drop p).take e }, len := p + e + 14 }

open ScannerAux (of_ite)

theorem scanVerb_leaf (T' : Tables) (src : Str) (start : Nat) (rest : Str) :
    ScanLeaf T' src start rest (scanVerb T' src start rest) := by
  unfold scanVerb
  simp only []
  split
  · exact .err ..
  · split
    · exact .err ..
    · exact of_ite (fun _ => .err ..) fun _ => .plain _ _ rfl

theorem scanVerbatim_leaf (T' : Tables) (src : Str) (start : Nat) (rest : Str) :
    ScanLeaf T' src start rest (scanVerbatim T' src start rest) := by
  unfold scanVerbatim
  simp only []
  refine of_ite (fun _ => .plain _ _ rfl) fun _ => ?_
  split
  · exact .err ..
  · exact .verbatim ..

theorem scanMacro_leaf (T' : Tables) (src : Str) (start : Nat) (rest : Str) :
    ScanLeaf T' src start rest (scanMacro T' src start rest) := by
  unfold scanMacro
  refine of_ite (fun _ => scanVerbatim_leaf ..) fun _ => of_ite (fun _ => .plain _ _ rfl) fun _ =>
    of_ite (fun _ => .plain _ _ rfl) fun _ => of_ite (fun _ => scanVerb_leaf ..) fun _ => ?_
  exact of_ite (fun hacc => .accent _ _ hacc) fun _ => .plain _ _ rfl

theorem nextToken_leaf (T' : Tables) (src : Str) (start : Nat) (rest : Str) (hr : rest ≠ []) :
    ScanLeaf T' src start rest (nextToken T' src start rest) := by
  cases rest with
  | nil => exact absurd rfl hr
  | cons c cs =>
    unfold nextToken
    refine of_ite (fun _ => ?_) fun _ => of_ite (fun _ => .plain _ _ rfl) fun _ => of_ite (fun hc => ?_) fun _ => ?_
    · refine .plain _ _ ?_
      show plainKind (if _ then .space else .par) = true
      split <;> rfl
    · rw [beq_iff_eq] at hc
      subst hc
      unfold scanArgToken
      split
      · exact .special _ _ (Or.inr rfl)
      · rename_i d hd
        split
        · exact .special _ _ (Or.inr rfl)
        · rename_i v hv
          cases cs with
          | nil => cases hd
          | cons d' tl =>
            cases hd
            exact .arg d tl v rfl hv
    · split
      · rename_i t ht
        exact .special t _ (Or.inl ht)
      · exact of_ite (fun _ => scanMacro_leaf ..) fun _ => .text c

/-- what `Proofs/Scanner.lean` does not record: the class of a scanner token, and the room
    behind a verbatim-environment token for its `\end{verbatim}` -/
def G2 (start : Nat) (s : ScanStep) : Prop :=
  scanKind s.tok.kind = true ∧
  (s.tok.kind = .verb true → s.tok.pos + s.tok.txt.length + 14 ≤ start + s.len)

theorem G2_simple (start : Nat) (s : ScanStep) (h1 : scanKind s.tok.kind = true) (h2 : s.tok.kind ≠ .verb true) :
    G2 start s := ⟨h1, fun h => absurd h h2⟩

theorem ScanLeaf.G2 {T' : Tables} {src rest : Str} {start : Nat} {s : ScanStep} (h : ScanLeaf T' src start rest s) :
    G2 start s := by
  cases h with
  | err e k d =>
    refine G2_simple _ _ ?_ ?_
    · show scanKind (_ : Tok).kind = true
      rw [errTok_kind]; rfl
    · show ¬ (_ : Tok).kind = _
      rw [errTok_kind]; simp
  | plain tok k hk => exact G2_simple _ _ (plainKind_facts hk).1 (plainKind_facts hk).2.1
  | verbatim p e =>
    refine ⟨rfl, fun _ => ?_⟩
    simp only [List.length_take]
    omega
  | _ => exact G2_simple _ _ rfl (by simp)

/-- a scanner token of class SpecialToken is a key of `special_tokens` (longest match over the
    sorted key list, or a lone `#`), one of class AccentToken a key of `accent_macros` -/
theorem ScanLeaf.mbOk (hw : T.WFInv) {src rest : Str} {start : Nat} {s : ScanStep}
    (h : ScanLeaf T.toTables src start rest s) : mbOk T s.tok = true := by
  cases h with
  | err e k d => exact mbOk_text T _ (errTok_kind ..)
  | plain tok k hk =>
    obtain ⟨h1, _, _, h4, h5, _⟩ := plainKind_facts hk
    exact scanKind_mbOk T tok h1 h4 h5
  | special t k ht =>
    rcases ht with ht | rfl
    · exact specialVal_isSome_of_key T t (matchSpecial_longest T.toTables hw.scan _ t ht).2.1
    · exact hw.special_hash
  | accent mac k hacc => exact accentOk_of_isAccent T hw _ hacc
  | _ => rfl

theorem scan_BL (hw : T.WFInv) (src : Str) : BL T src.length (scan T.toTables src).toks := by
  intro t ht
  obtain ⟨p, r, hr, hd, hl, rfl | hx⟩ := ScannerAux.scan_steps T.toTables hw.scan src t ht
  rotate_left
  · have hrl : 1 ≤ r.length := by
      cases r with
      | nil => exact absurd rfl hr
      | cons => simp
    obtain ⟨a, b, c⟩ := (ScannerAux.nextToken_good T.toTables hw.scan src p r hr).ext t hx
    have hk : scanKind t.kind = true := by rw [b]; rfl
    refine ⟨⟨c (by omega), fun hf => ?_, scanKind_ctlEmpty _ hk, mbOk_text T _ b⟩,
      scanKind_notMath _ hk⟩
    rw [a] at hf; cases hf
  have hg := ScannerAux.nextToken_good T.toTables hw.scan src p r hr
  have hleaf := nextToken_leaf T.toTables src p r hr
  obtain ⟨hk, hv⟩ := hleaf.G2
  have h2 := hg.len_le
  have hrl : 1 ≤ r.length := by
    cases r with
    | nil => exact absurd rfl hr
    | cons => simp
  refine ⟨⟨?_, ?_, scanKind_ctlEmpty _ hk, hleaf.mbOk T hw⟩, scanKind_notMath _ hk⟩
  · by_cases hdg : (nextToken T.toTables src p r).diag = none
    · obtain ⟨a, b, c, d, _⟩ := hg.ok hdg
      omega
    · obtain ⟨a, b, _⟩ := hg.err hdg
      omega
  · intro hf
    by_cases hdg : (nextToken T.toTables src p r).diag = none
    · obtain ⟨a, b, c, d, _⟩ := hg.ok hdg
      by_cases hvb : (nextToken T.toTables src p r).tok.kind = .verb true
      · have := hv hvb
        simp only [extent, hvb]
        omega
      · have := extent_le T hw _ hvb
        omega
    · obtain ⟨a, _⟩ := hg.err hdg
      rw [a] at hf; cases hf

theorem scan_storedOk (hw : T.WFInv) (src : Str) : (scan T.toTables src).toks.all (storedOk T) = true := by
  rw [List.all_eq_true]
  intro t ht
  exact BTok_storedOk T _ t (scan_BL T hw src t ht)

/-! argument tokens of the scanner (`#k`): needed for the `arityOk` part of `macroToksOk` of the
    extraction texts `init_extractions` builds by scanning `'#' + str(p + 1)` -/

/-- the scanner makes an argument token only from `#` followed by a decimal digit (ONE digit) -/
theorem nextToken_argRef (T' : Tables) (src : Str) (start : Nat) (rest : Str) (hr : rest ≠ []) (k : Nat)
    (h : argRef (nextToken T' src start rest).tok = some k) :
    ∃ d tl, rest = '#' :: d :: tl ∧ decimalValue T'.decimalZeros d = some k := by
  have hl := nextToken_leaf T' src start rest hr
  generalize nextToken T' src start rest = s at hl h
  cases hl with
  | err e n d => simp only [argRef, errTok_kind] at h; cases h
  | plain tok n hk =>
    unfold argRef at h
    split at h
    · rename_i v hv; exact absurd hv ((plainKind_facts hk).2.2.2.2.2 v)
    · cases h
  | arg d tl v hrest hv =>
    simp only [argRef, Option.some.injEq] at h
    subst h
    exact ⟨d, tl, hrest, hv⟩
  | _ => cases h

theorem scan_hash_args (hw : T.WFInv) (d : Char) (tl : Str) (hno : '#' ∉ d :: tl) :
    ∀ t ∈ (scan T.toTables ('#' :: d :: tl)).toks, ∀ k, argRef t = some k →
      decimalValue T.decimalZeros d = some k := by
  intro t ht k hk
  obtain ⟨p, r, hr, hd, _, rfl | hx⟩ := ScannerAux.scan_steps T.toTables hw.scan _ t ht
  · obtain ⟨d', tl', e, hv⟩ := nextToken_argRef _ _ _ _ hr _ hk
    rw [e] at hd
    cases p with
    | zero =>
      simp only [List.drop_zero, List.cons.injEq, true_and] at hd
      rw [hd.1]; exact hv
    | succ p =>
      simp only [List.drop_succ_cons] at hd
      exfalso
      apply hno
      apply List.mem_of_mem_drop (i := p)
      rw [hd]; simp
  · obtain ⟨_, b, _⟩ := (ScannerAux.nextToken_good T.toTables hw.scan _ p r hr).ext t hx
    simp only [argRef, b] at hk
    cases hk

theorem toDigits_head (n : Nat) (h : 1 ≤ n) :
    ∃ d tl, Nat.toDigits 10 n = Nat.digitChar d :: tl ∧ 1 ≤ d ∧ d ≤ 9 ∧ d ≤ n := by
  induction n using Nat.strongRecOn with
  | _ n ih =>
    rw [Nat.toDigits_eq_if (by omega)]
    split
    · exact ⟨n, [], rfl, h, by omega, Nat.le_refl _⟩
    · obtain ⟨d, tl, e, h1, h2, h3⟩ := ih (n / 10) (by omega) (by omega)
      refine ⟨d, tl ++ [Nat.digitChar (n % 10)], by rw [e]; rfl, h1, h2, ?_⟩
      have := Nat.div_le_self n 10
      omega

theorem natToStr_eq (n : Nat) : natToStr n = Nat.toDigits 10 n := by
  simp [natToStr]

theorem digitChar_ascii : ∀ d, d < 10 →
    Nat.digitChar d ∈ "0123456789".toList ∧ (Nat.digitChar d).toNat - 48 = d := by
  decide

/-- the argument tokens of `scan('#' + str(n))`, `n ≥ 1`, refer to an argument `1 … n`
    (to the first digit of `n`: the scanner reads ONE digit).  `hz`: the ASCII digits are
    decimal digits with their usual value. -/
theorem scan_hashNum_args (hw : T.WFInv)
    (hz : ∀ c ∈ "0123456789".toList, decimalValue T.decimalZeros c = some (c.toNat - 48))
    (n : Nat) (hn : 1 ≤ n) :
    ∀ t ∈ (scan T.toTables (['#'] ++ natToStr n)).toks, ∀ k, argRef t = some k → 1 ≤ k ∧ k ≤ n := by
  intro t ht k hk
  obtain ⟨d, tl, e, h1, h2, h3⟩ := toDigits_head n hn
  rw [natToStr_eq, e] at ht
  have hno : '#' ∉ Nat.digitChar d :: tl := by
    rw [← e]
    intro hc
    have := Nat.isDigit_of_mem_toDigits (b := 10) (by omega) (by omega) hc
    revert this; decide
  have hv := scan_hash_args T hw _ tl hno t ht k hk
  obtain ⟨m1, m2⟩ := digitChar_ascii d (by omega)
  rw [hz _ m1, m2] at hv
  simp only [Option.some.injEq] at hv
  omega

theorem arityOk_extract (m : MacroDef) (ex : List Tok)
    (h : ∀ t ∈ ex, ∀ k, argRef t = some k → 1 ≤ k ∧ k ≤ m.args.length) :
    arityOk { m with extract := ex, repl := [], handler := .none } = true := by
  simp only [arityOk, handlerArity, handlerNeedsA, List.all_nil, List.nil_append, Bool.and_true,
    Nat.zero_le, decide_true, Bool.true_and, List.all_eq_true]
  intro t ht
  split
  · rename_i k hk
    have := h t ht k hk
    simp [this.1, this.2]
  · rfl

/-- `init_extractions` keeps the frame-independent invariant.
    `hz` (the table fact `PTables.WFInv.decimal_ascii`): the extraction text is the scan of
    `'#' + str(p + 1)`, whose argument token must refer to one of the arguments of the macro. -/
theorem initExtractions_G0 (hw : T.WFInv)
    (hz : ∀ c ∈ "0123456789".toList, decimalValue T.decimalZeros c = some (c.toNat - 48))
    (nroot : Nat) (st : PState) (ex : List Str) (h : G0 T nroot st) :
    G0 T nroot (initExtractions T st ex) := by
  refine { flows := h.flows, macros := ?_, envs := h.envs, gloss := h.gloss,
           items := h.items, langs := h.langs, rots := h.rots, unk := h.unk }
  intro m hm
  simp only [initExtractions, List.mem_append, List.mem_map] at hm
  rcases hm with (⟨m0, hm0, rfl⟩ | ⟨nm, _, rfl⟩) | hm
  · have h0 := h.macros m0 (by simp [hm0])
    simp only [macroToksOk, Bool.and_eq_true] at h0
    split
    · simp only [macroToksOk, List.all_nil, Bool.true_and, Bool.and_eq_true]
      refine ⟨⟨h0.1.1.2, ?_⟩, ?_⟩
      · split
        · exact scan_storedOk T hw _
        · rfl
      · apply arityOk_extract
        intro t ht k hk
        split at ht
        · rename_i hp
          have := scan_hashNum_args T hw hz _ (by omega) t ht k hk
          omega
        · cases ht
    · simp only [macroToksOk, List.all_nil, Bool.true_and, Bool.and_true, Bool.and_eq_true]
      exact ⟨h0.1.1.2, arityOk_extract m0 [] (by simp)⟩
  · simp only [macroToksOk, List.all_nil, Bool.true_and, Bool.and_eq_true]
    refine ⟨scan_storedOk T hw _, ?_⟩
    apply arityOk_extract { name := nm, args := ['A'] }
    intro t ht k hk
    exact scan_hashNum_args T hw hz 1 (Nat.le_refl _) t ht k hk
  · exact h.macros m (by simp [hm])

/-- the skip pre-pass only drops tokens -/
theorem skipPass_all (P : Tok → Prop) (st : PState) (fuel : Nat) (toks out : List Tok)
    (ht : ∀ t ∈ toks, P t) (ho : ∀ t ∈ out, P t) :
    (∀ t ∈ (skipPass st fuel toks out).1, P t) ∧ (∀ t ∈ (skipPass st fuel toks out).2.2, P t) ∧
    (∀ p, (skipPass st fuel toks out).2.1 = some p → ∃ t, P t ∧ t.pos = p) := by
  have nil : ∀ t ∈ ([] : List Tok), P t := fun _ h => nomatch h
  induction fuel generalizing toks out with
  | zero => exact ⟨ho, nil, fun p h => by simp [skipPass] at h⟩
  | succ fuel ih =>
    simp only [skipPass]
    have hpre : ∀ f : Tok → Bool, ∀ t ∈ out ++ toks.takeWhile f, P t := fun f t h =>
      (List.mem_append.1 h).elim (ho t) (fun h => ht t ((List.takeWhile_sublist _).subset h))
    split
    · exact ⟨hpre _, nil, fun p h => by simp at h⟩
    · rename_i b after heq
      have hba : ∀ t ∈ b :: after, P t := fun t h => ht t ((List.drop_sublist _ _).subset (by rw [heq]; exact h))
      have haft : ∀ t ∈ after, P t := fun t h => hba t (List.mem_cons_of_mem _ h)
      split
      · refine ⟨hpre _, haft, fun p h => ⟨b, hba b List.mem_cons_self, ?_⟩⟩
        simp only [Option.some.injEq] at h
        exact h
      · rename_i e rest heq2
        have hrest : ∀ t ∈ e :: rest, P t := fun t h => haft t ((List.drop_sublist _ _).subset (by rw [heq2]; exact h))
        exact ih rest _ (fun t h => hrest t (List.mem_cons_of_mem _ h)) (hpre _)

theorem skipPass_BL (n : Nat) (st : PState) (fuel : Nat) (toks out : List Tok)
    (ht : BL T n toks) (ho : BL T n out) :
    BL T n (skipPass st fuel toks out).1 ∧ BL T n (skipPass st fuel toks out).2.2 ∧
    (∀ p, (skipPass st fuel toks out).2.1 = some p → p < n) := by
  obtain ⟨h1, h2, h3⟩ := skipPass_all (BTok T n) st fuel toks out ht ho
  refine ⟨h1, h2, fun p hp => ?_⟩
  obtain ⟨t, ht, rfl⟩ := h3 p hp
  exact ht.1.1

/-! ### for "no crash" (C07) -/

theorem argBuffer_ne_nil (T' : Tables) (buf : Buf) (start : Nat) (endBrace : Bool) (st : PState) :
    Post (argBuffer T' buf start endBrace st) (fun r _ => r.1 ≠ []) := by
  have h := argBufferPure_arg_ne_nil T'.mark buf start endBrace
  simp only [argBuffer]
  generalize argBufferPure T'.mark buf start endBrace = r at *
  obtain ⟨arg, rbuf, err, errPos⟩ := r
  simp only [] at h ⊢
  cases err with
  | none => exact h
  | some e =>
    simp only []
    refine Post_bind (latexError T' e errPos) _ st (fun _ _ => True) _ (by exact True.intro) ?_
    intro errToks s _
    cases rbuf <;> exact h

theorem pyIndex_isSome {α} (xs : List α) (k : Nat) (h1 : 1 ≤ k) (h2 : k ≤ xs.length) :
    ∃ a, pyIndex xs k = some a := by
  unfold pyIndex
  rw [if_neg (by simp; omega)]
  exact ⟨xs[k - 1]'(by omega), List.getElem?_eq_getElem (by omega)⟩

theorem initCurPos_isSome (arguments : List (List Tok)) :
    ∀ (repls : List Tok) (cur : Nat),
    (∀ t ∈ repls, ∀ k, argRef t = some k → 1 ≤ k ∧ k ≤ arguments.length) →
    initCurPos arguments repls cur ≠ none := by
  intro repls
  induction repls with
  | nil => intro cur _; simp [initCurPos]
  | cons t ts ih =>
    intro cur h
    have h' : ∀ x ∈ ts, ∀ k, argRef x = some k → 1 ≤ k ∧ k ≤ arguments.length :=
      fun x hx => h x (by simp [hx])
    simp only [initCurPos]
    split
    · exact ih _ h'
    · rename_i k hk
      obtain ⟨a, ha⟩ := pyIndex_isSome arguments k (h t (by simp) k hk).1 (h t (by simp) k hk).2
      rw [ha]
      exact ih _ h'

theorem genReplLoop_isSome (arguments : List (List Tok)) :
    ∀ (repls : List Tok) (cur : Nat) (out : List Tok),
    (∀ t ∈ repls, ∀ k, argRef t = some k → 1 ≤ k ∧ k ≤ arguments.length) →
    genReplLoop arguments repls cur out ≠ none := by
  intro repls
  induction repls with
  | nil => intro cur out _; simp [genReplLoop]
  | cons t ts ih =>
    intro cur out h
    have h' : ∀ x ∈ ts, ∀ k, argRef x = some k → 1 ≤ k ∧ k ≤ arguments.length :=
      fun x hx => h x (by simp [hx])
    simp only [genReplLoop]
    split
    · rename_i k hk
      obtain ⟨a, ha⟩ := pyIndex_isSome arguments k (h t (by simp) k hk).1 (h t (by simp) k hk).2
      rw [ha]
      simp only []
      split
      · exact ih _ _ h'
      · exact ih _ _ h'
    · exact ih _ _ h'

/-- `generate_replacements` cannot raise IndexError if every `#k` refers to an argument -/
theorem generateReplacements_isSome (arguments : List (List Tok)) (repls : List Tok) (start : Nat)
    (h : ∀ t ∈ repls, ∀ k, argRef t = some k → 1 ≤ k ∧ k ≤ arguments.length) :
    generateReplacements arguments repls start ≠ none := by
  unfold generateReplacements
  split
  · rename_i hc
    exact absurd hc (initCurPos_isSome arguments repls start h)
  · exact genReplLoop_isSome arguments repls _ [] h

/-- the form in which `arityOk` provides the hypothesis of `generateReplacements_isSome` -/
theorem arityOk_refs (m : MacroDef) (h : arityOk m = true) :
    ∀ t ∈ m.repl ++ m.extract, ∀ k, argRef t = some k → 1 ≤ k ∧ k ≤ m.args.length := by
  simp only [arityOk, Bool.and_eq_true, List.all_eq_true] at h
  intro t ht k hk
  have := h.2 t ht
  rw [hk] at this
  simpa using this

theorem translateLang_isSome (hw : T.WFInv) (l : Str) : translateLang T l ≠ none := by
  unfold translateLang
  split
  · simp
  · have := hw.babel_english
    cases hf : T.babelMap.find? (·.1 == "english".toList) with
    | none => rw [hf] at this; cases this
    | some e => simp

theorem itemLabel_isSome (hw : T.WFInv) (g : ItemGen) : itemLabel T.itemDefaultLabel g ≠ none := by
  have hne := hw.item_labels
  have hpos : 0 < T.itemDefaultLabel.length := List.length_pos_iff.2 hne
  unfold itemLabel
  split
  · simp
  · rw [List.getElem?_eq_getElem (by omega)]; simp
  · cases hd : T.itemDefaultLabel with
    | nil => exact absurd hd hne
    | cons a l => simp

theorem settingsOf_cur (hw : T.WFInv) (st : PState)
    (h : ∀ e ∈ st.langStack, (settingsOf T e.1).isSome = true) :
    (settingsOf T (curSettings st)).isSome = true := by
  unfold curSettings
  cases hs : st.langStack with
  | nil => exact hw.lang_en
  | cons e l =>
    rw [hs] at h
    exact h e (by simp)


theorem mem_dedup {α β} [BEq α] (kv acc : List (α × β)) :
    ∀ x ∈ kv.foldl (fun acc e =>
        if acc.any (·.1 == e.1) then acc.map (fun x => if x.1 == e.1 then e else x) else acc ++ [e]) acc,
      x ∈ acc ∨ x ∈ kv := by
  induction kv generalizing acc with
  | nil => intro x hx; exact Or.inl hx
  | cons e kv ih =>
    intro x hx
    rw [List.foldl_cons] at hx
    rcases ih _ x hx with h | h
    · split at h
      · rw [List.mem_map] at h
        obtain ⟨y, hy, rfl⟩ := h
        split
        · exact Or.inr (List.mem_cons_self)
        · exact Or.inl hy
      · rcases List.mem_append.mp h with h | h
        · exact Or.inl h
        · exact Or.inr (by simp at h; simp [h])
    · exact Or.inr (List.mem_cons_of_mem _ h)

theorem findModule_mem {cls : Bool} {name : Str} {m : ModuleDef} (h : findModule T cls name = some m) :
    m ∈ T.packageModules ++ T.classModules := by
  unfold findModule at h
  split at h
  · cases h
  · have := List.mem_of_find?_eq_some h
    split at this
    · exact List.mem_append.2 (Or.inr this)
    · exact List.mem_append.2 (Or.inl this)

theorem envOk_equ (e : MacroDef) (h : envOk T e = true) (hq : e.isEqu = true) :
    (endFuncNames T).contains e.name = false := by
  simp [envOk, hq] at h
  simpa using h.1.1

theorem envOk_endFunc (e : MacroDef) (h : envOk T e = true) (hn : (endFuncNames T).contains e.name = false) :
    e.endFunc = .none := by
  have hn' : e.name ∉ endFuncNames T := by simpa using hn
  simp [envOk, hn'] at h
  exact h.1

end Yalafi
