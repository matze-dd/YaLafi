/-
  Proofs/Inv/Main.lean — the induction on fuel and its consequences for `parse`/`tex2txt`.
-/
import YalafiVerif.Proofs.Inv.StepSeq
import YalafiVerif.Proofs.Inv.StepEnv
import YalafiVerif.Proofs.Inv.StepWork
import YalafiVerif.Proofs.Inv.StepHandler
import YalafiVerif.Proofs.Inv.StepMath
import YalafiVerif.Proofs.Utils
import YalafiVerif.Proofs.Replace
namespace Yalafi

variable (T : PTables)

theorem allSpecs_zero (nroot : Nat) : AllSpecs T nroot 0 := by
  refine { seq := ?_, text := ?_, envName := ?_, begin_ := ?_, end_ := ?_, macro_ := ?_, args := ?_,
           item := ?_, accent := ?_, work := ?_, init := ?_, modParams := ?_, keyvals := ?_, value := ?_,
           expandKv := ?_, modDesc := ?_, handler := ?_, mathSec := ?_, inline := ?_, dispLoop := ?_,
           display := ?_ }
  · unfold SpecSeq; intros; rw [expandSequence.eq_1]; exact Post_outOfFuel _ _
  · unfold SpecText; intros; rw [getTextExpanded.eq_1]; exact Post_outOfFuel _ _
  · unfold SpecEnvName; intros; rw [getEnvironmentName.eq_1]; exact Post_outOfFuel _ _
  · unfold SpecBegin; intros; rw [beginEnvironment.eq_1]; exact Post_outOfFuel _ _
  · unfold SpecEnd; intros; rw [endEnvironment.eq_1]; exact Post_outOfFuel _ _
  · unfold SpecMacro; intros; rw [expandMacro.eq_1]; exact Post_outOfFuel _ _
  · unfold SpecArgs; intros; rw [expandArguments.eq_1]; exact Post_outOfFuel _ _
  · unfold SpecItem; intros; rw [expandItem.eq_1]; exact Post_outOfFuel _ _
  · unfold SpecAccent; intros; rw [expandAccent.eq_1]; exact Post_outOfFuel _ _
  · unfold SpecWork; intros; rw [parserWork.eq_1]; exact Post_outOfFuel _ _
  · unfold SpecInit; intros; rw [initPackage.eq_1]; exact Post_outOfFuel _ _
  · unfold SpecModParams; intros; rw [modifyParameters.eq_1]; exact Post_outOfFuel _ _
  · unfold SpecKeyvals; intros; rw [parseKeyvals.eq_1]; exact Post_outOfFuel _ _
  · unfold SpecValue; intros; rw [parseValue.eq_1]; exact Post_outOfFuel _ _
  · unfold SpecExpandKv; intros; rw [expandKeyvals.eq_1]; exact Post_outOfFuel _ _
  · unfold SpecModDesc; intros; rw [modifyDescription.eq_1]; exact Post_outOfFuel _ _
  · unfold SpecHandler; intros; rw [callHandler.eq_1]; exact Post_outOfFuel _ _
  · unfold SpecMathSec; intros; rw [expandMathSection.eq_1]; exact Post_outOfFuel _ _
  · unfold SpecInline; intros; rw [expandInlineMath.eq_1]; exact Post_outOfFuel _ _
  · unfold SpecDispLoop; intros; rw [displayLoop.eq_1]; exact Post_outOfFuel _ _
  · unfold SpecDisplay; intros; rw [expandDisplayMath.eq_1]; exact Post_outOfFuel _ _

theorem allSpecs (hw : T.WFInv) (nroot : Nat) : ∀ fuel, AllSpecs T nroot fuel := by
  intro fuel
  induction fuel with
  | zero => exact allSpecs_zero T nroot
  | succ fuel IH =>
    exact {
      seq := seq_step T hw nroot fuel IH, text := text_step T hw nroot fuel IH,
      envName := envName_step T hw nroot fuel IH, begin_ := begin_step T hw nroot fuel IH,
      end_ := end_step T hw nroot fuel IH, macro_ := macro_step T hw nroot fuel IH,
      args := args_step T hw nroot fuel IH, item := item_step T hw nroot fuel IH,
      accent := accent_step T hw nroot fuel IH, work := work_step T hw nroot fuel IH,
      init := init_step T hw nroot fuel IH, modParams := modParams_step T hw nroot fuel IH,
      keyvals := keyvals_step T hw nroot fuel IH, value := value_step T hw nroot fuel IH,
      expandKv := expandKv_step T hw nroot fuel IH, modDesc := modDesc_step T hw nroot fuel IH,
      handler := handler_step T hw nroot fuel IH, mathSec := mathSec_step T hw nroot fuel IH,
      inline := inline_step T hw nroot fuel IH, dispLoop := dispLoop_step T hw nroot fuel IH,
      display := display_step T hw nroot fuel IH }


theorem getPackages_envOk (hw : T.WFInv) (cls : Bool) (packs : Str) :
    ∀ nm ∈ getPackages T cls packs, ∀ e ∈ nm.2.envs, envOk T e = true := by
  intro nm hnm
  unfold getPackages at hnm
  split at hnm
  · cases hnm
  · simp only [List.mem_flatten, List.mem_map] at hnm
    obtain ⟨l, ⟨p, _, rfl⟩, hl⟩ := hnm
    split at hl
    · simp only [List.mem_map] at hl
      obtain ⟨m, _, rfl⟩ := hl
      exact StepWork.found_envsOk T hw cls m
    · simp only [List.mem_singleton] at hl
      subst hl
      exact StepWork.found_envsOk T hw cls p

theorem builtin_envOk (hw : T.WFInv) (o : Options) :
    ∀ e ∈ (builtinModule T o).envs, envOk T e = true := by
  intro e he
  apply hw.envs_ok
  unfold builtinModule at he
  unfold allTableEnvs
  exact List.mem_append_left _ he


theorem getPackages_ok (hw : T.WFInv) (cls : Bool) (packs : Str) :
    ∀ nm ∈ getPackages T cls packs, ∀ m ∈ nm.2.macros ++ nm.2.envs, macroToksOk T m = true := by
  intro nm hnm
  unfold getPackages at hnm
  split at hnm
  · cases hnm
  · simp only [List.mem_flatten, List.mem_map] at hnm
    obtain ⟨l, ⟨p, _, rfl⟩, hl⟩ := hnm
    split at hl
    · simp only [List.mem_map] at hl
      obtain ⟨m, _, rfl⟩ := hl
      exact StepWork.found_macrosOk T hw cls m
    · simp only [List.mem_singleton] at hl
      subst hl
      exact StepWork.found_macrosOk T hw cls p

theorem builtin_ok (hw : T.WFInv) (o : Options) :
    ∀ m ∈ (builtinModule T o).macros ++ (builtinModule T o).envs, macroToksOk T m = true := by
  intro m hm
  apply hw.macros_ok
  unfold builtinModule at hm
  simp only [List.mem_append] at hm ⊢
  rcases hm with (hm | hm) | hm
  · exact Or.inl (Or.inl hm)
  · split at hm
    · exact Or.inl (Or.inr hm)
    · cases hm
  · exact Or.inr hm

theorem initialState_G (hw : T.WFInv) (nroot : Nat) (o : Options) (multi : Bool) (fs : FS) :
    G T nroot (initialState T o multi fs) := by
  have hflows : (initialState T o multi fs).foreign = false →
      ∀ e ∈ (initialState T o multi fs).extracted, OL T nroot e := by
    intro _ e he; simp [initialState] at he
  have hmac : ∀ m ∈ (initialState T o multi fs).macros ++ (initialState T o multi fs).envs,
      macroToksOk T m = true := by
    intro m hm; simp [initialState] at hm
  have henv : ∀ e ∈ (initialState T o multi fs).envs, envOk T e = true := by
    intro m hm; simp [initialState] at hm
  have hgl : glossOk T (initialState T o multi fs).glossary := by
    intro e he; simp [initialState] at he
  have hitems : (initialState T o multi fs).itemStack ≠ [] := by simp [initialState]
  have hlangs : ∀ e ∈ (initialState T o multi fs).langStack, (settingsOf T e.1).isSome = true := by
    intro e he
    simp only [initialState, List.mem_cons, List.not_mem_nil, or_false] at he
    rw [he]
    exact settingsOf_checkLang T hw _
  have hrots1 : ∀ l ∈ T.langs, (rotOf (initialState T o multi fs) l.code).isSome = true := by
    intro l hl
    simp only [rotOf, initialState, List.find?_map, Option.isSome_map, List.find?_isSome]
    exact ⟨l, hl, by simp [Function.comp]⟩
  have hrots2 : ∀ r ∈ (initialState T o multi fs).rots, r.inl ≠ [] ∧ r.disp ≠ [] ∧ r.chg ≠ [] := by
    intro r hr
    simp only [initialState, List.mem_map] at hr
    obtain ⟨l, hl, rfl⟩ := hr
    have h := hw.langs_ok l hl
    exact ⟨h.1, h.2.1, h.2.2.1⟩
  exact { flows := hflows, macros := hmac, envs := henv, gloss := hgl, items := hitems, langs := hlangs,
          rots := ⟨hrots1, hrots2⟩, unk := (by simp [initialState]),
          root := fun h => by simp [initialState] at h,
          inFrame := by simp [initialState] }

theorem filterSetToks_lang_txt (m p : Nat) (ts : List Tok) (h : OL T m ts) :
    ∀ t ∈ filterSetToks ts p true, t.txt = [] := by
  intro t ht
  simp only [filterSetToks, List.mem_map, List.mem_filter] at ht
  obtain ⟨t', ⟨ht', hl⟩, rfl⟩ := ht
  have hc := (h t' ht').1.2.2.1
  simp only [Bool.not_true, Bool.false_or] at hl
  unfold isLang at hl
  unfold ctlEmpty at hc
  split at hl
  · simp_all
  · cases hl

theorem flow_inRange (n : Nat) (e : List Tok) (he : OL T n e) :
    ∀ t ∈ (match e.head?, e.getLast? with
      | some h, some l => [mkFix .par h.pos [nl, nl, nl]] ++ e ++ [mkFix .space l.pos [nl]]
      | _, _ => []), TokInRange n t := by
  intro t ht
  split at ht
  · rename_i h l hh hl
    have hh' : h ∈ e := List.mem_of_head? hh
    have hl' : l ∈ e := List.mem_of_getLast? hl
    simp only [List.mem_append, List.mem_singleton] at ht
    rcases ht with (rfl | ht) | rfl
    · exact OTok_inRange T n _ (OTok_mkFix T n _ _ _ (he h hh').1.1 (Or.inr (Or.inr rfl)))
    · exact OTok_inRange T n _ (he t ht)
    · exact OTok_inRange T n _ (OTok_mkFix T n _ _ _ (he l hl').1.1 (Or.inr (Or.inl rfl)))
  · cases ht

theorem parseRest_G (fuel : Nat) (latex define : Str) (A : AllSpecs T latex.length fuel)
    (extr : List Str) (s1 : PState) (hg1 : G T latex.length s1) :
    Post (parseRest T fuel latex define extr s1)
      (fun toks st' => (st'.foreign = false → ∀ t ∈ toks, t.txt ≠ [] → TokInRange latex.length t) ∧
        G0 T latex.length st') := by
  unfold parseRest
  apply Post_bind _ _ _ (Q := fun _ s => G T latex.length s)
  · apply Post_modify
    exact { flows := fun _ e he => (by cases he), macros := hg1.macros, envs := hg1.envs, gloss := hg1.gloss,
            items := hg1.items, langs := hg1.langs, rots := hg1.rots, unk := List.nodup_nil,
            root := hg1.root, inFrame := hg1.inFrame }
  intro _ s2 hg2
  apply Post_bind _ _ _ (Q := fun m0 s => G0 T latex.length s ∧ ∀ t ∈ m0, t.txt = [])
  · split
    · apply Post_pure
      exact ⟨hg2.toG0, fun t ht => by cases ht⟩
    · apply Post_bind _ _ _ (Q := fun r s => G0 T latex.length s ∧ OL T define.length r)
      · exact Post_mono _ _ _ (A.work define s2 hg2.toG0 (fun h => absurd h hg2.inFrame) hg2.root)
          (fun a s h => ⟨h.1, h.2.2⟩)
      · intro r s h
        apply Post_pure
        exact ⟨h.1, filterSetToks_lang_txt T _ _ _ h.2⟩
  intro main0 s3 ⟨hg3, hm0⟩
  apply Post_bind _ _ _ (Q := fun _ s => G0 T latex.length s ∧ s.nest = 0)
  · apply Post_modify
    exact ⟨{ flows := fun _ e he => (by cases he), macros := hg3.macros, envs := hg3.envs, gloss := hg3.gloss,
             items := hg3.items, langs := hg3.langs, rots := hg3.rots, unk := hg3.unk }, rfl⟩
  intro _ s4 ⟨hg4, hn4⟩
  apply Post_bind _ _ _ (Q := fun r s => G0 T latex.length s ∧ OL T latex.length r)
  · exact Post_mono _ _ _ (A.work latex s4 hg4 (fun _ => rfl) (fun h => by omega))
      (fun a s h => ⟨h.1, h.2.2⟩)
  intro body s5 ⟨hg5, hbody⟩
  apply Post_bind _ _ _ (Q := fun r s => r = s ∧ s = s5)
  · exact Post_get _ _ ⟨rfl, rfl⟩
  intro st5 s6 ⟨h1, h2⟩
  subst h1; subst h2
  apply Post_pure
  refine ⟨?_, hg5⟩
  intro hf t ht hne
  rcases List.mem_append.1 ht with ht | ht
  · split at ht
    · rcases List.mem_append.1 ht with ht | ht
      · exact absurd (hm0 t ht) hne
      · exact OTok_inRange T _ _ (hbody t ht)
    · cases ht
  · simp only [flowsToks, List.mem_flatten, List.mem_map] at ht
    obtain ⟨l, ⟨e, he, rfl⟩, hl⟩ := ht
    exact flow_inRange T _ e (hg5.flows hf e he) t hl

theorem parse_G (hw : T.WFInv) (fuel : Nat) (latex define : Str) (A : AllSpecs T latex.length fuel)
    (extr : List Str) (st : PState) (hg : G T latex.length st) :
    Post (parse T fuel latex define extr st)
      (fun toks st' => (st'.foreign = false → ∀ t ∈ toks, t.txt ≠ [] → TokInRange latex.length t) ∧
        G0 T latex.length st') := by
  rw [parse_eq]
  split
  · apply Post_bind _ _ _ (Q := fun _ s => G T latex.length s)
    · apply Post_modify
      exact { toG0 := initExtractions_G0 T hw hw.decimal_ascii _ _ _ hg.toG0, root := hg.root, inFrame := hg.inFrame }
    · intro _ s1 hg1
      exact parseRest_G T fuel latex define A extr s1 hg1
  · exact parseRest_G T fuel latex define A extr st hg

theorem Post_iff {α} (x : Outcome (α × PState)) (Q : α → PState → Prop) :
    Post x Q ↔ PostC (· ∈ allowedCrash) x Q := by
  rcases x with ⟨a, s⟩ | _ | _ | _ <;> exact Iff.rfl

/-- `Parser.__init__` followed by `Parser.parse`: unless a text flow was extracted outside
    the root document (ghost flag `foreign`), every token of the result that carries text is
    in range of the root document -/
theorem parse_inRange (hw : T.WFInv) (fuel : Nat) (latex : Str) (o : Options) (multi : Bool) (fs : FS) :
    Post (runT2T T fuel latex o multi fs)
      (fun toks st' => (st'.foreign = false → ∀ t ∈ toks, t.txt ≠ [] → TokInRange latex.length t) ∧
        G0 T latex.length st') := by
  have A := allSpecs T hw latex.length fuel
  apply Post_bind _ _ _ (Q := fun _ s => G T latex.length s)
  · refine (Post_iff _ _).2 (initParser_inv (G T latex.length)
      (fun md => (∀ m ∈ md.macros ++ md.envs, macroToksOk T m = true) ∧ ∀ e ∈ md.envs, envOk T e = true)
      (fun name md b hmd st hg => ((Post_iff _ _).1 (A.init name md b [] 0 st hg hmd.1 hmd.2)).mono
        fun _ _ h => h.1.1)
      ⟨builtin_ok T hw o, builtin_envOk T hw o⟩
      (fun cls packs nm h => ⟨getPackages_ok T hw cls packs nm h, getPackages_envOk T hw cls packs nm h⟩) _
      (initialState_G T hw latex.length o multi fs))
  · intro _ s hg
    exact parse_G T hw fuel latex o.defs A _ s hg

end Yalafi
