/-
  Proofs/Inv/StepMath.lean — step lemmas of the range-invariant bundle: each shows the
  specification of one function at `fuel + 1` from all specifications at `fuel`.
-/
import YalafiVerif.Proofs.Inv.Basic
namespace Yalafi

variable (T : PTables)

def MTok (n : Nat) (t : Tok) : Prop := TokOk T n t ∧ (isMathTok t = true ∨ outKind t = true)

def ItemAll (P : Tok → Prop) (R : Nat → Prop) : SecItem → Prop
  | .tok t => P t
  | .part ts => ∀ t ∈ ts, R t.pos

theorem detect_all (P : Tok → Prop) (R : Nat → Prop) : ∀ (ts cur : List Tok),
    (∀ t ∈ ts, isMathTok t = true → R t.pos) → (∀ t ∈ ts, isMathTok t = false → P t) → (∀ t ∈ cur, R t.pos) →
    ∀ it ∈ detectMathParts ts cur, ItemAll P R it := by
  intro ts
  induction ts with
  | nil =>
    intro cur _ _ hc it hit
    simp only [detectMathParts] at hit
    split at hit
    · simp at hit
    · simp at hit; subst hit; simpa [ItemAll] using hc
  | cons t ts ih =>
    intro cur hm ht hc it hit
    have hm' : ∀ t ∈ ts, isMathTok t = true → R t.pos := fun u hu => hm u (by simp [hu])
    have ht' : ∀ t ∈ ts, isMathTok t = false → P t := fun u hu => ht u (by simp [hu])
    simp only [detectMathParts] at hit
    split at hit
    · rename_i hmt
      refine ih (t :: cur) hm' ht' ?_ it hit
      intro u hu
      rcases List.mem_cons.1 hu with rfl | hu
      · exact hm u (by simp) hmt
      · exact hc u hu
    · rename_i hmt
      simp only [List.mem_append, List.mem_cons] at hit
      rcases hit with hit | rfl | hit
      · split at hit
        · simp at hit
        · simp at hit; subst hit; simpa [ItemAll] using hc
      · exact ht t (by simp) (by simpa using hmt)
      · exact ih [] hm' ht' (by simp) it hit

theorem all_snoc {P : Tok → Prop} {a : List Tok} {t : Tok} (ha : ∀ u ∈ a, P u) (ht : P t) : ∀ u ∈ a ++ [t], P u := by
  intro u hu
  rcases List.mem_append.1 hu with hu | hu
  · exact ha u hu
  · rw [List.mem_singleton.1 hu]; exact ht
theorem all_snoc_if {P : Tok → Prop} {a : List Tok} {t : Tok} (c : Prop) [Decidable c] (ha : ∀ u ∈ a, P u)
    (ht : P t) : ∀ u ∈ (if c then a ++ [t] else a), P u := by
  split
  · exact all_snoc ha ht
  · exact ha
theorem OTok_mathSp (n p : Nat) (h : p < n) : OTok T n (mathSp p) := OTok_mkFix T n p .space _ h (by simp)
theorem OTok_fixText (n p : Nat) (txt : Str) (h : p < n) : OTok T n (mkFix .text p txt) := OTok_mkFix T n p .text _ h (by simp)

theorem find_pos_mem (ts : List Tok) (p : Tok → Bool) (t0 : Tok) (h0 : t0 ∈ ts) :
    ∃ t ∈ ts, ((ts.find? p).map (·.pos)).getD t0.pos = t.pos := by
  cases hf : ts.find? p with
  | none => exact ⟨t0, h0, rfl⟩
  | some t => exact ⟨t, List.mem_of_find?_eq_some hf, rfl⟩

/-- One step of `replace_section` adds to the output the item's own token, or space and text tokens made at
    positions of tokens of the maths part.  `hR` says that `P` holds of tokens so made. -/
theorem replaceStep_out (P : Tok → Prop) (R : Nat → Prop)
    (hR : ∀ p, R p → P (mathSp p) ∧ ∀ w, P (mkFix .text p w))
    (opText : List (Str × Str)) (opDefault : Option Str) (inline : Bool)
    (s s' : RsState) (it : SecItem) (hs : ∀ u ∈ s.out, P u) (hi : ItemAll P R it)
    (h : replaceStep T opText opDefault inline s it = some s') : ∀ u ∈ s'.out, P u := by
  cases it with
  | tok t =>
    simp only [replaceStep, Option.some.injEq] at h
    subst h
    split <;> exact all_snoc hs hi
  | part ts =>
    have hi' : ∀ t ∈ ts, P (mathSp t.pos) ∧ ∀ w, P (mkFix .text t.pos w) := fun t ht => hR _ (hi t ht)
    rw [replaceStep] at h
    split at h
    · rename_i t0 tl h0 hl
      have hm0 : t0 ∈ ts := List.mem_of_head? h0
      have ht0 := hi' t0 hm0
      -- `split at h` is slow on this `if`: it simplifies the chain of `let`s in the other branch
      by_cases hall : (ts.all (·.kind == .mathSpace)) = true
      · rw [if_pos hall] at h
        cases h
        exact all_snoc hs ht0.1
      rw [if_neg hall] at h
      dsimp only at h
      have hout1 := all_snoc_if (t0.kind == Kind.mathSpace) hs ht0.1
      split at h
      · cases h
      · rename_i out2 h2
        have hout2 : ∀ u ∈ out2, P u := by
          split at h2
          · rename_i o ho
            have hop : P (mathSp o.pos) ∧ ∀ w, P (mkFix .text o.pos w) := by
              split at ho
              · rename_i t hf
                split at ho
                · cases ho
                  exact hi' _ (List.mem_of_find?_eq_some hf)
                · cases ho
              · cases ho
            split at h2
            · split at h2
              · cases h2
              · cases h2
                rw [show ∀ (a : List Tok) x y z, a ++ [x, y, z] = a ++ [x] ++ [y] ++ [z] from fun _ _ _ _ => by simp]
                exact all_snoc (all_snoc (all_snoc hout1 ht0.1) (hop.2 _)) hop.1
            · cases h2; exact hout1
          · cases h2; exact hout1
        split at h
        · cases h
        · cases h
          have hpp : ∀ w, P (mkFix .text (if inline = true then t0.pos else ((ts.find?
              (fun t => t.kind == Kind.mathElem && !T.mathPunctuation.contains t.txt)).map (·.pos)).getD t0.pos) w) := by
            intro w
            split
            · exact ht0.2 w
            · obtain ⟨t, ht, he⟩ := find_pos_mem ts _ t0 hm0
              rw [he]
              exact (hi' t ht).2 w
          -- the output is `out2`, then the placeholder, the punctuation mark and a space, each if wanted
          refine all_snoc_if _ ?_ ht0.1
          split
          · exact all_snoc_if _ (all_snoc_if _ hout2 (hpp _)) (ht0.2 _)
          · exact all_snoc_if _ hout2 (hpp _)
    · cases h

theorem foldlM_replaceStep_out (P : Tok → Prop) (R : Nat → Prop)
    (hR : ∀ p, R p → P (mathSp p) ∧ ∀ w, P (mkFix .text p w))
    (opText : List (Str × Str)) (opDefault : Option Str) (inline : Bool) :
    ∀ (items : List SecItem) (s s' : RsState), (∀ u ∈ s.out, P u) → (∀ it ∈ items, ItemAll P R it) →
    items.foldlM (replaceStep T opText opDefault inline) s = some s' → ∀ u ∈ s'.out, P u := by
  intro items
  induction items with
  | nil => intro s s' hs _ h; simp at h; subst h; exact hs
  | cons it items ih =>
    intro s s' hs hi h
    simp only [List.foldlM_cons, Option.bind_eq_bind, Option.bind_eq_some_iff] at h
    obtain ⟨s1, h1, h2⟩ := h
    exact ih s1 s' (replaceStep_out T P R hR _ _ _ s s1 it hs (hi it (by simp)) h1) (fun j hj => hi j (by simp [hj])) h2

theorem replaceSection_out (P : Tok → Prop) (R : Nat → Prop)
    (hR : ∀ p, R p → P (mathSp p) ∧ ∀ w, P (mkFix .text p w))
    (opText : List (Str × Str)) (opDefault : Option Str) (inline : Bool)
    (sec : List Tok) (fs nr : Bool) (repls : List Str) (rs : RsState)
    (hm : ∀ t ∈ sec, isMathTok t = true → R t.pos) (ht : ∀ t ∈ sec, isMathTok t = false → P t)
    (hr : replaceSection T opText opDefault inline (detectMathParts sec []) fs nr repls = some rs) :
    ∀ u ∈ rs.out, P u := by
  unfold replaceSection at hr
  exact foldlM_replaceStep_out T P R hR _ _ _ _ _ rs (by simp) (detect_all P R sec [] hm ht (by simp)) hr

theorem replaceSection_OL (n : Nat) (opText : List (Str × Str)) (opDefault : Option Str) (inline : Bool)
    (sec : List Tok) (fs nr : Bool) (repls : List Str) (rs : RsState) (h : ∀ t ∈ sec, MTok T n t)
    (hr : replaceSection T opText opDefault inline (detectMathParts sec []) fs nr repls = some rs) :
    OL T n rs.out := by
  refine replaceSection_out T (OTok T n) (· < n) (fun p hp => ⟨OTok_mathSp T n p hp, fun w => OTok_fixText T n p w hp⟩)
    _ _ _ sec _ _ _ rs (fun t ht _ => (h t ht).1.1) ?_ hr
  intro t ht hmt
  refine ⟨(h t ht).1, ?_⟩
  rcases (h t ht).2 with hm | ho
  · rw [hmt] at hm; cases hm
  · exact ho

/-! ### no-crash facts: `special_tokens[t.txt]`, `lang_context`, `replace_section`, `setRot` -/

def ncMath_ItemNE : SecItem → Prop
  | .tok _ => True
  | .part ts => ts ≠ []

theorem ncMath_detect_NE : ∀ (ts cur : List Tok), ∀ it ∈ detectMathParts ts cur, ncMath_ItemNE it := by
  intro ts
  induction ts with
  | nil =>
    intro cur it hit
    simp only [detectMathParts] at hit
    split at hit
    · simp at hit
    · rename_i hc
      simp only [List.mem_singleton] at hit; subst hit
      simp only [ncMath_ItemNE, ne_eq, List.reverse_eq_nil_iff]
      simpa using hc
  | cons t ts ih =>
    intro cur it hit
    simp only [detectMathParts] at hit
    split at hit
    · exact ih _ it hit
    · simp only [List.mem_append, List.mem_cons] at hit
      rcases hit with hit | rfl | hit
      · split at hit
        · simp at hit
        · rename_i hc
          simp only [List.mem_singleton] at hit; subst hit
          simp only [ncMath_ItemNE, ne_eq, List.reverse_eq_nil_iff]
          simpa using hc
      · trivial
      · exact ih _ it hit

theorem ncMath_replaceStep (opText : List (Str × Str)) (d : Str) (inline : Bool)
    (s : RsState) (it : SecItem) (hs : s.repls ≠ []) (hi : ncMath_ItemNE it) :
    ∃ s', replaceStep T opText (some d) inline s it = some s' ∧ s'.repls ≠ [] := by
  cases it with
  | tok t =>
    simp only [replaceStep]
    split <;> exact ⟨_, rfl, hs⟩
  | part ts =>
    cases ts with
    | nil => exact absurd rfl hi
    | cons t0 r =>
      obtain ⟨tl, htl⟩ : ∃ tl, (t0 :: r).getLast? = some tl := ⟨_, List.getLast?_eq_some_getLast (by simp)⟩
      simp only [replaceStep, List.head?_cons, htl]
      have key : ∀ c : Bool, (if c = true then rotL s.repls else s.repls) ≠ [] := by
        intro c; split
        · exact rotL_ne_nil _ hs
        · exact hs
      by_cases hall : ((t0 :: r).all (·.kind == .mathSpace)) = true
      · rw [if_pos hall]
        exact ⟨_, rfl, hs⟩
      · rw [if_neg hall]
        split
        · rename_i heq
          exfalso
          split at heq
          · split at heq <;> simp at heq
          · simp at heq
        · rename_i out2 _
          split
          · rename_i heq
            exfalso
            split at heq
            · exact key _ (List.head?_eq_none_iff.mp heq)
            · simp at heq
          · exact ⟨_, rfl, key _⟩

theorem ncMath_foldlM_replaceStep (opText : List (Str × Str)) (d : Str) (inline : Bool) :
    ∀ (items : List SecItem) (s : RsState), s.repls ≠ [] → (∀ it ∈ items, ncMath_ItemNE it) →
    ∃ s', items.foldlM (replaceStep T opText (some d) inline) s = some s' ∧ s'.repls ≠ [] := by
  intro items
  induction items with
  | nil => intro s hs _; exact ⟨s, rfl, hs⟩
  | cons it items ih =>
    intro s hs hi
    obtain ⟨s1, h1, h2⟩ := ncMath_replaceStep T opText d inline s it hs (hi it (by simp))
    obtain ⟨s2, h3, h4⟩ := ih s1 h2 (fun j hj => hi j (by simp [hj]))
    refine ⟨s2, ?_, h4⟩
    simp only [List.foldlM_cons, Option.bind_eq_bind, h1, Option.bind_some, h3]

/-- `replace_section` cannot raise: every part is non-empty, the default operator text exists,
    and the placeholder list is (and stays) non-empty -/
theorem replaceSection_total (opText : List (Str × Str)) (opDefault : Option Str) (inline : Bool)
    (toks : List Tok) (first next : Bool) (repls : List Str)
    (hd : opDefault.isSome = true) (hr : repls ≠ []) :
    ∃ rs, replaceSection T opText opDefault inline (detectMathParts toks []) first next repls = some rs ∧
      rs.repls ≠ [] := by
  obtain ⟨d, rfl⟩ := Option.isSome_iff_exists.mp hd
  unfold replaceSection
  exact ncMath_foldlM_replaceStep T opText d inline _ _ hr (ncMath_detect_NE toks [])

theorem ncMath_special (n : Nat) (tok : Tok) (h : TokOk T n tok) : ∃ txt, mathSpecialTxt T tok = some txt := by
  unfold mathSpecialTxt
  split
  · rename_i hk
    have hm := h.2.2.2
    simp only [beq_iff_eq] at hk
    simp only [mbOk, hk] at hm
    exact Option.isSome_iff_exists.mp hm
  · exact ⟨_, rfl⟩

theorem ncMath_settings (hw : T.WFInv) (nroot : Nat) (st : PState) (h : G0 T nroot st) :
    ∃ ls, settingsOf T (curSettings st) = some ls := by
  apply Option.isSome_iff_exists.mp
  unfold curSettings
  cases hs : st.langStack with
  | nil => simpa using hw.lang_en
  | cons e r => simpa using h.langs e (by simp [hs])

theorem ncMath_rot (nroot : Nat) (st : PState) (h : G0 T nroot st) (code : Str) (ls : LangSettings)
    (hs : settingsOf T code = some ls) :
    ∃ rot, rotOf st code = some rot ∧ rot ∈ st.rots ∧ rot.inl ≠ [] ∧ rot.disp ≠ [] ∧ rot.chg ≠ [] := by
  unfold settingsOf at hs
  have hc := List.find?_some hs
  have hm := List.mem_of_find?_eq_some hs
  simp only [beq_iff_eq] at hc
  subst hc
  obtain ⟨rot, hr⟩ := Option.isSome_iff_exists.mp (h.rots.1 ls hm)
  have hmem : rot ∈ st.rots := List.mem_of_find?_eq_some hr
  exact ⟨rot, hr, hmem, h.rots.2 rot hmem⟩


theorem ncMath_rotOf_setRot (st : PState) (r : Rot) (code : Str) :
    (rotOf (setRot st r) code).isSome = (rotOf st code).isSome := by
  unfold rotOf setRot
  simp only [List.find?_map, Option.isSome_map]
  congr 2
  funext x
  simp only [Function.comp]
  split
  · rename_i hx
    simp only [beq_iff_eq] at hx
    rw [hx]
  · rfl

/-! ### frame lemmas -/

theorem Good_setRot (nroot : Nat) (st : PState) (r : Rot) (h : G T nroot st)
    (hr : r.inl ≠ [] ∧ r.disp ≠ [] ∧ r.chg ≠ []) : Good T nroot st (setRot st r) := by
  refine ⟨⟨⟨h.flows, h.macros, h.envs, h.gloss, h.items, h.langs, ⟨?_, ?_⟩, h.unk⟩, h.root, h.inFrame⟩, rfl, rfl⟩
  · intro l hl
    rw [ncMath_rotOf_setRot]
    exact h.rots.1 l hl
  · intro x hx
    simp only [setRot, List.mem_map] at hx
    obtain ⟨y, hy, rfl⟩ := hx
    split
    · exact hr
    · exact h.rots.2 y hy

theorem TokOk_mkMath (n p : Nat) (k : Kind) (txt : Str) (hp : p < n)
    (hk : k = .mathSpace ∨ k = .mathOper ∨ k = .mathElem) : TokOk T n (mkTok k p txt) := by
  rcases hk with rfl | rfl | rfl <;> simp [TokOk, mkTok, extent, ctlEmpty, mbOk, hp, Nat.le_of_lt hp]

theorem MTok_mkMath (n p : Nat) (k : Kind) (txt : Str) (hp : p < n)
    (hk : k = .mathSpace ∨ k = .mathOper ∨ k = .mathElem) : MTok T n (mkTok k p txt) := by
  refine ⟨TokOk_mkMath T n p k txt hp hk, Or.inl ?_⟩
  rcases hk with rfl | rfl | rfl <;> rfl

theorem MathBuf_of_BL (n : Nat) (b : Buf) (h : BL T n b) : MathBuf T n b :=
  ⟨[], b, rfl, by simp, by intro t ht; simp at ht, h⟩

theorem skipSpace_MathBuf (n : Nat) (buf : Buf) (tok : Tok) (rest : Buf) (h : MathBuf T n buf)
    (hs : skipSpace buf = tok :: rest) : TokOk T n tok ∧ BL T n rest := by
  obtain ⟨pre, rest0, rfl, hl, hp, hr⟩ := h
  have key : ∀ b : Buf, BL T n b → skipSpace b = tok :: rest → TokOk T n tok ∧ BL T n rest := by
    intro b hb hsb
    have := BL_skipSpace T n b hb
    rw [hsb] at this
    exact ⟨(this tok (by simp)).1, fun u hu => this u (by simp [hu])⟩
  match pre, hl, hp with
  | [], _, _ => exact key rest0 hr hs
  | [p], _, hp =>
    simp only [skipSpace, List.cons_append, List.nil_append, List.dropWhile_cons] at hs
    split at hs
    · exact key rest0 hr hs
    · simp only [List.cons.injEq] at hs
      obtain ⟨rfl, rfl⟩ := hs
      exact ⟨hp _ (by simp), hr⟩
  | _ :: _ :: _, hl, _ => simp at hl

def MathPost (nroot : Nat) (st : PState) (r : MathSec) (st' : PState) : Prop :=
  Good T nroot st st' ∧ BL T st.latex.length r.buf ∧
    (∀ t ∈ r.out, TokOk T st.latex.length t ∧ (isMathTok t = true ∨ outKind t = true)) ∧
    (∀ t, r.term = some t → t.pos < st.latex.length)

/-- recursive call of `expandMathSection` from a later state of the same frame -/
theorem mathSec_rec (nroot fuel : Nat) (IH : AllSpecs T nroot fuel) (st st1 : PState)
    (hgood : Good T nroot st st1) (buf : Buf) (start : Nat) (toksStop : List Str) (envStop : Option Str)
    (out : List Tok) (hb : MathBuf T st.latex.length buf) (hs : start < st.latex.length)
    (he : ∀ nm, envStop = some nm → (endFuncNames T).contains nm = false)
    (ho : ∀ t ∈ out, MTok T st.latex.length t) :
    Post (expandMathSection T fuel buf start toksStop envStop out st1) (MathPost T nroot st) := by
  have hl : st1.latex = st.latex := hgood.2.1
  have := IH.mathSec buf start toksStop envStop out st1 hgood.1 (by rw [hl]; exact hb) (by rw [hl]; exact hs) he
    (by rw [hl]; exact ho)
  rw [hl] at this
  refine Post_mono _ _ _ this ?_
  intro r s ⟨h1, h2, h3, h4⟩
  exact ⟨Good_trans T nroot _ _ _ hgood h1, h2, h3, h4⟩

theorem fin_MTok (n : Nat) (p : Tok → Bool) (o : List Tok) (h : ∀ t ∈ o, MTok T n t) :
    ∀ t ∈ o.filter p, TokOk T n t ∧ (isMathTok t = true ∨ outKind t = true) :=
  fun t ht => h t (List.mem_filter.mp ht).1

theorem MTok_append (n : Nat) (a b : List Tok) (ha : ∀ t ∈ a, MTok T n t) (hb : ∀ t ∈ b, MTok T n t) :
    ∀ t ∈ a ++ b, MTok T n t := by
  intro t ht; rcases List.mem_append.mp ht with h | h; exact ha t h; exact hb t h

theorem MTok_OL (n : Nat) (a : List Tok) (ha : OL T n a) : ∀ t ∈ a, MTok T n t :=
  fun t ht => ⟨(ha t ht).1, Or.inr (ha t ht).2⟩

theorem mathSec_step (hw : T.WFInv) (nroot fuel : Nat) (IH : AllSpecs T nroot fuel) :
    SpecMathSec T nroot (fuel + 1) := by
  intro buf start toksStop envStop out st hg hmb hstart henv hout
  change Post _ (MathPost T nroot st)
  have hout' : ∀ t ∈ out, MTok T st.latex.length t := hout
  rw [expandMathSection.eq_2]
  cases hsk : skipSpace buf with
  | nil =>
    -- end of buffer
    dsimp only
    refine Post_bind _ _ _ _ _ (latexError_spec T hw _ start st hstart) ?_
    intro e st1 ⟨he, hst1⟩
    apply Post_pure
    exact ⟨Basic_Good_of_diags T nroot st st1 hg hst1, by intro t ht; simp at ht,
      fin_MTok T _ _ _ (MTok_append T _ _ _ (MTok_OL T _ _ he) hout'), by intro t ht; simp at ht⟩
  | cons tok rest =>
    dsimp only
    obtain ⟨htok, hrest⟩ := skipSpace_MathBuf T _ buf tok rest hmb hsk
    refine Post_ite _ _ _ _ _ (fun hk => ?_) (fun _ => ?_)
    · -- paragraph
      refine Post_bind _ _ _ _ _ (latexError_spec T hw _ start st hstart) ?_
      intro e st1 ⟨he, hst1⟩
      apply Post_pure
      refine ⟨Basic_Good_of_diags T nroot st st1 hg hst1, hrest,
        fin_MTok T _ _ _ (MTok_append T _ _ _ (MTok_OL T _ _ he) hout'), ?_⟩
      intro t ht; simp only [Option.some.injEq] at ht; subst ht; exact htok.1
    refine Post_ite _ _ _ _ _ (fun hk => ?_) (fun _ => ?_)
    · -- verbatim token: a maths element (its text is no markup)
      exact mathSec_rec T nroot fuel IH st st (Good_refl T nroot st hg) _ start toksStop envStop _
        (MathBuf_of_BL T _ _ hrest) hstart henv
        (MTok_append T _ _ _ hout' (by
          intro u hu; simp only [List.mem_singleton] at hu; subst hu
          exact MTok_mkMath T _ _ _ _ htok.1 (by simp)))
    refine Post_ite _ _ _ _ _ (fun hk => ?_) (fun _ => ?_)
    · -- stop token
      apply Post_pure
      refine ⟨Good_refl T nroot st hg, hrest, fin_MTok T _ _ _ hout', ?_⟩
      intro t ht; simp only [Option.some.injEq] at ht; subst ht; exact htok.1
    refine Post_ite _ _ _ _ _ (fun hk => ?_) (fun _ => ?_)
    · -- \begin
      have hbt : BTok T st.latex.length tok := ⟨htok, by simp only [beq_iff_eq] at hk; simp [isMathTok, hk]⟩
      refine Post_bind _ _ _ _ _ (IH.begin_ rest tok true st hg hrest hbt) ?_
      intro r st1 ⟨hgood, h1, h2⟩
      exact mathSec_rec T nroot fuel IH st st1 hgood _ start toksStop envStop out
        (MathBuf_of_BL T _ _ ((BL_append T _ _ _).mpr ⟨h1, h2⟩)) hstart henv hout'
    refine Post_ite _ _ _ _ _ (fun hk => ?_) (fun _ => ?_)
    · -- \end
      have hbt : BTok T st.latex.length tok := ⟨htok, by simp only [beq_iff_eq] at hk; simp [isMathTok, hk]⟩
      refine Post_bind _ _ _ _ _ (IH.end_ rest tok envStop st hg hrest hbt) ?_
      intro r st1 ⟨hgood, h1, h2, h3⟩
      refine Post_ite _ _ _ _ _ (fun hk => ?_) (fun _ => ?_)
      · apply Post_pure
        refine ⟨hgood, h2, fin_MTok T _ _ _ (MTok_append T _ _ _ hout' (MTok_OL T _ _ (h3 hk henv))), ?_⟩
        intro t ht; simp only [Option.some.injEq] at ht; subst ht; exact htok.1
      · exact mathSec_rec T nroot fuel IH st st1 hgood _ start toksStop envStop out
          (MathBuf_of_BL T _ _ ((BL_append T _ _ _).mpr ⟨h1, h2⟩)) hstart henv hout'
    refine Post_ite _ _ _ _ _ (fun hk => ?_) (fun _ => ?_)
    · -- macro
      have hbt : BTok T st.latex.length tok := ⟨htok, by simp only [beq_iff_eq] at hk; simp [isMathTok, hk]⟩
      apply Post_get_bind
      refine Post_ite _ _ _ _ _ (fun hk => ?_) (fun _ => ?_)
      · -- text macro
        refine Post_bind _ _ _ _ _ (argBuffer_spec T hw rest tok.pos true st hrest htok.1) ?_
        intro a st1 ⟨ha1, _, ha2, hst1⟩
        have hgood1 := Basic_Good_of_diags T nroot st st1 hg hst1
        have hl1 : st1.latex = st.latex := hgood1.2.1
        have hseq := IH.seq a.1 none [] st1 hgood1.1 (by rw [hl1]; exact ha1) (by intro t ht; simp at ht)
        rw [hl1] at hseq
        refine Post_bind _ _ _ _ _ hseq ?_
        intro e st2 ⟨hgood2, he1, _, he3⟩
        exact mathSec_rec T nroot fuel IH st st2 (Good_trans T nroot _ _ _ hgood1 hgood2) _ start toksStop envStop _
          (MathBuf_of_BL T _ _ ha2) hstart henv (MTok_append T _ _ _ hout' (MTok_OL T _ _ (he3 rfl)))
      · -- other macro
        refine Post_bind _ _ _ _ _ (IH.macro_ rest tok true st hg hrest hbt) ?_
        intro r st1 ⟨hgood, h1, h2⟩
        apply Post_get_bind
        refine mathSec_rec T nroot fuel IH st st1 hgood _ start toksStop envStop out ?_ hstart henv hout'
        refine ⟨_, r.1 ++ r.2, List.append_assoc _ _ _, ?_, ?_, (BL_append T _ _ _).mpr ⟨h1, h2⟩⟩
        · have one : ∀ t : Tok, [t].length ≤ 1 := fun _ => Nat.le_refl 1
          let P : List Tok → Prop := fun l => l.length ≤ 1
          exact ite_prop P _ _ _ (one _) (ite_prop P _ _ _ (one _) (ite_prop P _ _ _ (one _) (Nat.zero_le 1)))
        · have one : ∀ k txt, k = Kind.mathSpace ∨ k = Kind.mathOper ∨ k = Kind.mathElem →
              ∀ t ∈ [mkTok k tok.pos txt], TokOk T st.latex.length t := fun k txt hk t ht => by
            rw [List.mem_singleton.1 ht]; exact TokOk_mkMath T _ _ _ _ htok.1 hk
          let P : List Tok → Prop := fun l => ∀ t ∈ l, TokOk T st.latex.length t
          exact ite_prop P _ _ _ (one _ _ (by simp)) (ite_prop P _ _ _ (one _ _ (by simp))
            (ite_prop P _ _ _ (one _ _ (by simp)) (fun _ h => nomatch h)))
    · -- other tokens
      apply Post_get_bind
      have hmr := MathBuf_of_BL T _ _ hrest
      have hgr := Good_refl T nroot st hg
      have snoc : ∀ t, MTok T st.latex.length t → ∀ u ∈ out ++ [t], MTok T st.latex.length u :=
        fun t ht => MTok_append T _ _ _ hout' (by intro u hu; simp only [List.mem_singleton] at hu; subst hu; exact ht)
      refine Post_ite _ _ _ _ _ (fun hk => ?_) (fun _ => ?_)
      · exact mathSec_rec T nroot fuel IH st st hgr _ start toksStop envStop _ hmr hstart henv (snoc tok ⟨htok, Or.inl hk⟩)
      refine Post_ite _ _ _ _ _ (fun hk => ?_) (fun _ => ?_)
      · exact mathSec_rec T nroot fuel IH st st hgr _ start toksStop envStop _ hmr hstart henv hout'
      refine Post_ite _ _ _ _ _ (fun hk => ?_) (fun _ => ?_)
      · exact mathSec_rec T nroot fuel IH st st hgr _ start toksStop envStop _ hmr hstart henv hout'
      refine Post_ite _ _ _ _ _ (fun hk => ?_) (fun _ => ?_)
      · exact mathSec_rec T nroot fuel IH st st hgr _ start toksStop envStop _ hmr hstart henv
          (snoc _ (MTok_mkMath T _ _ _ _ htok.1 (by simp)))
      obtain ⟨txt, htxt⟩ := ncMath_special T _ tok htok
      rw [htxt]
      dsimp only
      refine Post_ite _ _ _ _ _ (fun hk => ?_) (fun _ => ?_)
      · exact mathSec_rec T nroot fuel IH st st hgr _ start toksStop envStop _ hmr hstart henv
          (snoc _ (MTok_mkMath T _ _ _ _ htok.1 (by simp)))
      · exact mathSec_rec T nroot fuel IH st st hgr _ start toksStop envStop _ hmr hstart henv
          (snoc _ (MTok_mkMath T _ _ _ _ htok.1 (by simp)))

theorem lastPos_lt (n d : Nat) (l : List Tok) (hl : ∀ t ∈ l, t.pos < n) (hd : d < n) :
    ((l.getLast?).map (·.pos)).getD d < n := by
  cases h : l.getLast? with
  | none => simpa using hd
  | some t => simpa using hl t (List.mem_of_getLast? h)

theorem OL_pos (n : Nat) (l : List Tok) (h : OL T n l) : ∀ t ∈ l, t.pos < n := fun t ht => (h t ht).1.1

theorem OL_cons (n : Nat) (t : Tok) (l : List Tok) (ht : OTok T n t) (hl : OL T n l) : OL T n (t :: l) := by
  intro u hu; simp only [List.mem_cons] at hu; rcases hu with rfl | hu; exact ht; exact hl u hu

theorem inline_step (hw : T.WFInv) (nroot fuel : Nat) (IH : AllSpecs T nroot fuel) :
    SpecInline T nroot (fuel + 1) := by
  intro buf tok st hg hb ht
  have _ := hw
  have hp : tok.pos < st.latex.length := ht.1.1
  rw [expandInlineMath.eq_2]
  refine Post_bind _ _ _ _ _ (IH.mathSec buf tok.pos _ none [] st hg (MathBuf_of_BL T _ _ hb) hp
    (by intro nm h; cases h) (by intro t h; simp at h)) ?_
  intro sec st1 ⟨hgood, hbuf, hout, _⟩
  apply Post_get_bind
  dsimp only
  obtain ⟨ls, hs⟩ := ncMath_settings T hw nroot st1 hgood.1.toG0
  obtain ⟨rot, hr, _, hri, hrd, hrc⟩ := ncMath_rot T nroot st1 hgood.1.toG0 _ ls hs
  rw [hr, hs]
  dsimp only
  obtain ⟨rs, hrs, hne⟩ := replaceSection_total T ls.opText ls.opDefault true sec.out true true rot.inl
    (hw.langs_ok ls (List.mem_of_find?_eq_some hs)).2.2.2 hri
  rw [hrs]
  dsimp only
  have hro := replaceSection_OL T _ _ _ _ _ _ _ _ rs hout hrs
  refine Post_bind _ _ _ _ _ (Post_modify _ st1 (fun _ s => Good T nroot st s)
    (Good_trans T nroot _ _ _ hgood (Good_setRot T nroot st1 _ hgood.1 ⟨hne, hrd, hrc⟩))) ?_
  intro _ st2 hgood2
  apply Post_pure
  have ho1 : OL T st.latex.length (mkAction tok.pos :: rs.out) := OL_cons T _ _ _ (OTok_mkAction T _ _ hp) hro
  exact ⟨hgood2, OL_snoc T _ _ _ ho1 (OTok_mkAction T _ _ (lastPos_lt _ _ _ (OL_pos T _ _ ho1) hp)), hbuf⟩

/-- recursive call of `displayLoop` from a later state of the same frame -/
theorem dispLoop_rec (nroot fuel : Nat) (IH : AllSpecs T nroot fuel) (st st1 : PState)
    (hgood : Good T nroot st st1) (buf : Buf) (start : Nat) (envName : Str) (first next : Bool)
    (out : List Tok) (hb : BL T st.latex.length buf) (hs : start < st.latex.length)
    (ho : OL T st.latex.length out) (he : (endFuncNames T).contains envName = false) :
    Post (displayLoop T fuel buf start envName first next out st1) (fun r st' =>
      Good T nroot st st' ∧ OL T st.latex.length r.1 ∧ BL T st.latex.length r.2.1 ∧
        OL T st.latex.length r.2.2) := by
  have hl : st1.latex = st.latex := hgood.2.1
  have := IH.dispLoop buf start envName first next out st1 hgood.1 (by rw [hl]; exact hb) (by rw [hl]; exact hs)
    (by rw [hl]; exact ho) he
  rw [hl] at this
  refine Post_mono _ _ _ this ?_
  intro r s ⟨h1, h2, h3, h4⟩
  exact ⟨Good_trans T nroot _ _ _ hgood h1, h2, h3, h4⟩

theorem nextStart_lt (n start : Nat) (b : Buf) (hb : BL T n b) (hs : start < n) :
    (match b.head? with | some t => t.pos | none => start) < n := by
  cases b with
  | nil => exact hs
  | cons t r => exact (hb t (by simp)).1.1

theorem dispLoop_step (hw : T.WFInv) (nroot fuel : Nat) (IH : AllSpecs T nroot fuel) :
    SpecDispLoop T nroot (fuel + 1) := by
  intro buf start envName first next out st hg hb hstart hout henv
  rw [displayLoop.eq_2]
  refine Post_bind _ _ _ _ _ (IH.mathSec buf start _ (some envName) [] st hg (MathBuf_of_BL T _ _ hb) hstart
    (by intro nm h; cases h; exact henv) (by intro t h; simp at h)) ?_
  intro sec st1 ⟨hgood, hbuf, hsout, hterm⟩
  apply Post_get_bind
  dsimp only
  obtain ⟨ls, hs⟩ := ncMath_settings T hw nroot st1 hgood.1.toG0
  obtain ⟨rot, hr, _, hri, hrd, hrc⟩ := ncMath_rot T nroot st1 hgood.1.toG0 _ ls hs
  rw [hr, hs]
  dsimp only
  obtain ⟨rs, hrs, hne⟩ := replaceSection_total T ls.opText ls.opDefault false sec.out first next rot.disp
    (hw.langs_ok ls (List.mem_of_find?_eq_some hs)).2.2.2 hrd
  rw [hrs]
  dsimp only
  have hro := replaceSection_OL T _ _ _ _ _ _ _ _ rs hsout hrs
  refine Post_bind _ _ _ _ _ (Post_modify _ st1 (fun _ s => Good T nroot st s)
    (Good_trans T nroot _ _ _ hgood (Good_setRot T nroot st1 _ hgood.1 ⟨hri, hne, hrc⟩))) ?_
  intro _ st2 hgood2
  have ho1 : OL T st.latex.length (out ++ rs.out) := (OL_append T _ _ _).mpr ⟨hout, hro⟩
  have hlp := lastPos_lt _ _ _ (OL_pos T _ _ ho1) hstart
  have hl1 : st1.latex = st.latex := hgood.2.1
  have hfin : Post ((pure (out ++ rs.out, sec.buf, []) : M (List Tok × Buf × List Tok)) st2) (fun r st' =>
      Good T nroot st st' ∧ OL T st.latex.length r.1 ∧ BL T st.latex.length r.2.1 ∧
        OL T st.latex.length r.2.2) :=
    Post_pure _ _ _ ⟨hgood2, ho1, hbuf, Basic_OL_nil T _⟩
  -- an unterminated last section: the error mark is returned as well
  have hfinE : Post ((pure (out ++ rs.out, sec.buf,
        latexErrorToks T.toTables "missing end of maths".toList start st1.latex.length) :
        M (List Tok × Buf × List Tok)) st2) (fun r st' =>
      Good T nroot st st' ∧ OL T st.latex.length r.1 ∧ BL T st.latex.length r.2.1 ∧
        OL T st.latex.length r.2.2) := by
    rw [hl1]
    exact Post_pure _ _ _ ⟨hgood2, ho1, hbuf, latexErrorToks_OL T _ _ _ hstart⟩
  cases hte : sec.term with
  | none => exact hfinE
  | some e =>
    dsimp only
    refine Post_ite _ _ _ _ _ (fun _ => ?_) (fun _ => ?_)
    · exact dispLoop_rec T nroot fuel IH st st2 hgood2 _ _ envName _ _ _ hbuf
        (nextStart_lt T _ _ _ hbuf hstart)
        (OL_snoc T _ _ _ ho1 (OTok_mkFix T _ _ .space _ hlp (by simp))) henv
    refine Post_ite _ _ _ _ _ (fun _ => ?_) (fun _ => ?_)
    · have hl2 : st2.latex = st.latex := hgood2.2.1
      have hpn := parseNewlineOption_spec T hw sec.buf false st2 (by rw [hl2]; exact hbuf)
      refine Post_bind _ _ _ _ _ hpn ?_
      intro b st3 ⟨hb3, hst3⟩
      rw [hl2] at hb3
      exact dispLoop_rec T nroot fuel IH st st3
        (Good_trans T nroot _ _ _ hgood2 (Basic_Good_of_diags T nroot st2 st3 hgood2.1 hst3)) _ _ envName _ _ _ hb3
        (nextStart_lt T _ _ _ hb3 hstart)
        (OL_snoc T _ _ _ ho1 (OTok_mkFix T _ _ .space _ hlp (by simp))) henv
    refine Post_ite _ _ _ _ _ (fun _ => ?_) (fun _ => ?_)
    · exact hfinE
    · exact hfin

theorem OL_of_forall (n : Nat) (l : List Tok) (h : ∀ t ∈ l, OTok T n t) : OL T n l := h

theorem display_step (hw : T.WFInv) (nroot fuel : Nat) (IH : AllSpecs T nroot fuel) :
    SpecDisplay T nroot (fuel + 1) := by
  intro buf tok envName remove st hg hb ht henv
  have _ := hw
  have hp : tok.pos < st.latex.length := ht.1.1
  have hact := OTok_mkAction T _ _ hp
  have hsp2 := OTok_mkFix T st.latex.length tok.pos .space [' ', ' '] hp (by simp)
  rw [expandDisplayMath.eq_2]
  refine Post_bind _ _ _ _ _ (IH.dispLoop buf tok.pos envName true true _ st hg hb hp
    (OL_cons T _ _ _ hact (OL_cons T _ _ _ hsp2 (Basic_OL_nil T _))) henv) ?_
  intro r st1 ⟨hgood, hr1, hr2, hr3⟩
  have hlp := lastPos_lt _ _ _ (OL_pos T _ _ hr1) hp
  refine Post_ite _ _ _ _ _ (fun _ => ?_) (fun _ => ?_)
  · have h1 : ∀ c : Char, Post ((pure (r.2.2 ++ [mkFix Kind.text ((Option.map (fun x => x.pos) r.fst.getLast?).getD tok.pos) [c]],
        r.2.1) : M (List Tok × Buf)) st1) (fun r st' =>
          Good T nroot st st' ∧ OL T st.latex.length r.1 ∧ BL T st.latex.length r.2) := fun c =>
      Post_pure _ _ _ ⟨hgood, OL_snoc T _ _ _ hr3 (OTok_mkFix T _ _ .text _ hlp (by simp)), hr2⟩
    have h2 : Post ((pure (r.2.2 ++ [mkAction ((Option.map (fun x => x.pos) r.fst.getLast?).getD tok.pos)],
        r.2.1) : M (List Tok × Buf)) st1) (fun r st' =>
          Good T nroot st st' ∧ OL T st.latex.length r.1 ∧ BL T st.latex.length r.2) :=
      Post_pure _ _ _ ⟨hgood, OL_snoc T _ _ _ hr3 (OTok_mkAction T _ _ hlp), hr2⟩
    repeat' split
    all_goals first | exact h1 _ | exact h2
  · apply Post_get_bind
    refine Post_ite _ _ _ _ _ (fun _ => ?_) (fun _ => ?_)
    · obtain ⟨d0, hd0⟩ : ∃ d0, (rotOf st1 (curSettings st1)).bind (fun x => x.disp.head?) = some d0 := by
        obtain ⟨ls, hs⟩ := ncMath_settings T hw nroot st1 hgood.1.toG0
        obtain ⟨rot, hr, _, _, hrd, _⟩ := ncMath_rot T nroot st1 hgood.1.toG0 _ ls hs
        rw [hr]
        cases hdd : rot.disp with
        | nil => exact absurd hdd hrd
        | cons a t => exact ⟨a, by simp [hdd]⟩
      rw [hd0]
      dsimp only
      apply Post_pure
      refine ⟨hgood, ?_, hr2⟩
      refine OL_snoc T _ _ _ ((OL_append T _ _ _).mpr ⟨?_, ?_⟩) hact
      · exact (OL_append T _ _ _).mpr ⟨(OL_append T _ _ _).mpr
          ⟨OL_cons T _ _ _ hact (OL_cons T _ _ _ hsp2 (Basic_OL_nil T _)), hr3⟩,
          OL_cons T _ _ _ (OTok_mkFix T _ _ .text _ hp (by simp)) (Basic_OL_nil T _)⟩
      · repeat' split
        all_goals first | exact OL_cons T _ _ _ (OTok_mkFix T _ _ .text _ hp (by simp)) (Basic_OL_nil T _) | exact Basic_OL_nil T _
    · apply Post_pure
      exact ⟨hgood, OL_snoc T _ _ _ hr1 (OTok_mkAction T _ _ hlp), hr2⟩

end Yalafi
