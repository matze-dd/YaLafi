/-
  Proofs/Run.lean — what the three inductions on fuel over the expander share.

  `PostC C x Q` is their postcondition shape (`Post`, `NoEmpty.Post'` and `NoOpaque.GoodO` are its instances for three
  predicates `C` on crash sites), with its rules for the constructs of the monad (`pure`, `bind`, `mono`, `and`, `get`,
  `get_bind`, `modify`, `modifyPure`, `fatal`, `catchAll`, `ite`, `forM`, `foldlM`).
  `collectArgs_all`: argument collection keeps a token predicate.
  `argsTail`, `beginTail`, `endTail`, `accentEmit`, `accentTail` name the last parts of four functions of the expander.
  `initParser_inv` and `parse_inv` carry a state invariant through `Parser.__init__` and `Parser.parse`;
  `tex2txt_crash` and `tex2txt_ok` say what an outcome of `tex2txt` tells about the outcome of that run (`runT2T`).
-/
import YalafiVerif.Proofs.Top
namespace Yalafi

open M

/-- `Q` for a result, `C` for the site of a crash; nothing is claimed for `fatal` and `outOfFuel` -/
def PostC (C : String → Prop) {α} (x : Outcome (α × PState)) (Q : α → PState → Prop) : Prop :=
  match x with
  | .ok (a, s) => Q a s
  | .crash c => C c
  | _ => True

namespace PostC

variable {C : String → Prop} {α β : Type}

theorem pure {a : α} {st : PState} {Q : α → PState → Prop} (h : Q a st) : PostC C ((Pure.pure a : M α) st) Q := h

theorem bind {x : M α} {f : α → M β} {st : PState} {Q : α → PState → Prop} {R : β → PState → Prop}
    (hx : PostC C (x st) Q) (hf : ∀ a s, Q a s → PostC C (f a s) R) : PostC C ((x >>= f) st) R := by
  show PostC C (M.bind' x f st) R
  unfold M.bind'
  rcases hxs : x st with ⟨a, s⟩ | m | c | _
  · rw [hxs] at hx; exact hf a s hx
  · trivial
  · rw [hxs] at hx; exact hx
  · trivial

theorem mono {x : Outcome (α × PState)} {Q R : α → PState → Prop} (h : PostC C x Q)
    (hi : ∀ a s, Q a s → R a s) : PostC C x R := by
  rcases x with ⟨a, s⟩ | m | c | _
  · exact hi a s h
  · trivial
  · exact h
  · trivial

theorem modify {f : PState → PState} {st : PState} {Q : Unit → PState → Prop} (h : Q () (f st)) :
    PostC C (M.modify f st) Q := h

theorem get {st : PState} {Q : PState → PState → Prop} (h : Q st st) : PostC C (M.get st) Q := h

theorem fatal {msg : Str} {st : PState} {Q : α → PState → Prop} : PostC C ((M.fatal msg : M α) st) Q := trivial

/-- `catchAll` turns a crash into a fatal error, of which nothing is claimed -/
theorem catchAll {x : M α} {msg : Str} {st : PState} {Q : α → PState → Prop} (h : PostC C (x st) Q) :
    PostC C (Yalafi.catchAll x msg st) Q := by
  unfold Yalafi.catchAll
  rcases hxs : x st with r | m | c | _
  · rw [hxs] at h; exact h
  all_goals trivial

theorem and {x : Outcome (α × PState)} {Q R : α → PState → Prop} (h1 : PostC C x Q) (h2 : PostC C x R) :
    PostC C x (fun a s => Q a s ∧ R a s) := by
  rcases x with ⟨a, s⟩ | m | c | _
  · exact ⟨h1, h2⟩
  · trivial
  · exact h1
  · trivial

theorem get_bind {f : PState → M β} {st : PState} {R : β → PState → Prop} (h : PostC C (f st st) R) :
    PostC C ((M.get >>= f) st) R := by
  refine bind (Q := fun a s => a = st ∧ s = st) (get ⟨rfl, rfl⟩) ?_
  rintro a s ⟨rfl, rfl⟩
  exact h

theorem modifyPure {f : PState → PState} {b : β} {st : PState} {R : β → PState → Prop} (h : R b (f st)) :
    PostC C ((M.modify f >>= fun _ => (Pure.pure b : M β)) st) R := by
  refine bind (Q := fun _ s => s = f st) (modify rfl) ?_
  rintro _ s rfl
  exact pure h

theorem ite {c : Prop} [Decidable c] {x y : M α} {st : PState} {Q : α → PState → Prop}
    (h1 : c → PostC C (x st) Q) (h2 : ¬ c → PostC C (y st) Q) : PostC C ((if c then x else y) st) Q := by
  by_cases h : c
  · rw [if_pos h]; exact h1 h
  · rw [if_neg h]; exact h2 h

theorem forM {γ : Type _} {I : PState → Prop} {f : γ → M PUnit} : ∀ (l : List γ),
    (∀ a ∈ l, ∀ st, I st → PostC C (f a st) (fun _ s => I s)) →
    ∀ st, I st → PostC C (l.forM f st) (fun _ s => I s)
  | [], _, _, hs => pure (α := PUnit) hs
  | a :: rest, h, st, hs =>
    bind (β := PUnit) (f := fun _ => rest.forM f) (h a List.mem_cons_self st hs)
      (fun _ s hs' => forM rest (fun b hb => h b (List.mem_cons_of_mem _ hb)) s hs')

theorem foldlM {γ : Type _} {f : β → γ → M β} {I : β → PState → Prop} : ∀ (l : List γ) (b : β) (st : PState),
    I b st → (∀ b a s, a ∈ l → I b s → PostC C (f b a s) I) → PostC C (l.foldlM f b st) I
  | [], _, _, hI, _ => pure hI
  | a :: l, b, st, hI, hf => by
    rw [List.foldlM_cons]
    exact bind (hf b a st List.mem_cons_self hI)
      (fun b' s' h' => foldlM l b' s' h' (fun b a s ha => hf b a s (List.mem_cons_of_mem _ ha)))

end PostC

def ArgsAll (P L : Tok → Prop) (acc : Args) : Prop :=
  (∀ a ∈ acc.args, ∀ t ∈ a, P t) ∧ (∀ a ∈ acc.extr, ∀ t ∈ a, P t) ∧ ∀ t ∈ acc.langs, L t

theorem ArgsAll.push {P L : Tok → Prop} {acc : Args} {a e : List Tok} (h : ArgsAll P L acc) (ha : ∀ t ∈ a, P t)
    (he : ∀ t ∈ e, P t) : ArgsAll P L { acc with args := acc.args ++ [a], extr := acc.extr ++ [e] } := by
  refine ⟨fun x hx => ?_, fun x hx => ?_, h.2.2⟩
  · rcases List.mem_append.1 hx with hx | hx
    · exact h.1 x hx
    · rw [List.mem_singleton.1 hx]; exact ha
  · rcases List.mem_append.1 hx with hx | hx
    · exact h.2.1 x hx
    · rw [List.mem_singleton.1 hx]; exact he

/-- Argument collection keeps a token predicate: `P` holds of the buffer, of the stored default values once they
    are pinned to a position, and of a void token at a position; positions are those of `P`-tokens or the
    start position (`R`).  `arg_buffer` is the only step that touches the state (`hab`, with a state predicate `I`);
    the language tokens skipped in front of an argument are `P`-tokens of the buffer that satisfy `isLangK`. -/
theorem collectArgs_all (T : PTables) {C : String → Prop} (P L : Tok → Prop) (R : Nat → Prop) (I : PState → Prop)
    (mac : MacroDef)
    (hab : ∀ b p eb s, I s → (∀ t ∈ b, P t) → R p →
      PostC C (argBuffer T.toTables b p eb s) (fun r s' => I s' ∧ (∀ t ∈ r.1, P t) ∧ ∀ t ∈ r.2, P t))
    (hpos : ∀ t, P t → R t.pos) (hlang : ∀ t, P t → isLangK t = true → L t) (hvoid : ∀ p, R p → P (mkVoid p))
    (hdflt : ∀ d ∈ mac.defaults, ∀ t ∈ d, ∀ p, R p → P { t with pos := p, fix := true }) :
    ∀ (codes : List Char) (k : Nat) (buf : Buf) (pos : Nat) (acc : Args) (st : PState),
    I st → (∀ t ∈ buf, P t) → R pos → ArgsAll P L acc →
    PostC C (collectArgs T mac codes k buf pos acc st) (fun r st' => I st' ∧ ArgsAll P L r.1 ∧ ∀ t ∈ r.2, P t) := by
  intro codes
  induction codes with
  | nil =>
    intro k buf pos acc st hI hb hp ha
    exact ⟨hI, ha, hb⟩
  | cons code codes ih =>
    intro k buf pos acc0 st hI hb hp ha0
    have hsk : ∀ t ∈ skipSpace buf, P t := fun t ht => hb t ((List.dropWhile_sublist _).subset ht)
    have ha : ArgsAll P L { acc0 with langs := acc0.langs ++ skippedLangs buf } := by
      refine ⟨ha0.1, ha0.2.1, fun t ht => ?_⟩
      rcases List.mem_append.1 ht with ht | ht
      · exact ha0.2.2 t ht
      · have hf := List.mem_filter.1 ht
        exact hlang t (hb t ((List.takeWhile_sublist _).subset hf.1)) hf.2
    simp only [collectArgs]
    generalize skipSpace buf = b at hsk ⊢
    generalize hacc : ({ acc0 with langs := acc0.langs ++ skippedLangs buf } : Args) = acc at ha
    have e1 : acc0.args = acc.args := by rw [← hacc]
    have e2 : acc0.extr = acc.extr := by rw [← hacc]
    have e3 : acc0.langs ++ skippedLangs buf = acc.langs := by rw [← hacc]
    simp only [e1, e2, e3]
    have nil : ∀ t ∈ ([] : List Tok), P t := fun _ h => nomatch h
    have one : ∀ t, P t → ∀ x ∈ [t], P x := fun t ht x hx => by rw [List.mem_singleton.1 hx]; exact ht
    have hdf : ∀ p, R p → ∀ t ∈ (match mac.defaults[k]? with
        | some d => d.map (fun t : Tok => { t with pos := p, fix := true })
        | none => []), P t := by
      intro p hp'
      split
      · rename_i d hd
        intro x hx
        obtain ⟨u, hu, rfl⟩ := List.mem_map.1 hx
        exact hdflt d (List.mem_of_getElem? hd) u hu p hp'
      · exact nil
    -- every branch goes on with one more argument `a` and extraction text `e`
    have next : ∀ (b' : Buf) (p : Nat) (a e : List Tok) (s : PState), I s → (∀ t ∈ b', P t) → R p →
        (∀ t ∈ a, P t) → (∀ t ∈ e, P t) →
        PostC C (collectArgs T mac codes (k + 1) b' p { acc with args := acc.args ++ [a], extr := acc.extr ++ [e] } s)
          (fun r st' => I st' ∧ ArgsAll P L r.1 ∧ ∀ t ∈ r.2, P t) :=
      fun b' p a e s hs hb' hp' ha' he' => ih (k + 1) b' p _ s hs hb' hp' (ha.push ha' he')
    have hcont : ∀ (eb : Bool) (p : Nat), R p →
        PostC C ((argBuffer T.toTables b p eb >>= fun r =>
          collectArgs T mac codes (k + 1) r.2 p
            { acc with args := acc.args ++ [r.1], extr := acc.extr ++ [r.1] }) st)
          (fun r st' => I st' ∧ ArgsAll P L r.1 ∧ ∀ t ∈ r.2, P t) :=
      fun eb p hp' => PostC.bind (hab b p eb st hI hsk hp')
        (fun r s h => next r.2 p r.1 r.1 s h.1 h.2.2 hp' h.2.1 h.2.1)
    cases htok : b.head? with
    | none =>
      simp only [Bool.false_eq_true, if_false]
      refine PostC.ite (fun _ => next _ _ _ _ st hI hsk hp nil nil) (fun _ => ?_)
      refine PostC.ite (fun _ => next _ _ _ _ st hI hsk hp (hdf _ hp) nil) (fun _ => ?_)
      exact PostC.ite (fun _ => hcont true _ hp) (fun _ => PostC.fatal)
    | some t =>
      have htb : P t := hsk t (List.mem_of_mem_head? htok)
      have hpos : R t.pos := hpos t htb
      simp only []
      refine PostC.ite (fun _ => ?_) (fun _ => ?_)
      · exact PostC.ite
          (fun _ => next _ _ _ _ st hI (fun x hx => hsk x ((List.tail_sublist _).subset hx)) hpos (one t htb) (one t htb))
          (fun _ => next _ _ _ _ st hI hsk hpos nil nil)
      refine PostC.ite (fun _ => ?_) (fun _ => ?_)
      · exact PostC.ite (fun _ => hcont false _ hpos) (fun _ => next _ _ _ _ st hI hsk hpos (hdf _ hp) nil)
      refine PostC.ite (fun _ => ?_) (fun _ => PostC.fatal)
      exact PostC.ite (fun _ => next _ _ _ _ st hI hsk hpos (one _ (hvoid _ hpos)) (one _ (hvoid _ hpos)))
        (fun _ => hcont true _ hpos)

/-! ### the ends of `expandArguments`, `beginEnvironment`, `endEnvironment`, `expandAccent`

Each of these functions reaches its last part on two or more paths (with or without an extraction, a pushed
item counter, a popped one; for every shape of the accent's argument); the inductions prove one lemma about
the part and use it on each path, where it matches by unfolding. -/

def argsTail (T : PTables) (fuel : Nat) (mac : MacroDef) (r : Args × Buf) (start : Nat) : M (List Tok × Buf) :=
  if mac.handler != .none then do
    let h ← callHandler T fuel mac.handler r.2 mac r.1.args start
    pure (mkAction start :: h ++ r.1.langs, r.2)
  else
    match generateReplacements r.1.args mac.repl start with
    | none => M.crash "parser.py:generate_replacements:arguments[tok.arg-1]"
    | some g => pure (mkAction start :: g ++ r.1.langs, r.2)

def beginTail (T : PTables) (fuel : Nat) (r : Str × Buf) (env : MacroDef) (tok : Tok) : M (List Tok × Buf) := do
  let out0 := if env.addPars then [mkFix .par tok.pos [nl, nl]] else [mkAction tok.pos]
  let a ← expandArguments T fuel r.2 env tok.pos
  if env.isEqu then
    pure (out0 ++ a.1 ++ [{ kind := .mathBegin env.remove, pos := tok.pos, txt := r.1 }], a.2)
  else if env.remove then do
    let s ← expandSequence T fuel a.2 (some r.1) []
    pure (out0 ++ a.1 ++ s.1, s.2)
  else pure (out0 ++ a.1, a.2)

def endTail (T : PTables) (fuel : Nat) (r : Str × Buf) (env : MacroDef) (tok : Tok) (stop : Bool) :
    M ((List Tok × Bool) × Buf) := do
  let out0 := if env.addPars then [mkFix .par tok.pos [nl, nl]] else [mkAction tok.pos]
  if env.endFunc == .none then pure ((out0, stop), r.2)
  else do
    let h ← callHandler T fuel env.endFunc r.2 env [] tok.pos
    pure ((out0 ++ h, stop), r.2)

def accentEmit (T : PTables) (tok : Tok) (a2 : Buf) (rest : List Tok) (nm : Str) : M (List Tok × Buf) :=
  match T.unicodeNames.find? (·.1 == nm) with
  | some u => pure ({ kind := .text, pos := tok.pos, txt := u.2, fix := tok.fix || decide (1 < u.2.length) } :: rest, a2)
  | none => do
    let er ← latexError T.toTables ("could not find UTF-8 character \"".toList ++ nm ++ ['"']) tok.pos
    pure (er, a2)

def accentTail (T : PTables) (tok : Tok) (a2 : Buf) (names : List Str) (c : Option Char) (rest : List Tok) :
    M (List Tok × Buf) :=
  let blank := match c with | none => true | some ch => isSpace ch
  if blank then accentEmit T tok a2 rest (strJoin [' '] names)
  else
    match c with
    | none => M.crash "unreachable"
    | some ch =>
      if !isAsciiLetter ch then do
        let er ← latexError T.toTables "text-mode accent for non-letter".toList tok.pos
        pure (er, a2)
      else
        match names.head? with
        | none => M.crash "parser.py:expand_accent:accent_macros[tok.txt][0]"
        | some n0 =>
          let lower := 'a' ≤ ch && ch ≤ 'z'
          let up : Char := if lower then Char.ofNat (ch.toNat - 32) else ch
          accentEmit T tok a2 rest ("LATIN ".toList ++ (if lower then "SMALL".toList else "CAPITAL".toList)
                      ++ " LETTER ".toList ++ [up] ++ " WITH ".toList ++ n0)

variable {C : String → Prop} {T : PTables} {fuel : Nat}

/-- `Parser.__init__` keeps a state invariant `I` that `initPackage` keeps for the modules of the tables (`P`) -/
theorem initParser_inv (I : PState → Prop) (P : ModuleDef → Prop) {o : Options}
    (hinit : ∀ name md builtin, P md → ∀ st, I st →
      PostC C (initPackage T fuel name md builtin [] 0 st) (fun _ s => I s))
    (hb : P (builtinModule T o)) (hp : ∀ cls packs, ∀ nm ∈ getPackages T cls packs, P nm.2)
    (st : PState) (hs : I st) : PostC C (initParser T fuel o st) (fun _ s => I s) := by
  unfold initParser
  refine PostC.bind (hinit _ _ _ hb st hs) (fun _ s hs' => PostC.forM _ ?_ s hs')
  intro nm hnm st' hs''
  refine PostC.bind (hinit _ _ _ ?_ st' hs'') (fun _ _ h => PostC.pure h)
  rcases List.mem_append.1 hnm with h | h <;> exact hp _ _ nm h

/-- `parse` behind the optional `init_extractions` -/
def parseRest (T : PTables) (fuel : Nat) (latex define : Str) (extract : List Str) : M (List Tok) := do
  M.modify (fun s => { s with extracted := [], unknowns := [] })
  let main0 ← (if define.isEmpty then pure [] else do
    let t ← parserWork T fuel define
    pure (filterSetToks t 0 true))
  M.modify (fun s => { s with extracted := [], foreign := false, nest := 0 })
  let body ← parserWork T fuel latex
  let st ← M.get
  let main := if extract.isEmpty then main0 ++ body else []
  pure (main ++ flowsToks st.extracted)

theorem parse_eq (T : PTables) (fuel : Nat) (latex define : Str) (extract : List Str) :
    parse T fuel latex define extract =
      if !extract.isEmpty then
        (M.modify (fun s => initExtractions T s extract) >>= fun _ => parseRest T fuel latex define extract)
      else parseRest T fuel latex define extract := by
  rfl

/-- `Parser.parse` keeps a state invariant `I` that `parserWork` and its own three updates keep -/
theorem parse_inv (I : PState → Prop)
    (hwork : ∀ latex st, I st → PostC C (parserWork T fuel latex st) (fun _ s => I s))
    (hext : ∀ st ex, I st → I (initExtractions T st ex))
    (hclear : ∀ st, I st → I { st with extracted := [], unknowns := [] })
    (hroot : ∀ st, I st → I { st with extracted := [], foreign := false, nest := 0 })
    (latex define : Str) (extract : List Str) (st : PState) (hs : I st) :
    PostC C (parse T fuel latex define extract st) (fun _ s => I s) := by
  have rest : ∀ st, I st → PostC C (parseRest T fuel latex define extract st) (fun _ s => I s) := by
    intro st hs
    unfold parseRest
    refine PostC.bind (Q := fun _ s => I s) (PostC.modify (hclear _ hs)) (fun _ s2 h2 => ?_)
    refine PostC.bind (Q := fun _ s => I s) ?_ (fun _ s3 h3 => ?_)
    · split
      · exact PostC.pure h2
      · exact PostC.bind (hwork _ _ h2) (fun _ _ h => PostC.pure h)
    refine PostC.bind (Q := fun _ s => I s) (PostC.modify (hroot _ h3)) (fun _ s4 h4 => ?_)
    refine PostC.bind (hwork _ _ h4) (fun _ s5 h5 => ?_)
    exact PostC.bind (Q := fun _ s => I s) (PostC.get h5) (fun _ _ h => PostC.pure h)
  rw [parse_eq]
  split
  · exact PostC.bind (Q := fun _ s => I s) (PostC.modify (hext _ _ hs)) (fun _ s h => rest s h)
  · exact rest st hs

/-- the run inside `tex2txt`: `Parser.__init__`, then `Parser.parse` -/
def runT2T (T : PTables) (fuel : Nat) (latex : Str) (o : Options) (multi : Bool) (fs : FS) :
    Outcome (List Tok × PState) :=
  (initParser T fuel o >>= fun _ => parse T fuel latex o.defs (extrOf o)) (initialState T o multi fs)

theorem tex2txt_eq_run (T : PTables) (fuel : Nat) (latex : Str) (o : Options) (multi : Bool) (thresh : Nat)
    (fs : FS) : tex2txt T fuel latex o multi thresh fs = finishT2T T o multi thresh (runT2T T fuel latex o multi fs) :=
  tex2txt_eq_finish T fuel latex o multi thresh fs

/-- a crash of `tex2txt` is a crash of the run, or the multi-language splitter giving up on its result -/
theorem tex2txt_crash {latex : Str} {o : Options} {multi : Bool} {thresh : Nat} {fs : FS} {c : String}
    (h : tex2txt T fuel latex o multi thresh fs = .crash c) :
    runT2T T fuel latex o multi fs = .crash c ∨
    c = "utils.py:get_txt_pos_ml" ∧ ∃ toks st, runT2T T fuel latex o multi fs = .ok (toks, st) ∧
      getTxtPosML toks o.lang thresh (st.rots.map (fun r => (r.code, r.chg))) = none := by
  rw [tex2txt_eq_run] at h
  rcases hr : runT2T T fuel latex o multi fs with ⟨toks, st⟩ | m | c' | _ <;> rw [hr] at h
  · refine Or.inr ?_
    simp only [finishT2T] at h
    split at h
    · cases h
    · split at h
      · rename_i hml
        cases h
        exact ⟨rfl, toks, st, rfl, hml⟩
      · cases h
  · cases h
  · cases h; exact Or.inl rfl
  · cases h

/-- a result of `tex2txt` carries the tokens of the run and the lists of its final state -/
theorem tex2txt_ok {latex : Str} {o : Options} {multi : Bool} {thresh : Nat} {fs : FS} {r : T2TResult}
    (h : tex2txt T fuel latex o multi thresh fs = .ok r) :
    ∃ st, runT2T T fuel latex o multi fs = .ok (r.toks, st) ∧ r.unknowns = st.unknowns ∧
      r.diags = st.diags ∧ r.foreign = st.foreign := by
  rw [tex2txt_eq_run] at h
  rcases hr : runT2T T fuel latex o multi fs with ⟨toks, st⟩ | m | c' | _ <;> rw [hr] at h
  · simp only [finishT2T] at h
    split at h
    · cases h; exact ⟨st, rfl, rfl, rfl, rfl⟩
    · split at h
      · cases h
      · cases h; exact ⟨st, rfl, rfl, rfl, rfl⟩
  · cases h
  · cases h
  · cases h

/-- crash sites of `tex2txt` from crash sites of the run, for a predicate that admits the splitter's site -/
theorem tex2txt_crash_of_run {latex : Str} {o : Options} {multi : Bool} {thresh : Nat} {fs : FS} {c : String}
    (hml : C "utils.py:get_txt_pos_ml") (hrun : PostC C (runT2T T fuel latex o multi fs) (fun _ _ => True))
    (h : tex2txt T fuel latex o multi thresh fs = .crash c) : C c := by
  rcases tex2txt_crash h with hr | ⟨rfl, _⟩
  · rw [hr] at hrun; exact hrun
  · exact hml

end Yalafi
