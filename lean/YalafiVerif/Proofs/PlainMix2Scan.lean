/-
  Proofs/PlainMix2Scan.lean — the scanner on the ENLARGED union grammar: ONE lemma `scanAll_mix2`
  (`scanAll_okSrc` over `OkSrc`), which yields the common invariant `ScanFacts` ("the token
  buffer is `flat ps`, `PiecesOk ps`, its output tokens spell the marks of the source and are
  `Simple`, its flows spell `flows`"); `ScanFacts.cons`: a piece in front of a scanned rest.  The seven
  kinds of the first union grammar are treated with the runs of Proofs/PlainMixSrc.lean; `scans_call`:
  `\name{key}` with a declared name (`{text}`: `PlainFootnote.scans_braced`).  Header with the
  end-to-end statement and all side conditions: Proofs/PlainMix2E2E.lean.
-/
import YalafiVerif.Proofs.PlainMix2Src
namespace Yalafi
namespace PlainMix2

open M
open PlainMacro
open PlainMix (firstTokTxtU droppable dropComToks dropComToks_cons dropComToks_com commentLen_rest ReplOk
  replOk_rotN simple_formulaOut firstTokTxtU_dollar spcFacts comFacts cwUFacts
  verbFacts firstTokTxtU_verb firstTokTxtU_cw firstTokTxtU_spc firstTokTxtU_com firstTokTxtU_of_text firstK_text
  chrs_fn scans_cwU
  firstK_head firstK_cw marksOf_expTok_special simple_expTok_special marksOf_expTokV simple_expTokV
  marksOf_vanOut simple_vanOut marksOf_mathOut replOk_rotL_head)
open PlainFootnote (lastTokOff flowOut CopyTok flowToks)

theorem flat_dropComs (T : PTables) (st : PState) : ∀ ps : List Piece, PiecesOk T st ps →
    flat (dropComs ps) = dropComToks (flat ps)
  | [], _ => rfl
  | .com t :: rest, h => by
    simp only [dropComs, flat, Piece.toks, List.singleton_append]
    rw [dropComToks_com _ _ h.1.kind]
    exact flat_dropComs T st rest h.2
  | .tok t :: rest, h => by
    simp only [dropComs, flat, Piece.toks, List.singleton_append]
    rw [dropComToks_cons _ _ h.1.notComment]
  | .spc t :: rest, h => by
    simp only [dropComs, flat, Piece.toks, List.singleton_append]
    rw [dropComToks_cons _ _ (by rw [h.1.1]; simp)]
  | .br t :: rest, h => by
    simp only [dropComs, flat, Piece.toks, List.singleton_append]
    rw [dropComToks_cons _ _ (by rw [h.1.kind]; simp)]
  | .cw p name sk :: rest, h => by
    simp only [dropComs, flat, Piece.toks, List.cons_append]
    rw [dropComToks_cons _ _ (by simp [cwTok])]
  | .van p q1 q2 name key repl :: rest, h => by
    simp only [dropComs, flat, Piece.toks, List.cons_append]
    rw [dropComToks_cons _ _ (by simp [cwTok])]
  | .verb t :: rest, h => by
    simp only [dropComs, flat, Piece.toks, List.singleton_append]
    rw [dropComToks_cons _ _ (by rw [h.1]; simp)]
  | .math d1 b d2 :: rest, h => by
    simp only [dropComs, flat, Piece.toks, List.cons_append]
    rw [dropComToks_cons _ _ h.1.notComment]
  | .ref p q1 q2 name key repl :: rest, h => by
    simp only [dropComs, flat, Piece.toks, List.cons_append]
    rw [dropComToks_cons _ _ (by simp [cwTok])]
  | .cite p q1 q2 name key :: rest, h => by
    simp only [dropComs, flat, Piece.toks, List.cons_append]
    rw [dropComToks_cons _ _ (by simp [cwTok])]
  | .citeN p b1 b2 q1 q2 name note key :: rest, h => by
    simp only [dropComs, flat, Piece.toks, List.cons_append]
    rw [dropComToks_cons _ _ (by simp [cwTok])]
  | .foot fn lb b rb :: rest, h => by
    simp only [dropComs, flat, Piece.toks, List.cons_append]
    rw [dropComToks_cons _ _ (by rw [h.1.kind]; simp)]
  | .head hd lb b rb :: rest, h => by
    simp only [dropComs, flat, Piece.toks, List.cons_append]
    rw [dropComToks_cons _ _ (by rw [h.1.kind]; simp)]

/-! ### the characters of a flow -/

theorem charsOf_eq_zip (ts : List Tok) : charsOf ts = (getTxtPos ts).1.zip (getTxtPos ts).2 := by
  rw [getTxtPos_charsOf]
  exact (zip_fst_snd (charsOf ts)).symm

/-- what `parse` appends for the body tokens `b` of a footnote whose body text `body` starts at `p` -/
theorem charsOf_flowToks (b : List Tok) (h l : Tok) (body : Str) (p : Nat)
    (hh : b.head? = some h) (hl : b.getLast? = some l)
    (hb : getTxtPos b = (body, List.range' p body.length))
    (hhp : h.pos = p) (hlp : l.pos = p + lastTokOff body) :
    charsOf (flowToks b) = flowOut p body := by
  rw [charsOf_eq_zip, PlainFootnote.getTxtPos_flowToks b h l body p hh hl hb, hhp, hlp]
  simp only [flowOut]
  rw [List.zip_append (by simp), List.zip_append (by simp), zip_range'_posText]
  rfl

/-! ### the scanner loop -/

structure ScanFacts (T : PTables) (st : PState) (rest : Str) (ms : List Str → List Mark)
    (nms : List Str) (nf : Nat) (fl : List (Char × Nat)) (steps : List ScanStep) : Prop where
  ok : ∀ s ∈ steps, s.diag = none ∧ s.extra = []
  pieces : ∃ ps, steps.map (·.tok) = flat ps ∧ PiecesOk T st ps ∧
    (∀ l, marksOf (outP T l ps) = ms l) ∧
    (∀ l, (∀ r ∈ l, ReplOk r) → ∀ t ∈ outP T l ps, Simple t) ∧
    cost ps ≤ rest.length ∧ names ps = nms ∧ nMath ps = nf ∧
    charsOf ((flowsOf ps).map flowToks).flatten = fl
  first : ∀ s ss, steps = s :: ss → s.tok.txt = firstTokTxtU T.toTables rest
  firstK : ∀ t ts, dropComToks (steps.map (·.tok)) = t :: ts → droppable t = true →
    ∃ c cs, rest = c :: cs ∧ isSpace c = true ∧ countNl (rest.takeWhile isSpace) < 2

theorem ScanFacts_nil (T : PTables) (st : PState) : ScanFacts T st [] (fun _ => []) [] 0 [] [] :=
  ⟨by simp, ⟨[], rfl, trivial, fun _ => rfl, by simp [outP], by simp [cost], rfl, rfl, rfl⟩, by simp,
    by simp [dropComToks]⟩

/-- a piece in front of a scanned rest: `ss` are the steps of the scanner through the tokens of the
    piece `pc`, which holds `k` formulas and emits `h l` when `l` is the stored collection -/
theorem ScanFacts.cons {T : PTables} {st : PState} {W R : Str} {ss rs : List ScanStep}
    {ms' ms : List Str → List Mark} {nms' nms : List Str} {nf' : Nat} {fl' fl : List (Char × Nat)}
    (pc : Piece) (h : List Str → List Tok) (k : Nat) {t0 : Tok} {ts0 : List Tok}
    (hclean : ∀ s ∈ ss, s.diag = none ∧ s.extra = []) (I : ScanFacts T st R ms' nms' nf' fl' rs)
    (htoks : ss.map (·.tok) = pc.toks) (hhd : pc.toks = t0 :: ts0)
    (hpc : ∀ ps, rs.map (·.tok) = flat ps → PiecesOk T st ps → PiecesOk T st (pc :: ps))
    (hout : ∀ l ps, outP T l (pc :: ps) = h l ++ outP T (PlainMath.rotN k l) ps)
    (hm : ∀ l, marksOf (h l) ++ ms' (PlainMath.rotN k l) = ms l)
    (hs : ∀ l, (∀ r ∈ l, ReplOk r) → ∀ t ∈ h l, Simple t)
    (hcost : ∀ ps, cost (pc :: ps) + R.length ≤ cost ps + W.length)
    (hnames : ∀ ps, names ps = nms' → names (pc :: ps) = nms)
    (hnf : ∀ ps, nMath (pc :: ps) = nMath ps + k)
    (hfl : ∀ ps, charsOf ((flowsOf ps).map flowToks).flatten = fl' →
      charsOf ((flowsOf (pc :: ps)).map flowToks).flatten = fl)
    (hfirst : t0.txt = firstTokTxtU T.toTables W)
    (hK : ∀ t ts, dropComToks ((ss ++ rs).map (·.tok)) = t :: ts → droppable t = true →
      ∃ c cs, W = c :: cs ∧ isSpace c = true ∧ countNl (W.takeWhile isSpace) < 2) :
    ScanFacts T st W ms nms (nf' + k) fl (ss ++ rs) := by
  obtain ⟨ps, hflat, hpok, hmarks, hsimple, hc, hn, hf, hfl'⟩ := I.pieces
  refine ⟨List.forall_mem_append.mpr ⟨hclean, I.ok⟩,
    ⟨pc :: ps, ?_, hpc ps hflat hpok, ?_, ?_, ?_, hnames ps hn, by rw [hnf, hf], hfl ps hfl'⟩, ?_, hK⟩
  · rw [List.map_append, htoks, hflat]; rfl
  · intro l
    rw [hout, marksOf_append, hmarks, hm]
  · intro l hl
    rw [hout]; exact List.forall_mem_append.mpr ⟨hs l hl, hsimple _ (replOk_rotN k hl)⟩
  · have := hcost ps; omega
  · intro s ss' he
    rw [headTok_of_append htoks hhd he]; exact hfirst

/-- the first token that is no comment behind a control word (and the white space `sp` behind it)
    is not dropped by `skip_space` -/
theorem head_not_droppable {T : PTables} {st : PState} {R : Str} {ms : List Str → List Mark}
    {nms : List Str} {nf : Nat} {fl : List (Char × Nat)}
    {steps : List ScanStep} (I : ScanFacts T st R ms nms nf fl steps) {ps : List Piece}
    (hflat : steps.map (·.tok) = flat ps) (hpok : PiecesOk T st ps)
    (hR : ∀ d ds, R = d :: ds → isSpace d = true → 2 ≤ countNl (R.takeWhile isSpace)) :
    ∀ t ts, flat (dropComs ps) = t :: ts → droppable t = false := by
  intro t ts hft
  cases hb : droppable t with
  | false => rfl
  | true =>
    exfalso
    rw [flat_dropComs T st ps hpok, ← hflat] at hft
    obtain ⟨d, ds, hRd, h1, h2⟩ := I.firstK t ts hft hb
    have := hR d ds hRd h1
    omega

theorem firstTokTxtU_brace (T : PTables) (c : Char) (R : Str) (hc : c = '{' ∨ c = '}')
    (h : braceAt T c R = true) : firstTokTxtU T.toTables (c :: R) = [c] := by
  have hm : matchSpecial T.toTables (c :: R) = some [c] := by simpa [braceAt] using h
  rcases hc with rfl | rfl <;>
    simp [firstTokTxtU, hm, show isSpace '{' = false by decide, show isSpace '}' = false by decide]

theorem marksOf_dotToks (T : PTables) (title : Str) (q : Nat) :
    marksOf (PlainHeading.dotToks T title (q + lastTokOff title)) = dotMarks T q title := by
  unfold PlainHeading.dotToks dotMarks
  split
  · rw [marksOf_cons, tokMarks_nonaction _ (by simp [isAction, PlainHeading.dotTok, mkTok]),
      tokChars_nofix _ rfl]
    simp [PlainHeading.dotTok, mkTok, posText, marksOf]
  · rfl

theorem scans_call (T : PTables) (src : Str) (pos : Nat) {st : PState} {name key R : Str}
    (C : CwFacts T st name ('{' :: (key ++ '}' :: R))) (F : PlainRef.BracedFacts T key R) :
    ∃ ks, PlainRef.KeyToks (ks.map (·.tok)) ∧ ks.length ≤ key.length ∧
      Scans T.toTables src pos ('\\' :: (name ++ '{' :: (key ++ '}' :: R)))
        ({ tok := cwTok pos name, len := name.length + 1 } :: { tok := lbr (pos + (name.length + 1)), len := 1 } ::
          (ks ++ [{ tok := rbr (pos + (name.length + 1) + 1 + key.length), len := 1 }]))
        (pos + PlainRef.callLen name key) R := by
  have r1 := scans_cw T src pos C
  obtain ⟨ks, B, hBl, r2⟩ := PlainVanish.scans_braced T src (pos + (name.length + 1)) F.b1 F.key F.b2
  exact ⟨ks, B, hBl, (r1.append r2).to (by simp only [PlainRef.callLen]; omega)⟩

theorem scanAll_mix2 (T : PTables) (st : PState) (src : Str) (pos : Nat) (rest : Str)
    (ms : List Str → List Mark) (nms : List Str) (nf : Nat) (fl : List (Char × Nat))
    (h : OkSrc T st pos rest ms nms nf fl) :
      ScanFacts T st rest ms nms nf fl (scanAll T.toTables src pos rest).1 := by
  refine scanAll_okSrc T st (firstTokTxtU T.toTables) src
    (fun W a ss => ScanFacts T st W a.1 a.2.1 a.2.2.1 a.2.2.2 ss) (fun _ _ h => h) (firstTokTxtU_of_text T.toTables)
    (Con.vis T st) (fun _ _ _ I => I.first) (by rintro _ rfl; exact ScanFacts_nil T st) ?_ ?_ pos rest
    (ms, nms, nf, fl) h
  · rintro pos c cs s rs ⟨ms', nms, nf, fl⟩ K I
    rw [chrs_fn]
    exact ScanFacts.cons (.tok s.tok) (fun _ => [s.tok]) 0 K.run.clean I rfl rfl
      (fun ps hflat hpok => ⟨K.step.tok, hflat ▸ K.pass, hpok⟩) (fun _ _ => rfl) (fun l => by rw [K.marks]; rfl)
      (fun _ _ => K.simple) (fun ps => by have := K.len; simp only [cost, List.length_cons] at this ⊢; omega)
      (fun _ h => h) (fun _ => rfl) (fun _ h => h) K.first (firstK_text K)
  intro pos _ _ _ R _ hc
  cases hc with
  | spc c tl _ ms' nms nf fl hd =>
    have S := spcFacts hd
    have r := Scans.special T.toTables src pos S.nsp S.npc S.nha S.ms (List.drop_left' rfl)
    refine ⟨_, by simp, r, fun rs _ I => ?_⟩
    refine ScanFacts.cons (.spc { kind := .special, pos := pos, txt := c :: tl })
      (fun _ => expTok T.toTables { kind := .special, pos := pos, txt := c :: tl }) 0 r.clean I rfl rfl
      (fun ps _ hpok => ⟨⟨rfl, S.key⟩, hpok⟩) (fun _ _ => rfl)
      (fun l => by rw [marksOf_expTok_special]; rfl) (fun _ _ => simple_expTok_special _ _ _ S.val) ?_
      (fun _ h => h) (fun _ => rfl) (fun _ h => h) (firstTokTxtU_spc S).symm
      (firstK_head (by simp) (by simp [droppable, isSpaceTok]))
    intro ps
    simp only [cost, List.length_cons, List.length_append]
    omega
  | cw name sp _ ms' nms' nf fl hd =>
    have C := cwUFacts hd
    have hname := List.length_pos_iff.mpr C.cw.ne
    obtain ⟨sk, hsk, r⟩ := scans_cwU T st src pos C
    refine ⟨_, by simp, r, fun rs _ I => ?_⟩
    refine ScanFacts.cons (.cw pos name (sk.map (·.tok))) (fun _ => [mkAction pos]) 0 r.clean I rfl rfl
      (fun ps hflat hpok => ⟨cwTokOk_cwTok C.cw pos, ?_,
        head_not_droppable I hflat hpok (fun d ds e h => (C.head d ds e h).2), hpok⟩) (fun _ _ => rfl)
      (fun l => rfl) (fun _ _ t ht => List.mem_singleton.mp ht ▸ simple_mkAction pos) ?_
      (fun _ h => congrArg _ h) (fun _ => rfl) (fun _ h => h)
      (firstTokTxtU_cw T.toTables name (sp ++ R) C.cw.tw C.cw.special C.cw.nVerb).symm
      (firstK_cw rfl)
    · intro t ht
      obtain ⟨s, hs, rfl⟩ := List.mem_map.mp ht
      exact hsk s hs
    · intro ps
      simp only [cost, List.length_cons, List.length_append]
      omega
  | van name key _ ms' nms nf fl hd =>
    have V := PlainVanish.vanFacts hd
    have hname := List.length_pos_iff.mpr V.cw.ne
    obtain ⟨ks, B, _, r⟩ := PlainVanish.scans_van T src pos V
    obtain ⟨hvoid, hvlen⟩ := V.vn.repl
    refine ⟨_, by simp, r, fun rs _ I => ?_⟩
    refine ScanFacts.cons
      (.van pos (pos + (name.length + 1)) (pos + (name.length + 1) + 1 + key.length) name (ks.map (·.tok))
        (PlainVanish.replOf st name))
      (fun _ => mkAction pos :: (PlainVanish.replOf st name).map (restamp pos)) 0 r.clean I
      (by simp [Piece.toks, lbr, rbr]) rfl (fun ps _ hpok => ⟨V.vn, rfl, B, hpok⟩) (fun _ _ => rfl)
      (fun l => by rw [marksOf_vanOut _ _ hvoid]; rfl) (fun _ _ => simple_vanOut pos _ hvoid) ?_
      (fun _ h => h) (fun _ => rfl) (fun _ h => h)
      (firstTokTxtU_cw T.toTables name _ V.cw.tw V.cw.special V.cw.nVerb).symm
      (firstK_cw rfl)
    intro ps
    simp only [cost, List.length_cons, List.length_append]
    omega
  | com body _ ms nms nf fl hd =>
    have C := comFacts hd
    have r := Comment.scans_comment T src pos C.len
    refine ⟨_, by simp, r, fun rs _ I => ?_⟩
    refine ScanFacts.cons (.com { kind := .comment, pos := pos, txt := '%' :: body }) (fun _ => []) 0 r.clean I
      rfl rfl (fun ps _ hpok => ⟨⟨rfl, ⟨body, rfl⟩, C.nskip, C.nact⟩, hpok⟩) (fun _ _ => rfl) (fun _ => rfl)
      (fun _ _ _ ht => nomatch ht) ?_ (fun _ h => h) (fun _ => rfl) (fun _ h => h) (firstTokTxtU_com C).symm ?_
    · intro ps
      simp only [cost, List.length_cons, List.length_append]
      omega
    · -- behind the comment the next token decides, and the comment has left no droppable white space
      intro t ts he hdr
      rw [List.cons_append, List.map_cons, dropComToks_com _ _ rfl] at he
      obtain ⟨d, ds, hRd, h1, h2⟩ := I.firstK t ts he hdr
      have := commentLen_rest body R C.len d ds hRd h1
      omega
  | verb d s _ ms' nms nf fl hd =>
    have V := verbFacts hd
    have r := scans_verb T.toTables src pos d s R V.nmc V.nnl V.body V.ms
    refine ⟨_, by simp, r, fun rs _ I => ?_⟩
    refine ScanFacts.cons (.verb { kind := .verb false, pos := pos + 6, txt := s })
      (fun _ => expTokV { kind := .verb false, pos := pos + 6, txt := s }) 0 r.clean I rfl rfl
      (fun ps _ hpok => ⟨rfl, hpok⟩) (fun _ _ => rfl) (fun l => by rw [marksOf_expTokV]; rfl)
      (fun _ _ => simple_expTokV _ _ V.noNl) ?_ (fun _ h => h) (fun _ => rfl) (fun _ h => h)
      (firstTokTxtU_verb T d s R V).symm (firstK_head (by simp) (by simp [droppable, isSpaceTok]))
    intro ps
    simp only [cost, List.length_cons, List.length_append]
    omega
  | math body _ ms' nms nf' fl hm =>
    simp only [PlainMath.mathOk, Bool.and_eq_true] at hm
    obtain ⟨⟨⟨hbne, hd1⟩, hbody⟩, hd2⟩ := hm
    obtain ⟨k1, k2, bs, hk1, hk2, B, r⟩ := PlainMath.scans_formula T src pos hd1 hbody hd2
    have hBl := B.len
    refine ⟨_, by simp, r, fun rs _ I => ?_⟩
    refine ScanFacts.cons
      (.math { kind := k1, pos := pos, txt := ['$'] } (bs.map (·.tok))
        { kind := k2, pos := pos + 1 + body.length, txt := ['$'] })
      (fun l => PlainMath.formulaOut T ((rotL l).headD []) pos
        (PlainMath.firstPos (PlainMath.mathToks (bs.map (·.tok))))
        (PlainMath.bodyTxt (PlainMath.mathToks (bs.map (·.tok))))) 1 r.clean I (by simp [Piece.toks]) rfl
      (fun ps _ hpok => ⟨⟨hk1, rfl⟩, B.ne hbne, ?_, ⟨hk2, rfl⟩, hpok⟩)
      (fun _ _ => by rw [outP]; rfl) -- `rfl` alone is slow to check here
      (fun l => by rw [marksOf_mathOut T _ pos B hbne]; rfl)
      (fun l hl => simple_formulaOut T _ _ _ _ (replOk_rotL_head hl)) ?_ (fun _ h => h) (fun _ => rfl)
      (fun _ h => h) (firstTokTxtU_dollar T _ hd1).symm
      (firstK_head (by rcases hk1 with rfl | rfl <;> simp)
        (by rcases hk1 with rfl | rfl <;> simp [droppable, isSpaceTok]))
    · intro t ht
      obtain ⟨x, hx, rfl⟩ := List.mem_map.mp ht
      exact (B.ok x hx).2.2
    · intro ps
      simp only [cost, List.length_cons, List.length_append, List.length_map]
      omega
  | br c _ ms' nms nf fl hc hd =>
    have r := Scans.step (R := R) (nextToken_brace T src pos c R hc hd) rfl
    refine ⟨_, by simp, r, fun rs _ I => ?_⟩
    refine ScanFacts.cons (.br { kind := .special, pos := pos, txt := [c] }) (fun _ => [mkAction pos]) 0 r.clean I
      rfl rfl (fun ps _ hpok => ⟨⟨rfl, by rcases hc with rfl | rfl <;> simp⟩, hpok⟩) (fun _ _ => rfl)
      (fun l => rfl) (fun _ _ t ht => List.mem_singleton.mp ht ▸ simple_mkAction pos) ?_
      (fun _ h => h) (fun _ => rfl) (fun _ h => h) (firstTokTxtU_brace T c R hc hd).symm
      (firstK_head (by simp) (by simp [droppable, isSpaceTok]))
    intro ps
    simp only [cost, List.length_cons]
    omega
  | ref name key _ ms' nms nf fl hd =>
    have V := PlainRef.refFacts hd
    have hname := List.length_pos_iff.mpr V.cw.ne
    obtain ⟨ks, B, hBl, r⟩ := scans_call T src pos V.cw V.br
    obtain ⟨hph, hrne, hrlen⟩ := V.rn.repl
    refine ⟨_, by simp, r, fun rs _ I => ?_⟩
    refine ScanFacts.cons
      (.ref pos (pos + (name.length + 1)) (pos + (name.length + 1) + 1 + key.length) name (ks.map (·.tok))
        (PlainRef.replOf st name))
      (fun _ => mkAction pos :: (PlainRef.replOf st name).map (restamp pos)) 0 r.clean I
      (by simp [Piece.toks]) rfl (fun ps _ hpok => ⟨V.rn, rfl, B, hpok⟩) (fun _ _ => rfl) ?_ ?_ ?_
      (fun _ h => h) (fun _ => rfl) (fun _ h => h)
      (firstTokTxtU_cw T.toTables name _ V.cw.tw V.cw.special V.cw.nVerb).symm
      (firstK_cw rfl)
    · intro l
      rw [marksOf_cons, tokMarks_mkAction, marksOf_restamp _ _ (fun t ht => (hph t ht).plain)]
      rfl
    · intro l _ x hx
      rcases List.mem_cons.mp hx with rfl | hx
      · exact simple_mkAction pos
      · obtain ⟨u, hu, rfl⟩ := List.mem_map.mp hx
        exact PlainRef.simple_restamp pos (hph u hu)
    · intro ps
      simp only [cost, List.length_cons, List.length_append]
      omega
  | cite name key _ ms' nms nf fl hd hS =>
    have V := PlainRef.citeFacts hd
    have hname := List.length_pos_iff.mpr V.cw.ne
    obtain ⟨ks, B, hBl, r⟩ := scans_call T src pos V.cw V.br
    refine ⟨_, by simp, r, fun rs _ I => ?_⟩
    refine ScanFacts.cons
      (.cite pos (pos + (name.length + 1)) (pos + (name.length + 1) + 1 + key.length) name (ks.map (·.tok)))
      (fun _ => mkAction pos :: PlainRef.citeToks pos) 0 r.clean I (by simp [Piece.toks]) rfl
      (fun ps _ hpok => ⟨V.cn, B, PlainRef.stateFacts hS, hpok⟩) (fun _ _ => rfl) ?_ ?_ ?_
      (fun _ h => h) (fun _ => rfl) (fun _ h => h)
      (firstTokTxtU_cw T.toTables name _ V.cw.tw V.cw.special V.cw.nVerb).symm
      (firstK_cw rfl)
    · intro l
      rw [marksOf_cons, tokMarks_mkAction, PlainRef.marksOf_citeToks]
      simp [PlainMath.rotN]
    · intro l _ x hx
      simp only [PlainRef.citeToks, List.mem_cons, List.not_mem_nil, or_false] at hx
      rcases hx with rfl | rfl | rfl
      · exact simple_mkAction pos
      · exact PlainRef.simple_vis _ rfl (by simp [mkFix]; decide)
      · exact simple_mkAction pos
    · intro ps
      simp only [cost, List.length_cons, List.length_append]
      omega
  | citeN name note key _ ms' nms nf fl hd hS =>
    have V := PlainRef.citeNFacts hd
    have hname := List.length_pos_iff.mpr V.cw.ne
    have r1 := scans_cw T src pos V.cw
    obtain ⟨ns, N, r2⟩ := PlainRef.scans_note T st src (pos + (name.length + 1)) V.lb V.txt V.rb
    obtain ⟨ks, B, hBl, r3⟩ := PlainVanish.scans_braced T src (pos + (name.length + 1) + (note.length + 2))
      V.br.b1 V.br.key V.br.b2
    have r := ((r1.append r2).append r3).to (q := pos + PlainRef.callNLen name note key)
      (by simp only [PlainRef.callNLen]; omega)
    have hNl := N.len
    obtain ⟨hnne, hnote, hlast⟩ := PlainRef.note_toks N V.ne V.nrb
    refine ⟨_, by simp, r, fun rs _ I => ?_⟩
    refine ScanFacts.cons
      (.citeN pos (pos + (name.length + 1)) (pos + (name.length + 1) + 1 + note.length)
        (pos + (name.length + 1) + (note.length + 2))
        (pos + (name.length + 1) + (note.length + 2) + 1 + key.length) name
        (ns.map (·.tok)) (ks.map fun x : ScanStep => x.tok))
      (fun _ => mkAction pos :: PlainRef.citeNToks pos (ns.map (·.tok))) 0 r.clean I (by simp [Piece.toks]) rfl
      (fun ps _ hpok => ⟨V.cn, hnne, hnote, B, PlainRef.stateFacts hS, hpok⟩) (fun _ _ => rfl) ?_ ?_ ?_
      (fun _ h => h) (fun _ => rfl) (fun _ h => h)
      (firstTokTxtU_cw T.toTables name _ V.cw.tw V.cw.special V.cw.nVerb).symm
      (firstK_cw rfl)
    · intro l
      rw [marksOf_cons, tokMarks_mkAction,
        PlainRef.marksOf_citeNToks pos _ _ note _ (PlainRef.marksOf_textrun N) hlast]
      have e : pos + (name.length + 1) + 1 = pos + name.length + 2 := by omega
      simp [e, PlainMath.rotN]
    · intro l _ x hx
      simp only [PlainRef.citeNToks, List.mem_cons, List.mem_append, List.not_mem_nil, or_false] at hx
      rcases hx with rfl | rfl | rfl | hx | rfl | rfl
      · exact simple_mkAction pos
      · exact PlainRef.simple_vis _ rfl (by simp [mkFix]; decide)
      · exact ⟨fun ha => by simp [isAction, mkFix] at ha, rfl, fun _ => by simp [mkFix]; decide⟩
      · exact PlainRef.simple_of_copy (hnote x hx).1
      · exact PlainRef.simple_vis _ rfl (by simp [mkTok]; decide)
      · exact simple_mkAction _
    · intro ps
      simp only [cost, List.length_cons, List.length_append, List.length_map]
      omega
  | foot body _ ms' nms nf fl' hd hS =>
    have F := PlainFootnote.footFacts hd
    have hn1 : nextToken T.toTables src pos
        ('\\' :: 'f' :: 'o' :: 'o' :: 't' :: 'n' :: 'o' :: 't' :: 'e' :: '{' :: (body ++ '}' :: R))
        = { tok := { kind := .xmacro, pos := pos, txt := PlainFootnote.sFootnote }, len := 9 } :=
      PlainFootnote.nextToken_footnote T.toTables src pos (body ++ '}' :: R) F.special F.nAccent
    obtain ⟨lt, rt, bs, hlt, hrt, B, r2⟩ := PlainFootnote.scans_braced T st src (pos + 9) F.lb F.text F.rb
    have r := ((Scans.step hn1 rfl).append r2).to (q := pos + (body.length + 11)) (by omega)
    have hBl := B.len
    have hbne : bs.map (·.tok) ≠ [] := fun e => F.ne (B.nil_iff (by simpa using e))
    obtain ⟨h, hs, hx⟩ := List.exists_cons_of_ne_nil hbne
    have hl := List.getLast?_eq_some_getLast hbne
    refine ⟨_, by simp, r, fun rs _ I => ?_⟩
    refine ScanFacts.cons
      (.foot { kind := .xmacro, pos := pos, txt := PlainFootnote.sFootnote }
        lt (bs.map (·.tok)) rt)
      (fun _ => [mkAction pos]) 0 r.clean I (by simp [Piece.toks]) rfl
      (fun ps _ hpok => ⟨⟨rfl, rfl⟩, hlt, hrt, hbne, B.copy,
        PlainFootnote.flowSafe_of_lines _ body (fun t ht => (B.copy t ht).txt_ne) B.lines F.lines,
        PlainFootnote.stateFacts hS, hpok⟩) (fun _ _ => rfl) (fun l => rfl)
      (fun _ _ t ht => List.mem_singleton.mp ht ▸ simple_mkAction pos) ?_ (fun _ h => h) (fun _ => rfl) ?_ ?_
      (firstK_head (by simp) (by simp [droppable, isSpaceTok]))
    · intro ps
      simp only [cost, List.length_cons, List.length_append, List.length_map]
      omega
    · intro ps hfl
      simp only [flowsOf, List.map_cons, List.flatten_cons]
      rw [charsOf_append, hfl, charsOf_flowToks _ h _ body (pos + 9 + 1) (by rw [hx]; rfl) hl B.txt
        (B.first h hs hx) (B.last _ hl)]
    · have htw : (['f', 'o', 'o', 't', 'n', 'o', 't', 'e'] ++ '{' :: (body ++ '}' :: R)).takeWhile
          macroChar = ['f', 'o', 'o', 't', 'n', 'o', 't', 'e'] :=
        takeWhile_stop _ _ _ (List.all_eq_true.mp (by decide))
          (by simp only [List.head?_cons, Option.all_some]; decide)
      exact (firstTokTxtU_cw T.toTables ['f', 'o', 'o', 't', 'n', 'o', 't', 'e'] _ htw F.special
        (by decide)).symm
  | head name title _ ms' nms nf fl hd hS =>
    have F := PlainHeading.headFacts hd
    have S := PlainHeading.stateFacts hS
    have hname := List.length_pos_iff.mpr F.ne
    have r1 := Scans.step (R := '{' :: (title ++ '}' :: R))
      (PlainHeading.nextToken_name T st src pos name title R F) (by simp)
    obtain ⟨lt, rt, bs, hlt, hrt, B, r2⟩ := PlainFootnote.scans_braced T st src (pos + (name.length + 1))
      F.lb F.text F.rb
    have r := (r1.append r2).to (q := pos + (name.length + title.length + 3)) (by omega)
    have hBl := B.len
    have hne : title ≠ [] := by
      intro e
      have := F.vis
      rw [e] at this
      simp [isBlank] at this
    have hbne : bs.map (·.tok) ≠ [] := fun e => hne (B.nil_iff (by simpa using e))
    have hl := List.getLast?_eq_some_getLast hbne
    have hq : pos + (name.length + 1) + 1 = pos + name.length + 2 := by omega
    have hlp : PlainHeading.lastPos (bs.map (·.tok)) = pos + name.length + 2 + lastTokOff title := by
      simp only [PlainHeading.lastPos, hl, Option.map_some, Option.getD_some]
      rw [← hq]
      exact B.last _ hl
    have htxt : (getTxtPos (bs.map (·.tok))).1 = title := by rw [B.txt]
    refine ⟨_, by simp, r, fun rs _ I => ?_⟩
    refine ScanFacts.cons
      (.head (cwTok pos name) lt (bs.map (·.tok)) rt)
      (fun _ => PlainHeading.headOut T (cwTok pos name) (bs.map (·.tok))) 0 r.clean I (by simp [Piece.toks]) rfl
      (fun ps _ hpok => ⟨PlainHeading.hdTok_cwTok F pos, hlt, hrt, hbne, B.copy, S, hpok⟩)
      (fun _ _ => rfl) ?_ ?_ ?_ (fun _ h => h) (fun _ => rfl) (fun _ h => h)
      (firstTokTxtU_cw T.toTables name _ (takeWhile_stop _ _ _ (List.all_eq_true.mp F.all) rfl) F.special F.nVerb).symm
      (firstK_cw rfl)
    · intro l'
      simp only [PlainHeading.headOut]
      rw [marksOf_cons, tokMarks_mkAction, marksOf_append,
        PlainRef.marksOf_textrun B, htxt, hlp, marksOf_dotToks, hq]
      simp [PlainMath.rotN]
    · intro l' _
      exact List.forall_mem_cons.mpr ⟨simple_mkAction _,
        List.forall_mem_append.mpr ⟨fun x hx => PlainRef.simple_of_copy (B.copy x hx),
          fun x hx => PlainRef.simple_of_copy (PlainHeading.copyTok_dotToks S _ _ x hx)⟩⟩
    · intro ps
      simp only [cost, List.length_cons, List.length_append, List.length_map]
      omega

end PlainMix2
end Yalafi
