/-
  Proofs/PlainMix4Loop.lean — the ONE loop lemma `seqRun_mix4` of the fourth union grammar: induction over
  the (number of) pieces; a case takes the run of the single-construct file through the piece
  and hands it to `run_next` (the induction hypothesis on the rest
  of the buffer, with the output of the piece appended).  The static conditions `PiecesOk T st1 ps` are
  transferred to the current state with `PlainMacroArgs.StOk` (the state extends `st1`: `Ext`, by the
  component lemmas `X.ext` of the construct files) and `Live` (undeclared names are not user-defined at that point; an `\item` finds
  its label on the current `itemStack`).  The loop runs at root level (`envStop = none`: `\end{name}` of a
  list must not stop it).  `PiecesOk.noCom`: no piece but a comment has a comment token (`NoCom`), so the
  skip pre-pass finds no begin marker (`PiecesOk.noBegin`).  Definitions: Proofs/PlainMix4.lean.
-/
import YalafiVerif.Proofs.PlainMix4
namespace Yalafi
namespace PlainMix4

open M
open PlainItem (itemSt)
open PlainMacro (lbr rbr NoBrace restamp ncName NcOk NameOk bodyTxt)
open PlainMix (MathSt)
open PlainFootnote (CopyTok FnTok BraceTok FlowSafe addFlow)
open PlainMacroArgs (Group groupsFlat groupsOut GroupGood userMacro defSt useSt useN useBody GoodBody
  DigitOk txtTok digitChar StOk)
open PlainMathRich (OpenTok CloseTok MItem mt mout fOut)
open PlainUnkn2 (mcost)
open PlainDefTex (defName paramToks)
open PlainItemL (labArg itemLOut punctOf pvOf pvAfter punctOk punctToks)


theorem mitem_ext {T : PTables} {st1 st : PState} (h : Ext st1 st) {t : Tok}
    (hm : MItem T st1 t) (hl : t.kind = .xmacro → lookupMacro st t.txt = none) : MItem T st t := by
  rcases hm with hb | hs | hc | hx
  · exact Or.inl hb
  · exact Or.inr (Or.inl hs)
  · exact Or.inr (Or.inr (Or.inl ⟨hc.kind, hc.nStop, by rw [h.mtm]; exact hc.nText, hl hc.kind,
      hc.nSpace, hc.nIgnore⟩))
  · exact Or.inr (Or.inr (Or.inr hx))

theorem useSt_rots (st : PState) (name : Str) : (useSt st name).rots = st.rots := by
  unfold PlainMacroArgs.useSt; split <;> rfl

theorem MathSt.congr {T : PTables} {st st' : PState} {rot : Rot} {ls : LangSettings}
    (hl : st'.langStack = st.langStack) (hr : st'.rots = st.rots) (h : MathSt T st rot ls) :
    MathSt T st' rot ls := by
  obtain ⟨h1, h2, h3⟩ := h
  refine ⟨?_, h2, ?_⟩
  · simpa [rotOf, curSettings, hl, hr] using h1
  · simpa [curSettings, hl] using h3


/-- the induction step of the loop behind the run `hstep` through the first piece: the loop goes on
    with the rest of the buffer, the output `h` of the piece appended, in the state `st2` behind the
    piece (`he`); the induction hypothesis `ih` does the rest -/
theorem run_next {T : PTables} {envStop : Option Str} {ls : LangSettings} {st1 : PState} {ps : List Piece}
    (ih : ∀ (out : List Tok) (st : PState) (rot : Rot),
      PiecesOk T st1 ps → Live T st ps → StOk T st1 st →
      RotOk T st rot ls (nMath ps) (nDisp ps) → PvOk T out st (rot.inl, rot.disp) ps →
      ∃ st', SeqRun T envStop 5 (cost st ps) (flat ps) out st [] (out ++ outP T st (rot.inl, rot.disp) ps) st' ∧
        st' = { finalSt st ps with rots := st'.rots })
    {pc : Piece} {buf : Buf} {out h : List Tok} {st st2 : PState} {rot rot2 : Rot} {d1 c1 : Nat}
    (hstep : SeqRun T envStop d1 c1 buf out st (flat ps) (out ++ h) st2)
    (hok : PiecesOk T st1 ps) (hlive : Live T st2 ps) (hst : StOk T st1 st2)
    (hm : RotOk T st2 rot2 ls (nMath ps) (nDisp ps)) (hpv : PvOk T out st (rot.inl, rot.disp) (pc :: ps))
    (he : ∀ pre, outP T st (rot.inl, rot.disp) (pc :: pre) = h ++ outP T st2 (rot2.inl, rot2.disp) pre)
    (hc : c1 + cost st2 ps ≤ cost st (pc :: ps) := by exact Nat.le_refl _)
    (hfin : ∀ X, { finalSt st2 ps with rots := X } = { finalSt st (pc :: ps) with rots := X } := by
      intro; rfl) (hd : d1 ≤ 5 := by decide) :
    ∃ st', SeqRun T envStop 5 (cost st (pc :: ps)) buf out st []
        (out ++ outP T st (rot.inl, rot.disp) (pc :: ps)) st' ∧
      st' = { finalSt st (pc :: ps) with rots := st'.rots } := by
  obtain ⟨st', h1, h2⟩ := ih (out ++ h) st2 rot2 hok hlive hst hm (hpv.tail he)
  refine ⟨st', ?_, h2.trans (hfin _)⟩
  rw [he]
  exact (hstep.app h1 (Nat.le_add_right_of_le hd)).mono (Nat.le_refl _) hc

/-- **the loop on the scan of a mixed document.**  The main output is `outP`; the state behind it is
    `finalSt` (up to the rotation records).  Depth 5: the final iteration, and four more (the handler
    of `\newcommand` nests six calls deep). -/
theorem seqRun_mix4 (T : PTables) (envStop : Option Str) (henvStop : envStop = none) (ls : LangSettings)
    (st1 : PState) (ha1 : noEmptyActive T st1 = true) :
    ∀ (n : Nat) (ps : List Piece), ps.length ≤ n →
      ∀ (out : List Tok) (st : PState) (rot : Rot),
      PiecesOk T st1 ps → Live T st ps → StOk T st1 st →
      RotOk T st rot ls (nMath ps) (nDisp ps) → PvOk T out st (rot.inl, rot.disp) ps →
      ∃ st', SeqRun T envStop 5 (cost st ps) (flat ps) out st [] (out ++ outP T st (rot.inl, rot.disp) ps) st' ∧
        st' = { finalSt st ps with rots := st'.rots } := by
  have hnil : ∀ (out : List Tok) (st : PState) (rot : Rot),
      ∃ st', SeqRun T envStop 5 (cost st []) (flat []) out st [] (out ++ outP T st (rot.inl, rot.disp) []) st' ∧
        st' = { finalSt st [] with rots := st'.rots } := fun out st rot =>
    ⟨st, by rw [outP, List.append_nil]; exact SeqRun.refl.mono (Nat.zero_le _) (Nat.zero_le _), rfl⟩
  intro n
  induction n with
  | zero =>
    intro ps hn out st rot _ _ _ _ _
    cases ps with
    | nil => exact hnil out st rot
    | cons => simp at hn
  | succ n ih0 =>
    intro ps hlenN out st rot hok hlive hst hm hpv
    cases ps with
    | nil => exact hnil out st rot
    | cons pc ps =>
    have hlen : ps.length ≤ n := by simpa using hlenN
    have ih := ih0 ps hlen
    have ha := hst.ext.noEmptyActive ha1
    cases pc with
    | tok t =>
      exact run_next ih (seqRun_plainTok hok.1 (hst.ext.passTok hok.2.1)) hok.2.2 hlive.2 hst hm
        hpv (fun _ => rfl)
    | spc t => exact run_next ih (seqRun_specialTok hok.1) hok.2 hlive.2 hst hm hpv (fun _ => rfl)
    | br t =>
      exact run_next ih (SeqRun.one fun _ => loop_brace (.inl hok.1.kind) hok.1.txt) hok.2 hlive.2 hst hm hpv
        (fun _ => rfl)
    | cw p name sk =>
      obtain ⟨hcw, hsk, hhead, hrest⟩ := hok
      obtain ⟨d1, d2, d3, d4, d5, d6, d7⟩ := dropComs_facts T st1 ps hrest
      obtain ⟨st', h1, h2⟩ := ih0 (dropComs ps) (Nat.le_trans (dropComs_length ps) hlen)
          (out ++ [mkAction p]) (nextSt st (.cw p name sk)) rot d1
          (d5 _ hlive.2) (hst.reads ⟨rfl, rfl⟩)
          (by rw [d4, nDisp_dropComs]; exact RotOk.congr (st := st) rfl rfl hm)
                (PvOk.dropComs ps _ (hpv.tail (fun _ => rfl)))
      rw [d2] at h1
      -- `skip_space` behind the control word also drops the comment pieces that follow
      have hstep := PlainMix.seqRun_cwU T p name sk (flat ps) (flat (dropComs ps)) envStop out st
        ⟨hcw.kind, hcw.nDef, hlive.1⟩ ha (fun x hx => (hsk x hx).1) d7 hhead
      exact ⟨st', hstep.app (h1.mono (Nat.le_refl _) (d6 _)) (Nat.zero_le _), by rw [d3] at h2; exact h2⟩
    | van p q1 q2 name key repl =>
      obtain ⟨hn, hr, hkey, hrest⟩ := hok
      obtain ⟨hn', hr'⟩ := hn.ext hst.ext
      subst hr
      have hstep := PlainVanish.seqRun_van_step T p q1 q2 name key (flat ps) envStop out st hn'
        (fun t ht => (hkey t ht).1) ha
      rw [hr'] at hstep
      simp only [flat, Piece.toks, List.cons_append, List.append_assoc, List.nil_append]
      exact run_next ih hstep hrest hlive.2 hst hm hpv (fun _ => rfl)
    | com t =>
      obtain ⟨st', h1, h2⟩ := ih out st rot hok.2 hlive.2 hst hm (hpv.tail2 (fun _ => rfl))
      exact ⟨st', (Comment.seqRun_comTok (hok.1.ext hst.ext)).trans h1 (Nat.zero_le _), h2⟩
    | verb t => exact run_next ih (seqRun_verbTok hok.1) hok.2 hlive.2 hst hm hpv (fun _ => rfl)
    | math d1 b d2 =>
      obtain ⟨hd1, hvis, hb, hd2, hrest⟩ := hok
      obtain ⟨hrot, hne, hls⟩ := hm.1 (by simp [nMath])
      have hrot2 := PlainMath.rotOf_setRot st (curSettings st) rot (rotL rot.inl) hrot
      have hsame : SameM st (setRot st { rot with inl := rotL rot.inl }) := ⟨rfl, rfl, rfl, rfl, rfl⟩
      simp only [flat, Piece.toks, List.cons_append, List.append_assoc, List.nil_append]
      exact run_next ih (PlainMathRich.seqRun_formula T envStop hd1 hd2 hvis
          (fun t ht => mitem_ext hst.ext (hb t ht) (hlive.1 t ht)) hrot hls
          (PlainMath.headD_of_ne_nil _ (rotL_ne_nil _ hne))) hrest (Live_congr T ps st _ hsame hlive.2)
        (hst.reads ⟨rfl, rfl⟩)
        ⟨fun _ => ⟨hrot2, rotL_ne_nil _ hne, hls⟩, fun h0 => ⟨hrot2, (hm.2 h0).2.1, hls⟩⟩ hpv
        (fun pre => by rw [outP_congr T pre st _ _ hsame]; rfl)
        (by rw [cost_congr ps st _ hsame]; exact Nat.le_refl _) (finalSt_rots ps st _)
    | ref p q1 q2 name key repl =>
      obtain ⟨hn, hr, hkey, hrest⟩ := hok
      obtain ⟨hn', hr'⟩ := hn.ext hst.ext
      subst hr
      have hstep := PlainRef.seqRun_refCall (envStop := envStop) (out := out) p q1 q2 (flat ps) hn'
        (fun t ht => (hkey t ht).1) ha
      rw [hr'] at hstep
      simp only [flat, Piece.toks, List.cons_append, List.append_assoc, List.nil_append]
      exact run_next ih hstep hrest hlive.2 hst hm hpv (fun _ => rfl)
    | cite p q1 q2 name key =>
      obtain ⟨hn, hkey, hS, hrest⟩ := hok
      simp only [flat, Piece.toks, List.cons_append, List.append_assoc, List.nil_append]
      exact run_next ih (PlainRef.seqRun_cite p q1 q2 (flat ps) (hn.ext hst.ext) (fun t ht => (hkey t ht).1)
        (hS.ext hst.ext)) hrest hlive.2 hst hm hpv (fun _ => rfl)
    | citeN p b1 b2 q1 q2 name note key =>
      obtain ⟨hn, hne, hnote, hkey, hS, hrest⟩ := hok
      simp only [flat, Piece.toks, List.cons_append, List.append_assoc, List.nil_append]
      exact run_next ih (PlainRef.seqRun_citeN p b1 b2 q1 q2 (flat ps) (hn.ext hst.ext)
        (fun t ht => ⟨(hnote t ht).1.ext hst.ext, (hnote t ht).2⟩) hne (fun t ht => (hkey t ht).1)
        (hS.ext hst.ext)) hrest hlive.2 hst hm hpv (fun _ => rfl)
    | foot fn lb b rb =>
      obtain ⟨hfn, hlb, hrb, hne, hb, hsafe, hS, hrest⟩ := hok
      simp only [flat, Piece.toks, List.cons_append, List.append_assoc, List.nil_append]
      exact run_next ih (st2 := nextSt st (.foot fn lb b rb))
        (PlainFootnote.seqRun_foot T fn lb rb b (flat ps) envStop out st hfn (hS.ext hst.ext) hlb hrb
          (fun t ht => (hb t ht).ext hst.ext) hne hsafe) hrest hlive.2
        (hst.reads ⟨rfl, rfl⟩) (RotOk.congr (st := st) rfl rfl hm) hpv (fun _ => rfl)
    | head hd lb b rb =>
      obtain ⟨hhd, hlb, hrb, hne, hb, hS, hrest⟩ := hok
      simp only [flat, Piece.toks, List.cons_append, List.append_assoc, List.nil_append]
      exact run_next ih (PlainHeading.seqRun_head T hd lb rb b (flat ps) envStop out st (hhd.ext hst.ext)
        (hS.ext hst.ext) hlb hrb (fun t ht => (hb t ht).ext hst.ext) hne) hrest hlive.2 hst hm hpv
        (fun _ => rfl)
    | acc p name sp bo q l =>
      obtain ⟨hn, hsp, hu, hrest⟩ := hok
      obtain ⟨u, hu'⟩ := Option.isSome_iff_exists.mp hu
      simp only [flat, Piece.toks, List.cons_append, List.append_assoc]
      exact run_next ih (PlainAccent.seqRun_acc T p name sp (PlainAccent.spaceKind_isSpaceTok hsp) bo q l (flat ps)
          envStop out u st hn hu') hrest hlive.2 hst hm hpv
        (fun _ => by simp only [outP, PlainAccent.accVal, hu', Option.getD_some, List.singleton_append])
    | defn p q1 q2 q3 q4 q5 q6 q7 q8 name n body =>
      obtain ⟨hnc, hn, hd, hb, hrest⟩ := hok
      simp only [flat, Piece.toks, List.cons_append, List.append_assoc, List.nil_append]
      exact run_next ih (st2 := nextSt st (.defn p q1 q2 q3 q4 q5 q6 q7 q8 name n body))
        (PlainMacroArgs.seqRun_def T p q1 q2 q3 q4 q5 q6 q7 q8 name n body (flat ps) envStop out st1 st hst
          hnc hn hd hb ha1) hrest
        hlive.2 (hst.defSt name n body hn hb) (RotOk.congr (st := st) rfl rfl hm) hpv (fun _ => rfl)
    | ddef p q2 q q7 q8 name n body =>
      obtain ⟨hn, hb, hrest⟩ := hok
      simp only [flat, Piece.toks, List.cons_append, List.append_assoc, List.nil_append]
      exact run_next ih (st2 := nextSt st (.ddef p q2 q q7 q8 name n body))
        (PlainDefTex.seqRun_ddef T p q2 q q7 q8 name n body (flat ps) envStop out st1 st hb) hrest hlive.2
        (hst.defSt name n body hn hb) (RotOk.congr (st := st) rfl rfl hm) hpv (fun _ => rfl)
    | ppar p sp =>
      obtain ⟨hp, hsp, hh, hrest⟩ := hok
      have hp' : PlainParEnv.ParOk st := by
        obtain ⟨m, h1, h2⟩ := hp
        exact ⟨m, hst.decl _ _ h1, h2⟩
      simp only [flat, Piece.toks, List.cons_append]
      exact run_next ih (PlainParEnv.seqRun_par T p sp (flat ps) envStop out st hp' ha hsp hh) hrest hlive.2
        hst hm hpv (fun _ => rfl)
    | pbeg p q1 q2 q3 q4 nt ag =>
      obtain ⟨hnt, hpe, hag, hrest⟩ := hok
      simp only [flat, Piece.toks, List.cons_append, List.append_assoc, List.nil_append]
      exact run_next ih (PlainParEnv.seqRun_pbeg T p q1 q2 q3 q4 nt ag (flat ps) envStop out st (d := 2)
          (c := 3 + nt.length) ha (hnt.ext hst.ext) (hpe.ext hst.ext) (fun t ht => (hag t ht).1) (by omega)
          (by omega))
        hrest hlive.2 hst hm hpv (fun _ => rfl)
    | pen p q1 q2 nt =>
      obtain ⟨hnt, hpe, hrest⟩ := hok
      subst henvStop
      simp only [flat, Piece.toks, List.cons_append, List.append_assoc, List.nil_append]
      exact run_next ih (PlainParEnv.seqRun_pend T p q1 q2 nt (flat ps) out st (d := 3) (c := 2 + nt.length)
          (hnt.ext hst.ext) (hpe.ext hst.ext) (by omega) (by omega))
        hrest hlive.2 hst hm hpv (fun _ => rfl)
    | call p q1 q2 name b =>
      obtain ⟨hfn, hne, hb, hsafe, hml, hrest⟩ := hok
      have hfn' : PlainFlows.FlowName st name := by
        obtain ⟨h0, m, h1, h2⟩ := hfn
        exact ⟨h0, m, hst.decl _ _ h1, h2⟩
      simp only [flat, Piece.toks, List.cons_append, List.append_assoc, List.nil_append]
      exact run_next ih (st2 := nextSt st (.call p q1 q2 name b))
        (PlainFlows.seqRun_call T p q1 q2 name b (flat ps) envStop out st hfn' ⟨hst.ext.multi.trans hml, ha⟩
          (fun t ht => (hb t ht).ext hst.ext) hne hsafe) hrest hlive.2
        (hst.reads ⟨rfl, rfl⟩) (RotOk.congr (st := st) rfl rfl hm) hpv (fun _ => rfl)
    | callO p b1 b2 q1 q2 name opt b =>
      obtain ⟨hfn, hopt, hne, hb, hsafe, hml, hrest⟩ := hok
      have hfn' : PlainFlows.FlowName st name := by
        obtain ⟨h0, m, h1, h2⟩ := hfn
        exact ⟨h0, m, hst.decl _ _ h1, h2⟩
      simp only [flat, Piece.toks, List.cons_append, List.append_assoc, List.nil_append]
      exact run_next ih (st2 := nextSt st (.callO p b1 b2 q1 q2 name opt b))
        (PlainFlows.seqRun_callO T p b1 b2 q1 q2 name opt b (flat ps) envStop out st hfn' ⟨hst.ext.multi.trans hml, ha⟩
          (PlainFlows.OptToks.ext hst.ext hopt) (fun t ht => (hb t ht).ext hst.ext) hne
          hsafe) hrest hlive.2
        (hst.reads ⟨rfl, rfl⟩) (RotOk.congr (st := st) rfl rfl hm) hpv (fun _ => rfl)
    | fen p q1 q2 nt =>
      obtain ⟨hn, he, hrest⟩ := hok
      subst henvStop
      simp only [flat, Piece.toks, List.cons_append, List.append_assoc, List.nil_append]
      exact run_next ih (PlainFlows.seqRun_fend T p q1 q2 nt (flat ps) out st (d := 3) (c := nt.length + 2) ha
          (hn.ext hst.ext) (he.ext hst.ext) (by omega) (by omega))
        hrest hlive.2 hst hm hpv (fun _ => rfl)
    | fbegN p q1 q2 b1 b2 nt note =>
      obtain ⟨hn, he, hnote, hrest⟩ := hok
      simp only [flat, Piece.toks, List.cons_append, List.append_assoc, List.nil_append]
      exact run_next ih (PlainFlows.seqRun_fbegN T p q1 q2 b1 b2 nt note (flat ps) envStop out st (d := 2)
          (c := nt.length + 3) ha (hn.ext hst.ext) (he.ext hst.ext)
          (PlainFlows.OptToks.ext hst.ext hnote) (by omega) (by omega))
        hrest hlive.2 hst hm hpv (fun _ => rfl)
    | fbeg p q1 q2 nt sp =>
      obtain ⟨hn, he, hsp, hh, hrest⟩ := hok
      simp only [flat, Piece.toks, List.cons_append, List.append_assoc]
      exact run_next ih (PlainFlows.seqRun_fbeg T p q1 q2 nt sp (flat ps) envStop out st (d := 2)
          (c := nt.length + 3) ha (hn.ext hst.ext) (he.ext hst.ext) hsp hh (by omega) (by omega))
        hrest hlive.2 hst hm hpv (fun _ => rfl)
    | use p name gs =>
      obtain ⟨hn, hne, hg, hrest⟩ := hok
      simp only [flat, Piece.toks, List.cons_append]
      exact run_next ih (st2 := nextSt st (.use p name gs))
        (PlainMacroArgs.seqRun_use T p name gs (flat ps) envStop out st1 st hst hn ha1 hne hg hlive.1)
        hrest hlive.2 (hst.useSt name)
        (RotOk.congr (st := st) (PlainMacroArgs.useSt_reads st name).ext.lang (useSt_rots st name) hm) hpv
        (fun _ => by simp only [outP, List.append_assoc, List.cons_append])
    | disp ops d1 b d2 =>
      obtain ⟨hops, hdef, hds1, hd1, hel, hb, hd2, hrest⟩ := hok
      obtain ⟨hrot, hne, hls⟩ := hm.2 (by simp [nDisp])
      obtain rfl : st.mathOperators = ops := hst.ext.ops.trans hops.symm
      have hrot2 := PlainDisplay.rotOf_setRot_disp st (curSettings st) rot (rotL rot.disp) hrot
      have hsame : SameM st (setRot st { rot with disp := rotL rot.disp }) := ⟨rfl, rfl, rfl, rfl, rfl⟩
      simp only [flat, Piece.toks, List.cons_append, List.append_assoc, List.nil_append]
      exact run_next ih (PlainDisplay.seqRun_open T envStop ls out st rot b (flat ps) hel hb hrot hne hls
          (hst.ext.ds.trans hds1) d1 d2 ((PlainDisplay.defEnvOk_ext hst.ext).trans hdef) hd1 hd2) hrest
        (Live_congr T ps st _ hsame hlive.2) (hst.reads ⟨rfl, rfl⟩)
        ⟨fun h0 => ⟨hrot2, (hm.1 h0).2.1, hls⟩, fun _ => ⟨hrot2, rotL_ne_nil _ hne, hls⟩⟩ hpv
        (fun pre => by rw [outP_congr T pre st _ _ hsame]; rfl)
        (by rw [cost_congr ps st _ hsame]; exact Nat.le_refl _) (finalSt_rots ps st _)
    | denv ops p q1 q2 nt b p' q1' q2' nt' =>
      obtain ⟨hops, hds1, hn1, hn2, hnn, hea, hx1, hx2, hel, hb, hrest⟩ := hok
      obtain ⟨hrot, hne, hls⟩ := hm.2 (by simp [nDisp])
      obtain rfl : st.mathOperators = ops := hst.ext.ops.trans hops.symm
      have hea' : PlainDisplay.equEnvAt st (bodyTxt nt) = true := by
        simpa [PlainDisplay.equEnvAt, lookupEnv, hst.ext.envs] using hea
      have hrot2 := PlainDisplay.rotOf_setRot_disp st (curSettings st) rot (rotL rot.disp) hrot
      have hsame : SameM st (setRot st { rot with disp := rotL rot.disp }) := ⟨rfl, rfl, rfl, rfl, rfl⟩
      simp only [flat, Piece.toks, List.cons_append, List.append_assoc, List.nil_append]
      exact run_next ih (PlainDisplay.seqRun_env T envStop ls out st rot b (flat ps) hel hb hrot hne hls
          (hst.ext.ds.trans hds1) p q1 q2 nt p' q1' q2' nt' ha (hn1.ext hst.ext) (hn2.ext hst.ext) hnn hea' hx1 hx2)
        hrest (Live_congr T ps st _ hsame hlive.2) (hst.reads ⟨rfl, rfl⟩)
        ⟨fun h0 => ⟨hrot2, (hm.1 h0).2.1, hls⟩, fun _ => ⟨hrot2, rotL_ne_nil _ hne, hls⟩⟩ hpv
        (fun pre => by rw [outP_congr T pre st _ _ hsame]; rfl)
        (by rw [cost_congr ps st _ hsame]; exact Nat.le_refl _) (finalSt_rots ps st _)
    | beg p q1 q2 nt =>
      obtain ⟨hnt, hle, hrest⟩ := hok
      have hle' : PlainItem.listEnvAt st (bodyTxt nt) = true := by
        simpa [PlainItem.listEnvAt, lookupEnv, hst.ext.envs] using hle
      obtain ⟨hl1, hl2, hl3⟩ := PlainItem.listEnvAt_facts hle'
      simp only [flat, Piece.toks, List.cons_append, List.append_assoc, List.nil_append]
      exact run_next ih (st2 := nextSt st (.beg p q1 q2 nt))
        (PlainItem.seqRun_beg T p q1 q2 nt (flat ps) envStop out st (PlainItem.envOf st (bodyTxt nt))
          (PlainItem.styleOf st (bodyTxt nt)) (hnt.ext hst.ext) hl1 hl2 hl3 ha) hrest hlive.2
        (hst.reads ⟨rfl, rfl⟩) (RotOk.congr (st := st) rfl rfl hm) hpv (fun _ => rfl)
    | item p sp =>
      obtain ⟨hsp, hhead, hbl, hrest⟩ := hok
      have hlab : PlainItem.labelAt T st1 st.itemStack = true := PlainItem.labelAt_ext hst.ext st.itemStack ▸ hlive.1
      obtain ⟨g, gs, _, hstk, _⟩ := PlainItem.labelAt_facts hlab
      have hstep := PlainItem.seqRun_item T st1 p sp (flat ps) envStop out st hst.ext hsp hhead hlab ha1 hbl
      rw [← PlainItem.itemSt_eq] at hstep
      simp only [flat, Piece.toks, List.cons_append]
      exact run_next ih (st2 := nextSt st (.item p sp)) hstep hrest hlive.2 (hst.reads (itemSt_fields st).1)
        (RotOk.congr (st := st) (itemSt_fields st).1.ext.lang (itemSt_fields st).2.1 hm) hpv
        (fun _ => rfl)
    | itemL p sp b1 b2 lab pc =>
      obtain ⟨hsp, hlab, hbl, hpu, hrest⟩ := hok
      have hb : (activeChars T st).contains [' '] = false := by
        rw [hst.ext.activeChars]; exact hbl
      have hpu' : punctOk T st = true := by
        have e : PlainItem.labOk T st = PlainItem.labOk T st1 := by
          funext lb; simp only [PlainItem.labOk, hst.ext.activeChars]
        rw [PlainItemL.punctOk, e]; exact hpu
      -- the punctuation the step repeats is read off the output so far: `PvOk` says it is `pc`
      have hstep := PlainItemL.seqRun_itemL T p sp b1 b2 lab (flat ps) envStop out st
        (fun t ht => by simp [isSpaceTok, isLangK, hsp t ht]) (hlab.ext hst.ext) ha hb hpu'
      rw [hpv.head] at hstep
      simp only [flat, Piece.toks, List.cons_append, List.append_assoc, List.nil_append]
      exact run_next ih hstep hrest hlive.2 hst hm hpv (fun _ => rfl)
    | ubeg p q1 q2 nt =>
      obtain ⟨hn, hun, hrest⟩ := hok
      have hl : lookupEnv st (bodyTxt nt) = none := by
        rw [← hun]; simp only [lookupEnv, hst.ext.envs]
      simp only [flat, Piece.toks, List.cons_append, List.append_assoc, List.nil_append]
      exact run_next ih (st2 := nextSt st (.ubeg p q1 q2 nt))
        (PlainUnkn2.seqRun_ubeg T envStop (d := 3) (c := 2 + nt.length) (hn.ext hst.ext) hl ha (by omega)
          (by omega)) hrest hlive.2
        (hst.reads ⟨rfl, rfl⟩) (RotOk.congr (st := st) rfl rfl hm) hpv (fun _ => rfl)
    | uen p q1 q2 nt =>
      obtain ⟨hn, hun, hrest⟩ := hok
      have hl : lookupEnv st (bodyTxt nt) = none := by
        rw [← hun]; simp only [lookupEnv, hst.ext.envs]
      subst henvStop
      simp only [flat, Piece.toks, List.cons_append, List.append_assoc, List.nil_append]
      exact run_next ih (PlainUnkn2.seqRun_uend T (d := 3) (c := 2 + nt.length) (hn.ext hst.ext) hl ha (by omega)
        (by omega)) hrest hlive.2 hst hm hpv (fun _ => rfl)
    | en p q1 q2 nt =>
      obtain ⟨hnt, hle, hrest⟩ := hok
      have hle' : PlainItem.listEnvAt st (bodyTxt nt) = true := by
        simpa [PlainItem.listEnvAt, lookupEnv, hst.ext.envs] using hle
      obtain ⟨hl1, hl2, _⟩ := PlainItem.listEnvAt_facts hle'
      subst henvStop
      have hstep := PlainItem.seqRun_end T p q1 q2 nt (flat ps) out st (PlainItem.envOf st (bodyTxt nt))
        (hnt.ext hst.ext) hl1 hl2 ha
      rw [← PlainItem.endSt_eq] at hstep
      simp only [flat, Piece.toks, List.cons_append, List.append_assoc, List.nil_append]
      exact run_next ih (st2 := nextSt st (.en p q1 q2 nt)) hstep hrest hlive.2 (hst.reads (endSt_fields st).1)
        (RotOk.congr (st := st) (endSt_fields st).1.ext.lang (endSt_fields st).2.1 hm) hpv (fun _ => rfl)


theorem useSt_unknowns (st : PState) (name : Str) :
    (useSt st name).unknowns
      = ((if (lookupMacro st ('\\' :: name)).isNone then [('\\' :: name)] else [])).foldl addU
          st.unknowns := by
  unfold PlainMacroArgs.useSt
  split <;> simp_all

/-- the fields of the state behind the buffer that the result of `tex2txt` depends on -/
theorem finalSt_fields : ∀ (ps : List Piece) (st : PState),
    (finalSt st ps).unknowns = (names st ps).foldl addU st.unknowns ∧
    (finalSt st ps).extracted = st.extracted ++ flowsOf ps ∧ (finalSt st ps).diags = st.diags
  | [], st => ⟨rfl, (List.append_nil _).symm, rfl⟩
  | pc :: rest, st => by
    obtain ⟨h1, h2, h3⟩ := finalSt_fields rest (nextSt st pc)
    cases pc with
    | foot fn lb b rb => exact ⟨h1, h2.trans (List.append_assoc ..), h3⟩
    | call p q1 q2 name b => exact ⟨h1, h2.trans (List.append_assoc ..), h3⟩
    | callO p b1 b2 q1 q2 name opt b => exact ⟨h1, h2.trans (List.append_assoc ..), h3⟩
    | use p name gs =>
      have e : ∀ {α} (f : PState → α), (∀ s u, f { s with unknowns := u } = f s) →
          f (nextSt st (.use p name gs)) = f st := by
        intro α f hf
        simp only [nextSt, PlainMacroArgs.useSt]
        split
        · rfl
        · exact hf _ _
      refine ⟨?_, ?_, ?_⟩
      · rw [finalSt, h1]
        simp only [names, List.foldl_append]
        rw [show (nextSt st (.use p name gs)).unknowns = (useSt st name).unknowns from rfl,
          useSt_unknowns]
      · rw [finalSt, h2, e (·.extracted) (fun _ _ => rfl)]; rfl
      · rw [finalSt, h3, e (·.diags) (fun _ _ => rfl)]
    | item p sp =>
      obtain ⟨_, _, a11, a12, a13⟩ := itemSt_fields st
      exact ⟨h1.trans (by rw [show (nextSt st (.item p sp)).unknowns = st.unknowns from a11]; rfl),
        h2.trans (by rw [show (nextSt st (.item p sp)).extracted = st.extracted from a12]; rfl), h3.trans a13⟩
    | en p q1 q2 nt =>
      obtain ⟨_, _, a11, a12, a13⟩ := endSt_fields st
      exact ⟨h1.trans (by rw [show (nextSt st (.en p q1 q2 nt)).unknowns = st.unknowns from a11]; rfl),
        h2.trans (by rw [show (nextSt st (.en p q1 q2 nt)).extracted = st.extracted from a12]; rfl),
        h3.trans a13⟩
    -- the other pieces change `unknowns` by the names they record, and nothing else of the three
    | _ => exact ⟨h1, h2, h3⟩


theorem PiecesOk.tail {T : PTables} {st : PState} : ∀ {pc : Piece} {rest : List Piece},
    PiecesOk T st (pc :: rest) → PiecesOk T st rest
  | .tok _, _, h => h.2.2
  | .spc _, _, h => h.2
  | .br _, _, h => h.2
  | .cw .., _, h => h.2.2.2
  | .van .., _, h => h.2.2.2
  | .com _, _, h => h.2
  | .verb _, _, h => h.2
  | .math .., _, h => h.2.2.2.2
  | .ref .., _, h => h.2.2.2
  | .cite .., _, h => h.2.2.2
  | .citeN .., _, h => h.2.2.2.2.2
  | .foot .., _, h => h.2.2.2.2.2.2.2
  | .head .., _, h => h.2.2.2.2.2.2
  | .acc .., _, h => h.2.2.2
  | .defn .., _, h => h.2.2.2.2
  | .use .., _, h => h.2.2.2
  | .disp .., _, h => h.2.2.2.2.2.2.2
  | .denv .., _, h => h.2.2.2.2.2.2.2.2.2.2
  | .ddef .., _, h => h.2.2
  | .ppar .., _, h => h.2.2.2
  | .pbeg .., _, h => h.2.2.2
  | .pen .., _, h => h.2.2
  | .call .., _, h => h.2.2.2.2.2
  | .callO .., _, h => h.2.2.2.2.2.2
  | .fen .., _, h => h.2.2
  | .fbegN .., _, h => h.2.2.2
  | .fbeg .., _, h => h.2.2.2.2
  | .beg .., _, h => h.2.2
  | .item .., _, h => h.2.2.2
  | .itemL .., _, h => h.2.2.2.2
  | .ubeg .., _, h => h.2.2
  | .uen .., _, h => h.2.2
  | .en .., _, h => h.2.2

theorem NoCom.space {ts : List Tok} (h : ∀ t ∈ ts, t.kind = .space) : NoCom ts :=
  fun t ht => NoCom.of_kind (h t ht)

theorem NoCom.ditems {T : PTables} {b : List Tok} (h : ∀ t ∈ b, PlainDisplay.DItem T t) : NoCom b := by
  intro x hx
  rcases h x hx with h | h
  · exact NoCom.of_kind h.body.kind
  · exact NoCom.of_kind h

theorem PiecesOk.noCom {T : PTables} {st : PState} : ∀ {pc : Piece} {rest : List Piece},
    PiecesOk T st (pc :: rest) → (∃ t, pc = .com t ∧ Comment.ComTok T st t) ∨ NoCom pc.toks
  | .com t, _, hok => .inl ⟨t, rfl, hok.1⟩
  | .tok t, _, hok => .inr (.cons hok.1.notComment .nil)
  | .spc t, _, hok => .inr (.cons (NoCom.of_kind hok.1.1) .nil)
  | .br t, _, hok => .inr (.cons (NoCom.of_kind hok.1.kind) .nil)
  | .cw p name sk, _, hok => .inr (.cons nofun (fun x hx => (hok.2.1 x hx).2))
  | .van p q1 q2 name key repl, _, hok =>
    .inr (.cmdBraced nofun nofun nofun (fun x hx => (hok.2.2.1 x hx).2))
  | .verb t, _, hok => .inr (.cons (NoCom.of_kind hok.1) .nil)
  | .math d1 b d2, _, hok =>
    .inr (.cons (NoCom.of_kind2 hok.1.kind) (.append (fun x hx => (hok.2.2.1 x hx).notComment)
      (.cons (NoCom.of_kind2 hok.2.2.2.1.kind) .nil)))
  | .ref p q1 q2 name key repl, _, hok =>
    .inr (.cmdBraced nofun nofun nofun (fun x hx => (hok.2.2.1 x hx).2))
  | .cite p q1 q2 name key, _, hok =>
    .inr (.cmdBraced nofun nofun nofun (fun x hx => (hok.2.1 x hx).2))
  | .citeN p b1 b2 q1 q2 name note key, _, hok =>
    .inr (.cons nofun (.cons nofun (.append (fun x hx => (hok.2.2.1 x hx).1.plain.notComment)
      (.cons nofun (.cons nofun (.append (fun x hx => (hok.2.2.2.1 x hx).2) (.cons nofun .nil)))))))
  | .foot fn lb b rb, _, hok =>
    .inr (.cmdBraced (NoCom.of_kind hok.1.kind) (NoCom.of_kind2 hok.2.1.kind) (NoCom.of_kind2 hok.2.2.1.kind)
      (NoCom.copy hok.2.2.2.2.1))
  | .head hd lb b rb, _, hok =>
    .inr (.cmdBraced (NoCom.of_kind hok.1.kind) (NoCom.of_kind2 hok.2.1.kind) (NoCom.of_kind2 hok.2.2.1.kind)
      (NoCom.copy hok.2.2.2.2.1))
  | .acc p name sp bo q l, _, hok =>
    .inr (.cons nofun (.append (NoCom.space hok.2.1) (by
      cases bo with
      | none => exact .cons nofun .nil
      | some qq => exact .cons nofun (.cons nofun (.cons nofun .nil)))))
  | .defn p q1 q2 q3 q4 q5 q6 q7 q8 name n body, _, hok =>
    .inr (.cons nofun (.cons nofun (.cons nofun (.cons nofun (.cons nofun (.cons nofun (.cons nofun
      (.cons nofun (.append (PlainMacroArgs.GoodBody.noCom hok.2.2.2.1) (.cons nofun .nil))))))))))
  | .ddef p q2 q q7 q8 name n body, _, hok =>
    .inr (.cons nofun (.cons nofun (.append (PlainDefTex.paramToks_notComment _ _ _)
      (.cons nofun (.append (PlainMacroArgs.GoodBody.noCom hok.2.1) (.cons nofun .nil))))))
  | .ppar p sp, _, hok => .inr (.cons nofun (fun x hx => NoCom.of_kind (hok.2.1 x hx)))
  | .pbeg p q1 q2 q3 q4 nt ag, _, hok =>
    .inr (.cons nofun (.cons nofun (.append hok.1.notComment (.cons nofun (.cons nofun
      (.append (fun x hx => (hok.2.2.1 x hx).2) (.cons nofun .nil)))))))
  | .pen p q1 q2 nt, _, hok => .inr (.cmdBraced nofun nofun nofun hok.1.notComment)
  | .call p q1 q2 name b, _, hok =>
    .inr (.cmdBraced nofun nofun nofun (NoCom.copy hok.2.2.1))
  | .callO p b1 b2 q1 q2 name opt b, _, hok =>
    .inr (.cons nofun (.cons nofun (.append (fun x hx => (hok.2.1 x hx).1.plain.notComment)
      (.cons nofun (.cons nofun (.append (NoCom.copy hok.2.2.2.1) (.cons nofun .nil)))))))
  | .fen p q1 q2 nt, _, hok => .inr (.cmdBraced nofun nofun nofun hok.1.notComment)
  | .fbegN p q1 q2 b1 b2 nt note, _, hok =>
    .inr (.cons nofun (.cons nofun (.append hok.1.notComment (.cons nofun (.cons nofun
      (.append (fun x hx => (hok.2.2.1 x hx).1.plain.notComment) (.cons nofun .nil)))))))
  | .fbeg p q1 q2 nt sp, _, hok =>
    .inr (.cons nofun (.cons nofun (.append hok.1.notComment (.cons nofun
      (fun x hx => NoCom.of_kind (hok.2.2.1 x hx))))))
  | .use p name gs, _, hok =>
    .inr (.cons nofun (fun x hx => by
      rcases PlainMacroArgs.mem_groupsFlat hx with ⟨g, hg', rfl | rfl | hx'⟩
      · nofun
      · nofun
      · exact ((hok.2.2.1 g hg').2 x hx').1.notComment))
  | .disp ops d1 b d2, _, hok =>
    .inr (.cons (NoCom.of_kind hok.2.2.2.1.kind) (.append (NoCom.ditems hok.2.2.2.2.2.1) (.cons (by
      rcases hok.2.2.2.2.2.2.1.kind with h | h | h <;> rw [h] <;> nofun) .nil)))
  | .denv ops p q1 q2 nt b p' q1' q2' nt', _, hok =>
    .inr (.cons nofun (.cons nofun (.append (fun x hx => (hok.2.2.1.2 x hx).1.notComment) (.cons nofun
      (.append (NoCom.ditems hok.2.2.2.2.2.2.2.2.2.1) (.cons nofun (.cons nofun
        (.append (fun x hx => (hok.2.2.2.1.2 x hx).1.notComment) (.cons nofun .nil)))))))))
  | .beg p q1 q2 nt, _, hok =>
    .inr (.cmdBraced nofun nofun nofun (fun x hx => (hok.1.2 x hx).1.notComment))
  | .item p sp, _, hok => .inr (.cons nofun (NoCom.space hok.1))
  | .itemL p sp b1 b2 lab pc, _, hok =>
    .inr (.cons nofun (.append (NoCom.space hok.1) (.cons nofun
      (.append (fun x hx => (hok.2.1 x hx).1.plain.notComment) (.cons nofun .nil)))))
  | .ubeg p q1 q2 nt, _, hok =>
    .inr (.cmdBraced nofun nofun nofun (fun x hx => (hok.1.2 x hx).1.notComment))
  | .uen p q1 q2 nt, _, hok =>
    .inr (.cmdBraced nofun nofun nofun (fun x hx => (hok.1.2 x hx).1.notComment))
  | .en p q1 q2 nt, _, hok =>
    .inr (.cmdBraced nofun nofun nofun (fun x hx => (hok.1.2 x hx).1.notComment))

/-- the skip pre-pass of `parser_work` sees no begin marker: a comment piece does not start one -/
theorem PiecesOk.noBegin {T : PTables} {st : PState} : ∀ {ps : List Piece}, PiecesOk T st ps →
    NoBegin st.skipBegin (flat ps)
  | [], _ => .nil
  | pc :: rest, hok => by
    refine .append ?_ (PiecesOk.noBegin hok.tail)
    rcases hok.noCom with ⟨t, rfl, ht⟩ | h
    · exact .cons (by simp [ht.nskip]) .nil
    · exact h.noBegin _

end PlainMix4
end Yalafi
