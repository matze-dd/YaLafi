/-
  Proofs/PlainLangCor.lean — readings of the reference `PlainLang.refParts`:

    `partChars`            the characters of all parts with their positions
    `textChars`            the text characters of the document with their source positions
    `langAt`               the language code in force at a source position
    `refParts_nodup`       no position occurs twice in the parts (of all languages together)
    `refParts_visible`     every visible text character occurs in a part, at its own position
    `refParts_language`    a character of a part under the key `k` is a text character of the
                           source at its own position, and `k` is the code of the last switch in
                           front of it (the main language if there is none)
    `textChars_render`     `textChars` are characters of the source
  Shared with the readings of the other two multi-language references (Proofs/PlainForeignCor.lean,
  Proofs/PlainLangMixCor.lean):
    `attrBy`               characters paired with the language code of a state that the language
                           tokens change; `attrBy_ch`, `attrBy_sublist`, `attrBy_mem_chars`
    `attrS`                … with the top of the language stack of `get_txt_pos_ml`; `secsItems_chars`,
                           `secsItems_attr`: the sections of the section loop spell the character
                           items in order, each under the top of the stack where it stands
    `posText_source`, `source_behind`, `posText_append_pairwise`
                           one segment of a document: its text stands in the source, in order
    `itemChars_delLines`   a visible character survives the blank-line removal
-/
import YalafiVerif.Proofs.PlainLang
namespace Yalafi
namespace PlainLang

open LinesLang (Item Mark ch isLg delLines)
open PlainLangMix (secChars)

/-! ### characters of sections and parts -/

def tpChars (tp : Str × List Nat) : List (Char × Nat) := tp.1.zip tp.2

def partChars (ps : Parts) : List (Char × Nat) := ps.flatMap (fun e => e.2.flatMap tpChars)

def itemChars (l : List Item) : List (Char × Nat) := l.filterMap Sum.getLeft?

theorem mem_itemChars {cp : Char × Nat} {l : List Item} : cp ∈ itemChars l ↔ Sum.inl cp ∈ l := by
  simp only [itemChars, List.mem_filterMap]
  constructor
  · rintro ⟨i, hi, hg⟩
    cases i with
    | inl x =>
      simp only [Sum.getLeft?_inl, Option.some.injEq] at hg
      rw [← hg]; exact hi
    | inr t => simp at hg
  · exact fun h => ⟨_, h, rfl⟩

theorem itemChars_delLines (ms : List Mark) (c : Char) (p : Nat)
    (h : (c, p) ∈ itemChars (ms.filterMap id)) (hv : isSpace c = false) :
    (c, p) ∈ itemChars (delLines ms) := by
  rw [mem_itemChars] at h ⊢
  obtain ⟨m, hm, hid⟩ := List.mem_filterMap.mp h
  have e : m = some (Sum.inl (c, p)) := hid
  rw [e] at hm
  exact LinesLang.delLines_visible ms (c, p) hm hv

/-- characters paired with a language code: the code is read off a state (`top`) that the language
    tokens change (`step`) -/
def attrBy {σ : Type} (step : σ → Tok → σ) (top : σ → Str) : σ → List Item → List (Str × (Char × Nat))
  | _, [] => []
  | s, .inl cp :: xs => (top s, cp) :: attrBy step top s xs
  | s, .inr t :: xs => attrBy step top (step s t) xs

theorem attrBy_ch {σ : Type} (step : σ → Tok → σ) (top : σ → Str) :
    ∀ (l : List (Char × Nat)) (s : σ) (xs : List Item),
    attrBy step top s (ch l ++ xs) = l.map (fun cp => (top s, cp)) ++ attrBy step top s xs
  | [], _, _ => rfl
  | a :: l, s, xs => by
    simp only [LinesLang.ch_cons, List.cons_append, attrBy, List.map_cons, attrBy_ch step top l s xs]

/-- deleting characters (but no language token) does not change the language of the others -/
theorem attrBy_sublist {σ : Type} (step : σ → Tok → σ) (top : σ → Str) {l1 l2 : List Item}
    (h : List.Sublist l1 l2) :
    l1.filter isLg = l2.filter isLg → ∀ s, List.Sublist (attrBy step top s l1) (attrBy step top s l2) := by
  induction h with
  | slnil => intro _ _; exact List.Sublist.refl _
  | @cons l1 l2 a hsub ih =>
    intro hf s
    cases a with
    | inl cp =>
      have hf' : l1.filter isLg = l2.filter isLg := by
        rw [hf, List.filter_cons_of_neg (by simp [isLg])]
      simp only [attrBy]
      exact List.Sublist.cons _ (ih hf' s)
    | inr t =>
      -- a language token cannot be deleted: `l2` has as many of them as `l1`
      exfalso
      have h1 := (hsub.filter isLg).length_le
      rw [hf, List.filter_cons_of_pos (by rfl)] at h1
      simp only [List.length_cons] at h1
      omega
  | @cons_cons l1 l2 a hsub ih =>
    intro hf s
    cases a with
    | inl cp =>
      have hf' : l1.filter isLg = l2.filter isLg := by
        rw [List.filter_cons_of_neg (by simp [isLg]), List.filter_cons_of_neg (by simp [isLg])] at hf
        exact hf
      simp only [attrBy]
      exact List.Sublist.cons_cons _ (ih hf' s)
    | inr t =>
      have hf' : l1.filter isLg = l2.filter isLg := by
        rw [List.filter_cons_of_pos (by rfl), List.filter_cons_of_pos (by rfl)] at hf
        exact List.tail_eq_of_cons_eq hf
      simp only [attrBy]
      exact ih hf' _

theorem attrBy_mem_chars {σ : Type} (step : σ → Tok → σ) (top : σ → Str) :
    ∀ (l : List Item) (s : σ) (x : Str × (Char × Nat)), x ∈ attrBy step top s l → x.2 ∈ itemChars l
  | [], _, _, h => by cases h
  | .inl cp :: xs, s, x, h => by
    simp only [attrBy, List.mem_cons] at h
    rw [mem_itemChars]
    rcases h with rfl | h
    · exact List.mem_cons_self ..
    · exact List.mem_cons_of_mem _ (mem_itemChars.mp (attrBy_mem_chars step top xs s x h))
  | .inr t :: xs, s, x, h => by
    simp only [attrBy] at h
    rw [mem_itemChars]
    exact List.mem_cons_of_mem _ (mem_itemChars.mp (attrBy_mem_chars step top xs _ x h))

end PlainLang

namespace PlainLangMix

open LinesLang (Item ch isLg)
open PlainLang (itemChars attrBy attrBy_ch attrBy_sublist attrBy_mem_chars)
open PlainForeign (secsItems stepStack emitSec mkSec)

/-! ### the sections of the section loop, character by character (any token list) -/

theorem itemChars_inr (t : Tok) (xs : List Item) : itemChars (.inr t :: xs) = itemChars xs := by
  simp only [itemChars, List.filterMap_cons, Sum.getLeft?_inr]

def attrS : List Str → List Item → List (Str × (Char × Nat))
  | _, [] => []
  | stk, .inl cp :: xs => (stackTop stk, cp) :: attrS stk xs
  | stk, .inr t :: xs =>
    match t.kind with
    | .lang l b h _ => attrS (stepStack stk l b h) xs
    | _ => attrS stk xs

def stackStep (stk : List Str) (t : Tok) : List Str :=
  match t.kind with
  | .lang l b h _ => stepStack stk l b h
  | _ => stk

theorem attrS_eq : ∀ (xs : List Item) (stk : List Str), attrS stk xs = attrBy stackStep stackTop stk xs
  | [], _ => rfl
  | .inl cp :: xs, stk => by simp only [attrS, attrBy, attrS_eq xs]
  | .inr t :: xs, stk => by
    simp only [attrS, attrBy, stackStep]
    split <;> exact attrS_eq xs _

theorem attrS_ch (l : List (Char × Nat)) (stk : List Str) (xs : List Item) :
    attrS stk (ch l ++ xs) = l.map (fun cp => (stackTop stk, cp)) ++ attrS stk xs := by
  rw [attrS_eq, attrS_eq, attrBy_ch]

theorem emitSec_attr (l : Str) (back brk : Bool) (acc : List (Char × Nat)) :
    ∀ s ∈ emitSec l back brk acc, s.lang = l ∧ ∀ cp ∈ secChars s, cp ∈ acc := by
  intro s hs
  unfold emitSec at hs
  split at hs
  · cases hs
  · rw [List.mem_singleton] at hs
    subst hs
    refine ⟨rfl, ?_⟩
    intro cp hcp
    simpa [secChars, mkSec, zip_fst_snd] using hcp

theorem emitSec_chars (l : Str) (back brk : Bool) (acc : List (Char × Nat)) :
    (emitSec l back brk acc).flatMap secChars = acc := by
  unfold emitSec
  split
  · rename_i h; simp at h; simp [h]
  · simp [secChars, mkSec, zip_fst_snd]

theorem secsItems_chars : ∀ (items : List Item) (stk : List Str) (back brk : Bool) (acc : List (Char × Nat)),
    (secsItems stk back brk acc items).flatMap secChars = acc ++ itemChars items
  | [], stk, back, brk, acc => by simp [secsItems, emitSec_chars, itemChars]
  | .inl cp :: xs, stk, back, brk, acc => by
    simp only [secsItems]
    rw [secsItems_chars xs]
    simp [itemChars]
  | .inr t :: xs, stk, back, brk, acc => by
    simp only [secsItems]
    split
    · split
      · rw [secsItems_chars xs, itemChars_inr]
      · rw [List.flatMap_append, emitSec_chars, secsItems_chars xs, itemChars_inr]
        simp
    · rw [secsItems_chars xs, itemChars_inr]

theorem secsItems_attr : ∀ (items : List Item) (stk : List Str) (back brk : Bool) (acc : List (Char × Nat)),
    ∀ s ∈ secsItems stk back brk acc items, ∀ cp ∈ secChars s,
      (s.lang = stackTop stk ∧ cp ∈ acc) ∨ (s.lang, cp) ∈ attrS stk items
  | [], stk, back, brk, acc => by
    intro s hs cp hcp
    obtain ⟨h1, h2⟩ := emitSec_attr _ _ _ _ s hs
    exact Or.inl ⟨h1, h2 cp hcp⟩
  | .inl c :: xs, stk, back, brk, acc => by
    intro s hs cp hcp
    simp only [secsItems] at hs
    rcases secsItems_attr xs stk back brk _ s hs cp hcp with ⟨h1, h2⟩ | h
    · rcases List.mem_append.mp h2 with h2 | h2
      · exact Or.inl ⟨h1, h2⟩
      · right
        simp only [List.mem_singleton] at h2
        rw [h1, h2]
        simp [attrS]
    · right; simp [attrS, h]
  | .inr t :: xs, stk, back, brk, acc => by
    intro s hs cp hcp
    simp only [secsItems] at hs
    split at hs
    · rename_i l b h k hk
      simp only [attrS, hk]
      split at hs
      · rename_i hsame
        rw [beq_iff_eq] at hsame
        rcases secsItems_attr xs _ back brk _ s hs cp hcp with ⟨h1, h2⟩ | h
        · exact Or.inl ⟨h1.trans hsame, h2⟩
        · exact Or.inr h
      · rcases List.mem_append.mp hs with hs | hs
        · obtain ⟨h1, h2⟩ := emitSec_attr _ _ _ _ s hs
          exact Or.inl ⟨h1, h2 cp hcp⟩
        · rcases secsItems_attr xs _ _ _ _ s hs cp hcp with ⟨_, h2⟩ | h
          · cases h2
          · exact Or.inr h
    · rename_i hk
      rcases secsItems_attr xs stk back brk _ s hs cp hcp with h | h
      · exact Or.inl h
      · right
        have e : attrS stk (Sum.inr t :: xs) = attrS stk xs := by
          simp only [attrS]
        rw [e]; exact h

theorem attrS_lang (stk : List Str) (p : Nat) (l : Str) (b h k : Bool) (xs : List Item) :
    attrS stk (.inr (mkLang p l b h k) :: xs) = attrS (stepStack stk l b h) xs := rfl

theorem attrS_sublist {l1 l2 : List Item} (h : List.Sublist l1 l2) (hl : l1.filter isLg = l2.filter isLg)
    (stk : List Str) : List.Sublist (attrS stk l1) (attrS stk l2) := by
  rw [attrS_eq, attrS_eq]
  exact attrBy_sublist _ _ h hl stk

theorem attrS_mem_chars (l : List Item) (stk : List Str) (x : Str × (Char × Nat)) (h : x ∈ attrS stk l) :
    x.2 ∈ itemChars l :=
  attrBy_mem_chars _ _ l stk x (attrS_eq l stk ▸ h)

end PlainLangMix

namespace PlainLang

open LinesLang (Item Mark ch isLg delLines)
open PlainLangMix (secChars attrS attrS_ch attrS_sublist attrS_mem_chars secsItems_chars secsItems_attr)

/-! ### grouping -/

theorem addPart_keys (ps : Parts) (k : Str) (tp : Str × List Nat)
    (h : (ps.map (·.1)).Nodup) : ((addPart ps k tp).map (·.1)).Nodup := by
  unfold addPart
  split
  · have : (ps.map (fun e => if (e.1 == k) = true then (e.1, e.2 ++ [tp]) else e)).map (·.1)
        = ps.map (·.1) := by
      rw [List.map_map]
      apply List.map_congr_left
      intro e _
      simp only [Function.comp]
      split <;> rfl
    rw [this]; exact h
  · rename_i hany
    rw [List.map_append, List.nodup_append]
    refine ⟨h, by simp, ?_⟩
    intro a ha b hb
    simp only [List.map_cons, List.map_nil, List.mem_singleton] at hb
    subst hb
    intro e
    apply hany
    obtain ⟨x, hx, rfl⟩ := List.mem_map.mp ha
    rw [List.any_eq_true]
    exact ⟨x, hx, by simp [e]⟩

theorem map_if_id (ps : Parts) (k : Str) (tp : Str × List Nat) (h : ∀ e ∈ ps, e.1 ≠ k) :
    ps.map (fun e => if (e.1 == k) = true then (e.1, e.2 ++ [tp]) else e) = ps := by
  conv => rhs; rw [← List.map_id ps]
  apply List.map_congr_left
  intro e he
  have : (e.1 == k) = false := by simpa using h e he
  simp [this]

theorem addPart_perm : ∀ (ps : Parts) (k : Str) (tp : Str × List Nat), (ps.map (·.1)).Nodup →
    List.Perm ((addPart ps k tp).flatMap (·.2)) (ps.flatMap (·.2) ++ [tp])
  | [], k, tp, _ => by simp [addPart]
  | e :: ps, k, tp, h => by
    rw [List.map_cons, List.nodup_cons] at h
    by_cases hk : e.1 = k
    · have hno : ∀ x ∈ ps, x.1 ≠ k := by
        intro x hx e'
        exact h.1 (by rw [hk, ← e']; exact List.mem_map_of_mem hx)
      have hany : (e :: ps).any (·.1 == k) = true := by simp [hk]
      simp only [addPart, hany, if_true, List.map_cons, hk, beq_self_eq_true]
      rw [map_if_id ps k tp hno]
      simp only [List.flatMap_cons, List.append_assoc]
      exact List.Perm.append_left _ List.perm_append_comm
    · have hk' : (e.1 == k) = false := by simpa using hk
      by_cases hany : ps.any (·.1 == k) = true
      · have hany' : (e :: ps).any (·.1 == k) = true := by simp [hany]
        have ih := addPart_perm ps k tp h.2
        simp only [addPart, hany, if_true] at ih
        simp only [addPart, hany', if_true, List.map_cons, hk', Bool.false_eq_true, if_false,
          List.flatMap_cons, List.append_assoc]
        exact List.Perm.append_left _ ih
      · have hany' : ¬ ((e :: ps).any (·.1 == k) = true) := by simp [hk', hany]
        simp only [addPart, hany']
        simp

theorem groupFold_perm : ∀ (secs : List Sec) (acc : Parts), (acc.map (·.1)).Nodup →
    List.Perm ((secs.foldl (fun ps s => addPart ps s.lang (s.txt, s.pos)) acc).flatMap (·.2))
      (acc.flatMap (·.2) ++ secs.map (fun s => (s.txt, s.pos)))
  | [], acc, _ => by simp
  | s :: ss, acc, h => by
    rw [List.foldl_cons]
    refine (groupFold_perm ss _ (addPart_keys acc _ _ h)).trans ?_
    rw [List.map_cons]
    have := addPart_perm acc s.lang (s.txt, s.pos) h
    refine (List.Perm.append_right _ this).trans ?_
    simp

theorem groupSecs_perm (secs : List Sec) :
    List.Perm ((groupSecs secs).flatMap (·.2)) (secs.map (fun s => (s.txt, s.pos))) := by
  have := groupFold_perm secs [] (by simp)
  simpa [groupSecs] using this

theorem addPart_mem (ps : Parts) (k : Str) (tp : Str × List Nat) :
    ∀ e ∈ addPart ps k tp, ∀ x ∈ e.2, (∃ e0 ∈ ps, e0.1 = e.1 ∧ x ∈ e0.2) ∨ (e.1 = k ∧ x = tp) := by
  intro e he x hx
  unfold addPart at he
  split at he
  · obtain ⟨e0, he0, rfl⟩ := List.mem_map.mp he
    split at hx
    · rename_i hk
      rw [beq_iff_eq] at hk
      rcases List.mem_append.mp hx with hx | hx
      · exact Or.inl ⟨e0, he0, by simp [hk], hx⟩
      · right; simp only [List.mem_singleton] at hx; simp [hk, hx]
    · rename_i hk
      exact Or.inl ⟨e0, he0, by simp [hk], hx⟩
  · rcases List.mem_append.mp he with he | he
    · exact Or.inl ⟨e, he, rfl, hx⟩
    · simp only [List.mem_singleton] at he
      subst he
      right; simp only [List.mem_singleton] at hx; exact ⟨rfl, hx⟩

theorem groupFold_mem : ∀ (secs : List Sec) (acc : Parts),
    ∀ e ∈ secs.foldl (fun ps s => addPart ps s.lang (s.txt, s.pos)) acc, ∀ x ∈ e.2,
      (∃ e0 ∈ acc, e0.1 = e.1 ∧ x ∈ e0.2) ∨ ∃ s ∈ secs, s.lang = e.1 ∧ x = (s.txt, s.pos)
  | [], acc => by
    intro e he x hx
    exact Or.inl ⟨e, he, rfl, hx⟩
  | s :: ss, acc => by
    intro e he x hx
    rw [List.foldl_cons] at he
    rcases groupFold_mem ss _ e he x hx with ⟨e0, he0, hk, hx0⟩ | ⟨s', hs', h1, h2⟩
    · rcases addPart_mem acc s.lang (s.txt, s.pos) e0 he0 x hx0 with ⟨e1, he1, hk1, hx1⟩ | ⟨hk1, hx1⟩
      · exact Or.inl ⟨e1, he1, hk1.trans hk, hx1⟩
      · exact Or.inr ⟨s, List.mem_cons_self .., hk1.symm.trans hk, hx1⟩
    · exact Or.inr ⟨s', List.mem_cons_of_mem _ hs', h1, h2⟩

theorem groupSecs_mem (secs : List Sec) : ∀ e ∈ groupSecs secs, ∀ x ∈ e.2,
    ∃ s ∈ secs, s.lang = e.1 ∧ x = (s.txt, s.pos) := by
  intro e he x hx
  rcases groupFold_mem secs [] e he x hx with ⟨e0, he0, _, _⟩ | h
  · cases he0
  · exact h

/-! ### the text characters of a document -/

/-- the characters of the text segments of a document that starts at position `p`, each with its
    (0-based) source position -/
def textChars : Nat → List Seg → List (Char × Nat)
  | _, [] => []
  | p, .txt s :: rest => posText p s ++ textChars (p + s.length) rest
  | p, .sel name :: rest => textChars (p + (name.length + 17)) rest

/-- the language code in force at source position `q`: the code of the last switch in front of
    it, `cur` if there is none (`p` = position of the first segment) -/
def langAt (T : PTables) : Str → Nat → List Seg → Nat → Str
  | cur, _, [], _ => cur
  | cur, p, .txt s :: rest, q => if q < p + s.length then cur else langAt T cur (p + s.length) rest q
  | _, p, .sel name :: rest, q => langAt T (codeOfName T name) (p + (name.length + 17)) rest q

/-- the items of a document before the blank-line removal -/
def segItems (T : PTables) (p : Nat) (segs : List Seg) : List Item := (segMarks T p segs).filterMap id

theorem filterMap_id_map_some {α} (l : List α) : (l.map some).filterMap id = l :=
  PlainMacro.filterMap_map_some l

theorem segItems_txt (T : PTables) (p : Nat) (s : Str) (rest : List Seg) :
    segItems T p (.txt s :: rest) = ch (posText p s) ++ segItems T (p + s.length) rest := by
  simp [segItems, segMarks, List.filterMap_append]

theorem segItems_sel (T : PTables) (p : Nat) (name : Str) (rest : List Seg) :
    segItems T p (.sel name :: rest)
      = .inr (selTok T p (codeOfName T name)) :: segItems T (p + (name.length + 17)) rest := by
  simp [segItems, segMarks]

theorem itemChars_ch (l : List (Char × Nat)) (xs : List Item) :
    itemChars (ch l ++ xs) = l ++ itemChars xs := by
  induction l with
  | nil => rfl
  | cons a l ih =>
    simp only [LinesLang.ch_cons, List.cons_append, itemChars, List.filterMap_cons, Sum.getLeft?_inl]
    exact congrArg _ ih

theorem segItems_chars (T : PTables) : ∀ (segs : List Seg) (p : Nat),
    itemChars (segItems T p segs) = textChars p segs
  | [], _ => rfl
  | .txt s :: rest, p => by
    rw [segItems_txt, itemChars_ch, segItems_chars T rest]; rfl
  | .sel name :: rest, p => by
    rw [segItems_sel]
    simp only [itemChars, List.filterMap_cons, Sum.getLeft?_inr]
    exact segItems_chars T rest _

theorem posText_source (pre s post : Str) (p0 : Nat) (cp : Char × Nat)
    (h : cp ∈ posText (p0 + pre.length) s) :
    p0 ≤ cp.2 ∧ (pre ++ (s ++ post))[cp.2 - p0]? = some cp.1 := by
  have hb := mem_posText h
  refine ⟨by omega, ?_⟩
  rw [List.getElem?_append_right (by omega), List.getElem?_append_left (by omega),
    show cp.2 - p0 - pre.length = cp.2 - (p0 + pre.length) by omega]
  exact (posText_getElem s _ cp h).2

theorem source_behind (seg tl : Str) (n p0 : Nat) (cp : Char × Nat) (hl : seg.length = n)
    (h : p0 + n ≤ cp.2 ∧ tl[cp.2 - (p0 + n)]? = some cp.1) :
    p0 ≤ cp.2 ∧ (seg ++ tl)[cp.2 - p0]? = some cp.1 := by
  refine ⟨by omega, ?_⟩
  rw [List.getElem?_append_right (by omega), hl, show cp.2 - p0 - n = cp.2 - (p0 + n) by omega]
  exact h.2

theorem textChars_render : ∀ (segs : List Seg) (p0 : Nat) (cp : Char × Nat), cp ∈ textChars p0 segs →
    p0 ≤ cp.2 ∧ (render segs)[cp.2 - p0]? = some cp.1
  | [], _, _, h => by cases h
  | .txt s :: rest, p0, cp, h => by
    simp only [textChars] at h
    rcases List.mem_append.mp h with h | h
    · exact posText_source [] s (render rest) p0 cp h
    · exact source_behind s (render rest) s.length p0 cp rfl (textChars_render rest _ cp h)
  | .sel name :: rest, p0, cp, h => by
    have hl : (Seg.render (.sel name)).length = name.length + 17 := by
      simp only [Seg.render, List.length_cons, List.length_append, selName_length, List.length_nil]
      omega
    exact source_behind _ (render rest) _ p0 cp hl (textChars_render rest _ cp h)

theorem posText_pairwise : ∀ (s : Str) (p : Nat), (posText p s).Pairwise (fun a b => a.2 < b.2)
  | [], _ => List.Pairwise.nil
  | c :: cs, p => by
    simp only [posText]
    refine List.Pairwise.cons ?_ (posText_pairwise cs (p + 1))
    intro b hb
    have := (mem_posText hb).1
    show p < b.2
    omega

theorem posText_append_pairwise (s : Str) (p : Nat) (l : List (Char × Nat))
    (hl : l.Pairwise (fun a b => a.2 < b.2)) (hge : ∀ b ∈ l, p + s.length ≤ b.2) :
    (posText p s ++ l).Pairwise (fun a b => a.2 < b.2) := by
  rw [List.pairwise_append]
  refine ⟨posText_pairwise s p, hl, fun a ha b hb => ?_⟩
  have h1 := (mem_posText ha).2
  have h2 := hge b hb
  omega

theorem textChars_pairwise : ∀ (segs : List Seg) (p : Nat),
    (textChars p segs).Pairwise (fun a b => a.2 < b.2)
  | [], _ => List.Pairwise.nil
  | .txt s :: rest, p =>
    posText_append_pairwise s p _ (textChars_pairwise rest _)
      (fun b hb => (textChars_render rest _ b hb).1)
  | .sel name :: rest, p => textChars_pairwise rest _

/-- a character of `attrS` belongs to the code of the last switch in front of it: hard switches keep
    one language on the stack -/
theorem attr_segItems (T : PTables) : ∀ (segs : List Seg) (cur : Str) (p : Nat),
    ∀ x ∈ attrS [cur] (segItems T p segs), x.1 = langAt T cur p segs x.2.2 ∧ p ≤ x.2.2
  | [], _, _ => by intro x h; cases h
  | .txt s :: rest, cur, p => by
    intro x hx
    simp only [segItems_txt, attrS_ch] at hx
    rcases List.mem_append.mp hx with hx | hx
    · obtain ⟨cp, hcp, rfl⟩ := List.mem_map.mp hx
      have := mem_posText hcp
      simp only [langAt, this.2, if_true]
      exact ⟨rfl, this.1⟩
    · have := attr_segItems T rest cur _ x hx
      have hn : ¬ (x.2.2 < p + s.length) := by omega
      simp only [langAt, hn, if_false]
      exact ⟨this.1, by omega⟩
  | .sel name :: rest, cur, p => by
    intro x hx
    rw [segItems_sel] at hx
    have := attr_segItems T rest (codeOfName T name) _ x hx
    simp only [langAt]
    exact ⟨this.1, by omega⟩

/-! ### the readings of `refParts` -/

theorem refItems_sublist (T : PTables) (segs : List Seg) :
    List.Sublist (refItems T segs) (segItems T 0 segs) :=
  LinesLang.delLines_sublist _

theorem refItems_langs (T : PTables) (segs : List Seg) :
    (refItems T segs).filter isLg = (segItems T 0 segs).filter isLg :=
  LinesLang.delLines_langs _

theorem segItems_hard (T : PTables) : ∀ (segs : List Seg) (p : Nat) (t : Tok),
    Sum.inr t ∈ segItems T p segs → HardTok t ∧ langBrk t = T.selectBrk
  | [], _, _, h => by simp [segItems, segMarks] at h
  | .txt s :: rest, p, t, h => by
    rw [segItems_txt, List.mem_append] at h
    rcases h with h | h
    · simp [ch] at h
    · exact segItems_hard T rest _ t h
  | .sel name :: rest, p, t, h => by
    rw [segItems_sel, List.mem_cons] at h
    rcases h with h | h
    · rw [Sum.inr.inj h]; exact ⟨⟨_, _, rfl⟩, rfl⟩
    · exact segItems_hard T rest _ t h

/-- the sections of the reference are those of the general section loop (`PlainForeign.secsItems`):
    what is proved about `secsItems` holds of `refSecs` -/
theorem refSecs_secsItems (T : PTables) (main : Str) (segs : List Seg) :
    refSecs T main segs = PlainForeign.secsItems [main] false false [] (refItems T segs) :=
  (secsItems_hard _ main false [] (fun t ht =>
    (segItems_hard T segs 0 t ((refItems_sublist T segs).subset ht)).1)).symm

theorem refSecs_chars (T : PTables) (main : Str) (segs : List Seg) :
    (refSecs T main segs).flatMap secChars = itemChars (refItems T segs) ∧
    List.Sublist (itemChars (refItems T segs)) (textChars 0 segs) := by
  refine ⟨by rw [refSecs_secsItems, secsItems_chars]; rfl, ?_⟩
  rw [← segItems_chars T segs 0]
  exact (refItems_sublist T segs).filterMap _

def shiftTp (tp : Str × List Nat) : Str × List Nat := (tp.1, tp.2.map (· + 1))

theorem tpChars_shift (tp : Str × List Nat) :
    tpChars (shiftTp tp) = (tpChars tp).map (fun cp => (cp.1, cp.2 + 1)) := by
  simp only [tpChars, shiftTp]
  rw [List.zip_map_right]
  rfl

theorem flatMap_shiftTp : ∀ (l : List (Str × List Nat)),
    (l.map shiftTp).flatMap tpChars = (l.flatMap tpChars).map (fun cp => (cp.1, cp.2 + 1))
  | [] => rfl
  | tp :: l => by
    rw [List.map_cons, List.flatMap_cons, List.flatMap_cons, List.map_append, tpChars_shift,
      flatMap_shiftTp l]

theorem partChars_shift : ∀ (ps : Parts),
    partChars (shiftParts ps) = ((ps.flatMap (·.2)).flatMap tpChars).map (fun cp => (cp.1, cp.2 + 1))
  | [] => rfl
  | e :: ps => by
    have ih := partChars_shift ps
    have h1 : partChars (shiftParts (e :: ps))
        = (e.2.map shiftTp).flatMap tpChars ++ partChars (shiftParts ps) := rfl
    rw [h1, ih, flatMap_shiftTp, List.flatMap_cons, List.flatMap_append, List.map_append]

theorem refParts_perm (T : PTables) (main : Str) (segs : List Seg) :
    List.Perm (partChars (refParts T main segs))
      ((itemChars (refItems T segs)).map (fun cp => (cp.1, cp.2 + 1))) := by
  rw [refParts, partChars_shift]
  apply List.Perm.map
  have h1 := (groupSecs_perm (refSecs T main segs)).flatMap_right tpChars
  refine h1.trans ?_
  rw [← (refSecs_chars T main segs).1]
  rw [List.flatMap_map]
  exact List.Perm.refl _

/-- **no position occurs twice** in the parts of all languages together -/
theorem refParts_nodup (T : PTables) (main : Str) (segs : List Seg) :
    ((partChars (refParts T main segs)).map (·.2)).Nodup := by
  rw [((refParts_perm T main segs).map _).nodup_iff]
  have hpw := (textChars_pairwise segs 0).sublist (refSecs_chars T main segs).2
  rw [List.map_map]
  rw [List.Nodup, List.pairwise_map]
  refine hpw.imp ?_
  intro a b hab
  simp only [Function.comp]
  omega

/-- **every visible text character occurs in a part**, at its own (1-based) position -/
theorem refParts_visible (T : PTables) (main : Str) (segs : List Seg) (c : Char) (p : Nat)
    (h : (c, p) ∈ textChars 0 segs) (hv : isSpace c = false) :
    (c, p + 1) ∈ partChars (refParts T main segs) := by
  rw [(refParts_perm T main segs).mem_iff]
  refine List.mem_map.mpr ⟨(c, p), ?_, rfl⟩
  rw [← segItems_chars T segs 0] at h
  exact itemChars_delLines (segMarks T 0 segs) c p h hv

theorem mem_shiftParts (ps : Parts) (e : Str × List (Str × List Nat)) (h : e ∈ shiftParts ps) :
    ∃ e0 ∈ ps, e.1 = e0.1 ∧ e.2 = e0.2.map shiftTp := by
  simp only [shiftParts, List.mem_map] at h
  obtain ⟨e0, he0, rfl⟩ := h
  exact ⟨e0, he0, rfl, rfl⟩

/-- **the language of a part**: a character of a piece of text under the key `k` is a text
    character of the source at its own position `p` (reported as `p + 1`), and `k` is the code of
    the last switch in front of `p` (the main language if there is none) -/
theorem refParts_language (T : PTables) (main : Str) (segs : List Seg) :
    ∀ e ∈ refParts T main segs, ∀ tp ∈ e.2, ∀ c q, (c, q) ∈ tpChars tp →
      ∃ p, q = p + 1 ∧ (c, p) ∈ textChars 0 segs ∧ e.1 = langAt T main 0 segs p := by
  intro e he tp htp c q hcq
  obtain ⟨e0, he0, hk, h2⟩ := mem_shiftParts _ e he
  rw [h2] at htp
  obtain ⟨tp0, htp0, rfl⟩ := List.mem_map.mp htp
  rw [tpChars_shift] at hcq
  obtain ⟨cp, hcp, hx⟩ := List.mem_map.mp hcq
  simp only [Prod.mk.injEq] at hx
  obtain ⟨s, hs, hlang, rfl⟩ := groupSecs_mem (refSecs T main segs) e0 he0 tp0 htp0
  have hcp' : cp ∈ secChars s := hcp
  rw [refSecs_secsItems] at hs
  rcases secsItems_attr (refItems T segs) [main] false false [] s hs cp hcp' with ⟨_, h⟩ | h
  · cases h
  · have hsub := (attrS_sublist (refItems_sublist T segs) (refItems_langs T segs) [main]).subset h
    have hc := attrS_mem_chars _ _ _ hsub
    rw [segItems_chars] at hc
    refine ⟨cp.2, hx.2.symm, ?_, ?_⟩
    · rw [← hx.1]; exact hc
    · rw [hk, ← hlang]; exact (attr_segItems T segs main 0 _ hsub).1

end PlainLang
end Yalafi
