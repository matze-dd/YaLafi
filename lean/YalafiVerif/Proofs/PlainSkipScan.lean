/-
  Proofs/PlainSkipScan.lean — two facts about the scanner `next_token` that the skip-region theorems
  (Proofs/PlainSkip.lean, Proofs/PlainSkipSeg.lean) need:

  `nextToken_indep`   one scanner step depends on the whole source `src` and on the start position
                      only through the token position and the error report: length, success, kind and
                      text of the token are functions of the remaining text alone (`SameStep`)
  `nextToken_local`   RE-SYNCHRONISATION: if the text `X` in front of a `%` ends with white space behind
                      its last line break (`tailBlank`), no entry of the special table has white space
                      in front of its last character (`specialsLocal`), and the step on `X` alone
                      succeeds, then the step on `X ++ '%' :: R` is the same step — it does not look
                      beyond `X`.  Proved sub-scanner by sub-scanner: `scanSpace_local`,
                      `scanComment_local` (the comment ends at a line break inside `X`),
                      `matchSpecial_local` / `startsWith_local`, `scanVerb_local` (the closing delimiter
                      was found), `scanVerbatim_local` / `findSub_local` (`\end{verbatim}` was found
                      inside `X`), `scanMacro_local` (`%` ends a control word).
  Without the hypotheses the statement is false: `X = "\verb"` + line break takes the line break as
  delimiter and reads on; `X = "\begin{verbatim}…"` without its end looks for `\end{verbatim}` behind
  `X`; `X = "% c"` (a comment without its line break) or `X = "\"` absorb the `%`.
-/
import YalafiVerif.Proofs.PlainComment
namespace Yalafi
namespace Skip

/-- two scanner steps agree in everything but the position of the token and the error report -/
structure SameStep (s s' : ScanStep) : Prop where
  len : s.len = s'.len
  diag : s.diag.isSome = s'.diag.isSome
  ok : s'.diag = none → s.extra = [] ∧ s'.extra = [] ∧ s.tok.kind = s'.tok.kind ∧ s.tok.txt = s'.tok.txt

theorem SameStep.plain {k : Kind} {p p' : Nat} {txt : Str} {f f' : Bool} {n : Nat} :
    SameStep { tok := { kind := k, pos := p, txt := txt, fix := f }, len := n }
      { tok := { kind := k, pos := p', txt := txt, fix := f' }, len := n } :=
  ⟨rfl, rfl, fun _ => ⟨rfl, rfl, rfl, rfl⟩⟩

theorem SameStep.err {t t' : Tok} {n : Nat} {d d' : Diag} {e e' : List Tok} :
    SameStep { tok := t, len := n, diag := some d, extra := e }
      { tok := t', len := n, diag := some d', extra := e' } :=
  ⟨rfl, rfl, fun h => by cases h⟩

theorem SameStep.ite {c : Prop} [Decidable c] {a b a' b' : ScanStep}
    (h1 : SameStep a a') (h2 : SameStep b b') :
    SameStep (if c then a else b) (if c then a' else b') := by
  split
  · exact h1
  · exact h2

theorem scanVerb_indep (T : Tables) (src : Str) (pos : Nat) (rest : Str) :
    SameStep (scanVerb T src pos rest) (scanVerb T [] 0 rest) := by
  unfold scanVerb
  simp only []
  cases rest.drop 5 with
  | nil => exact .err
  | cons delim body =>
    simp only []
    cases body.drop (idxOf (fun c => c == delim || c == nl) body) with
    | nil => exact .err
    | cons c _ => exact .ite .err .plain

theorem scanVerbatim_indep (T : Tables) (src : Str) (pos : Nat) (rest : Str) :
    SameStep (scanVerbatim T src pos rest) (scanVerbatim T [] 0 rest) := by
  unfold scanVerbatim
  simp only []
  refine .ite .plain ?_
  cases findSub sEndVerbatim (rest.drop (6 + ((rest.drop 6).takeWhile isSpace).length + 10)) with
  | none => exact .err
  | some e => exact .plain

theorem scanMacro_indep (T : Tables) (src : Str) (pos : Nat) (rest : Str) :
    SameStep (scanMacro T src pos rest) (scanMacro T [] 0 rest) :=
  .ite (scanVerbatim_indep T src pos rest) (.ite .plain (.ite .plain
    (.ite (scanVerb_indep T src pos rest) (.ite .plain .plain))))

theorem scanArgToken_indep (T : Tables) (pos : Nat) (rest : Str) :
    SameStep (scanArgToken T pos rest) (scanArgToken T 0 rest) := by
  unfold scanArgToken
  cases rest.tail.head? with
  | none => exact .plain
  | some d =>
    simp only []
    cases decimalValue T.decimalZeros d with
    | none => exact .plain
    | some v => exact .plain

theorem nextToken_indep (T : Tables) (src : Str) (pos : Nat) (rest : Str) :
    SameStep (nextToken T src pos rest) (nextToken T [] 0 rest) := by
  cases rest with
  | nil => exact .plain
  | cons c cs =>
    refine .ite .plain (.ite .plain (.ite (scanArgToken_indep T pos _) ?_))
    cases matchSpecial T (c :: cs) with
    | some t => exact .plain
    | none => exact .ite (scanMacro_indep T src pos _) .plain

/-! ### re-synchronisation -/

/-- every character that is no white space has a line break somewhere behind it: the text is empty,
    or it ends with a line break that is followed by white space only -/
def tailBlank : Str → Bool
  | [] => true
  | c :: cs => (isSpace c || hasNl cs) && tailBlank cs

def endsSp : Str → Bool
  | [] => false
  | [c] => isSpace c
  | _ :: c :: cs => endsSp (c :: cs)

theorem endsSp_of_tailBlank : ∀ (X : Str), X ≠ [] → tailBlank X = true → endsSp X = true
  | [], h, _ => absurd rfl h
  | [c], _, h => by simpa [tailBlank, hasNl, endsSp] using h
  | _ :: c :: cs, _, h => by
    simp only [tailBlank, Bool.and_eq_true] at h
    simp only [endsSp]
    exact endsSp_of_tailBlank (c :: cs) (by simp) (by simp only [tailBlank, Bool.and_eq_true]; exact h.2)

theorem tailBlank_drop : ∀ (n : Nat) (X : Str), tailBlank X = true → tailBlank (X.drop n) = true
  | 0, _, h => h
  | _ + 1, [], h => h
  | n + 1, _ :: cs, h => by
    simp only [tailBlank, Bool.and_eq_true] at h
    exact tailBlank_drop n cs h.2

theorem endsSp_drop : ∀ (n : Nat) (X : Str), endsSp X = true → X.drop n ≠ [] → endsSp (X.drop n) = true
  | 0, _, h, _ => h
  | _ + 1, [], h, _ => by simp [endsSp] at h
  | n + 1, [c], _, hne => by simp at hne
  | n + 1, _ :: c :: cs, h, hne => by
    simp only [endsSp] at h
    exact endsSp_drop n (c :: cs) h (by simpa using hne)

theorem endsSp_ne {X : Str} (h : endsSp X = true) : X ≠ [] := by
  intro e; subst e; simp [endsSp] at h

theorem takeWhile_stop_mem {α} (p : α → Bool) : ∀ (a b : List α), (∃ x ∈ a, p x = false) →
    (a ++ b).takeWhile p = a.takeWhile p ∧ (a ++ b).dropWhile p = a.dropWhile p ++ b
  | [], _, h => by obtain ⟨x, hx, _⟩ := h; simp at hx
  | y :: a, b, h => by
    by_cases hy : p y = true
    · obtain ⟨x, hx, hpx⟩ := h
      rcases List.mem_cons.mp hx with rfl | hx
      · rw [hy] at hpx; cases hpx
      · have := takeWhile_stop_mem p a b ⟨x, hx, hpx⟩
        simp [hy, this.1, this.2]
    · simp [hy]

theorem startsWith_local (R : Str) : ∀ (X t : Str), endsSp X = true →
    t.dropLast.all (fun c => !isSpace c) = true →
    startsWith (X ++ '%' :: R) t = startsWith X t
  | _, [], _, _ => by simp [startsWith]
  | [], _ :: _, h, _ => by simp [endsSp] at h
  | [x], [d], _, _ => by simp [startsWith]
  | [x], d :: d2 :: t, h, ht => by
    simp only [endsSp] at h
    simp only [List.dropLast_cons_cons, List.all_cons, Bool.and_eq_true, Bool.not_eq_true'] at ht
    have : (x == d) = false := by
      cases hxd : x == d with
      | false => rfl
      | true => rw [beq_iff_eq] at hxd; rw [hxd] at h; rw [h] at ht; exact absurd ht.1 (by simp)
    simp [startsWith, this]
  | x :: x2 :: r, [d], _, _ => by simp [startsWith]
  | x :: x2 :: r, d :: d2 :: t, h, ht => by
    simp only [endsSp] at h
    simp only [List.dropLast_cons_cons, List.all_cons, Bool.and_eq_true] at ht
    have ih := startsWith_local R (x2 :: r) (d2 :: t) h ht.2
    simp only [List.cons_append, startsWith] at ih ⊢
    rw [ih]

/-- no entry of the special table has white space in front of its last character (in the tables of
    /repo: `\ `, `\⇥`, `\⏎` end with white space, no other entry contains any) -/
def specialsLocal (T : Tables) : Bool :=
  T.specialSorted.all (fun t => t.dropLast.all (fun c => !isSpace c))

theorem find?_congr' {α} (p q : α → Bool) : ∀ (l : List α), (∀ x ∈ l, p x = q x) →
    l.find? p = l.find? q
  | [], _ => rfl
  | a :: l, h => by
    simp only [List.find?_cons, h a (List.mem_cons_self ..),
      find?_congr' p q l (fun x hx => h x (List.mem_cons_of_mem _ hx))]

theorem mem_of_mem_dropLast' {α} : ∀ {l : List α} {x : α}, x ∈ l.dropLast → x ∈ l
  | [], _, h => by simp at h
  | [_], _, h => by simp at h
  | a :: b :: l, x, h => by
    simp only [List.dropLast_cons_cons, List.mem_cons] at h
    rcases h with rfl | h
    · simp
    · exact List.mem_cons_of_mem _ (mem_of_mem_dropLast' h)

theorem matchSpecial_local (T : Tables) (hT : specialsLocal T = true) (X R : Str)
    (h : endsSp X = true) : matchSpecial T (X ++ '%' :: R) = matchSpecial T X := by
  unfold matchSpecial
  exact find?_congr' _ _ _ (fun t ht => startsWith_local R X t h (List.all_eq_true.mp hT t ht))

theorem findSub_local (p R : Str) (hp : p.all (fun c => !isSpace c) = true) (hne : p ≠ []) :
    ∀ (X : Str) (e : Nat), endsSp X = true → findSub p X = some e →
      findSub p (X ++ '%' :: R) = some e
  | [], _, h, _ => by simp [endsSp] at h
  | c :: cs, e, h, hf => by
    have hp' : p.dropLast.all (fun c => !isSpace c) = true := by
      rw [List.all_eq_true] at hp ⊢
      exact fun x hx => hp x (mem_of_mem_dropLast' hx)
    have hsw := startsWith_local R (c :: cs) p h hp'
    simp only [List.cons_append, findSub] at hf ⊢
    rw [show c :: (cs ++ '%' :: R) = (c :: cs) ++ '%' :: R from rfl, hsw]
    split
    · rename_i hs; rw [if_pos hs] at hf; exact hf
    · rename_i hs
      rw [if_neg hs] at hf
      cases hc : findSub p cs with
      | none => rw [hc] at hf; cases hf
      | some e' =>
        rw [hc] at hf
        have hcs : cs ≠ [] := by
          intro e0; subst e0
          cases p with
          | nil => exact absurd rfl hne
          | cons => simp [findSub] at hc
        have hE : endsSp cs = true := by
          have := endsSp_drop 1 (c :: cs) h (by simpa using hcs)
          simpa using this
        rw [findSub_local p R hp hne cs e' hE hc]
        exact hf

theorem scanSpace_local (X R : Str) :
    scanSpace 0 (X ++ '%' :: R) = scanSpace 0 X := by
  simp only [scanSpace, takeWhile_stop1 isSpace '%' (by decide) X R]

theorem mem_of_hasNl {cs : Str} (h : hasNl cs = true) : ∃ x ∈ cs, (x != nl) = false := by
  simp only [hasNl, List.contains_iff_mem] at h
  exact ⟨nl, h, by simp⟩

theorem dropWhile_nl {cs : Str} (h : hasNl cs = true) : ∃ more, cs.dropWhile (· != nl) = nl :: more := by
  induction cs with
  | nil => simp [hasNl] at h
  | cons c cs ih =>
    by_cases hc : c = nl
    · exact ⟨cs, by simp [hc]⟩
    · have : hasNl cs = true := by
        simp only [hasNl, List.contains_iff_mem, List.mem_cons] at h ⊢
        rcases h with h | h
        · exact absurd h.symm hc
        · exact h
      obtain ⟨more, hm⟩ := ih this
      exact ⟨more, by simp [hc, hm]⟩

theorem commentSpan_local (c : Char) (cs R : Str) (h : hasNl cs = true) :
    Comment.commentSpan (c :: (cs ++ '%' :: R)) = Comment.commentSpan (c :: cs) := by
  obtain ⟨h1, h2⟩ := takeWhile_stop_mem (· != nl) cs ('%' :: R) (mem_of_hasNl h)
  obtain ⟨more, hm⟩ := dropWhile_nl h
  simp only [Comment.commentSpan, List.tail_cons, h1, h2, hm, List.cons_append,
    takeWhile_stop1 isSpace '%' (by decide) more R]

theorem scanComment_local (c : Char) (cs R : Str) (h : hasNl cs = true) :
    scanComment 0 (c :: cs ++ '%' :: R) = scanComment 0 (c :: cs) := by
  have hk := commentSpan_local c cs R h
  rw [Comment.commentSpan_eq_commentLen, Comment.commentSpan_eq_commentLen] at hk
  have hb := (ScannerAux.commentLen_bounds c cs).2
  simp only [scanComment, List.cons_append, hk]
  rw [show c :: (cs ++ '%' :: R) = (c :: cs) ++ '%' :: R from rfl, List.take_append_of_le_length hb]

theorem idxOf_append (f : Char → Bool) : ∀ (a b : Str), idxOf f a < a.length →
    idxOf f (a ++ b) = idxOf f a
  | [], _, h => by simp [idxOf] at h
  | c :: a, b, h => by
    simp only [List.cons_append, idxOf] at h ⊢
    split
    · rfl
    · rename_i hc
      rw [if_neg hc] at h
      rw [idxOf_append f a b (by simpa using h)]

theorem scanVerb_local (T : Tables) (X R : Str) (h5 : 5 ≤ X.length) (hne : X.drop 5 ≠ [])
    (hd : (scanVerb T [] 0 X).diag = none) :
    scanVerb T [] 0 (X ++ '%' :: R) = scanVerb T [] 0 X := by
  unfold scanVerb at hd ⊢
  simp only [] at hd ⊢
  rw [List.drop_append_of_le_length h5]
  cases hY : X.drop 5 with
  | nil => exact absurd hY hne
  | cons delim body =>
    rw [hY] at hd
    simp only [List.cons_append] at hd ⊢
    have hj := ScannerAux.idxOf_le (fun c => c == delim || c == nl) body
    cases hb : body.drop (idxOf (fun c => c == delim || c == nl) body) with
    | nil => rw [hb] at hd; simp at hd
    | cons c' tl =>
      have hlt : idxOf (fun c => c == delim || c == nl) body < body.length := by
        have := congrArg List.length hb
        simp only [List.length_drop, List.length_cons] at this
        omega
      rw [idxOf_append _ body ('%' :: R) hlt, List.drop_append_of_le_length hj, hb,
        List.take_append_of_le_length hj]
      rfl

theorem scanVerbatim_local (T : Tables) (X R : Str) (h6 : 6 ≤ X.length) (hE : endsSp X = true)
    (hd : (scanVerbatim T [] 0 X).diag = none) :
    scanVerbatim T [] 0 (X ++ '%' :: R) = scanVerbatim T [] 0 X := by
  unfold scanVerbatim at hd ⊢
  simp only [] at hd ⊢
  have hsp : ((X ++ '%' :: R).drop 6).takeWhile isSpace = (X.drop 6).takeWhile isSpace := by
    rw [List.drop_append_of_le_length h6, takeWhile_stop1 isSpace '%' (by decide)]
  rw [hsp]
  generalize hspd : (X.drop 6).takeWhile isSpace = sp at hd ⊢
  have hspl : sp.length ≤ (X.drop 6).length := by
    rw [← hspd]; exact ScannerAux.length_takeWhile_le' _ _
  have hp : 6 + sp.length ≤ X.length := by simp only [List.length_drop] at hspl; omega
  rw [List.drop_append_of_le_length hp]
  cases hA : X.drop (6 + sp.length) with
  | nil =>
    have hv : startsWith ('%' :: R) sVerbatimArg = false := by
      rw [show sVerbatimArg = '{' :: "verbatim}".toList from by decide]
      simp [startsWith]
    simp only [List.nil_append, List.isEmpty_nil, Bool.true_or, if_true, hv, Bool.not_false,
      Bool.or_true]
  | cons a A =>
    have hEA : endsSp (a :: A) = true := by
      rw [← hA]; exact endsSp_drop _ X hE (by rw [hA]; simp)
    have hsw := startsWith_local R (a :: A) sVerbatimArg hEA (by decide)
    rw [hA] at hd
    simp only [List.cons_append, List.isEmpty_cons, Bool.false_or] at hd ⊢
    rw [show a :: (A ++ '%' :: R) = (a :: A) ++ '%' :: R from rfl, hsw]
    by_cases hc : (decide (countNl sp > 1) || !startsWith (a :: A) sVerbatimArg) = true
    · simp only [if_pos hc]
    · simp only [if_neg hc] at hd ⊢
      have hsA : startsWith (a :: A) sVerbatimArg = true := by
        simp only [Bool.or_eq_true, Bool.not_eq_true', not_or] at hc
        cases hx : startsWith (a :: A) sVerbatimArg with
        | true => rfl
        | false => exact absurd hx hc.2
      have h10 : 10 ≤ (a :: A).length := by
        have := (ScannerAux.startsWith_spec _ _ hsA).1
        rw [ScannerAux.sVerbatimArg_length] at this
        exact this
      have hp2 : 6 + sp.length + 10 ≤ X.length := by
        have := congrArg List.length hA
        simp only [List.length_drop] at this
        omega
      rw [List.drop_append_of_le_length hp2]
      cases hf : findSub sEndVerbatim (X.drop (6 + sp.length + 10)) with
      | none => rw [hf] at hd; simp at hd
      | some e =>
        have hneB : X.drop (6 + sp.length + 10) ≠ [] := by
          intro e0
          rw [e0] at hf
          have hemp : sEndVerbatim.isEmpty = false := by decide
          simp [findSub, hemp] at hf
        have hEB := endsSp_drop _ X hE hneB
        rw [findSub_local sEndVerbatim R (by decide) (by decide) _ e hEB hf]
        have he := (ScannerAux.findSub_spec _ _ _ hf).1
        simp only []
        rw [List.take_append_of_le_length (by omega)]

theorem macroLen_local (cs R : Str) (hne : cs ≠ []) :
    macroLen ('\\' :: cs ++ '%' :: R) = macroLen ('\\' :: cs) := by
  have hc : 0 < cs.length := List.length_pos_iff.mpr hne
  have e1 : decide (1 < ('\\' :: (cs ++ '%' :: R)).length) = true := by simp; omega
  have e2 : decide (1 < ('\\' :: cs).length) = true := by simp; omega
  simp only [macroLen, List.cons_append, List.tail_cons, takeWhile_stop1 macroChar '%' (by decide) cs R,
    e1, e2]

theorem scanMacro_local (T : Tables) (cs R : Str) (hE : endsSp ('\\' :: cs) = true)
    (hd : (scanMacro T [] 0 ('\\' :: cs)).diag = none) :
    scanMacro T [] 0 ('\\' :: cs ++ '%' :: R) = scanMacro T [] 0 ('\\' :: cs) := by
  have hne : cs ≠ [] := by
    intro e; subst e; simp [endsSp] at hE; exact absurd hE (by decide)
  have hk := macroLen_local cs R hne
  have hb := (ScannerAux.macroLen_bounds '\\' cs).2
  unfold scanMacro at hd ⊢
  simp only [] at hd ⊢
  rw [hk, List.take_append_of_le_length hb]
  generalize hmac : ('\\' :: cs).take (macroLen ('\\' :: cs)) = mac at hd ⊢
  have hml : mac.length ≤ ('\\' :: cs).length := by
    rw [← hmac, List.length_take]; exact Nat.min_le_right _ _
  by_cases h1 : (mac == sBegin) = true
  · simp only [if_pos h1] at hd ⊢
    have h6 : 6 ≤ ('\\' :: cs).length := by
      rw [beq_iff_eq] at h1
      rw [h1, ScannerAux.sBegin_length] at hml
      exact hml
    exact scanVerbatim_local T ('\\' :: cs) R h6 hE hd
  · simp only [if_neg h1] at hd ⊢
    by_cases h2 : (mac == sEnd) = true
    · simp only [if_pos h2]
    · simp only [if_neg h2] at hd ⊢
      by_cases h3 : (mac == sItem) = true
      · simp only [if_pos h3]
      · simp only [if_neg h3] at hd ⊢
        by_cases h4 : (mac == sVerb) = true
        · simp only [if_pos h4] at hd ⊢
          rw [beq_iff_eq] at h4
          have h5 : 5 ≤ ('\\' :: cs).length := by
            rw [h4, ScannerAux.sVerb_length] at hml
            exact hml
          have hne5 : ('\\' :: cs).drop 5 ≠ [] := by
            intro e0
            have hl5 : ('\\' :: cs).length = 5 := by
              have := congrArg List.length e0
              simp only [List.length_drop, List.length_nil] at this
              omega
            have hm5 : 5 ≤ macroLen ('\\' :: cs) := by
              have := congrArg List.length hmac
              rw [h4, ScannerAux.sVerb_length, List.length_take] at this
              omega
            have : ('\\' :: cs) = sVerb := by
              rw [← h4, ← hmac, List.take_of_length_le (by omega)]
            rw [this] at hE
            exact absurd hE (by decide)
          exact scanVerb_local T ('\\' :: cs) R h5 hne5 hd
        · simp only [if_neg h4]

theorem nextToken_local (T : Tables) (hT : specialsLocal T = true) (X R : Str) (hX : X ≠ [])
    (hb : tailBlank X = true) (hd : (nextToken T [] 0 X).diag = none) :
    nextToken T [] 0 (X ++ '%' :: R) = nextToken T [] 0 X := by
  have hE := endsSp_of_tailBlank X hX hb
  cases X with
  | nil => exact absurd rfl hX
  | cons c cs =>
    have hm := matchSpecial_local T hT (c :: cs) R hE
    unfold nextToken at hd ⊢
    simp only [List.cons_append] at hd hm ⊢
    by_cases h1 : isSpace c = true
    · simp only [h1, if_true]
      exact scanSpace_local (c :: cs) R
    · simp only [h1, Bool.false_eq_true, if_false] at hd ⊢
      by_cases h2 : (c == '%') = true
      · simp only [h2, if_true]
        have hnl : hasNl cs = true := by
          simp only [tailBlank, Bool.and_eq_true, Bool.or_eq_true] at hb
          rcases hb.1 with h | h
          · exact absurd h h1
          · exact h
        exact scanComment_local c cs R hnl
      · simp only [h2, Bool.false_eq_true, if_false] at hd ⊢
        by_cases h3 : (c == '#') = true
        · simp only [h3, if_true]
          cases cs with
          | nil =>
            simp only [endsSp] at hE
            exact absurd hE h1
          | cons d ds => simp [scanArgToken]
        · simp only [h3, Bool.false_eq_true, if_false] at hd ⊢
          rw [hm]
          cases hms : matchSpecial T (c :: cs) with
          | some t => rfl
          | none =>
            rw [hms] at hd
            simp only [] at hd ⊢
            by_cases h4 : (c == '\\') = true
            · simp only [h4, if_true] at hd ⊢
              rw [beq_iff_eq] at h4
              subst h4
              exact scanMacro_local T cs R hE hd
            · simp only [h4, Bool.false_eq_true, if_false]

end Skip
end Yalafi
