/-
  Proofs/PlainLangMixML.lean — the multi-language splitter `get_txt_pos_ml` (`utils.py`) on ANY token
  list, as an explicit plan.  (First part of the END-TO-END theorem C12 for documents that mix
  `\selectlanguage`, `\foreignlanguage` and the `otherlanguage` environments; the expander part is in
  Proofs/PlainLangMix.lean, the file header with all side conditions in Proofs/PlainLangMixE2E.lean.)

  `get_txt_pos_ml` = section loop + joining loop + grouping.
    * The section loop is `PlainForeign.secsItems` on the items of the token list (characters with
      positions, language tokens): `PlainForeign.sections_secsItems` (general: soft switches push,
      hard switches replace the top, switches back pop).
    * This file gives the JOINING LOOP as a plan that does not mention the language-change
      collections:
        `Comp`      a component of a piece of the result: a section of the input VERBATIM (`own`), or
                    the placeholder that stands for a short inclusion (`ph`)
        `Group`     a piece of the result — its language and its components — together with the
                    short inclusions that were cut out of it (they are pieces of their own and are
                    emitted BEFORE the piece they were cut out of)
        `canJoin`   the test of the loop (the "HEURISTIC" of `get_txt_pos_ml`)
      and its rendering with the collections:
        `phChars`   what `ml_append_placeholder` appends for a non-blank inclusion
      `joinLoop_plan`: the loop of the model computes `renderGroups lc (planOf thresh secs)` and never
      fails, provided every collection is non-empty and the fallback `en` has one (`lcOk`).
    * `getTxtPosML_plan`: `get_txt_pos_ml` on any token list.
    * what the plan keeps (`planOf_perm`, `planOf_own_lang`, `renderFrom_own`): every section of the
      input occurs verbatim exactly once in the plan, under its own language, and its characters
      keep their positions in the rendered piece.
-/
import YalafiVerif.Proofs.PlainForeignCor
namespace Yalafi
namespace PlainLangMix

open LinesLang (Item Mark ch isLg itemsOf)
open PlainLang (addPart groupSecs groupParts_fold shiftParts)
open PlainForeign (secsItems sections_secsItems mkSec emitSec groupSecs_congr
  proj not_blank_any)

/-! ### the language-change collections -/

/-- every settings code has a non-empty language-change collection (`lang_change_repl`), and the
    fallback `en` of `check_parser_lang` is a settings code (otherwise Python raises in
    `ml_append_placeholder`) -/
def lcOk (lc : LangChange) : Bool :=
  lc.all (fun e => !e.2.isEmpty) && (lc.map (·.1)).contains "en".toList

theorem checkParserLang_mem (keys : List Str) (lang : Str) (h : keys.contains "en".toList = true) :
    checkParserLang keys lang ∈ keys := by
  unfold checkParserLang
  simp only []
  split
  · rename_i hc; simpa using hc
  · simpa using h

theorem lcOk_get (lc : LangChange) (h : lcOk lc = true) (lang : Str) :
    ∃ repl, lcGet lc (checkParserLang (lc.map (·.1)) lang) = some repl ∧ repl ≠ [] := by
  simp only [lcOk, Bool.and_eq_true, List.all_eq_true, Bool.not_eq_true', List.isEmpty_eq_false_iff] at h
  have hm := checkParserLang_mem (lc.map (·.1)) lang h.2
  obtain ⟨e, he, hk⟩ := List.mem_map.mp hm
  unfold lcGet
  cases hf : lc.find? (·.1 == checkParserLang (lc.map (·.1)) lang) with
  | none =>
    have := List.find?_eq_none.mp hf e he
    simp [hk] at this
  | some x =>
    exact ⟨x.2, rfl, h.1 x (List.mem_of_find?_eq_some hf)⟩

theorem lcOk_set (lc : LangChange) (h : lcOk lc = true) (k : Str) (v : List Str) (hv : v ≠ []) :
    lcOk (lcSet lc k v) = true := by
  simp only [lcOk, Bool.and_eq_true] at h ⊢
  refine ⟨?_, by rw [lcSet_keys]; exact h.2⟩
  rw [List.all_eq_true] at h ⊢
  intro e he
  unfold lcSet at he
  obtain ⟨x, hx, rfl⟩ := List.mem_map.mp he
  split
  · simpa using hv
  · exact h.1 x hx

/-! ### the plan -/

/-- a component of a piece of the result: a section of the input, verbatim; or the placeholder
    that stands for the short inclusion `incl` -/
inductive Comp where
  | own (s : Sec)
  | ph (incl : Sec)
deriving Repr, DecidableEq

/-- a piece of the result (language, components in order) and the short inclusions cut out of it:
    each of them is a piece of its own, emitted before this piece -/
structure Group where
  lang : Str
  comps : List Comp
  incls : List Sec
deriving Repr, DecidableEq

/-- the test of the joining loop for the section `s1` behind a piece of language `lang`, `next` = the
    language of the section behind `s1` (if any): `s1` was not started by a switch that forces a
    break (`\selectlanguage`) nor by a switch back (the end of a scope); the section behind it
    continues in the language of the piece; `s1` has at most `thresh` words -/
def canJoin (thresh : Nat) (lang : Str) (s1 : Sec) (next : Option Str) : Bool :=
  !s1.brk && !s1.back && (match next with | none => true | some l => lang == l) &&
    checkLangSection thresh s1

def consHead (c : List Comp) (i : List Sec) : List Group → List Group
  | [] => []
  | g :: gs => { g with comps := c ++ g.comps, incls := i ++ g.incls } :: gs

/-- **the plan for the sections that follow a piece of language `lang`**; the first group is the
    continuation of that piece.  A section that passes `canJoin` is cut out: it becomes an inclusion
    of the current piece, which gets a placeholder and continues with the section behind it;
    any other section ends the current piece and starts the next one. -/
def joinPlan (thresh : Nat) : Str → List Sec → List Group
  | lang, [] => [⟨lang, [], []⟩]
  | lang, s1 :: rest2 =>
    if canJoin thresh lang s1 (rest2.head?.map (·.lang)) then
      match rest2 with
      | [] => [⟨lang, [.ph s1], [s1]⟩]
      | s2 :: rest3 => consHead [.ph s1, .own s2] [s1] (joinPlan thresh lang rest3)
    else ⟨lang, [], []⟩ :: consHead [.own s1] [] (joinPlan thresh s1.lang rest2)

def planOf (thresh : Nat) : List Sec → List Group
  | [] => []
  | s0 :: rest => consHead [.own s0] [] (joinPlan thresh s0.lang rest)

theorem joinPlan_cons (thresh : Nat) (lang : Str) (s1 : Sec) (rest2 : List Sec) :
    joinPlan thresh lang (s1 :: rest2) =
      if canJoin thresh lang s1 (rest2.head?.map (·.lang)) then
        match rest2 with
        | [] => [⟨lang, [.ph s1], [s1]⟩]
        | s2 :: rest3 => consHead [.ph s1, .own s2] [s1] (joinPlan thresh lang rest3)
      else ⟨lang, [], []⟩ :: consHead [.own s1] [] (joinPlan thresh s1.lang rest2) := by
  cases rest2 <;> simp only [joinPlan]

/-- **a short inclusion inside a sentence**: three sections `a b c` where `b` passes the test — the
    piece of `a` gets ONE placeholder for `b` and continues with `c`; `b` is a piece of its own,
    emitted before it -/
theorem planOf_short (thresh : Nat) (a b c : Sec) (h : canJoin thresh a.lang b (some c.lang) = true) :
    planOf thresh [a, b, c] = [⟨a.lang, [.own a, .ph b, .own c], [b]⟩] := by
  simp [planOf, joinPlan, h, consHead]

/-- **a long inclusion (or a breaking switch, or a switch back) cuts**: if neither `b` nor `c`
    passes the test the three sections are three pieces -/
theorem planOf_long (thresh : Nat) (a b c : Sec) (h1 : canJoin thresh a.lang b (some c.lang) = false)
    (h2 : canJoin thresh b.lang c none = false) :
    planOf thresh [a, b, c] = [⟨a.lang, [.own a], []⟩, ⟨b.lang, [.own b], []⟩, ⟨c.lang, [.own c], []⟩] := by
  simp [planOf, joinPlan, h1, h2, consHead]

theorem joinPlan_head (thresh : Nat) : ∀ (rest : List Sec) (lang : Str),
    ∃ g gs, joinPlan thresh lang rest = g :: gs ∧ g.lang = lang
  | [], _ => ⟨_, _, rfl, rfl⟩
  | [s1], lang => by
    rw [joinPlan_cons]
    split
    · exact ⟨_, _, rfl, rfl⟩
    · exact ⟨_, _, rfl, rfl⟩
  | s1 :: s2 :: rest3, lang => by
    obtain ⟨g, gs, hg, hl⟩ := joinPlan_head thresh rest3 lang
    rw [joinPlan_cons]
    split
    · simp only []
      rw [hg]
      exact ⟨_, _, rfl, hl⟩
    · exact ⟨_, _, rfl, rfl⟩

theorem joinPlan_head_lang {thresh : Nat} {rest : List Sec} {lang : Str} {g : Group} {gs : List Group}
    (h : joinPlan thresh lang rest = g :: gs) : g.lang = lang := by
  obtain ⟨g', gs', hg, hl⟩ := joinPlan_head thresh rest lang
  rw [hg] at h
  cases h
  exact hl

/-- induction along the recursion of `joinPlan`: on the tail, and on the tail of the tail -/
theorem tail2_induction {α : Type} {P : List α → Prop} (nil : P [])
    (cons : ∀ s1 rest2, P rest2 → (∀ s2 rest3, rest2 = s2 :: rest3 → P rest3) → P (s1 :: rest2)) :
    ∀ l, P l := by
  have both : ∀ l, P l ∧ ∀ s2 rest3, l = s2 :: rest3 → P rest3 := by
    intro l
    induction l with
    | nil => exact ⟨nil, fun _ _ h => by cases h⟩
    | cons a l ih => exact ⟨cons a l ih.1 ih.2, fun _ _ h => by cases h; exact ih.1⟩
  exact fun l => (both l).1

/-! ### the rendering -/

/-- what `ml_append_placeholder` appends to the surrounding section for the NON-BLANK inclusion
    `incl`: the placeholder `r0`, every character of it at the position of the first visible
    character of the inclusion; in front of it the first character of the inclusion if that is
    white space, behind it the last one if that is white space (issue 117), at their own
    positions -/
def phChars (r0 : Str) (incl : Sec) : Str × List Nat :=
  let p := (incl.pos[idxOf (fun c => !isSpace c) incl.txt]?).getD 0
  let c0 := incl.txt.head?.getD ' '
  let cl := incl.txt.getLast?.getD ' '
  ((if isSpace c0 then [c0] else []) ++ r0 ++ (if isSpace cl then [cl] else []),
   (if isSpace c0 then [incl.pos.head?.getD 0] else []) ++ List.replicate r0.length p ++
     (if isSpace cl then [incl.pos.getLast?.getD 0] else []))

/-- a piece while it is rendered: text, positions, the collections in their current rotation -/
structure Acc where
  txt : Str
  pos : List Nat
  lc : LangChange
deriving Repr

/-- one component is appended to a piece of language `lang`: a section verbatim; a blank inclusion
    verbatim; for any other inclusion the collection of (the settings of) `lang` is rotated by one
    FIRST and its new head is the placeholder -/
def addComp (lang : Str) (a : Acc) : Comp → Acc
  | .own s => { a with txt := a.txt ++ s.txt, pos := a.pos ++ s.pos }
  | .ph incl =>
    if isBlank incl.txt then { a with txt := a.txt ++ incl.txt, pos := a.pos ++ incl.pos }
    else
      let key := checkParserLang (a.lc.map (·.1)) lang
      let repl := rotate ((lcGet a.lc key).getD [])
      let t := phChars (repl.headD []) incl
      { txt := a.txt ++ t.1, pos := a.pos ++ t.2, lc := lcSet a.lc key repl }

/-- a rendered piece as a section (the flags are not read behind this point) -/
def accSec (lang : Str) (a : Acc) : Sec := { lang := lang, back := false, brk := false, txt := a.txt, pos := a.pos }

/-- the groups rendered in order, the first one continuing the piece `a`: the inclusions of a
    group first, then its piece; the collections are handed on -/
def renderFrom : Acc → List Group → List Sec
  | _, [] => []
  | a, g :: gs =>
    g.incls ++ accSec g.lang (g.comps.foldl (addComp g.lang) a) ::
      renderFrom ⟨[], [], (g.comps.foldl (addComp g.lang) a).lc⟩ gs

/-- **the pieces of the result**, in the order in which `get_txt_pos_ml` produces them -/
def renderGroups (lc : LangChange) (gs : List Group) : List Sec := renderFrom ⟨[], [], lc⟩ gs

theorem renderFrom_consHead (a : Acc) (c : List Comp) (i : List Sec) (g : Group) (gs : List Group) :
    renderFrom a (consHead c i (g :: gs)) = i ++ renderFrom (c.foldl (addComp g.lang) a) (g :: gs) := by
  simp [consHead, renderFrom, List.foldl_append]

/-! ### `ml_append_placeholder` -/

theorem addComp_lcOk (lang : Str) (a : Acc) (c : Comp) (h : lcOk a.lc = true) :
    lcOk (addComp lang a c).lc = true := by
  cases c with
  | own s => exact h
  | ph incl =>
    simp only [addComp]
    split
    · exact h
    · obtain ⟨repl, hg, hne⟩ := lcOk_get a.lc h lang
      simp only [hg, Option.getD_some]
      exact lcOk_set a.lc h _ _ (rotate_ne_nil repl hne)

theorem appendPlaceholder_addComp (a : Acc) (s0 incl : Sec) (h : lcOk a.lc = true) (hw : SecWf incl)
    (ht : s0.txt = a.txt) (hp : s0.pos = a.pos) :
    appendPlaceholder a.lc s0 incl
      = some ({ s0 with txt := (addComp s0.lang a (.ph incl)).txt, pos := (addComp s0.lang a (.ph incl)).pos },
              (addComp s0.lang a (.ph incl)).lc) := by
  unfold appendPlaceholder
  simp only [addComp]
  by_cases hb : isBlank incl.txt = true
  · simp only [hb, if_true, ht, hp]
  · have hb' : isBlank incl.txt = false := by simpa using hb
    simp only [hb', Bool.false_eq_true, if_false]
    obtain ⟨repl, hg, hne⟩ := lcOk_get a.lc h s0.lang
    obtain ⟨r0, rt, hrot⟩ : ∃ r0 rt, rotate repl = r0 :: rt := by
      cases hr : rotate repl with
      | nil => exact absurd hr (rotate_ne_nil repl hne)
      | cons x t => exact ⟨x, t, rfl⟩
    have hlt := idxOf_lt_of_any (fun c => !isSpace c) incl.txt (not_blank_any incl.txt hb')
    obtain ⟨c0, cs, htxt⟩ : ∃ c0 cs, incl.txt = c0 :: cs := by
      cases hx : incl.txt with
      | nil => exact absurd hx hw.ne
      | cons c cs => exact ⟨c, cs, rfl⟩
    obtain ⟨p0, ps, hpos⟩ : ∃ p0 ps, incl.pos = p0 :: ps := by
      cases hx : incl.pos with
      | nil => have := hw.len; rw [hx, htxt] at this; simp at this
      | cons p ps => exact ⟨p, ps, rfl⟩
    obtain ⟨cl, hcl⟩ := Call.getLast?_of_ne hw.ne
    obtain ⟨pl, hpl⟩ := Call.getLast?_of_ne (b := incl.pos) (by rw [hpos]; exact List.cons_ne_nil p0 ps)
    obtain ⟨p, hpp⟩ : ∃ p, incl.pos[idxOf (fun c => !isSpace c) incl.txt]? = some p := by
      rw [List.getElem?_eq_getElem (by rw [hw.len]; exact hlt)]
      exact ⟨_, rfl⟩
    have hh0 : incl.txt.head? = some c0 := by rw [htxt]; rfl
    have hh1 : incl.pos.head? = some p0 := by rw [hpos]; rfl
    simp only [hg, hrot, List.head?_cons, hpp, hh0, hh1, hcl, hpl, Option.getD_some, phChars,
      List.headD_cons, ht, hp]
    cases isSpace c0 <;> cases isSpace cl <;> simp

/-! ### the joining loop -/

theorem canJoin_eq (thresh : Nat) (s0 s1 : Sec) (rest2 : List Sec) :
    (!s1.brk && !s1.back && (match rest2 with | [] => true | s2 :: _ => s0.lang == s2.lang)
      && checkLangSection thresh s1) = canJoin thresh s0.lang s1 (rest2.head?.map (·.lang)) := by
  cases rest2 <;> rfl

theorem proj_accSec (s0 : Sec) (a : Acc) (ht : s0.txt = a.txt) (hp : s0.pos = a.pos) :
    proj s0 = proj (accSec s0.lang a) := by
  simp [proj, accSec, ht, hp]

theorem joinLoop_cons2 (thresh f : Nat) (lc : LangChange) (s0 s1 : Sec) (rest2 out : List Sec) :
    joinLoop thresh (f + 1) lc (s0 :: s1 :: rest2) out =
      if canJoin thresh s0.lang s1 (rest2.head?.map (·.lang)) then
        match appendPlaceholder lc s0 s1 with
        | none => none
        | some (s0', lc') =>
          match rest2 with
          | [] => joinLoop thresh f lc' [s0'] (out ++ [s1])
          | s2 :: rest3 =>
            joinLoop thresh f lc' ({ s0' with txt := s0'.txt ++ s2.txt, pos := s0'.pos ++ s2.pos } :: rest3)
              (out ++ [s1])
      else joinLoop thresh f lc (s1 :: rest2) (out ++ [s0]) := by
  cases rest2 <;> simp only [joinLoop, canJoin, List.head?_cons, List.head?_nil, Option.map_some, Option.map_none]
    <;> split <;> rename_i h <;> simp only [h, if_true, if_false, Bool.false_eq_true]
    <;> cases appendPlaceholder lc s0 s1 <;> rfl

/-- **the joining loop of the model follows the plan.**  `s0` is the current piece, rendered so
    far as `a`; `rest` are the sections behind it. -/
theorem joinLoop_plan (thresh : Nat) : ∀ (rest : List Sec) (s0 : Sec) (a : Acc) (out : List Sec)
      (fuel : Nat), (∀ s ∈ rest, SecWf s) → lcOk a.lc = true → s0.txt = a.txt → s0.pos = a.pos →
      rest.length + 1 ≤ fuel →
      ∃ res lc', joinLoop thresh fuel a.lc (s0 :: rest) out = some (out ++ res, lc') ∧
        res.map proj = (renderFrom a (joinPlan thresh s0.lang rest)).map proj := by
  refine tail2_induction ?_ ?_
  · intro s0 a out fuel _ _ ht hp hf
    obtain ⟨f, rfl⟩ : ∃ f, fuel = f + 1 := ⟨fuel - 1, by simp at hf; omega⟩
    exact ⟨[s0], a.lc, joinLoop_one .., by simp [joinPlan, renderFrom, proj_accSec s0 a ht hp]⟩
  · intro s1 rest2 ih2 ih3 s0 a out fuel hwf hlc ht hp hf
    obtain ⟨f, rfl⟩ : ∃ f, fuel = f + 1 := ⟨fuel - 1, by simp at hf; omega⟩
    have hw1 : SecWf s1 := hwf s1 (List.mem_cons_self ..)
    have hwf2 : ∀ s ∈ rest2, SecWf s := fun s hs => hwf s (List.mem_cons_of_mem _ hs)
    simp only [List.length_cons] at hf
    rw [joinLoop_cons2]
    by_cases hj : canJoin thresh s0.lang s1 (rest2.head?.map (·.lang)) = true
    · -- a short inclusion
      have hph := appendPlaceholder_addComp a s0 s1 hlc hw1 ht hp
      have hlc' := addComp_lcOk s0.lang a (.ph s1) hlc
      rw [if_pos hj, hph]
      cases rest2 with
      | nil =>
        obtain ⟨g, rfl⟩ : ∃ g, f = g + 1 := ⟨f - 1, by simp at hf; omega⟩
        refine ⟨[s1, { s0 with txt := (addComp s0.lang a (.ph s1)).txt,
                               pos := (addComp s0.lang a (.ph s1)).pos }],
          (addComp s0.lang a (.ph s1)).lc, ?_, ?_⟩
        · simp only [joinLoop_one]
          simp
        · simp only [joinPlan, hj, if_true, renderFrom, List.foldl_cons, List.foldl_nil,
            List.map_cons, List.map_nil, List.singleton_append]
          simp [proj, accSec]
      | cons s2 rest3 =>
        have hlang : s2.lang = s0.lang := by
          simp only [canJoin, List.head?_cons, Option.map_some, Bool.and_eq_true, beq_iff_eq] at hj
          exact hj.1.2.symm
        obtain ⟨res, lc', h1, h2⟩ := ih3 s2 rest3 rfl
          { s0 with txt := (addComp s0.lang a (.ph s1)).txt ++ s2.txt,
                    pos := (addComp s0.lang a (.ph s1)).pos ++ s2.pos }
          (addComp s0.lang (addComp s0.lang a (.ph s1)) (.own s2)) (out ++ [s1]) f
          (fun s hs => hwf2 s (List.mem_cons_of_mem _ hs)) hlc' rfl rfl
          (by simp only [List.length_cons] at hf; omega)
        refine ⟨s1 :: res, lc', ?_, ?_⟩
        · simp only []
          have e : (addComp s0.lang (addComp s0.lang a (.ph s1)) (.own s2)).lc
              = (addComp s0.lang a (.ph s1)).lc := rfl
          rw [e] at h1
          rw [h1]
          simp
        · obtain ⟨g, gs, hg, hgl⟩ := joinPlan_head thresh rest3 s0.lang
          simp only [joinPlan, hj, if_true, hg, renderFrom_consHead, List.map_cons,
            List.singleton_append, hgl, List.foldl_cons, List.foldl_nil]
          rw [h2, hg]
    · -- the piece ends
      rw [if_neg hj]
      obtain ⟨res, lc', h1, h2⟩ := ih2 s1 ⟨s1.txt, s1.pos, a.lc⟩ (out ++ [s0]) f
        hwf2 hlc rfl rfl (by omega)
      refine ⟨s0 :: res, lc', ?_, ?_⟩
      · rw [h1]; simp
      · obtain ⟨g, gs, hg, hgl⟩ := joinPlan_head thresh rest2 s1.lang
        rw [hg] at h2
        rw [joinPlan_cons, if_neg hj, hg, renderFrom, renderFrom_consHead]
        simp only [List.foldl_nil, List.nil_append, List.map_cons, List.foldl_cons, hgl, addComp, h2]
        rw [proj_accSec s0 a ht hp]

/-! ### `get_txt_pos_ml` on any token list -/

def secsOf (main : Str) (items : List Item) : List Sec := secsItems [main] false false [] items

theorem getTxtPosML_plan (toks : List Tok) (main : Str) (thresh : Nat) (lc : LangChange)
    (h : lcOk lc = true) :
    ∃ lc', getTxtPosML toks main thresh lc
      = some (groupSecs (renderGroups lc (planOf thresh (secsOf main (itemsOf toks)))), lc') := by
  unfold getTxtPosML secsOf
  simp only [sections_secsItems]
  generalize hS : secsItems [main] false false [] (itemsOf toks) = secs
  have hwf : ∀ s ∈ secs, SecWf s := by rw [← hS]; exact secsItems_wf _ _ _ _ _
  cases secs with
  | nil =>
    refine ⟨lc, ?_⟩
    simp [joinLoop, groupParts, planOf, renderGroups, renderFrom, groupSecs]
  | cons s0 rest =>
    obtain ⟨res, lc', h1, h2⟩ := joinLoop_plan thresh rest s0
      ⟨s0.txt, s0.pos, lc⟩ [] (s0 :: rest).length (fun s hs => hwf s (List.mem_cons_of_mem _ hs)) h rfl rfl
      (by simp)
    refine ⟨lc', ?_⟩
    simp only [] at h1
    rw [h1]
    simp only [List.nil_append, groupParts_fold]
    have : groupSecs res = groupSecs (renderGroups lc (planOf thresh (s0 :: rest))) := by
      apply groupSecs_congr
      rw [h2]
      obtain ⟨g, gs, hg, _⟩ := joinPlan_head thresh rest s0.lang
      simp [planOf, renderGroups, hg, renderFrom_consHead, addComp]
    rw [← this]
    rfl

/-! ### what the plan keeps -/

def compOwn : Comp → List Sec
  | .own s => [s]
  | .ph _ => []

/-- the sections of the input that a group holds verbatim: its `own` components and its inclusions -/
def groupOwn (g : Group) : List Sec := g.comps.flatMap compOwn ++ g.incls

def planSecs (gs : List Group) : List Sec := gs.flatMap groupOwn

theorem planSecs_consHead (c : List Comp) (i : List Sec) (g : Group) (gs : List Group) :
    (planSecs (consHead c i (g :: gs))).Perm (c.flatMap compOwn ++ i ++ planSecs (g :: gs)) := by
  simp only [planSecs, consHead, List.flatMap_cons, groupOwn, List.flatMap_append, List.append_assoc]
  refine List.Perm.append_left _ ?_
  have h : ∀ (A B R : List Sec), (A ++ (B ++ R)).Perm (B ++ (A ++ R)) := by
    intro A B R
    rw [← List.append_assoc, ← List.append_assoc]
    exact List.Perm.append_right _ List.perm_append_comm
  exact h _ _ _

theorem joinPlan_perm (thresh : Nat) : ∀ (rest : List Sec) (lang : Str),
    (planSecs (joinPlan thresh lang rest)).Perm rest := by
  refine tail2_induction (by simp [joinPlan, planSecs, groupOwn]) ?_
  intro s1 rest2 ih2 ih3 lang
  rw [joinPlan_cons]
  split
  · cases rest2 with
    | nil => simp [planSecs, groupOwn, compOwn]
    | cons s2 rest3 =>
      obtain ⟨g, gs, hg, _⟩ := joinPlan_head thresh rest3 lang
      simp only []
      rw [hg]
      refine (planSecs_consHead _ _ g gs).trans ?_
      rw [← hg]
      have := ih3 s2 rest3 rfl lang
      simp only [List.flatMap_cons, List.flatMap_nil, compOwn, List.nil_append, List.append_nil,
        List.cons_append]
      exact (List.Perm.swap _ _ _).trans ((this.cons _).cons _)
  · obtain ⟨g, gs, hg, _⟩ := joinPlan_head thresh rest2 s1.lang
    rw [hg]
    have h0 : planSecs (⟨lang, [], []⟩ :: consHead [Comp.own s1] [] (g :: gs))
        = planSecs (consHead [Comp.own s1] [] (g :: gs)) := by
      simp [planSecs, groupOwn]
    rw [h0]
    refine (planSecs_consHead _ _ g gs).trans ?_
    rw [← hg]
    have := ih2 s1.lang
    simp only [List.flatMap_cons, List.flatMap_nil, compOwn, List.append_nil, List.singleton_append]
    exact this.cons _

/-- **every section of the input occurs verbatim exactly once in the plan** (as an `own`
    component of a piece, or as an inclusion, i.e. a piece of its own) -/
theorem planOf_perm (thresh : Nat) (secs : List Sec) : (planSecs (planOf thresh secs)).Perm secs := by
  cases secs with
  | nil => simp [planOf, planSecs]
  | cons s0 rest =>
    obtain ⟨g, gs, hg, _⟩ := joinPlan_head thresh rest s0.lang
    simp only [planOf, hg]
    refine (planSecs_consHead _ _ g gs).trans ?_
    rw [← hg]
    simp only [List.flatMap_cons, List.flatMap_nil, compOwn, List.append_nil, List.singleton_append]
    exact (joinPlan_perm thresh rest s0.lang).cons _

theorem mem_consHead {c : List Comp} {i : List Sec} {gs : List Group} {g : Group}
    (h : g ∈ consHead c i gs) :
    (∃ g0 gs', gs = g0 :: gs' ∧ g = { g0 with comps := c ++ g0.comps, incls := i ++ g0.incls }) ∨
    (g ∈ gs.tail) := by
  cases gs with
  | nil => simp [consHead] at h
  | cons g0 gs' =>
    simp only [consHead, List.mem_cons] at h
    rcases h with rfl | h
    · exact Or.inl ⟨g0, gs', rfl, rfl⟩
    · exact Or.inr h

theorem joinPlan_own_lang (thresh : Nat) : ∀ (rest : List Sec) (lang : Str),
    ∀ g ∈ joinPlan thresh lang rest, ∀ s, Comp.own s ∈ g.comps → s.lang = g.lang := by
  refine tail2_induction ?_ ?_
  · intro lang g hg s hs
    simp only [joinPlan, List.mem_singleton] at hg
    subst hg
    cases hs
  · intro s1 rest2 ih2 ih3 lang g hg s hs
    rw [joinPlan_cons] at hg
    split at hg
    · rename_i hj
      cases rest2 with
      | nil =>
        simp only [List.mem_singleton] at hg
        subst hg
        simp at hs
      | cons s2 rest3 =>
        have hlang : s2.lang = lang := by
          simp only [canJoin, List.head?_cons, Option.map_some, Bool.and_eq_true, beq_iff_eq] at hj
          exact hj.1.2.symm
        simp only [] at hg
        rcases mem_consHead hg with ⟨g0, gs', hg0, rfl⟩ | hg
        · have hgl : g0.lang = lang := joinPlan_head_lang hg0
          simp only [List.mem_append, List.mem_cons, reduceCtorEq, Comp.own.injEq, List.not_mem_nil,
            or_false, false_or] at hs
          rcases hs with rfl | hs
          · rw [hlang, hgl]
          · exact ih3 s2 rest3 rfl lang g0 (by rw [hg0]; exact List.mem_cons_self ..) s hs
        · exact ih3 s2 rest3 rfl lang g (List.mem_of_mem_tail hg) s hs
    · simp only [List.mem_cons] at hg
      rcases hg with rfl | hg
      · cases hs
      · rcases mem_consHead hg with ⟨g0, gs', hg0, rfl⟩ | hg
        · have hgl : g0.lang = s1.lang := joinPlan_head_lang hg0
          simp only [List.mem_append, List.mem_cons, Comp.own.injEq, List.not_mem_nil, or_false] at hs
          rcases hs with rfl | hs
          · exact hgl.symm
          · exact ih2 s1.lang g0 (by rw [hg0]; exact List.mem_cons_self ..) s hs
        · exact ih2 s1.lang g (List.mem_of_mem_tail hg) s hs

/-- **a section that is a verbatim component of a piece has the language of the piece** -/
theorem planOf_own_lang (thresh : Nat) (secs : List Sec) :
    ∀ g ∈ planOf thresh secs, ∀ s, Comp.own s ∈ g.comps → s.lang = g.lang := by
  intro g hg s hs
  cases secs with
  | nil => simp [planOf] at hg
  | cons s0 rest =>
    simp only [planOf] at hg
    rcases mem_consHead hg with ⟨g0, gs', hg0, rfl⟩ | hg
    · have hgl : g0.lang = s0.lang := joinPlan_head_lang hg0
      simp only [List.mem_append, List.mem_cons, Comp.own.injEq, List.not_mem_nil, or_false] at hs
      rcases hs with rfl | hs
      · exact hgl.symm
      · exact joinPlan_own_lang thresh rest s0.lang g0
          (by rw [hg0]; exact List.mem_cons_self ..) s hs
    · exact joinPlan_own_lang thresh rest s0.lang g
        (List.mem_of_mem_tail hg) s hs

/-! ### the rendering keeps the characters of the verbatim components -/

def accChars (a : Acc) : List (Char × Nat) := a.txt.zip a.pos

def CompWf : Comp → Prop
  | .own s => SecWf s
  | .ph s => SecWf s

theorem addComp_chars (lang : Str) (a : Acc) (c : Comp) (ha : a.pos.length = a.txt.length)
    (hc : CompWf c) :
    (addComp lang a c).pos.length = (addComp lang a c).txt.length ∧
    ∃ extra, accChars (addComp lang a c) = accChars a ++ extra ∧ ∀ s, c = .own s → extra = secChars s := by
  cases c with
  | own s =>
    have hl : s.pos.length = s.txt.length := hc.len
    refine ⟨by simp [addComp, ha, hl], secChars s, ?_, fun s' h => by cases h; rfl⟩
    simp only [accChars, addComp, secChars]
    exact List.zip_append ha.symm
  | ph incl =>
    have hl : incl.pos.length = incl.txt.length := hc.len
    simp only [addComp]
    split
    · refine ⟨by simp [ha, hl], incl.txt.zip incl.pos, ?_, fun s h => by cases h⟩
      simp only [accChars]
      exact List.zip_append ha.symm
    · have hlen : ∀ r0, (phChars r0 incl).2.length = (phChars r0 incl).1.length := by
        intro r0
        simp only [phChars]
        split <;> split <;> simp
      exact ⟨by simp [ha, hlen], _, List.zip_append ha.symm, fun s h => by cases h⟩

theorem fold_chars (lang : Str) : ∀ (comps : List Comp) (a : Acc), a.pos.length = a.txt.length →
    (∀ c ∈ comps, CompWf c) →
    (comps.foldl (addComp lang) a).pos.length = (comps.foldl (addComp lang) a).txt.length ∧
    (∀ cp ∈ accChars a, cp ∈ accChars (comps.foldl (addComp lang) a)) ∧
    ∀ s, Comp.own s ∈ comps → ∀ cp ∈ secChars s, cp ∈ accChars (comps.foldl (addComp lang) a)
  | [], a, ha, _ => ⟨ha, fun _ h => h, fun s hs => by cases hs⟩
  | c :: cs, a, ha, hw => by
    obtain ⟨h1, extra, h2, h3⟩ := addComp_chars lang a c ha (hw c (List.mem_cons_self ..))
    obtain ⟨i1, i2, i3⟩ := fold_chars lang cs (addComp lang a c) h1
      (fun x hx => hw x (List.mem_cons_of_mem _ hx))
    refine ⟨i1, ?_, ?_⟩
    · intro cp hcp
      exact i2 cp (by rw [h2]; exact List.mem_append_left _ hcp)
    · intro s hs cp hcp
      rcases List.mem_cons.mp hs with rfl | hs
      · exact i2 cp (by rw [h2, h3 s rfl]; exact List.mem_append_right _ hcp)
      · exact i3 s hs cp hcp

def GroupWf (g : Group) : Prop := ∀ c ∈ g.comps, CompWf c

/-- **the rendered pieces hold the verbatim sections**: an inclusion is a piece of the result as it
    is; an `own` component of a group is part of the rendered piece of the group (same language
    by `planOf_own_lang`), every character with its position -/
theorem renderFrom_own : ∀ (gs : List Group) (a : Acc), a.pos.length = a.txt.length →
    (∀ g ∈ gs, GroupWf g) →
    ∀ g ∈ gs, (∀ s ∈ g.incls, s ∈ renderFrom a gs) ∧
      ∀ s, Comp.own s ∈ g.comps → ∃ sec ∈ renderFrom a gs, sec.lang = g.lang ∧
        ∀ cp ∈ secChars s, cp ∈ secChars sec
  | [], _, _, _ => by intro g hg; cases hg
  | g0 :: gs, a, ha, hw => by
    intro g hg
    rcases List.mem_cons.mp hg with rfl | hg
    · refine ⟨fun s hs => ?_, fun s hs => ?_⟩
      · simp only [renderFrom, List.mem_append, List.mem_cons]
        exact Or.inl hs
      · obtain ⟨_, _, i3⟩ := fold_chars g.lang g.comps a ha (hw g (List.mem_cons_self ..))
        refine ⟨accSec g.lang (g.comps.foldl (addComp g.lang) a), ?_, rfl, i3 s hs⟩
        simp only [renderFrom, List.mem_append, List.mem_cons]
        exact Or.inr (Or.inl trivial)
    · obtain ⟨j1, j2⟩ := renderFrom_own gs ⟨[], [], (g0.comps.foldl (addComp g0.lang) a).lc⟩ rfl
        (fun x hx => hw x (List.mem_cons_of_mem _ hx)) g hg
      refine ⟨fun s hs => ?_, fun s hs => ?_⟩
      · simp only [renderFrom, List.mem_append, List.mem_cons]
        exact Or.inr (Or.inr (j1 s hs))
      · obtain ⟨sec, h1, h2, h3⟩ := j2 s hs
        refine ⟨sec, ?_, h2, h3⟩
        simp only [renderFrom, List.mem_append, List.mem_cons]
        exact Or.inr (Or.inr h1)

theorem planSecs_comp_mem (gs : List Group) : ∀ g ∈ gs, ∀ s, Comp.own s ∈ g.comps → s ∈ planSecs gs := by
  intro g hg s hs
  simp only [planSecs, List.mem_flatMap]
  refine ⟨g, hg, ?_⟩
  simp only [groupOwn, List.mem_append, List.mem_flatMap]
  exact Or.inl ⟨.own s, hs, by simp [compOwn]⟩

end PlainLangMix
end Yalafi
