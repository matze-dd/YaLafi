/-
  Proofs/PlainMixRead.lean — readings of the reference `delLines (marks …)` of the union grammar
  (Proofs/PlainMixE2E.lean); the general facts about `delLines` (`delLines_sublist`, `delLines_words`,
  `delLines_mid`, `delLines_end`) are in Proofs/DelLines.lean.

    `plain`, `marks_chars` the characters of the marks of a document: text, special values, `\verb`
                           contents, placeholders with punctuation — nothing of keys, comments,
                           control-word names, formula bodies
-/
import YalafiVerif.Proofs.PlainMixE2E
namespace Yalafi
namespace PlainMix

open M
open PlainMacro


def plain (T : PTables) (repls : List Str) : Nat → Nat → List Seg → List (Char × Nat)
  | _, _, [] => []
  | k, p, .txt s :: rest => posText p s ++ plain T repls k (p + s.length) rest
  | k, p, .spc key :: rest =>
    posText p (specialValD T.toTables key) ++ plain T repls k (p + key.length) rest
  | k, p, .cw name sp :: rest => plain T repls k (p + (name.length + 1 + sp.length)) rest
  | k, p, .van name key :: rest => plain T repls k (p + PlainVanish.vanLen name key) rest
  | k, p, .com body :: rest => plain T repls k (p + (body.length + 1)) rest
  | k, p, .verb _ s :: rest => posText (p + 6) s ++ plain T repls k (p + (s.length + 7)) rest
  | k, p, .math body :: rest =>
    (PlainMath.placeholder repls (k + 1) ++ PlainMath.punctOf T body).map
        (fun c => (c, p + 1 + PlainMath.leadBlanks body))
      ++ plain T repls (k + 1) (p + (body.length + 2)) rest

theorem filterMap_map_some' {α β} (f : α → β) (l : List α) :
    (l.map (fun c => some (f c))).filterMap id = l.map f := by
  induction l with
  | nil => rfl
  | cons a l ih => simp [ih]

theorem marks_chars (T : PTables) (repls : List Str) : ∀ (segs : List Seg) (k p : Nat),
    (marks T repls k p segs).filterMap id = plain T repls k p segs
  | [], _, _ => rfl
  | s :: rest, k, p => by
    cases s <;>
      simp only [marks, plain, mathMarks, List.cons_append, List.nil_append, List.append_assoc,
        List.filterMap_cons, List.filterMap_append, id, filterMap_map_some, filterMap_map_some',
        marks_chars T repls rest]

end PlainMix
end Yalafi
