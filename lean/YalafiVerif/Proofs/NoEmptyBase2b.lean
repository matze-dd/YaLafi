/-
  Proofs/NoEmptyBase2b.lean — leaf lemmas for the NoEmpty bundle: scanner (`scan_ANE`), maths replacement
  (`replaceSection_ANC`), skip pre-pass (`skipPass_spec`), extraction macros (`initExtractions_StOk`).
-/
import YalafiVerif.Proofs.NoEmptyDefs
import YalafiVerif.Proofs.NoEmptyBase1
import YalafiVerif.Proofs.Inv.StepMath
namespace Yalafi
namespace NoEmpty

variable {T : PTables}

private def TN (s : ScanStep) : Prop :=
  (s.tok.kind = .text → s.tok.txt ≠ []) ∧ ∀ t ∈ s.extra, t.txt ≠ []

private theorem TN_simple (s : ScanStep) (h1 : s.tok.kind ≠ .text) (h2 : s.extra = []) : TN s :=
  ⟨fun h => absurd h h1, by rw [h2]; intro t ht; cases ht⟩

private theorem TN_err (e : Str) (p n k : Nat) (d : Option Diag) (hp : p < n) :
    TN { tok := (latexErrorToks T.toTables e p n).headD default, len := k, diag := d,
         extra := (latexErrorToks T.toTables e p n).tail } := by
  have h := latexErrorToks_ANE (T := T) e p n hp
  have hc := ScannerAux.latexErrorToks_cons T.toTables e p n
  have hk := ScannerAux.latexErrorToks_all T.toTables e p n
  constructor
  · intro hkd
    have hm : (latexErrorToks T.toTables e p n).headD default ∈ latexErrorToks T.toTables e p n := by
      rw [← hc]; simp
    exact (h _ hm).2.1 hkd
  · intro t ht
    have hm : t ∈ latexErrorToks T.toTables e p n := List.mem_of_mem_tail ht
    exact (h _ hm).2.1 (hk t hm).2.1

private theorem TN_of_leaf {src rest : Str} {start : Nat} {s : ScanStep} (h : ScanLeaf T.toTables src start rest s)
    (hp : start < src.length) : TN s := by
  cases h with
  | err e k d => exact TN_err _ _ _ _ _ hp
  | plain tok k hk => exact TN_simple _ (plainKind_facts hk).2.2.1 rfl
  | text c => exact ⟨fun _ => by simp, fun t ht => by cases ht⟩
  | _ => exact TN_simple _ (by simp) rfl

/-- every scanner token is in range, a text token of the scanner is never empty, the scanner
    creates no `MathBeginToken` -/
theorem scan_ANE (hw : T.WFInv) (src : Str) : ANE T src.length (scan T.toTables src).toks := by
  intro t ht
  have hb := scan_BL T hw src t ht
  obtain ⟨⟨hpos, hext, hctl, hmb⟩, _⟩ := hb
  have hMB : MB T t := by
    refine ⟨?_, hctl⟩
    intro r hk
    unfold mbOk at hmb
    rw [hk] at hmb
    simpa using hmb
  have hW : W T src.length t := by
    refine ⟨hpos, fun hk hf => ?_, hMB⟩
    have := hext hf
    simp only [extent, hk] at this
    omega
  refine ⟨hW, ?_, hMB⟩
  obtain ⟨p, r, hr, hd, hl, h⟩ := ScannerAux.scan_steps T.toTables hw.scan src t ht
  have hrl : 1 ≤ r.length := by
    cases r with
    | nil => exact absurd rfl hr
    | cons => simp
  have htn := TN_of_leaf (nextToken_leaf T.toTables src p r hr) (by omega)
  rcases h with rfl | hx
  · exact htn.1
  · intro _; exact htn.2 t hx

theorem replaceSection_ANC (opText : List (Str × Str)) (opDefault : Option Str) (inline : Bool)
    (secOut : List Tok) (first next : Bool) (repls : List Str) (rs : RsState) (h : ANC secOut)
    (hr : replaceSection T opText opDefault inline (detectMathParts secOut []) first next repls = some rs) :
    ANC rs.out :=
  replaceSection_out T (noCall · = true) (fun _ => True) (fun _ _ => ⟨rfl, fun _ => rfl⟩) _ _ _ secOut _ _ _ rs
    (fun _ _ _ => trivial) (fun t ht _ => h t ht) hr

theorem skipPass_spec (n : Nat) (st : PState) (fuel : Nat) (toks out : List Tok)
    (ht : ANE T n toks) (ho : ANE T n out) :
    ANE T n (skipPass st fuel toks out).1 ∧ ANE T n (skipPass st fuel toks out).2.2 ∧
    (∀ p, (skipPass st fuel toks out).2.1 = some p → p < n) := by
  obtain ⟨h1, h2, h3⟩ := skipPass_all (NE T n) st fuel toks out ht ho
  refine ⟨h1, h2, fun p hp => ?_⟩
  obtain ⟨t, ht, rfl⟩ := h3 p hp
  exact ht.1.1

theorem initExtractions_StOk (hw : T.WFInv) (st : PState) (extracts : List Str) (hs : StOk T st) :
    StOk T (initExtractions T st extracts) := by
  refine ⟨?_, hs.envs, hs.gloss⟩
  intro m hm
  simp only [initExtractions, List.mem_append, List.mem_map] at hm
  rcases hm with ⟨m0, hm0, rfl⟩ | ⟨nm, _, rfl⟩
  · have h0 := (hs.macros m0 hm0).1
    split
    · refine ⟨⟨ANE0_nil, h0.defaults, ?_⟩, rfl⟩
      show ANE0 T (if _ then _ else _)
      split
      · exact ANE_ANE0 (scan_ANE hw _)
      · exact ANE0_nil
    · exact ⟨⟨ANE0_nil, h0.defaults, ANE0_nil⟩, rfl⟩
  · refine ⟨⟨ANE0_nil, ?_, ANE_ANE0 (scan_ANE hw _)⟩, rfl⟩
    intro d hd; cases hd

end NoEmpty
end Yalafi
