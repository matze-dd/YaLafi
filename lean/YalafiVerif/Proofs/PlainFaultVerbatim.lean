/-
  Proofs/PlainFaultVerbatim.lean — C08 at `\begin{verbatim}` WITHOUT `\end{verbatim}`, end to end on
  the model.

  Document: `pre ++ \begin{verbatim} ++ post` — `pre`, `post` inert text, and `\end{verbatim}` does
  not occur in `post` (`findSub sEndVerbatim post = none`; implied by inertness — `post` has no
  backslash — but kept as the defining condition of the fault).

  What the model (= `Scanner.scan_verbatim`) does: the search for `\end{verbatim}` fails;
  `latex_error('missing end of verbatim', start)` with `start` = the backslash of `\begin`; the mark
  tokens REPLACE THE TOKEN `\begin` only (the scanner goes on behind `\begin`): `{verbatim}` and
  everything behind it is scanned as ordinary text.  So the loop copies the mark, turns `{` and `}`
  into Action tokens and copies the word `verbatim` and `post`:
      `pre ++ mark ++ "verbatim" ++ post`
  — no text behind the construct is lost, but the word `verbatim` appears in the plain text (the
  theorem follows the model).  The diagnostic is written by the scanner (before any expansion).

  Side conditions (reasons)
    `pre`, `post`    inert text in their right context
    no special sequence of the tables matches at the backslash of `\begin`
    `{`, `}`         scanned as special tokens; the word `verbatim` is inert in front of `}` (no
                     active character, no special sequence starts in it: real tables yes)
    blank            no "active character" (mark tokens pass `expand_sequence`)
    `markFine`       the mark is a visible one-line text (Action tokens of the braces)
  NOT covered: white space between `\begin` and `{verbatim}` (allowed by the scanner), a `post` with
  macros, comments or maths (it is scanned and expanded as LaTeX text, so e.g. `%` in the would-be
  verbatim text starts a comment).
-/
import YalafiVerif.Proofs.PlainFaultBase
namespace Yalafi
namespace PlainFault

open M PlainMacro
open PlainFootnote (TextRun CopyTok lineC LinesOf)
open PlainMathOpen (markPos)

def sVerbWord : Str := ['v', 'e', 'r', 'b', 'a', 't', 'i', 'm']

def verbatimSrc : Str := sBegin ++ sVerbatimArg

theorem sBegin_lit : sBegin = ['\\', 'b', 'e', 'g', 'i', 'n'] := String.toList_ofList
theorem sVerbatimArg_lit : sVerbatimArg = ['{', 'v', 'e', 'r', 'b', 'a', 't', 'i', 'm', '}'] :=
  String.toList_ofList

theorem verbatimSrc_lit : verbatimSrc
    = ['\\', 'b', 'e', 'g', 'i', 'n', '{', 'v', 'e', 'r', 'b', 'a', 't', 'i', 'm', '}'] := by
  rw [verbatimSrc, sVerbatimArg_lit, sBegin_lit]; rfl

def verbatimErrStep (T : Tables) (src : Str) (pos : Nat) : ScanStep :=
  { tok := (latexErrorToks T errMissingEndVerbatim pos src.length).headD default,
    len := 6, diag := some (latexErrorDiag errMissingEndVerbatim pos src),
    extra := (latexErrorToks T errMissingEndVerbatim pos src.length).tail }

theorem nextToken_verbatim_open (T : Tables) (src : Str) (pos : Nat) (post : Str)
    (hm : matchSpecial T (sBegin ++ (sVerbatimArg ++ post)) = none)
    (hend : findSub sEndVerbatim post = none) :
    nextToken T src pos (sBegin ++ (sVerbatimArg ++ post)) = verbatimErrStep T src pos := by
  have e : sBegin ++ (sVerbatimArg ++ post)
      = '\\' :: 'b' :: 'e' :: 'g' :: 'i' :: 'n' :: '{' :: 'v' :: 'e' :: 'r' :: 'b' :: 'a' :: 't' :: 'i'
          :: 'm' :: '}' :: post := by
    rw [sBegin_lit, sVerbatimArg_lit]; rfl
  rw [e] at hm ⊢
  have hlen : macroLen ('\\' :: 'b' :: 'e' :: 'g' :: 'i' :: 'n' :: '{' :: 'v' :: 'e' :: 'r' :: 'b' :: 'a'
      :: 't' :: 'i' :: 'm' :: '}' :: post) = 6 := by
    simp [macroLen, show macroChar '{' = false by decide,
      show macroChar 'b' = true by decide, show macroChar 'e' = true by decide,
      show macroChar 'g' = true by decide, show macroChar 'i' = true by decide,
      show macroChar 'n' = true by decide]
  have htake : ('\\' :: 'b' :: 'e' :: 'g' :: 'i' :: 'n' :: '{' :: 'v' :: 'e' :: 'r' :: 'b' :: 'a'
      :: 't' :: 'i' :: 'm' :: '}' :: post).take 6 = sBegin := by
    rw [sBegin_lit]; rfl
  have hsw : startsWith ('{' :: 'v' :: 'e' :: 'r' :: 'b' :: 'a' :: 't' :: 'i' :: 'm' :: '}' :: post)
      sVerbatimArg = true := by
    rw [sVerbatimArg_lit]; simp [startsWith]
  unfold nextToken
  simp only [show isSpace '\\' = false by decide, Bool.false_eq_true, if_false,
    show ('\\' == '%') = false by decide, show ('\\' == '#') = false by decide, hm,
    beq_self_eq_true, if_true, scanMacro, hlen, htake]
  unfold scanVerbatim
  simp only [List.drop_succ_cons, List.drop_zero,
    show ('{' :: 'v' :: 'e' :: 'r' :: 'b' :: 'a' :: 't' :: 'i' :: 'm' :: '}' :: post).takeWhile isSpace = []
      by simp [show isSpace '{' = false by decide],
    List.length_nil, Nat.add_zero, List.isEmpty_cons, countNl, List.count_nil, hsw,
    Bool.not_true, Bool.or_self, Bool.false_eq_true, if_false, hend,
    show ¬ (0 > 1) by omega, decide_false]
  rfl

def verbatimSteps (T : Tables) (src : Str) (pos : Nat) : List ScanStep :=
  verbatimErrStep T src pos :: bracedSteps (pos + 6) sVerbWord

def verbatimOk (T : PTables) (st : PState) (post : Str) : Bool :=
  (matchSpecial T.toTables (sBegin ++ (sVerbatimArg ++ post))).isNone &&
  (findSub sEndVerbatim post).isNone &&
  braceAt T '{' (sVerbWord ++ '}' :: post) && wordOk T st sVerbWord ('}' :: post) &&
  braceAt T '}' post

structure VerbatimFacts (T : PTables) (st : PState) (post : Str) : Prop where
  ms : matchSpecial T.toTables (sBegin ++ (sVerbatimArg ++ post)) = none
  noEnd : findSub sEndVerbatim post = none
  b1 : braceAt T '{' (sVerbWord ++ '}' :: post) = true
  word : wordOk T st sVerbWord ('}' :: post) = true
  b2 : braceAt T '}' post = true

theorem verbatimFacts {T : PTables} {st : PState} {post : Str} (h : verbatimOk T st post = true) :
    VerbatimFacts T st post := by
  simp only [verbatimOk, Bool.and_eq_true, Option.isNone_iff_eq_none] at h
  exact ⟨h.1.1.1.1, h.1.1.1.2, h.1.1.2, h.1.2, h.2⟩

/-- the scanner on `\begin{verbatim}` without end: the step with the diagnostic (no step of a run),
    then the run through `{verbatim}` -/
theorem scanAll_verbatim (T : PTables) (st : PState) (src : Str) (pos : Nat) (post : Str)
    (F : VerbatimFacts T st post) :
    scanAll T.toTables src pos (verbatimSrc ++ post)
      = (verbatimSteps T.toTables src pos ++ (scanAll T.toTables src (pos + verbatimSrc.length) post).1,
         (scanAll T.toTables src (pos + verbatimSrc.length) post).2) := by
  have hn := nextToken_verbatim_open T.toTables src pos post F.ms F.noEnd
  have e : sBegin ++ (sVerbatimArg ++ post)
      = '\\' :: ('b' :: 'e' :: 'g' :: 'i' :: 'n' :: '{' :: (sVerbWord ++ '}' :: post)) := by
    rw [sBegin_lit, sVerbatimArg_lit]; rfl
  rw [e] at hn
  rw [verbatimSrc_lit]
  refine (scanAll_step T.toTables src pos _ _ _ hn (Nat.succ_ne_zero 5)).trans ?_
  show (_ :: (scanAll T.toTables src (pos + 6) ('{' :: (sVerbWord ++ '}' :: post))).1,
    (scanAll T.toTables src (pos + 6) ('{' :: (sVerbWord ++ '}' :: post))).2) = _
  rw [(scans_braced T st src (pos + 6) sVerbWord post F.b1 F.word F.b2).eq]
  rfl

theorem verbatimSteps_toks (T : Tables) (src : Str) (pos : Nat) :
    stepToks (verbatimSteps T src pos)
      = latexErrorToks T errMissingEndVerbatim pos src.length ++ bracedToks (pos + 6) sVerbWord ∧
    stepDiags (verbatimSteps T src pos) = [latexErrorDiag errMissingEndVerbatim pos src] := by
  obtain ⟨w1, w2⟩ := stepToks_bracedSteps (pos + 6) sVerbWord
  constructor
  · rw [verbatimSteps, stepToks_cons, w1]
    simp only [verbatimErrStep, ScannerAux.latexErrorToks_cons]
  · rw [verbatimSteps, stepDiags_cons, w2]
    simp only [verbatimErrStep, Option.toList_some, List.append_nil]

/-- what the loop emits for `{w}` outside an argument: the braces become Action tokens -/
def bracedOut (pos : Nat) (w : Str) : List Tok :=
  [mkAction pos] ++ (letToks (pos + 1) w ++ [mkAction (pos + 1 + w.length)])

theorem seqRun_braced (T : PTables) (st : PState) (envStop : Option Str) (pos : Nat) (w R : Str)
    (rest : Buf) (out : List Tok) (hw : wordOk T st w R = true) :
    SeqRun T envStop 0 (1 + ((letToks (pos + 1) w).length + 1)) (bracedToks pos w ++ rest) out st rest
      (out ++ bracedOut pos w) st := by
  have r1 : SeqRun T envStop 0 1 (lbr pos :: (letToks (pos + 1) w ++ rbr (pos + 1 + w.length) :: rest)) out st
      _ (out ++ [mkAction pos]) st :=
    seqRun_brace rfl (.inl rfl)
  have r2 := seqRun_copied (envStop := envStop) (rest := rbr (pos + 1 + w.length) :: rest)
    (PlainFootnote.copiedSeq (letToks_copy T st R w (pos + 1) hw)) (out ++ [mkAction pos])
  have r3 : SeqRun T envStop 0 1 (rbr (pos + 1 + w.length) :: rest)
      (out ++ [mkAction pos] ++ letToks (pos + 1) w) st rest
      (out ++ [mkAction pos] ++ letToks (pos + 1) w ++ [mkAction (pos + 1 + w.length)]) st :=
    seqRun_brace rfl (.inr rfl)
  rw [show bracedToks pos w ++ rest = lbr pos :: (letToks (pos + 1) w ++ rbr (pos + 1 + w.length) :: rest) by
    simp [bracedToks]]
  exact r1.app (r2.app r3 (Nat.zero_le _)) (Nat.zero_le _)

theorem bracedOut_txtpos (pos : Nat) (w : Str) :
    getTxtPos (bracedOut pos w) = (w, List.range' (pos + 1) w.length) := by
  unfold bracedOut
  rw [getTxtPos_void_run [mkAction pos] (by simp [mkAction]), getTxtPos_append, letToks_txtpos]
  simp [getTxtPos, tokPositions, mkAction]

theorem bracedOut_keepsVis (pos : Nat) (w : Str) (h : ∀ c ∈ w, isSpace c = false) :
    KeepsVis (bracedOut pos w) := by
  unfold bracedOut
  rw [List.singleton_append]
  exact KeepsVis.action _ (KeepsVis.letToks w _ h (KeepsVis.action _ KeepsVis.nil))

def verbatimOut (T : Tables) (n pos : Nat) : List Tok :=
  latexErrorToks T errMissingEndVerbatim pos n ++ bracedOut (pos + 6) sVerbWord

theorem seqRun_verbatim (T : PTables) (st : PState) (pos n : Nat) (post : Str) (B : List Tok)
    (envStop : Option Str) (out : List Tok)
    (hw : wordOk T st sVerbWord ('}' :: post) = true)
    (hb : (activeChars T st).contains [' '] = false) (hp : pos < n) :
    SeqRun T envStop 0 12
      (latexErrorToks T.toTables errMissingEndVerbatim pos n ++ bracedToks (pos + 6) sVerbWord ++ B)
      out st B (out ++ verbatimOut T.toTables n pos) st := by
  rw [List.append_assoc]
  exact ((seqRun_mark T st _ pos _ hp hb envStop _ out).app
    (seqRun_braced T st envStop (pos + 6) sVerbWord _ B _ hw) (Nat.zero_le _)).mono (Nat.le_refl _)
      (by rw [letToks_length]; decide)

def verbatimFaultOk (T : PTables) (st : PState) (pre post : Str) : Bool :=
  PlainFootnote.textOk T st pre (verbatimSrc ++ post) &&
  PlainFootnote.textOk T st post [] &&
  verbatimOk T st post &&
  !(activeChars T st).contains [' '] && markFine T.toTables errMissingEndVerbatim

/-- **C08 at `\begin{verbatim}` without `\end{verbatim}`, end to end.**
    `src = pre ++ \begin{verbatim} ++ post` (`verbatimFaultOk`).  Then `tex2txt` succeeds and

    * the text is `pre`, the COMPLETE mark `errMark`, the word `verbatim`, `post` (the text behind the
      construct is kept — it is read as ordinary LaTeX text);
    * `pre`, `verbatim` and `post` keep their own positions; the mark is mapped to the backslash of
      `\begin` (1-based `P + 1`; `markPos1`);
    * exactly one diagnostic is added: "missing end of verbatim" at the line and column of the
      backslash; nothing is reported as unknown. -/
theorem tex2txt_verbatim_unterminated (T : PTables) (o : Options) (fs : FS) (thresh : Nat)
    (pre post : Str) (fuel : Nat) (st1 : PState)
    (hdefs : o.defs = []) (hextr : o.extr = []) (hrepl : o.hasRepl = false) (hunkn : o.unkn = false)
    (hinit : initParser T fuel o (initialState T o false fs) = .ok ((), st1))
    (hok : verbatimFaultOk T st1 pre post = true)
    (hf : (pre ++ (verbatimSrc ++ post)).length + 14 ≤ fuel) :
    let src := pre ++ (verbatimSrc ++ post)
    let P := pre.length
    let d := latexErrorDiag errMissingEndVerbatim P src
    ∃ r, tex2txt T fuel src o false thresh fs = .ok r ∧
      r.txt = pre ++ (errMark T.toTables errMissingEndVerbatim ++ (sVerbWord ++ post)) ∧
      r.pos = List.range' 1 pre.length ++ (markPos1 T.toTables errMissingEndVerbatim src.length P
        ++ (List.range' (P + 8) 8 ++ List.range' (P + 17) post.length)) ∧
      r.unknowns = [] ∧ r.diags = st1.diags ++ [d] ∧
      d.msg = errMissingEndVerbatim ∧ d.line = countNl pre + 1 ∧
      d.col = (afterLastNl pre).length + 1 := by
  intro src P d
  simp only [verbatimFaultOk, Bool.and_eq_true, Bool.not_eq_true'] at hok
  obtain ⟨⟨⟨⟨hpre, hpost⟩, hverb⟩, hblank⟩, hmark⟩ := hok
  have F := verbatimFacts hverb
  have hPn : P < src.length := pos_in_frame pre _ post (k := 0) (by rw [verbatimSrc_lit]; decide)
  obtain ⟨htk, hdg⟩ := verbatimSteps_toks T.toTables src P
  let stX := workState (rootState st1) src [latexErrorDiag errMissingEndVerbatim P src]
  have hE : Ext st1 stX := Reads.ext ⟨rfl, rfl⟩
  have htp : getTxtPos (verbatimOut T.toTables src.length P)
      = (errMark T.toTables errMissingEndVerbatim ++ sVerbWord,
         markPos T.toTables errMissingEndVerbatim src.length P
           ++ List.range' (P + 6 + 1) sVerbWord.length) := by
    unfold verbatimOut
    rw [getTxtPos_append, PlainMathOpen.latexErrorToks_txtpos, bracedOut_txtpos]
  obtain ⟨r, h, h1, h2, h3, h4⟩ := fault_frame T o fs thresh pre verbatimSrc post fuel st1 _ stX
    (verbatimSteps T.toTables src P) _ _ _ (verbatimOut T.toTables src.length P) 0 12
    hdefs hextr hrepl hunkn hinit hpre (by rw [verbatimSrc_lit]; simp [show isSpace '\\' = false by decide])
    (scanAll_verbatim T st1 src P post F) htk hdg hpost
    (prePass_frame (.append (fun t ht => by
        simp [(PlainMathOpen.latexErrorToks_kind T.toTables _ P src.length t ht).1])
      (bracedToks_noCom F.word _)))
    (Reads.ext ⟨rfl, rfl⟩) hE
    (fun B _ out => seqRun_verbatim T stX P src.length post B none out
      ((congrArg (· && _) (PlainFootnote.textOk_congr T st1 stX rfl _ _)).trans F.word)
      (by rw [hE.activeChars]; exact hblank) hPn)
    (fun A B a b hA hB hAc hBc => removeLines_vis A _ B a b hA hB hAc hBc
      (Vis.append (Vis.mark T.toTables _ P src.length hmark) (bracedOut_keepsVis _ _ (by decide))))
    htp rfl
    (by omega)
  rw [List.append_nil, List.append_assoc] at h1
  rw [List.map_append, markPos_map T.toTables errMissingEndVerbatim src.length P hPn, range'_succ_map,
    List.map_nil, List.append_nil, List.append_assoc, show verbatimSrc.length = 16 by rw [verbatimSrc_lit]; rfl]
    at h2
  exact ⟨r, h, h1, h2, h3, h4, diag_after _ pre _⟩

end PlainFault
end Yalafi
