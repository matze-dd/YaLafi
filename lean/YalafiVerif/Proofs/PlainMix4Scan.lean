/-
  Proofs/PlainMix4Scan.lean — the scanner on the fourth union grammar: ONE lemma `scanAll_mix4` through
  `scanAll_okSrc`, with one case per kind of construct (`Con`).  A case composes the run of the
  scanner through the tokens of the piece from the lexemes of the base and of the single-construct files
  (`Scans.step` for one token, `Scans.append`) and hands it, with the
  static facts of the piece, to `ScanFacts.cons` / `consVis`.  It yields the pieces of the token buffer,
  their static conditions `PiecesOk T st ps` and the structural relation `Link T st ps items` between
  the pieces and the items of the source; everything that depends on the parser state is left to
  Proofs/PlainMix4Sem.lean (`link_sem`).  `ScanFacts` also records the text of the first token, and
  what the source starts with if the first token is white space or a comment (`firstK`, `firstC`:
  needed behind a control word and behind `\item`, `headOk_of_scan`).  Header with the end-to-end
  statement and all side conditions: Proofs/PlainMix4E2E.lean.
-/
import YalafiVerif.Proofs.PlainMix4Src
namespace Yalafi
namespace PlainMix4

open M
open PlainMacro
open PlainMix (spcOk cwOkU comOk verbOkU droppable dropComToks dropComToks_cons dropComToks_com
  commentLen_rest simple_special_val SpcFacts spcFacts ComFacts comFacts CwUFacts cwUFacts VerbFacts verbFacts)
open PlainFootnote (lastTokOff flowOut CopyTok flowToks)
open PlainMacroArgs (BP bodyStr argsStr lookupDef defOf argSpans argsLen digitChar Group groupsFlat
  GroupGood BodyLink normBody GroupsLink txtTok)
open PlainMathRich (MT mtoks mt)
open PlainUnkn2 (mcost)
open PlainMix2 (charsOf_eq_zip charsOf_flowToks)


theorem macroLen_cw (name X : Str) (hne : name ≠ []) (htw : (name ++ X).takeWhile macroChar = name) :
    macroLen ('\\' :: (name ++ X)) = name.length + 1 := by
  obtain ⟨k, hk⟩ : ∃ k, name.length = k + 1 :=
    ⟨name.length - 1, by have := List.length_pos_iff.mpr hne; omega⟩
  simp only [macroLen, List.tail_cons, htw, hk]
  simp; omega

theorem firstTokTxtV_name (T : Tables) (name X : Str)
    (hlen : macroLen ('\\' :: (name ++ X)) = name.length + 1)
    (hm : matchSpecial T ('\\' :: (name ++ X)) = none) (hv : ('\\' :: name) ≠ sVerb) :
    firstTokTxtV T ('\\' :: (name ++ X)) = '\\' :: name := by
  have htake : ('\\' :: (name ++ X)).take (name.length + 1) = '\\' :: name := by simp
  have hv' : (('\\' :: name) == sVerb) = false := beq_eq_false_iff_ne.mpr hv
  simp only [firstTokTxtV, show isSpace '\\' = false by decide, Bool.false_eq_true, if_false,
    show ('\\' == '%') = false by decide, hm, beq_self_eq_true, if_true, hlen, htake, hv']

theorem firstTokTxtV_cw (T : Tables) (name X : Str) (hne : name ≠ [])
    (htw : (name ++ X).takeWhile macroChar = name)
    (hm : matchSpecial T ('\\' :: (name ++ X)) = none) (hv : ('\\' :: name) ≠ sVerb) :
    firstTokTxtV T ('\\' :: (name ++ X)) = '\\' :: name :=
  firstTokTxtV_name T name X (macroLen_cw name X hne htw) hm hv

theorem firstTokTxtV_spec (T : Tables) (c : Char) (tl X : Str) (h1 : isSpace c = false) (h2 : c ≠ '%')
    (hm : matchSpecial T (c :: (tl ++ X)) = some (c :: tl)) :
    firstTokTxtV T (c :: (tl ++ X)) = c :: tl := by
  simp [firstTokTxtV, h1, h2, hm]

theorem firstTokTxtV_verb (T : PTables) (d : Char) (s R : Str) (h : VerbFacts T d s R) :
    firstTokTxtV T.toTables ('\\' :: 'v' :: 'e' :: 'r' :: 'b' :: d :: (s ++ d :: R)) = s := by
  have h1 := nextToken_sVerb T.toTables [] 0 d (s ++ d :: R) h.nmc h.ms
  have h2 := nextToken_verb T.toTables [] 0 d s R h.nmc h.nnl h.body h.ms
  have h3 : scanVerb T.toTables [] 0 ('\\' :: 'v' :: 'e' :: 'r' :: 'b' :: d :: (s ++ d :: R))
      = { tok := { kind := .verb false, pos := 0 + 6, txt := s }, len := s.length + 7 } :=
    h1.symm.trans h2
  have hlen : macroLen ('\\' :: 'v' :: 'e' :: 'r' :: 'b' :: d :: (s ++ d :: R)) = 5 := by
    simp [macroLen, h.nmc, show macroChar 'v' = true by decide,
      show macroChar 'e' = true by decide, show macroChar 'r' = true by decide,
      show macroChar 'b' = true by decide]
  have hv : (['\\', 'v', 'e', 'r', 'b'] == sVerb) = true := by decide
  simp only [firstTokTxtV, show isSpace '\\' = false by decide, Bool.false_eq_true, if_false,
    show ('\\' == '%') = false by decide, h.ms, beq_self_eq_true, if_true, hlen, List.take_succ_cons,
    List.take_zero, hv, h3]

theorem firstTokTxtV_of_text (T : Tables) (c : Char) (cs : Str)
    (h : isSpace c = true ∨ (structuralChar c = false ∧ matchSpecial T (c :: cs) = none)) :
    firstTokTxtV T (c :: cs) = firstTokTxt (c :: cs) := by
  unfold firstTokTxtV firstTokTxt
  by_cases hsp : isSpace c = true
  · simp [hsp]
  · rcases h with h | ⟨h, hm⟩
    · exact absurd h hsp
    · have h1 : c ≠ '\\' := by
        intro e; subst e; exact absurd h (by decide)
      have h2 : c ≠ '%' := by
        intro e; subst e; exact absurd h (by decide)
      simp [hsp, h1, h2, hm]


/-- a stateless piece of `len` source characters with the marks `ms`: what it emits and costs does
    not depend on the state -/
structure IsFix (T : PTables) (pc : Piece) (ms : List Mark) (len : Nat) : Prop where
  out : ∃ h : List Tok, (∀ st l rest, outP T st l (pc :: rest) = h ++ outP T st l rest) ∧
          marksOf h = ms ∧ (∀ t ∈ h, Simple t)
  next : ∀ st, nextSt st pc = st
  live : ∀ st, liveHead T st pc
  cost : ∃ c, (∀ st rest, cost st (pc :: rest) = c + cost st rest) ∧ c ≤ len
  names : ∀ st rest, names st (pc :: rest) = names (nextSt st pc) rest
  flows : ∀ rest, flowsOf (pc :: rest) = flowsOf rest
  nmath : ∀ rest, nMath (pc :: rest) = nMath rest
  ndisp : ∀ rest, nDisp (pc :: rest) = nDisp rest
  notL : ∀ p sp b1 b2 lab c, pc ≠ .itemL p sp b1 b2 lab c

/-- the marks of what `expand_display_math` returns for a simple equation -/
theorem marksOf_dispOut (T : PTables) (ph : Str) (p q1 q2 : Nat) (s : Str) :
    marksOf (PlainDisplay.dispOut T ph p q1 q2 s)
      = none :: some (' ', p) :: some (' ', p) ::
          (ph.map (fun c => some (c, q1)) ++
            ((PlainMath.punctChar T s).toList.map (fun c => some (c, q2)) ++ [none])) := by
  unfold PlainDisplay.dispOut PlainDisplay.partOut
  cases PlainMath.punctChar T s <;>
    simp [marksOf_cons, marksOf_append, tokMarks_mkAction, tokMarks_mkFix, marksOf]

inductive Link (T : PTables) (st1 : PState) : List Piece → List Item → Prop
  | nil : Link T st1 [] []
  | tok (t : Tok) (ps : List Piece) (items : List Item) :
      t.fix = false → Shape t → (isBlank t.txt = true ∨ ∃ c, t.txt = [c] ∧ isSpace c = false) →
      Link T st1 ps items → Link T st1 (.tok t :: ps) (chrItems t.pos t.txt ++ items)
  | fix (pc : Piece) (ms : List Mark) (len : Nat) (ps : List Piece) (items : List Item) :
      IsFix T pc ms len → Link T st1 ps items → Link T st1 (pc :: ps) (.fix ms len :: items)
  | cw (p : Nat) (name : Str) (sk : List Tok) (len : Nat) (ps : List Piece) (items : List Item) :
      2 ≤ len → Link T st1 ps items → Link T st1 (.cw p name sk :: ps) (.cw name len :: items)
  | math (d1 : Tok) (b : List Tok) (d2 : Tok) (m : List MT) (len : Nat) (ps : List Piece)
      (items : List Item) :
      b.flatMap (mt T) = m → mcost b + 2 ≤ len → Link T st1 ps items →
      Link T st1 (.math d1 b d2 :: ps) (.math m len :: items)
  | foot (fn lb : Tok) (b : List Tok) (rb : Tok) (fl : List (Char × Nat)) (len : Nat)
      (ps : List Piece) (items : List Item) :
      charsOf (flowToks b) = fl → b.length + 6 ≤ len → Link T st1 ps items →
      Link T st1 (.foot fn lb b rb :: ps) (.foot fl len :: items)
  | defn (p q1 q2 q3 q4 q5 q6 q7 q8 : Nat) (name : Str) (n : Nat) (body : List BP) (btoks : List Tok)
      (ps : List Piece) (items : List Item) :
      BodyLink btoks (normBody body) → Link T st1 ps items →
      Link T st1 (.defn p q1 q2 q3 q4 q5 q6 q7 q8 name n btoks :: ps) (.defn p name n body :: items)
  | ddef (p q2 q q7 q8 : Nat) (name : Str) (n : Nat) (body : List BP) (btoks : List Tok)
      (ps : List Piece) (items : List Item) :
      BodyLink btoks (normBody body) → Link T st1 ps items →
      Link T st1 (.ddef p q2 q q7 q8 name n btoks :: ps) (.ddef p name n body :: items)
  | call (p q1 q2 : Nat) (name : Str) (b : List Tok) (fl : List (Char × Nat)) (len : Nat)
      (ps : List Piece) (items : List Item) :
      charsOf (flowToks b) = fl → b.length + 4 ≤ len → Link T st1 ps items →
      Link T st1 (.call p q1 q2 name b :: ps) (.foot fl len :: items)
  | callO (p b1 b2 q1 q2 : Nat) (name : Str) (opt b : List Tok) (fl : List (Char × Nat)) (len : Nat)
      (ps : List Piece) (items : List Item) :
      charsOf (flowToks b) = fl → b.length + 4 ≤ len → Link T st1 ps items →
      Link T st1 (.callO p b1 b2 q1 q2 name opt b :: ps) (.foot fl len :: items)
  | use (p : Nat) (name : Str) (args : List Str) (gs : List Group) (ps : List Piece)
      (items : List Item) :
      name ≠ [] → GroupsLink (p + name.length + 1) gs args → Link T st1 ps items →
      Link T st1 (.use p name gs :: ps) (.use p name args :: items)
  | disp (ops : List Str) (d1 : Tok) (b : List Tok) (d2 : Tok) (ms : Str → List Mark) (len : Nat)
      (ps : List Piece) (items : List Item) :
      (∀ ph, marksOf (PlainDisplay.dispOut T ph d1.pos (PlainDisplay.elemPos T ops b)
          (PlainMath.firstPos (PlainMath.mathToks b)) (PlainMath.bodyTxt (PlainMath.mathToks b))) = ms ph) →
      b.length + 3 ≤ len → Link T st1 ps items →
      Link T st1 (.disp ops d1 b d2 :: ps) (.disp ms len :: items)
  | denv (ops : List Str) (p q1 q2 : Nat) (nt b : List Tok) (p' q1' q2' : Nat) (nt' : List Tok)
      (ms : Str → List Mark) (len : Nat) (ps : List Piece) (items : List Item) :
      (∀ ph, marksOf (mkAction p :: mkAction p ::
          PlainDisplay.dispOut T ph p (PlainDisplay.elemPos T ops b)
            (PlainMath.firstPos (PlainMath.mathToks b)) (PlainMath.bodyTxt (PlainMath.mathToks b))) = ms ph) →
      b.length + nt.length + nt'.length + 11 ≤ len → Link T st1 ps items →
      Link T st1 (.denv ops p q1 q2 nt b p' q1' q2' nt' :: ps) (.disp ms len :: items)
  | beg (p q1 q2 : Nat) (name : Str) (nt : List Tok) (ps : List Piece) (items : List Item) :
      bodyTxt nt = name → nt.length ≤ name.length → Link T st1 ps items →
      Link T st1 (.beg p q1 q2 nt :: ps)
        (.stk (fun _ => PlainItem.envMarks (PlainItem.envOf st1 name) p ++ [none])
          (fun stk => PlainItem.begStk st1 stk name) (fun _ => true) (name.length + 8) :: items)
  | item (p : Nat) (sp : List Tok) (len : Nat) (ps : List Piece) (items : List Item) :
      5 ≤ len → Link T st1 ps items →
      Link T st1 (.item p sp :: ps)
        (.stk (itemMarks T p) PlainItem.itemStk (fun stk => PlainItem.labelAt T st1 stk) len :: items)
  | itemL (p : Nat) (sp : List Tok) (b1 b2 : Nat) (lab : List Tok) (pc : Option Char) (ms : List Mark)
      (len : Nat) (label : Str) (ps : List Piece) (items : List Item) :
      marksOf (PlainItemL.itemLOut p (PlainItemL.labArg b1 lab) pc) = ms →
      (∀ t ∈ PlainItemL.itemLOut p (PlainItemL.labArg b1 lab) pc, Simple t) →
      (∀ pv, PlainItemL.pvAfter pv (PlainItemL.labArg b1 lab) = PlainItemL.pvText pv label) →
      (PlainItemL.labArg b1 lab).length + 7 ≤ len + 1 → Link T st1 ps items →
      Link T st1 (.itemL p sp b1 b2 lab pc :: ps) (.itemL ms len pc label :: items)
  | ubeg (p q1 q2 : Nat) (name : Str) (nt : List Tok) (len : Nat) (ps : List Piece) (items : List Item) :
      bodyTxt nt = name → nt.length + 2 ≤ len → Link T st1 ps items →
      Link T st1 (.ubeg p q1 q2 nt :: ps) (.ubeg name len :: items)
  | en (p q1 q2 : Nat) (name : Str) (nt : List Tok) (ps : List Piece) (items : List Item) :
      bodyTxt nt = name → nt.length ≤ name.length → Link T st1 ps items →
      Link T st1 (.en p q1 q2 nt :: ps)
        (.stk (fun _ => PlainItem.envMarks (PlainItem.envOf st1 name) p) PlainItem.endStk (fun _ => true)
          (name.length + 6) :: items)

/-- the first token `t` of a piece: it is a comment only if the piece is, and otherwise
    `skip_space` passes it only if it is white space -/
theorem PiecesOk.head {T : PTables} {st : PState} : ∀ {pc : Piece} {rest : List Piece},
    PiecesOk T st (pc :: rest) → ∃ t ts, pc.toks = t :: ts ∧
      ((pc = .com t ∧ t.kind = .comment) ∨
       ((isSpaceTok t = false ∨ t.kind = .space) ∧ dropComs (pc :: rest) = pc :: rest))
  | .tok t, _, h => ⟨t, [], rfl, .inr ⟨by rcases h.1.kind with k | k | k <;> simp [isSpaceTok, k], rfl⟩⟩
  | .spc t, _, h => ⟨t, [], rfl, .inr ⟨.inl (by simp [isSpaceTok, h.1.1]), rfl⟩⟩
  | .br t, _, h => ⟨t, [], rfl, .inr ⟨.inl (by simp [isSpaceTok, h.1.kind]), rfl⟩⟩
  | .com t, _, h => ⟨t, [], rfl, .inl ⟨rfl, h.1.kind⟩⟩
  | .verb t, _, h => ⟨t, [], rfl, .inr ⟨.inl (by simp [isSpaceTok, h.1]), rfl⟩⟩
  | .math d1 b d2, _, h =>
    ⟨d1, _, rfl, .inr ⟨.inl (by rcases h.1.kind with k | k <;> simp [isSpaceTok, k]), rfl⟩⟩
  | .foot fn lb b rb, _, h => ⟨fn, _, rfl, .inr ⟨.inl (by simp [isSpaceTok, h.1.kind]), rfl⟩⟩
  | .head hd lb b rb, _, h => ⟨hd, _, rfl, .inr ⟨.inl (by simp [isSpaceTok, h.1.kind]), rfl⟩⟩
  | .disp ops d1 b d2, _, h => ⟨d1, _, rfl, .inr ⟨.inl (by simp [isSpaceTok, h.2.2.2.1.kind]), rfl⟩⟩
  | .cw .., _, _ => ⟨_, _, rfl, .inr ⟨.inl rfl, rfl⟩⟩
  | .van .., _, _ => ⟨_, _, rfl, .inr ⟨.inl rfl, rfl⟩⟩
  | .ref .., _, _ => ⟨_, _, rfl, .inr ⟨.inl rfl, rfl⟩⟩
  | .cite .., _, _ => ⟨_, _, rfl, .inr ⟨.inl rfl, rfl⟩⟩
  | .citeN .., _, _ => ⟨_, _, rfl, .inr ⟨.inl rfl, rfl⟩⟩
  | .acc .., _, _ => ⟨_, _, rfl, .inr ⟨.inl rfl, rfl⟩⟩
  | .defn .., _, _ => ⟨_, _, rfl, .inr ⟨.inl rfl, rfl⟩⟩
  | .ddef .., _, _ => ⟨_, _, rfl, .inr ⟨.inl rfl, rfl⟩⟩
  | .ppar .., _, _ => ⟨_, _, rfl, .inr ⟨.inl rfl, rfl⟩⟩
  | .pbeg .., _, _ => ⟨_, _, rfl, .inr ⟨.inl rfl, rfl⟩⟩
  | .pen .., _, _ => ⟨_, _, rfl, .inr ⟨.inl rfl, rfl⟩⟩
  | .call .., _, _ => ⟨_, _, rfl, .inr ⟨.inl rfl, rfl⟩⟩
  | .callO .., _, _ => ⟨_, _, rfl, .inr ⟨.inl rfl, rfl⟩⟩
  | .fen .., _, _ => ⟨_, _, rfl, .inr ⟨.inl rfl, rfl⟩⟩
  | .fbegN .., _, _ => ⟨_, _, rfl, .inr ⟨.inl rfl, rfl⟩⟩
  | .fbeg .., _, _ => ⟨_, _, rfl, .inr ⟨.inl rfl, rfl⟩⟩
  | .use .., _, _ => ⟨_, _, rfl, .inr ⟨.inl rfl, rfl⟩⟩
  | .denv .., _, _ => ⟨_, _, rfl, .inr ⟨.inl rfl, rfl⟩⟩
  | .beg .., _, _ => ⟨_, _, rfl, .inr ⟨.inl rfl, rfl⟩⟩
  | .item .., _, _ => ⟨_, _, rfl, .inr ⟨.inl rfl, rfl⟩⟩
  | .itemL .., _, _ => ⟨_, _, rfl, .inr ⟨.inl rfl, rfl⟩⟩
  | .ubeg .., _, _ => ⟨_, _, rfl, .inr ⟨.inl rfl, rfl⟩⟩
  | .uen .., _, _ => ⟨_, _, rfl, .inr ⟨.inl rfl, rfl⟩⟩
  | .en .., _, _ => ⟨_, _, rfl, .inr ⟨.inl rfl, rfl⟩⟩

theorem flat_dropComs (T : PTables) (st : PState) : ∀ ps : List Piece, PiecesOk T st ps →
    flat (dropComs ps) = dropComToks (flat ps)
  | [], _ => rfl
  | pc :: rest, h => by
    obtain ⟨t, ts, e, hc⟩ := h.head
    rcases hc with ⟨rfl, hk⟩ | ⟨hv, hd⟩
    · simp only [dropComs, flat, Piece.toks, List.singleton_append]
      rw [dropComToks_com _ _ hk]
      exact flat_dropComs T st rest h.2
    · have hnc : t.kind ≠ .comment := by
        rcases hv with hv | hv
        · exact fun k => by simp [isSpaceTok, k] at hv
        · rw [hv]; nofun
      rw [hd]
      show pc.toks ++ flat rest = dropComToks (pc.toks ++ flat rest)
      rw [e, List.cons_append, dropComToks_cons _ _ hnc]


structure ScanFacts (T : PTables) (st : PState) (rest : Str) (items : List Item)
    (steps : List ScanStep) : Prop where
  ok : ∀ s ∈ steps, s.diag = none ∧ s.extra = []
  pieces : ∃ ps, steps.map (·.tok) = flat ps ∧ PiecesOk T st ps ∧ Link T st ps items
  first : ∀ s ss, steps = s :: ss → s.tok.txt = firstTokTxtV T.toTables rest
  firstK : ∀ t ts, dropComToks (steps.map (·.tok)) = t :: ts → droppable t = true →
    ∃ c cs, rest = c :: cs ∧ isSpace c = true ∧ countNl (rest.takeWhile isSpace) < 2
  firstC : ∀ s ss, steps = s :: ss → s.tok.kind = .comment → ∃ ds, rest = '%' :: ds

theorem ScanFacts_nil (T : PTables) (st : PState) : ScanFacts T st [] [] [] :=
  ⟨by simp, ⟨[], rfl, trivial, .nil⟩, by simp, by simp [dropComToks], by simp⟩

/-- the first token that is no comment behind a control word (and the white space `sp` behind it)
    is not dropped by `skip_space` -/
theorem head_not_droppable {T : PTables} {st : PState} {R : Str} {items : List Item}
    {steps : List ScanStep} (I : ScanFacts T st R items steps) {ps : List Piece}
    (hflat : steps.map (·.tok) = flat ps) (hpok : PiecesOk T st ps)
    (hR : ∀ d ds, R = d :: ds → isSpace d = true → 2 ≤ countNl (R.takeWhile isSpace)) :
    ∀ t ts, flat (dropComs ps) = t :: ts → droppable t = false := by
  intro t ts hft
  cases hb : droppable t with
  | false => rfl
  | true =>
    exfalso
    rw [flat_dropComs T st ps hpok, ← hflat] at hft
    obtain ⟨d, ds, hRd, h1, h2⟩ := I.firstK t ts hft hb
    have := hR d ds hRd h1
    omega

theorem head_space_kind (T : PTables) (st : PState) : ∀ ps : List Piece, PiecesOk T st ps →
    ∀ t ts, flat ps = t :: ts → isSpaceTok t = true → t.kind = .space ∨ t.kind = .comment
  | [], _, t, ts, h, _ => nomatch h
  | pc :: rest, hok, t, ts, h, hs => by
    obtain ⟨u, us, e, hc⟩ := hok.head
    obtain rfl : u = t := by
      rw [flat, e] at h
      exact (List.cons.inj h).1
    rcases hc with ⟨_, hk⟩ | ⟨hv | hv, _⟩
    · exact Or.inr hk
    · rw [hs] at hv; cases hv
    · exact Or.inl hv

/-- the head of the token buffer behind `\item` and its white space: the rest of the source starts
    with a visible character that is neither `%` nor `[`, and its first token is not `[` -/
theorem headOk_of_scan {T : PTables} {st : PState} {R : Str} {items : List Item}
    {steps : List ScanStep} (I : ScanFacts T st R items steps) {ps : List Piece}
    (hflat : steps.map (·.tok) = flat ps) (hpok : PiecesOk T st ps)
    (hR : R.head?.all (fun d => !isSpace d && d != '[') = true)
    (hc : R.head?.all (fun d => d != '%') = true) (hb : firstTokTxtV T.toTables R ≠ ['[']) :
    PlainItem.HeadOk (flat ps) := by
  cases hfp : flat ps with
  | nil => exact ⟨fun t h => by simp at h, fun t h => by simp at h⟩
  | cons t ts =>
    cases hst : steps with
    | nil => rw [hst, hfp] at hflat; simp at hflat
    | cons s ss =>
      have ht : s.tok = t := by
        rw [hst, hfp] at hflat
        simp only [List.map_cons, List.cons.injEq] at hflat
        exact hflat.1
      refine ⟨fun t' h => ?_, fun t' h => ?_⟩
      · simp only [List.head?_cons, Option.some.injEq] at h
        subst h
        cases hsp : isSpaceTok t with
        | false => rfl
        | true =>
          exfalso
          rcases head_space_kind T st ps hpok t ts hfp hsp with k | k
          · have hd : droppable t = true := by simp [droppable, isSpaceTok, isLangK, k]
            have hft : dropComToks (steps.map (·.tok)) = t :: ts := by
              rw [hflat, hfp, dropComToks_cons _ _ (by simp [k])]
            obtain ⟨d, ds, hRd, h1, _⟩ := I.firstK t ts hft hd
            rw [hRd] at hR
            simp [h1] at hR
          · obtain ⟨ds, hRd⟩ := I.firstC s ss hst (by rw [ht]; exact k)
            rw [hRd] at hc
            simp at hc
      · simp only [List.head?_cons, Option.some.injEq] at h
        subst h
        unfold txtIs
        rw [← ht, I.first s ss hst]
        simpa using hb

theorem headVis_kind (t : Tok) (h : isSpaceTok t = false) :
    t.kind ≠ .space ∧ t.kind ≠ .comment ∧ t.kind ≠ .void ∧ isLangK t = false := by
  cases hk : t.kind <;> simp_all [isSpaceTok, isLangK]

/-- the head of the token buffer behind `\par` and its white space: the rest of the source does not
    start with skippable white space or a comment -/
theorem headVis_of_scan {T : PTables} {st : PState} {R : Str} {items : List Item}
    {steps : List ScanStep} (I : ScanFacts T st R items steps) {ps : List Piece}
    (hflat : steps.map (·.tok) = flat ps) (hpok : PiecesOk T st ps)
    (hR : PlainThm.headSp R = false) (hc : R.head?.all (fun d => d != '%') = true) :
    PlainParEnv.HeadVis (flat ps) := by
  intro t h
  cases hfp : flat ps with
  | nil => rw [hfp] at h; simp at h
  | cons t' ts =>
    have htt : t = t' := by rw [hfp] at h; simpa using h.symm
    rw [htt]
    apply headVis_kind
    cases hst : steps with
    | nil => rw [hst, hfp] at hflat; simp at hflat
    | cons s ss =>
      have ht : s.tok = t' := by
        rw [hst, hfp] at hflat
        simp only [List.map_cons, List.cons.injEq] at hflat
        exact hflat.1
      cases hsp : isSpaceTok t' with
      | false => rfl
      | true =>
        exfalso
        rcases head_space_kind T st ps hpok t' ts hfp hsp with k | k
        · have hd : droppable t' = true := by simp [droppable, isSpaceTok, isLangK, k]
          have hft : dropComToks (steps.map (·.tok)) = t' :: ts := by
            rw [hflat, hfp, dropComToks_cons _ _ (by simp [k])]
          obtain ⟨d, ds, hRd, h1, h2⟩ := I.firstK t' ts hft hd
          rw [hRd] at hR h2
          simp [PlainThm.headSp, h1] at hR
          simp [h1] at h2
          omega
        · obtain ⟨ds, hRd⟩ := I.firstC s ss hst (by rw [ht]; exact k)
          rw [hRd] at hc
          simp at hc

/-- the static facts of a stateless piece `pc` that emits `h` in `c` iterations; the other facts
    hold by unfolding the definitions at `pc` -/
theorem isFix_of (T : PTables) (pc : Piece) (ms : List Mark) (len c : Nat) (h : List Tok)
    (hms : marksOf h = ms) (hs : ∀ t ∈ h, Simple t) (hc : c ≤ len)
    (hout : ∀ st l rest, outP T st l (pc :: rest) = h ++ outP T st l rest := by intros; rfl)
    (hcost : ∀ st rest, cost st (pc :: rest) = c + cost st rest := by intros; rfl)
    (hnext : ∀ st, nextSt st pc = st := by intros; rfl)
    (hlive : ∀ st, liveHead T st pc := by intros; trivial)
    (hnames : ∀ st rest, names st (pc :: rest) = names (nextSt st pc) rest := by intros; rfl)
    (hflows : ∀ rest, flowsOf (pc :: rest) = flowsOf rest := by intros; rfl)
    (hnm : ∀ rest, nMath (pc :: rest) = nMath rest := by intros; rfl)
    (hnd : ∀ rest, nDisp (pc :: rest) = nDisp rest := by intros; rfl)
    (hnl : ∀ p sp b1 b2 lab c, pc ≠ .itemL p sp b1 b2 lab c := by intros; simp) : IsFix T pc ms len :=
  ⟨⟨h, hout, hms, hs⟩, hnext, hlive, ⟨c, hcost, hc⟩, hnames, hflows, hnm, hnd, hnl⟩


theorem first_cw {T : PTables} {st : PState} {name X : Str} (C : CwFacts T st name X) (pos : Nat) :
    (cwTok pos name).txt = firstTokTxtV T.toTables ('\\' :: (name ++ X)) :=
  (firstTokTxtV_cw T.toTables name X C.ne C.tw C.special C.nVerb).symm

theorem first_kw (T : Tables) (name X : Str) (hne : name ≠ []) (hall : name.all macroChar = true)
    (hX : X.head?.all (fun d => !macroChar d) = true)
    (hm : matchSpecial T ('\\' :: (name ++ X)) = none) (hv : ('\\' :: name) ≠ sVerb) :
    '\\' :: name = firstTokTxtV T ('\\' :: (name ++ X)) :=
  (firstTokTxtV_cw T name X hne (takeWhile_stop _ _ _ (List.all_eq_true.mp hall) hX) hm hv).symm

theorem first_begin (T : Tables) (pos : Nat) {X : Str}
    (h1 : matchSpecial T ('\\' :: (PlainItem.nBegin ++ '{' :: X)) = none) :
    (PlainItem.begTok pos).txt = firstTokTxtV T ('\\' :: (PlainItem.nBegin ++ '{' :: X)) :=
  PlainItem.sBegin_eq.trans (first_kw T PlainItem.nBegin _ (by decide) (by decide) rfl h1 (by decide))

theorem first_end (T : Tables) (pos : Nat) {X : Str}
    (h1 : matchSpecial T ('\\' :: (PlainItem.nEnd ++ '{' :: X)) = none) :
    (PlainItem.endTok pos).txt = firstTokTxtV T ('\\' :: (PlainItem.nEnd ++ '{' :: X)) :=
  PlainItem.sEnd_eq.trans (first_kw T PlainItem.nEnd _ (by decide) (by decide) rfl h1 (by decide))

theorem first_item (T : Tables) (pos : Nat) {X : Str}
    (h1 : matchSpecial T ('\\' :: (PlainItem.nItem ++ X)) = none)
    (h2 : X.head?.all (fun d => !macroChar d) = true) :
    (PlainItem.itemTok pos).txt = firstTokTxtV T ('\\' :: (PlainItem.nItem ++ X)) :=
  PlainItem.sItem_eq.trans (first_kw T PlainItem.nItem _ (by decide) (by decide) h2 h1 (by decide))


/-- a piece `pc` (items `it`) whose first token is neither a comment nor dropped by `skip_space`, in front
    of the scanned rest: `r` is the run of the scanner through the tokens of the piece, `hstat` the static
    facts of the piece -/
theorem ScanFacts.cons {T : PTables} {st : PState} {src : Str} {pos p' : Nat} {W R : Str}
    {ss rs : List ScanStep} {items' : List Item}
    (r : Scans T.toTables src pos W ss p' R) (I : ScanFacts T st R items' rs)
    (pc : Piece) (it : List Item) {t0 : Tok} {ts0 : List Tok}
    (htoks : ss.map (·.tok) = pc.toks) (hhd : pc.toks = t0 :: ts0)
    (hstat : ∀ ps, rs.map (·.tok) = flat ps → PiecesOk T st ps → Link T st ps items' →
      PiecesOk T st (pc :: ps) ∧ Link T st (pc :: ps) (it ++ items'))
    (hfirst : t0.txt = firstTokTxtV T.toTables W)
    (hnc : t0.kind ≠ .comment)
    (hK : droppable t0 = true →
      ∃ c cs, W = c :: cs ∧ isSpace c = true ∧ countNl (W.takeWhile isSpace) < 2) :
    ScanFacts T st W (it ++ items') (ss ++ rs) := by
  obtain ⟨s0, ss0, rfl, rfl⟩ : ∃ s0 ss0, ss = s0 :: ss0 ∧ s0.tok = t0 := by
    cases ss with
    | nil => rw [hhd] at htoks; cases htoks
    | cons s0 ss0 => rw [hhd] at htoks; exact ⟨s0, ss0, rfl, (List.cons.inj htoks).1⟩
  obtain ⟨ps', hflat, hpok, hlink⟩ := I.pieces
  obtain ⟨h1, h2⟩ := hstat ps' hflat hpok hlink
  refine ⟨List.forall_mem_append.mpr ⟨r.clean, I.ok⟩, ⟨pc :: ps', ?_, h1, h2⟩, ?_, ?_, ?_⟩
  · rw [List.map_append, htoks, hflat]; rfl
  · intro s ss he
    simp only [List.cons_append, List.cons.injEq] at he
    rw [← he.1]; exact hfirst
  · intro t ts he hdr
    rw [List.cons_append, List.map_cons, dropComToks_cons _ _ hnc] at he
    simp only [List.cons.injEq] at he
    rw [← he.1] at hdr
    exact hK hdr
  · intro s ss he hc
    simp only [List.cons_append, List.cons.injEq] at he
    rw [← he.1] at hc
    exact absurd hc hnc

/-- the step of `scanAll_okSrc` for such a piece whose first token is not white space either -/
theorem ScanFacts.consVis {T : PTables} {st : PState} {src : Str} {pos p' : Nat} {W R : Str}
    {ss : List ScanStep} {items' : List Item}
    (r : Scans T.toTables src pos W ss p' R)
    (pc : Piece) (it : List Item) {t0 : Tok} {ts0 : List Tok}
    (htoks : ss.map (·.tok) = pc.toks) (hhd : pc.toks = t0 :: ts0)
    (hstat : ∀ rs, (R = [] → rs = []) → ScanFacts T st R items' rs →
      ∀ ps, rs.map (·.tok) = flat ps → PiecesOk T st ps → Link T st ps items' →
      PiecesOk T st (pc :: ps) ∧ Link T st (pc :: ps) (it ++ items'))
    (hfirst : t0.txt = firstTokTxtV T.toTables W) (hvis : isSpaceTok t0 = false) :
    ∃ ss, ss ≠ [] ∧ Scans T.toTables src pos W ss p' R ∧
      ∀ rs, (R = [] → rs = []) → ScanFacts T st R items' rs → ScanFacts T st W (it ++ items') (ss ++ rs) :=
  ⟨ss, (by rintro rfl; rw [hhd] at htoks; cases htoks), r, fun rs hnil I =>
    ScanFacts.cons r I pc it htoks hhd (hstat rs hnil I) hfirst
      (fun h => by simp [isSpaceTok, h] at hvis) (fun h => by simp [droppable, hvis] at h)⟩

theorem scanAll_mix4 (T : PTables) (st : PState) (src : Str) (pos : Nat) (rest : Str) (items : List Item)
    (h : OkSrc T st pos rest items) :
      ScanFacts T st rest items (scanAll T.toTables src pos rest).1 := by
  refine scanAll_okSrc T st (firstTokTxtV T.toTables) src (ScanFacts T st) (fun _ _ h => h)
    (firstTokTxtV_of_text T.toTables) (Con.vis T st) (fun _ _ _ I => I.first)
    (by rintro _ rfl; exact ScanFacts_nil T st) ?_ ?_ pos rest items h
  · intro pos c cs s rs items1 K I
    rw [chrs_chrItems]
    refine ScanFacts.cons K.run I (.tok s.tok) _ rfl rfl ?_ K.first K.step.tok.notComment
      (fun hdr => ⟨c, cs, rfl, K.of_droppable hdr⟩)
    intro ps hflat hpok hlink
    have := Link.tok s.tok ps items1 K.step.fix K.shape.shape
      (K.shape.blankOrOne.imp id (fun h => ⟨c, h.1, h.2⟩)) hlink
    rw [K.step.pos, K.step.txt] at this
    exact ⟨⟨K.step.tok, hflat ▸ K.pass, hpok⟩, this⟩
  intro pos _ _ _ R items' hc
  cases hc with
  | spc c tl _ _ hd =>
    have S := spcFacts hd
    refine ScanFacts.consVis (Scans.special T.toTables src pos S.nsp S.npc S.nha S.ms (List.drop_left' rfl))
      (.spc { kind := .special, pos := pos, txt := c :: tl })
      [.fix (fixOf T st pos (.spc (c :: tl))) (tl.length + 1)] rfl rfl ?_
      (firstTokTxtV_spec T.toTables c tl R S.nsp S.npc S.ms).symm rfl
    intro rs _ I ps hflat hpok hlink
    refine ⟨⟨⟨rfl, S.key⟩, hpok⟩, Link.fix _ _ _ _ _ ?_ hlink⟩
    refine isFix_of T _ _ _ 1 (expTok T.toTables { kind := .special, pos := pos, txt := c :: tl })
      ?_ ?_ (by omega)
    · simp only [expTok, beq_self_eq_true, if_true, fixOf]
      rw [marksOf_cons, tokMarks_mkAction, marksOf_cons, tokMarks_nonaction _ rfl,
        tokChars_nofix _ rfl]
      simp [marksOf]
    · intro x hx
      simp only [expTok, beq_self_eq_true, if_true, List.mem_cons, List.not_mem_nil, or_false] at hx
      rcases hx with rfl | rfl
      · exact simple_mkAction pos
      · exact simple_special_val _ _ _ S.val
  | br c _ _ hc hd =>
    have hm : matchSpecial T.toTables (c :: R) = some [c] := by simpa [braceAt] using hd
    refine ScanFacts.consVis (scans_brace T src pos c R hc hd)
      (.br { kind := .special, pos := pos, txt := [c] }) [.fix [none] 1] rfl rfl ?_ ?_ rfl
    · intro rs _ I ps hflat hpok hlink
      refine ⟨⟨⟨rfl, by rcases hc with rfl | rfl <;> simp⟩, hpok⟩, Link.fix _ _ _ _ _ ?_ hlink⟩
      exact isFix_of T _ _ _ 1 [mkAction pos] rfl (by simp [simple_mkAction]) (by omega)
    · have := firstTokTxtV_spec T.toTables c [] R
        (by rcases hc with rfl | rfl <;> decide) (by rcases hc with rfl | rfl <;> decide)
        (by simpa using hm)
      simpa using this.symm
  | cw name sp _ _ hd =>
    have C := cwUFacts hd
    have hname := List.length_pos_iff.mpr C.cw.ne
    have hR : ∀ d ds, R = d :: ds → isSpace d = true → 2 ≤ countNl (R.takeWhile isSpace) :=
      fun d ds e h => (C.head d ds e h).2
    have r1 := scans_cw T src pos C.cw
    cases sp with
    | nil =>
      simp only [List.length_nil, Nat.add_zero, List.nil_append] at r1 ⊢
      refine ScanFacts.consVis r1 (.cw pos name []) [.cw name (name.length + 1)] rfl rfl ?_
        (first_cw C.cw pos) rfl
      intro rs _ I ps hflat hpok hlink
      exact ⟨⟨cwTokOk_cwTok C.cw pos, by simp, head_not_droppable I hflat hpok hR, hpok⟩,
        Link.cw _ _ _ _ _ _ (by omega) hlink⟩
    | cons x xs =>
      have hX : R.head?.all (fun d => !isSpace d) = true := by
        cases e : R with
        | nil => rfl
        | cons d ds =>
          cases hd' : isSpace d with
          | false => simp [hd']
          | true => exact absurd (C.head d ds e hd').1 (List.cons_ne_nil _ _)
      have r2 := Scans.ws T.toTables src (pos + (name.length + 1)) (C.white x (List.mem_cons_self ..))
        (fun d hd => C.white d (List.mem_cons_of_mem _ hd)) hX
      rw [wsTok_space C.nls] at r2
      refine ScanFacts.consVis ((r1.append r2).to (by simp only [List.length_cons]; omega))
        (.cw pos name [{ kind := .space, pos := pos + (name.length + 1), txt := x :: xs }])
        [.cw name (name.length + 1 + (xs.length + 1))] rfl rfl ?_ (first_cw C.cw pos) rfl
      intro rs _ I ps hflat hpok hlink
      exact ⟨⟨cwTokOk_cwTok C.cw pos, fun t ht => by rw [List.mem_singleton.mp ht]; exact ⟨rfl, nofun⟩,
        head_not_droppable I hflat hpok hR, hpok⟩, Link.cw _ _ _ _ _ _ (by omega) hlink⟩
  | van name key _ _ hd =>
    have V := PlainVanish.vanFacts hd
    have hname := List.length_pos_iff.mpr V.cw.ne
    obtain ⟨ks, B, _, r⟩ := PlainVanish.scans_van T src pos V
    obtain ⟨hvoid, hvlen⟩ := V.vn.repl
    refine ScanFacts.consVis r
      (.van pos (pos + (name.length + 1)) (pos + (name.length + 1) + 1 + key.length) name
        (ks.map (·.tok)) (PlainVanish.replOf st name))
      [.fix [none] (PlainVanish.vanLen name key)] (by simp [Piece.toks]) rfl ?_ (first_cw V.cw pos) rfl
    intro rs _ I ps hflat hpok hlink
    refine ⟨⟨V.vn, rfl, B, hpok⟩,
      Link.fix _ _ _ _ _ ?_ hlink⟩
    refine isFix_of T _ _ _ (2 + (PlainVanish.replOf st name).length)
      (mkAction pos :: (PlainVanish.replOf st name).map (restamp pos)) ?_ ?_
      (by simp only [PlainVanish.vanLen]; omega)
    · rw [marksOf_cons, tokMarks_mkAction, PlainVanish.marksOf_voids _ _ hvoid]
      rfl
    · intro x hx
      rcases List.mem_cons.mp hx with rfl | hx
      · exact simple_mkAction pos
      · obtain ⟨u, hu, rfl⟩ := List.mem_map.mp hx
        exact PlainVanish.simple_void pos u (hvoid u hu)
  | com body _ _ hd =>
    have C := comFacts hd
    have r := Comment.scans_comment T src pos C.len
    refine ⟨_, List.cons_ne_nil _ _, r, fun rs _ I => ?_⟩
    obtain ⟨ps', hflat, hpok, hlink⟩ := I.pieces
    rw [List.singleton_append]
    refine ⟨?_, ?_, ?_, ?_, fun _ _ _ _ => ⟨body ++ R, rfl⟩⟩
    · intro x hx
      rcases List.mem_cons.mp hx with rfl | hx
      · exact ⟨rfl, rfl⟩
      · exact I.ok x hx
    · refine ⟨.com { kind := .comment, pos := pos, txt := '%' :: body } :: ps',
        by rw [List.map_cons, hflat]; rfl, ⟨⟨rfl, ⟨body, rfl⟩, C.nskip, C.nact⟩, hpok⟩,
        Link.fix _ _ _ _ _ ?_ hlink⟩
      exact isFix_of T _ _ _ 1 [] rfl (by simp) (by omega)
    · intro s' ss' he
      simp only [List.cons.injEq] at he
      rw [← he.1]
      simp [firstTokTxtV, C.len, show isSpace '%' = false by decide]
    · intro t ts he hdr
      rw [List.map_cons, dropComToks_com _ _ rfl] at he
      obtain ⟨d, ds, hRd, h1, h2⟩ := I.firstK t ts he hdr
      have := commentLen_rest body R C.len d ds hRd h1
      omega
  | verb d s _ _ hd =>
    have V := verbFacts hd
    refine ScanFacts.consVis (scans_verb T.toTables src pos d s R V.nmc V.nnl V.body V.ms)
      (.verb { kind := .verb false, pos := pos + 6, txt := s })
      [.fix (fixOf T st pos (.verb d s)) (s.length + 7)] rfl rfl ?_ (firstTokTxtV_verb T d s R V).symm rfl
    intro rs _ I ps hflat hpok hlink
    refine ⟨⟨rfl, hpok⟩, Link.fix _ _ _ _ _ ?_ hlink⟩
    refine isFix_of T _ _ _ 1 (expTokV { kind := .verb false, pos := pos + 6, txt := s }) ?_ ?_ (by omega)
    · simp only [expTokV, beq_self_eq_true, if_true, fixOf]
      rw [marksOf_cons, tokMarks_mkAction, marksOf_cons, tokMarks_nonaction _ rfl,
        tokChars_nofix _ rfl]
      simp [marksOf]
    · intro x hx
      simp only [expTokV, beq_self_eq_true, if_true, List.mem_cons, List.not_mem_nil, or_false] at hx
      rcases hx with rfl | rfl
      · exact simple_mkAction _
      · exact simple_special_val _ _ _ (fun h => by rw [V.noNl] at h; cases h)
  | math k c tl X _ m _ ho hd hm hvis =>
    obtain ⟨o1, o2, o3⟩ := ho.facts
    have r1 := Scans.special T.toTables src pos o1 o2 o3 (PlainMathRich.delimAt_eq hd)
      (List.drop_left' (l₂ := X) rfl)
    obtain ⟨bsteps, s2, B, r2⟩ := PlainMathRich.scans_rbody T st src k k (pos + (tl.length + 1)) X R m
      (Nat.le_refl _) hm
    refine ScanFacts.consVis (r1.append r2)
      (.math { kind := .special, pos := pos, txt := c :: tl } (bsteps.map (·.tok)) s2.tok)
      [.math m (tl.length + 1 + k)] (by simp [Piece.toks]) rfl ?_
      (firstTokTxtV_spec T.toTables c tl X o1 o2 (PlainMathRich.delimAt_eq hd)).symm rfl
    intro rs _ I ps hflat hpok hlink
    exact ⟨⟨⟨Or.inl rfl, ho⟩, by rw [B.abs]; exact hvis,
        List.forall_mem_map.mpr (fun x hx => (B.ok x hx).2.2), B.close, hpok⟩,
      Link.math _ _ _ _ _ _ _ B.abs (by have := B.cost; omega) hlink⟩
  | ref name key _ _ hd =>
    have V := PlainRef.refFacts hd
    have hname := List.length_pos_iff.mpr V.cw.ne
    have r1 := scans_cw T src pos V.cw
    obtain ⟨ks, B, _, r2⟩ := PlainVanish.scans_braced T src (pos + (name.length + 1)) V.br.b1 V.br.key V.br.b2
    obtain ⟨hph, hrne, hrlen⟩ := V.rn.repl
    refine ScanFacts.consVis ((r1.append r2).to (by simp only [PlainRef.callLen]; omega))
      (.ref pos (pos + (name.length + 1)) (pos + (name.length + 1) + 1 + key.length) name
        (ks.map (·.tok)) (PlainRef.replOf st name))
      [.fix (fixOf T st pos (.ref name key)) (PlainRef.callLen name key)] (by simp [Piece.toks]) rfl ?_
      (first_cw V.cw pos) rfl
    intro rs _ I ps hflat hpok hlink
    refine ⟨⟨V.rn, rfl, B, hpok⟩, Link.fix _ _ _ _ _ ?_ hlink⟩
    refine isFix_of T _ _ _ (2 + (PlainRef.replOf st name).length)
      (mkAction pos :: (PlainRef.replOf st name).map (restamp pos)) ?_ ?_
      (by simp only [PlainRef.callLen]; omega)
    · rw [marksOf_cons, tokMarks_mkAction, marksOf_restamp _ _ (fun t ht => (hph t ht).plain)]
      rfl
    · intro x hx
      rcases List.mem_cons.mp hx with rfl | hx
      · exact simple_mkAction pos
      · obtain ⟨u, hu, rfl⟩ := List.mem_map.mp hx
        exact PlainRef.simple_restamp pos (hph u hu)
  | cite name key _ _ hd hS =>
    have V := PlainRef.citeFacts hd
    have hname := List.length_pos_iff.mpr V.cw.ne
    have r1 := scans_cw T src pos V.cw
    obtain ⟨ks, B, _, r2⟩ := PlainVanish.scans_braced T src (pos + (name.length + 1)) V.br.b1 V.br.key V.br.b2
    refine ScanFacts.consVis ((r1.append r2).to (by simp only [PlainRef.callLen]; omega))
      (.cite pos (pos + (name.length + 1)) (pos + (name.length + 1) + 1 + key.length) name (ks.map (·.tok)))
      [.fix (fixOf T st pos (.cite name key)) (PlainRef.callLen name key)] (by simp [Piece.toks]) rfl ?_
      (first_cw V.cw pos) rfl
    intro rs _ I ps hflat hpok hlink
    refine ⟨⟨V.cn, B, PlainRef.stateFacts hS, hpok⟩, Link.fix _ _ _ _ _ ?_ hlink⟩
    refine isFix_of T _ _ _ 4 (mkAction pos :: PlainRef.citeToks pos) ?_ ?_
      (by simp only [PlainRef.callLen]; omega)
    · rw [marksOf_cons, tokMarks_mkAction, PlainRef.marksOf_citeToks]
      rfl
    · intro x hx
      simp only [PlainRef.citeToks, List.mem_cons, List.not_mem_nil, or_false] at hx
      rcases hx with rfl | rfl | rfl
      · exact simple_mkAction pos
      · exact PlainRef.simple_vis _ rfl (by simp [mkFix]; decide)
      · exact simple_mkAction pos
  | citeN name note key _ _ hd hS =>
    have V := PlainRef.citeNFacts hd
    have hname := List.length_pos_iff.mpr V.cw.ne
    have r1 := scans_cw T src pos V.cw
    obtain ⟨ns, N, r2⟩ := PlainRef.scans_note T st src (pos + (name.length + 1)) V.lb V.txt V.rb
    have r12 := r1.append r2
    obtain ⟨ks, B, _, r3⟩ := PlainVanish.scans_braced T src (pos + (name.length + 1) + (note.length + 2))
      V.br.b1 V.br.key V.br.b2
    have hnne : ns.map (·.tok) ≠ [] := fun e => V.ne (N.nil_iff (by simpa using e))
    have hnote := PlainFlows.optToks_of_run N V.nrb
    have hlast : PlainRef.lastPos (ns.map (·.tok)) = pos + (name.length + 1) + 1 + lastTokOff note := by
      obtain ⟨l, hgl⟩ := Call.getLast?_of_ne hnne
      rw [PlainRef.lastPos_of_getLast hgl, N.last l hgl]
    refine ScanFacts.consVis ((r12.append r3).to (by simp only [PlainRef.callNLen]; omega))
      (.citeN pos (pos + (name.length + 1)) (pos + (name.length + 1) + 1 + note.length)
        (pos + (name.length + 1) + (note.length + 2))
        (pos + (name.length + 1) + (note.length + 2) + 1 + key.length) name
        (ns.map (·.tok)) (ks.map (·.tok)))
      [.fix (fixOf T st pos (.citeN name note key)) (PlainRef.callNLen name note key)]
      (by simp [Piece.toks]) rfl ?_ (first_cw V.cw pos) rfl
    intro rs _ I ps hflat hpok hlink
    refine ⟨⟨V.cn, hnne, hnote, B, PlainRef.stateFacts hS, hpok⟩,
      Link.fix _ _ _ _ _ ?_ hlink⟩
    refine isFix_of T _ _ _ (6 + (ns.map (·.tok)).length)
      (mkAction pos :: PlainRef.citeNToks pos (ns.map (·.tok))) ?_ ?_
      (by have := N.len; simp only [PlainRef.callNLen, List.length_map]; omega)
    · rw [marksOf_cons, tokMarks_mkAction,
        PlainRef.marksOf_citeNToks pos _ _ note _ (PlainRef.marksOf_textrun N) hlast]
      have e : pos + (name.length + 1) + 1 = pos + name.length + 2 := by omega
      simp [fixOf, e]
    · intro x hx
      simp only [PlainRef.citeNToks, List.mem_cons, List.mem_append, List.not_mem_nil,
        or_false] at hx
      rcases hx with rfl | rfl | rfl | hx | rfl | rfl
      · exact simple_mkAction pos
      · exact PlainRef.simple_vis _ rfl (by simp [mkFix]; decide)
      · exact ⟨fun ha => by simp [isAction, mkFix] at ha, rfl, fun _ => by simp [mkFix]; decide⟩
      · exact PlainRef.simple_of_copy (hnote x hx).1
      · exact PlainRef.simple_vis _ rfl (by simp [mkTok]; decide)
      · exact simple_mkAction _
  | foot body _ _ hd hS =>
    have F := PlainFootnote.footFacts hd
    have r1 := Scans.step (R := '{' :: (body ++ '}' :: R))
      (PlainFootnote.nextToken_footnote T.toTables src pos (body ++ '}' :: R) F.special F.nAccent) rfl
    obtain ⟨lt, rt, bs, hlt, hrt, B, r2⟩ := PlainFootnote.scans_braced T st src (pos + 9) F.lb F.text F.rb
    have hc : ∀ t ∈ bs.map (·.tok), CopyTok T st t := List.forall_mem_map.mpr (fun x hx => (B.ok x hx).2.2)
    have hbne : bs.map (·.tok) ≠ [] := fun e => F.ne (B.nil_iff (by simpa using e))
    obtain ⟨h, hs, hx⟩ := List.exists_cons_of_ne_nil hbne
    have hh : (bs.map (·.tok)).head? = some h := by rw [hx]; rfl
    obtain ⟨l, hl⟩ := Call.getLast?_of_ne hbne
    have hhp : h.pos = pos + 10 := B.first h hs hx
    refine ScanFacts.consVis ((r1.append r2).to (by omega))
      (.foot { kind := .xmacro, pos := pos, txt := PlainFootnote.sFootnote }
        lt (bs.map (·.tok)) rt)
      [.foot (flowOut (pos + 10) body) (body.length + 11)] (by simp [Piece.toks]) rfl ?_ ?_ rfl
    · intro rs _ I ps hflat hpok hlink
      exact ⟨⟨⟨rfl, rfl⟩, hlt, hrt, hbne, hc,
          PlainFootnote.flowSafe_of_lines _ body (fun t ht => (hc t ht).txt_ne) B.lines F.lines,
          PlainFootnote.stateFacts hS, hpok⟩,
        Link.foot _ _ _ _ _ _ _ _ (charsOf_flowToks _ h l body (pos + 10) hh hl B.txt hhp (B.last l hl))
          (by have := B.len; simp only [List.length_map]; omega) hlink⟩
    · exact first_kw T.toTables ['f', 'o', 'o', 't', 'n', 'o', 't', 'e'] _ (by simp) (by decide) rfl
        F.special (by decide)
  | head name title _ _ hd hS =>
    have F := PlainHeading.headFacts hd
    have S := PlainHeading.stateFacts hS
    have r1 := Scans.step (R := '{' :: (title ++ '}' :: R))
      (PlainHeading.nextToken_name T st src pos name title R F) (by simp)
    obtain ⟨lt, rt, bs, hlt, hrt, B, r2⟩ := PlainFootnote.scans_braced T st src (pos + (name.length + 1)) F.lb F.text
      F.rb
    rw [show pos + (name.length + 1) + 1 = pos + name.length + 2 by omega] at B
    have hc : ∀ t ∈ bs.map (·.tok), CopyTok T st t := List.forall_mem_map.mpr (fun x hx => (B.ok x hx).2.2)
    have hne : title ≠ [] := by
      intro e
      have := F.vis
      rw [e] at this
      simp [isBlank] at this
    have hbne : bs.map (·.tok) ≠ [] := fun e => hne (B.nil_iff (by simpa using e))
    obtain ⟨l, hl⟩ := Call.getLast?_of_ne hbne
    have hlp : PlainHeading.lastPos (bs.map (·.tok)) = pos + name.length + 2 + lastTokOff title := by
      simp only [PlainHeading.lastPos, hl, Option.map_some, Option.getD_some]
      exact B.last l hl
    have htxt : (getTxtPos (bs.map (·.tok))).1 = title := by rw [B.txt]
    refine ScanFacts.consVis ((r1.append r2).to (by omega))
      (.head (cwTok pos name) lt (bs.map (·.tok)) rt)
      [.fix (fixOf T st pos (.head name title)) (name.length + title.length + 3)] (by simp [Piece.toks]) rfl
      ?_ (first_kw T.toTables name _ F.ne F.all rfl F.special F.nVerb) rfl
    intro rs _ I ps hflat hpok hlink
    refine ⟨⟨PlainHeading.hdTok_cwTok F pos, hlt, hrt, hbne, hc, S, hpok⟩,
      Link.fix _ _ _ _ _ ?_ hlink⟩
    refine isFix_of T _ _ _ ((bs.map (·.tok)).length + 3)
      (PlainHeading.headOut T (cwTok pos name) (bs.map (·.tok))) ?_ ?_
      (by have := B.len; simp only [List.length_map]; omega)
    · simp only [PlainHeading.headOut, fixOf]
      rw [marksOf_cons, tokMarks_mkAction, marksOf_append, PlainRef.marksOf_textrun B, htxt, hlp,
        PlainMix2.marksOf_dotToks]
      rfl
    · intro x hx
      simp only [PlainHeading.headOut, List.mem_cons, List.mem_append] at hx
      rcases hx with rfl | hx | hx
      · exact simple_mkAction _
      · exact PlainRef.simple_of_copy (hc x hx)
      · exact PlainRef.simple_of_copy (PlainHeading.copyTok_dotToks S _ _ x hx)
  | acc name ws bo l _ _ hd hnlok =>
    have F := PlainAccent.accOkFacts hd
    obtain ⟨u, hu⟩ := Option.isSome_iff_exists.mp F.val
    have hl := (PlainAccent.accFacts hu).letter
    obtain ⟨hmlen, hne⟩ := PlainAccent.macroLen_name _ _ F.nm
    have hal := (PlainAccent.accSteps_length pos name ws bo l hne).2
    refine ScanFacts.consVis (PlainAccent.scans_acc T src pos F hl)
      (.acc pos name ((PlainAccent.wsSteps (pos + (name.length + 1)) ws).map (·.tok))
        (PlainAccent.brOpt bo (pos + (name.length + 1) + ws.length))
        (PlainAccent.letPos bo (pos + (name.length + 1) + ws.length)) l)
      [.fix (fixOf T st pos (.acc name ws bo l)) (PlainAccent.accLen name ws bo)]
      (by simp [PlainAccent.accSteps, Piece.toks, PlainAccent.argSteps_toks]) rfl ?_
      (firstTokTxtV_name T.toTables name _ hmlen F.special F.nVerb).symm rfl
    intro rs _ I ps hflat hpok hlink
    refine ⟨⟨F.an, PlainAccent.wsSteps_kind _ _, F.val, hpok⟩, Link.fix _ _ _ _ _ ?_ hlink⟩
    refine isFix_of T _ _ _ 3 [PlainAccent.resTok pos (PlainAccent.accVal T name l)] ?_ ?_ (by omega)
    · rw [marksOf_cons, tokMarks_nonaction _ (by simp [isAction, PlainAccent.resTok]),
        PlainAccent.tokChars_resTok]
      simp [fixOf, marksOf]
    · intro x hx
      rw [List.mem_singleton.mp hx]
      refine ⟨by simp [isAction, PlainAccent.resTok], by simp [isLang, PlainAccent.resTok], ?_⟩
      intro hnl
      simp only [accNlOk, Bool.or_eq_true, Bool.not_eq_true'] at hnlok
      simp only [PlainAccent.resTok] at hnl ⊢
      rcases hnlok with h | h
      · rw [h] at hnl; cases hnl
      · exact h
  | defn name nn body _ _ hd hnc =>
    have D := PlainMacroArgs.defFacts hd
    obtain ⟨bs, B, r⟩ := PlainMacroArgs.scans_defn T st src D pos
    refine ScanFacts.consVis r
      (.defn pos (pos + 11) (pos + 11 + 1) (pos + 11 + 1 + (name.length + 1))
        (pos + 11 + 1 + (name.length + 1) + 1) (pos + 11 + 1 + (name.length + 1) + 1 + 1)
        (pos + 11 + 1 + (name.length + 1) + 1 + 1 + 1) (pos + 11 + 1 + (name.length + 1) + 1 + 1 + 1 + 1)
        (pos + 11 + 1 + (name.length + 1) + 1 + 1 + 1 + 1 + 1 + (bodyStr body).length) name nn
        (bs.map (·.tok)))
      [.defn pos name nn body] (by simp [Piece.toks, lbr, rbr, PlainMacroArgs.headSteps]) rfl ?_
      (first_kw T.toTables ncName _ (by decide) (by decide) rfl D.ncSpecial (by decide)) rfl
    intro rs _ I ps hflat hpok hlink
    refine ⟨⟨NcOk_of_ncOk hnc, nameOk_of_cwFacts D.cw D.ign, D.digit, ⟨?_, ?_⟩, hpok⟩,
      Link.defn _ _ _ _ _ _ _ _ _ name nn body _ ps items' B.link hlink⟩
    · simpa using B.ne (by rw [← PlainMacroArgs.bodyStr_norm]; exact D.bne)
    · exact List.forall_mem_map.mpr B.toks
  | ddef name nn body _ _ hd =>
    have D := PlainDefTex.ddefFacts hd
    obtain ⟨bs, B, rB⟩ := PlainDefTex.scans_bodyStr T st src nn R body _ D.bok
    have r := PlainDefTex.scans_ddef T st src pos name nn _ R D.dSpecial D.dAccent D.cw D.params D.b3 D.b4 rB
    refine ScanFacts.consVis r
      (.ddef pos (pos + 4) (pos + 4 + (name.length + 1)) (pos + 4 + (name.length + 1) + 2 * nn)
        (pos + 4 + (name.length + 1) + 2 * nn + 1 + (bodyStr body).length) name nn (bs.map (·.tok)))
      [.ddef pos name nn body] (by simp [Piece.toks, lbr, rbr, List.map_map, Function.comp_def]) rfl ?_
      (first_kw T.toTables PlainDefTex.defName _ (by decide) (by decide) rfl D.dSpecial (by decide)) rfl
    intro rs _ I ps hflat hpok hlink
    refine ⟨⟨nameOk_of_cwFacts D.cw D.ign, ⟨?_, ?_⟩, hpok⟩,
      Link.ddef _ _ _ _ _ name nn body _ ps items' B.link hlink⟩
    · simpa using B.ne (by rw [← PlainMacroArgs.bodyStr_norm]; exact D.bne)
    · exact List.forall_mem_map.mpr B.toks
  | ppar ws _ _ hd =>
    simp only [parOkV, Bool.and_eq_true] at hd
    obtain ⟨⟨hd1, hd2⟩, hd3⟩ := hd
    have V := PlainParEnv.parFacts hd1
    have r1 := scans_cw T src pos V.cw
    have r2 := Scans.whiteSteps T.toTables src (pos + (PlainParEnv.parName.length + 1)) (X := R)
      (List.all_eq_true.mp V.blank) V.whole
    refine ScanFacts.consVis ((r1.append r2).to (by rw [PlainParEnv.parName_len]; omega))
      (.ppar pos ((whiteSteps (pos + (PlainParEnv.parName.length + 1)) ws).map (·.tok)))
      [.fix (fixOf T st pos (.ppar ws)) (ws.length + 4)] rfl rfl ?_ (first_cw V.cw pos) rfl
    intro rs _ I ps hflat hpok hlink
    refine ⟨⟨PlainParEnv.ParOk_of_parOk hd2, PlainThm.spToks_whiteSteps _ V.nls,
        headVis_of_scan I hflat hpok V.head hd3, hpok⟩,
      Link.fix _ _ _ _ _ ?_ hlink⟩
    refine isFix_of T _ _ _ 3 [mkAction pos, PlainThm.parTok pos] ?_ ?_ (by omega)
    · rw [marksOf_cons, tokMarks_mkAction, marksOf_cons, PlainThm.tokMarks_parTok]
      rfl
    · simp [simple_mkAction, PlainThm.simple_parTok]
  | pbeg name arg _ _ hd =>
    have V := PlainParEnv.begFacts hd
    have r1 := PlainItem.scans_begin T src pos V.special V.noverb
    obtain ⟨ns, N, r2⟩ := PlainThm.scans_bracedText T st src (pos + 6) V.nm
    have r12 := r1.append r2
    obtain ⟨as, B, r3⟩ := PlainThm.scans_bracedText T st src (pos + 6 + (name.length + 2)) V.ag
    obtain ⟨hN, eN⟩ := PlainThm.nameToks_of_run N V.nm.ne
    refine ScanFacts.consVis ((r12.append r3).to (by omega))
      (.pbeg pos (pos + 6) (pos + 6 + 1 + name.length) (pos + 6 + (name.length + 2))
        (pos + 6 + (name.length + 2) + 1 + arg.length) (ns.map (·.tok)) (as.map (·.tok)))
      [.fix (fixOf T st pos (.pbeg name arg)) (name.length + arg.length + 10)] (by simp [Piece.toks]) rfl ?_
      (first_begin T.toTables pos V.special) rfl
    intro rs _ I ps hflat hpok hlink
    refine ⟨⟨hN, by rw [eN]; exact V.env, List.forall_mem_map.mpr (fun x hx => ?_), hpok⟩,
      Link.fix _ _ _ _ _ ?_ hlink⟩
    · have hc : PlainFootnote.CopyTok T st x.tok := (B.ok x hx).2.2
      exact ⟨PlainMacro.plainTok_noBrace hc.plain, hc.plain.notComment⟩
    · refine isFix_of T _ _ _ (3 + (ns.map (·.tok)).length) [PlainThm.parTok pos, mkAction pos] ?_ ?_
        (by have := N.len; simp only [List.length_map]; omega)
      · rw [marksOf_cons, PlainThm.tokMarks_parTok, marksOf_cons, tokMarks_mkAction]
        rfl
      · simp [simple_mkAction, PlainThm.simple_parTok]
  | pen name _ _ hd =>
    have V := PlainParEnv.endFacts hd
    have r1 := PlainItem.scans_end T src pos V.special
    obtain ⟨ns, N, r2⟩ := PlainThm.scans_bracedText T st src (pos + 4) V.nm
    obtain ⟨hN, eN⟩ := PlainThm.nameToks_of_run N V.nm.ne
    refine ScanFacts.consVis ((r1.append r2).to (by omega))
      (.pen pos (pos + 4) (pos + 4 + 1 + name.length) (ns.map (·.tok)))
      [.fix (fixOf T st pos (.pen name)) (name.length + 6)] (by simp [Piece.toks]) rfl ?_
      (first_end T.toTables pos V.special) rfl
    intro rs _ I ps hflat hpok hlink
    refine ⟨⟨hN, by rw [eN]; exact V.env, hpok⟩, Link.fix _ _ _ _ _ ?_ hlink⟩
    refine isFix_of T _ _ _ (2 + (ns.map (·.tok)).length) [PlainThm.parTok pos] ?_ ?_
      (by have := N.len; simp only [List.length_map]; omega)
    · rw [marksOf_cons, PlainThm.tokMarks_parTok]
      rfl
    · simp [PlainThm.simple_parTok]
  | call name body _ _ hd hS =>
    have V := PlainFlows.callFacts hd
    have S : PlainExtract.StateFacts T st := PlainExtract.stateFacts hS
    have hnl : 1 ≤ name.length := List.length_pos_iff.mpr V.cw.ne
    have r1 := scans_cw T src pos V.cw
    obtain ⟨bs, B, r2⟩ := PlainThm.scans_bracedText T st src (pos + (name.length + 1)) V.bt
    obtain ⟨hbne, hbc, hsafe, hfo⟩ := PlainFlows.flow_of_run B V.bt.ne V.lines
    rw [show pos + (name.length + 1) + 1 = pos + name.length + 2 by omega] at hfo
    refine ScanFacts.consVis ((r1.append r2).to (by omega))
      (.call pos (pos + (name.length + 1)) (pos + (name.length + 1) + 1 + body.length) name (bs.map (·.tok)))
      [.foot (flowOut (pos + name.length + 2) body) (name.length + body.length + 3)]
      (by simp [Piece.toks]) rfl ?_ (first_cw V.cw pos) rfl
    intro rs _ I ps hflat hpok hlink
    exact ⟨⟨V.fn, hbne, hbc, hsafe, S.single, hpok⟩,
      Link.call _ _ _ _ _ _ _ _ _ (by rw [charsOf_eq_zip, hfo]; exact zip_fst_snd _)
        (by have := B.len; simp only [List.length_map]; omega) hlink⟩
  | callO name opt body _ _ hd hS =>
    have V := PlainFlows.callOFacts hd
    have S : PlainExtract.StateFacts T st := PlainExtract.stateFacts hS
    have hnl : 1 ≤ name.length := List.length_pos_iff.mpr V.cw.ne
    have r1 := scans_cw T src pos V.cw
    obtain ⟨os, O, r2⟩ := PlainRef.scans_note T st src (pos + (name.length + 1)) V.op.lb V.op.txt V.op.rb
    have r12 := r1.append r2
    obtain ⟨bs, B, r3⟩ := PlainThm.scans_bracedText T st src (pos + (name.length + 1) + (opt.length + 2)) V.bt
    obtain ⟨hbne, hbc, hsafe, hfo⟩ := PlainFlows.flow_of_run B V.bt.ne V.lines
    rw [show pos + (name.length + 1) + (opt.length + 2) + 1 = pos + name.length + opt.length + 4 by omega] at hfo
    refine ScanFacts.consVis ((r12.append r3).to (by omega))
      (.callO pos (pos + (name.length + 1)) (pos + (name.length + 1) + 1 + opt.length)
        (pos + (name.length + 1) + (opt.length + 2))
        (pos + (name.length + 1) + (opt.length + 2) + 1 + body.length) name
        (os.map (·.tok)) (bs.map (·.tok)))
      [.foot (flowOut (pos + name.length + opt.length + 4) body) (name.length + opt.length + body.length + 5)]
      (by simp [Piece.toks]) rfl ?_ (first_cw V.cw pos) rfl
    intro rs _ I ps hflat hpok hlink
    exact ⟨⟨V.fn, PlainFlows.optToks_of_run O V.op.nrb, hbne, hbc, hsafe, S.single, hpok⟩,
      Link.callO _ _ _ _ _ _ _ _ _ _ _ _ (by rw [charsOf_eq_zip, hfo]; exact zip_fst_snd _)
        (by have := B.len; simp only [List.length_map]; omega) hlink⟩
  | fen name _ _ hd =>
    have V := PlainFlows.endFacts hd
    have r1 := PlainItem.scans_end T src pos V.special
    obtain ⟨ns, N, r2⟩ := PlainThm.scans_bracedText T st src (pos + 4) V.nm
    obtain ⟨hN, eN⟩ := PlainThm.nameToks_of_run N V.nm.ne
    refine ScanFacts.consVis ((r1.append r2).to (by omega))
      (.fen pos (pos + 4) (pos + 4 + 1 + name.length) (ns.map (·.tok)))
      [.fix [none] (name.length + 6)] (by simp [Piece.toks]) rfl ?_ (first_end T.toTables pos V.special) rfl
    intro rs _ I ps hflat hpok hlink
    refine ⟨⟨hN, by rw [eN]; exact V.env, hpok⟩, Link.fix _ _ _ _ _ ?_ hlink⟩
    exact isFix_of T _ _ _ ((ns.map (·.tok)).length + 2) [mkAction pos] rfl (by simp [simple_mkAction])
      (by have := N.len; simp only [List.length_map]; omega)
  | fbegN name note _ _ hd =>
    have V := PlainFlows.begNFacts hd
    have r1 := PlainItem.scans_begin T src pos V.special V.noverb
    obtain ⟨ns, N, r2⟩ := PlainThm.scans_bracedText T st src (pos + 6) V.nm
    have r12 := r1.append r2
    obtain ⟨os, B, r3⟩ := PlainRef.scans_note T st src (pos + 6 + (name.length + 2)) V.op.lb V.op.txt V.op.rb
    obtain ⟨hN, eN⟩ := PlainThm.nameToks_of_run N V.nm.ne
    refine ScanFacts.consVis ((r12.append r3).to (by omega))
      (.fbegN pos (pos + 6) (pos + 6 + 1 + name.length) (pos + 6 + (name.length + 2))
        (pos + 6 + (name.length + 2) + 1 + note.length) (ns.map (·.tok)) (os.map (·.tok)))
      [.fix [none, none] (name.length + note.length + 10)] (by simp [Piece.toks]) rfl ?_
      (first_begin T.toTables pos V.special) rfl
    intro rs _ I ps hflat hpok hlink
    refine ⟨⟨hN, by rw [eN]; exact V.env, PlainFlows.optToks_of_run B V.op.nrb, hpok⟩,
      Link.fix _ _ _ _ _ ?_ hlink⟩
    exact isFix_of T _ _ _ ((ns.map (·.tok)).length + 3) [mkAction pos, mkAction pos] rfl
      (by simp [simple_mkAction]) (by have := N.len; simp only [List.length_map]; omega)
  | fbeg name ws _ _ hd =>
    simp only [fbegOk, Bool.and_eq_true, bne_iff_ne, ne_eq] at hd
    obtain ⟨⟨⟨hd0, hR⟩, hpc⟩, hbr⟩ := hd
    have V := PlainFlows.begFacts hd0
    have r1 := PlainItem.scans_begin T src pos V.special V.noverb
    obtain ⟨ns, N, r2⟩ := PlainThm.scans_bracedText T st src (pos + 6) V.nm
    have r12 := r1.append r2
    have r3 := Scans.whiteSteps T.toTables src (pos + 6 + (name.length + 2)) (X := R)
      (List.all_eq_true.mp V.ws.blank) V.ws.whole
    obtain ⟨hN, eN⟩ := PlainThm.nameToks_of_run N V.nm.ne
    refine ScanFacts.consVis ((r12.append r3).to (by omega))
      (.fbeg pos (pos + 6) (pos + 6 + 1 + name.length) (ns.map (·.tok))
        ((whiteSteps (pos + 6 + (name.length + 2)) ws).map (·.tok)))
      [.fix [none, none] (name.length + ws.length + 8)] (by simp [Piece.toks]) rfl ?_
      (first_begin T.toTables pos V.special) rfl
    intro rs _ I ps hflat hpok hlink
    refine ⟨⟨hN, by rw [eN]; exact V.env, PlainThm.spToks_whiteSteps _ V.ws.nls,
        headOk_of_scan I hflat hpok hR hpc hbr, hpok⟩,
      Link.fix _ _ _ _ _ ?_ hlink⟩
    exact isFix_of T _ _ _ ((ns.map (·.tok)).length + 3) [mkAction pos, mkAction pos] rfl
      (by simp [simple_mkAction]) (by have := N.len; simp only [List.length_map]; omega)
  | use name args _ _ hu =>
    have U := PlainMacroArgs.useFacts hu
    have r1 := scans_cw T src pos U.cw
    obtain ⟨as, A, r2⟩ := PlainMacroArgs.scans_args T st src R args (pos + (name.length + 1)) U.args
    obtain ⟨gs, hgs1, hgs2, hgs3⟩ := A.gs
    refine ScanFacts.consVis ((r1.append r2).to (by omega)) (.use pos name gs)
      [.use pos name args] (by simp [Piece.toks, hgs1]) rfl ?_ (first_cw U.cw pos) rfl
    intro rs _ I ps hflat hpok hlink
    have e : pos + (name.length + 1) = pos + name.length + 1 := by omega
    exact ⟨⟨nameOk_of_cwFacts U.cw U.ign, PlainMacroArgs.groupsLink_ne hgs3 U.ne, hgs2, hpok⟩,
      Link.use pos name args gs ps items' U.cw.ne (by rw [← e]; exact hgs3) hlink⟩
  | disp body _ _ hm hds =>
    simp only [PlainDisplay.dispOk, Bool.and_eq_true] at hm
    obtain ⟨⟨⟨⟨⟨hdef, hopen⟩, hbody⟩, hamp⟩, helem⟩, hclose⟩ := hm
    have r1 := Scans.step (R := body ++ '\\' :: ']' :: R)
      (PlainDisplay.nextToken_open T src pos (body ++ '\\' :: ']' :: R) hopen) rfl
    obtain ⟨bs, B, r2⟩ := PlainDisplay.scans_bodyrun T src '\\' _ (by decide) _ (pos + 2) hbody hamp
    have r12 := r1.append r2
    obtain ⟨k2, hk2, hn2⟩ := PlainDisplay.nextToken_close T src (pos + 2 + body.length) R hclose
    have r3 := Scans.step (R := R) hn2 rfl
    obtain ⟨el, hel1, hel2⟩ := PlainDisplay.elemPos_bodyToksOf T st.mathOperators body (pos + 2) helem
    refine ScanFacts.consVis ((r12.append r3).to (by simp only []; omega))
      (.disp st.mathOperators { kind := .special, pos := pos, txt := PlainDisplay.sOpen }
        (bs.map (·.tok)) { kind := k2, pos := pos + 2 + body.length, txt := PlainDisplay.sClose })
      [.disp (fun ph => dispMarks T st.mathOperators ph pos 2 body) (body.length + 4)]
      (by simp [Piece.toks]) rfl ?_ ?_ rfl
    · intro rs _ I ps hflat hpok hlink
      refine ⟨⟨rfl, hdef, hds, ⟨rfl, rfl⟩, ?_, List.forall_mem_map.mpr (fun x hx => (B.ok x hx).2.2),
          ⟨hk2, rfl⟩, hpok⟩,
        Link.disp _ _ _ _ _ _ _ _ ?_ (by have := B.len; simp only [List.length_map]; omega) hlink⟩
      · unfold PlainDisplay.HasElem
        rw [B.toks, hel1]; rfl
      · intro ph
        rw [marksOf_dispOut]
        simp only [dispMarks, PlainDisplay.elemPos, B.toks, hel1, Option.map_some, Option.getD_some,
          hel2, PlainMath.bodyTxt_bodyToksOf,
          PlainDisplay.firstPos_bodyToksOf body (pos + 2) (PlainDisplay.any_nonspace_of_elem helem), PlainMath.punctOf]
    · have hmt : matchSpecial T.toTables ('\\' :: ('[' :: [] ++ (body ++ '\\' :: ']' :: R)))
          = some ('\\' :: ['[']) := by
        simpa [PlainDisplay.openAt, PlainDisplay.sOpen] using hopen
      exact (firstTokTxtV_spec T.toTables '\\' ['['] _ (by decide) (by decide) hmt).symm
  | denv name body _ _ hm hds =>
    have D := PlainDisplay.envFacts hm
    obtain ⟨s1, B1, r1⟩ := PlainItem.scans_env T st src pos PlainItem.nBegin 6 (PlainItem.begTok pos) _ _ rfl
      (PlainItem.nextToken_begin T src pos _ D.special D.noverb) D.b1 D.b2 D.inert
    obtain ⟨bs, B, r2⟩ := PlainDisplay.scans_bodyrun T src '\\' _ (by decide) _ (pos + (name.length + 8)) D.bok D.amp
    have r12 := r1.append r2
    obtain ⟨s2, B2, r3⟩ := PlainItem.scans_env T st src (pos + (name.length + 8) + body.length) PlainItem.nEnd 4
      (PlainItem.endTok (pos + (name.length + 8) + body.length)) _ _ rfl
      (PlainItem.nextToken_end T src _ _ D.special2) D.b3 D.b4 D.inert
    obtain ⟨el, hel1, hel2⟩ := PlainDisplay.elemPos_bodyToksOf T st.mathOperators body
      (pos + (name.length + 8)) D.elem
    have hbt1 : bodyTxt (s1.map (·.tok)) = name := B1.txt
    have hbt2 : bodyTxt (s2.map (·.tok)) = name := B2.txt
    refine ScanFacts.consVis ((r12.append r3).to (by omega))
      (.denv st.mathOperators pos (pos + 6) (pos + 6 + 1 + name.length) (s1.map (·.tok))
        (bs.map (·.tok)) (pos + (name.length + 8) + body.length)
        (pos + (name.length + 8) + body.length + 4)
        (pos + (name.length + 8) + body.length + 4 + 1 + name.length) (s2.map (·.tok)))
      [.disp (fun ph => none :: none :: dispMarks T st.mathOperators ph pos (name.length + 8) body)
        (2 * name.length + body.length + 14)] (by simp [Piece.toks]) rfl ?_
      (first_begin T.toTables pos D.special) rfl
    intro rs _ I ps hflat hpok hlink
    refine ⟨⟨rfl, hds, PlainItem.nameToks_of_bodyRun B1 D.ne, PlainItem.nameToks_of_bodyRun B2 D.ne,
        by rw [hbt1, hbt2], by rw [hbt1]; exact D.env, by rw [hbt1]; exact D.n1,
        by rw [hbt1]; exact D.n2, ?_, List.forall_mem_map.mpr (fun x hx => (B.ok x hx).2.2), hpok⟩,
      Link.denv _ _ _ _ _ _ _ _ _ _ _ _ _ _ ?_
        (by have := B.len; have := B1.len; have := B2.len; simp only [List.length_map]; omega) hlink⟩
    · unfold PlainDisplay.HasElem
      rw [B.toks, hel1]; rfl
    · intro ph
      rw [marksOf_cons, marksOf_cons, tokMarks_mkAction, marksOf_dispOut]
      simp only [dispMarks, PlainDisplay.elemPos, B.toks, hel1, Option.map_some, Option.getD_some,
        hel2, PlainMath.bodyTxt_bodyToksOf,
        PlainDisplay.firstPos_bodyToksOf body _ (PlainDisplay.any_nonspace_of_elem D.elem), PlainMath.punctOf]
      rfl
  | beg name _ _ hd =>
    have D := PlainItem.begFacts hd
    obtain ⟨bs, B, r⟩ := PlainItem.scans_env T st src pos PlainItem.nBegin 6 (PlainItem.begTok pos) _ _ rfl
      (PlainItem.nextToken_begin T src pos _ D.special D.noverb) D.b1 D.b2 D.inert
    have hbt : bodyTxt (bs.map (·.tok)) = name := B.txt
    refine ScanFacts.consVis r (.beg pos (pos + 6) (pos + 6 + 1 + name.length) (bs.map (·.tok)))
      [.stk (fun _ => PlainItem.envMarks (PlainItem.envOf st name) pos ++ [none])
        (fun stk => PlainItem.begStk st stk name) (fun _ => true) (name.length + 8)]
      (by simp [Piece.toks]) rfl ?_ (first_begin T.toTables pos D.special) rfl
    intro rs _ I ps hflat hpok hlink
    exact ⟨⟨PlainItem.nameToks_of_bodyRun B D.ne, by rw [hbt]; exact D.env, hpok⟩,
      Link.beg pos _ _ name _ ps items' hbt (by simpa using B.len) hlink⟩
  | item ws _ _ hd =>
    simp only [itemOkV, Bool.and_eq_true, bne_iff_ne, ne_eq, Bool.not_eq_true'] at hd
    obtain ⟨⟨⟨hd0, hpc⟩, hbr⟩, hblank⟩ := hd
    have D := PlainItem.itemFacts hd0
    refine ScanFacts.consVis (PlainItemL.scans_item T src pos D.special D.adj D.blank D.headNS)
      (.item pos ((whiteSteps (pos + 5) ws).map (·.tok)))
      [.stk (itemMarks T pos) PlainItem.itemStk (fun stk => PlainItem.labelAt T st stk) (ws.length + 5)]
      rfl rfl ?_ (first_item T.toTables pos D.special D.adj) rfl
    intro rs _ I ps hflat hpok hlink
    exact ⟨⟨PlainThm.spToks_whiteSteps (pos + 5) D.nls, headOk_of_scan I hflat hpok D.head hpc hbr, hblank, hpok⟩,
      Link.item pos _ _ ps items' (by omega) hlink⟩
  | itemL ws label pc _ _ hd hpin =>
    simp only [itemLOkV, Bool.and_eq_true, Bool.not_eq_true'] at hd
    obtain ⟨⟨hd0, hblank⟩, hpu⟩ := hd
    have D := PlainItemL.itemLFacts hd0
    have r12 := PlainItemL.scans_item T src pos (X := '[' :: (label ++ ']' :: R)) D.special D.adj D.blank
      (by simp; decide)
    obtain ⟨os, O, r3⟩ := PlainRef.scans_note T st src (pos + (ws.length + 5)) D.op.lb D.op.txt D.op.rb
    have A := PlainItemL.argFacts (all := (scanAll T.toTables src (pos + (ws.length + 5)) ('[' :: (label ++ ']' :: R))).1)
      O (fun x hx => by rw [r3.eq]; simp [hx]) (PlainItemL.scanSteps_textTok T.toTables src _ _ _)
    have hal : (PlainItemL.labArg (pos + (ws.length + 5)) (os.map (·.tok))).length ≤ label.length + 1 := by
      have := O.len
      unfold PlainItemL.labArg
      split
      · simp
      · simp only [List.length_map]; omega
    have hsim : ∀ t ∈ PlainItemL.itemLOut pos (PlainItemL.labArg (pos + (ws.length + 5)) (os.map (·.tok))) pc,
        Simple t := by
      refine PlainItemL.simple_itemLOut pos _ _ A.simple ?_
      intro t ht
      cases pc with
      | none => simp [PlainItemL.punctToks] at ht
      | some c =>
        simp only [PlainItemL.punctToks, List.mem_singleton] at ht
        subst ht
        have hin : T.itemPunctuation.contains [c] = true := by simpa [pcIn] using hpin
        have hlo : PlainItem.labOk T st [c] = true := by
          have := hpu
          simp only [PlainItemL.punctOk, List.all_eq_true] at this
          exact this [c] (by simpa using hin)
        exact PlainItem.simple_labTok _ [c] (PlainItem.labOk_facts hlo 0).2.2
    refine ScanFacts.consVis ((r12.append r3).to (by omega))
      (.itemL pos ((whiteSteps (pos + 5) ws).map (·.tok)) (pos + (ws.length + 5))
        (pos + (ws.length + 5) + 1 + label.length) (os.map (·.tok)) pc)
      [.itemL (itemLMarks pos ws label pc) (ws.length + label.length + 7) pc label]
      (by simp [Piece.toks]) rfl ?_ (first_item T.toTables pos D.special D.adj) rfl
    intro rs _ I ps hflat hpok hlink
    refine ⟨⟨PlainThm.spToks_whiteSteps (pos + 5) D.nls, PlainFlows.optToks_of_run O D.op.nrb, hblank, hpu, hpok⟩,
      Link.itemL pos _ _ _ _ pc _ _ label ps items' ?_ hsim A.pv (by omega) hlink⟩
    have := PlainItemL.marksOf_itemLOut pos (PlainItemL.labArg (pos + (ws.length + 5)) (os.map (·.tok))) pc []
    rw [List.append_nil] at this
    rw [this, A.marks, A.last]
    simp [itemLMarks, marksOf]
  | ubeg name _ _ hd =>
    obtain ⟨hsp, hnv, D⟩ := PlainItemL.ubegFacts hd
    obtain ⟨bs, B, r⟩ := PlainItem.scans_env T st src pos PlainItem.nBegin 6 (PlainItem.begTok pos) _ _ rfl
      (PlainItem.nextToken_begin T src pos _ hsp hnv) D.b1 D.b2 D.inert
    have hbt : bodyTxt (bs.map (·.tok)) = name := B.txt
    refine ScanFacts.consVis r (.ubeg pos (pos + 6) (pos + 6 + 1 + name.length) (bs.map (·.tok)))
      [.ubeg name (name.length + 8)] (by simp [Piece.toks]) rfl ?_ (first_begin T.toTables pos hsp) rfl
    intro rs _ I ps hflat hpok hlink
    exact ⟨⟨PlainItem.nameToks_of_bodyRun B D.ne, by rw [hbt]; exact D.undecl, hpok⟩,
      Link.ubeg pos _ _ name _ _ ps items' hbt (by have := B.len; simp only [List.length_map]; omega) hlink⟩
  | uen name _ _ hd =>
    obtain ⟨hsp, D⟩ := PlainItemL.uendFacts hd
    obtain ⟨bs, B, r⟩ := PlainItem.scans_env T st src pos PlainItem.nEnd 4 (PlainItem.endTok pos) _ _ rfl
      (PlainItem.nextToken_end T src pos _ hsp) D.b1 D.b2 D.inert
    have hbt : bodyTxt (bs.map (·.tok)) = name := B.txt
    refine ScanFacts.consVis r (.uen pos (pos + 4) (pos + 4 + 1 + name.length) (bs.map (·.tok)))
      [.fix [none] (name.length + 6)] (by simp [Piece.toks]) rfl ?_ (first_end T.toTables pos hsp) rfl
    intro rs _ I ps hflat hpok hlink
    refine ⟨⟨PlainItem.nameToks_of_bodyRun B D.ne, by rw [hbt]; exact D.undecl, hpok⟩,
      Link.fix _ _ _ _ _ ?_ hlink⟩
    exact isFix_of T _ _ _ (2 + (bs.map (·.tok)).length) [mkAction pos] rfl (by simp [simple_mkAction])
      (by have := B.len; simp only [List.length_map]; omega)
  | en name _ _ hd =>
    have D := PlainItem.endFacts hd
    obtain ⟨bs, B, r⟩ := PlainItem.scans_env T st src pos PlainItem.nEnd 4 (PlainItem.endTok pos) _ _ rfl
      (PlainItem.nextToken_end T src pos _ D.special) D.b1 D.b2 D.inert
    have hbt : bodyTxt (bs.map (·.tok)) = name := B.txt
    refine ScanFacts.consVis r (.en pos (pos + 4) (pos + 4 + 1 + name.length) (bs.map (·.tok)))
      [.stk (fun _ => PlainItem.envMarks (PlainItem.envOf st name) pos) PlainItem.endStk
        (fun _ => true) (name.length + 6)]
      (by simp [Piece.toks]) rfl ?_ (first_end T.toTables pos D.special) rfl
    intro rs _ I ps hflat hpok hlink
    exact ⟨⟨PlainItem.nameToks_of_bodyRun B D.ne, by rw [hbt]; exact D.env, hpok⟩,
      Link.en pos _ _ name _ ps items' hbt (by simpa using B.len) hlink⟩

end PlainMix4
end Yalafi
