/-
  Proofs/PlainItemLRead.lean — a reading of the reference output of Proofs/PlainItemL.lean: every
  output character is either a COPY of a source character at its own position (a character of a
  text segment or of a label `[label]`), or it was generated by a list command and maps INSIDE the
  source span of that command (`\begin{name}`, `\item ws`, `\item ws [label]`, `\end{name}`); for a
  labelled item the generated characters are the blank at the backslash and the punctuation / blank
  pinned at the last token of the label, which lies between the brackets (at `[` for `\item[]`).

    `srcChars`, `spans`            the copied characters; the spans of the list commands
    `srcChars_in_source`           the source has these characters at these positions
    `marks_origin`, `out_origin`   the statement, for the marks and for `delLines` of them
  All three references are read segment by segment (Proofs/SegFold.lean: `fold_srcChars`, `fold_spans`,
  `fold_marks` along `readStep`; the two readings by position are seen from the state of `marks` through
  `SegFold.comap`), so each statement is one about a single segment (`srcChars_own`, `marks_own`).
-/
import YalafiVerif.Proofs.PlainItemL
namespace Yalafi
namespace PlainItemL

open PlainMacro (Mark delLines)
open PlainFootnote (lastTokOff)
open PlainItem (nBegin nEnd nItem envMarks labOf begStk itemStk endStk envOf)
open PlainVanish (delLines_mem)

def Seg.len : Seg → Nat
  | .txt s => s.length
  | .beg name => name.length + 8
  | .item ws => ws.length + 5
  | .itemL ws label => ws.length + label.length + 7
  | .en name => name.length + 6
  | .ubeg name => name.length + 8
  | .uen name => name.length + 6

theorem Seg.len_eq (s : Seg) : s.render.length = s.len := by
  cases s <;> simp [Seg.render, Seg.len, nBegin, nEnd, nItem] <;> omega

/-- the characters that are copied from the source: those of the text segments and of the labels,
    with their positions -/
def srcChars : Nat → List Seg → List (Char × Nat)
  | _, [] => []
  | p, .txt s :: rest => posText p s ++ srcChars (p + s.length) rest
  | p, .itemL ws label :: rest =>
    posText (p + (ws.length + 5) + 1) label ++ srcChars (p + (ws.length + label.length + 7)) rest
  | p, s :: rest => srcChars (p + s.len) rest

/-- the source spans `(start, length)` of the list commands that generate characters -/
def spans : Nat → List Seg → List (Nat × Nat)
  | _, [] => []
  | p, .txt s :: rest => spans (p + s.length) rest
  | p, .ubeg name :: rest => spans (p + (name.length + 8)) rest
  | p, .uen name :: rest => spans (p + (name.length + 6)) rest
  | p, s :: rest => (p, s.len) :: spans (p + s.len) rest

theorem labLast_in (q : Nat) (label : Str) : q ≤ labLast q label ∧ labLast q label ≤ q + label.length := by
  unfold labLast
  split
  · omega
  · rename_i h
    have hl : 1 ≤ label.length := by
      cases label with
      | nil => simp at h
      | cons => simp
    have : lastTokOff label + 1 ≤ label.length := by unfold lastTokOff; omega
    omega

theorem mem_envMarks {env : MacroDef} {p : Nat} {cp : Char × Nat} (h : some cp ∈ envMarks env p) :
    cp.2 = p := by
  unfold envMarks at h
  split at h
  · simp only [List.mem_cons, Option.some.injEq, List.not_mem_nil, or_false] at h
    rcases h with rfl | rfl <;> rfl
  · simp at h

theorem mem_punctMarks {pc : Option Char} {q : Nat} {cp : Char × Nat} (h : some cp ∈ punctMarks pc q) :
    cp.2 = q := by
  cases pc with
  | none => simp [punctMarks] at h
  | some c =>
    simp only [punctMarks, List.mem_singleton, Option.some.injEq] at h
    rw [h]

theorem fold_srcChars : SegFold (fun p (s : Seg) => p + s.len) srcChars :=
  ⟨fun _ => rfl, fun p s rest => by cases s <;> simp [srcChars, Seg.len]⟩

theorem fold_spans : SegFold (fun p (s : Seg) => p + s.len) spans :=
  ⟨fun _ => rfl, fun p s rest => by cases s <;> simp [spans, Seg.len]⟩

/-- the state behind a segment: the last visible character, the generators, the position -/
def readStep (T : PTables) (st1 : PState) (st : Option Char × List ItemGen × Nat) (s : Seg) :
    Option Char × List ItemGen × Nat :=
  (match s with
    | .txt t => pvText st.1 t
    | .item _ => pvLab st.1 (labOf T st.2.1)
    | .itemL _ label => pvPunct (pvText st.1 label) (punctOf T st.1)
    | _ => st.1,
   match s with
    | .beg name => begStk st1 st.2.1 name
    | .item _ => itemStk st.2.1
    | .en _ => endStk st.2.1
    | _ => st.2.1,
   st.2.2 + s.len)

theorem fold_marks (T : PTables) (st1 : PState) :
    SegFold (readStep T st1) (fun st => marks T st1 st.1 st.2.1 st.2.2) :=
  ⟨fun _ => rfl, fun st s rest => by cases s <;> simp [marks, readStep, Seg.len]⟩

theorem marks_own (T : PTables) (st1 : PState) {cp : Char × Nat} (pv : Option Char) (stk : List ItemGen)
    (p : Nat) (s : Seg) (h : some cp ∈ marks T st1 pv stk p [s]) :
    cp ∈ srcChars p [s] ∨ (p, s.len) ∈ spans p [s] ∧ p ≤ cp.2 ∧ cp.2 < p + s.len := by
  cases s with
  | txt t =>
    obtain ⟨x, hx, e⟩ : ∃ x ∈ posText p t, some x = some cp := by simpa [marks] using h
    cases e
    exact Or.inl (by simpa [srcChars] using hx)
  | beg name =>
    have := mem_envMarks (show some cp ∈ envMarks (envOf st1 name) p by simpa [marks] using h)
    exact Or.inr ⟨by simp [spans], by simp only [Seg.len]; omega⟩
  | item ws =>
    have : cp.2 = p := by
      simp only [marks, List.mem_append, List.mem_cons, List.mem_map, reduceCtorEq, false_or,
        Option.some.injEq, List.not_mem_nil, or_false] at h
      rcases h with rfl | ⟨c, _, rfl⟩ | rfl <;> rfl
    exact Or.inr ⟨by simp [spans], by simp only [Seg.len]; omega⟩
  | itemL ws label =>
    simp only [marks, List.mem_append, List.mem_cons, List.mem_map, reduceCtorEq, false_or,
      Option.some.injEq, List.not_mem_nil, or_false] at h
    have hl := labLast_in (p + (ws.length + 5)) label
    have hin : p ≤ cp.2 → cp.2 ≤ p + (ws.length + 5) + label.length →
        cp ∈ srcChars p [.itemL ws label] ∨ (p, (Seg.itemL ws label).len) ∈ spans p [.itemL ws label] ∧
          p ≤ cp.2 ∧ cp.2 < p + (Seg.itemL ws label).len :=
      fun e1 e2 => Or.inr ⟨by simp [spans], e1, by simp only [Seg.len]; omega⟩
    rcases h with rfl | ⟨x, hx, e⟩ | h | rfl
    · exact hin (Nat.le_refl _) (by simp only; omega)
    · cases e; exact Or.inl (by simpa [srcChars] using hx)
    · have := mem_punctMarks h
      exact hin (by omega) (by omega)
    · exact hin (by simp only; omega) (by simp only; omega)
  | en name =>
    have := mem_envMarks (show some cp ∈ envMarks (envOf st1 name) p by simpa [marks] using h)
    exact Or.inr ⟨by simp [spans], by simp only [Seg.len]; omega⟩
  | ubeg name => simp [marks] at h
  | uen name => simp [marks] at h

/-- **every character of the marks is a copy of a source character or lies in the span of the list
    command that generated it** -/
theorem marks_origin (T : PTables) (st1 : PState) {cp : Char × Nat} (segs : List Seg) (pv : Option Char)
    (stk : List ItemGen) (p : Nat) (h : some cp ∈ marks T st1 pv stk p segs) :
    cp ∈ srcChars p segs ∨ ∃ x ∈ spans p segs, x.1 ≤ cp.2 ∧ cp.2 < x.1 + x.2 := by
  obtain ⟨A, s, B, rfl, hs⟩ := (fold_marks T st1).mem (st := (pv, stk, p)) h
  rcases marks_own T st1 _ _ _ s hs with h1 | ⟨h1, h2⟩
  · exact Or.inl ((fold_srcChars.comap (readStep T st1) (·.2.2) fun _ _ => rfl).mem_of A s B (pv, stk, p) h1)
  · exact Or.inr ⟨_, (fold_spans.comap (readStep T st1) (·.2.2) fun _ _ => rfl).mem_of A s B (pv, stk, p) h1, h2⟩

/-- the same for the output (`delLines` only deletes) -/
theorem out_origin (T : PTables) (st1 : PState) (segs : List Seg) (cp : Char × Nat)
    (h : cp ∈ delLines (marks T st1 none st1.itemStack 0 segs)) :
    cp ∈ srcChars 0 segs ∨ ∃ x ∈ spans 0 segs, x.1 ≤ cp.2 ∧ cp.2 < x.1 + x.2 :=
  marks_origin T st1 segs none st1.itemStack 0 (delLines_mem h)

theorem srcChars_own : ∀ (s : Seg) (p : Nat) (cp : Char × Nat), cp ∈ srcChars p [s] →
    p ≤ cp.2 ∧ s.render[cp.2 - p]? = some cp.1
  | .txt t, p, cp, h => by
    have h : cp ∈ posText p t := by simpa [srcChars] using h
    exact posText_getElem t p cp h
  | .itemL ws label, p, cp, h => by
    have h : cp ∈ posText (p + (ws.length + 5) + 1) label := by simpa [srcChars] using h
    have hm := mem_posText h
    have hr : (Seg.itemL ws label).render = ('\\' :: (nItem ++ (ws ++ ['['])) ++ label) ++ [']'] := by
      simp [Seg.render]
    have hlen : ('\\' :: (nItem ++ (ws ++ ['[']))).length = ws.length + 5 + 1 := by
      simp [nItem]
    refine ⟨by omega, ?_⟩
    rw [hr, List.getElem?_append_left (by simp only [List.length_append, hlen]; omega),
      List.getElem?_append_right (by rw [hlen]; omega), hlen]
    have e : cp.2 - p - (ws.length + 5 + 1) = cp.2 - (p + (ws.length + 5) + 1) := by omega
    rw [e]; exact (posText_getElem label _ cp h).2
  | .beg _, _, _, h | .item _, _, _, h | .en _, _, _, h | .ubeg _, _, _, h | .uen _, _, _, h => nomatch h

theorem srcChars_in_source : ∀ (segs : List Seg) (p : Nat) (cp : Char × Nat), cp ∈ srcChars p segs →
    p ≤ cp.2 ∧ (render segs)[cp.2 - p]? = some cp.1 := fun _ _ _ h =>
  fold_srcChars.in_source (pos := id) (rend := Seg.render) (fun _ _ => rfl)
    (fun p s => by rw [Seg.len_eq]; rfl) (fun p s => srcChars_own s p) h

end PlainItemL
end Yalafi
