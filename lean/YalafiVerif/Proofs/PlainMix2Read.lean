/-
  Proofs/PlainMix2Read.lean — readings of the reference `delLines (marks …) ++ flows …` of the enlarged
  union grammar (Proofs/PlainMix2E2E.lean).  The general facts about `PlainMacro.delLines`
  (`delLines_sublist`, `delLines_words`, `delLines_mid`, `delLines_end`, `pureLine`) are in
  Proofs/DelLines.lean.

  `plain`, `marks_chars`    the characters of the marks of a document: text, special values, `\verb`
                            contents, placeholders of formulas / references / citations, notes,
                            titles with their full stops — nothing of keys, labels, comments,
                            control-word names, formula bodies, footnote bodies
  `srcLen`, `marks_append`  the marks of a concatenation: the second part starts behind the source of
                            the first (`srcLen`: its length, by kind), its formulas are counted on
  `flows_vis`               the visible characters of the flows are those of the footnote bodies
-/
import YalafiVerif.Proofs.PlainMix2E2E
namespace Yalafi
namespace PlainMix2

open M
open PlainMacro
open PlainMix (filterMap_map_some')
open PlainFootnote (lastTokOff flowOut)

/-- the output characters of the main flow before the blank-line removal, with their positions -/
def plain (T : PTables) (st : PState) (repls : List Str) : Nat → Nat → List Seg → List (Char × Nat)
  | _, _, [] => []
  | k, p, .txt s :: rest => posText p s ++ plain T st repls k (p + s.length) rest
  | k, p, .spc key :: rest =>
    posText p (specialValD T.toTables key) ++ plain T st repls k (p + key.length) rest
  | k, p, .opn :: rest => plain T st repls k (p + 1) rest
  | k, p, .cls :: rest => plain T st repls k (p + 1) rest
  | k, p, .cw name sp :: rest => plain T st repls k (p + (name.length + 1 + sp.length)) rest
  | k, p, .van name key :: rest => plain T st repls k (p + PlainVanish.vanLen name key) rest
  | k, p, .com body :: rest => plain T st repls k (p + (body.length + 1)) rest
  | k, p, .verb _ s :: rest => posText (p + 6) s ++ plain T st repls k (p + (s.length + 7)) rest
  | k, p, .math body :: rest =>
    (PlainMath.placeholder repls (k + 1) ++ PlainMath.punctOf T body).map
        (fun c => (c, p + 1 + PlainMath.leadBlanks body))
      ++ plain T st repls (k + 1) (p + (body.length + 2)) rest
  | k, p, .ref name key :: rest =>
    PlainRef.fixChars p (PlainRef.phOf st name) ++ plain T st repls k (p + PlainRef.callLen name key) rest
  | k, p, .cite name key :: rest =>
    PlainRef.fixChars p "[0]".toList ++ plain T st repls k (p + PlainRef.callLen name key) rest
  | k, p, .citeN name note key :: rest =>
    PlainRef.fixChars p "[0, ".toList ++ (posText (p + name.length + 2) note ++
      (']', p + name.length + 2 + lastTokOff note) ::
        plain T st repls k (p + PlainRef.callNLen name note key) rest)
  | k, p, .foot body :: rest => plain T st repls k (p + (body.length + 11)) rest
  | k, p, .head name title :: rest =>
    posText (p + name.length + 2) title ++
      ((if PlainHeading.needsDot T title then [('.', p + name.length + 2 + lastTokOff title)] else [])
        ++ plain T st repls k (p + (name.length + title.length + 3)) rest)

theorem filterMap_dotMarks (T : PTables) (q : Nat) (title : Str) :
    (dotMarks T q title).filterMap id
      = if PlainHeading.needsDot T title then [('.', q + lastTokOff title)] else [] := by
  unfold dotMarks
  split <;> rfl

theorem marks_chars (T : PTables) (st : PState) (repls : List Str) : ∀ (segs : List Seg) (k p : Nat),
    (marks T st repls k p segs).filterMap id = plain T st repls k p segs
  | [], _, _ => rfl
  | s :: rest, k, p => by
    cases s <;>
      simp only [marks, plain, PlainMix.mathMarks, List.cons_append, List.nil_append, List.append_assoc,
        List.filterMap_cons, List.filterMap_append, id, filterMap_map_some, filterMap_map_some',
        PlainRef.filterMap_fixMarks, filterMap_dotMarks, marks_chars T st repls rest]

/-! ### the marks of a concatenation -/

/-- the number of source characters of a document, by kind (= `(render segs).length`, `srcLen_eq`) -/
def srcLen : List Seg → Nat
  | [] => 0
  | .txt s :: rest => s.length + srcLen rest
  | .spc key :: rest => key.length + srcLen rest
  | .opn :: rest => 1 + srcLen rest
  | .cls :: rest => 1 + srcLen rest
  | .cw name sp :: rest => (name.length + 1 + sp.length) + srcLen rest
  | .van name key :: rest => PlainVanish.vanLen name key + srcLen rest
  | .com body :: rest => (body.length + 1) + srcLen rest
  | .verb _ s :: rest => (s.length + 7) + srcLen rest
  | .math body :: rest => (body.length + 2) + srcLen rest
  | .ref name key :: rest => PlainRef.callLen name key + srcLen rest
  | .cite name key :: rest => PlainRef.callLen name key + srcLen rest
  | .citeN name note key :: rest => PlainRef.callNLen name note key + srcLen rest
  | .foot body :: rest => (body.length + 11) + srcLen rest
  | .head name title :: rest => (name.length + title.length + 3) + srcLen rest

theorem srcLen_eq (segs : List Seg) : srcLen segs = (render segs).length := by
  induction segs with
  | nil => rfl
  | cons x rest ih =>
    cases x
    all_goals simp [srcLen, render, Seg.render, ih, PlainVanish.vanLen, PlainRef.callLen, PlainRef.callNLen]
    all_goals omega

theorem marks_append' (T : PTables) (st : PState) (repls : List Str) (Y : List Seg) :
    ∀ (X : List Seg) (k p : Nat),
      marks T st repls k p (X ++ Y)
        = marks T st repls k p X ++ marks T st repls (k + nFormulas X) (p + srcLen X) Y := by
  intro X
  induction X with
  | nil => intro k p; simp [marks, nFormulas, srcLen]
  | cons x rest ih =>
    intro k p
    cases x
    case math body =>
      have e : k + 1 + nFormulas rest = k + (nFormulas rest + 1) := by omega
      simp only [List.cons_append, marks, ih, nFormulas, srcLen, List.append_assoc, Nat.add_assoc, e]
    all_goals
      simp only [List.cons_append, marks, ih, nFormulas, srcLen, List.append_assoc, Nat.add_assoc]

theorem marks_append (T : PTables) (st : PState) (repls : List Str) (X Y : List Seg) (k p : Nat) :
    marks T st repls k p (X ++ Y)
      = marks T st repls k p X ++ marks T st repls (k + nFormulas X) (p + (render X).length) Y := by
  rw [marks_append', srcLen_eq]

def footBodies : Nat → List Seg → List (Char × Nat)
  | _, [] => []
  | p, .foot body :: rest => posText (p + 10) body ++ footBodies (p + (body.length + 11)) rest
  | p, s :: rest => footBodies (p + s.len) rest

/-- the characters of the flows that are no white space are those of the footnote bodies: the
    separators are line breaks -/
theorem flows_vis : ∀ (segs : List Seg) (p : Nat),
    (flows p segs).filter PlainMix.vis = (footBodies p segs).filter PlainMix.vis
  | [], _ => rfl
  | s :: rest, p => by
    have hnl : ∀ q, PlainMix.vis (nl, q) = false := fun q => by
      simp [PlainMix.vis, show isSpace nl = true by decide]
    cases s <;>
      simp only [flows, footBodies, flowOut, List.filter_append, List.cons_append, List.nil_append,
        List.filter_cons, hnl, Bool.false_eq_true, if_false, List.filter_nil, List.append_nil,
        flows_vis rest]

end PlainMix2
end Yalafi
