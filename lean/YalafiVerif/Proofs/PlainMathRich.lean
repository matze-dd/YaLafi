/-
  Proofs/PlainMathRich.lean — C10 "every inline formula is rendered as exactly one placeholder of
  the rotating inline collection, followed by its closing punctuation mark, with a blank where the
  formula starts or ends with maths space", TOKEN LEVEL, for formula bodies of the full class of the
  property: letters, digits, operators, `^` `_`, braces, undeclared control words (`\alpha`, `\frac`),
  maths-space tokens (`\,` `\;` `\:` `\ ` `~`) and closing punctuation; both delimiters `$…$` and
  `\(…\)`.  (Source level — documents, side conditions, scanner on a body: Proofs/PlainMathRichSrc.lean;
  scanner on a document, `tex2txt`, the reference output: Proofs/PlainMathRichE2E.lean; statements:
  Properties/PlainMathRichStmt.lean.)

  What the section parser of `mathparser.py` (model: `expandMathSection`) does with the body tokens
  (the step lemma for characters is that of Proofs/PlainMath.lean; the token classes of control words,
  special and ignored tokens open this file in the namespace `PlainUnkn2`: the unknowns class of
  Proofs/PlainUnkn2.lean has the same ones, without maths space):
    * a character that is no white space   ↦ one maths token (operator / element) with its text;
    * white space                          ↦ nothing (`skip_space`);
    * an undeclared control word `\name`   ↦ one maths token with the text `\name`; nothing is
                                             recorded as unknown (`addUnknown … true`, in maths); the
                                             white space behind it is skipped anyway;
    * a special token of `math_ignore` (`{`, `}`, `\!`) ↦ nothing — braces are NOT parsed as groups:
                                             any nesting, balanced or not, is fine;
    * a special token of `math_space` (`~`, `\,`, `\;`, `\:`, `\ `)  ↦ one MATHS-SPACE token with the
                                             text `" "` (`SpTok`, `mstep_sp`);
    * any other special token (`^`, `_`, `&`, `--`, `''`, …) ↦ one maths token with the text of its
                                             table entry;
    * the first token whose text is `$` or `\)` ends the section — whatever the opening delimiter was.
  `expand_inline_math` then hands the maths tokens (one part) to `replace_section`
  (`replaceSection_inline_single` of Proofs/InlineShape.lean; `C10_inline_shape` of Properties/C10.lean): if they
  are not only maths space the result is
      Action(p)  [blank]  placeholder  [punctuation]  [blank]  Action(q)
  with `p` the position of the opening delimiter and all other tokens position-fixed at `q`, the
  position of the FIRST MATHS TOKEN; blank in front iff the first maths token is maths space, blank
  behind iff the last one is; punctuation = the last character of the concatenated token texts that
  is no white space, if it is in `math_punctuation`.

  Contents
    `PlainUnkn2.McwTok`, `.SpecTok`, `.IgnTok`, `.mcost`   control words, special and ignored tokens
    `mstep_cw`, `mstep_spec`, `mstep_ign`        … and what the section parser does with them
    `MT`, `mt`, `mout`, `toMT`                   the maths tokens of a body token, and their abstraction
                                                 (position, text, maths space?) that does not depend
                                                 on the parser state
    `fOut`, `inlineMath_rich`                    `expandInlineMath` returns exactly `fOut`
    `shapeTxt`, `getTxtPos_fOut`, `lineTo_fOut` text / positions of `fOut`; blank-line removal
-/
import YalafiVerif.Proofs.PlainMath
namespace Yalafi
namespace PlainUnkn2

/-! ### token classes of a formula body: control words, special tokens -/

/-- an undeclared control word inside a formula: a macro token that neither ends the formula nor
    is a `\text`-like macro, is not declared, and is neither maths space nor ignored -/
structure McwTok (T : PTables) (st : PState) (t : Tok) : Prop where
  kind : t.kind = .xmacro
  nStop : ["$".toList, "\\)".toList].contains t.txt = false
  nText : st.mathTextMacros.contains t.txt = false
  undecl : lookupMacro st t.txt = none
  nSpace : T.mathSpace.contains t.txt = false
  nIgnore : T.mathIgnore.contains t.txt = false

/-- a special token inside a formula (`^`, `_`, `&`, `--`, …) that the maths parser turns into a
    maths token: it does not end the formula, is neither ignored nor maths space, and has an
    entry in `special_tokens` (Python: `KeyError` otherwise) -/
structure SpecTok (T : PTables) (t : Tok) : Prop where
  kind : t.kind = .special
  nStop : ["$".toList, "\\)".toList].contains t.txt = false
  nIgnore : T.mathIgnore.contains t.txt = false
  nSpace : T.mathSpace.contains t.txt = false
  val : ∃ v, T.toTables.specialVal t.txt = some v

/-- a special token the maths parser ignores (`math_ignore`: `{`, `}`, …) -/
structure IgnTok (T : PTables) (t : Tok) : Prop where
  kind : t.kind = .special
  nStop : ["$".toList, "\\)".toList].contains t.txt = false
  ignore : T.mathIgnore.contains t.txt = true

/-- iterations of the section parser: two for a control word (the second one for the element
    token pushed back), none for white space, one for a character -/
def mcost : List Tok → Nat
  | [] => 0
  | t :: ts => (if t.kind == .xmacro then 2 else if t.kind == .space then 0 else 1) + mcost ts

theorem mcost_eq_sum : ∀ body : List Tok, (body.map (fun t => mcost [t])).sum = mcost body
  | [] => rfl
  | t :: ts => by
    rw [List.map_cons, List.sum_cons, mcost_eq_sum ts]
    simp only [mcost, Nat.add_zero]

end PlainUnkn2

namespace PlainMathRich

open M
open PlainMath (BodyTok mathTokOf Piece flat nMath TokShape rotN VisibleRepls MStep getTxtPos_action_cons)
open PlainUnkn2 (McwTok SpecTok IgnTok mcost)

/-! ### steps of the section parser: control words, special tokens -/

theorem expandMacro_unknown_math (T : PTables) (fuel : Nat) (rest : Buf) (tok : Tok) (st : PState)
    (h : lookupMacro st tok.txt = none) :
    expandMacro T (fuel + 1) rest tok true st
      = .ok (([mkAction tok.pos], skipSpaceStopLangAct rest), st) := by
  rw [Call.expandMacro_undeclared fuel h]
  exact M.bind_ok _ _ _ _ _ (Call.addUnknown_math _ st)

/-- the section parser starts with `skip_space` -/
theorem mathSection_skip (T : PTables) (fuel : Nat) (b b' : Buf) (start : Nat) (stop : List Str)
    (envStop : Option Str) (out : List Tok) (h : skipSpace b = skipSpace b') :
    expandMathSection T fuel b start stop envStop out
      = expandMathSection T fuel b' start stop envStop out := by
  cases fuel with
  | zero => rw [expandMathSection.eq_1, expandMathSection.eq_1]
  | succ f => rw [expandMathSection.eq_2, expandMathSection.eq_2, h]

theorem skipSpace_action_skipAct (p : Nat) (rest : Buf) :
    skipSpace (mkAction p :: skipSpaceStopLangAct rest) = skipSpace rest := by
  have h1 : isSpaceTok (mkAction p) = true := rfl
  simp only [skipSpace, List.dropWhile_cons, h1, if_true, skipSpaceStopLangAct]
  induction rest with
  | nil => rfl
  | cons t ts ih =>
    simp only [List.dropWhile_cons]
    by_cases hs : isSpaceTok t = true
    · simp only [hs, Bool.true_and, if_true]
      split
      · exact ih
      · simp [hs]
    · have hs' : isSpaceTok t = false := by simpa using hs
      simp [hs']

theorem mstep_mathtok (T : PTables) (st : PState) (stop : List Str) (envStop : Option Str) (t : Tok)
    (hm : isMathTok t = true) (hstop : stop.contains t.txt = false) :
    MStep T st stop envStop t 1 [t] := by
  intro fuel rest start out
  have hk : t.kind = .mathElem ∨ t.kind = .mathOper ∨ t.kind = .mathSpace := by
    unfold isMathTok at hm
    cases hk : t.kind <;> simp_all
  have hsk : skipSpace (t :: rest) = t :: rest :=
    Call.skipSpace_cons (by rcases hk with hk | hk | hk <;> simp [isSpaceTok, hk])
  rw [expandMathSection.eq_2, hsk]
  have hv : isVerb t = false := by rcases hk with hk | hk | hk <;> simp [isVerb, hk]
  rcases hk with hk | hk | hk <;>
  · simp only [hk, hv, hstop, reduceCtorEq, beq_iff_eq, Bool.false_eq_true, if_false]
    show M.bind' M.get _ st = _
    simp only [M.bind', M.get, hm, if_true]

/-- an undeclared control word in a formula: nothing is recorded (`math = true`); it becomes one
    maths token, in two iterations (the second one for the token pushed back) -/
theorem mstep_cw (T : PTables) (st : PState) (stop : List Str) (envStop : Option Str) (t : Tok)
    (hk : t.kind = .xmacro) (hstop : stop.contains t.txt = false)
    (hnt : st.mathTextMacros.contains t.txt = false) (hun : lookupMacro st t.txt = none)
    (hsp : T.mathSpace.contains t.txt = false) (hig : T.mathIgnore.contains t.txt = false) :
    MStep T st stop envStop t 2 [mathTokOf st t] := by
  intro fuel rest start out
  have hsk : skipSpace (t :: rest) = t :: rest := by
    simp [skipSpace, isSpaceTok, hk]
  have hv : isVerb t = false := by simp [isVerb, hk]
  rw [expandMathSection.eq_2, hsk]
  simp only [hk, hv, hstop, reduceCtorEq, beq_iff_eq, Bool.false_eq_true, if_false, if_true,
    beq_self_eq_true]
  show M.bind' M.get _ st = _
  simp only [M.bind', M.get, hnt, Bool.false_eq_true, if_false]
  refine (M.bind_ok _ _ _ _ _ (expandMacro_unknown_math T fuel rest t st hun)).trans ?_
  refine (M.bind_ok _ _ _ _ _ (rfl : M.get st = _)).trans ?_
  simp only [hsp, hun, hig, Bool.false_eq_true, if_false, Option.isSome_none, Bool.or_self,
    Bool.not_false, if_true]
  have hpre : (if st.mathOperators.contains t.txt = true then [mkTok Kind.mathOper t.pos t.txt]
      else [mkTok Kind.mathElem t.pos t.txt]) = [mathTokOf st t] := by
    unfold mathTokOf; split <;> rfl
  rw [hpre]
  have hst2 : stop.contains (mathTokOf st t).txt = false := by
    unfold mathTokOf mkTok; exact hstop
  show expandMathSection T (fuel + 1) (mathTokOf st t :: mkAction t.pos :: skipSpaceStopLangAct rest) _ _ _ _ st = _
  rw [mstep_mathtok T st stop envStop _ (PlainMath.isMathTok_mathTokOf st t) hst2 fuel]
  exact congrFun (mathSection_skip T fuel _ _ start _ envStop _ (skipSpace_action_skipAct t.pos rest)) st

theorem mstep_spec (T : PTables) (st : PState) (stop : List Str) (envStop : Option Str) (t : Tok) (v : Str)
    (hk : t.kind = .special) (hstop : stop.contains t.txt = false)
    (hi : T.mathIgnore.contains t.txt = false) (hs : T.mathSpace.contains t.txt = false)
    (hv : T.toTables.specialVal t.txt = some v) :
    MStep T st stop envStop t 1
      [mkTok (if st.mathOperators.contains t.txt then .mathOper else .mathElem) t.pos v] := by
  intro fuel rest start out
  have hsk : skipSpace (t :: rest) = t :: rest := by simp [skipSpace, isSpaceTok, hk]
  have hvb : isVerb t = false := by simp [isVerb, hk]
  rw [expandMathSection.eq_2, hsk]
  simp only [hk, hvb, hstop, hi, hs, reduceCtorEq, beq_iff_eq, Bool.false_eq_true, if_false]
  show M.bind' M.get _ st = _
  simp only [M.bind', M.get]
  have hm : isMathTok t = false := by simp [isMathTok, hk]
  have hl : isLang t = false := by simp [isLang, hk]
  have hsp : mathSpecialTxt T t = some v := by simp [mathSpecialTxt, hk, hv]
  simp only [hm, hl, hsp, Bool.false_eq_true, if_false]
  split <;> rfl

theorem mstep_ign (T : PTables) (st : PState) (stop : List Str) (envStop : Option Str) (t : Tok)
    (hk : t.kind = .special) (hstop : stop.contains t.txt = false)
    (hi : T.mathIgnore.contains t.txt = true) : MStep T st stop envStop t 1 [] := by
  intro fuel rest start out
  have hsk : skipSpace (t :: rest) = t :: rest := by simp [skipSpace, isSpaceTok, hk]
  have hvb : isVerb t = false := by simp [isVerb, hk]
  rw [expandMathSection.eq_2, hsk]
  simp only [hk, hvb, hstop, reduceCtorEq, beq_iff_eq, Bool.false_eq_true, if_false]
  show M.bind' M.get _ st = _
  simp only [M.bind', M.get]
  have hm : isMathTok t = false := by simp [isMathTok, hk]
  simp only [hm, hi, Bool.false_eq_true, if_false, if_true, List.append_nil]

/-! ### token classes -/

/-- a maths-space token inside a formula: a special token of `math_space` (`~`, `\,`, `\;`, `\:`,
    `\ `) that does not end the formula and is not ignored (`math_ignore` is tested first) -/
structure SpTok (T : PTables) (t : Tok) : Prop where
  kind : t.kind = .special
  nStop : ["$".toList, "\\)".toList].contains t.txt = false
  nIgnore : T.mathIgnore.contains t.txt = false
  space : T.mathSpace.contains t.txt = true

def MItem (T : PTables) (st : PState) (t : Tok) : Prop :=
  BodyTok T t ∨ t.kind = .space ∨ McwTok T st t ∨ SpecTok T t ∨ IgnTok T t ∨ SpTok T t

structure CloseTok (t : Tok) : Prop where
  kind : t.kind = .special ∨ t.kind = .text
  stop : ["$".toList, "\\)".toList].contains t.txt = true

structure OpenTok (t : Tok) : Prop where
  kind : t.kind = .special ∨ t.kind = .text
  txt : t.txt = "$".toList ∨ t.txt = "\\(".toList

/-- the fields of the state the side conditions depend on -/
structure Same (st st' : PState) : Prop where
  lang : st'.langStack = st.langStack
  macros : st'.macros = st.macros
  mtm : st'.mathTextMacros = st.mathTextMacros
  ops : st'.mathOperators = st.mathOperators

theorem Same.refl (st : PState) : Same st st := ⟨rfl, rfl, rfl, rfl⟩

theorem Same.of_reads {st st' : PState} (h : Reads st st') : Same st st' :=
  ⟨h.ext.lang, h.macros, h.ext.mtm, h.ext.ops⟩

theorem MItem.congr {T : PTables} {st st' : PState} (h : Same st st') {t : Tok} :
    MItem T st t → MItem T st' t := by
  rintro (hb | hs | hc | hx)
  · exact Or.inl hb
  · exact Or.inr (Or.inl hs)
  · refine Or.inr (Or.inr (Or.inl ⟨hc.kind, hc.nStop, ?_, ?_, hc.nSpace, hc.nIgnore⟩))
    · rw [h.mtm]; exact hc.nText
    · have := hc.undecl; simpa [lookupMacro, h.macros] using this
  · exact Or.inr (Or.inr (Or.inr hx))

/-! ### the maths tokens of a body token -/

/-- the maths tokens the section parser makes of a body token -/
def mout (T : PTables) (st : PState) (t : Tok) : List Tok :=
  if t.kind == .space then []
  else if t.kind == .special then
    (if T.mathIgnore.contains t.txt then []
     else if T.mathSpace.contains t.txt then [mkTok .mathSpace t.pos [' ']]
     else [mkTok (if st.mathOperators.contains t.txt then .mathOper else .mathElem) t.pos
            ((T.toTables.specialVal t.txt).getD [])])
  else [mathTokOf st t]

/-- what matters of a maths token: its position, its text, and whether it is maths space -/
structure MT where
  pos : Nat
  txt : Str
  sp : Bool
deriving Repr, DecidableEq

def toMT (t : Tok) : MT := { pos := t.pos, txt := t.txt, sp := t.kind == .mathSpace }

/-- the same as `mout`, without the kinds operator / element (independent of the parser state) -/
def mt (T : PTables) (t : Tok) : List MT :=
  if t.kind == .space then []
  else if t.kind == .special then
    (if T.mathIgnore.contains t.txt then []
     else if T.mathSpace.contains t.txt then [{ pos := t.pos, txt := [' '], sp := true }]
     else [{ pos := t.pos, txt := (T.toTables.specialVal t.txt).getD [], sp := false }])
  else [{ pos := t.pos, txt := t.txt, sp := false }]

theorem toMT_mathTok (b : Bool) (p : Nat) (s : Str) :
    toMT (mkTok (if b then .mathOper else .mathElem) p s) = { pos := p, txt := s, sp := false } := by
  cases b <;> rfl

theorem isMathTok_mathTok (b : Bool) (p : Nat) (s : Str) :
    isMathTok (mkTok (if b then .mathOper else .mathElem) p s) = true := by
  cases b <;> rfl

/-- `mout` and `mt` branch alike: the map goes through the branches -/
theorem mout_toMT (T : PTables) (st : PState) (t : Tok) : (mout T st t).map toMT = mt T t := by
  simp only [mout, mt, mathTokOf, apply_ite (List.map toMT), List.map_cons, List.map_nil, toMT_mathTok]
  rfl

theorem flatMap_mout_toMT (T : PTables) (st : PState) (body : List Tok) :
    (body.flatMap (mout T st)).map toMT = body.flatMap (mt T) := by
  induction body with
  | nil => rfl
  | cons t ts ih => simp only [List.flatMap_cons, List.map_append, mout_toMT, ih]

theorem mout_math (T : PTables) (st : PState) (t : Tok) :
    ∀ x ∈ mout T st t, isMathTok x = true := by
  rw [← List.all_eq_true]
  simp only [mout, mathTokOf, apply_ite (List.all · isMathTok), List.all_cons, List.all_nil, isMathTok_mathTok,
    Bool.and_true, show ∀ p s, isMathTok (mkTok .mathSpace p s) = true from fun _ _ => rfl, ite_self]

theorem mout_congr (T : PTables) (st st' : PState) (h : st'.mathOperators = st.mathOperators) (t : Tok) :
    mout T st' t = mout T st t := by
  unfold mout mathTokOf
  rw [h]

/-! ### the section parser -/

theorem mstep_sp (T : PTables) (st : PState) (stop : List Str) (envStop : Option Str) (t : Tok)
    (hk : t.kind = .special) (hstop : stop.contains t.txt = false)
    (hi : T.mathIgnore.contains t.txt = false) (hs : T.mathSpace.contains t.txt = true) :
    MStep T st stop envStop t 1 [mkTok .mathSpace t.pos [' ']] := by
  intro fuel rest start out
  have hsk : skipSpace (t :: rest) = t :: rest := by simp [skipSpace, isSpaceTok, hk]
  have hvb : isVerb t = false := by simp [isVerb, hk]
  rw [expandMathSection.eq_2, hsk]
  simp only [hk, hvb, hstop, reduceCtorEq, beq_iff_eq, Bool.false_eq_true, if_false]
  show M.bind' M.get _ st = _
  simp only [M.bind', M.get]
  have hm : isMathTok t = false := by simp [isMathTok, hk]
  have hl : isLang t = false := by simp [isLang, hk]
  simp only [hm, hi, hl, hs, Bool.false_eq_true, if_false, if_true]

theorem mathSection_close (T : PTables) (fuel : Nat) (d2 : Tok) (rest : Buf) (start : Nat)
    (out : List Tok) (st : PState) (hd : CloseTok d2) (ho : ∀ t ∈ out, isMathTok t = true) :
    expandMathSection T (fuel + 1) (d2 :: rest) start ["$".toList, "\\)".toList] none out st
      = .ok ({ out := out, term := some d2, buf := rest }, st) := by
  refine PlainMath.mathSection_stop T st fuel start _ none d2 rest out ?_ ?_ ?_ hd.stop ho
  · rcases hd.kind with hk | hk <;> simp [isSpaceTok, hk]
  · rcases hd.kind with hk | hk <;> simp [hk]
  · rcases hd.kind with hk | hk <;> simp [isVerb, hk]

theorem MItem.mstep {T : PTables} {st : PState} {t : Tok} (h : MItem T st t) :
    MStep T st ["$".toList, "\\)".toList] none t (mcost [t]) (mout T st t) := by
  rcases h with hbt | hsp | hcw | hspec | hign | hms
  · have hk := hbt.kind
    rw [show mcost [t] = 1 by simp [mcost, hk], show mout T st t = [mathTokOf st t] by simp [mout, hk]]
    exact PlainMath.mstep_text T st _ none t hk hbt.nstop_inline hbt.nIgnore hbt.nSpace
  · rw [show mcost [t] = 0 by simp [mcost, hsp], show mout T st t = [] by simp [mout, hsp]]
    exact PlainMath.mstep_space T st _ none t hsp
  · have hk := hcw.kind
    rw [show mcost [t] = 2 by simp [mcost, hk], show mout T st t = [mathTokOf st t] by simp [mout, hk]]
    exact mstep_cw T st _ none t hk hcw.nStop hcw.nText hcw.undecl hcw.nSpace hcw.nIgnore
  · have hk := hspec.kind
    obtain ⟨v, hv⟩ := hspec.val
    rw [show mcost [t] = 1 by simp [mcost, hk],
      show mout T st t = [mkTok (if st.mathOperators.contains t.txt then .mathOper else .mathElem)
          t.pos v] by unfold mout; rw [hspec.nIgnore, hspec.nSpace, hv]; simp [hk]]
    exact mstep_spec T st _ none t v hk hspec.nStop hspec.nIgnore hspec.nSpace hv
  · have hk := hign.kind
    rw [show mcost [t] = 1 by simp [mcost, hk],
      show mout T st t = [] by unfold mout; rw [hign.ignore]; simp [hk]]
    exact mstep_ign T st _ none t hk hign.nStop hign.ignore
  · have hk := hms.kind
    rw [show mcost [t] = 1 by simp [mcost, hk],
      show mout T st t = [mkTok .mathSpace t.pos [' ']] by
        unfold mout; rw [hms.nIgnore, hms.space]; simp [hk]]
    exact mstep_sp T st _ none t hk hms.nStop hms.nIgnore hms.space

theorem mathSection_rbody (T : PTables) (st : PState) (start : Nat) (d2 : Tok) (rest : Buf)
    (hd : CloseTok d2) (body : List Tok) (fuel : Nat) (out : List Tok) (hf : mcost body + 1 ≤ fuel)
    (hb : ∀ t ∈ body, MItem T st t) (ho : ∀ t ∈ out, isMathTok t = true) :
    expandMathSection T fuel (body ++ d2 :: rest) start ["$".toList, "\\)".toList] none out st
      = .ok ({ out := out ++ body.flatMap (mout T st), term := some d2, buf := rest }, st) := by
  obtain ⟨f, rfl⟩ : ∃ f, fuel = (f + 1) + (body.map (fun t => mcost [t])).sum :=
    ⟨fuel - mcost body - 1, by rw [PlainUnkn2.mcost_eq_sum]; omega⟩
  rw [PlainMath.mathSection_run T st _ none _ (mout T st) _ start body (f + 1) out
      (fun t ht => (hb t ht).mstep), mathSection_close T f d2 rest start _ st hd]
  intro t ht
  rcases List.mem_append.mp ht with ht | ht
  · exact ho t ht
  · obtain ⟨u, _, hu⟩ := List.mem_flatMap.mp ht
    exact mout_math T st u t hu

/-! ### `expandInlineMath` -/

def hdTok (mb : List Tok) : Tok := mb.head?.getD default
def ltTok (mb : List Tok) : Tok := mb.getLast?.getD default

/-- what `expand_inline_math` returns for a formula with the maths tokens `mb`, the opening
    delimiter at `p`, `ph` being the placeholder whose turn it is: an Action token at `p`; then
    `[blank] ph [punctuation] [blank]` (`inlineShape`), all position-fixed at the position of the
    first maths token; an Action token there -/
def fOut (T : PTables) (ph : Str) (p : Nat) (mb : List Tok) : List Tok :=
  mkAction p :: (inlineShape T mb (hdTok mb) (ltTok mb) ph ++ [mkAction (hdTok mb).pos])

/-- **C10 on `expandInlineMath`.**  For a formula whose body tokens are of the class and yield at
    least one maths token that is not maths space, the call returns exactly `fOut` with the head of
    the once-rotated collection as the placeholder, the remaining buffer, and the state in which the
    rotated collection is stored; nothing else in the state changes. -/
theorem inlineMath_rich (T : PTables) (st : PState) (fuel : Nat) (d1 d2 : Tok) (body : List Tok)
    (rest : Buf) (rot : Rot) (ls : LangSettings) (r0 : Str)
    (hd2 : CloseTok d2) (hvis : (body.flatMap (mt T)).any (fun x => !x.sp) = true)
    (hb : ∀ t ∈ body, MItem T st t) (hf : mcost body + 1 ≤ fuel)
    (hrot : rotOf st (curSettings st) = some rot) (hls : settingsOf T (curSettings st) = some ls)
    (hr : (rotL rot.inl).head? = some r0) :
    expandInlineMath T (fuel + 1) (body ++ d2 :: rest) d1 st
      = .ok ((fOut T r0 d1.pos (body.flatMap (mout T st)), rest),
             setRot st { rot with inl := rotL rot.inl }) := by
  have hsec := mathSection_rbody T st d1.pos d2 rest hd2 body fuel [] hf hb (by simp)
  rw [List.nil_append] at hsec
  have hmath : ∀ t ∈ body.flatMap (mout T st), isMathTok t = true := by
    intro t ht
    obtain ⟨u, _, hu⟩ := List.mem_flatMap.mp ht
    exact mout_math T st u t hu
  rw [← flatMap_mout_toMT T st body] at hvis
  generalize body.flatMap (mout T st) = mb at hsec hmath hvis
  obtain ⟨x, hx, hxs⟩ := List.any_eq_true.mp hvis
  obtain ⟨u, hu, rfl⟩ := List.mem_map.mp hx
  have hmne : mb ≠ [] := List.ne_nil_of_mem hu
  have hns : mb.all (·.kind == .mathSpace) = false := by
    cases hall : mb.all (·.kind == .mathSpace) with
    | false => rfl
    | true =>
      have := List.all_eq_true.mp hall u hu
      simp only [toMT, Bool.not_eq_true'] at hxs
      rw [hxs] at this; cases this
  have h0 : mb.head? = some (hdTok mb) := by
    cases mb with
    | nil => exact absurd rfl hmne
    | cons a l => rfl
  have hl : mb.getLast? = some (ltTok mb) := by
    unfold ltTok
    rw [List.getLast?_eq_some_getLast hmne]; rfl
  exact PlainMath.inlineMath_of_section T st fuel _ d1 mb _ rest _ _ rot ls r0 hsec hmath h0 hl hns
    hrot hls hr

/-! ### text and positions of `fOut` -/

/-- the text of the rendering of a formula with the maths tokens `mb` -/
def shapeTxt (T : PTables) (mb : List Tok) (ph : Str) : Str :=
  (if (hdTok mb).kind = .mathSpace then [' '] else []) ++ ph ++ (partPunct T mb).toList
    ++ (if (ltTok mb).kind = .mathSpace then [' '] else [])

theorem getTxtPos_fixed (q : Nat) : ∀ (l rest : List Tok), (∀ t ∈ l, t.fix = true ∧ t.pos = q) →
    getTxtPos (l ++ rest)
      = ((getTxtPos l).1 ++ (getTxtPos rest).1,
         List.replicate (getTxtPos l).1.length q ++ (getTxtPos rest).2)
  | [], rest, _ => by simp [getTxtPos]
  | t :: l, rest, h => by
    have ht := h t (by simp)
    have ih := getTxtPos_fixed q l rest (fun x hx => h x (by simp [hx]))
    simp only [List.cons_append, getTxtPos, ih, tokPositions, ht.1, ht.2, if_true, List.length_append,
      List.append_assoc, ← List.replicate_append_replicate]

theorem inlineShape_txt (T : PTables) (mb : List Tok) (ph : Str) :
    (getTxtPos (inlineShape T mb (hdTok mb) (ltTok mb) ph)).1 = shapeTxt T mb ph := by
  unfold inlineShape shapeTxt
  cases partPunct T mb <;> by_cases h0 : (hdTok mb).kind = .mathSpace <;>
    by_cases hl : (ltTok mb).kind = .mathSpace <;>
    simp [h0, hl, getTxtPos, mkFix, mathSp]

theorem getTxtPos_fOut (T : PTables) (ph : Str) (p : Nat) (mb : List Tok) (rest : List Tok) :
    getTxtPos (fOut T ph p mb ++ rest)
      = (shapeTxt T mb ph ++ (getTxtPos rest).1,
         List.replicate (shapeTxt T mb ph).length (hdTok mb).pos ++ (getTxtPos rest).2) := by
  unfold fOut
  rw [List.cons_append, getTxtPos_action_cons, List.append_assoc,
    getTxtPos_fixed (hdTok mb).pos _ _ (inlineShape_fix_pos T mb (hdTok mb) (ltTok mb) ph),
    List.singleton_append, getTxtPos_action_cons, inlineShape_txt]

/-! ### the blank-line removal -/

theorem lastNonBlank_nonspace (s : Str) (c : Char) (h : lastNonBlank s = some c) : isSpace c = false := by
  unfold lastNonBlank at h
  have := List.find?_some h
  simpa using this

theorem partPunct_nonspace (T : PTables) (mb : List Tok) (c : Char) (h : partPunct T mb = some c) :
    isSpace c = false := by
  unfold partPunct at h
  cases hl : lastNonBlank (getTextDirect mb) with
  | none => simp [hl] at h
  | some d =>
    simp only [hl] at h
    split at h
    · have : d = c := by simpa using h
      subst this
      exact lastNonBlank_nonspace _ _ hl
    · cases h

theorem lineTo_mathSp (P : Option Bool → Prop) (b : Prop) [Decidable b] (q : Nat) :
    LineTo P P (if b then [mathSp q] else []) :=
  .opt b (.blank (t := mathSp q) (Or.inl rfl) (show isBlank [' '] = true by decide)
    (show hasNl [' '] = false by decide))

theorem lineTo_fOut (T : PTables) (ph : Str) (p : Nat) (mb : List Tok)
    (hph : hasNl ph = false ∧ isBlank ph = false) : LineTo LAny LVis (fOut T ph p mb) := by
  -- unfolded first and with the tokens named: left to unification the term runs out of heartbeats
  unfold fOut inlineShape
  exact (LineTo.actionAny (t := mkAction p) rfl).cons
    (((((lineTo_mathSp LAny _ _).append (.visible (t := mkFix .text (hdTok mb).pos ph) rfl hph.1 hph.2)).append
      (PlainMath.lineTo_punct _ _ (partPunct_nonspace T mb))).append (lineTo_mathSp LVis _ _)).append
      (.actionVis (t := mkAction (hdTok mb).pos) rfl))

/-! ### `expandSequence` on plain tokens and formulas -/

def PiecesOk (T : PTables) (st : PState) : List Piece → Prop
  | [] => True
  | .tok t :: rest => PlainTok t ∧ PassTok T st t (flat rest) ∧ TokShape t ∧ PiecesOk T st rest
  | .math d1 b d2 :: rest =>
    OpenTok d1 ∧ (b.flatMap (mt T)).any (fun x => !x.sp) = true ∧ (∀ t ∈ b, MItem T st t) ∧
      CloseTok d2 ∧ PiecesOk T st rest

/-- what `expandSequence` emits for the pieces before the blank-line removal, `l` being the stored
    placeholder collection: the formulas take the heads of `rotL l`, `rotL (rotL l)`, … -/
def outP (T : PTables) (st : PState) : List Str → List Piece → List Tok
  | _, [] => []
  | l, .tok t :: rest => t :: outP T st l rest
  | l, .math d1 b _ :: rest =>
    fOut T ((rotL l).headD []) d1.pos (b.flatMap (mout T st)) ++ outP T st (rotL l) rest

/-- fuel: one iteration per copied token; for a formula one iteration of the loop, the call, one
    step of the section parser per body token (two per control word, none for white space) and
    one for the closing token -/
def cost : List Piece → Nat
  | [] => 0
  | .tok _ :: rest => 1 + cost rest
  | .math _ b _ :: rest => mcost b + 2 + cost rest

/-- **a formula in the loop**: the iteration at the opening delimiter, the call below it -/
theorem seqRun_formula (T : PTables) (envStop : Option Str) {d1 d2 : Tok} {b : List Tok} {rest : Buf}
    {out : List Tok} {st : PState} {rot : Rot} {ls : LangSettings} {r0 : Str}
    (hd1 : OpenTok d1) (hd2 : CloseTok d2) (hvis : (b.flatMap (mt T)).any (fun x => !x.sp) = true)
    (hb : ∀ t ∈ b, MItem T st t)
    (hrot : rotOf st (curSettings st) = some rot) (hls : settingsOf T (curSettings st) = some ls)
    (hr : (rotL rot.inl).head? = some r0) :
    SeqRun T envStop 1 (mcost b + 2) (d1 :: (b ++ d2 :: rest)) out st rest
      (out ++ fOut T r0 d1.pos (b.flatMap (mout T st))) (setRot st { rot with inl := rotL rot.inl }) :=
  .of_eq (m := mcost b + 1) (k := 2) (j := 1) (fun f hf =>
    (loop_inline hd1.kind (by rcases hd1.txt with h | h <;> simp [txtIs, h])).trans (M.bind_ok _ _ _ _ _
      (inlineMath_rich T st f d1 d2 b rest rot ls r0 hd2 hvis hb hf hrot hls hr))) (by omega) (by omega)

/-- the loop on a buffer of plain tokens and formulas: the output is `outP`; the state changes only
    in the rotation records, and the record of the current language holds the collection rotated
    once per formula. -/
theorem seqRun_rich (T : PTables) (envStop : Option Str) (ls : LangSettings) {st0 : PState} :
    ∀ (ps : List Piece) (out : List Tok) (st : PState) (rot : Rot), Reads st0 st → PiecesOk T st0 ps →
      rotOf st (curSettings st) = some rot → rot.inl ≠ [] →
      settingsOf T (curSettings st) = some ls →
      ∃ st', SeqRun T envStop 1 (cost ps) (flat ps) out st [] (out ++ outP T st0 rot.inl ps) st' ∧
        st' = { st with rots := st'.rots } ∧
        rotOf st' (curSettings st) = some { rot with inl := rotN (nMath ps) rot.inl }
  | [], out, st, rot, _, _, hrot, _, _ =>
    ⟨st, by rw [outP, List.append_nil]; exact SeqRun.refl.mono (Nat.zero_le 1) (Nat.le_refl _), rfl, hrot⟩
  | .tok t :: ps, out, st, rot, hR, hok, hrot, hne, hls =>
    (seqRun_plainTok hok.1 (hR.ext.passTok hok.2.1)).app_ex
      (seqRun_rich T envStop ls ps (out ++ [t]) st rot hR hok.2.2.2 hrot hne hls) (Nat.zero_le _)
  | .math d1 b d2 :: ps, out, st, rot, hR, hok, hrot, hne, hls => by
    obtain ⟨hd1, hvis, hb, hd2, hrest⟩ := hok
    have step := seqRun_formula T envStop (rest := flat ps) (out := out) hd1 hd2 hvis
      (fun t ht => MItem.congr (.of_reads hR) (hb t ht)) hrot hls
      (PlainMath.headD_of_ne_nil _ (rotL_ne_nil _ hne))
    rw [funext (mout_congr T _ _ hR.ext.ops)] at step
    obtain ⟨st', h1, h2, h3⟩ := seqRun_rich T envStop ls ps
      (out ++ fOut T ((rotL rot.inl).headD []) d1.pos (b.flatMap (mout T st0)))
      (setRot st { rot with inl := rotL rot.inl }) { rot with inl := rotL rot.inl }
      (hR.trans ⟨rfl, rfl⟩) hrest
      (PlainMath.rotOf_setRot st (curSettings st) rot (rotL rot.inl) hrot) (rotL_ne_nil _ hne) hls
    refine ⟨st', ?_, h2.trans rfl, ?_⟩
    · simp only [flat, Piece.toks, List.cons_append, List.append_assoc, List.nil_append]
      exact step.app h1 (Nat.le_add_right ..)
    · rw [show curSettings st = curSettings (setRot st { rot with inl := rotL rot.inl }) from rfl, h3]
      simp only [nMath, rotN]

/-! ### the blank-line removal deletes nothing: every formula leaves visible text -/

theorem lineTo_outP (T : PTables) (st : PState) : ∀ (ps : List Piece) (l : List Str),
    PiecesOk T st ps → VisibleRepls l → l ≠ [] → LineTo LOk LOk (outP T st l ps)
  | [], _, _, _, _ => .nil
  | .tok _ :: ps, l, hok, hl, hne =>
    (PlainMath.lineTo_tokShape hok.2.2.1).cons (lineTo_outP T st ps l hok.2.2.2 hl hne)
  | .math d1 _ _ :: ps, l, hok, hl, hne =>
    (lineTo_fOut T _ d1.pos _ (hl.next hne)).ok.append
      (lineTo_outP T st ps (rotL l) hok.2.2.2.2 hl.rotL (rotL_ne_nil l hne))

theorem removeLines_outP (T : PTables) (st : PState) (ps : List Piece) (l : List Str)
    (hok : PiecesOk T st ps) (hl : VisibleRepls l) (hne : l ≠ []) :
    removeLines (outP T st l ps) = some ((outP T st l ps).filter keepOut) :=
  (lineTo_outP T st ps l hok hl hne).removeLines

theorem MItem.notComment {T : PTables} {st : PState} {t : Tok} (h : MItem T st t) :
    t.kind ≠ .comment := by
  rcases h with h | h | h | h | h | h
  · exact NoCom.of_kind h.kind
  · exact NoCom.of_kind h
  · exact NoCom.of_kind h.kind
  · exact NoCom.of_kind h.kind
  · exact NoCom.of_kind h.kind
  · exact NoCom.of_kind h.kind

theorem PiecesOk.noCom {T : PTables} {st : PState} : ∀ {ps : List Piece}, PiecesOk T st ps → NoCom (flat ps)
  | [], _ => .nil
  | .tok _ :: _, h => .cons h.1.notComment (noCom h.2.2.2)
  | .math .. :: _, h => .append
    (.cons (NoCom.of_kind2 h.1.kind) (.append (fun t ht => (h.2.2.1 t ht).notComment)
      (.cons (NoCom.of_kind2 h.2.2.2.1.kind) .nil))) (noCom h.2.2.2.2)

end PlainMathRich
end Yalafi
