/-
  Proofs/SystemML.lean — SYSTEM LEVEL, multi-language mode, grammar-free part: the shell's assembly of
  SEVERAL submitted pieces (`run_proofreader_options`: the loop over `plain_map[lang]`, `matches_tot`,
  `plain_tot`, `charmap_tot`, the delimiter `'\n\n'`; model `assembleNB` / `assembleStepNB` of
  Model/Shell.lean) composed with `map_match_position`, the report generators, the HTML highlight and
  the sort of the matches (Proofs/SystemWord.lean).  Everything here holds for ANY list of pieces with
  ANY answers of the proofreader; Proofs/SystemMLLang.lean instantiates it for the parts that
  `tex2txt … multi := true` returns on documents with `\selectlanguage`.

  Definitions
    `Sub`                   one request of the shell with its answer: `((txt, pos), matches)` — a piece
                            of plain text, its 1-based position map (natural numbers, as the filter
                            delivers them), the matches the proofreader returned for it
    `toPart`, `submit subs` the model's `assembleNB` on these pieces: `plainTot`, `charmapTot`, `hits`
    `shiftOf A`             `len(plain_tot)` after the pieces `A`: what the shell adds to the offsets of
                            the matches of the NEXT piece (`shiftOf_eq`: the sum of `|txt| + 2` over `A`)
    `totMap`                the total position map as natural numbers (`charmapTot_natMap`:
                            `charmapTot = natMap (totMap …)`): every piece's map followed by its last
                            entry twice (the delimiter)
  Theorems
    `assemble_run`          (1) a run `RunAt pos_i o l q` of piece number `i` is the run
                            `RunAt (totMap …) (o + shiftOf (pieces before i)) l q` of the total map,
                            and a map entry follows it
    `ml_run_reported`       (2) … hence (with `mapMatch_run`, `reportAll_run`, `html_run` of
                            Proofs/SystemWord.lean on the total map): the shifted match is
                            among `matches_tot`, `map_match_position` on the total map yields offset
                            `q`, length `l`; text report, JSON, XML, XML-b are `WordReported src q l`;
                            the HTML report accepts the match and highlights `src[q : q+l]`
    `ml_runs_sorted`        (4) of two flagged runs — in the same or in different pieces, whatever the
                            order of the pieces and of the answers — the one that stands first in the
                            LaTeX file is reported first after the shell's sort
  Side conditions and why
    `∀ y ∈ A, |y.txt| = |y.pos|`   the pieces IN FRONT of the flagged one have maps as long as their
                            texts (C01 / the filter theorems): the shell shifts offsets by the TEXT
                            length and indexes the MAP with them
    `1 ≤ l`, `RunAt … (q+1)`, `q + l ≤ |src|`, `¬ (l = 1 ∧ src[q] = '\\')`   as in `C14_run_reported`
  NOT covered: the rule options (`disa_thresh` / `disacat_thresh` for pieces of at most
  `ml_rule_threshold` words) and the language code of the request are not part of `assembleNB` (the
  language code of a piece is dealt with in Proofs/SystemMLLang.lean); the matches the shell creates
  itself; the skipping of blank pieces (`if not plain.strip(): continue`) is the caller's business
  here (`assembleStepNB` never skips): Proofs/SystemMLLang.lean filters them out before `submit`.
-/
import YalafiVerif.Proofs.SystemWord
import YalafiVerif.Proofs.Shell
namespace Yalafi
namespace SystemML

open SystemWord Reports Html

/-! ### the submitted pieces -/

abbrev Sub := (Str × List Nat) × List RawMatch

def toPart (x : Sub) : Part × List RawMatch := ({ plain := x.1.1, charmap := natMap x.1.2 }, x.2)

def submit (subs : List Sub) : Assembled := assembleNB (subs.map toPart)

def shiftOf (A : List Sub) : Nat := (submit A).plainTot.length

def totStep (acc pos : List Nat) : List Nat :=
  (acc ++ pos) ++ [((acc ++ pos).getLast?).getD 0, ((acc ++ pos).getLast?).getD 0]

def totMap (l : List (List Nat)) : List Nat := l.foldl totStep []

def shiftMatch (s : Nat) (m : RawMatch) : RawMatch := { m with offset := m.offset + (s : Int) }

@[simp] theorem shiftMatch_offset (s : Nat) (m : RawMatch) : (shiftMatch s m).offset = m.offset + (s : Int) := rfl
@[simp] theorem shiftMatch_rest (s : Nat) (m : RawMatch) : (shiftMatch s m).rest = m.rest := rfl


theorem natMap_append (a b : List Nat) : natMap (a ++ b) = natMap a ++ natMap b := by simp [natMap]

theorem natMap_length (a : List Nat) : (natMap a).length = a.length := by simp [natMap]

theorem natMap_getLast (l : List Nat) : ((natMap l).getLast?).getD 0 = (((l.getLast?).getD 0 : Nat) : Int) := by
  simp only [natMap, List.getLast?_map]
  cases l.getLast? <;> rfl

theorem natMap_totStep (acc pos : List Nat) :
    natMap (totStep acc pos) =
      (natMap acc ++ natMap pos) ++ [((natMap acc ++ natMap pos).getLast?).getD 0, ((natMap acc ++ natMap pos).getLast?).getD 0] := by
  rw [totStep, natMap_append, natMap_append, ← natMap_append acc pos, natMap_getLast]
  rfl

/-! ### the fold of the assembly -/

theorem assembleStep_eq (a : Assembled) (p : Part × List RawMatch) :
    assembleStepNB a p =
      { plainTot := a.plainTot ++ p.1.plain ++ ['\n', '\n'],
        charmapTot := (a.charmapTot ++ p.1.charmap) ++
          [((a.charmapTot ++ p.1.charmap).getLast?).getD 0, ((a.charmapTot ++ p.1.charmap).getLast?).getD 0],
        hits := a.hits ++ p.2.map (fun m => { m with offset := m.offset + (a.plainTot.length : Int) }) } := by
  simp [assembleStepNB]

/-- the assembly only appends -/
theorem foldl_assemble_ext : ∀ (ps : List (Part × List RawMatch)) (a : Assembled),
    ∃ P C H, ps.foldl assembleStepNB a =
      { plainTot := a.plainTot ++ P, charmapTot := a.charmapTot ++ C, hits := a.hits ++ H }
  | [], a => ⟨[], [], [], by simp⟩
  | p :: ps, a => by
    obtain ⟨P, C, H, h⟩ := foldl_assemble_ext ps (assembleStepNB a p)
    rw [List.foldl_cons, h, assembleStep_eq]
    exact ⟨_, _, _, by simp only [List.append_assoc]; rfl⟩

theorem foldl_totStep_ext : ∀ (l : List (List Nat)) (acc : List Nat),
    ∃ R, l.foldl totStep acc = acc ++ R
  | [], acc => ⟨[], by simp⟩
  | p :: l, acc => by
    obtain ⟨R, h⟩ := foldl_totStep_ext l (totStep acc p)
    rw [List.foldl_cons, h, totStep]
    exact ⟨_, by simp only [List.append_assoc]; rfl⟩

theorem foldl_charmap_natMap : ∀ (xs : List Sub) (a : Assembled) (acc : List Nat),
    a.charmapTot = natMap acc →
    ((xs.map toPart).foldl assembleStepNB a).charmapTot = natMap ((xs.map (·.1.2)).foldl totStep acc)
  | [], a, acc, h => by simpa using h
  | x :: xs, a, acc, h => by
    simp only [List.map_cons, List.foldl_cons]
    apply foldl_charmap_natMap xs
    rw [assembleStep_eq, natMap_totStep, h]
    rfl

theorem charmapTot_natMap (subs : List Sub) :
    (submit subs).charmapTot = natMap (totMap (subs.map (·.1.2))) :=
  foldl_charmap_natMap subs _ [] rfl

theorem submit_split (A B : List Sub) (x : Sub) :
    ∃ P C H, submit (A ++ x :: B) =
      { plainTot := (submit A).plainTot ++ (x.1.1 ++ ['\n', '\n'] ++ P),
        charmapTot := (submit A).charmapTot ++ natMap x.1.2 ++ C,
        hits := (submit A).hits ++ x.2.map (shiftMatch (shiftOf A)) ++ H } := by
  have h1 : submit (A ++ x :: B)
      = (B.map toPart).foldl assembleStepNB (assembleStepNB (submit A) (toPart x)) := by
    simp [submit, assembleNB, List.foldl_append]
  obtain ⟨P, C, H, h⟩ := foldl_assemble_ext (B.map toPart) (assembleStepNB (submit A) (toPart x))
  rw [h1, h, assembleStep_eq]
  refine ⟨P, [(((submit A).charmapTot ++ natMap x.1.2).getLast?).getD 0,
    (((submit A).charmapTot ++ natMap x.1.2).getLast?).getD 0] ++ C, H, ?_⟩
  simp only [toPart, List.append_assoc, shiftOf]
  rfl

theorem totMap_split (A B : List (List Nat)) (pos : List Nat) :
    ∃ R, totMap (A ++ pos :: B) = totMap A ++ pos ++ R ∧ 2 ≤ R.length := by
  obtain ⟨R, h⟩ := foldl_totStep_ext B (totStep (totMap A) pos)
  refine ⟨[((totMap A ++ pos).getLast?).getD 0, ((totMap A ++ pos).getLast?).getD 0] ++ R, ?_, by simp⟩
  simp only [totMap, List.foldl_append, List.foldl_cons] at h ⊢
  rw [h, totStep]
  simp only [List.append_assoc]

theorem shiftOf_totMap (A : List Sub) (hlen : ∀ y ∈ A, y.1.1.length = y.1.2.length) :
    shiftOf A = (totMap (A.map (·.1.2))).length := by
  have h := assemble_lengths (A.map toPart) (by
    intro p hp
    obtain ⟨y, hy, rfl⟩ := List.mem_map.mp hp
    simp only [toPart, natMap_length]
    exact hlen y hy)
  have h2 := charmapTot_natMap A
  unfold shiftOf
  unfold submit at h2 ⊢
  rw [h, h2, natMap_length]

theorem foldl_plain_length : ∀ (xs : List Sub) (a : Assembled),
    ((xs.map toPart).foldl assembleStepNB a).plainTot.length
      = a.plainTot.length + (xs.map (fun y => y.1.1.length + 2)).sum
  | [], a => by simp
  | x :: xs, a => by
    simp only [List.map_cons, List.foldl_cons, List.sum_cons]
    rw [foldl_plain_length xs, assembleStep_eq]
    simp only [toPart, List.length_append, List.length_cons, List.length_nil]
    omega

theorem shiftOf_eq (A : List Sub) : shiftOf A = (A.map (fun y => y.1.1.length + 2)).sum := by
  have := foldl_plain_length A { plainTot := [], charmapTot := [], hits := [] }
  simpa [shiftOf, submit, assembleNB] using this

theorem shift_mem (A B : List Sub) (x : Sub) (m : RawMatch) (hm : m ∈ x.2) :
    shiftMatch (shiftOf A) m ∈ (submit (A ++ x :: B)).hits := by
  obtain ⟨P, C, H, h⟩ := submit_split A B x
  rw [h]
  simp only [List.mem_append, List.mem_map]
  exact Or.inl (Or.inr ⟨m, hm, rfl⟩)

theorem split_at {α} {l : List α} {i : Nat} {x : α} (h : l[i]? = some x) :
    l = l.take i ++ x :: l.drop (i + 1) := by
  obtain ⟨hlt, rfl⟩ := List.getElem?_eq_some_iff.mp h
  conv => lhs; rw [← List.take_append_drop i l]
  rw [List.drop_eq_getElem_cons hlt]

/-! ### (1) a run of a piece is a run of the total map -/

theorem runAt_embed (pre pos R : List Nat) (o l q : Nat) (h : RunAt pos o l q) :
    RunAt (pre ++ pos ++ R) (o + pre.length) l q := by
  apply runAt_of_get
  intro i hi
  have h1 := h.get i hi
  have hlt : o + i < pos.length := (List.getElem?_eq_some_iff.mp h1).1
  rw [List.append_assoc, List.getElem?_append_right (by omega),
    show o + pre.length + i - pre.length = o + i by omega, List.getElem?_append_left hlt]
  exact h1

theorem assemble_run (A B : List Sub) (x : Sub) (o l q : Nat)
    (hlen : ∀ y ∈ A, y.1.1.length = y.1.2.length) (hrun : RunAt x.1.2 o l q) :
    RunAt (totMap ((A ++ x :: B).map (·.1.2))) (o + shiftOf A) l q ∧
    (1 ≤ l → o + shiftOf A + l < (totMap ((A ++ x :: B).map (·.1.2))).length) := by
  obtain ⟨R, hR, hR2⟩ := totMap_split (A.map (·.1.2)) (B.map (·.1.2)) x.1.2
  have he : (A ++ x :: B).map (·.1.2) = A.map (·.1.2) ++ x.1.2 :: B.map (·.1.2) := by simp
  rw [he, hR, shiftOf_totMap A hlen]
  refine ⟨runAt_embed _ _ _ o l q hrun, ?_⟩
  intro hl
  rcases hrun.le with h0 | h0
  · omega
  · simp only [List.length_append]; omega

/-! ### (2) the reports of a match of one piece after the assembly -/

theorem ml_run_reported (src : Str) (A B : List Sub) (x : Sub) (o l q : Nat) (hl : 1 ≤ l)
    (hlen : ∀ y ∈ A, y.1.1.length = y.1.2.length)
    (hrun : RunAt x.1.2 o l (q + 1)) (hin : q + l ≤ src.length)
    (hbs : ¬ (l = 1 ∧ src[q]? = some '\\')) :
    (∀ m ∈ x.2, shiftMatch (shiftOf A) m ∈ (submit (A ++ x :: B)).hits) ∧
    (submit (A ++ x :: B)).charmapTot = natMap (totMap ((A ++ x :: B).map (·.1.2))) ∧
    RunAt (totMap ((A ++ x :: B).map (·.1.2))) (o + shiftOf A) l (q + 1) ∧
    o + shiftOf A + l < (submit (A ++ x :: B)).charmapTot.length ∧
    mapMatch (submit (A ++ x :: B)).charmapTot src ((o + shiftOf A : Nat) : Int) (some (.int l))
      = .ok ((q : Int), (l : Int)) ∧
    reportAll (submit (A ++ x :: B)).charmapTot src ((o + shiftOf A : Nat) : Int) (some (.int l))
      = .ok (locate src q l) ∧
    WordReported src q l (locate src q l) ∧
    HtmlWord src (submit (A ++ x :: B)).charmapTot (o + shiftOf A) l q := by
  obtain ⟨hr, hnext⟩ := assemble_run A B x o l (q + 1) hlen hrun
  have hcm := charmapTot_natMap (A ++ x :: B)
  have hcm' : (submit (A ++ x :: B)).charmapTot = natMap (totMap ((A ++ x :: B).map (·.1.2))) ++ [] := by
    rw [hcm, List.append_nil]
  refine ⟨shift_mem A B x, hcm, hr, ?_, ?_, ?_, locate_word src q l hl hin, ?_⟩
  · rw [hcm, natMap_length]; exact hnext hl
  · rw [hcm']; exact mapMatch_run src _ [] _ l q hl hr hbs
  · rw [hcm']; exact reportAll_run src _ [] _ l q hl hr hbs
  · rw [hcm']; exact html_run src _ [] _ l q hl hr hbs (by omega) (by simp)

/-! ### (4) the order of the reports across pieces -/

theorem ml_runs_sorted (subs A1 B1 A2 B2 : List Sub) (x1 x2 : Sub)
    (h1 : subs = A1 ++ x1 :: B1) (h2 : subs = A2 ++ x2 :: B2)
    (hlen1 : ∀ y ∈ A1, y.1.1.length = y.1.2.length) (hlen2 : ∀ y ∈ A2, y.1.1.length = y.1.2.length)
    (m1 m2 : RawMatch) (hm1 : m1 ∈ x1.2) (hm2 : m2 ∈ x2.2) (o1 l1 q1 o2 l2 q2 : Nat)
    (ho1 : m1.offset = (o1 : Int)) (ho2 : m2.offset = (o2 : Int)) (hl1 : 1 ≤ l1) (hl2 : 1 ≤ l2)
    (hr1 : RunAt x1.1.2 o1 l1 (q1 + 1)) (hr2 : RunAt x2.1.2 o2 l2 (q2 + 1)) (hlt : q1 < q2)
    (out : List RawMatch) (hs : sortMatches (submit subs).charmapTot (submit subs).hits = .ok out) :
    ∃ X Y Z, out = X ++ shiftMatch (shiftOf A1) m1 :: (Y ++ shiftMatch (shiftOf A2) m2 :: Z) := by
  have hcm : (submit subs).charmapTot = natMap (totMap (subs.map (·.1.2))) ++ [] := by
    rw [charmapTot_natMap, List.append_nil]
  rw [hcm] at hs
  have g1 : shiftMatch (shiftOf A1) m1 ∈ (submit subs).hits := by
    rw [h1]; exact shift_mem A1 B1 x1 m1 hm1
  have g2 : shiftMatch (shiftOf A2) m2 ∈ (submit subs).hits := by
    rw [h2]; exact shift_mem A2 B2 x2 m2 hm2
  have r1 := (assemble_run A1 B1 x1 o1 l1 (q1 + 1) hlen1 hr1).1
  have r2 := (assemble_run A2 B2 x2 o2 l2 (q2 + 1) hlen2 hr2).1
  rw [← h1] at r1
  rw [← h2] at r2
  exact runs_sorted _ [] _ out hs _ _ g1 g2 (o1 + shiftOf A1) l1 q1 (o2 + shiftOf A2) l2 q2
    (by simp [ho1]) (by simp [ho2]) hl1 hl2 r1 r2 hlt

end SystemML
end Yalafi
