/-
  Proofs/NoEmptyStepWork.lean — step lemmas of the NoEmpty bundle for `parserWork`, `initPackage`,
  `modifyParameters`, `parseKeyvals`, `parseValue`, `expandKeyvals`, `modifyDescription`.
-/
import YalafiVerif.Proofs.NoEmptyBase1
import YalafiVerif.Proofs.NoEmptyBase2
namespace Yalafi
namespace NoEmpty
open M
set_option linter.unusedVariables false

variable {T : PTables}

private theorem pbind {α β} {x : M α} {f : α → M β} {st : PState} {R : β → PState → Prop}
    (Q : α → PState → Prop) (hx : Post' (x st) Q) (hf : ∀ a s, Q a s → Post' (f a s) R) :
    Post' ((x >>= f) st) R := Post'_bind x f st Q R hx hf

private theorem ppure {α} {a : α} {st : PState} {Q : α → PState → Prop} (h : Q a st) :
    Post' ((pure a : M α) st) Q := Post'_pure a st Q h

private theorem pmono {α} {x : Outcome (α × PState)} {Q R : α → PState → Prop}
    (h : Post' x Q) (hi : ∀ a s, Q a s → R a s) : Post' x R := Post'_mono x Q R h hi

private theorem pmodify {f : PState → PState} {st : PState} : Post' (M.modify f st) (fun _ s => s = f st) :=
  Post'_modify f st _ rfl

theorem modDesc_step (hne : tblOkB T = true) (hw : T.WFInv) (fuel : Nat) (IH : AllSpecs T fuel) :
    SpecModDesc T (fuel + 1) := by
  intro toks st hg hb
  rw [modifyDescription.eq_2]
  cases hc : capFirst T toks with
  | none =>
    obtain ⟨r, hr⟩ := capFirst_some (T := T) toks (ANE_ANE0 hb)
    rw [hr] at hc; cases hc
  | some ts =>
    dsimp only
    have hts := capFirst_ANE hne _ _ _ hb hc
    refine pbind (fun _ s => Fr T st s) (IH.text ts st hg (Buf3_of_ANE hts)) ?_
    intro txt s h
    cases txt.getLast? with
    | none => exact ppure ⟨h, hts⟩
    | some c =>
      dsimp only
      refine Post'_ite _ _ _ _ _ (fun _ => ?_) (fun _ => ?_)
      · exact ppure ⟨h, hts⟩
      · cases hl : ts.getLast? with
        | none => exact Post'_crash _ _ _ (by simp [site])
        | some l =>
          refine ppure ⟨h, ?_⟩
          rw [ANE_append]
          refine ⟨hts, ?_⟩
          intro x hx
          simp only [List.mem_singleton] at hx
          subst hx
          have hlm : l ∈ ts := List.mem_of_getLast? hl
          exact NE_mkFix_text _ _ _ (hts l hlm).1.1 (by simp)

theorem expandKv_step (hne : tblOkB T = true) (hw : T.WFInv) (fuel : Nat) (IH : AllSpecs T fuel) :
    SpecExpandKv T (fuel + 1) := by
  intro kvs st hg hk
  cases kvs with
  | nil => rw [expandKeyvals.eq_2]; exact ppure (Fr.refl hg)
  | cons kv kvs =>
    obtain ⟨k, v⟩ := kv
    have hrest : ∀ s, Fr T st s →
        Post' (expandKeyvals T fuel kvs s) (fun _ s' => Fr T st s') := by
      intro s h
      have := IH.expandKv kvs s h.1 (by rw [h.2]; intro kv hkv; exact hk kv (by simp [hkv]))
      exact pmono this (fun a s' h' => Fr.trans h h')
    cases v with
    | none =>
      rw [expandKeyvals.eq_3]
      refine pbind (fun _ s => Fr T st s) (ppure (Fr.refl hg)) ?_
      intro a s h
      refine pbind (fun _ s' => Fr T st s') (hrest s h) ?_
      intro a s h; exact ppure h
    | some toks =>
      rw [expandKeyvals.eq_4]
      refine pbind (fun _ s => Fr T st s) ?_ ?_
      · refine pbind (fun _ s => Fr T st s) ?_ ?_
        · exact IH.text toks st hg (Buf3_of_ANE (hk (k, some toks) (by simp) _ rfl))
        · intro a s h; exact ppure h
      · intro a s h
        refine pbind (fun _ s' => Fr T st s') (hrest s h) ?_
        intro a s h; exact ppure h

private theorem parseValue_seq_ANE (n : Nat) (t : Tok) (a : List Tok) (ht : t.pos < n)
    (ha : ANE T n a) :
    ANE T n (match (generalizing := false) a with
      | [v] => if v.kind == .void then [] else
          [mkTok .special t.pos ['{'], v, mkTok .special v.pos ['}']]
      | s => [mkTok .special t.pos ['{']] ++ s ++ [mkTok .special ((s.getLast?.map (·.pos)).getD 0) ['}']]) := by
  have h0 : 0 < n := by omega
  rcases a with _ | ⟨v, _ | ⟨w, tl⟩⟩
  · simp only [ANE_cons, List.append_nil, List.nil_append, List.cons_append, List.getLast?_nil,
      Option.map_none, Option.getD_none]
    exact ⟨NE_mkTok_special _ _ _ ht, NE_mkTok_special _ _ _ h0, ANE_nil _⟩
  · have hv := ha v (by simp)
    dsimp only
    split
    · exact ANE_nil _
    · simp only [ANE_cons]
      exact ⟨NE_mkTok_special _ _ _ ht, hv, NE_mkTok_special _ _ _ hv.1.1, ANE_nil _⟩
  · dsimp only
    rw [ANE_append, ANE_append]
    refine ⟨⟨?_, ha⟩, ?_⟩
    · simp only [ANE_cons]; exact ⟨NE_mkTok_special _ _ _ ht, ANE_nil _⟩
    · simp only [ANE_cons]
      refine ⟨NE_mkTok_special _ _ _ ?_, ANE_nil _⟩
      cases hl : (v :: w :: tl).getLast? with
      | none => simpa using h0
      | some l => simpa using (ha l (List.mem_of_getLast? hl)).1.1

theorem value_step (hne : tblOkB T = true) (hw : T.WFInv) (fuel : Nat) (IH : AllSpecs T fuel) :
    SpecValue T (fuel + 1) := by
  intro buf val st hg hb hv
  cases buf with
  | nil => rw [parseValue.eq_2]; exact ppure ⟨Fr.refl hg, hv, ANE_nil _⟩
  | cons t rest =>
    rw [parseValue.eq_3]
    have ht := (hb t (by simp)).1.1
    have hvt : ANE T st.latex.length (val ++ [t]) := by
      rw [ANE_append]; exact ⟨hv, by simp only [ANE_cons]; exact ⟨hb t (by simp), ANE_nil _⟩⟩
    refine Post'_ite _ _ _ st _ (fun _ => ?_) (fun _ => ?_)
    · exact ppure ⟨Fr.refl hg, hv, hb⟩
    · refine Post'_ite _ _ _ st _ (fun _ => ?_) (fun _ => ?_)
      · refine pbind _ (argBuffer_spec (t :: rest) 0 true st hg) ?_
        intro r s ⟨hfr, h12, _⟩
        obtain ⟨h1, h2⟩ := h12 hb (by omega)
        have hlen := hfr.len
        refine Post'_ite _ _ _ s _ (fun _ => ?_) (fun _ => ?_)
        · -- no closing brace: the brace is an ordinary token of the value
          refine pmono (IH.value (r.2.drop 1) _ s hfr.1
            (by rw [hlen]; exact ANE_drop 1 h2) (by rw [hlen]; exact hvt)) ?_
          intro a s' ⟨g, b1, b2⟩
          rw [hlen] at b1 b2
          exact ⟨Fr.trans hfr g, b1, b2⟩
        · refine pmono (IH.value r.2 _ s hfr.1 (by rw [hlen]; exact h2) ?_) ?_
          · rw [hlen, ANE_append]
            exact ⟨hv, parseValue_seq_ANE _ t r.1 ht h1⟩
          · intro a s' ⟨g, b1, b2⟩
            rw [hlen] at b1 b2
            exact ⟨Fr.trans hfr g, b1, b2⟩
      · refine IH.value rest _ st hg ?_ hvt
        exact fun x hx => hb x (by simp [hx])

private theorem kvOk_snoc {n : Nat} {acc : List (Str × Option (List Tok))} {k : Str}
    {v : Option (List Tok)} (ha : kvOk T n acc) (hv : ∀ ts, v = some ts → ANE T n ts) :
    kvOk T n (acc ++ [(k, v)]) := by
  intro kv hkv ts hts
  rcases List.mem_append.1 hkv with h | h
  · exact ha kv h ts hts
  · simp only [List.mem_singleton] at h
    subst h
    exact hv ts hts

private theorem ANE_skipSpace {n : Nat} {b : List Tok} (h : ANE T n b) : ANE T n (skipSpace b) := by
  unfold skipSpace; exact ANE_dropWhile _ h

theorem keyvals_step (hne : tblOkB T = true) (hw : T.WFInv) (fuel : Nat) (IH : AllSpecs T fuel) :
    SpecKeyvals T (fuel + 1) := by
  intro buf acc st hg hb ha
  rw [parseKeyvals.eq_2]
  have hsk := ANE_skipSpace hb
  cases hb' : skipSpace buf with
  | nil => exact ppure ⟨Fr.refl hg, ha⟩
  | cons t0 l0 =>
    rw [hb'] at hsk
    dsimp only
    generalize t0 :: l0 = b at hsk
    refine pbind (fun _ s => Fr T st s)
      (IH.text _ st hg (Buf3_of_ANE (ANE_sublist (List.takeWhile_sublist _) hsk))) ?_
    intro key s hgood
    have hlen := hgood.len
    have hb1 := ANE_skipSpace (ANE_sublist (List.drop_sublist
      (List.takeWhile (fun t => t.kind == Kind.text && !(txtIs t "=" || txtIs t ",")) b).length b) hsk)
    have hnone : kvOk T st.latex.length (acc ++ [(key, none)]) :=
      kvOk_snoc ha (by intro ts h; cases h)
    cases hb1' : skipSpace (List.drop
      (List.takeWhile (fun t => t.kind == Kind.text && !(txtIs t "=" || txtIs t ",")) b).length b) with
    | nil => exact ppure ⟨hgood, hnone⟩
    | cons t rest =>
      rw [hb1'] at hb1
      have hrest : ANE T st.latex.length rest := fun x hx => hb1 x (by simp [hx])
      dsimp only
      refine Post'_ite _ _ _ _ _ (fun _ => ?_) (fun _ => ?_)
      · refine pmono (IH.keyvals rest _ s hgood.1 (by rw [hlen]; exact hrest) (by rw [hlen]; exact hnone)) ?_
        intro a s' ⟨g, k⟩
        rw [hlen] at k
        exact ⟨Fr.trans hgood g, k⟩
      · refine pbind _ (IH.value (skipSpace rest) [] s hgood.1
          (by rw [hlen]; exact ANE_skipSpace hrest) (ANE_nil _)) ?_
        intro r s2 ⟨g2, r1, r2⟩
        rw [hlen] at r1 r2
        have hgood2 := Fr.trans hgood g2
        have hlen2 := hgood2.len
        refine pmono (IH.keyvals _ _ s2 hgood2.1 (by rw [hlen2]; exact ANE_drop 1 r2)
          (by
            rw [hlen2]
            refine kvOk_snoc ha ?_
            intro ts hts
            cases hts
            split
            · split
              · exact ANE_sublist (List.dropLast_sublist _) r1
              · exact r1
            · exact r1)) ?_
        intro a s' ⟨g, k⟩
        rw [hlen2] at k
        exact ⟨Fr.trans hgood2 g, k⟩

private theorem InjOk_babel (n position : Nat) (opts : List KeyVal) :
    InjOk T n position (babelLanguageToken T opts) := by
  unfold babelLanguageToken
  split
  · refine ⟨fun hp t ht => ?_, fun t ht => ?_⟩
    · simp only [List.mem_singleton] at ht
      subst ht
      have h0 : 0 < n := by omega
      simp [NE, W, NE0, MB, ctlEmpty, mkLang, h0]
    · simp only [List.mem_singleton] at ht
      subst ht
      simp [mkLang]
  · exact InjOk_nil _ _ _

theorem modParams_step (hne : tblOkB T = true) (hw : T.WFInv) (fuel : Nat) (IH : AllSpecs T fuel) :
    SpecModParams T (fuel + 1) := by
  intro md options position st hg hm
  rw [modifyParameters.eq_2]
  refine Post'_ite _ _ _ _ _ (fun _ => ?_) (fun _ => ?_)
  · exact Post'_crash _ _ _ (by simp [site])
  · apply Post'_get_bind
    dsimp only
    have hinj : InjOk T st.latex.length position
        (if md.babelInject = true then babelLanguageToken T (st.globalOptions ++ options) else []) := by
      split
      · exact InjOk_babel _ _ _
      · exact InjOk_nil _ _ _
    generalize (if md.babelInject = true then babelLanguageToken T (st.globalOptions ++ options) else []) = inject0
      at hinj ⊢
    refine pbind (fun cinj s => Fr T st s ∧ InjOk T st.latex.length position cinj) ?_ ?_
    · refine Post'_ite _ _ _ _ _ (fun _ => ?_) (fun _ => ?_)
      · refine pmono (latexError_spec _ position st hg) ?_
        intro r s ⟨hfr, hc, ha⟩
        exact ⟨hfr, ha, fun t ht hk => by have := hc t ht; simp [noCall, hk] at this⟩
      · exact ppure ⟨Fr.refl hg, InjOk_nil _ _ _⟩
    intro cinj s0 ⟨hfr0, hcinj⟩
    have hinj' := InjOk_append hinj hcinj
    generalize inject0 ++ cinj = inject at hinj' ⊢
    refine pbind _ pmodify ?_
    intro _ s1 hs1
    have hgood1 : Fr T st s1 := by
      refine Fr.trans hfr0 ?_
      refine ⟨⟨?_, ?_, ?_⟩, ?_⟩ <;> rw [hs1]
      · intro m hmem
        rcases foldl_setMacro_mem _ _ _ hmem with h | h
        · exact hfr0.1.macros m h
        · exact hm.1 m h
      · intro e hmem
        rcases foldl_setMacro_mem _ _ _ hmem with h | h
        · exact hfr0.1.envs e h
        · exact hm.2 e h
      · exact hfr0.1.gloss
    clear hs1
    refine Post'_ite _ _ _ _ _ (fun _ => ?_) (fun _ => ?_)
    · refine pbind _ (IH.work md.macrosLatex s1 hgood1.1) ?_
      intro _ s2 ⟨g0, _⟩
      exact ppure ⟨Fr.trans hgood1 g0, hinj'⟩
    · exact ppure ⟨hgood1, hinj'⟩

theorem init_step (hne : tblOkB T = true) (hw : T.WFInv) (fuel : Nat) (IH : AllSpecs T fuel) :
    SpecInit T (fuel + 1) := by
  intro name md builtin options position st hg hmd
  rw [initPackage.eq_2]
  apply Post'_get_bind
  refine Post'_ite _ _ _ _ _ (fun _ => ?_) (fun _ => ?_)
  · exact ppure ⟨Fr.refl hg, InjOk_nil _ _ _⟩
  · apply Post'_catchAll
    refine pbind (fun acc s => Fr T st s ∧ InjOk T st.latex.length position acc) ?_ ?_
    · apply Post'_foldlM
      · exact ⟨Fr.refl hg, InjOk_nil _ _ _⟩
      · intro acc requ s _ ⟨hgood, hacc⟩
        apply Post'_get_bind
        dsimp only
        refine Post'_ite _ _ _ _ _ (fun _ => ?_) (fun _ => ?_)
        · refine pbind _ (IH.init requ _ false options position s hgood.1 (findModule_ModOk hne false requ)) ?_
          intro o s' ⟨g', ho⟩
          rw [hgood.len] at ho
          exact ppure ⟨Fr.trans hgood g', InjOk_append hacc ho⟩
        · exact ppure ⟨hgood, hacc⟩
    · intro reqOut s ⟨hgood, hacc⟩
      dsimp only
      have hjp : ∀ s1, Fr T st s1 →
          Post' ((do let o ← modifyParameters T fuel md options position; pure (reqOut ++ o)) s1)
            (fun r st' => Fr T st st' ∧ InjOk T st.latex.length position r) := by
        intro s1 hgood1
        refine pbind _ (IH.modParams md options position s1 hgood1.1 hmd) ?_
        intro o s' ⟨g', ho⟩
        rw [hgood1.len] at ho
        exact ppure ⟨Fr.trans hgood1 g', InjOk_append hacc ho⟩
      refine Post'_ite _ _ _ _ _ (fun _ => ?_) (fun _ => ?_)
      · refine pbind _ pmodify ?_
        intro _ s1 hs1
        refine hjp s1 ?_
        rw [hs1]
        exact Fr.trans hgood ⟨StOk_congr hgood.1 rfl rfl rfl, rfl⟩
      · exact hjp s hgood

theorem work_step (hne : tblOkB T = true) (hw : T.WFInv) (fuel : Nat) (IH : AllSpecs T fuel) :
    SpecWork T (fuel + 1) := by
  intro latex st hg
  rw [parserWork.eq_2]
  apply Post'_get_bind
  refine pbind _ pmodify ?_
  intro _ s1 hs1
  refine pbind _ pmodify ?_
  intro _ s2 hs2
  rw [hs1] at hs2
  clear hs1 s1
  have hl2 : s2.latex = latex := by rw [hs2]
  have hG2 : StOk T s2 := by rw [hs2]; exact StOk_congr hg rfl rfl rfl
  clear hs2
  apply Post'_get_bind
  refine pbind (fun toks s3 => ANE T latex.length toks ∧ Fr T s2 s3) ?_ ?_
  · have hsp := skipPass_spec (T := T) latex.length s2 ((scan T.toTables latex).toks.length + 1)
      (scan T.toTables latex).toks [] (scan_ANE hw latex) (ANE_nil _)
    generalize skipPass s2 _ _ _ = sp at hsp ⊢
    obtain ⟨p1, p2, p3⟩ := hsp
    cases hb : sp.2.1 with
    | none => exact ppure ⟨p1, Fr.refl hG2⟩
    | some bpos =>
      dsimp only
      have hlt := p3 bpos hb
      refine pbind _ (latexError_spec _ bpos s2 hG2) ?_
      intro er s3 ⟨hfr, _, he⟩
      have he' := he (by rw [hl2]; exact hlt)
      rw [hl2] at he'
      exact ppure ⟨by rw [ANE_append, ANE_append]; exact ⟨⟨p1, he'⟩, p2⟩, hfr⟩
  · intro toks s3 ⟨ht, hfr3⟩
    have hl3 : s3.latex = latex := by rw [hfr3.2, hl2]
    refine pbind _ (IH.seq toks none [] s3 hfr3.1 (by rw [hl3]; exact Buf3_of_ANE ht) ANC_nil) ?_
    intro r s4 ⟨g4, _, ho, _⟩
    refine pbind _ pmodify ?_
    intro _ s5 hs5
    refine ppure ⟨⟨?_, ?_⟩, ho rfl⟩
    · rw [hs5]; exact StOk_congr g4.1 rfl rfl rfl
    · rw [hs5]

end NoEmpty
end Yalafi
