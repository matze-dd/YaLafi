/-
  Proofs/NoEmptyMain.lean — the induction on fuel for the NoEmpty bundle and the end-to-end theorem.
  `handler_step` is ONE `cases` that names one lemma per handler (NoEmptyHandlerA/B/C): a new handler
  constructor of the model needs one new lemma `handler_<name>` and one new line here.
-/
import YalafiVerif.Proofs.NoEmptyStepSeq
import YalafiVerif.Proofs.NoEmptyStepEnv
import YalafiVerif.Proofs.NoEmptyStepArgs
import YalafiVerif.Proofs.NoEmptyStepWork
import YalafiVerif.Proofs.NoEmptyHandlerA
import YalafiVerif.Proofs.NoEmptyHandlerB
import YalafiVerif.Proofs.NoEmptyHandlerC
import YalafiVerif.Proofs.NoEmptyStepMath
import YalafiVerif.Proofs.NoEmptyTop
namespace Yalafi
namespace NoEmpty

variable {T : PTables}

theorem allSpecs_zero : AllSpecs T 0 := by
  refine { seq := ?_, text := ?_, envName := ?_, begin_ := ?_, end_ := ?_, macro_ := ?_, args := ?_, item := ?_, accent := ?_, work := ?_, init := ?_, modParams := ?_, keyvals := ?_, value := ?_, expandKv := ?_, modDesc := ?_, handler := ?_, mathSec := ?_, inline := ?_, dispLoop := ?_, display := ?_ }
  · unfold SpecSeq; intros; rw [expandSequence.eq_1]; exact Post'_outOfFuel _ _
  · unfold SpecText; intros; rw [getTextExpanded.eq_1]; exact Post'_outOfFuel _ _
  · unfold SpecEnvName; intros; rw [getEnvironmentName.eq_1]; exact Post'_outOfFuel _ _
  · unfold SpecBegin; intros; rw [beginEnvironment.eq_1]; exact Post'_outOfFuel _ _
  · unfold SpecEnd; intros; rw [endEnvironment.eq_1]; exact Post'_outOfFuel _ _
  · unfold SpecMacro; intros; rw [expandMacro.eq_1]; exact Post'_outOfFuel _ _
  · unfold SpecArgs; intros; rw [expandArguments.eq_1]; exact Post'_outOfFuel _ _
  · unfold SpecItem; intros; rw [expandItem.eq_1]; exact Post'_outOfFuel _ _
  · unfold SpecAccent; intros; rw [expandAccent.eq_1]; exact Post'_outOfFuel _ _
  · unfold SpecWork; intros; rw [parserWork.eq_1]; exact Post'_outOfFuel _ _
  · unfold SpecInit; intros; rw [initPackage.eq_1]; exact Post'_outOfFuel _ _
  · unfold SpecModParams; intros; rw [modifyParameters.eq_1]; exact Post'_outOfFuel _ _
  · unfold SpecKeyvals; intros; rw [parseKeyvals.eq_1]; exact Post'_outOfFuel _ _
  · unfold SpecValue; intros; rw [parseValue.eq_1]; exact Post'_outOfFuel _ _
  · unfold SpecExpandKv; intros; rw [expandKeyvals.eq_1]; exact Post'_outOfFuel _ _
  · unfold SpecModDesc; intros; rw [modifyDescription.eq_1]; exact Post'_outOfFuel _ _
  · unfold SpecHandler; intros; rw [callHandler.eq_1]; exact Post'_outOfFuel _ _
  · unfold SpecMathSec; intros; rw [expandMathSection.eq_1]; exact Post'_outOfFuel _ _
  · unfold SpecInline; intros; rw [expandInlineMath.eq_1]; exact Post'_outOfFuel _ _
  · unfold SpecDispLoop; intros; rw [displayLoop.eq_1]; exact Post'_outOfFuel _ _
  · unfold SpecDisplay; intros; rw [expandDisplayMath.eq_1]; exact Post'_outOfFuel _ _

theorem handler_step (hne : tblOkB T = true) (hw : T.WFInv) (fuel : Nat) (IH : AllSpecs T fuel) :
    SpecHandler T (fuel + 1) := by
  intro h buf mac args pos st hs ha hp
  cases h with
  | none => exact handler_none hne hw fuel IH buf mac args pos st hs ha hp
  | opaqueH name => exact handler_opaqueH name hne hw fuel IH buf mac args pos st hs ha hp
  | newcommand => exact handler_newcommand hne hw fuel IH buf mac args pos st hs ha hp
  | «theorem» title => exact handler_theorem title hne hw fuel IH buf mac args pos st hs ha hp
  | newtheorem => exact handler_newtheorem hne hw fuel IH buf mac args pos st hs ha hp
  | heading => exact handler_heading hne hw fuel IH buf mac args pos st hs ha hp
  | phantom => exact handler_phantom hne hw fuel IH buf mac args pos st hs ha hp
  | hspace => exact handler_hspace hne hw fuel IH buf mac args pos st hs ha hp
  | cite => exact handler_cite hne hw fuel IH buf mac args pos st hs ha hp
  | loadDefs => exact handler_loadDefs hne hw fuel IH buf mac args pos st hs ha hp
  | loadModule cls => exact handler_loadModule cls hne hw fuel IH buf mac args pos st hs ha hp
  | foreignlanguage => exact handler_foreignlanguage hne hw fuel IH buf mac args pos st hs ha hp
  | selectlanguage => exact handler_selectlanguage hne hw fuel IH buf mac args pos st hs ha hp
  | beginOtherlang => exact handler_beginOtherlang hne hw fuel IH buf mac args pos st hs ha hp
  | endOtherlang => exact handler_endOtherlang hne hw fuel IH buf mac args pos st hs ha hp
  | endOtherlangStar => exact handler_endOtherlangStar hne hw fuel IH buf mac args pos st hs ha hp
  | substack => exact handler_substack hne hw fuel IH buf mac args pos st hs ha hp
  | proof => exact handler_proof hne hw fuel IH buf mac args pos st hs ha hp
  | bibCite => exact handler_bibCite hne hw fuel IH buf mac args pos st hs ha hp
  | footcite => exact handler_footcite hne hw fuel IH buf mac args pos st hs ha hp
  | xspace => exact handler_xspace hne hw fuel IH buf mac args pos st hs ha hp
  | gls key cf ca => exact handler_gls key cf ca hne hw fuel IH buf mac args pos st hs ha hp
  | newacronym => exact handler_newacronym hne hw fuel IH buf mac args pos st hs ha hp
  | newglossaryentry => exact handler_newglossaryentry hne hw fuel IH buf mac args pos st hs ha hp
  | parseGlsdefs => exact handler_parseGlsdefs hne hw fuel IH buf mac args pos st hs ha hp
  | readSed => exact handler_readSed hne hw fuel IH buf mac args pos st hs ha hp
  | crefWarn => exact handler_crefWarn hne hw fuel IH buf mac args pos st hs ha hp
  | cref plain star => exact handler_cref plain star hne hw fuel IH buf mac args pos st hs ha hp
  | crefrange plain star => exact handler_crefrange plain star hne hw fuel IH buf mac args pos st hs ha hp

theorem allSpecs (hne : tblOkB T = true) (hw : T.WFInv) : ∀ fuel, AllSpecs T fuel := by
  intro fuel
  induction fuel with
  | zero => exact allSpecs_zero
  | succ fuel IH =>
    exact {
      seq := seq_step hne hw fuel IH,
      text := text_step hne hw fuel IH,
      envName := envName_step hne hw fuel IH,
      begin_ := begin_step hne hw fuel IH,
      end_ := end_step hne hw fuel IH,
      macro_ := macro_step hne hw fuel IH,
      args := args_step hne hw fuel IH,
      item := item_step hne hw fuel IH,
      accent := accent_step hne hw fuel IH,
      work := work_step hne hw fuel IH,
      init := init_step hne hw fuel IH,
      modParams := modParams_step hne hw fuel IH,
      keyvals := keyvals_step hne hw fuel IH,
      value := value_step hne hw fuel IH,
      expandKv := expandKv_step hne hw fuel IH,
      modDesc := modDesc_step hne hw fuel IH,
      handler := handler_step hne hw fuel IH,
      mathSec := mathSec_step hne hw fuel IH,
      inline := inline_step hne hw fuel IH,
      dispLoop := dispLoop_step hne hw fuel IH,
      display := display_step hne hw fuel IH }

end NoEmpty
end Yalafi
