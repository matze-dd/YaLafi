/-
  Proofs/PlainMathRichSrc.lean — C10 for the FULL body class of the property, source level, part 1:
  documents, side conditions, the maths tokens of a body as a function of the source, and the
  scanner on a formula body (`scans_rbody`).  (Token level: Proofs/PlainMathRich.lean; the scanner on a
  document, `tex2txt`, the reference output and its readings: Proofs/PlainMathRichE2E.lean; statements:
  Properties/PlainMathRichStmt.lean.)

  Documents (`Seg`, `render`)
    `.txt s`               inert text
    `.math paren body`     an inline formula, `$ body $` (`paren = false`) or `\( body \)`
                           (`paren = true`); `body : List MPart` (the type of Proofs/PlainUnkn2Src.lean)
        `.chars s`         letters, digits, ASCII operators, punctuation, white space
        `.cw name`         `\name`, an undeclared control word (`\alpha`, `\frac`, `\sqrt`)
        `.spec t`          a special sequence of the tables: `^` `_` `&` `--` … (a maths token with the
                           text of its table entry), `{` `}` `\!` (`math_ignore`: nothing — any
                           nesting of braces, balanced or not), `~` `\,` `\;` `\:` `\ ` (`math_space`:
                           a MATHS-SPACE token)
  `mtoks T p body`         THE MATHS TOKENS OF A BODY that starts at offset `p`, as a function of the
                           source: position, text, maths space? (`MT`) — one per character that is no
                           white space, one per control word, one per special sequence that is not
                           ignored.  The reference output is defined through it.

  Side conditions (`segsOk`; all computable)
    `.txt s`     `textOkR`: `okAt` of Proofs/PlainUnknown.lean, except that the token behind an active
                 character is read off the tables (`firstTokTxtR`: white-space run, special sequence,
                 or one character — so it may be `$` or `\(`)
    `.math`      `mathOk`: the opening and the closing delimiter are scanned as the special tokens
                 `$` / `\(` / `\)` (`delimAt`; in particular no `$$`: formulas must not touch);
                 `mpartsOk`: `.chars` as `bodyOk` of Proofs/PlainMath.lean (white-space runs with at
                 most one line break; characters that are none of `% # \ $ { }`, neither ignored
                 nor maths space as one-character tokens, no special sequence matching there);
                 `.cw` as `mcwOk` of Proofs/PlainUnkn2Src.lean (one macro token, NOT DECLARED — `\quad`
                 and `\qquad` are declared in the real tables and therefore not admitted —, not in
                 `math_text_macros`, `math_space`, `math_ignore`); `.spec t` as `mspecOkR`: the
                 scanner makes the special token `t` here, `t` is not `$` / `\)`, and it is ignored,
                 maths space, or has a table entry (Python: `KeyError` otherwise);
                 `visible`: at least one maths token that is NOT maths space (otherwise no
                 placeholder is produced: `$\,$` yields one blank, `${}$` nothing, and the collection
                 is not rotated — outside the class)
-/
import YalafiVerif.Proofs.PlainMathRich
import YalafiVerif.Proofs.PlainUnkn2Src
namespace Yalafi
namespace PlainMathRich

open M
open PlainMath (mathAt mathAtFacts nextToken_body bodyTok_bodyTokAt bodyTokAt)
open PlainUnkn2 (MPart renderM mcwOk mcwFacts mcwTok_cwTok mcost)

/-! ### the documents -/

inductive Seg where
  | txt (s : Str)
  | math (paren : Bool) (body : List MPart)
deriving Repr, DecidableEq

def opn (paren : Bool) : Str := if paren then ['\\', '('] else ['$']
def cls (paren : Bool) : Str := if paren then ['\\', ')'] else ['$']

def Seg.render : Seg → Str
  | .txt s => s
  | .math par body => opn par ++ (renderM body ++ cls par)

def render : List Seg → Str
  | [] => []
  | s :: rest => s.render ++ render rest

/-! ### the maths tokens of a body, as a function of the source -/

def charToks : Nat → Str → List MT
  | _, [] => []
  | p, c :: cs => (if isSpace c then [] else [{ pos := p, txt := [c], sp := false }]) ++ charToks (p + 1) cs

def specToks (T : PTables) (p : Nat) (t : Str) : List MT :=
  if T.mathIgnore.contains t then []
  else if T.mathSpace.contains t then [{ pos := p, txt := [' '], sp := true }]
  else [{ pos := p, txt := (T.toTables.specialVal t).getD [], sp := false }]

def mtoks (T : PTables) : Nat → List MPart → List MT
  | _, [] => []
  | p, .chars s :: r => charToks p s ++ mtoks T (p + s.length) r
  | p, .cw name :: r => { pos := p, txt := '\\' :: name, sp := false } :: mtoks T (p + (name.length + 1)) r
  | p, .spec t :: r => specToks T p t ++ mtoks T (p + t.length) r

/-- the body yields a maths token that is not maths space -/
def visible (T : PTables) : List MPart → Bool
  | [] => false
  | .chars s :: rest => s.any (fun c => !isSpace c) || visible T rest
  | .cw _ :: _ => true
  | .spec t :: rest => (!T.mathIgnore.contains t && !T.mathSpace.contains t) || visible T rest

theorem charToks_any : ∀ (p : Nat) (s : Str),
    (charToks p s).any (fun x => !x.sp) = s.any (fun c => !isSpace c)
  | _, [] => rfl
  | p, c :: cs => by
    by_cases h : isSpace c = true <;> simp [charToks, h, charToks_any (p + 1) cs]

theorem mtoks_any (T : PTables) : ∀ (parts : List MPart) (p : Nat),
    (mtoks T p parts).any (fun x => !x.sp) = visible T parts
  | [], _ => rfl
  | .chars s :: r, p => by
    simp only [mtoks, visible, List.any_append, charToks_any, mtoks_any T r]
  | .cw name :: r, p => by simp [mtoks, visible]
  | .spec t :: r, p => by
    simp only [mtoks, visible, List.any_append, mtoks_any T r, specToks]
    cases T.mathIgnore.contains t <;> cases T.mathSpace.contains t <;> simp

/-! ### the side conditions -/

/-- the text of the first scanner token of a well-formed source: a run of white space, the special
    sequence that matches (`$`, `\(`), or one character -/
def firstTokTxtR (T : PTables) : Str → Str
  | [] => []
  | d :: ds =>
    if isSpace d then (d :: ds).takeWhile isSpace
    else match matchSpecial T.toTables (d :: ds) with
      | some t => t
      | none => [d]

/-- the text character `c`, followed by `cs` (the whole rest of the source), is inert (`okAt` of
    Proofs/PlainUnknown.lean; the token behind `c` may be the opening delimiter of a formula) -/
def okAtR (T : PTables) (st : PState) (c : Char) (cs : Str) : Bool :=
  (!(activeChars T st).contains [c] ||
    (!isSpace c && (cs.isEmpty || !(shortKeys T st).contains (c :: firstTokTxtR T cs)))) &&
  (isSpace c || (!structuralChar c && (matchSpecial T.toTables (c :: cs)).isNone))

def textOkR (T : PTables) (st : PState) : Str → Str → Bool
  | [], _ => true
  | c :: cs, R => okAtR T st c (cs ++ R) && textOkR T st cs R

/-- the delimiter `d`, followed by `R`, is scanned as the special token `d` -/
def delimAt (T : PTables) (d R : Str) : Bool := matchSpecial T.toTables (d ++ R) == some d

/-- a special sequence `t` of the tables inside a formula, followed by `X`: the scanner makes the
    special token `t` of it here; it does not end the formula; it is ignored, maths space, or has a
    replacement text -/
def mspecOkR (T : PTables) (t X : Str) : Bool :=
  (match t with
   | [] => false
   | c :: _ => !isSpace c && c != '%' && c != '#') &&
  matchSpecial T.toTables (t ++ X) == some t &&
  !["$".toList, "\\)".toList].contains t &&
  (T.mathIgnore.contains t || T.mathSpace.contains t || (T.toTables.specialVal t).isSome)

/-- the parts of a formula body, followed by `R` (which starts with the closing delimiter) -/
def mpartsOk (T : PTables) (st : PState) : List MPart → Str → Bool
  | [], _ => true
  | .chars s :: rest, R => PlainMath.bodyOk T s (renderM rest ++ R) && mpartsOk T st rest R
  | .cw name :: rest, R => mcwOk T st name (renderM rest ++ R) && mpartsOk T st rest R
  | .spec t :: rest, R => mspecOkR T t (renderM rest ++ R) && mpartsOk T st rest R

def mathOk (T : PTables) (st : PState) (par : Bool) (body : List MPart) (R : Str) : Bool :=
  delimAt T (opn par) (renderM body ++ (cls par ++ R)) && mpartsOk T st body (cls par ++ R) &&
  visible T body && delimAt T (cls par) R

def segsOk (T : PTables) (st : PState) : List Seg → Bool
  | [] => true
  | .txt s :: rest => textOkR T st s (render rest) && segsOk T st rest
  | .math par body :: rest => mathOk T st par body (render rest) && segsOk T st rest

def SegsOk (T : PTables) (st : PState) (segs : List Seg) : Prop := segsOk T st segs = true

instance (T : PTables) (st : PState) (segs : List Seg) : Decidable (SegsOk T st segs) := by
  unfold SegsOk; infer_instance

/-! ### the same on the source text -/

def IsOpen (d : Str) : Prop := d = "$".toList ∨ d = "\\(".toList
def IsClose (d : Str) : Prop := d = "$".toList ∨ d = "\\)".toList

/-- a formula body in front of its closing delimiter: `MOk k p s R m` — `s`, which starts at offset
    `p`, consists of `k` characters (the rest of the body and the closing delimiter) and `R`; `m`
    are the maths tokens of the body -/
inductive MOk (T : PTables) (st : PState) : Nat → Nat → Str → Str → List MT → Prop
  | fin (p : Nat) (c : Char) (tl R : Str) : IsClose (c :: tl) → delimAt T (c :: tl) R = true →
      MOk T st (tl.length + 1) p (c :: (tl ++ R)) R []
  | sp (k p : Nat) (c : Char) (cs R : Str) (m : List MT) : isSpace c = true →
      countNl ((c :: cs).takeWhile isSpace) < 2 → MOk T st k (p + 1) cs R m →
      MOk T st (k + 1) p (c :: cs) R m
  | ch (k p : Nat) (c : Char) (cs R : Str) (m : List MT) : mathAt T c cs = true →
      MOk T st k (p + 1) cs R m →
      MOk T st (k + 1) p (c :: cs) R ({ pos := p, txt := [c], sp := false } :: m)
  | cw (k p : Nat) (name X R : Str) (m : List MT) : mcwOk T st name X = true →
      MOk T st k (p + (name.length + 1)) X R m →
      MOk T st (k + (name.length + 1)) p ('\\' :: (name ++ X)) R
        ({ pos := p, txt := '\\' :: name, sp := false } :: m)
  | spec (k p : Nat) (c : Char) (tl X R : Str) (m : List MT) : mspecOkR T (c :: tl) X = true →
      MOk T st k (p + (tl.length + 1)) X R m →
      MOk T st (k + (tl.length + 1)) p (c :: (tl ++ X)) R (specToks T p (c :: tl) ++ m)

/-- an item of the source: a text character with its position, or a formula with its maths tokens -/
inductive Item where
  | chr (c : Char) (p : Nat)
  | math (m : List MT)

/-- a formula at the head of the source -/
inductive Con (T : PTables) (st : PState) : Nat → Str → List Item → Nat → Str → List Item → Prop
  | math (p k : Nat) (c : Char) (tl X R : Str) (m : List MT) (items : List Item) :
      IsOpen (c :: tl) → delimAt T (c :: tl) X = true → MOk T st k (p + (tl.length + 1)) X R m →
      m.any (fun x => !x.sp) = true →
      Con T st p (c :: (tl ++ X)) (.math m :: items) (p + (tl.length + 1) + k) R items

/-- the source text (which starts at position `p`) as a list of items -/
abbrev OkSrc (T : PTables) (st : PState) : Nat → Str → List Item → Prop :=
  OkSrcG (okAtR T st) (fun c p l => Item.chr c p :: l) (· = []) (Con T st)

theorem MOk_len {T : PTables} {st : PState} {k p : Nat} {s R : Str} {m : List MT}
    (h : MOk T st k p s R m) : s.length = k + R.length := by
  induction h with
  | fin p c tl R _ _ => simp; omega
  | sp k p c cs R m _ _ _ ih => simp [ih]; omega
  | ch k p c cs R m _ _ ih => simp [ih]; omega
  | cw k p name X R m _ _ ih => simp [ih]; omega
  | spec k p c tl X R m _ _ ih => simp [ih]; omega

theorem IsClose.facts {c : Char} {tl : Str} (h : IsClose (c :: tl)) :
    isSpace c = false ∧ c ≠ '%' ∧ c ≠ '#' ∧ ["$".toList, "\\)".toList].contains (c :: tl) = true := by
  rcases h with h | h <;>
  · simp only [String.toList] at h
    obtain ⟨rfl, rfl⟩ := h
    decide

theorem IsOpen.facts {c : Char} {tl : Str} (h : IsOpen (c :: tl)) :
    isSpace c = false ∧ c ≠ '%' ∧ c ≠ '#' := by
  rcases h with h | h <;>
  · simp only [String.toList] at h
    obtain ⟨rfl, rfl⟩ := h
    decide

theorem Con.vis (T : PTables) (st : PState) : ConVis (Con T st) := by
  rintro _ _ _ _ _ _ ⟨_, _, _, _, _, _, _, ho, _, _, _⟩; exact ⟨_, _, rfl, ho.facts.1⟩

/-! ### from the computable conditions to the inductive ones -/

theorem MOk_chars (T : PTables) (st : PState) (Y R : Str) (m : List MT) :
    ∀ (s : Str) (p k : Nat), PlainMath.bodyOk T s Y = true → MOk T st k (p + s.length) Y R m →
      ∃ k', MOk T st k' p (s ++ Y) R (charToks p s ++ m)
  | [], p, k, _, h => ⟨k, by simpa [charToks] using h⟩
  | c :: cs, p, k, hs, h => by
    simp only [PlainMath.bodyOk, Bool.and_eq_true] at hs
    have h' : MOk T st k (p + 1 + cs.length) Y R m := by
      have e : p + 1 + cs.length = p + (c :: cs).length := by simp; omega
      rw [e]; exact h
    obtain ⟨k', hk'⟩ := MOk_chars T st Y R m cs (p + 1) k hs.2 h'
    by_cases hsp : isSpace c = true
    · have h1 := hs.1
      simp only [hsp, if_true, decide_eq_true_eq] at h1
      exact ⟨k' + 1, by simpa [charToks, hsp] using MOk.sp k' p c (cs ++ Y) R _ hsp h1 hk'⟩
    · have hsp' : isSpace c = false := by simpa using hsp
      have h1 := hs.1
      simp only [hsp', Bool.false_eq_true, if_false] at h1
      exact ⟨k' + 1, by simpa [charToks, hsp'] using MOk.ch k' p c (cs ++ Y) R _ h1 hk'⟩

theorem MOk_parts (T : PTables) (st : PState) (c : Char) (tl R : Str) (hc : IsClose (c :: tl))
    (hR : delimAt T (c :: tl) R = true) :
    ∀ (parts : List MPart) (p : Nat), mpartsOk T st parts (c :: (tl ++ R)) = true →
      ∃ k, MOk T st k p (renderM parts ++ c :: (tl ++ R)) R (mtoks T p parts)
  | [], p, _ => ⟨_, .fin p c tl R hc hR⟩
  | .spec t :: rest, p, h => by
    simp only [mpartsOk, Bool.and_eq_true] at h
    cases t with
    | nil => simp [mspecOkR] at h
    | cons d dl =>
      obtain ⟨k, hk⟩ := MOk_parts T st c tl R hc hR rest (p + (dl.length + 1)) h.2
      exact ⟨_, by simpa [renderM, MPart.render, mtoks] using MOk.spec k p d dl _ R _ h.1 hk⟩
  | .cw name :: rest, p, h => by
    simp only [mpartsOk, Bool.and_eq_true] at h
    obtain ⟨k, hk⟩ := MOk_parts T st c tl R hc hR rest (p + (name.length + 1)) h.2
    exact ⟨_, by simpa [renderM, MPart.render, mtoks] using MOk.cw k p name _ R _ h.1 hk⟩
  | .chars s :: rest, p, h => by
    simp only [mpartsOk, Bool.and_eq_true] at h
    obtain ⟨k, hk⟩ := MOk_parts T st c tl R hc hR rest (p + s.length) h.2
    obtain ⟨k', hk'⟩ := MOk_chars T st _ R _ s p k h.1 hk
    exact ⟨k', by simpa [renderM, MPart.render, mtoks, List.append_assoc] using hk'⟩

def chrItems : Nat → Str → List Item
  | _, [] => []
  | p, c :: cs => .chr c p :: chrItems (p + 1) cs

def itemsOf (T : PTables) : Nat → List Seg → List Item
  | _, [] => []
  | p, .txt s :: rest => chrItems p s ++ itemsOf T (p + s.length) rest
  | p, .math par body :: rest =>
    .math (mtoks T (p + (opn par).length) body)
      :: itemsOf T (p + ((opn par).length + ((renderM body).length + (cls par).length))) rest

theorem chrs_chr (items : List Item) : ∀ (s : Str) (p : Nat),
    chrs (fun c p l => Item.chr c p :: l) p s items = chrItems p s ++ items
  | [], _ => rfl
  | c :: cs, p => by rw [chrs, chrs_chr items cs (p + 1)]; rfl

theorem textOkR_eq (T : PTables) (st : PState) : ∀ (s R : Str), textOkR T st s R = textOkG (okAtR T st) s R
  | [], _ => rfl
  | c :: cs, R => by rw [textOkR, textOkG, textOkR_eq T st cs R]

theorem opn_cases (par : Bool) : ∃ c tl, opn par = c :: tl ∧ IsOpen (c :: tl) := by
  cases par
  · exact ⟨'$', [], rfl, Or.inl rfl⟩
  · exact ⟨'\\', ['('], rfl, Or.inr rfl⟩

theorem cls_cases (par : Bool) : ∃ c tl, cls par = c :: tl ∧ IsClose (c :: tl) := by
  cases par
  · exact ⟨'$', [], rfl, Or.inl rfl⟩
  · exact ⟨'\\', [')'], rfl, Or.inr rfl⟩

theorem OkSrc_of_segsOk (T : PTables) (st : PState) :
    ∀ (segs : List Seg) (p : Nat), segsOk T st segs = true →
      OkSrc T st p (render segs) (itemsOf T p segs)
  | [], p, _ => .nil p _ rfl
  | .txt s :: rest, p, h => by
    simp only [segsOk, Bool.and_eq_true, textOkR_eq] at h
    have := OkSrcG.text _ _ s p (OkSrc_of_segsOk T st rest _ h.2) h.1
    rwa [chrs_chr] at this
  | .math par body :: rest, p, h => by
    simp only [segsOk, mathOk, Bool.and_eq_true] at h
    obtain ⟨⟨⟨⟨h1, h2⟩, h3⟩, h4⟩, h5⟩ := h
    obtain ⟨oc, otl, ho, hio⟩ := opn_cases par
    obtain ⟨cc, ctl, hcl, hic⟩ := cls_cases par
    rw [hcl] at h1 h2 h4
    rw [ho] at h1
    obtain ⟨k, hk⟩ := MOk_parts T st cc ctl (render rest) hic h4 body (p + (otl.length + 1)) h2
    have hlen := MOk_len hk
    have hk' : k = (renderM body).length + (ctl.length + 1) := by
      simp only [List.length_append, List.length_cons] at hlen; omega
    have hvis : (mtoks T (p + (otl.length + 1)) body).any (fun x => !x.sp) = true := by
      rw [mtoks_any]; exact h3
    have hrest := OkSrc_of_segsOk T st rest
      (p + ((opn par).length + ((renderM body).length + (cls par).length))) h5
    have e : p + ((opn par).length + ((renderM body).length + (cls par).length))
        = p + (otl.length + 1) + k := by
      rw [ho, hcl, hk']; simp only [List.length_cons]; omega
    rw [e] at hrest
    have := OkSrcG.con (Con.math p k oc otl _ (render rest) _ _ hio (by simpa using h1) hk hvis) hrest
    have e2 : p + (otl.length + 1) + k
        = p + (otl.length + 1 + ((renderM body).length + (ctl.length + 1))) := by omega
    rw [e2] at this
    simpa [render, Seg.render, itemsOf, ho, hcl, List.append_assoc] using this

theorem MOk_drop_space (T : PTables) (st : PState) (R : Str) (m : List MT) :
    ∀ (k : Nat) (n p : Nat) (s : Str), k ≤ s.length → MOk T st n p s R m →
      (∀ x ∈ s.take k, isSpace x = true) → ∃ n', MOk T st n' (p + k) (s.drop k) R m ∧ n = n' + k
  | 0, n, _, _, _, h, _ => ⟨n, h, rfl⟩
  | k + 1, _, _, [], hk, _, _ => by simp at hk
  | k + 1, _, p, c :: cs, hk, h, hsp => by
    have hc : isSpace c = true := hsp c (by simp)
    cases h with
    | fin _ _ tl _ hcl _ =>
      have := hcl.facts.1
      rw [hc] at this; cases this
    | sp n0 _ _ _ _ _ _ _ h2 =>
      obtain ⟨n', h3, e⟩ := MOk_drop_space T st R m k n0 (p + 1) cs (by simpa using hk) h2
        (fun x hx => hsp x (by simp [hx]))
      refine ⟨n', ?_, by omega⟩
      have e' : p + (k + 1) = p + 1 + k := by omega
      rw [e']; exact h3
    | ch n0 _ _ _ _ m0 hm _ =>
      have := (mathAtFacts hm).nsp
      rw [hc] at this; cases this
    | cw n0 _ name X _ m0 _ _ => exact absurd hc (by decide)
    | spec n0 _ _ tl X _ m0 hm _ =>
      simp only [mspecOkR, Bool.and_eq_true, Bool.not_eq_true'] at hm
      have := hm.1.1.1.1.1
      rw [hc] at this; cases this

/-! ### the scanner on a formula body -/

theorem delimAt_eq {T : PTables} {c : Char} {tl R : Str} (h : delimAt T (c :: tl) R = true) :
    matchSpecial T.toTables (c :: (tl ++ R)) = some (c :: tl) := by
  simpa [delimAt] using h

structure MspecFactsR (T : PTables) (c : Char) (tl X : Str) : Prop where
  nsp : isSpace c = false
  npc : c ≠ '%'
  nhs : c ≠ '#'
  special : matchSpecial T.toTables (c :: (tl ++ X)) = some (c :: tl)
  nStop : ["$".toList, "\\)".toList].contains (c :: tl) = false
  val : T.mathIgnore.contains (c :: tl) = true ∨ T.mathSpace.contains (c :: tl) = true ∨
    ∃ v, T.toTables.specialVal (c :: tl) = some v

theorem mspecFactsR {T : PTables} {c : Char} {tl X : Str} (h : mspecOkR T (c :: tl) X = true) :
    MspecFactsR T c tl X := by
  simp only [mspecOkR, Bool.and_eq_true, Bool.not_eq_true', bne_iff_ne, ne_eq, beq_iff_eq,
    Bool.or_eq_true, List.cons_append] at h
  obtain ⟨⟨⟨⟨⟨h1, h2⟩, h3⟩, h4⟩, h5⟩, h6⟩ := h
  refine ⟨h1, h2, h3, h4, h5, ?_⟩
  rcases h6 with (h6 | h6) | h6
  · exact Or.inl h6
  · exact Or.inr (Or.inl h6)
  · exact Or.inr (Or.inr (Option.isSome_iff_exists.mp h6))

theorem mitem_spec (T : PTables) (st : PState) (pos : Nat) (c : Char) (tl X : Str)
    (h : MspecFactsR T c tl X) :
    MItem T st { kind := .special, pos := pos, txt := c :: tl } ∧
    mt T { kind := .special, pos := pos, txt := c :: tl } = specToks T pos (c :: tl) := by
  refine ⟨?_, ?_⟩
  · cases hi : T.mathIgnore.contains (c :: tl) with
    | true => exact Or.inr (Or.inr (Or.inr (Or.inr (Or.inl ⟨rfl, h.nStop, hi⟩))))
    | false =>
      cases hs : T.mathSpace.contains (c :: tl) with
      | true => exact Or.inr (Or.inr (Or.inr (Or.inr (Or.inr ⟨rfl, h.nStop, hi, hs⟩))))
      | false =>
        rcases h.val with hv | hv | hv
        · rw [hi] at hv; cases hv
        · rw [hs] at hv; cases hv
        · exact Or.inr (Or.inr (Or.inr (Or.inl ⟨rfl, h.nStop, hi, hs, hv⟩)))
  · simp [mt, specToks]

/-- what the scanner loop yields on a formula body of `k` characters including the closing
    delimiter: the steps of the body and the step `s2` of the closing delimiter -/
structure RRun (T : PTables) (st : PState) (k : Nat) (m : List MT) (steps : List ScanStep)
    (s2 : ScanStep) : Prop where
  ok : ∀ x ∈ steps, x.diag = none ∧ x.extra = [] ∧ MItem T st x.tok
  ok2 : s2.diag = none ∧ s2.extra = []
  close : CloseTok s2.tok
  cost : mcost (steps.map (·.tok)) + 1 ≤ k
  abs : (steps.map (·.tok)).flatMap (mt T) = m

/-- one more step in front of a run: a body token with the maths tokens `mh`, which takes no more
    iterations of the section parser than the step has characters -/
theorem RRun.cons {T : PTables} {st : PState} {s : ScanStep} {k0 : Nat} {mh m0 : List MT}
    {steps' : List ScanStep} {s2 : ScanStep} (B : RRun T st k0 m0 steps' s2)
    (hd : s.diag = none) (he : s.extra = []) (hitem : MItem T st s.tok) (hmt : mt T s.tok = mh)
    (hcost : mcost [s.tok] ≤ s.len) : RRun T st (k0 + s.len) (mh ++ m0) (s :: steps') s2 := by
  refine ⟨?_, B.ok2, B.close, ?_, ?_⟩
  · intro x hx
    rcases List.mem_cons.mp hx with rfl | hx
    · exact ⟨hd, he, hitem⟩
    · exact B.ok x hx
  · have := B.cost
    rw [List.map_cons, show mcost (s.tok :: steps'.map (·.tok)) = mcost [s.tok] + mcost (steps'.map (·.tok)) by
      simp only [mcost, Nat.add_zero]]
    omega
  · simp only [List.map_cons, List.flatMap_cons, B.abs, hmt]

theorem scans_rbody (T : PTables) (st : PState) (src : Str) :
    ∀ (n k p : Nat) (s R : Str) (m : List MT), k ≤ n → MOk T st k p s R m →
      ∃ steps s2, RRun T st k m steps s2 ∧ Scans T.toTables src p s (steps ++ [s2]) (p + k) R := by
  intro n
  induction n with
  | zero =>
    intro k p s R m hn h
    cases h <;> simp at hn
  | succ n ih =>
    intro k p s R m hn h
    cases h with
    | fin _ c tl _ hcl hd =>
      obtain ⟨c1, c2, c3, c4⟩ := hcl.facts
      exact ⟨[], _, ⟨by simp, ⟨rfl, rfl⟩, ⟨Or.inl rfl, c4⟩, by simp [mcost], rfl⟩,
        Scans.special T.toTables src p c1 c2 c3 (delimAt_eq hd) (List.drop_left' rfl)⟩
    | sp k0 _ c cs _ _ hsp hnl hsub =>
      obtain ⟨n', hsub', e⟩ := MOk_drop_space T st _ _ ((c :: cs).takeWhile isSpace).length (k0 + 1) p (c :: cs)
        (ScannerAux.length_takeWhile_le' _ _) (MOk.sp k0 p c cs _ _ hsp hnl hsub) (fun x hx => by
          rw [ScannerAux.take_length_takeWhile] at hx
          exact mem_takeWhile_imp _ _ _ hx)
      generalize hw : (c :: cs).takeWhile isSpace = w at hnl hsub' e
      have hw1 : 1 ≤ w.length := by rw [← hw]; simp [hsp]
      obtain ⟨steps', s2, B, r⟩ := ih n' (p + w.length) _ _ _ (by omega) hsub'
      have hB := B.cons (s := { tok := { kind := .space, pos := p, txt := w }, len := w.length }) (mh := [])
        rfl rfl (Or.inr (Or.inl rfl)) (by simp [mt]) (by simp [mcost])
      exact ⟨_, s2, e ▸ hB, ((wsTok_space hnl ▸ Scans.white T.toTables src p hsp hw).append r).to (by omega)⟩
    | ch k0 _ c cs _ m0 hm hsub =>
      have facts := mathAtFacts hm
      obtain ⟨steps', s2, B, r⟩ := ih k0 (p + 1) _ _ _ (by omega) hsub
      exact ⟨_, s2, B.cons (s := { tok := bodyTokAt p c, len := 1 }) (mh := [_]) rfl rfl
          (Or.inl (bodyTok_bodyTokAt T p c cs facts)) (by simp [mt, bodyTokAt]) (by simp [mcost, bodyTokAt]),
        ((Scans.step (nextToken_body T src p c cs facts) rfl).append r).to (by omega)⟩
    | cw k0 _ name X _ m0 hc hsub =>
      have facts := mcwFacts hc
      have hname := List.length_pos_iff.mpr facts.cw.ne
      obtain ⟨steps', s2, B, r⟩ := ih k0 (p + (name.length + 1)) _ _ _ (by omega) hsub
      exact ⟨_, s2, B.cons (s := { tok := cwTok p name, len := name.length + 1 }) (mh := [_]) rfl rfl
          (Or.inr (Or.inr (Or.inl (mcwTok_cwTok facts p)))) (by simp [mt, cwTok])
          (by simp only [mcost, cwTok, beq_self_eq_true, if_true]; omega),
        ((Scans.step (R := X) (nextToken_cw T st src p name X facts.cw) (by simp)).append r).to (by omega)⟩
    | spec k0 _ c tl X _ m0 hc hsub =>
      have facts := mspecFactsR hc
      obtain ⟨steps', s2, B, r⟩ := ih k0 (p + (tl.length + 1)) _ _ _ (by omega) hsub
      obtain ⟨hitem, hmt⟩ := mitem_spec T st p c tl X facts
      exact ⟨_, s2, B.cons
          (s := { tok := { kind := .special, pos := p, txt := c :: tl }, len := tl.length + 1 })
          rfl rfl hitem hmt (by simp [mcost]),
        ((Scans.special T.toTables src p facts.nsp facts.npc facts.nhs facts.special
          (List.drop_left' rfl)).append r).to (by omega)⟩

end PlainMathRich
end Yalafi
