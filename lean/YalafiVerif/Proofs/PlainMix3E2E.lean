/-
  Proofs/PlainMix3E2E.lean — C03 "hidden material never leaks" / C05 "text flow is preserved", end
  to end on the model, for the THIRD union grammar: documents whose segments are drawn from
  TWENTY-TWO kinds at once, among them the STATEFUL ones — user definitions `\newcommand` and their
  uses change the macro table along the document, displayed equations rotate a second placeholder
  collection, list environments push and pop the stack of label generators.  (Files:
  Proofs/PlainMix3.lean = token level, definitions; Proofs/PlainMix3Src.lean = documents / reference /
  side conditions; Proofs/PlainMix3Scan.lean, Proofs/PlainMix3Sem.lean = pieces and items, definitions;
  this file = the side conditions `SegsOk`; Proofs/PlainMix3Emb.lean = the end-to-end theorem;
  Proofs/PlainMix3Read.lean = readings; statements: Properties/PlainMix3Stmt.lean.)

  Kinds that are in (`PlainMix3.Seg`)
    thirteen kinds of Proofs/PlainMix2E2E.lean, unchanged:
      `txt s`, `spc k`, `opn`, `cls` (hence groups `grp body` and undeclared control words with
      braced arguments `mac name args` at any depth), `cw name sp`, `van name key`, `com body`,
      `verb d s`, `ref name key`, `cite name key`, `citeN name note key`, `foot body`,
      `head name title`
    (a) `math par body`  an inline formula `$…$` (`par = false`) or `\(…\)` of the RICH class of
                         Proofs/PlainMathRichE2E.lean (instead of the simple class): letters, digits,
                         operators, `^` `_`, braces, undeclared control words (`\alpha`, `\frac`),
                         maths space (`\,` `\;` `~`), punctuation
        `acc name ws bo l`   an accent call `\name ws {l}` / `\name ws l` (`\"a`, `\'{e}`, `\c c`)
    (b) `defn name n body`   `\newcommand{\name}[n]{body}`, body = inert text and `#k`
        `use name args`      `\name{a1}…{am}` for a name that is not declared in the initialised
                             parser: a use of the definition IN FORCE at that point (the latest
                             earlier one), or — before any definition — an unknown control word
                             followed by groups
    (c) `disp body`          a simple displayed equation `\[body\]` (Proofs/PlainDisplay.lean)
        `denv name body`     … `\begin{name}body\end{name}` for an equation environment
    (d) `beg name`, `item ws`, `en name`   `\begin{name}`, `\item` + white space, `\end{name}` for
                             list environments (`enumerate`, `itemize`), in ANY order and nesting
                             (Proofs/PlainItem.lean, general form), with anything of the grammar
                             between them

  Structure.  Every kind of this grammar is a kind of the fourth union grammar
  (Proofs/PlainMix4E2E.lean), and `render`, `marks`, `flows`, `unkNames`, `inserted` and the side
  conditions of the two grammars agree on it: `tex2txt_mix3` is `PlainMix4.tex2txt_mix4` on the
  embedded document (Proofs/PlainMix3Emb.lean).  The state changes along the document, so the
  proof there has two stages (scanner lemma, then the meaning of the pieces along the changing
  state) in front of its loop lemma.

  The end-to-end statement `tex2txt_mix3`.  `tex2txt` succeeds; text and (1-based) positions are
  `delLines (marks T st1 repls drepls [] st1.itemStack 0 0 0 segs) ++ flows 0 segs`:
    * `marks` (Proofs/PlainMix3Src.lean), `env` = the definitions in force, `stk` = the label
      generators, `k` / `k2` = the number of formulas / displayed equations in front: the thirteen
      kinds of it as in `PlainMix2.marks`; the `k+1`-st formula = a mark, `PlainMathRich.fTxt T
      (placeholder repls (k+1)) m` (`[blank] placeholder [punctuation] [blank]`) with every character
      pinned to the position of the first maths token, a mark; an accent call = the character(s) of
      the accent table at the backslash (NO mark); a definition = a mark, and it is in force behind
      it; a use = a mark, the body of the definition in force with `#k` replaced by the `k`-th
      argument AT ITS OWN POSITIONS (`PlainMacroArgs.bodyMarks`), the surplus groups (`groupMarks`: a
      mark, the argument, a mark, each); a use of an undefined name = a mark and all its groups;
      the `k2+1`-st displayed equation = `dispMarks`: a mark, two blanks at the backslash, `placeholder
      drepls (k2+1)` at the first ELEMENT character of the body, the closing punctuation at the first
      visible character of the body, a mark (two more marks in front for `\begin{name}`);
      `\begin{name}` of a list = the marks of `add_pars` (two line breaks at the backslash, or a
      mark) and a mark, a generator is pushed; `\item` = `itemMarks`: a mark, a blank, the next
      label of the innermost generator, a blank, all at the backslash, the counter advances;
      `\end{name}` = the marks of `add_pars`, the generator is popped (never the last one);
    * `delLines` = `remove_pure_action_lines`, exactly;
    * `flows`: the footnote bodies behind the main text, as in `PlainMix2.flows`;
    * `unknowns` = `unkNames [] segs`, each once, in order of first use: the undeclared control
      words AND the uses of names that are not (yet) defined; no diagnostic.

  Side conditions (all in `SegsOk T st1 repls drepls segs`, decidable; `st1` = state after
  `Parser.__init__`)
    the `PlainMix2` kinds      as in Proofs/PlainMix2E2E.lean, with `okAtV` for `okAtU` in text: the
                               short-macro test looks at the exact text of the next scanner token,
                               which may be an accent token (`\"`) or `\[`
    `math`                     `PlainMathRich.mathOk` (delimiters scanned as such, parts `mpartsOk`,
                               at least one maths token that is no maths space)
    `acc`                      `PlainAccent.accOk` (an accent macro of the tables, not `\begin` … ;
                               white space without paragraph break; the letter in braces or not; the
                               pair has an entry in the accent table) and `accNlOk` (the value has no
                               line break or is blank: the blank-line removal is described character
                               by character)
    `defn`                     `PlainMacroArgs.defOk` (see there: `\name` a control word not declared
                               in `st1`, not protected; `n ≤ 9`; body not empty, inert characters and
                               `#k` with `1 ≤ k ≤ n`) and `PlainMacro.ncOk` (`\newcommand` is declared
                               as in `parameters.py`)
    `use`                      `PlainMacroArgs.useOk` (name not declared in `st1`, not protected; at
                               least one group; arguments non-empty strings of inert characters)
    `disp`, `denv`             `PlainDisplay.dispOk` / `envOk` (see there: `\[`, `\]`, `\begin`, `\end`
                               and the braces scanned as such; `math_default_env` resp. `name`
                               declared as an equation environment that is not removed; body as for
                               simple inline formulas, no `&`, at least one element character) and
                               `st1.displayedSimple = false` (not `--seqs`)
    `beg`, `en`                `PlainItem.begOk` / `endOk` (scanned as such, not `\begin{verbatim}`;
                               the name a non-empty string of inert characters, declared as a list
                               environment `listEnvOk`)
    `item`                     `itemOkV`: `PlainItem.itemOk` (no special sequence at the backslash;
                               white space with at most one line break; what follows is the end of
                               the source or a visible character other than `[`), what follows is no
                               comment (`skip_space` would pass it), its first token does not have
                               the text `[` (a `\verb|[|` would be taken for a label), the blank is no
                               active character (the blanks around the label are copied by the loop)
    `liveOk T st1 [] st1.itemStack 0 segs`   the conditions that depend on the state at that point:
                               an "undeclared" control word — `cw`, or in a formula — is not
                               user-defined there (else it would be a use: write `use`); a use has at
                               least as many groups as the definition in force has parameters; an
                               `\item` finds a label on the current stack of generators and the label
                               is fine (`PlainItem.labelAt`: exists, none of `$ \( $$ \[ \\ { }`, no
                               active character, no line break)
    `noEmptyActive`, `mathReady` (only if there is a formula), `dispReady` (only if there is a
                               displayed equation: the display collection of the language is `drepls`,
                               not empty, no placeholder with a line break unless blank; the language
                               settings exist)
    options                    no --defs, --extr, --repl, --unkn; single-language mode
    fuel                       `(render segs).length + inserted [] 0 segs + 6 ≤ fuel`: the tokens a
                               use inserts are visited by the loop again (`inserted`, computable)

  NOT covered: `\renewcommand`, `\def`, `\newcommand*`, definitions without `[n]` or with a default
  value; bodies / arguments with anything but inert text (no macros, maths, braces there); uses
  without groups (`\name` alone, also for `n = 0`: the token-level lemma asks for one group);
  redefinition of a DECLARED macro; user macros inside formulas, equations, footnotes, headings;
  accents in formulas, arguments, titles; accent calls whose argument is more than one character;
  displayed equations with `&`, `\\`, macros, `\text`, maths space, `$$ … $$`; `\item[label]`;
  list environments with arguments; everything PlainMix2E2E.lean lists as not covered, except
  accents; multi-language mode.

  Model behaviour worth knowing: a definition leaves an Action token, so a line that holds only a
  `\newcommand` disappears with its line break; the characters a use takes from the body carry the
  position of the use (before the first `#k`) resp. of the last token of the argument substituted
  last; a use before its definition is reported as unknown and its groups are read as plain groups;
  an accent call leaves NO Action token (its result is a position-fixed text token); the placeholder
  of a displayed equation maps to the first element of the body, its punctuation to the first
  visible character (not monotone for `\[= a.\]`); `\begin{enumerate}` / `\end{enumerate}` alone on a
  line disappear with the line; `\end{name}` never pops the last generator, and an `\end{itemize}`
  closes whatever list is innermost (the model does not compare the names).
-/
import YalafiVerif.Proofs.PlainMix3Sem
namespace Yalafi
namespace PlainMix3

open PlainMix (mathReady)

def dispReady (T : PTables) (st : PState) (drepls : List Str) : Bool :=
  (rotOf st (curSettings st)).map (·.disp) == some drepls && !drepls.isEmpty &&
  (settingsOf T (curSettings st)).isSome && drepls.all (fun r => !hasNl r || isBlank r)

def SegsOk (T : PTables) (st : PState) (repls drepls : List Str) (segs : List Seg) : Prop :=
  noEmptyActive T st = true ∧ segsOk T st segs = true ∧
  liveOk T st [] st.itemStack 0 segs = true ∧
  (nFormulas segs = 0 ∨ mathReady T st repls = true) ∧
  (nDisplays segs = 0 ∨ dispReady T st drepls = true)

instance (T : PTables) (st : PState) (repls drepls : List Str) (segs : List Seg) :
    Decidable (SegsOk T st repls drepls segs) := by
  unfold SegsOk; infer_instance

end PlainMix3
end Yalafi
