/-
  Proofs/PlainLangMixE2E.lean — C12 "… the language in force at the word according to the initial
  language, \selectlanguage, \foreignlanguage and the otherlanguage environments, including
  nesting …", END TO END on the model with `multi = true`, for documents that MIX the language
  constructs of package babel.

  The documents (`Proofs/PlainLangMixSrc.lean`): `render segs`, a FLAT list of segments
      txt s           inert text
      sel name        `\selectlanguage{name}`                     hard switch: replaces the top of the stack
      frn name body   `\foreignlanguage{name}{body}`              soft scope: push … pop; `body` inert text
      beg star name   `\begin{otherlanguage}{name}` / `\begin{otherlanguage*}{name}`       push
      fin star sp     `\end{otherlanguage}` / `\end{otherlanguage*}` and the white space `sp` behind it   pop
  An environment is `env star name body sp = beg star name :: body ++ [fin star sp]`; since `body` is any
  list of segments the grammar is FULLY RECURSIVE (environments in environments, switches and
  insertions inside them, to any depth).  The theorem does not even need the `beg`/`fin` to be
  balanced: a `\end{otherlanguage}` without `\begin` pops nothing (`changeParserLang`, `stepStack`: the
  last entry stays), exactly as in the Python code.

  The statement (`tex2txt_mix`).  `tex2txt … multi := true thresh` succeeds, `r.unknowns = []`,
  `r.diags = st1.diags`, and `r.parts = refParts T o.lang thresh lc segs` with `lc` = the
  language-change collections after `Parser.__init__`:
    `segMarks`     what the expander leaves: every text character with its (0-based) source position;
                   `sel` an Action mark and the hard language token; `frn` an Action mark, the soft
                   token, the characters of the body, the token back; `beg` two Action marks and the
                   soft token; `fin` an Action mark and the token back — and, for `\end{otherlanguage}`
                   WITHOUT star, a third Action mark while the white space `sp` (a blank, a line break:
                   at most one line break) is SWALLOWED by `\babel@skip@space`; behind
                   `\end{otherlanguage*}`, and if `sp` is a paragraph break, `sp` stays;
    `delLines`     the blank-line removal (`LinesLang.delLines`): a line that is blank and holds an
                   Action mark is deleted with its line break, its language tokens are kept —
                   `\begin{otherlanguage}{german}` on a line of its own disappears with its line;
    `secsOf`       the section loop (`PlainForeign.secsItems`): the stack discipline — initial language
                   `o.lang`; a hard token replaces the top, a soft token pushes, a token back pops
                   unless one entry is left; a new section starts where the TOP changes; a section
                   without characters is dropped;
    `planOf`       the joining loop as a plan (`Proofs/PlainLangMixML.lean`): a section that was not
                   started by a breaking switch (`\selectlanguage`: `selectlang_break`) nor by a
                   switch back, that has at most `thresh` words, and whose successor (if any) has the
                   language of the current piece, is CUT OUT of the current piece — it becomes a
                   piece of its own —, the current piece gets a placeholder and continues; any
                   other section ends the current piece;
    `renderGroups` the placeholder is the head of the collection of (the settings of) the language
                   of the SURROUNDING piece after one more rotation, mapped to the position of the
                   first visible character of the inclusion (`phChars`);
    `groupSecs`, `shiftParts`   grouped by language code, positions 1-based.
  Proofs/PlainLangMixCor.lean reads this reference: `langAt` (the stack discipline on the document),
  every surviving text character is filed exactly once, under `langAt` of its position, with its own
  position; a closed scope restores the language in force before it.

  Side conditions (reasons)
    options        no `--defs`, `--extr`, `--repl`
    `hinit`, `hml`, `hstk`   `st1` = state after `Parser.__init__` with `multi = true`; its
                   multi-language flag is set, its language stack is not empty
    `lcOk (lcOf st1)`   every settings code has a non-empty `lang_change_repl` and `en` is a settings
                   code (else Python raises in `ml_append_placeholder`)
    `segsOk T st1 segs` (computable; the parser state is threaded through the document, `stepSt`)
      `txt`: `PlainFootnote.textOk` for the language IN FORCE (after `\begin{otherlanguage}{german}` the
        character `"` is excluded); what follows a text segment does not start with white space;
      `sel`: `PlainLang.selOk`;  `frn`: `frnOk` (as in `PlainForeign` but WITHOUT "the code differs
        from the main language", WITHOUT `visFirst` and WITHOUT any condition on what follows; the
        text is not empty: Python raises on `args[2][-1]`);
      `beg`: `begOk` — no special sequence matches at the backslash; the braces of the environment
        name are scanned as special tokens, those of the language name as brace tokens; the
        environment name is inert for the language in force; `otherlanguage[*]` is declared in the
        state as in `packages/babel.py` (`envDeclOk`: babel is loaded); the language name is not
        empty, inert, and `translate_lang` finds a code; the empty string is no active character;
      `fin`: `finOk` — the same for `\end`; `sp` is white space and what follows it is none;
        without star: the empty string is no active character of the language in force BEHIND the
        environment either (third Action token) and `\babel@skip@space` is declared (`skipDeclOk`);
        if `sp` stays it is no active character of the language behind the environment.
    fuel   `(render segs).length + 2 ≤ fuel`.
  NO hypothesis on `foreignlang_break`, `selectlang_break`, `otherlang_break`: the flags are part of
  the language tokens in `segMarks` and `canJoin` looks at them.
  Behaviour of the model (= of the Python code, checked on the examples of
  Properties/PlainLangMixStmt.lean) that one may not expect
    * the blank behind `\end{otherlanguage}` is swallowed even if no blank stands in front of the
      environment; with a SHORT environment the placeholder is then glued to the next word:
      `A \begin{otherlanguage}{german}Hallo\end{otherlanguage} B.` gives `en-GB: "A L-L-LB."`;
    * a short environment is replaced by a placeholder exactly like a short `\foreignlanguage`
      (`otherlang_break = False`), a long one cuts the surrounding text in two pieces;
    * the placeholder is taken from the collection of the SURROUNDING language (the German one inside
      a German environment); a language without settings of its own (French) uses — and rotates —
      the collection of `en`;
    * a `\selectlanguage` inside an environment is undone by `\end{otherlanguage}` (as in LaTeX).
  Not covered: the optional argument of `\foreignlanguage`, white space between `\begin`, `{name}`
  and `{language}`; markup inside the body of `\foreignlanguage`; language options of
  `\usepackage[…]{babel}`; text with macros / maths / comments; `--repl`.
-/
import YalafiVerif.Proofs.PlainLangMixSrc
namespace Yalafi
namespace PlainLangMix

open M
open PlainFootnote (CopyTok BraceTok TextRun)
open PlainLang (setLang codeOfName groupSecs shiftParts)
open PlainForeign (pushLang lcOf)
open LinesLang (Item Mark ch itemsOf delLines marksOf)

/-! ### no token of the buffer is a comment -/

theorem PiecesOk.noCom {T : PTables} : ∀ {ps : List Piece} {st : PState}, PiecesOk T st ps → NoCom (flat ps)
  | [], _, _ => .nil
  | .tok _ :: _, _, h => .cons h.1.plain.notComment (noCom h.2)
  | .sel .. :: _, _, ⟨h1, h2, h3, _, hb, _, _, hrest⟩ =>
    .append (.cmdBraced (NoCom.of_kind h1.kind) h2.brace.notComment h3.brace.notComment (NoCom.copy hb)) (noCom hrest)
  | .frn .. :: _, _, ⟨h1, h2, h3, h4, h5, _, hn, _, _, _, hb, hrest⟩ =>
    .append (.cons (NoCom.of_kind h1.kind) (.cons h2.brace.notComment (.append (NoCom.copy hn)
      (.cons h3.brace.notComment (.cons h4.brace.notComment (.append (NoCom.copy hb)
        (.cons h5.brace.notComment .nil))))))) (noCom hrest)
  | .beg .. :: _, _, ⟨he, _, h2, h3, _, hn, _, _, hrest⟩ =>
    .append (.cons (NoCom.of_kind rfl) (.cons (NoCom.of_kind rfl) (.append (NoCom.copy he.2)
      (.cons (NoCom.of_kind rfl) (.cons h2.brace.notComment (.append (NoCom.copy hn)
        (.cons h3.brace.notComment .nil))))))) (noCom hrest)
  | .fin _ _ _ _ star _ :: _, _, ⟨he, _, _, hstar, hnostar, hrest⟩ =>
    .append (.cons (NoCom.of_kind rfl) (.cons (NoCom.of_kind rfl) (.append (NoCom.copy he.2)
      (.cons (NoCom.of_kind rfl)
        (match star with
          | true => hstar rfl ▸ .nil
          | false => fun t ht => NoCom.of_kind ((hnostar rfl).2.2.1 t ht)))))) (noCom hrest)

theorem noScope_of_hard (T : PTables) : ∀ ps : List Piece,
    (∀ t, some (Sum.inr t) ∈ marksOf (outMain T ps) → PlainLang.HardTok t) → NoScope ps
  | [], _ => trivial
  | .tok _ :: rest, h => noScope_of_hard T rest (fun t ht => h t (by
      simp only [outMain, marksOf, List.flatMap_cons]; exact List.mem_append_right _ ht))
  | .sel _ _ _ _ :: rest, h => noScope_of_hard T rest (fun t ht => h t (by
      simp only [outMain, marksOf, List.flatMap_cons]
      exact List.mem_append_right _ (List.mem_append_right _ ht)))
  | .frn hd _ n _ _ b _ :: rest, h => by
    obtain ⟨l, k, hk⟩ := h (PlainForeign.openTok T hd.pos (PlainLang.codeOf T n)) (List.mem_flatMap.mpr
      ⟨PlainForeign.openTok T hd.pos (PlainLang.codeOf T n), by simp [outMain, PlainForeign.frnOut],
        by rw [LinesLang.tokMarks_lang _ rfl rfl]; simp⟩)
    cases hk
  | .beg p _ _ _ _ n _ :: rest, h => by
    obtain ⟨l, k, hk⟩ := h (obegTok T p (PlainLang.codeOf T n)) (List.mem_flatMap.mpr
      ⟨obegTok T p (PlainLang.codeOf T n), by simp [outMain], by rw [LinesLang.tokMarks_lang _ rfl rfl]; simp⟩)
    cases hk
  | .fin p _ _ _ star _ :: rest, h => by
    obtain ⟨l, k, hk⟩ := h (PlainForeign.backTok p) (List.mem_flatMap.mpr
      ⟨PlainForeign.backTok p, by simp [outMain, finOut], by rw [LinesLang.tokMarks_lang _ rfl rfl]; simp⟩)
    cases hk

/-! ### from the loop to `tex2txt` -/

/-- **`tex2txt` on a well-formed document** in multi-language mode, up to the reading of the tokens: the
    items of the result tokens are what the blank-line removal leaves of `segMarks`; only the language
    stack of the state changes.  (A document of hard switches never pops the stack: it may be empty.) -/
theorem tex2txt_mix_toks {T : PTables} {o : Options} {fs : FS} {fuel : Nat} {st1 : PState}
    (R : Setup T o true fs fuel st1) (thresh : Nat) (segs : List Seg)
    (hf : (render segs).length + 2 ≤ fuel) (hml : st1.multiLanguage = true)
    (hstk : st1.langStack ≠ [] ∨ ∀ t, some (Sum.inr t) ∈ segMarks T 0 segs → PlainLang.HardTok t)
    (hok : segsOk T st1 segs = true) :
    ∃ r ls, itemsOf r = delLines (segMarks T 0 segs) ∧
      tex2txt T fuel (render segs) o true thresh fs
        = finishT2T T o true thresh (.ok (r, { startState st1 (render segs) with langStack := ls })) := by
  obtain ⟨hd, ps, hflat, F⟩ := scan_segs T st1 segs hok
  obtain ⟨r, hr, hitems⟩ := LinesLang.removeLines_items (outMain T ps) F.simple
  obtain ⟨ls, hls⟩ := finalSt_frame T ps (startState st1 (render segs))
  have hcost := F.cost
  have hseq := (seqRun_mix T ps [] (.startState st1 (render segs)) hml
    (hstk.imp id fun h => noScope_of_hard T ps (by rw [F.marks]; exact h)) F.ok).finish (Nat.le_refl _)
    (fuel := fuel - 1) (by omega)
  rw [List.nil_append, hr, hls] at hseq
  refine ⟨r, ls, by rw [hitems, F.marks], ?_⟩
  rw [R.of_loop thresh ⟨hd, hflat⟩ (F.ok.noCom.noBegin _) (by omega) hseq]
  exact congrArg (fun l => finishT2T T o true thresh (.ok (l, _))) (List.append_nil r)

/-! ### the reference output -/

/-- what is left of the document after the blank-line removal: the text characters with their
    (0-based) source positions and the language tokens -/
def refItems (T : PTables) (segs : List Seg) : List Item := delLines (segMarks T 0 segs)

/-- the sections of the document (the stack discipline; `main` = the initial language) -/
def refSecs (T : PTables) (main : Str) (segs : List Seg) : List Sec := secsOf main (refItems T segs)

def refPlan (T : PTables) (main : Str) (thresh : Nat) (segs : List Seg) : List Group :=
  planOf thresh (refSecs T main segs)

/-- **the expected `parts`** (`lc` = the language-change collections) -/
def refParts (T : PTables) (main : Str) (thresh : Nat) (lc : LangChange) (segs : List Seg) : Parts :=
  shiftParts (groupSecs (renderGroups lc (refPlan T main thresh segs)))

/-- **C12 for documents that mix the language constructs, end to end.** -/
theorem tex2txt_mix (T : PTables) (o : Options) (fs : FS) (thresh : Nat) (segs : List Seg)
    (fuel : Nat) (st1 : PState)
    (hdefs : o.defs = []) (hextr : o.extr = []) (hrepl : o.hasRepl = false)
    (hinit : initParser T fuel o (initialState T o true fs) = .ok ((), st1))
    (hml : st1.multiLanguage = true) (hstk : st1.langStack ≠ [])
    (hlc : lcOk (lcOf st1) = true)
    (hok : segsOk T st1 segs = true)
    (hf : (render segs).length + 2 ≤ fuel) :
    ∃ r, tex2txt T fuel (render segs) o true thresh fs = .ok r ∧
      r.parts = refParts T o.lang thresh (lcOf st1) segs ∧ r.unknowns = [] ∧
      r.diags = st1.diags ∧ r.foreign = false := by
  obtain ⟨r, ls, hitems, ht⟩ := tex2txt_mix_toks ⟨hdefs, hextr, hinit⟩ thresh segs hf hml (Or.inl hstk) hok
  obtain ⟨lc', hml'⟩ := getTxtPosML_plan r o.lang thresh (lcOf st1) hlc
  exact ⟨_, ht.trans (finishT2T_multi hrepl hml'), by rw [hitems]; rfl, rfl, rfl, rfl⟩

end PlainLangMix
end Yalafi
