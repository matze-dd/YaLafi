/-
  Proofs/NoEmptyStepSeq.lean — step lemmas of the NoEmpty bundle for `expandSequence`,
  `getTextExpanded`, `getEnvironmentName`.
-/
import YalafiVerif.Proofs.NoEmptyBase1
import YalafiVerif.Proofs.NoEmptyBase2
namespace Yalafi
namespace NoEmpty
open M

set_option linter.unusedVariables false

variable {T : PTables}

private def SeqQ (T : PTables) (st : PState) (envStop : Option Str) (r : List Tok × Buf) (st' : PState) : Prop :=
  Fr T st st' ∧ ANE T st.latex.length r.2 ∧ (envStop = none → ANC r.1) ∧
    (ANE T st.latex.length r.1 ∨ (ANC r.1 ∧ r.2 = []))

/-- the recursive call of the loop, from a state reached by a frame step -/
private theorem seq_cont {fuel : Nat} (IH : SpecSeq T fuel) {st st1 : PState}
    (hg : Fr T st st1) (buf : Buf) (envStop : Option Str) (out : List Tok)
    (hb : Buf3 T st.latex.length buf) (ho : ANC out) :
    Post' (expandSequence T fuel buf envStop out st1) (SeqQ T st envStop) := by
  have h1 : st1.latex.length = st.latex.length := hg.len
  have h := IH buf envStop out st1 hg.1 (h1 ▸ hb) ho
  refine Post'_mono _ _ _ h ?_
  rintro r s ⟨g, a, b, c⟩
  rw [h1] at a c
  exact ⟨hg.trans g, a, b, c⟩

private theorem ANC_snoc2 (out : List Tok) (t u : Tok) (ho : ANC out) (ht : noCall t = true) (hu : noCall u = true) :
    ANC (out ++ [t, u]) := by
  refine (ANC_append out [t, u]).2 ⟨ho, ?_⟩
  simp [ht, hu]

private theorem StOk_changeParserLang (st : PState) (l : Str) (back hard : Bool) (hs : StOk T st) :
    Fr T st (changeParserLang T st l back hard) := by
  unfold changeParserLang
  split
  · split
    · exact ⟨StOk_congr hs rfl rfl rfl, rfl⟩
    · exact Fr.refl hs
  · split
    · exact ⟨StOk_congr hs rfl rfl rfl, rfl⟩
    · exact ⟨StOk_congr hs rfl rfl rfl, rfl⟩

/-! ### one lemma per branch of the loop -/

section
variable {fuel : Nat}

private theorem br_nil (st : PState) (hg : StOk T st) (envStop : Option Str) (out : List Tok) (ho : ANC out) :
    Post' ((match removeLines out with
           | some r => (pure (r, []) : M (List Tok × Buf))
           | none => M.outOfFuel) st) (SeqQ T st envStop) := by
  cases hr : removeLines out with
  | none => exact Post'_outOfFuel _ _
  | some r =>
    have h := removeLines_ANC out r ho hr
    apply Post'_pure
    exact ⟨Fr.refl hg, ANE_nil _, fun _ => h, Or.inr ⟨h, rfl⟩⟩

private theorem br_begin (IH : AllSpecs T fuel) (st : PState) (hg : StOk T st)
    (tok : Tok) (rest : Buf) (envStop : Option Str) (out : List Tok)
    (ht : W T st.latex.length tok) (hr : ANE T st.latex.length rest) (ho : ANC out) :
    Post' ((do let r ← beginEnvironment T fuel rest tok false
               expandSequence T fuel (r.1 ++ r.2) envStop out) st) (SeqQ T st envStop) := by
  refine Post'_bind _ _ _ _ _ (IH.begin_ rest tok false st hg hr ht.1) ?_
  rintro r s ⟨g, a⟩
  exact seq_cont IH.seq g _ _ _ a ho

private theorem br_end (IH : AllSpecs T fuel) (st : PState) (hg : StOk T st)
    (tok : Tok) (rest : Buf) (envStop : Option Str) (out : List Tok)
    (ht : W T st.latex.length tok) (hr : ANE T st.latex.length rest) (ho : ANC out) :
    Post' ((do let r ← endEnvironment T fuel rest tok envStop
               if r.1.2 then pure (r.1.1, r.2)
               else expandSequence T fuel (r.1.1 ++ r.2) envStop out) st) (SeqQ T st envStop) := by
  refine Post'_bind _ _ _ _ _ (IH.end_ rest tok envStop st hg hr ht.1) ?_
  rintro r s ⟨g, a, b, c, _⟩
  refine Post'_ite _ _ _ _ _ (fun _ => ?_) (fun _ => ?_)
  · next hstop =>
    apply Post'_pure
    exact ⟨g, b, fun hn => absurd hn (c hstop), Or.inl a⟩
  · exact seq_cont IH.seq g _ _ _ (Buf3_of_ANE ((ANE_append _ _ _).2 ⟨a, b⟩)) ho

private theorem br_item (IH : AllSpecs T fuel) (st : PState) (hg : StOk T st)
    (tok : Tok) (rest : Buf) (envStop : Option Str) (out : List Tok)
    (ht : W T st.latex.length tok) (hr : ANE T st.latex.length rest) (ho : ANC out) :
    Post' ((do let r ← expandItem T fuel rest tok out
               expandSequence T fuel (r.1 ++ r.2) envStop out) st) (SeqQ T st envStop) := by
  refine Post'_bind _ _ _ _ _ (IH.item rest tok out st hg hr ht.1) ?_
  rintro r s ⟨g, a, b⟩
  exact seq_cont IH.seq g _ _ _ (Buf3_of_Pre (Pre_append a b)) ho

private theorem br_def (IH : AllSpecs T fuel) (st : PState) (hg : StOk T st)
    (tok : Tok) (rest : Buf) (envStop : Option Str) (out : List Tok)
    (ht : W T st.latex.length tok) (hr : ANE T st.latex.length rest) (ho : ANC out) :
    Post' ((do let r ← parseDefMacro T rest tok.pos
               expandSequence T fuel r.2 envStop (out ++ r.1)) st) (SeqQ T st envStop) := by
  refine Post'_bind _ _ _ _ _ (parseDefMacro_spec rest tok.pos st hg hr ht.1) ?_
  rintro r s ⟨g, a, b⟩
  exact seq_cont IH.seq g _ _ _ (Buf3_of_ANE b) ((ANC_append _ _).2 ⟨ho, a⟩)

private theorem br_macro (IH : AllSpecs T fuel) (st : PState) (hg : StOk T st)
    (tok : Tok) (rest : Buf) (envStop : Option Str) (out : List Tok)
    (ht : W T st.latex.length tok) (hr : ANE T st.latex.length rest) (ho : ANC out) :
    Post' ((do let r ← expandMacro T fuel rest tok false
               expandSequence T fuel (r.1 ++ r.2) envStop out) st) (SeqQ T st envStop) := by
  refine Post'_bind _ _ _ _ _ (IH.macro_ rest tok false st hg hr ht.1) ?_
  rintro r s ⟨g, a, b⟩
  exact seq_cont IH.seq g _ _ _ (Buf3_of_ANE ((ANE_append _ _ _).2 ⟨a, b⟩)) ho

private theorem br_inline (IH : AllSpecs T fuel) (st : PState) (hg : StOk T st)
    (tok : Tok) (rest : Buf) (envStop : Option Str) (out : List Tok)
    (hr : Buf3 T st.latex.length rest) (ho : ANC out) :
    Post' ((do let r ← expandInlineMath T fuel rest tok
               expandSequence T fuel r.2 envStop (out ++ r.1)) st) (SeqQ T st envStop) := by
  refine Post'_bind _ _ _ _ _ (IH.inline rest tok st hg hr) ?_
  rintro r s ⟨g, a, b⟩
  exact seq_cont IH.seq g _ _ _ b ((ANC_append _ _).2 ⟨ho, a⟩)

private theorem br_display (IH : AllSpecs T fuel) (st : PState) (hg : StOk T st)
    (tok : Tok) (rest : Buf) (envStop : Option Str) (out : List Tok) (name : Str) (rem : Bool)
    (hr : Buf3 T st.latex.length rest) (ho : ANC out)
    (hn : (endFuncNames T).contains name = false) :
    Post' ((do let r ← expandDisplayMath T fuel rest tok name rem
               expandSequence T fuel r.2 envStop (out ++ r.1)) st) (SeqQ T st envStop) := by
  refine Post'_bind _ _ _ _ _ (IH.display rest tok name rem st hg hr hn) ?_
  rintro r s ⟨g, a, b⟩
  exact seq_cont IH.seq g _ _ _ b ((ANC_append _ _).2 ⟨ho, a⟩)

private theorem mathBegin_name (n : Nat) (tok : Tok) (ht : W T n tok)
    (hk : (match tok.kind with | .mathBegin _ => true | _ => false) = true) :
    (endFuncNames T).contains tok.txt = false := by
  have h := ht.2.2.1
  cases hkk : tok.kind <;> simp only [hkk] at hk <;> first | (exact absurd hk (by decide)) | skip
  exact h _ hkk

private theorem br_dollars (IH : AllSpecs T fuel) (st : PState) (hg : StOk T st)
    (tok : Tok) (rest : Buf) (envStop : Option Str) (out : List Tok)
    (hr : Buf3 T st.latex.length rest) (ho : ANC out) :
    Post' ((match lookupEnv st T.mathDefaultEnv with
        | none => (M.fatal "no environment for '$$' or '\\['".toList : M (List Tok × Buf))
        | some env =>
          if !env.isEqu then M.fatal (reprStr env.name ++ " is not an EquEnv".toList)
          else do
            let r ← expandDisplayMath T fuel rest tok env.name env.remove
            expandSequence T fuel r.2 envStop (out ++ r.1)) st) (SeqQ T st envStop) := by
  cases henv : lookupEnv st T.mathDefaultEnv with
  | none => exact Post'_fatal _ _ _
  | some env =>
    show Post' ((if !env.isEqu then M.fatal (reprStr env.name ++ " is not an EquEnv".toList)
          else do
            let r ← expandDisplayMath T fuel rest tok env.name env.remove
            expandSequence T fuel r.2 envStop (out ++ r.1)) st) (SeqQ T st envStop)
    refine Post'_ite _ _ _ _ _ (fun _ => ?_) (fun _ => ?_)
    · exact Post'_fatal _ _ _
    · next hequ =>
      have hm := (hg.envs env (lookupEnv_mem st _ env henv).1).2.2.2
      have hn : (endFuncNames T).contains env.name = false := by
        unfold envOk at hm
        simp at hequ
        simp [hequ] at hm
        simpa using hm.1.1
      exact br_display IH st hg tok rest envStop out env.name env.remove hr ho hn

private theorem br_accent (IH : AllSpecs T fuel) (st : PState) (hg : StOk T st)
    (tok : Tok) (rest : Buf) (envStop : Option Str) (out : List Tok)
    (ht : W T st.latex.length tok) (hr : ANE T st.latex.length rest) (ho : ANC out) :
    Post' ((do let r ← expandAccent T fuel rest tok
               expandSequence T fuel r.2 envStop (out ++ r.1)) st) (SeqQ T st envStop) := by
  refine Post'_bind _ _ _ _ _ (IH.accent rest tok st hg hr ht.1) ?_
  rintro r s ⟨g, a, b⟩
  exact seq_cont IH.seq g _ _ _ (Buf3_of_ANE b) ((ANC_append _ _).2 ⟨ho, a⟩)

private theorem br_newline (IH : AllSpecs T fuel) (st : PState) (hg : StOk T st)
    (tok : Tok) (rest : Buf) (envStop : Option Str) (out : List Tok)
    (hr : Buf3 T st.latex.length rest) (ho : ANC out) :
    Post' ((do let b ← parseNewlineOption T rest true
               expandSequence T fuel b envStop (out ++ [mkAction tok.pos, mkTok .space tok.pos [' ']])) st)
      (SeqQ T st envStop) := by
  refine Post'_bind _ _ _ _ _ (parseNewlineOption_spec rest true st hg hr) ?_
  rintro r s ⟨g, b⟩
  exact seq_cont IH.seq g _ _ _ b (ANC_snoc2 _ _ _ ho rfl rfl)

/-- a plain recursive call from the entry state -/
private theorem br_plain (IH : AllSpecs T fuel) (st : PState) (hg : StOk T st)
    (buf : Buf) (envStop : Option Str) (out : List Tok)
    (hr : Buf3 T st.latex.length buf) (ho : ANC out) :
    Post' (expandSequence T fuel buf envStop out st) (SeqQ T st envStop) :=
  seq_cont IH.seq (Fr.refl hg) _ _ _ hr ho

private theorem br_special (IH : AllSpecs T fuel) (st : PState) (hg : StOk T st)
    (tok : Tok) (rest : Buf) (envStop : Option Str) (out : List Tok)
    (hr : Buf3 T st.latex.length rest) (ho : ANC out) :
    Post' ((match T.toTables.specialVal tok.txt with
        | none => (M.crash "parser.py:expand_sequence:special_tokens[tok.txt]" : M (List Tok × Buf))
        | some v =>
          expandSequence T fuel rest envStop
            (out ++ [mkAction tok.pos, { kind := .text, pos := tok.pos, txt := v, fix := tok.fix }])) st)
      (SeqQ T st envStop) := by
  cases hv : T.toTables.specialVal tok.txt with
  | none => exact Post'_crash _ _ _ (by simp [site])
  | some v => exact br_plain IH st hg _ _ _ hr (ANC_snoc2 _ _ _ ho rfl rfl)

private theorem br_verb (IH : AllSpecs T fuel) (st : PState) (hg : StOk T st)
    (tok : Tok) (rest : Buf) (envStop : Option Str) (out : List Tok)
    (ht : W T st.latex.length tok) (hr : ANE T st.latex.length rest) (ho : ANC out) :
    Post' ((if tok.kind == .verb true then
          expandSequence T fuel (expandVerbEnvToken tok ++ rest) envStop out
        else
          expandSequence T fuel rest envStop
            (out ++ [mkAction tok.pos, { kind := .text, pos := tok.pos, txt := tok.txt, fix := tok.fix }])) st)
      (SeqQ T st envStop) := by
  refine Post'_ite _ _ _ _ _ (fun _ => ?_) (fun _ => ?_)
  · next h =>
    have h' : tok.kind = .verb true := by simpa using h
    exact br_plain IH st hg _ _ _
      (Buf3_of_ANE ((ANE_append _ _ _).2 ⟨expandVerbEnvToken_ANE _ tok ht h', hr⟩)) ho
  · exact br_plain IH st hg _ _ _ (Buf3_of_ANE hr) (ANC_snoc2 _ _ _ ho rfl rfl)

private theorem lang_noCall (tok : Tok) (hc : ctlEmpty tok = true)
    (hk : (match tok.kind with | .lang .. => true | _ => false) = true) :
    noCall tok = true := by
  apply noCall_of_kind hc
  split at hk
  · rename_i hkk
    rw [hkk]
  · cases hk

private theorem br_lang (IH : AllSpecs T fuel) (st : PState) (hg : StOk T st)
    (tok : Tok) (rest : Buf) (envStop : Option Str) (out : List Tok)
    (hr : Buf3 T st.latex.length rest) (ho : ANC out) (hc : ctlEmpty tok = true)
    (hk : (match tok.kind with | .lang .. => true | _ => false) = true) :
    Post' ((if st.multiLanguage then do
          match tok.kind with
          | .lang l back hard _ => M.modify (fun s => changeParserLang T s l back hard)
          | _ => pure ()
          expandSequence T fuel rest envStop (out ++ [tok])
        else expandSequence T fuel rest envStop out) st)
      (SeqQ T st envStop) := by
  have hot : ANC (out ++ [tok]) := ANC_snoc _ _ ho (lang_noCall tok hc hk)
  split
  · split
    · next l back hard brk hkk =>
      refine Post'_bind _ _ _ (fun _ s => Fr T st s) _ ?_ ?_
      · apply Post'_modify
        exact StOk_changeParserLang st l back hard hg
      · intro _ s g
        exact seq_cont IH.seq g _ _ _ hr hot
    · exact br_plain IH st hg _ _ _ hr hot
  · exact br_plain IH st hg _ _ _ hr ho

private theorem br_active (IH : AllSpecs T fuel) (st : PState) (hg : StOk T st)
    (tok : Tok) (rest : Buf) (envStop : Option Str) (out : List Tok)
    (hr : Buf3 T st.latex.length rest) (ho : ANC out) (hk : noCall tok = true) :
    Post' (expandSequence T fuel (expandShortMacro T st tok rest).2 envStop
            (out ++ [(expandShortMacro T st tok rest).1]) st)
      (SeqQ T st envStop) := by
  have h := expandShortMacro_spec (T := T) st tok rest hk
  refine br_plain IH st hg _ _ _ ?_ (ANC_snoc _ _ ho h.1)
  rcases h.2 with h2 | h2
  · rw [h2]; exact hr
  · rw [h2, ← List.drop_one]; exact Buf3_drop 1 hr

private theorem call_of_verb (tok : Tok) (h : (match tok.kind with | .verb _ => true | _ => false) = true) :
    noCall tok = false := by
  unfold noCall
  split at h
  · rename_i hk; simp only [hk, Bool.false_and]
  · cases h

private theorem call_of_mathBegin (tok : Tok)
    (h : (match tok.kind with | .mathBegin _ => true | _ => false) = true) : noCall tok = false := by
  unfold noCall
  split at h
  · rename_i hk; simp only [hk, Bool.false_and]
  · cases h

/-- after the branches for the call classes, the token cannot start a call -/
private theorem noCall_of_not (tok : Tok) (hc : ctlEmpty tok = true)
    (h1 : ¬ (tok.kind == .xbegin) = true) (h2 : ¬ (tok.kind == .xend) = true)
    (h3 : ¬ (tok.kind == .item) = true) (h4 : ¬ (tok.kind == .xmacro) = true)
    (h5 : ¬ (match tok.kind with | .mathBegin _ => true | _ => false) = true)
    (h6 : ¬ (tok.kind == .accent) = true)
    (h8 : ¬ (match tok.kind with | .verb _ => true | _ => false) = true) :
    noCall tok = true := by
  -- the kinds that start a call are those the seven tests look for
  have key : ∀ k : Kind, (match k with
        | .xmacro | .xbegin | .xend | .item | .accent | .verb _ | .mathBegin _ => false
        | _ => true) =
      !((k == .xbegin) || (k == .xend) || (k == .item) || (k == .xmacro) ||
        (match k with | .mathBegin _ => true | _ => false) || (k == .accent) ||
        (match k with | .verb _ => true | _ => false)) := by
    intro k; cases k <;> rfl
  apply noCall_of_kind hc
  refine (key tok.kind).trans ?_
  rw [eq_false_of_ne_true h1, eq_false_of_ne_true h2, eq_false_of_ne_true h3, eq_false_of_ne_true h4,
    eq_false_of_ne_true h5, eq_false_of_ne_true h6, eq_false_of_ne_true h8]
  rfl

end

theorem seq_step (hne : tblOkB T = true) (hw : T.WFInv) (fuel : Nat) (IH : AllSpecs T fuel) :
    SpecSeq T (fuel + 1) := by
  intro buf envStop out st hg hb ho
  show Post' _ (SeqQ T st envStop)
  cases buf with
  | nil =>
    rw [expandSequence.eq_2]
    exact br_nil st hg envStop out ho
  | cons tok rest =>
    have hr : Buf3 T st.latex.length rest := Buf3_tail hb
    have hc : noCall tok = false → W T st.latex.length tok ∧ ANE T st.latex.length rest := Buf3_call hb
    rw [expandSequence.eq_3]
    apply Post'_get_bind
    refine Post'_ite _ _ _ _ _ (fun h => ?_) (fun h1 => ?_)
    · have := hc (call_of_beq tok _ h (fun t e => by simp [noCall, e]))
      exact br_begin IH _ hg tok rest envStop out this.1 this.2 ho
    refine Post'_ite _ _ _ _ _ (fun h => ?_) (fun h2 => ?_)
    · have := hc (call_of_beq tok _ h (fun t e => by simp [noCall, e]))
      exact br_end IH _ hg tok rest envStop out this.1 this.2 ho
    refine Post'_ite _ _ _ _ _ (fun h => ?_) (fun h3 => ?_)
    · have := hc (call_of_beq tok _ h (fun t e => by simp [noCall, e]))
      exact br_item IH _ hg tok rest envStop out this.1 this.2 ho
    refine Post'_ite _ _ _ _ _ (fun h => ?_) (fun h4 => ?_)
    · have := hc (call_of_beq tok _ h (fun t e => by simp [noCall, e]))
      exact Post'_ite _ _ _ _ _
        (fun _ => br_def IH _ hg tok rest envStop out this.1 this.2 ho)
        (fun _ => br_macro IH _ hg tok rest envStop out this.1 this.2 ho)
    refine Post'_ite _ _ _ _ _ (fun hk => ?_) (fun h8 => ?_)
    · have := hc (call_of_verb tok hk)
      exact br_verb IH _ hg tok rest envStop out this.1 this.2 ho
    refine Post'_ite _ _ _ _ _ (fun _ => br_inline IH _ hg tok rest envStop out hr ho) (fun _ => ?_)
    refine Post'_ite _ _ _ _ _ (fun hk => ?_) (fun h5 => ?_)
    · have := hc (call_of_mathBegin tok hk)
      exact br_display IH _ hg tok rest envStop out _ _ hr ho (mathBegin_name _ tok this.1 hk)
    refine Post'_ite _ _ _ _ _ (fun _ => br_dollars IH _ hg tok rest envStop out hr ho) (fun _ => ?_)
    refine Post'_ite _ _ _ _ _ (fun h => ?_) (fun h6 => ?_)
    · have := hc (call_of_beq tok _ h (fun t e => by simp [noCall, e]))
      exact br_accent IH _ hg tok rest envStop out this.1 this.2 ho
    refine Post'_ite _ _ _ _ _ (fun _ => br_newline IH _ hg tok rest envStop out hr ho) (fun _ => ?_)
    refine Post'_ite _ _ _ _ _ (fun _ =>
      br_plain IH _ hg _ _ _ hr (ANC_snoc _ _ ho (noCall_mkAction _))) (fun _ => ?_)
    refine Post'_ite _ _ _ _ _ (fun _ => br_special IH _ hg tok rest envStop out hr ho) (fun _ => ?_)
    refine Post'_ite _ _ _ _ _ (fun hk => br_lang IH _ hg tok rest envStop out hr ho (Buf3_head_ctl hb) hk) (fun _ => ?_)
    have hok : noCall tok = true := noCall_of_not tok (Buf3_head_ctl hb) h1 h2 h3 h4 h5 h6 h8
    refine Post'_ite _ _ _ _ _ (fun _ => br_active IH _ hg tok rest envStop out hr ho hok) (fun _ => ?_)
    refine Post'_ite _ _ _ _ _ (fun _ => br_plain IH _ hg _ _ _ hr ho) (fun _ => ?_)
    exact br_plain IH _ hg _ _ _ hr (ANC_snoc _ _ ho hok)

theorem text_step (hne : tblOkB T = true) (hw : T.WFInv) (fuel : Nat) (IH : AllSpecs T fuel) :
    SpecText T (fuel + 1) := by
  intro toks st hg hb
  simp only [getTextExpanded]
  apply Post'_bind _ _ _ (Q := fun _ s => Fr T st s)
  · exact Post'_mono _ _ _ (IH.seq toks none [] st hg hb ANC_nil) (fun a s h => h.1)
  · intro a s h
    exact Post'_pure _ _ _ h

theorem envName_step (hne : tblOkB T = true) (hw : T.WFInv) (fuel : Nat) (IH : AllSpecs T fuel) :
    SpecEnvName T (fuel + 1) := by
  intro buf tok st hg hb ht
  simp only [getEnvironmentName]
  apply Post'_bind _ _ _
    (Q := fun r s => Fr T st s ∧ ANE T st.latex.length r.1 ∧ ANE T st.latex.length r.2)
  · refine Post'_mono _ _ _ (argBuffer_spec buf tok.pos true st hg) ?_
    intro a s h
    exact ⟨h.1, h.2.1 hb ht⟩
  · intro r s h
    have hl : s.latex.length = st.latex.length := h.1.len
    apply Post'_bind _ _ _ (Q := fun _ s' => Fr T st s')
    · refine Post'_mono _ _ _ (IH.text r.1 s h.1.1 (by rw [hl]; exact Buf3_of_ANE h.2.1)) ?_
      intro a s' h'
      exact h.1.trans h'
    · intro a s' h'
      exact Post'_pure _ _ _ ⟨h', h.2.2⟩

end NoEmpty
end Yalafi
