/-
  Proofs/PlainMix4Src.lean — source level of the fourth union grammar (header with the end-to-end
  statement and all side conditions: Proofs/PlainMix4E2E.lean).

  `Seg`, `render`, `grp`, `mac`   the documents (34 constructors)
  `Item`, `itemsOf`              the source as a list of items: a text character, a stateless
                                 construct with its fixed marks, a control word, a formula with its
                                 maths tokens, a footnote with its flow, a definition, a use, a
                                 displayed equation (marks as a function of the placeholder), a list
                                 command (marks as a function of the label generators, update of the
                                 generators, condition on them)
  `refMarks`, `refNames`, `refOk`, `refIns`, `itemsLen`, `refFlows`, `refNF`, `refND`
                                 the reference on items: everything that depends on the state is
                                 threaded here (`l` = the rotating collections of inline / display
                                 placeholders, `env` = the definitions in force, `stk` = the label
                                 generators)
  `marks`, `unkNames`, `liveOk`, `inserted`, `flows`, `nFormulas`, `nDisplays`
                                 the same on segments, in closed form (`refMarks_itemsOf` …: they
                                 agree, Proofs/PlainMix4E2E.lean)
  `firstTokTxtV`, `okAtV`, `textOkV`, `itemOkV`, `segsOk`   the static side conditions (computable)
  `Con`, `OkSrc`                 the same on the source text (what the scanner lemma uses): `OkSrcG` over
                                 the constructs `Con`, with the items as the meaning
-/
import YalafiVerif.Proofs.PlainMix4
import YalafiVerif.Proofs.PlainFlows
import YalafiVerif.Proofs.PlainParEnv
namespace Yalafi
namespace PlainMix4

open M
open PlainMacro
open PlainMix (spcOk cwOkU comOk verbOkU spcOk_ne spcOk_head)
open PlainFootnote (lastTokOff flowOut)
open PlainMacroArgs (BP bodyStr argsStr lookupDef defOf argSpans startCur bodyMarks groupMarks argsLen
  bodyInserted digitChar)
open PlainUnkn2 (MPart renderM)
open PlainMathRich (MT mtoks fTxt anchor)
open PlainDefTex (defName paramStr ddefOk paramStr_length defName_eq)

/-- the definitions in force: name (without backslash), number of parameters, body; latest first -/
abbrev Env := PlainMacroArgs.Env


inductive Seg where
  | txt (s : Str)
  | spc (k : Str)
  | opn
  | cls
  | cw (name sp : Str)
  | van (name key : Str)
  | com (body : Str)
  | verb (d : Char) (s : Str)
  /-- an inline formula `$body$` (`par = false`) or `\(body\)` of the rich class -/
  | math (par : Bool) (body : List MPart)
  | ref (name key : Str)
  | cite (name key : Str)
  | citeN (name note key : Str)
  | foot (body : Str)
  | head (name title : Str)
  /-- an accent call `\name ws {l}` (`bo = true`) or `\name ws l` -/
  | acc (name ws : Str) (bo : Bool) (l : Char)
  /-- a definition `\newcommand{\name}[n]{body}` -/
  | defn (name : Str) (n : Nat) (body : List BP)
  /-- a definition `\def\name#1…#n{body}` -/
  | ddef (name : Str) (n : Nat) (body : List BP)
  /-- `\par` with the white space behind it -/
  | ppar (ws : Str)
  /-- `\begin{name}{arg}` of a paragraph-forming environment (`minipage`, `thebibliography`) -/
  | pbeg (name arg : Str)
  /-- `\end{name}` of a paragraph-forming environment -/
  | pen (name : Str)
  /-- a call `\name{body}` of a macro declared like `\footnote` (`\footnotetext`, `\caption`) -/
  | call (name body : Str)
  /-- a call `\name[opt]{body}` of a macro declared like `\footnote` -/
  | callO (name opt body : Str)
  /-- `\end{name}` of a float environment (`figure`, `table`) -/
  | fen (name : Str)
  /-- `\begin{name}[placement]` of a float environment -/
  | fbegN (name note : Str)
  /-- `\begin{name}` of a float environment and the white space `ws` behind it (which it swallows) -/
  | fbeg (name ws : Str)
  /-- a use `\name{a1}…{am}` of a name that is not declared in the initialised parser -/
  | use (name : Str) (args : List Str)
  /-- a simple displayed equation `\[body\]` -/
  | disp (body : Str)
  /-- a simple displayed equation `\begin{name}body\end{name}` -/
  | denv (name body : Str)
  /-- `\begin{name}` of a list environment -/
  | beg (name : Str)
  /-- `\item` with the white space behind it -/
  | item (ws : Str)
  /-- `\item ws [label]`; `pc` = the punctuation mark that is repeated behind the label (checked by `pvLive`) -/
  | itemL (ws label : Str) (pc : Option Char)
  /-- `\begin{name}` / `\end{name}` of an UNDECLARED environment (`description` in the tables of /repo) -/
  | ubeg (name : Str)
  | uen (name : Str)
  /-- `\end{name}` of a list environment -/
  | en (name : Str)
deriving Repr, DecidableEq

def Seg.render : Seg → Str
  | .txt s => s
  | .spc k => k
  | .opn => ['{']
  | .cls => ['}']
  | .cw name sp => '\\' :: (name ++ sp)
  | .van name key => '\\' :: (name ++ '{' :: (key ++ ['}']))
  | .com body => '%' :: body
  | .verb d s => '\\' :: 'v' :: 'e' :: 'r' :: 'b' :: d :: (s ++ [d])
  | .math par body => PlainMathRich.opn par ++ (renderM body ++ PlainMathRich.cls par)
  | .ref name key => '\\' :: (name ++ '{' :: (key ++ ['}']))
  | .cite name key => '\\' :: (name ++ '{' :: (key ++ ['}']))
  | .citeN name note key => '\\' :: (name ++ '[' :: (note ++ ']' :: '{' :: (key ++ ['}'])))
  | .foot body => '\\' :: 'f' :: 'o' :: 'o' :: 't' :: 'n' :: 'o' :: 't' :: 'e' :: '{' :: (body ++ ['}'])
  | .head name title => '\\' :: (name ++ '{' :: (title ++ ['}']))
  | .acc name ws bo l => '\\' :: (name ++ (ws ++ PlainAccent.argStr bo l))
  | .defn name n body =>
    '\\' :: (ncName ++ '{' :: '\\' :: (name ++ '}' :: '[' :: digitChar n :: ']' :: '{' ::
      (bodyStr body ++ ['}'])))
  | .ddef name n body =>
    '\\' :: (defName ++ '\\' :: (name ++ (paramStr 1 n ++ '{' :: (bodyStr body ++ ['}']))))
  | .ppar ws => '\\' :: (PlainParEnv.parName ++ ws)
  | .pbeg name arg => '\\' :: (PlainItem.nBegin ++ '{' :: (name ++ '}' :: '{' :: (arg ++ ['}'])))
  | .pen name => '\\' :: (PlainItem.nEnd ++ '{' :: (name ++ ['}']))
  | .call name body => '\\' :: (name ++ '{' :: (body ++ ['}']))
  | .callO name opt body => '\\' :: (name ++ '[' :: (opt ++ ']' :: '{' :: (body ++ ['}'])))
  | .fen name => '\\' :: (PlainItem.nEnd ++ '{' :: (name ++ ['}']))
  | .fbegN name note => '\\' :: (PlainItem.nBegin ++ '{' :: (name ++ '}' :: '[' :: (note ++ [']'])))
  | .fbeg name ws => '\\' :: (PlainItem.nBegin ++ '{' :: (name ++ '}' :: ws))
  | .use name args => '\\' :: (name ++ argsStr args)
  | .disp body => '\\' :: '[' :: (body ++ ['\\', ']'])
  | .denv name body =>
    '\\' :: (PlainItem.nBegin ++ '{' :: (name ++ '}' :: (body ++ PlainDisplay.endSrc name [])))
  | .beg name => '\\' :: (PlainItem.nBegin ++ '{' :: (name ++ ['}']))
  | .item ws => '\\' :: (PlainItem.nItem ++ ws)
  | .itemL ws label _ => '\\' :: (PlainItem.nItem ++ (ws ++ '[' :: (label ++ [']'])))
  | .ubeg name => '\\' :: (PlainItem.nBegin ++ '{' :: (name ++ ['}']))
  | .uen name => '\\' :: (PlainItem.nEnd ++ '{' :: (name ++ ['}']))
  | .en name => '\\' :: (PlainItem.nEnd ++ '{' :: (name ++ ['}']))

def render : List Seg → Str
  | [] => []
  | s :: rest => s.render ++ render rest

def grp (body : List Seg) : List Seg := .opn :: (body ++ [.cls])

def mac (name : Str) (args : List (List Seg)) : List Seg := .cw name [] :: (args.map grp).flatten

def Seg.len (s : Seg) : Nat := s.render.length


inductive Item where
  | chr (c : Char) (p : Nat)
  /-- a construct of `len` characters whose marks depend on nothing -/
  | fix (ms : List Mark) (len : Nat)
  /-- an undeclared control word (`len` characters with the white space behind it) -/
  | cw (name : Str) (len : Nat)
  | math (m : List MT) (len : Nat)
  | foot (fl : List (Char × Nat)) (len : Nat)
  | defn (p : Nat) (name : Str) (n : Nat) (body : List BP)
  | ddef (p : Nat) (name : Str) (n : Nat) (body : List BP)
  | use (p : Nat) (name : Str) (args : List Str)
  /-- a displayed equation: its marks as a function of the placeholder -/
  | disp (ms : Str → List Mark) (len : Nat)
  /-- a labelled item: its marks, the repeated punctuation mark, the label -/
  | itemL (ms : List Mark) (len : Nat) (pc : Option Char) (label : Str)
  /-- `\begin{name}` of an undeclared environment: the name goes to the unknowns (without backslash) -/
  | ubeg (name : Str) (len : Nat)
  /-- a list command: its marks as a function of the label generators, what it does to them, the
      condition on them -/
  | stk (ms : List ItemGen → List Mark) (upd : List ItemGen → List ItemGen) (ok : List ItemGen → Bool)
      (len : Nat)

def chrItems : Nat → Str → List Item
  | _, [] => []
  | p, c :: cs => .chr c p :: chrItems (p + 1) cs

/-- the marks of a formula with the maths tokens `m` and the placeholder `ph`: an Action mark, the
    rendering `PlainMathRich.fTxt` (`[blank] ph [punctuation] [blank]`), every character pinned to
    the position of the first maths token, and another Action mark -/
def mathMarksR (T : PTables) (ph : Str) (m : List MT) : List Mark :=
  none :: ((fTxt T ph m).map (fun c => some (c, anchor m)) ++ [none])

/-- a maths token with the text of a control word does not name a user macro -/
def liveTxt (env : Env) : Str → Bool
  | '\\' :: nm => (lookupDef env nm).isNone
  | _ => true

/-- **the reference on items**: the marks of the main flow; `l` = the stored collections of inline /
    display placeholders, `env` = the definitions in force, `stk` = the label generators -/
def refMarks (T : PTables) : Colls → Env → List ItemGen → List Item → List Mark
  | _, _, _, [] => []
  | l, env, stk, .chr c p :: r => some (c, p) :: refMarks T l env stk r
  | l, env, stk, .fix ms _ :: r => ms ++ refMarks T l env stk r
  | l, env, stk, .cw _ _ :: r => none :: refMarks T l env stk r
  | l, env, stk, .math m _ :: r => mathMarksR T ((rotL l.1).headD []) m ++ refMarks T (rotL l.1, l.2) env stk r
  | l, env, stk, .foot _ _ :: r => none :: refMarks T l env stk r
  | l, env, stk, .defn _ name n body :: r => none :: refMarks T l ((name, n, body) :: env) stk r
  | l, env, stk, .ddef _ name n body :: r => none :: refMarks T l ((name, n, body) :: env) stk r
  | l, env, stk, .use p name args :: r =>
    none :: (bodyMarks (argSpans (p + name.length + 1) args)
              (startCur (argSpans (p + name.length + 1) args) p (defOf env name).2) (defOf env name).2
      ++ (groupMarks ((argSpans (p + name.length + 1) args).drop (defOf env name).1)
      ++ refMarks T l env stk r))
  | l, env, stk, .disp ms _ :: r => ms ((rotL l.2).headD []) ++ refMarks T (l.1, rotL l.2) env stk r
  | l, env, stk, .itemL ms _ _ _ :: r => ms ++ refMarks T l env stk r
  | l, env, stk, .ubeg _ _ :: r => none :: refMarks T l env stk r
  | l, env, stk, .stk ms upd _ _ :: r => ms stk ++ refMarks T l env (upd stk) r

/-- the names that are recorded as unknown (with backslash, in order, with repetitions) -/
def refNames : Env → List Item → List Str
  | _, [] => []
  | env, .cw name _ :: r => ('\\' :: name) :: refNames env r
  | env, .defn _ name n body :: r => refNames ((name, n, body) :: env) r
  | env, .ddef _ name n body :: r => refNames ((name, n, body) :: env) r
  | env, .use _ name _ :: r =>
    (if (lookupDef env name).isNone then [('\\' :: name)] else []) ++ refNames env r
  | env, .ubeg name _ :: r => name :: refNames env r
  | env, _ :: r => refNames env r

/-- the conditions that depend on the definitions in force: a control word (in text or in a
    formula) is not defined at that point; a use has enough groups -/
def refOk : Env → List ItemGen → List Item → Bool
  | _, _, [] => true
  | env, stk, .cw name _ :: r => (lookupDef env name).isNone && refOk env stk r
  | env, stk, .math m _ :: r => m.all (fun x => liveTxt env x.txt) && refOk env stk r
  | env, stk, .defn _ name n body :: r => refOk ((name, n, body) :: env) stk r
  | env, stk, .ddef _ name n body :: r => refOk ((name, n, body) :: env) stk r
  | env, stk, .use _ name args :: r => decide ((defOf env name).1 ≤ args.length) && refOk env stk r
  | env, stk, .stk _ upd ok _ :: r => ok stk && refOk env (upd stk) r
  | env, stk, _ :: r => refOk env stk r

/-- tokens inserted by the uses (upper bound) -/
def refIns : Env → List Item → Nat
  | _, [] => 0
  | env, .defn _ name n body :: r => refIns ((name, n, body) :: env) r
  | env, .ddef _ name n body :: r => refIns ((name, n, body) :: env) r
  | env, .use p name args :: r =>
    bodyInserted (argSpans (p + name.length + 1) args) (defOf env name).2 + refIns env r
  | env, .itemL _ _ _ _ :: r => 1 + refIns env r
  | env, _ :: r => refIns env r

def itemsLen : List Item → Nat
  | [] => 0
  | .chr _ _ :: r => 1 + itemsLen r
  | .fix _ len :: r => len + itemsLen r
  | .cw _ len :: r => len + itemsLen r
  | .math _ len :: r => len + itemsLen r
  | .foot _ len :: r => len + itemsLen r
  | .defn _ name _ body :: r => name.length + (bodyStr body).length + 19 + itemsLen r
  | .ddef _ name n body :: r => name.length + (bodyStr body).length + 2 * n + 7 + itemsLen r
  | .use _ name args :: r => name.length + 1 + argsLen args + itemsLen r
  | .disp _ len :: r => len + itemsLen r
  | .itemL _ len _ _ :: r => len + itemsLen r
  | .ubeg _ len :: r => len + itemsLen r
  | .stk _ _ _ len :: r => len + itemsLen r

def refFlows : List Item → List (Char × Nat)
  | [] => []
  | .foot fl _ :: r => fl ++ refFlows r
  | _ :: r => refFlows r

def refNF : List Item → Nat
  | [] => 0
  | .math _ _ :: r => refNF r + 1
  | _ :: r => refNF r

def refND : List Item → Nat
  | [] => 0
  | .disp _ _ :: r => refND r + 1
  | _ :: r => refND r


/-- what the reference knows about the text of the last non-blank output token: `none` = nothing,
    `some v` = its last character is `v` (`none`: there is no such token) -/
abbrev PvK := Option (Option Char)

/-- … behind a text character -/
def kChar (k : PvK) (c : Char) : PvK := if isSpace c then k else some (some c)

/-- … behind a text -/
def kText (k : PvK) (s : Str) : PvK := s.foldl kChar k

def blankMark : Mark → Bool
  | none => true
  | some (c, _) => isSpace c

/-- … behind a construct with the marks `ms`: unchanged if it leaves no visible character,
    unknown otherwise (the token boundaries are not visible in the marks) -/
def kMarks (k : PvK) (ms : List Mark) : PvK := if ms.all blankMark then k else none

/-- … behind `\item[label]` with the repeated punctuation `pc` -/
def kItemL (k : PvK) (label : Str) (pc : Option Char) : PvK :=
  k.map (fun v => PlainItemL.pvPunct (PlainItemL.pvText v label) pc)

/-- the declared punctuation of a labelled item is the one the model repeats: the last visible
    output character is KNOWN and `pc` = that character if it is in `item_punctuation` -/
def pcOk (T : PTables) (k : PvK) (pc : Option Char) : Bool :=
  match k with
  | some v => PlainItemL.punctOf T v == pc
  | none => false

/-- the condition on the labelled items, on items -/
def refPv (T : PTables) : List ItemGen → PvK → List Item → Bool
  | _, _, [] => true
  | stk, k, .chr c _ :: r => refPv T stk (kChar k c) r
  | stk, k, .fix ms _ :: r => refPv T stk (kMarks k ms) r
  | stk, k, .cw _ _ :: r => refPv T stk k r
  | stk, _, .math _ _ :: r => refPv T stk none r
  | stk, k, .foot _ _ :: r => refPv T stk k r
  | stk, k, .defn _ _ _ _ :: r => refPv T stk k r
  | stk, k, .ddef _ _ _ _ :: r => refPv T stk k r
  | stk, _, .use _ _ _ :: r => refPv T stk none r
  | stk, _, .disp _ _ :: r => refPv T stk none r
  | stk, k, .ubeg _ _ :: r => refPv T stk k r
  | stk, k, .stk ms upd _ _ :: r => refPv T (upd stk) (kMarks k (ms stk)) r
  | stk, k, .itemL _ _ pc label :: r => pcOk T k pc && refPv T stk (kItemL k label pc) r

theorem refPv_chrItems (T : PTables) (stk : List ItemGen) (items : List Item) : ∀ (s : Str) (k : PvK) (p : Nat),
    refPv T stk k (chrItems p s ++ items) = refPv T stk (kText k s) items
  | [], _, _ => rfl
  | c :: cs, k, p => by simp [chrItems, refPv, kText, refPv_chrItems T stk items cs (kChar k c) (p + 1)]
theorem chrItems_skip {β : Type} (f : List Item → β) (h : ∀ c p r, f (.chr c p :: r) = f r)
    (items : List Item) : ∀ (s : Str) (p : Nat), f (chrItems p s ++ items) = f items
  | [], _ => rfl
  | c :: cs, p => (h c p _).trans (chrItems_skip f h items cs (p + 1))

theorem refMarks_chrItems (T : PTables) (l : Colls) (env : Env) (stk : List ItemGen)
    (items : List Item) : ∀ (s : Str) (p : Nat),
      refMarks T l env stk (chrItems p s ++ items) = (posText p s).map some ++ refMarks T l env stk items
  | [], _ => rfl
  | c :: cs, p => by simp [chrItems, refMarks, posText, refMarks_chrItems T l env stk items cs (p + 1)]

theorem itemsLen_chrItems (items : List Item) : ∀ (s : Str) (p : Nat),
    itemsLen (chrItems p s ++ items) = s.length + itemsLen items
  | [], _ => by simp [chrItems]
  | c :: cs, p => by simp [chrItems, itemsLen, itemsLen_chrItems items cs (p + 1)]; omega


/-- the full stop `h_heading` appends to a title that starts at position `q` -/
def dotMarks (T : PTables) (q : Nat) (title : Str) : List Mark :=
  if PlainHeading.needsDot T title then [some ('.', q + lastTokOff title)] else []

/-- the marks of a displayed equation at position `p` whose body starts at `p + o`, with the
    placeholder `ph`: a mark, two blanks at `p` (the indentation), the placeholder at the first
    ELEMENT character of the body (no white space, no operator of `ops`, no punctuation), the
    closing punctuation mark at the first character of the body that is no white space, a mark -/
def dispMarks (T : PTables) (ops : List Str) (ph : Str) (p o : Nat) (body : Str) : List Mark :=
  none :: some (' ', p) :: some (' ', p) ::
    (ph.map (fun c => some (c, p + o + PlainDisplay.elemOff T ops body)) ++
      ((PlainMath.punctOf T body).map (fun c => some (c, p + o + PlainMath.leadBlanks body)) ++ [none]))

/-- the marks of `\item` at position `p`: a mark, a blank, the next label of the innermost generator,
    a blank — all at `p` -/
def itemMarks (T : PTables) (p : Nat) (stk : List ItemGen) : List Mark :=
  none :: some (' ', p) :: ((PlainItem.labOf T stk).map (fun c => some (c, p)) ++ [some (' ', p)])

/-- the marks of `\item ws [label]` at position `p` with the repeated punctuation `pc`: a blank at
    `p`, two marks, the label at its own positions, a mark, the punctuation and a blank, both at
    the start of the last token of the label (`PlainItemL.labLast`; at `[` for an empty label) -/
def itemLMarks (p : Nat) (ws label : Str) (pc : Option Char) : List Mark :=
  some (' ', p) :: none :: none :: ((posText (p + (ws.length + 5) + 1) label).map some ++
    none :: (PlainItemL.punctMarks pc (PlainItemL.labLast (p + (ws.length + 5)) label) ++
      [some (' ', PlainItemL.labLast (p + (ws.length + 5)) label)]))
/-- the marks of a stateless segment that starts at position `p` (`[]` for the other kinds) -/
def fixOf (T : PTables) (st1 : PState) (p : Nat) : Seg → List Mark
  | .spc key => none :: (posText p (specialValD T.toTables key)).map some
  | .opn => [none]
  | .cls => [none]
  | .van _ _ => [none]
  | .verb _ s => none :: (posText (p + 6) s).map some
  | .ref name _ => none :: PlainRef.fixMarks p (PlainRef.phOf st1 name)
  | .cite _ _ => none :: (PlainRef.fixMarks p "[0]".toList ++ [none])
  | .citeN name note _ =>
    none :: (PlainRef.fixMarks p "[0, ".toList ++ ((posText (p + name.length + 2) note).map some ++
      [some (']', p + name.length + 2 + lastTokOff note), none]))
  | .head name title =>
    none :: ((posText (p + name.length + 2) title).map some ++ dotMarks T (p + name.length + 2) title)
  | .ppar _ => none :: PlainRef.fixMarks p [nl, nl]
  | .pbeg _ _ => PlainRef.fixMarks p [nl, nl] ++ [none]
  | .pen _ => PlainRef.fixMarks p [nl, nl]
  | .uen _ => [none]
  | .fen _ => [none]
  | .fbegN _ _ => [none, none]
  | .fbeg _ _ => [none, none]
  | .acc name _ _ l => (PlainAccent.accVal T name l).map (fun x => some (x, p))
  | _ => []

def itemsOf (T : PTables) (st1 : PState) : Nat → List Seg → List Item
  | _, [] => []
  | p, .txt s :: rest => chrItems p s ++ itemsOf T st1 (p + s.length) rest
  | p, .cw name sp :: rest =>
    .cw name (name.length + 1 + sp.length) :: itemsOf T st1 (p + (Seg.cw name sp).len) rest
  | p, .math par body :: rest =>
    .math (mtoks T (p + (PlainMathRich.opn par).length) body) (Seg.math par body).len
      :: itemsOf T st1 (p + (Seg.math par body).len) rest
  | p, .foot body :: rest =>
    .foot (flowOut (p + 10) body) (body.length + 11) :: itemsOf T st1 (p + (Seg.foot body).len) rest
  | p, .defn name n body :: rest =>
    .defn p name n body :: itemsOf T st1 (p + (Seg.defn name n body).len) rest
  | p, .ddef name n body :: rest =>
    .ddef p name n body :: itemsOf T st1 (p + (Seg.ddef name n body).len) rest
  | p, .call name body :: rest =>
    .foot (flowOut (p + name.length + 2) body) (name.length + body.length + 3)
      :: itemsOf T st1 (p + (Seg.call name body).len) rest
  | p, .callO name opt body :: rest =>
    .foot (flowOut (p + name.length + opt.length + 4) body) (name.length + opt.length + body.length + 5)
      :: itemsOf T st1 (p + (Seg.callO name opt body).len) rest
  | p, .use name args :: rest => .use p name args :: itemsOf T st1 (p + (Seg.use name args).len) rest
  | p, .disp body :: rest =>
    .disp (fun ph => dispMarks T st1.mathOperators ph p 2 body) (body.length + 4)
      :: itemsOf T st1 (p + (Seg.disp body).len) rest
  | p, .denv name body :: rest =>
    .disp (fun ph => none :: none :: dispMarks T st1.mathOperators ph p (name.length + 8) body)
        (2 * name.length + body.length + 14)
      :: itemsOf T st1 (p + (Seg.denv name body).len) rest
  | p, .beg name :: rest =>
    .stk (fun _ => PlainItem.envMarks (PlainItem.envOf st1 name) p ++ [none])
        (fun stk => PlainItem.begStk st1 stk name) (fun _ => true) (name.length + 8)
      :: itemsOf T st1 (p + (Seg.beg name).len) rest
  | p, .item ws :: rest =>
    .stk (itemMarks T p) PlainItem.itemStk (fun stk => PlainItem.labelAt T st1 stk) (ws.length + 5)
      :: itemsOf T st1 (p + (Seg.item ws).len) rest
  | p, .itemL ws label pc :: rest =>
    .itemL (itemLMarks p ws label pc) (ws.length + label.length + 7) pc label
      :: itemsOf T st1 (p + (Seg.itemL ws label pc).len) rest
  | p, .ubeg name :: rest => .ubeg name (name.length + 8) :: itemsOf T st1 (p + (Seg.ubeg name).len) rest
  | p, .en name :: rest =>
    .stk (fun _ => PlainItem.envMarks (PlainItem.envOf st1 name) p) PlainItem.endStk (fun _ => true)
        (name.length + 6)
      :: itemsOf T st1 (p + (Seg.en name).len) rest
  | p, s :: rest => .fix (fixOf T st1 p s) s.len :: itemsOf T st1 (p + s.len) rest

/-- **the reference for the main flow**, in closed form: the document, which starts at position
    `p`, as a list of marks (`some (c, pos)` = an output character with its position, `none` = the
    model leaves an Action token there); `repls` = the inline placeholders of the language, `k` =
    the number of formulas in front, `env` = the definitions in force:
    * text: every character with its own position;
    * a stateless construct: `fixOf` (special sequences, braces, vanishing calls, `\verb`,
      references, citations, headings as in `PlainMix2.marks`; an accent call: the character(s) of
      the table at the backslash, NO mark; a comment: nothing);
    * a control word, a footnote: a mark;
    * the `k+1`-st formula: `mathMarksR` with the placeholder `PlainMath.placeholder repls (k+1)`;
    * a definition: a mark; it comes into force behind it;
    * a use `\name{a1}…{am}`: a mark, the body of the definition in force with `#k` replaced by
      the `k`-th argument at its own positions (`PlainMacroArgs.bodyMarks`), the groups that are
      left (`groupMarks`); for an undefined name: a mark and all groups. -/
def marks (T : PTables) (st1 : PState) (repls drepls : List Str) :
    Env → List ItemGen → Nat → Nat → Nat → List Seg → List Mark
  | _, _, _, _, _, [] => []
  | env, stk, k, k2, p, .txt s :: rest =>
    (posText p s).map some ++ marks T st1 repls drepls env stk k k2 (p + s.length) rest
  | env, stk, k, k2, p, .cw name sp :: rest =>
    none :: marks T st1 repls drepls env stk k k2 (p + (Seg.cw name sp).len) rest
  | env, stk, k, k2, p, .math par body :: rest =>
    mathMarksR T (PlainMath.placeholder repls (k + 1)) (mtoks T (p + (PlainMathRich.opn par).length) body)
      ++ marks T st1 repls drepls env stk (k + 1) k2 (p + (Seg.math par body).len) rest
  | env, stk, k, k2, p, .foot body :: rest => none :: marks T st1 repls drepls env stk k k2 (p + (Seg.foot body).len) rest
  | env, stk, k, k2, p, .defn name n body :: rest =>
    none :: marks T st1 repls drepls ((name, n, body) :: env) stk k k2 (p + (Seg.defn name n body).len) rest
  | env, stk, k, k2, p, .ddef name n body :: rest =>
    none :: marks T st1 repls drepls ((name, n, body) :: env) stk k k2 (p + (Seg.ddef name n body).len) rest
  | env, stk, k, k2, p, .call name body :: rest =>
    none :: marks T st1 repls drepls env stk k k2 (p + (Seg.call name body).len) rest
  | env, stk, k, k2, p, .callO name opt body :: rest =>
    none :: marks T st1 repls drepls env stk k k2 (p + (Seg.callO name opt body).len) rest
  | env, stk, k, k2, p, .use name args :: rest =>
    none :: (bodyMarks (argSpans (p + name.length + 1) args)
              (startCur (argSpans (p + name.length + 1) args) p (defOf env name).2) (defOf env name).2
      ++ (groupMarks ((argSpans (p + name.length + 1) args).drop (defOf env name).1)
      ++ marks T st1 repls drepls env stk k k2 (p + (Seg.use name args).len) rest))
  | env, stk, k, k2, p, .disp body :: rest =>
    dispMarks T st1.mathOperators (PlainMath.placeholder drepls (k2 + 1)) p 2 body
      ++ marks T st1 repls drepls env stk k (k2 + 1) (p + (Seg.disp body).len) rest
  | env, stk, k, k2, p, .denv name body :: rest =>
    none :: none ::
      dispMarks T st1.mathOperators (PlainMath.placeholder drepls (k2 + 1)) p (name.length + 8) body
      ++ marks T st1 repls drepls env stk k (k2 + 1) (p + (Seg.denv name body).len) rest
  | env, stk, k, k2, p, .beg name :: rest =>
    PlainItem.envMarks (PlainItem.envOf st1 name) p ++ none ::
      marks T st1 repls drepls env (PlainItem.begStk st1 stk name) k k2 (p + (Seg.beg name).len) rest
  | env, stk, k, k2, p, .item ws :: rest =>
    itemMarks T p stk
      ++ marks T st1 repls drepls env (PlainItem.itemStk stk) k k2 (p + (Seg.item ws).len) rest
  | env, stk, k, k2, p, .itemL ws label pc :: rest =>
    itemLMarks p ws label pc
      ++ marks T st1 repls drepls env stk k k2 (p + (Seg.itemL ws label pc).len) rest
  | env, stk, k, k2, p, .ubeg name :: rest =>
    none :: marks T st1 repls drepls env stk k k2 (p + (Seg.ubeg name).len) rest
  | env, stk, k, k2, p, .en name :: rest =>
    PlainItem.envMarks (PlainItem.envOf st1 name) p
      ++ marks T st1 repls drepls env (PlainItem.endStk stk) k k2 (p + (Seg.en name).len) rest
  | env, stk, k, k2, p, s :: rest => fixOf T st1 p s ++ marks T st1 repls drepls env stk k k2 (p + s.len) rest

/-- the names that are recorded as unknown: undeclared control words and uses of names that are
    not (yet) defined — with backslash, in order of occurrence, with repetitions -/
def unkNames : Env → List Seg → List Str
  | _, [] => []
  | env, .cw name _ :: rest => ('\\' :: name) :: unkNames env rest
  | env, .defn name n body :: rest => unkNames ((name, n, body) :: env) rest
  | env, .ddef name n body :: rest => unkNames ((name, n, body) :: env) rest
  | env, .use name _ :: rest =>
    (if (lookupDef env name).isNone then [('\\' :: name)] else []) ++ unkNames env rest
  | env, .ubeg name :: rest => name :: unkNames env rest
  | env, _ :: rest => unkNames env rest

def cwsOf : List MPart → List Str
  | [] => []
  | .cw name :: r => name :: cwsOf r
  | _ :: r => cwsOf r

/-- the side conditions that depend on the definitions in force (computable): an undeclared
    control word — in the text or in a formula — is not defined at that point (else it would be a
    use); a use has at least as many groups as the definition in force has parameters -/
def liveOk (T : PTables) (st1 : PState) : Env → List ItemGen → Nat → List Seg → Bool
  | _, _, _, [] => true
  | env, stk, p, .cw name sp :: rest =>
    (lookupDef env name).isNone && liveOk T st1 env stk (p + (Seg.cw name sp).len) rest
  | env, stk, p, .math par body :: rest =>
    (mtoks T (p + (PlainMathRich.opn par).length) body).all (fun x => liveTxt env x.txt) &&
      liveOk T st1 env stk (p + (Seg.math par body).len) rest
  | env, stk, p, .defn name n body :: rest =>
    liveOk T st1 ((name, n, body) :: env) stk (p + (Seg.defn name n body).len) rest
  | env, stk, p, .ddef name n body :: rest =>
    liveOk T st1 ((name, n, body) :: env) stk (p + (Seg.ddef name n body).len) rest
  | env, stk, p, .use name args :: rest =>
    decide ((defOf env name).1 ≤ args.length) && liveOk T st1 env stk (p + (Seg.use name args).len) rest
  | env, stk, p, .beg name :: rest =>
    liveOk T st1 env (PlainItem.begStk st1 stk name) (p + (Seg.beg name).len) rest
  | env, stk, p, .item ws :: rest =>
    PlainItem.labelAt T st1 stk && liveOk T st1 env (PlainItem.itemStk stk) (p + (Seg.item ws).len) rest
  | env, stk, p, .en name :: rest =>
    liveOk T st1 env (PlainItem.endStk stk) (p + (Seg.en name).len) rest
  | env, stk, p, s :: rest => liveOk T st1 env stk (p + s.len) rest

/-- **the side condition on the labelled items** (computable): `k` = what is known about the last
    visible output character at that point (`some none` at the start); text: the last character that is
    no white space; a construct that leaves no visible character: unchanged; a construct that leaves
    visible characters (a formula, a use, a reference, a generated label, …): UNKNOWN until the next
    visible text character; at a labelled item it must be known, and the declared `pc` must be the
    punctuation mark the model repeats -/
def pvLive (T : PTables) (st1 : PState) : List ItemGen → PvK → Nat → List Seg → Bool
  | _, _, _, [] => true
  | stk, k, p, .txt s :: rest => pvLive T st1 stk (kText k s) (p + s.length) rest
  | stk, k, p, .cw name sp :: rest => pvLive T st1 stk k (p + (Seg.cw name sp).len) rest
  | stk, _, p, .math par body :: rest => pvLive T st1 stk none (p + (Seg.math par body).len) rest
  | stk, k, p, .foot body :: rest => pvLive T st1 stk k (p + (Seg.foot body).len) rest
  | stk, k, p, .defn name n body :: rest => pvLive T st1 stk k (p + (Seg.defn name n body).len) rest
  | stk, k, p, .ddef name n body :: rest => pvLive T st1 stk k (p + (Seg.ddef name n body).len) rest
  | stk, _, p, .use name args :: rest => pvLive T st1 stk none (p + (Seg.use name args).len) rest
  | stk, _, p, .disp body :: rest => pvLive T st1 stk none (p + (Seg.disp body).len) rest
  | stk, _, p, .denv name body :: rest => pvLive T st1 stk none (p + (Seg.denv name body).len) rest
  | stk, k, p, .beg name :: rest =>
    pvLive T st1 (PlainItem.begStk st1 stk name) (kMarks k (PlainItem.envMarks (PlainItem.envOf st1 name) p ++ [none]))
      (p + (Seg.beg name).len) rest
  | stk, k, p, .item ws :: rest =>
    pvLive T st1 (PlainItem.itemStk stk) (kMarks k (itemMarks T p stk)) (p + (Seg.item ws).len) rest
  | stk, k, p, .itemL ws label pc :: rest =>
    pcOk T k pc && pvLive T st1 stk (kItemL k label pc) (p + (Seg.itemL ws label pc).len) rest
  | stk, k, p, .ubeg name :: rest => pvLive T st1 stk k (p + (Seg.ubeg name).len) rest
  | stk, k, p, .call name body :: rest => pvLive T st1 stk k (p + (Seg.call name body).len) rest
  | stk, k, p, .callO name opt body :: rest => pvLive T st1 stk k (p + (Seg.callO name opt body).len) rest
  | stk, k, p, .en name :: rest =>
    pvLive T st1 (PlainItem.endStk stk) (kMarks k (PlainItem.envMarks (PlainItem.envOf st1 name) p))
      (p + (Seg.en name).len) rest
  | stk, k, p, s :: rest => pvLive T st1 stk (kMarks k (fixOf T st1 p s)) (p + s.len) rest
/-- the number of tokens inserted by the uses (upper bound; enters the fuel) -/
def inserted : Env → Nat → List Seg → Nat
  | _, _, [] => 0
  | env, p, .defn name n body :: rest => inserted ((name, n, body) :: env) (p + (Seg.defn name n body).len) rest
  | env, p, .ddef name n body :: rest => inserted ((name, n, body) :: env) (p + (Seg.ddef name n body).len) rest
  | env, p, .use name args :: rest =>
    bodyInserted (argSpans (p + name.length + 1) args) (defOf env name).2
      + inserted env (p + (Seg.use name args).len) rest
  | env, p, .itemL ws label pc :: rest => 1 + inserted env (p + (Seg.itemL ws label pc).len) rest
  | env, p, s :: rest => inserted env (p + s.len) rest

/-- **the reference for the detached flows** (footnotes and calls of macros declared like `\footnote`),
    as in `PlainMix2.flows` -/
def flows : Nat → List Seg → List (Char × Nat)
  | _, [] => []
  | p, .call name body :: rest =>
    flowOut (p + name.length + 2) body ++ flows (p + (Seg.call name body).len) rest
  | p, .callO name opt body :: rest =>
    flowOut (p + name.length + opt.length + 4) body ++ flows (p + (Seg.callO name opt body).len) rest
  | p, .foot body :: rest => flowOut (p + 10) body ++ flows (p + (Seg.foot body).len) rest
  | p, s :: rest => flows (p + s.len) rest

def nFormulas : List Seg → Nat
  | [] => 0
  | .math _ _ :: rest => nFormulas rest + 1
  | _ :: rest => nFormulas rest

def nDisplays : List Seg → Nat
  | [] => 0
  | .disp _ :: rest => nDisplays rest + 1
  | .denv _ _ :: rest => nDisplays rest + 1
  | _ :: rest => nDisplays rest


/-- the text of the first scanner token of a well-formed source: a run of white space, a comment,
    a special sequence, a macro or accent token (`scan_macro`: a control word, or a backslash and
    one more character), the content of a `\verb`, or one character -/
def firstTokTxtV (T : Tables) : Str → Str
  | [] => []
  | d :: ds =>
    if isSpace d then (d :: ds).takeWhile isSpace
    else if d == '%' then (d :: ds).take (commentLen (d :: ds))
    else match matchSpecial T (d :: ds) with
      | some t => t
      | none =>
        if d == '\\' then
          (if (d :: ds).take (macroLen (d :: ds)) == sVerb then (scanVerb T [] 0 (d :: ds)).tok.txt
           else (d :: ds).take (macroLen (d :: ds)))
        else [d]

/-- the text character `c`, followed by `cs` (the whole rest of the source), is inert (`okAtU` of
    Proofs/PlainMixSrc.lean with the exact text of a following accent token) -/
def okAtV (T : PTables) (st : PState) (c : Char) (cs : Str) : Bool :=
  (!(activeChars T st).contains [c] ||
    (!isSpace c && (cs.isEmpty || !(shortKeys T st).contains (c :: firstTokTxtV T.toTables cs)))) &&
  (isSpace c || (!structuralChar c && (matchSpecial T.toTables (c :: cs)).isNone))

def textOkV (T : PTables) (st : PState) : Str → Str → Bool
  | [], _ => true
  | c :: cs, R => okAtV T st c (cs ++ R) && textOkV T st cs R

/-- the control word `\name` + white space `sp`, followed by `R`: `cwOkU` of Proofs/PlainMixSrc.lean -/
abbrev cwOkV := @cwOkU

/-- the value of an accent call has no line break, or is blank (real tables: one or two visible
    characters) — the blank-line removal is described character by character -/
def accNlOk (T : PTables) (name : Str) (l : Char) : Bool :=
  !hasNl (PlainAccent.accVal T name l) || isBlank (PlainAccent.accVal T name l)

/-- `\begin{name}` of a float environment and the white space `ws` behind it, followed by `R`:
    `PlainFlows.begOk` (declared with `figEnvOk`; `ws` is the whole white space, at most one line
    break); `R` is empty or starts with a visible character other than `[`, it does not start with a
    comment (`skip_space` would pass it), and its first token does not have the text `[` (it would
    be taken for the placement) -/
def fbegOk (T : PTables) (st : PState) (name ws R : Str) : Bool :=
  PlainFlows.begOk T st name ws R && R.head?.all (fun d => !isSpace d && d != '[') &&
  R.head?.all (fun d => d != '%') && firstTokTxtV T.toTables R != ['[']
/-- `\item` and the white space `ws` behind it, followed by `R`: `PlainItem.itemOk` (no special
    sequence at the backslash; at most one line break in `ws`; `R` is empty or starts with a visible
    character other than `[`); `R` does not start with a comment (`skip_space` would pass it) and
    its first token does not have the text `[` (a `\verb|[|` would be taken for a label); the blank
    is no active character (the blanks around the label are copied by the loop) -/
def itemOkV (T : PTables) (st : PState) (ws R : Str) : Bool :=
  PlainItem.itemOk T ws R && R.head?.all (fun d => d != '%') &&
  firstTokTxtV T.toTables R != ['['] && !(activeChars T st).contains [' ']

/-- `\item ws [label]`, followed by `R`: `PlainItemL.itemLOk` (no special sequence at the backslash; `ws`
    white space with at most one line break; `[label]`: brackets scanned as text tokens, the label inert
    and without `]`); the blank is no active character; the punctuation marks of `item_punctuation`
    are harmless tokens (`PlainItemL.punctOk`) -/
def itemLOkV (T : PTables) (st : PState) (ws label R : Str) : Bool :=
  PlainItemL.itemLOk T st ws label R && !(activeChars T st).contains [' '] && PlainItemL.punctOk T st
def pcIn (T : PTables) (pc : Option Char) : Bool := pc.all (fun c => T.itemPunctuation.contains [c])

/-- `\par` and the white space `ws` behind it, followed by `R`: `PlainParEnv.parOkS` (one macro token;
    `ws` is the white space `skip_space` eats, at most one line break, the whole run; `R` does not
    start with skippable white space); `\par` is declared as in the real tables
    (`PlainParEnv.parDeclOk`); `R` does not start with a comment (`skip_space` would pass it) -/
def parOkV (T : PTables) (st : PState) (ws R : Str) : Bool :=
  PlainParEnv.parOkS T ws R && PlainParEnv.parOk st && R.head?.all (fun d => d != '%')
/-- well-formed documents, the STATIC part (relative to the initialised state `st`): every segment
    is fine in front of the rendering of the following ones -/
def segsOk (T : PTables) (st : PState) : List Seg → Bool
  | [] => true
  | .txt s :: rest => textOkV T st s (render rest) && segsOk T st rest
  | .spc k :: rest => spcOk T k (render rest) && segsOk T st rest
  | .opn :: rest => braceAt T '{' (render rest) && segsOk T st rest
  | .cls :: rest => braceAt T '}' (render rest) && segsOk T st rest
  | .cw name sp :: rest => cwOkU T st name sp (render rest) && segsOk T st rest
  | .van name key :: rest => PlainVanish.vanOk T st name key (render rest) && segsOk T st rest
  | .com body :: rest => comOk T st body (render rest) && segsOk T st rest
  | .verb d s :: rest => verbOkU T d s (render rest) && segsOk T st rest
  | .math par body :: rest => PlainMathRich.mathOk T st par body (render rest) && segsOk T st rest
  | .ref name key :: rest => PlainRef.refOk T st name key (render rest) && segsOk T st rest
  | .cite name key :: rest =>
    (PlainRef.citeOk T st name key (render rest) && PlainRef.stateOk T st) && segsOk T st rest
  | .citeN name note key :: rest =>
    (PlainRef.citeNOk T st name note key (render rest) && PlainRef.stateOk T st) && segsOk T st rest
  | .foot body :: rest =>
    (PlainFootnote.footOk T st body (render rest) && PlainFootnote.stateOk T st) && segsOk T st rest
  | .head name title :: rest =>
    (PlainHeading.headOk T st name title (render rest) && PlainHeading.stateOk T st)
      && segsOk T st rest
  | .acc name ws bo l :: rest =>
    (PlainAccent.accOk T name ws bo l (render rest) && accNlOk T name l) && segsOk T st rest
  | .defn name n body :: rest =>
    (PlainMacroArgs.defOk T st name n body (render rest) && PlainMacro.ncOk st) && segsOk T st rest
  | .ddef name n body :: rest => ddefOk T st name n body (render rest) && segsOk T st rest
  | .ppar ws :: rest => parOkV T st ws (render rest) && segsOk T st rest
  | .pbeg name arg :: rest => PlainParEnv.begOk T st name arg (render rest) && segsOk T st rest
  | .pen name :: rest => PlainParEnv.endOk T st name (render rest) && segsOk T st rest
  | .call name body :: rest =>
    (PlainFlows.callOk T st name body (render rest) && PlainFlows.stateOk T st) && segsOk T st rest
  | .callO name opt body :: rest =>
    (PlainFlows.callOOk T st name opt body (render rest) && PlainFlows.stateOk T st) && segsOk T st rest
  | .fen name :: rest => PlainFlows.endOk T st name (render rest) && segsOk T st rest
  | .fbegN name note :: rest => PlainFlows.begNOk T st name note (render rest) && segsOk T st rest
  | .fbeg name ws :: rest => fbegOk T st name ws (render rest) && segsOk T st rest
  | .use name args :: rest => PlainMacroArgs.useOk T st name args (render rest) && segsOk T st rest
  | .disp body :: rest =>
    (PlainDisplay.dispOk T st body (render rest) && !st.displayedSimple) && segsOk T st rest
  | .denv name body :: rest =>
    (PlainDisplay.envOk T st name body (render rest) && !st.displayedSimple) && segsOk T st rest
  | .beg name :: rest => PlainItem.begOk T st name (render rest) && segsOk T st rest
  | .item ws :: rest => itemOkV T st ws (render rest) && segsOk T st rest
  | .itemL ws label pc :: rest => (itemLOkV T st ws label (render rest) && pcIn T pc) && segsOk T st rest
  | .ubeg name :: rest => PlainItemL.ubegOk T st name (render rest) && segsOk T st rest
  | .uen name :: rest => PlainItemL.uendOk T st name (render rest) && segsOk T st rest
  | .en name :: rest => PlainItem.endOk T st name (render rest) && segsOk T st rest


/-- a construct at the head of the source, in front of the rest `R` with its items -/
inductive Con (T : PTables) (st : PState) : Nat → Str → List Item → Nat → Str → List Item → Prop
  | spc (p : Nat) (c : Char) (tl R : Str) (items : List Item) : spcOk T (c :: tl) R = true →
      Con T st p (c :: (tl ++ R))
        (.fix (fixOf T st p (.spc (c :: tl))) (tl.length + 1) :: items) (p + (tl.length + 1)) R items
  | br (p : Nat) (c : Char) (R : Str) (items : List Item) : (c = '{' ∨ c = '}') → braceAt T c R = true →
      Con T st p (c :: R) (.fix [none] 1 :: items) (p + 1) R items
  | cw (p : Nat) (name sp R : Str) (items : List Item) : cwOkU T st name sp R = true →
      Con T st p ('\\' :: (name ++ (sp ++ R))) (.cw name (name.length + 1 + sp.length) :: items)
        (p + (name.length + 1 + sp.length)) R items
  | van (p : Nat) (name key R : Str) (items : List Item) : PlainVanish.vanOk T st name key R = true →
      Con T st p ('\\' :: (name ++ '{' :: (key ++ '}' :: R)))
        (.fix [none] (PlainVanish.vanLen name key) :: items) (p + PlainVanish.vanLen name key) R items
  | com (p : Nat) (body R : Str) (items : List Item) : comOk T st body R = true →
      Con T st p ('%' :: (body ++ R)) (.fix [] (body.length + 1) :: items) (p + (body.length + 1)) R items
  | verb (p : Nat) (d : Char) (s R : Str) (items : List Item) : verbOkU T d s R = true →
      Con T st p ('\\' :: 'v' :: 'e' :: 'r' :: 'b' :: d :: (s ++ d :: R))
        (.fix (fixOf T st p (.verb d s)) (s.length + 7) :: items) (p + (s.length + 7)) R items
  | math (p k : Nat) (c : Char) (tl X R : Str) (m : List MT) (items : List Item) :
      PlainMathRich.IsOpen (c :: tl) → PlainMathRich.delimAt T (c :: tl) X = true →
      PlainMathRich.MOk T st k (p + (tl.length + 1)) X R m → m.any (fun x => !x.sp) = true →
      Con T st p (c :: (tl ++ X)) (.math m (tl.length + 1 + k) :: items) (p + (tl.length + 1) + k) R items
  | ref (p : Nat) (name key R : Str) (items : List Item) : PlainRef.refOk T st name key R = true →
      Con T st p ('\\' :: (name ++ '{' :: (key ++ '}' :: R)))
        (.fix (fixOf T st p (.ref name key)) (PlainRef.callLen name key) :: items)
        (p + PlainRef.callLen name key) R items
  | cite (p : Nat) (name key R : Str) (items : List Item) :
      PlainRef.citeOk T st name key R = true → PlainRef.stateOk T st = true →
      Con T st p ('\\' :: (name ++ '{' :: (key ++ '}' :: R)))
        (.fix (fixOf T st p (.cite name key)) (PlainRef.callLen name key) :: items)
        (p + PlainRef.callLen name key) R items
  | citeN (p : Nat) (name note key R : Str) (items : List Item) :
      PlainRef.citeNOk T st name note key R = true → PlainRef.stateOk T st = true →
      Con T st p ('\\' :: (name ++ '[' :: (note ++ ']' :: '{' :: (key ++ '}' :: R))))
        (.fix (fixOf T st p (.citeN name note key)) (PlainRef.callNLen name note key) :: items)
        (p + PlainRef.callNLen name note key) R items
  | foot (p : Nat) (body R : Str) (items : List Item) :
      PlainFootnote.footOk T st body R = true → PlainFootnote.stateOk T st = true →
      Con T st p
        ('\\' :: 'f' :: 'o' :: 'o' :: 't' :: 'n' :: 'o' :: 't' :: 'e' :: '{' :: (body ++ '}' :: R))
        (.foot (flowOut (p + 10) body) (body.length + 11) :: items) (p + (body.length + 11)) R items
  | head (p : Nat) (name title R : Str) (items : List Item) :
      PlainHeading.headOk T st name title R = true → PlainHeading.stateOk T st = true →
      Con T st p ('\\' :: (name ++ '{' :: (title ++ '}' :: R)))
        (.fix (fixOf T st p (.head name title)) (name.length + title.length + 3) :: items)
        (p + (name.length + title.length + 3)) R items
  | acc (p : Nat) (name ws : Str) (bo : Bool) (l : Char) (R : Str) (items : List Item) :
      PlainAccent.accOk T name ws bo l R = true → accNlOk T name l = true →
      Con T st p ('\\' :: (name ++ (ws ++ (PlainAccent.argStr bo l ++ R))))
        (.fix (fixOf T st p (.acc name ws bo l)) (PlainAccent.accLen name ws bo) :: items)
        (p + PlainAccent.accLen name ws bo) R items
  | defn (p : Nat) (name : Str) (n : Nat) (body : List BP) (R : Str) (items : List Item) :
      PlainMacroArgs.defOk T st name n body R = true → PlainMacro.ncOk st = true →
      Con T st p ('\\' :: (ncName ++ '{' :: '\\' :: (name ++ '}' :: '[' :: digitChar n :: ']' :: '{' ::
          (bodyStr body ++ '}' :: R))))
        (.defn p name n body :: items) (p + (name.length + (bodyStr body).length + 19)) R items
  | ddef (p : Nat) (name : Str) (n : Nat) (body : List BP) (R : Str) (items : List Item) :
      ddefOk T st name n body R = true →
      Con T st p ('\\' :: (defName ++ '\\' :: (name ++ (paramStr 1 n ++ '{' :: (bodyStr body ++ '}' :: R)))))
        (.ddef p name n body :: items) (p + (name.length + (bodyStr body).length + 2 * n + 7)) R items
  | ppar (p : Nat) (ws R : Str) (items : List Item) : parOkV T st ws R = true →
      Con T st p ('\\' :: (PlainParEnv.parName ++ (ws ++ R)))
        (.fix (fixOf T st p (.ppar ws)) (ws.length + 4) :: items) (p + (ws.length + 4)) R items
  | pbeg (p : Nat) (name arg R : Str) (items : List Item) : PlainParEnv.begOk T st name arg R = true →
      Con T st p ('\\' :: (PlainItem.nBegin ++ '{' :: (name ++ '}' :: '{' :: (arg ++ '}' :: R))))
        (.fix (fixOf T st p (.pbeg name arg)) (name.length + arg.length + 10) :: items)
        (p + (name.length + arg.length + 10)) R items
  | pen (p : Nat) (name R : Str) (items : List Item) : PlainParEnv.endOk T st name R = true →
      Con T st p ('\\' :: (PlainItem.nEnd ++ '{' :: (name ++ '}' :: R)))
        (.fix (fixOf T st p (.pen name)) (name.length + 6) :: items) (p + (name.length + 6)) R items
  | call (p : Nat) (name body R : Str) (items : List Item) :
      PlainFlows.callOk T st name body R = true → PlainFlows.stateOk T st = true →
      Con T st p ('\\' :: (name ++ '{' :: (body ++ '}' :: R)))
        (.foot (flowOut (p + name.length + 2) body) (name.length + body.length + 3) :: items)
        (p + (name.length + body.length + 3)) R items
  | callO (p : Nat) (name opt body R : Str) (items : List Item) :
      PlainFlows.callOOk T st name opt body R = true → PlainFlows.stateOk T st = true →
      Con T st p ('\\' :: (name ++ '[' :: (opt ++ ']' :: '{' :: (body ++ '}' :: R))))
        (.foot (flowOut (p + name.length + opt.length + 4) body)
          (name.length + opt.length + body.length + 5) :: items)
        (p + (name.length + opt.length + body.length + 5)) R items
  | fen (p : Nat) (name R : Str) (items : List Item) : PlainFlows.endOk T st name R = true →
      Con T st p ('\\' :: (PlainItem.nEnd ++ '{' :: (name ++ '}' :: R)))
        (.fix [none] (name.length + 6) :: items) (p + (name.length + 6)) R items
  | fbegN (p : Nat) (name note R : Str) (items : List Item) : PlainFlows.begNOk T st name note R = true →
      Con T st p ('\\' :: (PlainItem.nBegin ++ '{' :: (name ++ '}' :: '[' :: (note ++ ']' :: R))))
        (.fix [none, none] (name.length + note.length + 10) :: items) (p + (name.length + note.length + 10)) R items
  | fbeg (p : Nat) (name ws R : Str) (items : List Item) : fbegOk T st name ws R = true →
      Con T st p ('\\' :: (PlainItem.nBegin ++ '{' :: (name ++ '}' :: (ws ++ R))))
        (.fix [none, none] (name.length + ws.length + 8) :: items) (p + (name.length + ws.length + 8)) R items
  | use (p : Nat) (name : Str) (args : List Str) (R : Str) (items : List Item) :
      PlainMacroArgs.useOk T st name args R = true →
      Con T st p ('\\' :: (name ++ (argsStr args ++ R))) (.use p name args :: items)
        (p + (name.length + 1 + argsLen args)) R items
  | disp (p : Nat) (body R : Str) (items : List Item) :
      PlainDisplay.dispOk T st body R = true → st.displayedSimple = false →
      Con T st p ('\\' :: '[' :: (body ++ '\\' :: ']' :: R))
        (.disp (fun ph => dispMarks T st.mathOperators ph p 2 body) (body.length + 4) :: items)
        (p + (body.length + 4)) R items
  | denv (p : Nat) (name body R : Str) (items : List Item) :
      PlainDisplay.envOk T st name body R = true → st.displayedSimple = false →
      Con T st p
        ('\\' :: (PlainItem.nBegin ++ '{' :: (name ++ '}' :: (body ++ PlainDisplay.endSrc name R))))
        (.disp (fun ph => none :: none :: dispMarks T st.mathOperators ph p (name.length + 8) body)
          (2 * name.length + body.length + 14) :: items) (p + (2 * name.length + body.length + 14)) R items
  | beg (p : Nat) (name R : Str) (items : List Item) : PlainItem.begOk T st name R = true →
      Con T st p ('\\' :: (PlainItem.nBegin ++ '{' :: (name ++ '}' :: R)))
        (.stk (fun _ => PlainItem.envMarks (PlainItem.envOf st name) p ++ [none])
          (fun stk => PlainItem.begStk st stk name) (fun _ => true) (name.length + 8) :: items)
        (p + (name.length + 8)) R items
  | item (p : Nat) (ws R : Str) (items : List Item) : itemOkV T st ws R = true →
      Con T st p ('\\' :: (PlainItem.nItem ++ (ws ++ R)))
        (.stk (itemMarks T p) PlainItem.itemStk (fun stk => PlainItem.labelAt T st stk) (ws.length + 5)
          :: items) (p + (ws.length + 5)) R items
  | itemL (p : Nat) (ws label : Str) (pc : Option Char) (R : Str) (items : List Item) :
      itemLOkV T st ws label R = true → pcIn T pc = true →
      Con T st p ('\\' :: (PlainItem.nItem ++ (ws ++ '[' :: (label ++ ']' :: R))))
        (.itemL (itemLMarks p ws label pc) (ws.length + label.length + 7) pc label :: items)
        (p + (ws.length + label.length + 7)) R items
  | ubeg (p : Nat) (name R : Str) (items : List Item) : PlainItemL.ubegOk T st name R = true →
      Con T st p ('\\' :: (PlainItem.nBegin ++ '{' :: (name ++ '}' :: R)))
        (.ubeg name (name.length + 8) :: items) (p + (name.length + 8)) R items
  | uen (p : Nat) (name R : Str) (items : List Item) : PlainItemL.uendOk T st name R = true →
      Con T st p ('\\' :: (PlainItem.nEnd ++ '{' :: (name ++ '}' :: R)))
        (.fix [none] (name.length + 6) :: items) (p + (name.length + 6)) R items
  | en (p : Nat) (name R : Str) (items : List Item) : PlainItem.endOk T st name R = true →
      Con T st p ('\\' :: (PlainItem.nEnd ++ '{' :: (name ++ '}' :: R)))
        (.stk (fun _ => PlainItem.envMarks (PlainItem.envOf st name) p) PlainItem.endStk (fun _ => true)
          (name.length + 6) :: items) (p + (name.length + 6)) R items

theorem Con.vis (T : PTables) (st : PState) : ConVis (Con T st) := by
  rintro _ _ _ _ _ _ ⟨⟩
  case spc hd => exact ⟨_, _, rfl, by rw [(spcOk_head hd).1]⟩
  case br hc _ => exact ⟨_, _, rfl, by rcases hc with rfl | rfl <;> rfl⟩
  case math ho _ _ _ => exact ⟨_, _, rfl, ho.facts.1⟩
  -- every other construct starts with a backslash or `%`
  all_goals exact ⟨_, _, rfl, rfl⟩

/-- the source text, which starts at position `p`, with its items -/
abbrev OkSrc (T : PTables) (st : PState) : Nat → Str → List Item → Prop :=
  OkSrcG (okAtV T st) (fun c p l => Item.chr c p :: l) (· = []) (Con T st)

theorem chrs_chrItems (items : List Item) : ∀ (s : Str) (p : Nat),
    chrs (fun c p l => Item.chr c p :: l) p s items = chrItems p s ++ items
  | [], _ => rfl
  | c :: cs, p => by rw [chrs, chrs_chrItems items cs (p + 1)]; rfl

theorem textOkV_eq (T : PTables) (st : PState) : ∀ (s R : Str), textOkV T st s R = textOkG (okAtV T st) s R
  | [], _ => rfl
  | c :: cs, R => by rw [textOkV, textOkG, textOkV_eq T st cs R]

theorem opn_len (par : Bool) : ∃ c tl, PlainMathRich.opn par = c :: tl ∧ PlainMathRich.IsOpen (c :: tl) :=
  PlainMathRich.opn_cases par

theorem OkSrc_of_segsOk (T : PTables) (st : PState) :
    ∀ (segs : List Seg) (p : Nat), segsOk T st segs = true →
      OkSrc T st p (render segs) (itemsOf T st p segs)
  | [], p, _ => .nil p _ rfl
  | .txt s :: rest, p, h => by
    simp only [segsOk, Bool.and_eq_true, textOkV_eq] at h
    have := OkSrcG.text _ _ s p (OkSrc_of_segsOk T st rest _ h.2) h.1
    rwa [chrs_chrItems] at this
  | .spc k :: rest, p, h => by
    simp only [segsOk, Bool.and_eq_true] at h
    cases k with
    | nil => exact absurd rfl (spcOk_ne h.1)
    | cons c tl =>
      have := OkSrcG.con (Con.spc p c tl (render rest) _ h.1) (OkSrc_of_segsOk T st rest _ h.2)
      simpa [render, Seg.render, itemsOf, Seg.len] using this
  | .opn :: rest, p, h => by
    simp only [segsOk, Bool.and_eq_true] at h
    have := OkSrcG.con (Con.br p '{' (render rest) _ (Or.inl rfl) h.1) (OkSrc_of_segsOk T st rest _ h.2)
    simpa [render, Seg.render, itemsOf, Seg.len, fixOf] using this
  | .cls :: rest, p, h => by
    simp only [segsOk, Bool.and_eq_true] at h
    have := OkSrcG.con (Con.br p '}' (render rest) _ (Or.inr rfl) h.1) (OkSrc_of_segsOk T st rest _ h.2)
    simpa [render, Seg.render, itemsOf, Seg.len, fixOf] using this
  | .cw name sp :: rest, p, h => by
    simp only [segsOk, Bool.and_eq_true] at h
    have e : (Seg.cw name sp).len = name.length + 1 + sp.length := by
      simp [Seg.len, Seg.render]; omega
    have := OkSrcG.con (Con.cw p name sp (render rest) _ h.1) (by rw [← e]; exact OkSrc_of_segsOk T st rest _ h.2)
    simpa [render, Seg.render, itemsOf] using this
  | .van name key :: rest, p, h => by
    simp only [segsOk, Bool.and_eq_true] at h
    have e : (Seg.van name key).len = PlainVanish.vanLen name key := by
      simp [Seg.len, Seg.render, PlainVanish.vanLen]; omega
    have := OkSrcG.con (Con.van p name key (render rest) _ h.1) (by rw [← e]; exact OkSrc_of_segsOk T st rest _ h.2)
    simpa [render, Seg.render, itemsOf, fixOf, e] using this
  | .com body :: rest, p, h => by
    simp only [segsOk, Bool.and_eq_true] at h
    have e : (Seg.com body).len = body.length + 1 := by simp [Seg.len, Seg.render]
    have := OkSrcG.con (Con.com p body (render rest) _ h.1) (by rw [← e]; exact OkSrc_of_segsOk T st rest _ h.2)
    simpa [render, Seg.render, itemsOf, fixOf, e] using this
  | .verb d s :: rest, p, h => by
    simp only [segsOk, Bool.and_eq_true] at h
    have e : (Seg.verb d s).len = s.length + 7 := by simp [Seg.len, Seg.render]
    have := OkSrcG.con (Con.verb p d s (render rest) _ h.1) (by rw [← e]; exact OkSrc_of_segsOk T st rest _ h.2)
    simpa [render, Seg.render, itemsOf, e] using this
  | .math par body :: rest, p, h => by
    simp only [segsOk, Bool.and_eq_true] at h
    obtain ⟨hm, hrest⟩ := h
    simp only [PlainMathRich.mathOk, Bool.and_eq_true] at hm
    obtain ⟨⟨⟨h1, h2⟩, h3⟩, h4⟩ := hm
    obtain ⟨c, tl, ho, hopen⟩ := PlainMathRich.opn_cases par
    obtain ⟨c2, tl2, hc, hclose⟩ := PlainMathRich.cls_cases par
    rw [hc] at h1 h2 h4
    rw [ho] at h1
    obtain ⟨k, hk⟩ := PlainMathRich.MOk_parts T st c2 tl2 (render rest) hclose h4 body
      (p + (tl.length + 1)) h2
    have hlen := PlainMathRich.MOk_len hk
    have hk' : k = (renderM body).length + (tl2.length + 1) := by
      simp only [List.length_append, List.length_cons] at hlen; omega
    have e : (Seg.math par body).len = tl.length + 1 + k := by
      simp only [Seg.len, Seg.render, ho, hc, List.length_append, List.length_cons, hk']
    have hol : (PlainMathRich.opn par).length = tl.length + 1 := by rw [ho]; simp
    have hrest' := OkSrc_of_segsOk T st rest (p + (Seg.math par body).len) hrest
    rw [e, ← Nat.add_assoc] at hrest'
    have := OkSrcG.con (Con.math p k c tl _ (render rest) _ _ hopen
      (by simpa [List.append_assoc] using h1) hk
      (by rw [PlainMathRich.mtoks_any]; exact h3)) hrest'
    simp only [render, Seg.render, itemsOf, ho, hc, hol, e]
    simpa [List.append_assoc, Nat.add_assoc] using this
  | .ref name key :: rest, p, h => by
    simp only [segsOk, Bool.and_eq_true] at h
    have e : (Seg.ref name key).len = PlainRef.callLen name key := by
      simp [Seg.len, Seg.render, PlainRef.callLen]; omega
    have := OkSrcG.con (Con.ref p name key (render rest) _ h.1) (by rw [← e]; exact OkSrc_of_segsOk T st rest _ h.2)
    simpa [render, Seg.render, itemsOf, e] using this
  | .cite name key :: rest, p, h => by
    simp only [segsOk, Bool.and_eq_true] at h
    have e : (Seg.cite name key).len = PlainRef.callLen name key := by
      simp [Seg.len, Seg.render, PlainRef.callLen]; omega
    have := OkSrcG.con (Con.cite p name key (render rest) _ h.1.1 h.1.2)
      (by rw [← e]; exact OkSrc_of_segsOk T st rest _ h.2)
    simpa [render, Seg.render, itemsOf, e] using this
  | .citeN name note key :: rest, p, h => by
    simp only [segsOk, Bool.and_eq_true] at h
    have e : (Seg.citeN name note key).len = PlainRef.callNLen name note key := by
      simp [Seg.len, Seg.render, PlainRef.callNLen]; omega
    have := OkSrcG.con (Con.citeN p name note key (render rest) _ h.1.1 h.1.2)
      (by rw [← e]; exact OkSrc_of_segsOk T st rest _ h.2)
    simpa [render, Seg.render, itemsOf, e] using this
  | .foot body :: rest, p, h => by
    simp only [segsOk, Bool.and_eq_true] at h
    have e : (Seg.foot body).len = body.length + 11 := by simp [Seg.len, Seg.render]
    have := OkSrcG.con (Con.foot p body (render rest) _ h.1.1 h.1.2)
      (by rw [← e]; exact OkSrc_of_segsOk T st rest _ h.2)
    simpa [render, Seg.render, itemsOf] using this
  | .head name title :: rest, p, h => by
    simp only [segsOk, Bool.and_eq_true] at h
    have e : (Seg.head name title).len = name.length + title.length + 3 := by
      simp [Seg.len, Seg.render]; omega
    have := OkSrcG.con (Con.head p name title (render rest) _ h.1.1 h.1.2)
      (by rw [← e]; exact OkSrc_of_segsOk T st rest _ h.2)
    simpa [render, Seg.render, itemsOf, e] using this
  | .acc name ws bo l :: rest, p, h => by
    simp only [segsOk, Bool.and_eq_true] at h
    have e : (Seg.acc name ws bo l).len = PlainAccent.accLen name ws bo := by
      cases bo <;> simp [Seg.len, Seg.render, PlainAccent.accLen, PlainAccent.argStr] <;> omega
    have := OkSrcG.con (Con.acc p name ws bo l (render rest) _ h.1.1 h.1.2)
      (by rw [← e]; exact OkSrc_of_segsOk T st rest _ h.2)
    simpa [render, Seg.render, itemsOf, e, List.append_assoc] using this
  | .defn name n body :: rest, p, h => by
    simp only [segsOk, Bool.and_eq_true] at h
    have e : (Seg.defn name n body).len = name.length + (bodyStr body).length + 19 := by
      simp [Seg.len, Seg.render, PlainMacro.ncName_eq]; omega
    have := OkSrcG.con (Con.defn p name n body (render rest) _ h.1.1 h.1.2)
      (by rw [← e]; exact OkSrc_of_segsOk T st rest _ h.2)
    simpa [render, Seg.render, itemsOf] using this
  | .ddef name n body :: rest, p, h => by
    simp only [segsOk, Bool.and_eq_true] at h
    have e : (Seg.ddef name n body).len = name.length + (bodyStr body).length + 2 * n + 7 := by
      simp [Seg.len, Seg.render, defName_eq, paramStr_length]; omega
    have := OkSrcG.con (Con.ddef p name n body (render rest) _ h.1)
      (by rw [← e]; exact OkSrc_of_segsOk T st rest _ h.2)
    simpa [render, Seg.render, itemsOf] using this
  | .ppar ws :: rest, p, h => by
    simp only [segsOk, Bool.and_eq_true] at h
    have e : (Seg.ppar ws).len = ws.length + 4 := by
      simp [Seg.len, Seg.render, PlainParEnv.parName]
    have := OkSrcG.con (Con.ppar p ws (render rest) _ h.1) (by rw [← e]; exact OkSrc_of_segsOk T st rest _ h.2)
    simpa [render, Seg.render, itemsOf, e] using this
  | .pbeg name arg :: rest, p, h => by
    simp only [segsOk, Bool.and_eq_true] at h
    have e : (Seg.pbeg name arg).len = name.length + arg.length + 10 := by
      simp [Seg.len, Seg.render, PlainItem.nBegin]; omega
    have := OkSrcG.con (Con.pbeg p name arg (render rest) _ h.1)
      (by rw [← e]; exact OkSrc_of_segsOk T st rest _ h.2)
    simpa [render, Seg.render, itemsOf, e] using this
  | .pen name :: rest, p, h => by
    simp only [segsOk, Bool.and_eq_true] at h
    have e : (Seg.pen name).len = name.length + 6 := by
      simp [Seg.len, Seg.render, PlainItem.nEnd]
    have := OkSrcG.con (Con.pen p name (render rest) _ h.1) (by rw [← e]; exact OkSrc_of_segsOk T st rest _ h.2)
    simpa [render, Seg.render, itemsOf, e] using this
  | .call name body :: rest, p, h => by
    simp only [segsOk, Bool.and_eq_true] at h
    have e : (Seg.call name body).len = name.length + body.length + 3 := by
      simp [Seg.len, Seg.render]; omega
    have := OkSrcG.con (Con.call p name body (render rest) _ h.1.1 h.1.2)
      (by rw [← e]; exact OkSrc_of_segsOk T st rest _ h.2)
    simpa [render, Seg.render, itemsOf] using this
  | .callO name opt body :: rest, p, h => by
    simp only [segsOk, Bool.and_eq_true] at h
    have e : (Seg.callO name opt body).len = name.length + opt.length + body.length + 5 := by
      simp [Seg.len, Seg.render]; omega
    have := OkSrcG.con (Con.callO p name opt body (render rest) _ h.1.1 h.1.2)
      (by rw [← e]; exact OkSrc_of_segsOk T st rest _ h.2)
    simpa [render, Seg.render, itemsOf] using this
  | .fen name :: rest, p, h => by
    simp only [segsOk, Bool.and_eq_true] at h
    have e : (Seg.fen name).len = name.length + 6 := by
      simp [Seg.len, Seg.render, PlainItem.nEnd]
    have := OkSrcG.con (Con.fen p name (render rest) _ h.1)
      (by rw [← e]; exact OkSrc_of_segsOk T st rest _ h.2)
    simpa [render, Seg.render, itemsOf, fixOf, e] using this
  | .fbegN name note :: rest, p, h => by
    simp only [segsOk, Bool.and_eq_true] at h
    have e : (Seg.fbegN name note).len = name.length + note.length + 10 := by
      simp [Seg.len, Seg.render, PlainItem.nBegin]; omega
    have := OkSrcG.con (Con.fbegN p name note (render rest) _ h.1)
      (by rw [← e]; exact OkSrc_of_segsOk T st rest _ h.2)
    simpa [render, Seg.render, itemsOf, fixOf, e] using this
  | .fbeg name ws :: rest, p, h => by
    simp only [segsOk, Bool.and_eq_true] at h
    have e : (Seg.fbeg name ws).len = name.length + ws.length + 8 := by
      simp [Seg.len, Seg.render, PlainItem.nBegin]; omega
    have := OkSrcG.con (Con.fbeg p name ws (render rest) _ h.1)
      (by rw [← e]; exact OkSrc_of_segsOk T st rest _ h.2)
    simpa [render, Seg.render, itemsOf, fixOf, e] using this
  | .use name args :: rest, p, h => by
    simp only [segsOk, Bool.and_eq_true] at h
    have e : (Seg.use name args).len = name.length + 1 + argsLen args := by
      simp [Seg.len, Seg.render, PlainMacroArgs.argsStr_length]; omega
    have := OkSrcG.con (Con.use p name args (render rest) _ h.1)
      (by rw [← e]; exact OkSrc_of_segsOk T st rest _ h.2)
    simpa [render, Seg.render, itemsOf] using this
  | .disp body :: rest, p, h => by
    simp only [segsOk, Bool.and_eq_true, Bool.not_eq_true'] at h
    have e : (Seg.disp body).len = body.length + 4 := by simp [Seg.len, Seg.render]
    have := OkSrcG.con (Con.disp p body (render rest) _ h.1.1 h.1.2)
      (by rw [← e]; exact OkSrc_of_segsOk T st rest _ h.2)
    simpa [render, Seg.render, itemsOf] using this
  | .denv name body :: rest, p, h => by
    simp only [segsOk, Bool.and_eq_true, Bool.not_eq_true'] at h
    have e : (Seg.denv name body).len = 2 * name.length + body.length + 14 := by
      simp [Seg.len, Seg.render, PlainItem.nBegin, PlainItem.nEnd, PlainDisplay.endSrc]; omega
    have := OkSrcG.con (Con.denv p name body (render rest) _ h.1.1 h.1.2)
      (by rw [← e]; exact OkSrc_of_segsOk T st rest _ h.2)
    simpa [render, Seg.render, itemsOf, PlainDisplay.endSrc, e] using this
  | .beg name :: rest, p, h => by
    simp only [segsOk, Bool.and_eq_true] at h
    have e : (Seg.beg name).len = name.length + 8 := by
      simp [Seg.len, Seg.render, PlainItem.nBegin]
    have := OkSrcG.con (Con.beg p name (render rest) _ h.1) (by rw [← e]; exact OkSrc_of_segsOk T st rest _ h.2)
    simpa [render, Seg.render, itemsOf] using this
  | .item ws :: rest, p, h => by
    simp only [segsOk, Bool.and_eq_true] at h
    have e : (Seg.item ws).len = ws.length + 5 := by
      simp [Seg.len, Seg.render, PlainItem.nItem]
    have := OkSrcG.con (Con.item p ws (render rest) _ h.1) (by rw [← e]; exact OkSrc_of_segsOk T st rest _ h.2)
    simpa [render, Seg.render, itemsOf] using this
  | .itemL ws label pc :: rest, p, h => by
    simp only [segsOk, Bool.and_eq_true] at h
    have e : (Seg.itemL ws label pc).len = ws.length + label.length + 7 := by
      simp [Seg.len, Seg.render, PlainItem.nItem]; omega
    have := OkSrcG.con (Con.itemL p ws label pc (render rest) _ h.1.1 h.1.2)
      (by rw [← e]; exact OkSrc_of_segsOk T st rest _ h.2)
    simpa [render, Seg.render, itemsOf] using this
  | .ubeg name :: rest, p, h => by
    simp only [segsOk, Bool.and_eq_true] at h
    have e : (Seg.ubeg name).len = name.length + 8 := by
      simp [Seg.len, Seg.render, PlainItem.nBegin]
    have := OkSrcG.con (Con.ubeg p name (render rest) _ h.1) (by rw [← e]; exact OkSrc_of_segsOk T st rest _ h.2)
    simpa [render, Seg.render, itemsOf] using this
  | .uen name :: rest, p, h => by
    simp only [segsOk, Bool.and_eq_true] at h
    have e : (Seg.uen name).len = name.length + 6 := by
      simp [Seg.len, Seg.render, PlainItem.nEnd]
    have := OkSrcG.con (Con.uen p name (render rest) _ h.1) (by rw [← e]; exact OkSrc_of_segsOk T st rest _ h.2)
    simpa [render, Seg.render, itemsOf, fixOf, e] using this
  | .en name :: rest, p, h => by
    simp only [segsOk, Bool.and_eq_true] at h
    have e : (Seg.en name).len = name.length + 6 := by
      simp [Seg.len, Seg.render, PlainItem.nEnd]
    have := OkSrcG.con (Con.en p name (render rest) _ h.1) (by rw [← e]; exact OkSrc_of_segsOk T st rest _ h.2)
    simpa [render, Seg.render, itemsOf] using this

end PlainMix4
end Yalafi
