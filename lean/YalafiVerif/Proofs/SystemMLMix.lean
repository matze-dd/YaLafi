/-
  Proofs/SystemMLMix.lean — SYSTEM LEVEL, multi-language mode, for the documents of
  `C12_mixed_languages_e2e` (inert text, `\selectlanguage`, `\foreignlanguage{..}{..}`, the
  `otherlanguage[*]` environments, package babel): the filter's theorem `PlainLangMix.tex2txt_mix`
  (`r.parts = refParts …`, the rendering of the plan `refPlan`) composed with the shell's assembly of
  the pieces (Proofs/SystemML.lean) and its report pipeline.  First part: the word in a piece.

  A flagged word `w` stands in a HOST segment `sg`: a text segment (`hostOff = 0`) or the text of an
  insertion `\foreignlanguage{n}{…}` (`hostOff = bodyOff n`): `segs = pre ++ sg :: post`,
  `hostText sg = a ++ w ++ b`, `q = |render pre| + hostOff sg + |a|` its offset in the file.

  (a) `marks_word`       the marks of `w` are consecutive in `segMarks`
  (b) `LinesLang.delLines_word`   (reused) a word with visible ends survives the blank-line removal as a
                         block of the items
  (c) `secsItems_block`  (Proofs/MLSections.lean, reused) a block of characters lies in ONE section of
                         the section loop
  (d) `fold_block`, `renderFrom_block`   a section that is a VERBATIM component of a piece of the plan is
                         a block of the rendered piece (placeholders in front of it and behind it do not
                         disturb it); an inclusion (a short section that was cut out) is a piece as it is
  (e) `renderFrom_len`, `refParts_lengths`   every piece has a map as long as its text — also with
                         placeholders
  (f) `word_section`     the word is a block of ONE section of the document;
      `word_in_piece`    hence the shell's requests on `refParts` contain a request with the run
                         `RunAt pos off |w| (q+1)` that spells `w`, and its language code is
                         `langAt T [main] 0 segs q`
  (g) `host_not_backslash`   a visible character of a host text is no backslash
-/
import YalafiVerif.Proofs.SystemMLLang
import YalafiVerif.Proofs.PlainLangMixCor
namespace Yalafi
namespace PlainLangMix
namespace Sys

open SystemWord Reports Html SystemML PlainLangMix
open LinesLang (Item Mark ch isLg delLines)
open PlainLang (groupSecs shiftParts groupSecs_perm groupSecs_mem mem_shiftParts)
open PlainForeign (secsItems secsItems_ch emitSec mkSec stepStack bodyOff frnLen shiftTp lcOf partOf
  partOf_groupSecs partOf_shiftParts frnName frnName_length)

/-! ### the host of a word -/

def hostOff : Seg → Option Nat
  | .txt _ => some 0
  | .frn n _ => some (bodyOff n)
  | _ => none

def hostText : Seg → Str
  | .txt s => s
  | .frn _ b => b
  | _ => []

theorem renderMix_append : ∀ (pre rest : List Seg), render (pre ++ rest) = render pre ++ render rest
  | [], _ => rfl
  | s :: pre, rest => by simp [render, renderMix_append pre rest]

theorem segMarksMix_append (T : PTables) (rest : List Seg) : ∀ (pre : List Seg) (p : Nat),
    segMarks T p (pre ++ rest) = segMarks T p pre ++ segMarks T (p + (render pre).length) rest
  | [], p => by simp [segMarks, render]
  | sg :: pre, p => by
    have hl : p + (render (sg :: pre)).length = p + sg.len + (render pre).length := by
      rw [render_cons_length]; omega
    rw [hl]
    cases sg <;>
      simp only [List.cons_append, segMarks, List.append_assoc, Seg.len, segMarksMix_append T rest pre]

theorem host_render (sg : Seg) (d : Nat) (h : hostOff sg = some d) :
    ∃ X Z, sg.render = X ++ (hostText sg ++ Z) ∧ X.length = d := by
  cases sg with
  | txt s =>
    simp only [hostOff, Option.some.injEq] at h
    exact ⟨[], [], by simp [Seg.render, hostText], by simpa using h⟩
  | frn n b =>
    simp only [hostOff, Option.some.injEq] at h
    refine ⟨'\\' :: (frnName ++ '{' :: (n ++ ['}', '{'])), ['}'], by simp [Seg.render, hostText], ?_⟩
    rw [← h]
    simp only [List.length_cons, List.length_append, frnName_length, bodyOff, List.length_nil]
    omega
  | sel _ => simp [hostOff] at h
  | beg _ _ => simp [hostOff] at h
  | fin _ _ => simp [hostOff] at h

theorem segMarks_host (T : PTables) (sg : Seg) (post : List Seg) (p d : Nat) (h : hostOff sg = some d) :
    ∃ A B, segMarks T p (sg :: post) = A ++ ((ch (posText (p + d) (hostText sg))).map some ++ B) := by
  cases sg with
  | txt s =>
    simp only [hostOff, Option.some.injEq] at h
    subst h
    exact ⟨[], segMarks T (p + s.length) post, by
      simp only [segMarks, hostText, Nat.add_zero, List.nil_append]⟩
  | frn n b =>
    simp only [hostOff, Option.some.injEq] at h
    subst h
    exact ⟨[none, some (.inr (PlainForeign.openTok T p (PlainLang.codeOfName T n)))],
      some (.inr (PlainForeign.backTok (p + bodyOff n + PlainFootnote.lastTokOff b))) ::
        segMarks T (p + frnLen n b) post, by
      simp only [segMarks, hostText, List.cons_append, List.nil_append]⟩
  | sel _ => simp [hostOff] at h
  | beg _ _ => simp [hostOff] at h
  | fin _ _ => simp [hostOff] at h

theorem marks_word (T : PTables) (segs pre post : List Seg) (sg : Seg) (d : Nat) (a w b : Str)
    (hsegs : segs = pre ++ sg :: post) (hd : hostOff sg = some d) (ht : hostText sg = a ++ (w ++ b)) :
    ∃ A B, segMarks T 0 segs
      = A ++ ((ch (posText ((render pre).length + d + a.length) w)).map some ++ B) := by
  obtain ⟨A, B, h⟩ := segMarks_host T sg post (0 + (render pre).length) d hd
  rw [hsegs, segMarksMix_append T _ pre 0, h, ht]
  simp only [Nat.zero_add, posText_append, LinesLang.ch_append, List.map_append, List.append_assoc]
  exact ⟨segMarks T 0 pre ++ (A ++ (ch (posText ((render pre).length + d) a)).map some),
    (ch (posText ((render pre).length + d + a.length + w.length) b)).map some ++ B, by
    simp only [List.append_assoc]⟩

theorem word_source (segs pre post : List Seg) (sg : Seg) (d : Nat) (a w b : Str)
    (hsegs : segs = pre ++ sg :: post) (hd : hostOff sg = some d) (ht : hostText sg = a ++ (w ++ b)) :
    ∃ L R, render segs = L ++ (w ++ R) ∧ L.length = (render pre).length + d + a.length := by
  obtain ⟨X, Z, hr, hx⟩ := host_render sg d hd
  refine ⟨render pre ++ (X ++ a), b ++ (Z ++ render post), ?_, by simp [hx]; omega⟩
  rw [hsegs, renderMix_append]
  simp only [render, hr, ht, List.append_assoc]


/-! ### (d) a verbatim component is a block of the rendered piece -/

theorem fold_prefix (lang : Str) : ∀ (comps : List Comp) (a : Acc), a.pos.length = a.txt.length →
    (∀ c ∈ comps, CompWf c) → ∃ E, accChars (comps.foldl (addComp lang) a) = accChars a ++ E
  | [], a, _, _ => ⟨[], by simp⟩
  | c :: cs, a, ha, hw => by
    obtain ⟨h1, extra, h2, _⟩ := addComp_chars lang a c ha (hw c (List.mem_cons_self ..))
    obtain ⟨E, hE⟩ := fold_prefix lang cs (addComp lang a c) h1 (fun x hx => hw x (List.mem_cons_of_mem _ hx))
    exact ⟨extra ++ E, by simp only [List.foldl_cons]; rw [hE, h2, List.append_assoc]⟩

theorem fold_block (lang : Str) : ∀ (comps : List Comp) (a : Acc), a.pos.length = a.txt.length →
    (∀ c ∈ comps, CompWf c) → ∀ s, Comp.own s ∈ comps →
    ∃ P Q, accChars (comps.foldl (addComp lang) a) = P ++ (secChars s ++ Q)
  | [], _, _, _, s, hs => by cases hs
  | c :: cs, a, ha, hw, s, hs => by
    obtain ⟨h1, extra, h2, h3⟩ := addComp_chars lang a c ha (hw c (List.mem_cons_self ..))
    rcases List.mem_cons.mp hs with h | hs
    · subst h
      obtain ⟨E, hE⟩ := fold_prefix lang cs (addComp lang a (.own s)) h1
        (fun x hx => hw x (List.mem_cons_of_mem _ hx))
      exact ⟨accChars a, E, by simp only [List.foldl_cons]; rw [hE, h2, h3 s rfl, List.append_assoc]⟩
    · exact fold_block lang cs (addComp lang a c) h1 (fun x hx => hw x (List.mem_cons_of_mem _ hx)) s hs

theorem renderFrom_block : ∀ (gs : List Group) (a : Acc), a.pos.length = a.txt.length →
    (∀ g ∈ gs, GroupWf g) → ∀ g ∈ gs, ∀ s, Comp.own s ∈ g.comps →
    ∃ sec ∈ renderFrom a gs, sec.lang = g.lang ∧ ∃ P Q, secChars sec = P ++ (secChars s ++ Q)
  | [], _, _, _ => by intro g hg; cases hg
  | g0 :: gs, a, ha, hw => by
    intro g hg s hs
    rcases List.mem_cons.mp hg with rfl | hg
    · obtain ⟨P, Q, h⟩ := fold_block g.lang g.comps a ha (hw g (List.mem_cons_self ..)) s hs
      refine ⟨accSec g.lang (g.comps.foldl (addComp g.lang) a), ?_, rfl, P, Q, h⟩
      simp only [renderFrom, List.mem_append, List.mem_cons]
      exact Or.inr (Or.inl trivial)
    · obtain ⟨sec, h1, h2, h3⟩ := renderFrom_block gs ⟨[], [], (g0.comps.foldl (addComp g0.lang) a).lc⟩ rfl
        (fun x hx => hw x (List.mem_cons_of_mem _ hx)) g hg s hs
      refine ⟨sec, ?_, h2, h3⟩
      simp only [renderFrom, List.mem_append, List.mem_cons]
      exact Or.inr (Or.inr h1)

/-! ### (e) lengths -/

theorem renderFrom_len : ∀ (gs : List Group) (a : Acc), a.pos.length = a.txt.length →
    (∀ g ∈ gs, GroupWf g) → (∀ g ∈ gs, ∀ s ∈ g.incls, SecWf s) →
    ∀ sec ∈ renderFrom a gs, sec.pos.length = sec.txt.length
  | [], _, _, _, _ => by intro sec h; cases h
  | g0 :: gs, a, ha, hw, hi => by
    intro sec hsec
    simp only [renderFrom, List.mem_append, List.mem_cons] at hsec
    rcases hsec with h | rfl | h
    · exact (hi g0 (List.mem_cons_self ..) sec h).len
    · exact (fold_chars g0.lang g0.comps a ha (hw g0 (List.mem_cons_self ..))).1
    · exact renderFrom_len gs _ rfl (fun x hx => hw x (List.mem_cons_of_mem _ hx))
        (fun x hx => hi x (List.mem_cons_of_mem _ hx)) sec h

theorem planOf_incl_mem (thresh : Nat) (secs : List Sec) :
    ∀ g ∈ planOf thresh secs, ∀ s ∈ g.incls, s ∈ secs := by
  intro g hg s hs
  cases secs with
  | nil => simp [planOf] at hg
  | cons s0 rest =>
    simp only [planOf] at hg
    rcases mem_consHead hg with ⟨g0, gs', hg0, rfl⟩ | hg
    · simp only [List.nil_append] at hs
      exact List.mem_cons_of_mem _ ((joinPlan_comp_mem thresh rest.length rest (Nat.le_refl _) s0.lang g0
          (by rw [hg0]; exact List.mem_cons_self ..)).2 s hs)
    · exact List.mem_cons_of_mem _ ((joinPlan_comp_mem thresh rest.length rest (Nat.le_refl _) s0.lang g
        (List.mem_of_mem_tail hg)).2 s hs)

theorem renderGroups_len (T : PTables) (main : Str) (thresh : Nat) (lc : LangChange) (segs : List Seg) :
    ∀ sec ∈ renderGroups lc (refPlan T main thresh segs), sec.pos.length = sec.txt.length :=
  renderFrom_len _ ⟨[], [], lc⟩ rfl (refPlan_wf T main thresh segs) 
    (fun g hg s hs => secsItems_wf _ _ _ _ _ _ (planOf_incl_mem thresh _ g hg s hs))

theorem refParts_lengths (T : PTables) (main : Str) (thresh : Nat) (lc : LangChange) (segs : List Seg) :
    ∀ e ∈ refParts T main thresh lc segs, ∀ tp ∈ e.2, tp.1.length = tp.2.length := by
  intro e he tp htp
  obtain ⟨e0, he0, _, h2⟩ := mem_shiftParts _ e he
  rw [h2] at htp
  obtain ⟨tp0, htp0, rfl⟩ := List.mem_map.mp htp
  obtain ⟨s, hs, _, rfl⟩ := groupSecs_mem _ e0 he0 tp0 htp0
  simp only [PlainLang.shiftTp, List.length_map]
  exact (renderGroups_len T main thresh lc segs s hs).symm

/-! ### (f) the word in a piece -/

theorem partOf_mem (ps : Parts) (k : Str) (tp : Str × List Nat) (h : tp ∈ partOf ps k) :
    ∃ e ∈ ps, e.1 = k ∧ tp ∈ e.2 := by
  unfold partOf at h
  cases hf : ps.find? (·.1 == k) with
  | none => rw [hf] at h; simp at h
  | some e =>
    rw [hf] at h
    have := List.find?_some hf
    exact ⟨e, List.mem_of_find?_eq_some hf, by simpa using this, by simpa using h⟩

theorem sec_in_rendered (T : PTables) (main : Str) (thresh : Nat) (lc : LangChange) (segs : List Seg)
    (s : Sec) (hs : s ∈ refSecs T main segs) :
    ∃ sec ∈ renderGroups lc (refPlan T main thresh segs), sec.lang = s.lang ∧
      ∃ P Q, secChars sec = P ++ (secChars s ++ Q) := by
  have hperm := planOf_perm thresh (refSecs T main segs)
  have hsp : s ∈ planSecs (refPlan T main thresh segs) := (hperm.mem_iff).mpr hs
  simp only [planSecs, List.mem_flatMap, groupOwn, List.mem_append] at hsp
  obtain ⟨g, hg, hsg⟩ := hsp
  have hwf := refPlan_wf T main thresh segs
  rcases hsg with ⟨cmp, hcmp, hown⟩ | hin
  · cases cmp with
    | ph x => simp [compOwn] at hown
    | own x =>
      simp only [compOwn, List.mem_singleton] at hown
      subst hown
      obtain ⟨sec, h1, h2, h3⟩ := renderFrom_block (refPlan T main thresh segs) ⟨[], [], lc⟩ rfl hwf g hg s hcmp
      exact ⟨sec, h1, by rw [h2, planOf_own_lang thresh _ g hg s hcmp], h3⟩
  · obtain ⟨j1, _⟩ := renderFrom_own (refPlan T main thresh segs) ⟨[], [], lc⟩ rfl hwf g hg
    exact ⟨s, j1 s hin, rfl, [], [], by simp⟩

theorem sec_pos_eq (s : Sec) (h : s.pos.length = s.txt.length) : s.pos = (secChars s).map (·.2) := by
  simp only [secChars]
  exact (List.map_snd_zip (Nat.le_of_eq h)).symm

theorem word_section (T : PTables) (main : Str) (segs pre post : List Seg) (sg : Seg) (d : Nat)
    (a w b : Str) (hsegs : segs = pre ++ sg :: post) (hd : hostOff sg = some d)
    (ht : hostText sg = a ++ (w ++ b)) (hw : wordEnds w = true) :
    ∃ s ∈ refSecs T main segs, ∃ C D,
      secChars s = C ++ (posText ((render pre).length + d + a.length) w ++ D) := by
  obtain ⟨hW, hlast⟩ := posText_word ((render pre).length + d + a.length) hw
  obtain ⟨A, B, hm⟩ := marks_word T segs pre post sg d a w b hsegs hd ht
  obtain ⟨X, Y, hdl⟩ := LinesLang.delLines_word A B (posText ((render pre).length + d + a.length) w) hW hlast
  rw [← hm] at hdl
  have hne : posText ((render pre).length + d + a.length) w ≠ [] := by
    obtain ⟨w0, W', h0, _⟩ := hW
    rw [h0]; simp
  obtain ⟨s, hs, C, D, hst, hsp⟩ := secsItems_block X [main] false false [] _ Y hne
  rw [← hdl] at hs
  exact ⟨s, hs, C, D, by simp only [secChars, hst, hsp, zip_fst_snd]⟩

theorem word_in_piece (T : PTables) (main : Str) (thresh : Nat) (lc : LangChange)
    (segs pre post : List Seg) (sg : Seg) (d : Nat) (a w b : Str)
    (hsegs : segs = pre ++ sg :: post) (hd : hostOff sg = some d) (ht : hostText sg = a ++ (w ++ b))
    (hw : wordEnds w = true) :
    ∃ pc ∈ shellPieces (refParts T main thresh lc segs), ∃ off, off + w.length ≤ pc.2.1.length ∧
      RunAt pc.2.2 off w.length ((render pre).length + d + a.length + 1) ∧
      (pc.2.1.drop off).take w.length = w ∧
      pc.1 = langAt T [main] 0 segs ((render pre).length + d + a.length) := by
  obtain ⟨s, hs', C, D, hsc⟩ := word_section T main segs pre post sg d a w b hsegs hd ht hw
  obtain ⟨⟨w0, W', h0, hv⟩, _⟩ := posText_word ((render pre).length + d + a.length) hw
  have hlang : s.lang = langAt T [main] 0 segs ((render pre).length + d + a.length) := by
    have hmem : w0 ∈ secChars s := by rw [hsc, h0]; simp
    rw [(refSecs_lang T main segs s hs' w0 hmem).2, posText_head h0]
  obtain ⟨sec, hsec, hsl, P, Q, hPQ⟩ := sec_in_rendered T main thresh lc segs s hs'
  have hlen := renderGroups_len T main thresh lc segs sec hsec
  have hout : secChars sec
      = (P ++ C) ++ (posText ((render pre).length + d + a.length) w ++ (D ++ Q)) := by
    rw [hPQ, hsc]; simp only [List.append_assoc]
  have htxt : sec.txt = (secChars sec).map (·.1) := by
    simp only [secChars]
    exact (List.map_fst_zip (Nat.le_of_eq hlen.symm)).symm
  have hpos := sec_pos_eq sec hlen
  obtain ⟨b1, b2, b3⟩ := run_of_block (P ++ C) (D ++ Q) ((render pre).length + d + a.length) w
  rw [← hout] at b1 b2 b3
  have hpos' : (shiftTp (sec.txt, sec.pos)).2 = (secChars sec).map (·.2 + 1) := by
    simp only [shiftTp]
    rw [hpos, List.map_map]; rfl
  have hmem : shiftTp (sec.txt, sec.pos) ∈ partOf (refParts T main thresh lc segs) sec.lang := by
    unfold refParts
    rw [partOf_shiftParts, partOf_groupSecs]
    refine List.mem_map.mpr ⟨(sec.txt, sec.pos), ?_, rfl⟩
    refine List.mem_map.mpr ⟨sec, ?_, rfl⟩
    exact List.mem_filter.mpr ⟨hsec, by simp⟩
  obtain ⟨e, he, hk, htp⟩ := partOf_mem _ _ _ hmem
  refine ⟨(sec.lang, shiftTp (sec.txt, sec.pos)), ?_, (P ++ C).length, ?_, ?_, ?_, ?_⟩
  · refine mem_shellPieces.mpr ⟨e, he, hk, htp, ?_⟩
    show isBlank sec.txt = false
    rw [htxt, hout, h0]
    simp [isBlank, hv]
  · show (P ++ C).length + w.length ≤ sec.txt.length
    rw [htxt]; simpa using b1
  · show RunAt (shiftTp (sec.txt, sec.pos)).2 _ _ _
    rw [hpos']; exact b2
  · show (sec.txt.drop _).take _ = w
    rw [htxt]; exact b3
  · show sec.lang = _
    rw [hsl, hlang]

/-! ### (g) a visible character of a host text is no backslash -/

theorem segsOkMix_drop (T : PTables) (rest : List Seg) : ∀ (pre : List Seg) (st : PState),
    segsOk T st (pre ++ rest) = true → ∃ st', segsOk T st' rest = true
  | [], st, h => ⟨st, h⟩
  | .txt s :: pre, st, h => by
    simp only [List.cons_append, segsOk, Bool.and_eq_true] at h
    exact segsOkMix_drop T rest pre st h.2
  | .sel name :: pre, st, h => by
    simp only [List.cons_append, segsOk, Bool.and_eq_true] at h
    exact segsOkMix_drop T rest pre _ h.2
  | .frn n b :: pre, st, h => by
    simp only [List.cons_append, segsOk, Bool.and_eq_true] at h
    exact segsOkMix_drop T rest pre _ h.2
  | .beg star n :: pre, st, h => by
    simp only [List.cons_append, segsOk, Bool.and_eq_true] at h
    exact segsOkMix_drop T rest pre _ h.2
  | .fin star sp :: pre, st, h => by
    simp only [List.cons_append, segsOk, Bool.and_eq_true] at h
    exact segsOkMix_drop T rest pre _ h.2

theorem host_not_backslash (T : PTables) (st : PState) (pre post : List Seg) (sg : Seg) (d : Nat)
    (a cs : Str) (c : Char) (h : segsOk T st (pre ++ sg :: post) = true) (hd : hostOff sg = some d)
    (ht : hostText sg = a ++ c :: cs) : c ≠ '\\' := by
  obtain ⟨st', h1⟩ := segsOkMix_drop T _ pre st h
  have key : ∃ st'' R, PlainFootnote.textOk T st'' (a ++ c :: cs) R = true := by
    cases sg with
    | txt s =>
      simp only [segsOk, Bool.and_eq_true] at h1
      simp only [hostText] at ht
      subst ht
      exact ⟨_, _, h1.1.1⟩
    | frn n b =>
      simp only [segsOk, frnOk, Bool.and_eq_true] at h1
      simp only [hostText] at ht
      subst ht
      exact ⟨_, _, h1.1.1.1.2⟩
    | sel _ => simp [hostOff] at hd
    | beg _ _ => simp [hostOff] at hd
    | fin _ _ => simp [hostOff] at hd
  obtain ⟨st'', R, hk⟩ := key
  exact inert_not_backslash hk

end Sys
end PlainLangMix
end Yalafi
