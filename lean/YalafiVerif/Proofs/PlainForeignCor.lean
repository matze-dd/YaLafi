/-
  Proofs/PlainForeignCor.lean — consequences of the reference `PlainForeign.refParts` (documents of
  inert text and insertions `\foreignlanguage{name}{text}`): what is filed under each language code
  (`partOf` = `parts[code]`; `refParts_foreign`, `refParts_main`).
-/
import YalafiVerif.Proofs.PlainForeign
namespace Yalafi
namespace PlainForeign

open PlainLang (codeOfName addPart groupSecs shiftParts)

/-- the pieces of text under the language code `k` (`[]` if the code does not occur) -/
def partOf (ps : Parts) (k : Str) : List (Str × List Nat) :=
  ((ps.find? (·.1 == k)).map (·.2)).getD []

theorem find_map_key (ps : Parts) (k : Str) (f : Str × List (Str × List Nat) → Str × List (Str × List Nat))
    (hf : ∀ e, (f e).1 = e.1) :
    (ps.map f).find? (·.1 == k) = (ps.find? (·.1 == k)).map f := by
  induction ps with
  | nil => rfl
  | cons e ps ih =>
    simp only [List.map_cons, List.find?_cons, hf]
    split
    · rfl
    · exact ih

theorem partOf_addPart (ps : Parts) (k : Str) (tp : Str × List Nat) (k' : Str) :
    partOf (addPart ps k tp) k' = if k' == k then partOf ps k ++ [tp] else partOf ps k' := by
  unfold addPart
  by_cases hany : ps.any (·.1 == k) = true
  · rw [if_pos hany]
    unfold partOf
    rw [find_map_key ps k' _ (by intro e; split <;> rfl)]
    cases hf : ps.find? (·.1 == k') with
    | none =>
      have hne : (k' == k) = false := by
        cases hkk : (k' == k) with
        | false => rfl
        | true =>
          exfalso
          rw [beq_iff_eq] at hkk
          subst hkk
          obtain ⟨x, hx, hxk⟩ := List.any_eq_true.mp hany
          have := List.find?_eq_none.mp hf x hx
          exact this hxk
      simp [hne]
    | some e =>
      have hek : (e.1 == k') = true := by
        have := List.find?_some hf
        simpa using this
      rw [beq_iff_eq] at hek
      by_cases hkk : (k' == k) = true
      · rw [beq_iff_eq] at hkk
        subst hkk
        simp [hf, hek]
      · have hkk' : (k' == k) = false := by simpa using hkk
        have : ¬ (e.1 = k) := by rw [hek]; simpa using hkk'
        simp [hkk', this]
  · rw [if_neg hany]
    have hnone : ps.find? (·.1 == k) = none := by
      rw [List.find?_eq_none]
      intro x hx hxk
      exact hany (List.any_eq_true.mpr ⟨x, hx, hxk⟩)
    unfold partOf
    rw [List.find?_append]
    by_cases hkk : (k' == k) = true
    · rw [beq_iff_eq] at hkk
      subst hkk
      simp [hnone]
    · have hkk' : (k' == k) = false := by simpa using hkk
      have hkk2 : (k == k') = false := by rw [BEq.comm]; exact hkk'
      cases hf : ps.find? (·.1 == k') with
      | none => simp [hkk', hkk2]
      | some e => simp [hkk']

theorem partOf_fold : ∀ (secs : List Sec) (acc : Parts) (k : Str),
    partOf (secs.foldl (fun ps s => addPart ps s.lang (s.txt, s.pos)) acc) k
      = partOf acc k ++ (secs.filter (·.lang == k)).map (fun s => (s.txt, s.pos))
  | [], acc, k => by simp
  | s :: ss, acc, k => by
    rw [List.foldl_cons, partOf_fold ss _ k, partOf_addPart]
    by_cases h : (k == s.lang) = true
    · rw [beq_iff_eq] at h
      subst h
      simp
    · have h1 : (k == s.lang) = false := by simpa using h
      have h' : (s.lang == k) = false := by rw [BEq.comm]; exact h1
      simp [h1, h']

/-- **grouping keeps the pieces of one language code in their order** -/
theorem partOf_groupSecs (secs : List Sec) (k : Str) :
    partOf (groupSecs secs) k = (secs.filter (·.lang == k)).map (fun s => (s.txt, s.pos)) := by
  unfold groupSecs
  rw [partOf_fold]
  simp [partOf]

export PlainLang (shiftTp)

theorem partOf_shiftParts (ps : Parts) (k : Str) :
    partOf (shiftParts ps) k = (partOf ps k).map shiftTp := by
  unfold partOf shiftParts
  rw [find_map_key ps k (fun e => (e.1, e.2.map (fun tp => (tp.1, tp.2.map (· + 1))))) (fun _ => rfl)]
  cases ps.find? (·.1 == k) with
  | none => rfl
  | some e => rfl

/-- a piece of `refOut` as it is reported: text, 1-based positions -/
def pieceTp (cs : List (Char × Nat)) : Str × List Nat := (cs.map (·.1), cs.map (fun cp => cp.2 + 1))

theorem refParts_partOf (T : PTables) (main : Str) (thresh : Nat) (repl : List Str) (segs : List Seg)
    (k : Str) :
    partOf (refParts T main thresh repl segs) k
      = ((refOut T main thresh 0 repl [] segs).filter (·.1 == k)).map (fun x => pieceTp x.2) := by
  unfold refParts
  rw [partOf_shiftParts, partOf_groupSecs, List.filter_map, List.map_map, List.map_map]
  have hf : ((fun x : Sec => x.lang == k) ∘ toSec) = (fun x : Str × List (Char × Nat) => x.1 == k) := rfl
  rw [hf]
  apply List.map_congr_left
  intro x _
  simp [shiftTp, toSec, mkSec, pieceTp, List.map_map, Function.comp_def]

/-- the insertions of a document that starts at position `p`: (0-based) position of the first
    character of the text, name, text -/
def frnList : Nat → List Seg → List (Nat × Str × Str)
  | _, [] => []
  | p, .txt s :: rest => frnList (p + s.length) rest
  | p, .frn n b :: rest => (p + bodyOff n, n, b) :: frnList (p + frnLen n b) rest

theorem emitP_filter_ne (main k : Str) (acc : List (Char × Nat)) (h : (main == k) = false) :
    (emitP main acc).filter (·.1 == k) = [] := by
  unfold emitP
  split
  · rfl
  · simp [h]

theorem emitP_filter_eq (main : Str) (acc : List (Char × Nat)) :
    (emitP main acc).filter (·.1 == main) = emitP main acc := by
  unfold emitP
  split
  · rfl
  · simp

theorem refOut_filter_foreign (T : PTables) (main : Str) (thresh : Nat) (k : Str)
    (hk : (main == k) = false) :
    ∀ (segs : List Seg) (p : Nat) (repl : List Str) (acc : List (Char × Nat)),
    (refOut T main thresh p repl acc segs).filter (·.1 == k)
      = ((frnList p segs).filter (fun x => codeOfName T x.2.1 == k)).map
          (fun x => (codeOfName T x.2.1, posText x.1 x.2.2))
  | [], p, repl, acc => by simp [refOut, frnList, emitP_filter_ne main k acc hk]
  | .txt s :: rest, p, repl, acc => by
    simp only [refOut, frnList]
    exact refOut_filter_foreign T main thresh k hk rest _ repl _
  | .frn n b :: rest, p, repl, acc => by
    simp only [refOut, frnList]
    split
    · simp only [List.filter_cons]
      rw [refOut_filter_foreign T main thresh k hk rest]
      split <;> simp
    · rw [List.filter_append, emitP_filter_ne main k acc hk, List.nil_append]
      simp only [List.filter_cons]
      rw [refOut_filter_foreign T main thresh k hk rest]
      split <;> simp

theorem pieceTp_posText (q : Nat) (b : Str) : pieceTp (posText q b) = (b, List.range' (q + 1) b.length) := by
  unfold pieceTp
  rw [posText_fst]
  congr 1
  have : (posText q b).map (fun cp => cp.2 + 1) = ((posText q b).map (·.2)).map (· + 1) := by
    rw [List.map_map]; rfl
  rw [this, posText_snd]
  apply List.ext_getElem
  · simp
  · intro i h1 h2
    simp
    omega

/-- **under a foreign code `k`**: exactly the texts of the insertions whose name has the code `k`,
    in document order, every character at its own (1-based) source position -/
theorem refParts_foreign (T : PTables) (main : Str) (thresh : Nat) (repl : List Str) (segs : List Seg)
    (k : Str) (hk : k ≠ main) :
    partOf (refParts T main thresh repl segs) k
      = ((frnList 0 segs).filter (fun x => codeOfName T x.2.1 == k)).map
          (fun x => (x.2.2, List.range' (x.1 + 1) x.2.2.length)) := by
  have hk' : (main == k) = false := by
    rw [Bool.eq_false_iff]; intro h; rw [beq_iff_eq] at h; exact hk h.symm
  rw [refParts_partOf, refOut_filter_foreign T main thresh k hk', List.map_map]
  apply List.map_congr_left
  intro x _
  exact pieceTp_posText x.1 x.2.2

def emitM (acc : List (Char × Nat)) : List (List (Char × Nat)) := if acc.isEmpty then [] else [acc]

/-- **the pieces of text of the main language** (`acc` = the current piece, `repl` = the
    language-change collection in its current rotation): text is appended; a short insertion behind
    a non-empty piece appends ONE placeholder — the head of the collection rotated by one — and the
    piece continues; any other insertion ends the piece -/
def mainPieces (thresh : Nat) : Nat → List Str → List (Char × Nat) → List Seg → List (List (Char × Nat))
  | _, _, acc, [] => emitM acc
  | p, repl, acc, .txt s :: rest => mainPieces thresh (p + s.length) repl (acc ++ posText p s) rest
  | p, repl, acc, .frn n b :: rest =>
    if isShort thresh b && !acc.isEmpty then
      mainPieces thresh (p + frnLen n b) (rotate repl)
        (acc ++ placeholder ((rotate repl).headD []) (p + bodyOff n) b) rest
    else emitM acc ++ mainPieces thresh (p + frnLen n b) repl [] rest

theorem emitP_map (main : Str) (acc : List (Char × Nat)) :
    emitP main acc = (emitM acc).map (fun x => (main, x)) := by
  unfold emitP emitM
  split <;> rfl

theorem refOut_filter_main (T : PTables) (main : Str) (thresh : Nat) :
    ∀ (segs : List Seg) (p : Nat) (repl : List Str) (acc : List (Char × Nat)),
    frnsOk T main segs = true →
    (refOut T main thresh p repl acc segs).filter (·.1 == main)
      = (mainPieces thresh p repl acc segs).map (fun x => (main, x))
  | [], p, repl, acc, _ => by
    simp only [refOut, mainPieces]
    rw [emitP_filter_eq, emitP_map]
  | .txt s :: rest, p, repl, acc, h => by
    simp only [refOut, mainPieces]
    exact refOut_filter_main T main thresh rest _ repl _ h
  | .frn n b :: rest, p, repl, acc, h => by
    simp only [frnsOk, Bool.and_eq_true, bne_iff_ne, ne_eq] at h
    have hc : (codeOfName T n == main) = false := by simpa using h.1.1
    simp only [refOut, mainPieces]
    split
    · rw [List.filter_cons_of_neg (by simp [hc])]
      exact refOut_filter_main T main thresh rest _ _ _ h.2
    · rw [List.filter_append, emitP_filter_eq, List.filter_cons_of_neg (by simp [hc]),
        refOut_filter_main T main thresh rest _ _ _ h.2, emitP_map, List.map_append]

/-- **under the main code**: `mainPieces`, positions 1-based -/
theorem refParts_main (T : PTables) (main : Str) (thresh : Nat) (repl : List Str) (segs : List Seg)
    (h : frnsOk T main segs = true) :
    partOf (refParts T main thresh repl segs) main
      = (mainPieces thresh 0 repl [] segs).map pieceTp := by
  rw [refParts_partOf, refOut_filter_main T main thresh segs 0 repl [] h, List.map_map]
  rfl

/-- **all characters filed under the main language, in order**: every character of a text segment
    at its own position; for an insertion of at most `thresh` words that has main-language text in
    front of it (`ne`: since the last long insertion, or since the beginning) ONE placeholder; nothing
    for any other insertion -/
def mainStream (thresh : Nat) : Nat → List Str → Bool → List Seg → List (Char × Nat)
  | _, _, _, [] => []
  | p, repl, ne, .txt s :: rest => posText p s ++ mainStream thresh (p + s.length) repl (ne || !s.isEmpty) rest
  | p, repl, ne, .frn n b :: rest =>
    if isShort thresh b && ne then
      placeholder ((rotate repl).headD []) (p + bodyOff n) b ++
        mainStream thresh (p + frnLen n b) (rotate repl) true rest
    else mainStream thresh (p + frnLen n b) repl false rest

theorem emitM_flatten (acc : List (Char × Nat)) : (emitM acc).flatten = acc := by
  unfold emitM
  split
  · rename_i h; simp [List.isEmpty_iff.mp h]
  · simp

theorem posText_isEmpty (p : Nat) (s : Str) : (posText p s).isEmpty = s.isEmpty := by
  cases s <;> rfl

theorem mainPieces_flatten (thresh : Nat) : ∀ (segs : List Seg) (p : Nat) (repl : List Str)
    (acc : List (Char × Nat)),
    (mainPieces thresh p repl acc segs).flatten = acc ++ mainStream thresh p repl (!acc.isEmpty) segs
  | [], p, repl, acc => by simp [mainPieces, mainStream, emitM_flatten]
  | .txt s :: rest, p, repl, acc => by
    simp only [mainPieces, mainStream]
    rw [mainPieces_flatten thresh rest, List.append_assoc]
    have : (!(acc ++ posText p s).isEmpty) = (!acc.isEmpty || !s.isEmpty) := by
      cases acc <;> cases s <;> rfl
    rw [this]
  | .frn n b :: rest, p, repl, acc => by
    simp only [mainPieces, mainStream]
    split
    · rw [mainPieces_flatten thresh rest, List.append_assoc]
      rename_i h
      simp only [Bool.and_eq_true, Bool.not_eq_true', List.isEmpty_eq_false_iff] at h
      have : (!(acc ++ placeholder ((rotate repl).headD []) (p + bodyOff n) b).isEmpty) = true := by
        cases acc with
        | nil => exact absurd rfl h.2
        | cons a l => rfl
      rw [this]
    · rw [List.flatten_append, emitM_flatten, mainPieces_flatten thresh rest]
      simp

def tpChars (tp : Str × List Nat) : List (Char × Nat) := tp.1.zip tp.2

theorem tpChars_pieceTp : ∀ (cs : List (Char × Nat)),
    tpChars (pieceTp cs) = cs.map (fun cp => (cp.1, cp.2 + 1))
  | [] => rfl
  | cp :: cs => by
    have ih := tpChars_pieceTp cs
    simp only [tpChars, pieceTp, List.map_cons, List.zip_cons_cons] at ih ⊢
    rw [ih]

theorem flatMap_tpChars : ∀ (l : List (List (Char × Nat))),
    (l.map pieceTp).flatMap tpChars = l.flatten.map (fun cp => (cp.1, cp.2 + 1))
  | [] => rfl
  | x :: l => by
    simp only [List.map_cons, List.flatMap_cons, List.flatten_cons, List.map_append, tpChars_pieceTp,
      flatMap_tpChars l]

theorem main_chars (thresh : Nat) (repl : List Str) (segs : List Seg) :
    ((mainPieces thresh 0 repl [] segs).map pieceTp).flatMap tpChars
      = (mainStream thresh 0 repl false segs).map (fun cp => (cp.1, cp.2 + 1)) := by
  rw [flatMap_tpChars, mainPieces_flatten]
  rfl

def textChars : Nat → List Seg → List (Char × Nat)
  | _, [] => []
  | p, .txt s :: rest => posText p s ++ textChars (p + s.length) rest
  | p, .frn n b :: rest => textChars (p + frnLen n b) rest

theorem textChars_sublist (thresh : Nat) : ∀ (segs : List Seg) (p : Nat) (repl : List Str) (ne : Bool),
    List.Sublist (textChars p segs) (mainStream thresh p repl ne segs)
  | [], _, _, _ => List.Sublist.refl _
  | .txt s :: rest, p, repl, ne => by
    simp only [textChars, mainStream]
    exact List.Sublist.append (List.Sublist.refl _) (textChars_sublist thresh rest _ _ _)
  | .frn n b :: rest, p, repl, ne => by
    simp only [textChars, mainStream]
    split
    · exact List.sublist_append_of_sublist_right (textChars_sublist thresh rest _ _ _)
    · exact textChars_sublist thresh rest _ _ _

theorem Seg.frn_render_length (n b : Str) : (Seg.frn n b).render.length = frnLen n b := by
  simp only [Seg.render, List.length_cons, List.length_append, frnName_length, frnLen, List.length_nil]
  omega

theorem textChars_render : ∀ (segs : List Seg) (p0 : Nat) (cp : Char × Nat), cp ∈ textChars p0 segs →
    p0 ≤ cp.2 ∧ (render segs)[cp.2 - p0]? = some cp.1
  | [], _, _, h => by cases h
  | .txt s :: rest, p0, cp, h => by
    simp only [textChars] at h
    rcases List.mem_append.mp h with h | h
    · exact PlainLang.posText_source [] s (render rest) p0 cp h
    · exact PlainLang.source_behind s (render rest) s.length p0 cp rfl (textChars_render rest _ cp h)
  | .frn n b :: rest, p0, cp, h =>
    PlainLang.source_behind _ (render rest) _ p0 cp (Seg.frn_render_length n b)
      (textChars_render rest _ cp h)

/-- what stands in front of the text of an insertion -/
theorem frnPre_length (n : Str) : ('\\' :: (frnName ++ '{' :: (n ++ ['}', '{']))).length = bodyOff n := by
  simp only [List.length_cons, List.length_append, frnName_length, bodyOff, List.length_nil]
  omega

theorem drop_behind (seg tl : Str) (n p0 q : Nat) (hl : seg.length = n) (h : p0 + n ≤ q) :
    (seg ++ tl).drop (q - p0) = tl.drop (q - (p0 + n)) := by
  rw [show q - p0 = seg.length + (q - (p0 + n)) by omega, ← List.drop_drop, List.drop_left]

theorem frnList_render : ∀ (segs : List Seg) (p0 : Nat) (x : Nat × Str × Str), x ∈ frnList p0 segs →
    p0 ≤ x.1 ∧ ((render segs).drop (x.1 - p0)).take x.2.2.length = x.2.2
  | [], _, _, h => by cases h
  | .txt s :: rest, p0, x, h => by
    obtain ⟨h1, h2⟩ := frnList_render rest (p0 + s.length) x h
    refine ⟨by omega, ?_⟩
    show ((s ++ render rest).drop (x.1 - p0)).take _ = _
    rw [drop_behind s _ _ p0 x.1 rfl h1]
    exact h2
  | .frn n b :: rest, p0, x, h => by
    simp only [frnList, List.mem_cons] at h
    rcases h with rfl | h
    · refine ⟨by omega, ?_⟩
      have hr : render (Seg.frn n b :: rest)
          = ('\\' :: (frnName ++ '{' :: (n ++ ['}', '{']))) ++ (b ++ '}' :: render rest) := by
        simp [render, Seg.render]
      rw [hr, show p0 + bodyOff n - p0 = ('\\' :: (frnName ++ '{' :: (n ++ ['}', '{']))).length by
        rw [frnPre_length]; omega, List.drop_left, List.take_left]
    · obtain ⟨h1, h2⟩ := frnList_render rest (p0 + frnLen n b) x h
      refine ⟨by omega, ?_⟩
      show (((Seg.frn n b).render ++ render rest).drop (x.1 - p0)).take _ = _
      rw [drop_behind _ _ _ p0 x.1 (Seg.frn_render_length n b) h1]
      exact h2

end PlainForeign
end Yalafi
