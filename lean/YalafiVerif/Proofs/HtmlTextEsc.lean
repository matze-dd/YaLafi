/-
  Proofs/HtmlTextEsc.lean — the string functions of the HTML report (Model/HtmlText.lean).
  * `protectTitle_eq`: `protect_title` (= `protect_html`, then `str.replace('<br>\n', '&#10;')` as a scan over the
    string) is a character-wise map (`ptStep`); `protectTitle_safe`: its image has no `"`, `<`, `>`, line break.
  * `htmlEscape_safe`: the image of `html.escape` has no `"`, `'`, `<`, `>`.
  * `unprotect`, `unprotect_protectHtml`: reading the entities back gives the text with tabs as eight blanks.
  * `BrFree x`: the search of the regular expression over `<br>\n` runs through `x` (no `<br>\n` inside, none begun
    at its end); closed under `++`; `BrFree.noLt` (no `<` at all), `BrFree.ofB` (decidable: `brFreeB`).
  * `brMatches_protectHtml`: on a protected text the matches are its protected lines (`hlLines`).
  * `highlightWith_eq`, `highlightWith_strip`, and the facts about `hlLines` (no line break inside a piece, the
    pieces joined give the text, one terminated piece per line break, only the last piece unterminated).
-/
import YalafiVerif.Model.HtmlText
import YalafiVerif.Proofs.Shell
namespace Yalafi
namespace HtmlText
open Html

def ptStep (c : Char) : Str := if c = '\n' then "&#10;".toList else phStep c

theorem replaceBr_cons_ne (c : Char) (t : Str) (h : c ≠ '<') : replaceBr (c :: t) = c :: replaceBr t := by
  rw [replaceBr]
  intro _ h2; exact absurd h2 h

theorem replaceBr_noLt (x t : Str) (h : ∀ c ∈ x, c ≠ '<') : replaceBr (x ++ t) = x ++ replaceBr t := by
  induction x with
  | nil => rfl
  | cons c cs ih =>
    simp only [List.cons_append]
    rw [replaceBr_cons_ne _ _ (h c (by simp)), ih (fun d hd => h d (by simp [hd]))]

theorem replaceBr_br (t : Str) : replaceBr (br ++ t) = "&#10;".toList ++ replaceBr t := by
  simp [br, replaceBr]

theorem phStep_noLt (c : Char) (hc : c ≠ '\n') : ∀ d ∈ phStep c, d ≠ '<' :=
  fun d hd => (phStep_plain c hc d hd).1

theorem phStep_nl : phStep '\n' = br := by decide

theorem replaceBr_phStep (c : Char) (t : Str) : replaceBr (phStep c ++ t) = ptStep c ++ replaceBr t := by
  by_cases hc : c = '\n'
  · subst hc; rw [phStep_nl, replaceBr_br]; rfl
  · rw [replaceBr_noLt _ _ (phStep_noLt c hc), ptStep, if_neg hc]

theorem protectTitle_eq (s : Str) : protectTitle s = s.flatMap ptStep := by
  unfold protectTitle
  rw [protectHtml_eq]
  induction s with
  | nil => rfl
  | cons c cs ih => simp only [List.flatMap_cons, replaceBr_phStep, ih]

theorem ptStep_safe (c : Char) : ∀ d ∈ ptStep c, d ≠ '"' ∧ d ≠ '<' ∧ d ≠ '>' ∧ d ≠ '\n' := by
  by_cases hc : c = '\n'
  · subst hc; decide
  · rw [ptStep, if_neg hc]
    intro d hd
    have := phStep_plain c hc d hd
    exact ⟨this.2.2.2, this.1, this.2.1, this.2.2.1⟩

/-- **the title attribute**: a `protect_title` image contains no double quote, no `<`, no `>` and no
    line break -/
theorem protectTitle_safe (s : Str) : ∀ d ∈ protectTitle s, d ≠ '"' ∧ d ≠ '<' ∧ d ≠ '>' ∧ d ≠ '\n' :=
  protectTitle_eq s ▸ List.forall_mem_flatMap.2 (fun c _ => ptStep_safe c)

theorem protectTitle_append (a b : Str) : protectTitle (a ++ b) = protectTitle a ++ protectTitle b := by
  simp only [protectTitle_eq, List.flatMap_append]

def heTable : List (Char × Str) :=
  [('&', "&amp;".toList), ('<', "&lt;".toList), ('>', "&gt;".toList), ('"', "&quot;".toList), ('\'', "&#x27;".toList)]

theorem htmlEscape_eq (s : Str) : htmlEscape s = s.flatMap (escBy heTable) := rfl

/-- **the href attribute**: an `html.escape` image contains no quote of either kind, no `<`, no `>` -/
theorem htmlEscape_safe (s : Str) : ∀ d ∈ htmlEscape s, d ≠ '"' ∧ d ≠ '<' ∧ d ≠ '>' ∧ d ≠ '\'' :=
  List.forall_mem_flatMap.2 (fun c _ =>
    escBy_cases (P := fun _ s => ∀ d ∈ s, d ≠ '"' ∧ d ≠ '<' ∧ d ≠ '>' ∧ d ≠ '\'') heTable c (by decide)
      (fun h d hd => List.mem_singleton.1 hd ▸ ⟨h _ (by decide), h _ (by decide), h _ (by decide), h _ (by decide)⟩))

/-! ### un-escaping -/

/-- what a browser shows for a protected text: the five entities `protect_html` writes, and `<br>` + line
    break as a line break -/
def unprotect : Str → Str
  | '&' :: 'a' :: 'm' :: 'p' :: ';' :: rest => '&' :: unprotect rest
  | '&' :: 'q' :: 'u' :: 'o' :: 't' :: ';' :: rest => '"' :: unprotect rest
  | '&' :: 'l' :: 't' :: ';' :: rest => '<' :: unprotect rest
  | '&' :: 'g' :: 't' :: ';' :: rest => '>' :: unprotect rest
  | '&' :: 'e' :: 'n' :: 's' :: 'p' :: ';' :: rest => ' ' :: unprotect rest
  | '<' :: 'b' :: 'r' :: '>' :: '\n' :: rest => '\n' :: unprotect rest
  | c :: rest => c :: unprotect rest
  | [] => []

/-- a tab becomes eight blanks (this is the only thing `protect_html` does not keep) -/
def untab (s : Str) : Str := s.flatMap (fun c => if c == '\t' then List.replicate 8 ' ' else [c])

theorem unprotect_cons_ne (c : Char) (t : Str) (h1 : c ≠ '&') (h2 : c ≠ '<') : unprotect (c :: t) = c :: unprotect t := by
  rw [unprotect]
  case x_6 => exact fun _ e => absurd e h2
  all_goals exact fun _ e => absurd e h1

theorem unprotect_phStep (c : Char) (t : Str) :
    unprotect (phStep c ++ t) = (if c == '\t' then List.replicate 8 ' ' else [c]) ++ unprotect t := by
  refine escBy_cases (P := fun c s => unprotect (s ++ t) = (if c == '\t' then List.replicate 8 ' ' else [c]) ++ unprotect t)
    phTable c ?_ ?_
  · intro p hp
    simp only [phTable, List.mem_cons, List.not_mem_nil, or_false] at hp
    rcases hp with rfl | rfl | rfl | rfl | rfl | rfl | rfl <;> rfl
  · intro h
    rw [beq_eq_false_iff_ne.mpr (h _ (by decide) : c ≠ '\t')]
    exact unprotect_cons_ne c t (h _ (by decide)) (h _ (by decide))

/-- **(c)** un-escaping a protected text gives the text back, tabs as eight blanks -/
theorem unprotect_protectHtml (s : Str) : unprotect (protectHtml s) = untab s := by
  rw [protectHtml_eq]
  induction s with
  | nil => rfl
  | cons c cs ih => simp only [List.flatMap_cons, unprotect_phStep, ih, untab]

theorem untab_id (s : Str) (h : '\t' ∉ s) : untab s = s := by
  induction s with
  | nil => rfl
  | cons c cs ih =>
    simp only [List.mem_cons, not_or] at h
    have hc : (c == '\t') = false := by
      cases hb : (c == '\t') with
      | false => rfl
      | true => exact absurd (by simpa using hb : c = '\t').symm h.1
    have := ih h.2
    unfold untab at this ⊢
    rw [List.flatMap_cons, hc, this]; rfl

theorem brMatchesAux_cons_ne (a : Str) (c : Char) (rest : Str) (h : c ≠ '<') :
    brMatchesAux a (c :: rest) = brMatchesAux (a ++ [c]) rest := by
  rw [brMatchesAux]
  intro _ h2; exact absurd h2 h

theorem brMatchesAux_lt_ne (a : Str) (d : Char) (rest : Str) (h : d ≠ 'b') :
    brMatchesAux a ('<' :: d :: rest) = brMatchesAux (a ++ ['<']) (d :: rest) := by
  rw [brMatchesAux]
  intro r _ h2
  simp only [List.cons.injEq] at h2
  exact h h2.1

theorem brMatchesAux_br (a rest : Str) : brMatchesAux a (br ++ rest) = (a, true) :: brMatchesAux [] rest := by
  simp [br, brMatchesAux]

/-- `x` contains no `<br>\n`, and does not end in a begin of one: in front of any `rest` the search of
    the regular expression runs through `x` -/
def BrFree (x : Str) : Prop := ∀ a rest, brMatchesAux a (x ++ rest) = brMatchesAux (a ++ x) rest

theorem BrFree.nil : BrFree [] := by intro a rest; simp

theorem BrFree.append {x y : Str} (hx : BrFree x) (hy : BrFree y) : BrFree (x ++ y) := by
  intro a rest
  rw [List.append_assoc, hx, hy, List.append_assoc]

theorem BrFree.noLt {x : Str} (h : ∀ c ∈ x, c ≠ '<') : BrFree x := by
  induction x with
  | nil => exact BrFree.nil
  | cons c cs ih =>
    intro a rest
    have := ih (fun d hd => h d (by simp [hd])) (a ++ [c]) rest
    simp only [List.cons_append]
    rw [brMatchesAux_cons_ne _ _ _ (h c (by simp)), this]
    simp

/-- a decidable sufficient condition: no `<` at the end, none in front of a `b` -/
def brFreeB : Str → Bool
  | [] => true
  | c :: rest =>
    if c == '<' then (match rest with | [] => false | d :: _ => d != 'b') && brFreeB rest else brFreeB rest

theorem BrFree.ofB {x : Str} (h : brFreeB x = true) : BrFree x := by
  induction x with
  | nil => exact BrFree.nil
  | cons c cs ih =>
    unfold brFreeB at h
    split at h
    · rename_i hc
      simp only [beq_iff_eq] at hc; subst hc
      simp only [Bool.and_eq_true] at h
      cases cs with
      | nil => simp at h
      | cons d ds =>
        have hd : d ≠ 'b' := by simpa using h.1
        intro a rest
        have := ih h.2 (a ++ ['<']) rest
        simp only [List.cons_append] at this ⊢
        rw [brMatchesAux_lt_ne _ _ _ hd, this]; simp
    · rename_i hc
      have hc' : c ≠ '<' := by simpa using hc
      intro a rest
      have := ih h (a ++ [c]) rest
      simp only [List.cons_append]
      rw [brMatchesAux_cons_ne _ _ _ hc', this]; simp

/-- the pieces `generate_highlight` wraps: the lines of the text, each with the mark "a line break
    follows"; the rest behind the last line break only if it is not empty -/
def hlLinesAux : Str → Str → List (Str × Bool)
  | acc, [] => if acc.isEmpty then [] else [(acc, false)]
  | acc, c :: cs => if c == '\n' then (acc, true) :: hlLinesAux [] cs else hlLinesAux (acc ++ [c]) cs

def hlLines (s : Str) : List (Str × Bool) := hlLinesAux [] s

theorem hlLinesAux_nl (acc cs : Str) : hlLinesAux acc ('\n' :: cs) = (acc, true) :: hlLinesAux [] cs := rfl

theorem hlLinesAux_ne (acc : Str) (c : Char) (cs : Str) (hc : c ≠ '\n') :
    hlLinesAux acc (c :: cs) = hlLinesAux (acc ++ [c]) cs := by
  rw [hlLinesAux, if_neg (by simpa using hc)]

theorem phStep_ne_nil (c : Char) : phStep c ≠ [] :=
  escBy_cases (P := fun _ s => s ≠ []) phTable c (by decide) (fun _ => List.cons_ne_nil _ _)

theorem protectHtml_isEmpty (s : Str) : (protectHtml s).isEmpty = s.isEmpty := by
  cases s with
  | nil => rfl
  | cons c cs =>
    have := phStep_ne_nil c
    rw [protectHtml_eq, List.flatMap_cons]
    cases h : phStep c with
    | nil => exact absurd h this
    | cons d ds => rfl

theorem protectHtml_snoc (a : Str) (c : Char) : protectHtml (a ++ [c]) = protectHtml a ++ phStep c := by
  rw [protectHtml_append]; simp [protectHtml_eq]

theorem protectHtml_cons (c : Char) (s : Str) : protectHtml (c :: s) = phStep c ++ protectHtml s := by
  simp [protectHtml_eq]

theorem brMatchesAux_protectHtml (acc s : Str) :
    brMatchesAux (protectHtml acc) (protectHtml s) = (hlLinesAux acc s).map (fun l => (protectHtml l.1, l.2)) := by
  induction s generalizing acc with
  | nil =>
    have : protectHtml [] = [] := rfl
    rw [this, brMatchesAux, hlLinesAux, protectHtml_isEmpty]
    split <;> simp
  | cons c cs ih =>
    rw [protectHtml_cons]
    by_cases hc : c = '\n'
    · subst hc
      rw [phStep_nl, brMatchesAux_br, hlLinesAux_nl, List.map_cons, ← ih []]
      rfl
    · rw [BrFree.noLt (phStep_noLt c hc), ← protectHtml_snoc, ih, hlLinesAux_ne _ _ _ hc]

theorem brMatches_protectHtml (s : Str) :
    brMatches (protectHtml s) = (hlLines s).map (fun l => (protectHtml l.1, l.2)) :=
  brMatchesAux_protectHtml [] s

def joinLines (ls : List (Str × Bool)) : Str := ls.flatMap (fun l => l.1 ++ (if l.2 then ['\n'] else []))

theorem hlLinesAux_join (acc s : Str) : joinLines (hlLinesAux acc s) = acc ++ s := by
  induction s generalizing acc with
  | nil =>
    rw [hlLinesAux]
    cases acc <;> simp [joinLines]
  | cons c cs ih =>
    by_cases hc : c = '\n'
    · subst hc
      rw [hlLinesAux_nl]
      have := ih []
      simp [joinLines] at this ⊢
      exact this
    · rw [hlLinesAux_ne _ _ _ hc, ih]
      simp

theorem hlLinesAux_no_nl (acc s : Str) (hacc : '\n' ∉ acc) : ∀ l ∈ hlLinesAux acc s, '\n' ∉ l.1 := by
  induction s generalizing acc with
  | nil =>
    rw [hlLinesAux]
    split
    · simp
    · intro l hl; simp at hl; subst hl; exact hacc
  | cons c cs ih =>
    by_cases hc : c = '\n'
    · subst hc
      rw [hlLinesAux_nl]
      intro l hl
      simp at hl
      rcases hl with hl | hl
      · subst hl; exact hacc
      · exact ih [] (by simp) l hl
    · rw [hlLinesAux_ne _ _ _ hc]
      apply ih
      simp only [List.mem_append, List.mem_singleton, not_or]
      exact ⟨hacc, fun e => hc e.symm⟩

/-- only the last line piece can be without a line break behind it, and then it is not empty -/
theorem hlLinesAux_shape (acc s : Str) :
    ∃ (ls : List Str) (last : Str), hlLinesAux acc s = ls.map (fun l => (l, true)) ++ (if last.isEmpty then [] else [(last, false)]) := by
  induction s generalizing acc with
  | nil => exact ⟨[], acc, by rw [hlLinesAux]; simp⟩
  | cons c cs ih =>
    by_cases hc : c = '\n'
    · subst hc
      rw [hlLinesAux_nl]
      obtain ⟨ls, last, h⟩ := ih []
      exact ⟨acc :: ls, last, by simp [h]⟩
    · rw [hlLinesAux_ne _ _ _ hc]
      exact ih _

theorem hlLinesAux_count (acc s : Str) : ((hlLinesAux acc s).filter (·.2)).length = s.count '\n' := by
  induction s generalizing acc with
  | nil => rw [hlLinesAux]; split <;> simp
  | cons c cs ih =>
    by_cases hc : c = '\n'
    · subst hc; simp [hlLinesAux_nl, ih]
    · have hb : (c == '\n') = false := beq_eq_false_iff_ne.mpr hc
      simp [hlLinesAux_ne _ _ _ hc, hb, ih, List.count_cons]

theorem highlightWith_eq (pre post s : Str) :
    highlightWith pre post s = (hlLines s).flatMap (fun l => pre ++ protectHtml l.1 ++ post ++ brGroup2 l.2) := by
  unfold highlightWith
  rw [brMatches_protectHtml, List.flatMap_map]

theorem protectHtml_joinLines (ls : List (Str × Bool)) :
    protectHtml (joinLines ls) = ls.flatMap (fun l => protectHtml l.1 ++ brGroup2 l.2) := by
  induction ls with
  | nil => rfl
  | cons l ls ih =>
    simp only [joinLines, List.flatMap_cons] at ih ⊢
    rw [protectHtml_append, protectHtml_append, ih]
    congr 2
    cases l.2 <;> simp [brGroup2, protectHtml_eq, phStep_nl]

theorem protectHtml_hlLines (s : Str) :
    protectHtml s = (hlLines s).flatMap (fun l => protectHtml l.1 ++ brGroup2 l.2) := by
  rw [← protectHtml_joinLines, hlLines, hlLinesAux_join, List.nil_append]

theorem highlightWith_strip (s : Str) : highlightWith [] [] s = protectHtml s := by
  rw [highlightWith_eq, protectHtml_hlLines s]
  simp

end HtmlText
end Yalafi
