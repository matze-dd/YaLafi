/-
  Proofs/HtmlTextRows.lean — from the string `res_tot` to the rows of the big table, and the page text of one file
  as pieces.  `res_tot` is the rendering of ITEMS: chunks of pieces (one line of a plain piece, or one line of a
  highlighted piece inside its tag pair) and `<br>\n` (`resItems`, `renderItems_res`); every chunk lets the search
  for `<br>\n` through and leaves the tokenizer in text (`ChunkOk`, `itemsOk_res`), so the matches of the regular
  expression of `add_line_numbers` are the chunks between the `<br>\n` (`rowsP`, `brMatchesAux_items`), and the
  table is the rendering of row templates around these cells (`addLineNumbers_pieces`).  The page text
  (`reportPieces`) is equal to the model's string (`assemble_pieces`, `generateHtmlText_ok`) and well placed
  (`flow_reportPieces`).
-/
import YalafiVerif.Proofs.HtmlTextTok
namespace Yalafi
namespace HtmlText
open Html

inductive Item where
  | chunk (ps : List TPiece)
  | brk
deriving Repr, Inhabited

def Item.render : Item → Str
  | .chunk ps => renderPieces ps
  | .brk => br

def renderItems (its : List Item) : Str := its.flatMap Item.render

/-- the items as pieces: a `<br>\n` is the image of a line break -/
def Item.pieces : Item → List TPiece
  | .chunk ps => ps
  | .brk => [.esc ['\n']]

def itemPieces (its : List Item) : List TPiece := its.flatMap Item.pieces

theorem render_esc_nl : renderPieces [.esc ['\n']] = br := by decide

theorem renderPieces_itemPieces (its : List Item) : renderPieces (itemPieces its) = renderItems its := by
  induction its with
  | nil => rfl
  | cons i its ih =>
    simp only [itemPieces, renderItems, List.flatMap_cons] at ih ⊢
    rw [renderPieces_append, ih]
    cases i with
    | chunk ps => rfl
    | brk => rw [Item.pieces, render_esc_nl]; rfl

theorem renderItems_append (a b : List Item) : renderItems (a ++ b) = renderItems a ++ renderItems b := by
  simp [renderItems]

def lineItems (w : Str → List TPiece) (s : Str) : List Item :=
  (hlLines s).flatMap (fun l => .chunk (w l.1) :: (if l.2 then [.brk] else []))

def plainW (l : Str) : List TPiece := [.esc l]

def wrap (t : Tag) (l : Str) : List TPiece := t.1 ++ [.esc l] ++ t.2 ++ endMatch

theorem render_wrap (t : Tag) (l : Str) : renderPieces (wrap t l) = t.pre ++ protectHtml l ++ t.post := by
  simp [wrap, Tag.pre, Tag.post, renderPieces, TPiece.render]

theorem renderItems_lineItems (w : Str → List TPiece) (s : Str) :
    renderItems (lineItems w s) = (hlLines s).flatMap (fun l => renderPieces (w l.1) ++ brGroup2 l.2) := by
  unfold lineItems renderItems
  rw [List.flatMap_assoc]
  congr 1
  funext l
  cases l.2 <;> simp [Item.render, brGroup2]

theorem renderItems_plain (s : Str) : renderItems (lineItems plainW s) = protectHtml s := by
  rw [renderItems_lineItems, protectHtml_hlLines s]
  simp [plainW, renderPieces, TPiece.render]

theorem renderItems_wrap (t : Tag) (s : Str) : renderItems (lineItems (wrap t) s) = highlightWith t.pre t.post s := by
  rw [renderItems_lineItems, highlightWith_eq]
  congr 1
  funext l
  rw [render_wrap]

def pieceItems (tags : List Tag) : Piece → List Item
  | .plain s => lineItems plainW s
  | .hi idx s => lineItems (wrap (tags.getD idx ([], []))) s

def regionItems (tags : List Tag) (ps : List Piece) : List Item := ps.flatMap (pieceItems tags)

theorem renderItems_region (tags : List Tag) (ps : List Piece) :
    renderItems (regionItems tags ps) = regionText tags ps := by
  induction ps with
  | nil => rfl
  | cons p ps ih =>
    simp only [regionItems, regionText, List.flatMap_cons] at ih ⊢
    rw [renderItems_append, ih]
    cases p with
    | plain s => simp [pieceItems, renderItems_plain]
    | hi idx s => simp [pieceItems, renderItems_wrap, hlText]

/-- `res_tot` as items -/
def resItems (tags : List Tag) (rep : Report) : List Item :=
  match rep.first with
  | some f => lineItems plainW f.1
  | none => rep.regions.flatMap (fun r => regionItems tags r.pieces ++ [.brk])

theorem renderItems_res (tags : List Tag) (rep : Report) : renderItems (resItems tags rep) = resTot tags rep := by
  unfold resItems resTot
  cases hf : rep.first with
  | some f => exact renderItems_plain _
  | none =>
    simp only []
    generalize rep.regions = rs
    induction rs with
    | nil => rfl
    | cons r rs ih =>
      simp only [List.flatMap_cons]
      rw [renderItems_append, ih, renderItems_append, renderItems_region]
      rfl

def ChunksAll (P : List TPiece → Prop) (its : List Item) : Prop := ∀ ps, Item.chunk ps ∈ its → P ps

theorem ChunksAll.nil {P : List TPiece → Prop} : ChunksAll P [] := fun _ h => absurd h List.not_mem_nil

theorem ChunksAll.brk {P : List TPiece → Prop} : ChunksAll P [.brk] := by intro ps h; simp at h

theorem ChunksAll.append {P : List TPiece → Prop} {a b : List Item} (ha : ChunksAll P a) (hb : ChunksAll P b) :
    ChunksAll P (a ++ b) := by
  intro ps h
  rcases List.mem_append.1 h with h | h
  · exact ha ps h
  · exact hb ps h

theorem ChunksAll.tail {P : List TPiece → Prop} {i : Item} {its : List Item} (h : ChunksAll P (i :: its)) :
    ChunksAll P its :=
  fun ps hp => h ps (List.mem_cons_of_mem _ hp)

theorem chunksAll_lineItems (P : List TPiece → Prop) (w : Str → List TPiece) (hw : ∀ l, '\n' ∉ l → P (w l)) (s : Str) :
    ChunksAll P (lineItems w s) := by
  intro ps h
  simp only [lineItems, List.mem_flatMap] at h
  obtain ⟨l, hl, hm⟩ := h
  have : ps = w l.1 := by
    cases l.2 <;> simp at hm <;> exact hm
  subst this
  exact hw _ (hlLinesAux_no_nl [] s (by simp) l hl)

theorem chunksAll_region (P : List TPiece → Prop) (tags : List Tag) (hplain : ∀ l, '\n' ∉ l → P (plainW l))
    (hwrap : ∀ idx l, '\n' ∉ l → P (wrap (tags.getD idx ([], [])) l)) (ps : List Piece) :
    ChunksAll P (regionItems tags ps) := by
  induction ps with
  | nil => exact ChunksAll.nil
  | cons p ps ih =>
    simp only [regionItems, List.flatMap_cons] at ih ⊢
    refine ChunksAll.append ?_ ih
    cases p with
    | plain s => exact chunksAll_lineItems P _ hplain s
    | hi idx s => exact chunksAll_lineItems P _ (hwrap idx) s

theorem chunksAll_res (P : List TPiece → Prop) (tags : List Tag) (hplain : ∀ l, '\n' ∉ l → P (plainW l))
    (hwrap : ∀ idx l, '\n' ∉ l → P (wrap (tags.getD idx ([], [])) l)) (rep : Report) :
    ChunksAll P (resItems tags rep) := by
  unfold resItems
  split
  · exact chunksAll_lineItems P _ hplain _
  · generalize rep.regions = rs
    induction rs with
    | nil => exact ChunksAll.nil
    | cons r rs ih =>
      simp only [List.flatMap_cons]
      exact ((chunksAll_region P tags hplain hwrap r.pieces).append ChunksAll.brk).append ih

def ChunkOk (ps : List TPiece) : Prop :=
  BrFree (renderPieces ps) ∧ ∀ rest, flow .text (ps ++ rest) = flow .text rest

theorem flow_esc (s : Str) (rest : List TPiece) : flow .text (.esc s :: rest) = flow .text rest := rfl

theorem chunkOk_plainW (l : Str) (hl : '\n' ∉ l) : ChunkOk (plainW l) :=
  ⟨brFree_pieces _ (by simp [plainW, brOkP, hl]), fun _ => rfl⟩

theorem chunkOk_wrap (t : Tag) (ht : TagOk t) (l : Str) (hl : '\n' ∉ l) : ChunkOk (wrap t l) := by
  constructor
  · rw [render_wrap]
    exact (ht.brPre.append (BrFree.noLt (protectHtml_noLt l hl))).append ht.brPost
  · intro rest
    simp only [wrap, List.append_assoc]
    rw [ht.flowPre]
    simp only [List.cons_append, List.nil_append, flow_esc]
    have := ht.flowPost rest
    simp only [List.append_assoc] at this
    exact this

/-- the matches of the regular expression as pieces: the cell of every table row, and whether `<br>\n`
    follows; `acc` = the pieces since the last `<br>\n` -/
def rowsP : List TPiece → List Item → List (List TPiece × Bool)
  | acc, [] => if (renderPieces acc).isEmpty then [] else [(acc, false)]
  | acc, .brk :: its => (acc, true) :: rowsP [] its
  | acc, .chunk ps :: its => rowsP (acc ++ ps) its

theorem brMatchesAux_items (its : List Item) (h : ChunksAll ChunkOk its) (acc : List TPiece) :
    brMatchesAux (renderPieces acc) (renderItems its) = (rowsP acc its).map (fun r => (renderPieces r.1, r.2)) := by
  induction its generalizing acc with
  | nil =>
    have : renderItems [] = [] := rfl
    rw [this, brMatchesAux, rowsP]
    split <;> simp
  | cons i its ih =>
    have hr : renderItems (i :: its) = i.render ++ renderItems its := by simp [renderItems]
    rw [hr]
    cases i with
    | brk =>
      rw [Item.render, brMatchesAux_br, rowsP]
      have := ih h.tail []
      have e : renderPieces [] = [] := rfl
      rw [e] at this
      simp [this]
    | chunk ps =>
      rw [Item.render, (h ps (by simp)).1, rowsP, ← renderPieces_append]
      exact ih h.tail _

theorem rowsP_forall (P : List TPiece → Prop) (hnil : P []) (happ : ∀ a b, P a → P b → P (a ++ b))
    (its : List Item) (h : ChunksAll P its) (acc : List TPiece) (hacc : P acc) : ∀ r ∈ rowsP acc its, P r.1 := by
  induction its generalizing acc with
  | nil =>
    rw [rowsP]; split
    · simp
    · intro r hr; simp at hr; subst hr; exact hacc
  | cons i its ih =>
    cases i with
    | brk =>
      rw [rowsP]
      intro r hr
      rcases List.mem_cons.mp hr with e | e
      · subst e; exact hacc
      · exact ih h.tail [] hnil r e
    | chunk ps =>
      rw [rowsP]
      exact ih h.tail _ (happ _ _ hacc (h ps (by simp)))

def numberedP (numberStyle : Str) : List (List TPiece × Bool) → List Int → List TPiece
  | r :: rs, n :: nums => rowHead numberStyle n ++ r.1 ++ rowTail ++ numberedP numberStyle rs nums
  | _, _ => []

theorem numberRows_pieces (ns : Str) (rows : List (List TPiece × Bool)) (nums : List Int) (out : Str)
    (h : numberRows ns (rows.map (fun r => (renderPieces r.1, r.2))) nums = .ok out) :
    out = renderPieces (numberedP ns rows nums) := by
  induction rows generalizing nums out with
  | nil => simp [numberRows] at h; subst h; rfl
  | cons r rs ih =>
    cases nums with
    | nil => simp [numberRows] at h
    | cons n nums =>
      simp only [List.map_cons, numberRows] at h
      split at h
      · rename_i o ho
        cases h
        rw [numberedP, renderPieces_append, renderPieces_append, renderPieces_append, ← ih nums o ho]
      · cases h
      · cases h

theorem addLineNumbers_pieces (ns : Str) (its : List Item) (h : ChunksAll ChunkOk its) (nums : List Int) (tab : Str)
    (hok : addLineNumbers ns (renderItems its) nums = .ok tab) :
    tab = renderPieces ([tableOpen] ++ numberedP ns (rowsP [] its) nums ++ [tableClose]) := by
  unfold addLineNumbers at hok
  have hm := brMatchesAux_items its h []
  have e : renderPieces [] = [] := rfl
  rw [e] at hm
  rw [brMatches, hm] at hok
  split at hok
  · rename_i o ho
    cases hok
    have := numberRows_pieces ns _ nums o ho
    rw [renderPieces_append, renderPieces_append, ← this]
    simp [renderPieces]
  · cases hok
  · cases hok

/-- `generate_highlight` as pieces (a cell of the table of overlapping messages: the `<br>\n` stay
    inside the cell) -/
def hlPieces (t : Tag) (s : Str) : List TPiece := itemPieces (lineItems (wrap t) s)

theorem render_hlPieces (t : Tag) (s : Str) : renderPieces (hlPieces t s) = highlightWith t.pre t.post s := by
  rw [hlPieces, renderPieces_itemPieces, renderItems_wrap]

/-- the big table (or, without any line number, the bare text — which is empty then) -/
def tablePieces (V : Vars) (tags : List Tag) (rep : Report) : List TPiece :=
  if rep.lineNumbers.isEmpty then itemPieces (resItems tags rep)
  else [tableOpen] ++ numberedP V.numberStyle (rowsP [] (resItems tags rep)) rep.lineNumbers ++ [tableClose]

def overlapRow (V : Vars) (tags : List Tag) (o : Overlap) : List TPiece :=
  overlapRowHead V.numberStyle o.lin ++ hlPieces (tags.getD o.idx ([], [])) o.text ++ overlapRowTail

/-- `postfix` -/
def overlapPieces (V : Vars) (file : Str) (tags : List Tag) (ov : List Overlap) : List TPiece :=
  if ov.isEmpty then [] else postfixHead file ++ ov.flatMap (overlapRow V tags) ++ postfixTail

/-- the page text of one file: `prefix + res_tot + postfix` -/
def reportPieces (V : Vars) (file : Str) (n : Nat) (rep : Report) (tags : List Tag) : List TPiece :=
  prefixPieces file n (!rep.overlaps.isEmpty) ++ tablePieces V tags rep ++ overlapPieces V file tags rep.overlaps

theorem render_overlapRows (V : Vars) (tags : List Tag) (ov : List Overlap) :
    renderPieces (ov.flatMap (overlapRow V tags)) =
      ov.flatMap (fun o => renderPieces (overlapRowHead V.numberStyle o.lin) ++ hlText tags o.idx o.text
                            ++ renderPieces overlapRowTail) := by
  induction ov with
  | nil => rfl
  | cons o ov ih =>
    simp only [List.flatMap_cons]
    rw [renderPieces_append, ih, overlapRow, renderPieces_append, renderPieces_append, render_hlPieces]
    rfl

theorem assemble_pieces (V : Vars) (hV : VarsOk V) (ms : List Json) (file : Str) (rep : Report) (r : FileReport)
    (h : assemble V ms file rep = .ok r) :
    ∃ tags, matchTags V ms rep.hdata = .ok tags ∧
      r.body = renderPieces (reportPieces V file ms.length rep tags) ∧
      r.title = protectHtml (titleText file ms.length) ∧ r.anchor = file ∧ r.count = ms.length := by
  unfold assemble at h
  split at h
  · rename_i tags htags
    refine ⟨tags, htags, ?_⟩
    have hto := matchTags_tagOk V hV ms rep.hdata tags htags
    have hio := chunksAll_res ChunkOk tags chunkOk_plainW (fun idx => chunkOk_wrap _ (tagOk_getD tags hto idx)) rep
    simp only [] at h
    split at h
    · rename_i tab htab
      cases h
      refine ⟨?_, rfl, rfl, rfl⟩
      simp only [reportPieces, renderPieces_append]
      congr 1
      · congr 1
        unfold tablePieces
        split at htab
        · rename_i he
          cases htab
          rw [if_pos he, renderPieces_itemPieces, renderItems_res]
        · rename_i he
          rw [if_neg he]
          rw [← renderItems_res] at htab
          exact addLineNumbers_pieces _ _ hio _ _ htab
      · unfold overlapPieces
        split
        · rfl
        · simp only [renderPieces_append, render_overlapRows]
    · cases h
    · cases h
  · cases h
  · cases h

theorem olPrefix_length (ms : List Json) : (olPrefix ms).length ≤ ms.length := by
  induction ms with
  | nil => simp [olPrefix]
  | cons m ms ih =>
    unfold olPrefix
    split <;> simp <;> omega

theorem generateHtmlText_ok (T : Tables) (V : Vars) (tex : Str) (charmap : List Int) (ms : List Json) (file : Str)
    (context : Nat) (r : FileReport) (h : generateHtmlText T V tex charmap ms file context = .ok r) :
    ∃ rep, (olPrefix ms).length = ms.length ∧ generateHtml T tex charmap (olPrefix ms) context = .ok rep ∧
      assemble V ms file rep = .ok r := by
  unfold generateHtmlText at h
  simp only [] at h
  split at h
  · cases h
  · cases h
  · split at h
    · cases h
    · rename_i hl
      split at h
      · rename_i rep hrep
        exact ⟨rep, by have := olPrefix_length ms; omega, hrep, h⟩
      · cases h
      · cases h

structure Closed (P : List TPiece → Prop) : Prop where
  nil : P []
  append : ∀ {a b}, P a → P b → P (a ++ b)

namespace Closed
variable {P : List TPiece → Prop} (hP : Closed P)
include hP

theorem flatMap {α} (f : α → List TPiece) (l : List α) (h : ∀ x ∈ l, P (f x)) : P (l.flatMap f) := by
  induction l with
  | nil => exact hP.nil
  | cons x xs ih =>
    rw [List.flatMap_cons]
    exact hP.append (h x List.mem_cons_self) (ih (fun y hy => h y (List.mem_cons_of_mem _ hy)))

theorem items (hesc : ∀ l, P [.esc l]) (its : List Item) (h : ChunksAll P its) : P (itemPieces its) :=
  hP.flatMap _ its (fun i hi => match i, hi with
    | .chunk ps, hi => h ps hi
    | .brk, _ => hesc _)

theorem wrapped (hesc : ∀ l, P [.esc l]) (t : Tag) (h1 : P t.1) (h2 : P (t.2 ++ endMatch)) (l : Str) : P (wrap t l) := by
  unfold wrap
  rw [List.append_assoc]
  exact hP.append (hP.append h1 (hesc l)) h2

theorem numbered (ns : Str) (hhead : ∀ n, P (rowHead ns n)) (htail : P rowTail) (rows : List (List TPiece × Bool))
    (hrows : ∀ r ∈ rows, P r.1) (nums : List Int) : P (numberedP ns rows nums) := by
  induction rows generalizing nums with
  | nil => exact hP.nil
  | cons r rs ih =>
    cases nums with
    | nil => exact hP.nil
    | cons n nums =>
      rw [numberedP]
      exact hP.append (hP.append (hP.append (hhead n) (hrows r List.mem_cons_self)) htail)
        (ih (fun r' hr' => hrows r' (List.mem_cons_of_mem _ hr')) nums)

/-- the report of one file is put together by `++` from: escaped text, the tag pairs of the matches, and the
    row, table and heading templates -/
theorem report (V : Vars) (file : Str) (n : Nat) (rep : Report) (tags : List Tag) (hesc : ∀ l, P [.esc l])
    (htag : ∀ idx, P (tags.getD idx ([], [])).1 ∧ P ((tags.getD idx ([], [])).2 ++ endMatch))
    (hprefix : ∀ b, P (prefixPieces file n b)) (hopen : P [tableOpen]) (hclose : P [tableClose])
    (hhead : ∀ k, P (rowHead V.numberStyle k)) (htail : P rowTail)
    (hovHead : ∀ k, P (overlapRowHead V.numberStyle k)) (hovTail : P overlapRowTail)
    (hpostHead : P (postfixHead file)) (hpostTail : P postfixTail) : P (reportPieces V file n rep tags) := by
  have hw : ∀ idx l, P (wrap (tags.getD idx ([], [])) l) := fun idx l => hP.wrapped hesc _ (htag idx).1 (htag idx).2 l
  have hres : ChunksAll P (resItems tags rep) := chunksAll_res P tags (fun l _ => hesc l) (fun idx l _ => hw idx l) rep
  refine hP.append (hP.append (hprefix _) ?_) ?_
  · unfold tablePieces
    split
    · exact hP.items hesc _ hres
    · exact hP.append (hP.append hopen (hP.numbered _ hhead htail _
        (rowsP_forall P hP.nil (fun _ _ => hP.append) _ hres [] hP.nil) _)) hclose
  · unfold overlapPieces
    split
    · exact hP.nil
    · refine hP.append (hP.append hpostHead (hP.flatMap _ _ (fun o _ => ?_))) hpostTail
      exact hP.append (hP.append (hovHead _) (hP.items hesc _ (chunksAll_lineItems P _ (fun l _ => hw o.idx l) _))) hovTail

end Closed

def Thru (ps : List TPiece) : Prop := Flows .text ps .text

theorem thru_closed : Closed Thru := ⟨Flows.nil _, Flows.append⟩

theorem Flows.textLit (s : Str) (h : ∀ c ∈ s, c ≠ '<') : Flows .text [.lit s] .text := fun rest => by
  simp only [List.cons_append, List.nil_append, flow, List.map_cons, TPiece.shape, flowS, scan_text_noLt s h]

theorem natToStr_noLt (n : Nat) : ∀ c ∈ natToStr n, c ≠ '<' := by
  intro c hc e
  subst e
  exact absurd (natToStr_digits n _ hc) (by decide)

theorem lineLabel_noLt (n : Int) : ∀ c ∈ lineLabel n, c ≠ '<' := by
  unfold lineLabel
  split
  · exact natToStr_noLt _
  · simp

/-- `<… style="` + style + `" align="right" valign="top">` + number + a literal: the head of a row of either table -/
theorem flows_numberCell (a : String) (q : Str) (ha : (scan .text a.toList).1 = .dq q) (ns lbl : Str) (b : String)
    (hns : styleOk ns = true) (hl : ∀ c ∈ lbl, c ≠ '<') (hb : (scan .text b.toList).1 = .text) :
    Flows .text [L a, .lit ns, L "\" align=\"right\" valign=\"top\">", .lit lbl, L b] .text :=
  .cons (.L' ha) (.cons (.dq q (.lit ns) (styleOk_noQuote ns hns)) (.cons (.L _ _) (.cons (.textLit _ hl) (.L' hb))))

theorem flows_prefix (file : Str) (hf : file.all (· != '"') = true) (n : Nat) (b : Bool) :
    Flows .text (prefixPieces file n b) .text := by
  refine Flows.append (c := .text)
    (.cons (.L _ _) (.cons (.dq _ (.raw file) hf) (.cons (.L _ _) (.cons (.esc _) (.L _ _))))) ?_
  cases b
  · exact .nil _
  · exact .cons (.L _ _) (.cons (.dq _ (.raw file) hf) (.cons (.L _ _) (.cons (.L _ _) (.cons (.L _ _) (.L _ _)))))

theorem flows_postfixHead (file : Str) (hf : file.all (· != '"') = true) : Flows .text (postfixHead file) .text :=
  .cons (.L _ _) (.cons (.dq _ (.raw file) hf) (.cons (.L _ _) (.cons (.L _ _) (.cons (.esc _) (.cons (.L _ _) (.L _ _))))))

/-- **all data stands where it is harmless**: in the report of one file every `esc` piece stands in text,
    every `escTitle`/`escAttr` piece inside a double-quoted attribute value, and the page ends in text -/
theorem flow_reportPieces (V : Vars) (hV : VarsOk V) (file : Str) (hf : file.all (· != '"') = true) (n : Nat)
    (rep : Report) (tags : List Tag) (ht : ∀ t ∈ tags, TagOk t) :
    flow .text (reportPieces V file n rep tags) = some .text := by
  have := thru_closed.report V file n rep tags Flows.esc
    (fun idx => ⟨(tagOk_getD tags ht idx).flowPre, (tagOk_getD tags ht idx).flowPost⟩) (flows_prefix file hf n)
    (Flows.L _ _) (Flows.L _ _)
    (fun k => flows_numberCell _ "<td style=\"".toList (by decide) _ _ _ hV.ns (lineLabel_noLt k) (by decide))
    (Flows.L _ _)
    (fun k => flows_numberCell _ "<td style=\"".toList (by decide) _ _ _ hV.ns (natToStr_noLt k) (by decide))
    (Flows.L _ _) (flows_postfixHead file hf) (Flows.L _ _) []
  rwa [List.append_nil] at this

end HtmlText
end Yalafi
