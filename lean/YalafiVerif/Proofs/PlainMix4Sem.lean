/-
  Proofs/PlainMix4Sem.lean — what the pieces of a source MEAN (fourth union grammar; header with the
  end-to-end statement and all side conditions: Proofs/PlainMix4E2E.lean).

  The scanner lemma (Proofs/PlainMix4Scan.lean) yields the pieces of the token buffer with their STATIC
  conditions and a structural link `Link T st1 ps items` to the items of the source.  Here everything
  that depends on the state is threaded along the link: the stored collections `l` of inline /
  display placeholders, the parser state `st` (its macro table changes at every definition, its
  `itemStack` at every list command) and the environment `env` of the definitions in force.

  `BS`                   every macro that is not declared in `st1` has a name with a backslash
  `marksOf_fOut`, `simple_fOut`, `simple_dispOut`   marks of a formula of the rich class / simplicity
  `CollOk`               the placeholders that are used have no line break (or are blank)
  `Sem`, `link_sem`      marks / simplicity / `Live` / fuel / unknown names / flows / formulas
  `Sem.cons`             one piece in front: what it adds on the side of the tokens and on the side of
                         the reference, field by field (every case of `link_sem` but `\item[label]`)
-/
import YalafiVerif.Proofs.PlainMix4Scan
import YalafiVerif.Proofs.PlainMix4Loop
namespace Yalafi
namespace PlainMix4

open M
open PlainMacro hiding useSt useBody userMacro defSt
open PlainMix (ReplOk)
open PlainFootnote (flowToks addFlow)
open PlainMacroArgs (Group groupsFlat groupsOut GroupGood userMacro defSt useSt useN useBody GoodBody
  DigitOk Rel BodyLink GroupsLink normBody lookupDef defOf argSpans startCur bodyMarks groupMarks
  argsLen bodyInserted genOut genCur)
open PlainMathRich (mt mout fOut toMT MT hdTok ltTok shapeTxt fTxt anchor MItem)
open PlainUnkn2 (mcost)


def BS (st1 st : PState) : Prop := UserTable.Users (fun nm _ => ∃ name, nm = '\\' :: name) st1 st

theorem BS.refl (st1 : PState) : BS st1 st1 := UserTable.Users.refl _ st1

theorem BS.of_macros {st1 st st' : PState} (h : BS st1 st) (hm : st'.macros = st.macros) : BS st1 st' :=
  UserTable.Users.of_macros h hm

theorem BS.defSt {st1 st : PState} (h : BS st1 st) (name : Str) (n : Nat) (body : List Tok) :
    BS st1 (defSt st name n body) :=
  UserTable.Users.set h _ ⟨name, rfl⟩

theorem BS.useSt {st1 st : PState} (h : BS st1 st) (name : Str) : BS st1 (useSt st name) :=
  h.of_macros (PlainMacroArgs.useSt_reads st name).macros


theorem marksOf_fOut (T : PTables) (ph : Str) (p : Nat) (mb : List Tok) :
    marksOf (fOut T ph p mb)
      = none :: ((shapeTxt T mb ph).map (fun c => some (c, (hdTok mb).pos)) ++ [none]) := by
  unfold fOut shapeTxt inlineShape
  cases partPunct T mb <;> by_cases h0 : (hdTok mb).kind = .mathSpace <;>
    by_cases hl : (ltTok mb).kind = .mathSpace <;>
    simp [h0, hl, marksOf_cons, marksOf_append, tokMarks_mkAction, tokMarks_mkFix, mathSp, marksOf]

theorem simple_mkFix_char (k : Kind) (hk : k = .text ∨ k = .space) (q : Nat) (c : Char) :
    Simple (mkFix k q [c]) := by
  refine ⟨by rcases hk with rfl | rfl <;> simp [isAction, mkFix],
    by rcases hk with rfl | rfl <;> simp [isLang, mkFix], ?_⟩
  intro hn
  have : nl = c := by simpa [hasNl, mkFix] using hn
  subst this
  rfl

theorem simple_fOut (T : PTables) (ph : Str) (p : Nat) (mb : List Tok) (h : ReplOk ph) :
    ∀ t ∈ fOut T ph p mb, Simple t := by
  intro t ht
  unfold fOut inlineShape at ht
  simp only [List.mem_cons, List.mem_append, List.mem_singleton, List.not_mem_nil, or_false] at ht
  rcases ht with rfl | (((ht | rfl) | ht) | ht) | rfl
  · exact simple_mkAction p
  · split at ht
    · simp only [List.mem_singleton] at ht; subst ht
      exact simple_mkFix_char .space (Or.inr rfl) _ ' '
    · simp at ht
  · exact ⟨by simp [isAction, mkFix], by simp [isLang, mkFix], h⟩
  · split at ht
    · simp only [List.mem_singleton] at ht; subst ht
      exact simple_mkFix_char .text (Or.inl rfl) _ _
    · simp at ht
  · split at ht
    · simp only [List.mem_singleton] at ht; subst ht
      exact simple_mkFix_char .space (Or.inr rfl) _ ' '
    · simp at ht
  · exact simple_mkAction _

theorem marksOf_math (T : PTables) (st : PState) (ph : Str) (p : Nat) (b : List Tok)
    (hany : (b.flatMap (mt T)).any (fun x => !x.sp) = true) :
    marksOf (fOut T ph p (b.flatMap (mout T st))) = mathMarksR T ph (b.flatMap (mt T)) := by
  have hmap := PlainMathRich.flatMap_mout_toMT T st b
  have hne : b.flatMap (mout T st) ≠ [] := by
    intro e
    rw [e] at hmap
    rw [← hmap] at hany
    simp at hany
  have hm : ∀ t ∈ b.flatMap (mout T st), isMathTok t = true := by
    intro t ht
    obtain ⟨x, _, hx⟩ := List.mem_flatMap.mp ht
    exact PlainMathRich.mout_math T st x t hx
  obtain ⟨e1, e2⟩ := PlainMathRich.shapeTxt_eq T _ ph hm hne
  rw [marksOf_fOut, e1, e2, hmap]
  rfl


/-- the placeholders can be handled character by character by the blank-line removal (asked for
    only if there are `nm` formulas resp. `nd` displayed equations) -/
def CollOk (l : Colls) (nm nd : Nat) : Prop :=
  (nm ≠ 0 → ∀ r ∈ l.1, ReplOk r) ∧ (nd ≠ 0 → ∀ r ∈ l.2, ReplOk r)

theorem simple_dispOut (T : PTables) (ph : Str) (p q1 q2 : Nat) (s : Str) (h : ReplOk ph) :
    ∀ t ∈ PlainDisplay.dispOut T ph p q1 q2 s, Simple t := by
  intro t ht
  unfold PlainDisplay.dispOut PlainDisplay.partOut at ht
  have hbl : Simple (mkFix .space p [' ', ' ']) :=
    ⟨by simp [isAction, mkFix], by simp [isLang, mkFix], fun _ => (by decide : isBlank [' ', ' '] = true)⟩
  have hph : Simple (mkFix .text q1 ph) := ⟨by simp [isAction, mkFix], by simp [isLang, mkFix], h⟩
  cases hpc : PlainMath.punctChar T s with
  | none =>
    simp only [hpc, List.cons_append, List.nil_append, List.mem_cons, List.not_mem_nil, or_false] at ht
    rcases ht with rfl | rfl | rfl | rfl
    · exact simple_mkAction p
    · exact hbl
    · exact hph
    · exact simple_mkAction _
  | some c =>
    simp only [hpc, List.cons_append, List.nil_append, List.mem_cons, List.not_mem_nil, or_false] at ht
    rcases ht with rfl | rfl | rfl | rfl | rfl
    · exact simple_mkAction p
    · exact hbl
    · exact hph
    · exact simple_mkFix_char .text (Or.inl rfl) _ _
    · exact simple_mkAction _


open PlainItemL (pvOf pvAfter pstep pvOf_append pvOf_snoc)

/-- what the reference knows about the last visible output character is true -/
def PvRel (k : PvK) (pv : Option Char) : Prop := ∀ v, k = some v → pv = v

theorem PvRel.none {pv : Option Char} : PvRel none pv := fun _ h => nomatch h

theorem kText_blank : ∀ (s : Str) (k : PvK), s.all isSpace = true → kText k s = k
  | [], _, _ => rfl
  | c :: cs, k, h => by
    simp only [List.all_cons, Bool.and_eq_true] at h
    simp only [kText, List.foldl_cons, kChar, h.1, if_true]
    exact kText_blank cs k h.2

theorem PvRel.tok {k : PvK} {out : List Tok} {t : Tok} (hk : PvRel k (pvOf out))
    (hbc : isBlank t.txt = true ∨ ∃ c, t.txt = [c] ∧ isSpace c = false) :
    PvRel (kText k t.txt) (pvOf (out ++ [t])) := by
  rw [pvOf_snoc]
  rcases hbc with hb | ⟨c, hc, hs⟩
  · rw [kText_blank _ _ (by simpa [isBlank] using hb)]
    simpa [pstep, hb] using hk
  · intro v hv
    simp [kText, kChar, hc, hs] at hv
    subst hv
    simp [pstep, hc, isBlank, hs]

theorem pvAfter_blank (pv : Option Char) : ∀ h : List Tok, (∀ t ∈ h, isBlank t.txt = true) →
    pvAfter pv h = pv
  | [], _ => rfl
  | t :: ts, h => by
    have h1 := h t (List.mem_cons_self ..)
    simp only [pvAfter, List.foldl_cons, pstep, h1, if_true]
    exact pvAfter_blank pv ts (fun x hx => h x (List.mem_cons_of_mem _ hx))

theorem blank_of_marks {t : Tok} (hs : Simple t) (hm : (tokMarks t).all blankMark = true) :
    isBlank t.txt = true := by
  by_cases ha : isAction t = true
  · rw [hs.1 ha]; rfl
  · have ha' : isAction t = false := by simpa using ha
    rw [tokMarks_nonaction t ha', List.all_map] at hm
    rw [← all_tokChars]
    exact hm

theorem PvRel.marks {k : PvK} {out h : List Tok} (hk : PvRel k (pvOf out)) (hs : ∀ t ∈ h, Simple t) :
    PvRel (kMarks k (marksOf h)) (pvOf (out ++ h)) := by
  unfold kMarks
  split
  · rename_i hall
    rw [pvOf_append, pvAfter_blank]
    · exact hk
    · intro t ht
      refine blank_of_marks (hs t ht) ?_
      simp only [marksOf, List.all_flatMap, List.all_eq_true] at hall
      exact List.all_eq_true.mpr (hall t ht)
  · exact PvRel.none

theorem PvRel.action {k : PvK} {out : List Tok} (hk : PvRel k (pvOf out)) (p : Nat) :
    PvRel k (pvOf (out ++ [mkAction p])) := by
  rw [pvOf_snoc]
  simpa [pstep, mkAction, isBlank] using hk

theorem PvOk.nil (T : PTables) (out : List Tok) (st : PState) (l : Colls) : PvOk T out st l [] := by
  intro pre p sp b1 b2 lab pc suf e
  cases pre <;> simp at e

structure Sem (T : PTables) (st : PState) (l : Colls) (env : Env) (k : PvK) (ps : List Piece)
    (items : List Item) : Prop where
  marks : marksOf (outP T st l ps) = refMarks T l env st.itemStack items
  simple : CollOk l (nMath ps) (nDisp ps) → ∀ t ∈ outP T st l ps, Simple t
  live : Live T st ps
  cost : cost st ps ≤ itemsLen items + refIns env items
  names : names st ps = refNames env items
  flows : charsOf ((flowsOf ps).map flowToks).flatten = refFlows items
  nmath : nMath ps = refNF items
  ndisp : nDisp ps = refND items
  pvok : ∀ out, PvRel k (pvOf out) → PvOk T out st l ps

/-- a piece `pc` in front of pieces that are understood (`I`).  `h` is what the piece emits and `c` its
    iterations; `st2`, `l2`, `env2`, `k2` are the state, the collections, the definitions in force and
    what is known of the last visible character behind the piece.  The hypotheses say, field by field,
    what the piece adds on the side of the tokens and on the side of the reference (`its`); for most
    pieces all but the first six hold by unfolding the definitions. -/
theorem Sem.cons {T : PTables} {st st2 : PState} {l l2 : Colls} {env env2 : Env} {k k2 : PvK}
    {pc : Piece} {ps : List Piece} {its items : List Item} (h : List Tok) (c : Nat)
    (I : Sem T st2 l2 env2 k2 ps items)
    (hout : ∀ pre, outP T st l (pc :: pre) = h ++ outP T st2 l2 pre)
    (hlive : liveHead T st pc)
    (hmarks : refMarks T l env st.itemStack its = marksOf h ++ refMarks T l2 env2 st2.itemStack items)
    (hsim : CollOk l (nMath (pc :: ps)) (nDisp (pc :: ps)) →
      (∀ t ∈ h, Simple t) ∧ CollOk l2 (nMath ps) (nDisp ps))
    (hlen : c + (itemsLen items + refIns env2 items) ≤ itemsLen its + refIns env its)
    (hpv : ∀ out, PvRel k (pvOf out) → PvRel k2 (pvOf (out ++ h)))
    (hnext : nextSt st pc = st2 := by exact rfl)
    (hcost : PlainMix4.cost st (pc :: ps) = c + PlainMix4.cost st2 ps := by exact rfl)
    (hnames : ∃ nh, PlainMix4.names st (pc :: ps) = nh ++ PlainMix4.names st2 ps ∧ refNames env its = nh ++ refNames env2 items := by
      exact ⟨[], rfl, rfl⟩)
    (hflows : ∃ f, flowsOf (pc :: ps) = f ++ flowsOf ps ∧
        refFlows its = charsOf (f.map flowToks).flatten ++ refFlows items := by exact ⟨[], rfl, rfl⟩)
    (hnm : ∃ n, nMath (pc :: ps) = nMath ps + n ∧ refNF its = refNF items + n := by exact ⟨0, rfl, rfl⟩)
    (hnd : ∃ n, nDisp (pc :: ps) = nDisp ps + n ∧ refND its = refND items + n := by exact ⟨0, rfl, rfl⟩)
    (hnl : ∀ p sp b1 b2 lab c, pc ≠ .itemL p sp b1 b2 lab c := by intros; simp) :
    Sem T st l env k (pc :: ps) its := by
  subst hnext
  obtain ⟨nh, hn1, hn2⟩ := hnames
  obtain ⟨f, hf1, hf2⟩ := hflows
  obtain ⟨n1, hm1, hm2⟩ := hnm
  obtain ⟨n2, hd1, hd2⟩ := hnd
  refine ⟨?_, ?_, ⟨hlive, I.live⟩, ?_, ?_, ?_, ?_, ?_, ?_⟩
  · rw [hout, marksOf_append, I.marks, hmarks]
  · intro hr x hx
    rw [hout] at hx
    obtain ⟨h1, h2⟩ := hsim hr
    rcases List.mem_append.mp hx with hx | hx
    · exact h1 x hx
    · exact I.simple h2 x hx
  · have := I.cost
    rw [hcost]; omega
  · rw [hn1, hn2, I.names]
  · rw [hf1, hf2, List.map_append, List.flatten_append, charsOf_append, I.flows]
  · rw [hm1, hm2, I.nmath]
  · rw [hd1, hd2, I.ndisp]
  · exact fun out hk => PvOk.cons hout hnl (I.pvok _ (hpv out hk))

theorem simple_cons {t : Tok} {h : List Tok} (ht : Simple t) (hh : ∀ x ∈ h, Simple x) : ∀ x ∈ t :: h, Simple x :=
  List.forall_mem_cons.mpr ⟨ht, hh⟩

theorem link_sem (T : PTables) (st1 : PState) {ps : List Piece} {items : List Item}
    (hl : Link T st1 ps items) :
    PiecesOk T st1 ps → ∀ (l : Colls) (st : PState) (env : Env) (k : PvK), PlainMacroArgs.StOk T st1 st → Rel st1 st env →
    BS st1 st → refOk env st.itemStack items = true → refPv T st.itemStack k items = true →
    Sem T st l env k ps items := by
  have nil : ∀ x ∈ ([] : List Tok), Simple x := fun _ h => nomatch h
  induction hl with
  | nil =>
    intro _ l st env k _ _ _ _ _
    exact ⟨rfl, fun _ => by simp [outP], trivial, by simp [cost], rfl, rfl, rfl, rfl,
      fun out _ => PvOk.nil T out st l⟩
  | tok t ps items hfix hshape hbc _ ih =>
    intro hok l st env k hst hrel hbs har hpv
    obtain ⟨hp, _, hrest⟩ := hok
    rw [chrItems_skip (refOk env st.itemStack) (fun _ _ _ => rfl)] at har
    rw [refPv_chrItems] at hpv
    have h1 := List.length_pos_iff.mpr hshape.1
    exact Sem.cons [t] 1 (ih hrest l st env (kText k t.txt) hst hrel hbs har hpv) (fun _ => rfl) trivial
      (by rw [refMarks_chrItems, marksOf_cons, tokMarks_nonaction _ hp.notAction, tokChars_nofix t hfix]
          exact (List.append_nil _).symm ▸ rfl)
      (fun hr => ⟨simple_cons (simple_of_plain hp hshape) nil, hr⟩)
      (by rw [itemsLen_chrItems, chrItems_skip (refIns env) (fun _ _ _ => rfl)]; omega) (fun out hk => PvRel.tok hk hbc) rfl rfl
      ⟨[], rfl, chrItems_skip (refNames env) (fun _ _ _ => rfl) ..⟩
      ⟨[], rfl, chrItems_skip refFlows (fun _ _ _ => rfl) ..⟩ ⟨0, rfl, chrItems_skip refNF (fun _ _ _ => rfl) ..⟩
      ⟨0, rfl, chrItems_skip refND (fun _ _ _ => rfl) ..⟩
  | fix pc ms len ps items hfx _ ih =>
    intro hok l st env k hst hrel hbs har hpv
    simp only [refOk] at har
    simp only [refPv] at hpv
    obtain ⟨h, ho1, ho2, ho3⟩ := hfx.out
    obtain ⟨c, hc1, hc2⟩ := hfx.cost
    exact Sem.cons h c (ih hok.tail l st env (kMarks k ms) hst hrel hbs har hpv) (ho1 st l) (hfx.live st)
      (by rw [ho2]; rfl) (fun hr => ⟨ho3, by rw [hfx.nmath, hfx.ndisp] at hr; exact hr⟩)
      (by simp only [itemsLen, refIns]; omega) (fun out hk => by rw [← ho2]; exact PvRel.marks hk ho3)
      (hfx.next st) (hc1 st ps) ⟨[], by rw [hfx.names, hfx.next]; rfl, rfl⟩ ⟨[], hfx.flows ps, rfl⟩
      ⟨0, hfx.nmath ps, rfl⟩ ⟨0, hfx.ndisp ps, rfl⟩ hfx.notL
  | cw p name sk len ps items hlen _ ih =>
    intro hok l st env k hst hrel hbs har hpv
    obtain ⟨hcw, _, _, hrest⟩ := hok
    simp only [refOk, Bool.and_eq_true] at har
    obtain ⟨har1, har2⟩ := har
    simp only [refPv] at hpv
    have hlive : lookupMacro st ('\\' :: name) = none := by
      cases hd : lookupDef env name with
      | none => exact hrel.undef hcw.undecl hd
      | some nb => rw [hd] at har1; simp at har1
    exact Sem.cons [mkAction p] 2 (ih hrest l (nextSt st (.cw p name sk)) env k
        (hst.reads ⟨rfl, rfl⟩) (hrel.congr rfl) (hbs.of_macros rfl) har2 hpv)
      (fun _ => rfl) hlive rfl (fun hr => ⟨simple_cons (simple_mkAction p) nil, hr⟩)
      (by simp only [itemsLen, refIns]; omega) (fun out hk => PvRel.action hk p) rfl rfl
      ⟨[('\\' :: name)], rfl, rfl⟩
  | math d1 b d2 m len ps items hm hlen _ ih =>
    intro hok l st env k hst hrel hbs har hpv
    obtain ⟨_, hany, hitems, _, hrest⟩ := hok
    simp only [refOk, Bool.and_eq_true, List.all_eq_true] at har
    obtain ⟨har1, har2⟩ := har
    simp only [refPv] at hpv
    have hlive : ∀ t ∈ b, t.kind = .xmacro → lookupMacro st t.txt = none := by
      intro t ht hk
      have hun : lookupMacro st1 t.txt = none := by
        rcases hitems t ht with h | h | h | h | h | h
        · rw [h.kind] at hk; cases hk
        · rw [h] at hk; cases hk
        · exact h.undecl
        · rw [h.kind] at hk; cases hk
        · rw [h.kind] at hk; cases hk
        · rw [h.kind] at hk; cases hk
      cases hlk : lookupMacro st t.txt with
      | none => rfl
      | some mc =>
        exfalso
        obtain ⟨name, hname⟩ := hbs t.txt mc hun hlk
        have hmem : ({ pos := t.pos, txt := t.txt, sp := false } : MT) ∈ m := by
          rw [← hm]
          refine List.mem_flatMap.mpr ⟨t, ht, ?_⟩
          simp [PlainMathRich.mt, hk]
        have h1 := har1 _ hmem
        simp only [hname, liveTxt] at h1
        rw [hname] at hun hlk
        cases hd : lookupDef env name with
        | none => rw [hrel.undef hun hd] at hlk; cases hlk
        | some nb => rw [hd] at h1; simp at h1
    exact Sem.cons (fOut T ((rotL l.1).headD []) d1.pos (b.flatMap (mout T st))) (mcost b + 2)
      (ih hrest (rotL l.1, l.2) st env none hst hrel hbs har2 hpv) (fun _ => rfl) hlive
      (by rw [marksOf_math T st _ _ b hany, hm]; rfl)
      (fun hr => ⟨simple_fOut T _ _ _ (PlainMix.replOk_rotL_head (hr.1 (by simp [nMath]))),
        fun _ => PlainMix.replOk_rotN 1 (hr.1 (by simp [nMath])), hr.2⟩)
      (by simp only [itemsLen, refIns]; omega) (fun _ _ => PvRel.none) rfl rfl ⟨[], rfl, rfl⟩ ⟨[], rfl, rfl⟩
      ⟨1, rfl, rfl⟩
  | foot fn lb b rb fl len ps items hfl hlen _ ih =>
    intro hok l st env k hst hrel hbs har hpv
    simp only [refOk] at har
    simp only [refPv] at hpv
    exact Sem.cons [mkAction fn.pos] (b.length + 6) (ih hok.tail l (nextSt st (.foot fn lb b rb)) env k
        (hst.reads ⟨rfl, rfl⟩) (hrel.congr rfl) (hbs.of_macros rfl) har hpv)
      (fun _ => rfl) trivial rfl (fun hr => ⟨simple_cons (simple_mkAction _) nil, hr⟩)
      (by simp only [itemsLen, refIns]; omega) (fun out hk => PvRel.action hk fn.pos) rfl rfl ⟨[], rfl, rfl⟩
      ⟨[b], rfl, by rw [← hfl]; simp [refFlows]⟩
  | defn p q1 q2 q3 q4 q5 q6 q7 q8 name n body btoks ps items hb _ ih =>
    intro hok l st env k hst hrel hbs har hpv
    obtain ⟨_, hn, _, hgb, hrest⟩ := hok
    simp only [refOk] at har
    simp only [refPv] at hpv
    exact Sem.cons [mkAction p] 2 (ih hrest l (defSt st name n btoks) ((name, n, body) :: env) k
        (hst.defSt name n btoks hn hgb) (hrel.defSt name n body btoks hb) (hbs.defSt name n btoks) har hpv)
      (fun _ => rfl) trivial rfl (fun hr => ⟨simple_cons (simple_mkAction p) nil, hr⟩)
      (by simp only [itemsLen, refIns]; omega) (fun out hk => PvRel.action hk p)
  | ddef p q2 q q7 q8 name n body btoks ps items hb _ ih =>
    intro hok l st env k hst hrel hbs har hpv
    obtain ⟨hn, hgb, hrest⟩ := hok
    simp only [refOk] at har
    simp only [refPv] at hpv
    exact Sem.cons [mkAction p] 1 (ih hrest l (defSt st name n btoks) ((name, n, body) :: env) k
        (hst.defSt name n btoks hn hgb) (hrel.defSt name n body btoks hb) (hbs.defSt name n btoks) har hpv)
      (fun _ => rfl) trivial rfl (fun hr => ⟨simple_cons (simple_mkAction p) nil, hr⟩)
      (by simp only [itemsLen, refIns]; omega) (fun out hk => PvRel.action hk p)
  | call p q1 q2 name b fl len ps items hfl hlen _ ih =>
    intro hok l st env k hst hrel hbs har hpv
    simp only [refOk] at har
    simp only [refPv] at hpv
    exact Sem.cons [mkAction p] (b.length + 4) (ih hok.tail l (nextSt st (.call p q1 q2 name b)) env k
        (hst.reads ⟨rfl, rfl⟩) (hrel.congr rfl) (hbs.of_macros rfl) har hpv)
      (fun _ => rfl) trivial rfl (fun hr => ⟨simple_cons (simple_mkAction _) nil, hr⟩)
      (by simp only [itemsLen, refIns]; omega) (fun out hk => PvRel.action hk p) rfl rfl ⟨[], rfl, rfl⟩
      ⟨[b], rfl, by rw [← hfl]; simp [refFlows]⟩
  | callO p b1 b2 q1 q2 name opt b fl len ps items hfl hlen _ ih =>
    intro hok l st env k hst hrel hbs har hpv
    simp only [refOk] at har
    simp only [refPv] at hpv
    exact Sem.cons [mkAction p] (b.length + 4) (ih hok.tail l (nextSt st (.callO p b1 b2 q1 q2 name opt b)) env k
        (hst.reads ⟨rfl, rfl⟩) (hrel.congr rfl) (hbs.of_macros rfl) har hpv)
      (fun _ => rfl) trivial rfl (fun hr => ⟨simple_cons (simple_mkAction _) nil, hr⟩)
      (by simp only [itemsLen, refIns]; omega) (fun out hk => PvRel.action hk p) rfl rfl ⟨[], rfl, rfl⟩
      ⟨[b], rfl, by rw [← hfl]; simp [refFlows]⟩
  | use p name args gs ps items hne hgl _ ih =>
    intro hok l st env k hst hrel hbs har hpv
    obtain ⟨hn, _, hgg, hrest⟩ := hok
    simp only [refOk, Bool.and_eq_true, decide_eq_true_eq] at har
    obtain ⟨har1, har2⟩ := har
    have hus : (useSt st name).itemStack = st.itemStack := by
      unfold PlainMacroArgs.useSt; split <;> rfl
    simp only [refPv] at hpv
    have I := ih hrest l (useSt st name) env none (hst.useSt name) (hrel.useSt name) (hbs.useSt name)
      (by rw [hus]; exact har2) (by rw [hus]; exact hpv)
    have hname := List.length_pos_iff.mpr hne
    have hlen := PlainMacroArgs.groupsLink_length hgl
    obtain ⟨u1, u2, u3, u4, u5, _⟩ := PlainMacroArgs.use_sem hst hrel hn hgl hgg har1 p
    exact Sem.cons (mkAction p :: (useBody st p name gs ++ groupsOut (gs.drop (useN st name))))
      (2 + (useBody st p name gs).length + (groupsOut (gs.drop (useN st name))).length) I
      (fun _ => by simp only [outP, List.append_assoc, List.cons_append]; rfl)
      (by show useN st name ≤ gs.length; rw [u1]; omega)
      (by
        rw [hus, marksOf_cons, tokMarks_mkAction, u2]
        simp only [refMarks, List.cons_append, List.nil_append, List.append_assoc])
      (fun hr => ⟨simple_cons (simple_mkAction p) u3, hr⟩)
      (by simp only [itemsLen, refIns]; omega)
      (fun _ _ => PvRel.none) rfl rfl
      ⟨if (lookupDef env name).isNone then [('\\' :: name)] else [], by simp only [names, u5]; rfl,
        by simp only [refNames]⟩
  | disp ops d1 b d2 ms len ps items hms hlen _ ih =>
    intro hok l st env k hst hrel hbs har hpv
    simp only [refOk] at har
    simp only [refPv] at hpv
    exact Sem.cons (PlainDisplay.dispOut T ((rotL l.2).headD []) d1.pos (PlainDisplay.elemPos T ops b)
        (PlainMath.firstPos (PlainMath.mathToks b)) (PlainMath.bodyTxt (PlainMath.mathToks b))) (b.length + 3)
      (ih hok.tail (l.1, rotL l.2) st env none hst hrel hbs har hpv) (fun _ => rfl) trivial (by rw [hms]; rfl)
      (fun hr => ⟨simple_dispOut T _ _ _ _ _ (PlainMix.replOk_rotL_head (hr.2 (by simp [nDisp]))), hr.1,
        fun _ => PlainMix.replOk_rotN 1 (hr.2 (by simp [nDisp]))⟩)
      (by simp only [itemsLen, refIns]; omega) (fun _ _ => PvRel.none) rfl rfl ⟨[], rfl, rfl⟩ ⟨[], rfl, rfl⟩
      ⟨0, rfl, rfl⟩ ⟨1, rfl, rfl⟩
  | beg p q1 q2 name nt ps items hb hlen _ ih =>
    intro hok l st env k hst hrel hbs har hpv
    simp only [refOk, Bool.true_and] at har
    simp only [refPv] at hpv
    have heo : PlainItem.envOf st (bodyTxt nt) = PlainItem.envOf st1 name := by
      rw [hb]; simp [PlainItem.envOf, lookupEnv, hst.ext.envs]
    have hstk : (nextSt st (.beg p q1 q2 nt)).itemStack = PlainItem.begStk st1 st.itemStack name := by
      rw [hb] at heo
      simp only [nextSt, PlainItem.begSt, PlainItem.begStk, PlainItem.styleOf, hb, heo]
    have hm : marksOf [PlainItem.envOut (PlainItem.envOf st (bodyTxt nt)) p, mkAction p]
        = PlainItem.envMarks (PlainItem.envOf st1 name) p ++ [none] := by
      rw [marksOf_cons, marksOf_cons, PlainItem.tokMarks_envOut, tokMarks_mkAction, heo]; simp [marksOf]
    have hs := simple_cons (PlainItem.simple_envOut (PlainItem.envOf st (bodyTxt nt)) p)
      (simple_cons (simple_mkAction p) nil)
    exact Sem.cons _ (3 + nt.length) (ih hok.tail l (nextSt st (.beg p q1 q2 nt)) env
        (kMarks k (PlainItem.envMarks (PlainItem.envOf st1 name) p ++ [none]))
        (hst.reads ⟨rfl, rfl⟩) (hrel.congr rfl) (hbs.of_macros rfl)
        (by rw [hstk]; exact har) (by rw [hstk]; exact hpv))
      (fun _ => rfl) trivial (by rw [hm, hstk]; rfl) (fun hr => ⟨hs, hr⟩)
      (by simp only [itemsLen, refIns]; omega) (fun out hk => by rw [← hm]; exact PvRel.marks hk hs)
  | item p sp len ps items hlen _ ih =>
    intro hok l st env k hst hrel hbs har hpv
    simp only [refOk, Bool.and_eq_true] at har
    obtain ⟨har1, har2⟩ := har
    simp only [refPv] at hpv
    have hlab : PlainItem.labelAt T st st.itemStack = true := by
      rw [PlainItem.labelAt_ext hst.ext]; exact har1
    have hstk : (nextSt st (.item p sp)).itemStack = PlainItem.itemStk st.itemStack := by
      cases h : st.itemStack with
      | nil => simp only [nextSt, PlainItem.itemSt, h, PlainItem.itemStk]
      | cons g gs => simp only [nextSt, PlainItem.itemSt, h, PlainItem.itemStk]
    have hm : marksOf [mkAction p, PlainItem.spTok p, PlainItem.labTok p (PlainItem.labOf T st.itemStack),
          PlainItem.spTok p] = itemMarks T p st.itemStack := by
      rw [marksOf_cons, marksOf_cons, marksOf_cons, marksOf_cons, tokMarks_mkAction,
        PlainItem.tokMarks_labTok]
      have e : tokMarks (PlainItem.spTok p) = [some (' ', p)] := rfl
      simp [e, itemMarks, marksOf]
    have hs := simple_cons (simple_mkAction p) (simple_cons (PlainItem.simple_spTok p)
      (simple_cons (PlainItem.simple_labTok p _ (PlainItem.labelAt_hasNl hlab))
        (simple_cons (PlainItem.simple_spTok p) nil)))
    exact Sem.cons _ 5 (ih hok.tail l (nextSt st (.item p sp)) env (kMarks k (itemMarks T p st.itemStack))
        (hst.reads (itemSt_fields st).1) (Rel.congr hrel (itemSt_fields st).1.macros) (hbs.of_macros (itemSt_fields st).1.macros)
        (by rw [hstk]; exact har2) (by rw [hstk]; exact hpv))
      (fun _ => rfl) hlab (by rw [hm, hstk]; rfl) (fun hr => ⟨hs, hr⟩)
      (by simp only [itemsLen, refIns]; omega) (fun out hk => by rw [← hm]; exact PvRel.marks hk hs)
  | en p q1 q2 name nt ps items hb hlen _ ih =>
    intro hok l st env k hst hrel hbs har hpv
    simp only [refOk, Bool.true_and] at har
    simp only [refPv] at hpv
    have heo : PlainItem.envOf st (bodyTxt nt) = PlainItem.envOf st1 name := by
      rw [hb]; simp [PlainItem.envOf, lookupEnv, hst.ext.envs]
    have hstk : (nextSt st (.en p q1 q2 nt)).itemStack = PlainItem.endStk st.itemStack := by
      simp only [nextSt, PlainItem.endSt, PlainItem.endStk]
      split <;> rfl
    have hm : marksOf [PlainItem.envOut (PlainItem.envOf st (bodyTxt nt)) p]
        = PlainItem.envMarks (PlainItem.envOf st1 name) p := by
      rw [marksOf_cons, PlainItem.tokMarks_envOut, heo]; simp [marksOf]
    have hs := simple_cons (PlainItem.simple_envOut (PlainItem.envOf st (bodyTxt nt)) p) nil
    exact Sem.cons _ (2 + nt.length) (ih hok.tail l (nextSt st (.en p q1 q2 nt)) env
        (kMarks k (PlainItem.envMarks (PlainItem.envOf st1 name) p)) (hst.reads (endSt_fields st).1)
        (Rel.congr hrel (endSt_fields st).1.macros) (hbs.of_macros (endSt_fields st).1.macros)
        (by rw [hstk]; exact har) (by rw [hstk]; exact hpv))
      (fun _ => rfl) trivial (by rw [hm, hstk]; rfl) (fun hr => ⟨hs, hr⟩)
      (by simp only [itemsLen, refIns]; omega) (fun out hk => by rw [← hm]; exact PvRel.marks hk hs)
  | denv ops p q1 q2 nt b p' q1' q2' nt' ms len ps items hms hlen _ ih =>
    intro hok l st env k hst hrel hbs har hpv
    simp only [refOk] at har
    simp only [refPv] at hpv
    exact Sem.cons (mkAction p :: mkAction p :: PlainDisplay.dispOut T ((rotL l.2).headD []) p
        (PlainDisplay.elemPos T ops b) (PlainMath.firstPos (PlainMath.mathToks b))
        (PlainMath.bodyTxt (PlainMath.mathToks b))) (b.length + nt.length + nt'.length + 11)
      (ih hok.tail (l.1, rotL l.2) st env none hst hrel hbs har hpv) (fun _ => rfl) trivial (by rw [hms]; rfl)
      (fun hr => ⟨simple_cons (simple_mkAction p) (simple_cons (simple_mkAction p)
          (simple_dispOut T _ _ _ _ _ (PlainMix.replOk_rotL_head (hr.2 (by simp [nDisp]))))), hr.1,
        fun _ => PlainMix.replOk_rotN 1 (hr.2 (by simp [nDisp]))⟩)
      (by simp only [itemsLen, refIns]; omega) (fun _ _ => PvRel.none) rfl rfl ⟨[], rfl, rfl⟩ ⟨[], rfl, rfl⟩
      ⟨0, rfl, rfl⟩ ⟨1, rfl, rfl⟩
  | ubeg p q1 q2 name nt len ps items hb hlen _ ih =>
    intro hok l st env k hst hrel hbs har hpv
    simp only [refOk] at har
    simp only [refPv] at hpv
    exact Sem.cons [mkAction p] (2 + nt.length) (ih hok.tail l (nextSt st (.ubeg p q1 q2 nt)) env k
        (hst.reads ⟨rfl, rfl⟩) (hrel.congr rfl) (hbs.of_macros rfl) har hpv)
      (fun _ => rfl) trivial rfl (fun hr => ⟨simple_cons (simple_mkAction p) nil, hr⟩)
      (by simp only [itemsLen, refIns]; omega) (fun out hk => PvRel.action hk p) rfl rfl
      ⟨[bodyTxt nt], rfl, by rw [hb]; rfl⟩
  | itemL p sp b1 b2 lab pc ms len label ps items hms hsim hpvl hlen _ ih =>
    intro hok l st env k hst hrel hbs har hpv
    obtain ⟨_, _, _, _, hrest⟩ := hok
    simp only [refOk] at har
    simp only [refPv, Bool.and_eq_true] at hpv
    obtain ⟨hpc, hpv2⟩ := hpv
    have I := ih hrest l st env (kItemL k label pc) hst hrel hbs har hpv2
    refine ⟨?_, ?_, ⟨trivial, I.live⟩, ?_, ?_, ?_, ?_, ?_, ?_⟩
    · simp only [outP, refMarks]
      rw [marksOf_append, hms, I.marks]
    · intro hr x hx
      simp only [outP, List.mem_append] at hx
      rcases hx with hx | hx
      · exact hsim x hx
      · exact I.simple hr x hx
    · have := I.cost
      simp only [cost, itemsLen, refIns]
      omega
    · simp only [names, nextSt, refNames]
      exact I.names
    · simp only [flowsOf, refFlows]
      exact I.flows
    · simp only [nMath, refNF]
      exact I.nmath
    · simp only [nDisp, refND]
      exact I.ndisp
    · intro out hk
      cases k with
      | none => simp [pcOk] at hpc
      | some v =>
        have hv : pvOf out = v := hk v rfl
        have hpc' : PlainItemL.punctOf T (pvOf out) = pc := by
          rw [hv]; simpa [pcOk] using hpc
        refine PvOk.consL hpc' (I.pvok _ ?_)
        intro w hw
        simp only [kItemL, Option.map_some, Option.some.injEq] at hw
        rw [pvOf_append, PlainItemL.pvAfter_itemLOut, hpvl, hv, hw]

end PlainMix4
end Yalafi
