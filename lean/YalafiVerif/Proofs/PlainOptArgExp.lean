/-
  Proofs/PlainOptArgExp.lean — the expander level of Proofs/PlainOptArg.lean: token buffers that consist
  of plain tokens, definitions `\kw{\name}[n][dflt]{body}` (`kw` = `newcommand`, `renewcommand`, … any
  keyword declared like `\newcommand`) and uses `\name[a1]{a2}…{am}` / `\name{a2}…{am}`.

    `collectArgs_defD`, `ncMacro_opt`, `seqRun_defD`
                                        the definition (`PlainMacroArgs.seqRun_nc` with a default):
                                        `h_newcommand` stores
                                        `{name, args := 'O' 'A'^(n-1), repl := body, defaults := [dflt]}`
    `collectArgs_opt`, `expandMacro_useO`, `seqRun_useO`   the use: `[a1]` present, or the default
                                        re-stamped (fixed) at the position of the macro token
-/
import YalafiVerif.Proofs.PlainMacroArgs
namespace Yalafi
namespace PlainOptArg

open M
open PlainMacro (lbr rbr lbr_brace rbr_brace NoBrace restamp ncDeclOk
  plainTok_noBrace cwTok_noBrace lookup_setMacro NameOk plainTok_restamp PassTok_congr)
open PlainMacroArgs (genCur genOut RefsOk Group groupsFlat GroupOk groupsFlat_append collectArgs_groups
  collectArgs_ncHead txtTok brace_txt ncMacro groupsOut GroupGood digitChar GoodBody
  DigitOk genOut_copy genOut_ne skip_groups expandMacro_user seqRun_nc seqRun_undef seqRun_expand)
open Call (NoBrk)

/-! ### the definition -/

/-- the macro stored by `\newcommand{\name}[n][dflt]{body}` -/
def optMacro (name : Str) (n : Nat) (dt body : List Tok) : MacroDef :=
  { name := name, args := 'O' :: List.replicate (n - 1) 'A', repl := body, defaults := [dt] }

theorem ncMacro_opt (name : Str) (n : Nat) {dt : List Tok} (body : List Tok) (h : dt ≠ []) :
    ncMacro name n dt body = optMacro name n dt body := by
  cases dt with
  | nil => exact absurd rfl h
  | cons => rfl

theorem collectArgs_defD (T : PTables) (mac : MacroDef)
    (p1 p2 p3 p4 p5 r1 r2 p6 p7 : Nat) (nameTok : Tok) (hname : NoBrace nameTok) (d : Char)
    (h1 : d ≠ ']') (hdp : PlainTok (txtTok p4 d)) (dt : List Tok) (hdt : ∀ t ∈ dt, NoBrk t) (hdne : dt ≠ [])
    (b : List Tok) (hb : ∀ t ∈ b, NoBrace t) (hbne : b ≠ []) (rest : Buf) (start : Nat) (st : PState) :
    collectArgs T mac ['*', 'A', 'O', 'O', 'A'] 0
        (lbr p1 :: nameTok :: rbr p2 :: txtTok p3 '[' :: txtTok p4 d :: txtTok p5 ']' ::
          txtTok r1 '[' :: (dt ++ txtTok r2 ']' :: lbr p6 :: (b ++ rbr p7 :: rest))) start {} st
      = .ok (({ args := [[], [nameTok], [txtTok p4 d], dt, b],
                extr := [[], [nameTok], [txtTok p4 d], dt, b], langs := [] }, rest), st) := by
  rw [collectArgs_ncHead T mac _ p1 p2 p3 p4 p5 nameTok hname d h1 hdp,
    Call.collectArgs_bracketed T mac _ 3 _ _ st dt _ (brace_txt r1 '[') (brace_txt r2 ']') hdt,
    Call.argOr_of_ne hdne,
    Call.collectArgs_braced T mac _ 4 _ _ st b rest (lbr_brace p6) (rbr_brace p7) hb, Call.argOr_of_ne hbne,
    Call.collectArgs_nil]
  rfl

/-! ### the use -/

/-- the optional argument of a use: `[ toks ]` with the positions of the brackets -/
abbrev Opt := Option (Nat × List Tok × Nat)

def optFlat : Opt → List Tok
  | none => []
  | some o => txtTok o.1 '[' :: (o.2.1 ++ [txtTok o.2.2 ']'])

def firstArg (p : Nat) (dt : List Tok) : Opt → List Tok
  | none => dt.map (restamp p)
  | some o => o.2.1

theorem collectArgs_opt (T : PTables) (nm : Str) (n : Nat) (dt b : List Tok) (rest : Buf) (st : PState)
    (opt : Opt) (gs : List Group) (p : Nat)
    (hopt : ∀ o, opt = some o → (∀ t ∈ o.2.1, NoBrk t) ∧ o.2.1 ≠ [])
    (hne : opt = none → gs ≠ []) (hg : ∀ g ∈ gs, GroupOk g) (hn : n - 1 ≤ gs.length) :
    collectArgs T (optMacro nm n dt b) ('O' :: List.replicate (n - 1) 'A') 0
        (optFlat opt ++ (groupsFlat gs ++ rest)) p {} st
      = .ok (({ args := firstArg p dt opt :: (gs.take (n - 1)).map (·.toks),
                extr := (match opt with | none => [] | some o => o.2.1) :: (gs.take (n - 1)).map (·.toks),
                langs := [] },
              groupsFlat (gs.drop (n - 1)) ++ rest), st) := by
  have hlen : (gs.take (n - 1)).length = n - 1 := by simp; omega
  have hsplit : groupsFlat gs ++ rest
      = groupsFlat (gs.take (n - 1)) ++ (groupsFlat (gs.drop (n - 1)) ++ rest) := by
    rw [← List.append_assoc, ← groupsFlat_append, List.take_append_drop]
  have hc := fun i pos0 acc => collectArgs_groups T (optMacro nm n dt b) (groupsFlat (gs.drop (n - 1)) ++ rest)
    st (gs.take (n - 1)) i pos0 acc (fun g hg' => hg g (List.mem_of_mem_take hg'))
  rw [hlen, ← hsplit] at hc
  cases opt with
  | some o =>
    obtain ⟨a, ts, c⟩ := o
    obtain ⟨h1, h2⟩ := hopt _ rfl
    simp only [optFlat, List.cons_append, List.append_assoc, List.nil_append]
    rw [Call.collectArgs_bracketed T _ _ 0 p {} st ts _ (brace_txt a '[') (brace_txt c ']') h1,
      Call.argOr_of_ne h2, hc]
    rfl
  | none =>
    obtain ⟨g, gs', rfl⟩ := List.exists_cons_of_ne_nil (hne rfl)
    have hflat : groupsFlat (g :: gs') ++ rest = lbr g.p :: (g.toks ++ rbr g.q :: (groupsFlat gs' ++ rest)) := by
      simp [groupsFlat, Group.flat]
    simp only [optFlat, List.nil_append]
    rw [hflat, Call.collectArgs_noOpt T _ _ 0 p {} st (.of_not (t := lbr g.p) rfl) rfl, ← hflat, hc]
    rfl

theorem expandMacro_useO (T : PTables) (fuel : Nat) (opt : Opt) (gs : List Group) (rest : Buf) (tok : Tok)
    (st : PState) (nm : Str) (n : Nat) (dt b : List Tok)
    (hl : lookupMacro st tok.txt = some (optMacro nm n dt b)) (hn1 : 1 ≤ n) (hn : n - 1 ≤ gs.length)
    (hopt : ∀ o, opt = some o → (∀ t ∈ o.2.1, NoBrk t) ∧ o.2.1 ≠ [])
    (hne : opt = none → gs ≠ []) (hdne : dt ≠ [])
    (hg : ∀ g ∈ gs, GroupOk g) (hr : RefsOk n b) :
    expandMacro T (fuel + 2) (optFlat opt ++ (groupsFlat gs ++ rest)) tok false st
      = .ok ((mkAction tok.pos ::
                genOut (firstArg tok.pos dt opt :: (gs.take (n - 1)).map (·.toks)) b
                  (genCur (firstArg tok.pos dt opt :: (gs.take (n - 1)).map (·.toks)) b tok.pos),
              groupsFlat (gs.drop (n - 1)) ++ rest), st) := by
  have hskip : skipSpaceStopLangAct (optFlat opt ++ (groupsFlat gs ++ rest))
      = optFlat opt ++ (groupsFlat gs ++ rest) := by
    cases opt with
    | some o => exact Call.skipSpaceStopLangAct_cons (rfl : isSpaceTok (txtTok o.1 '[') = false)
    | none => simpa [optFlat] using skip_groups gs rest (hne rfl)
  have hlen : (gs.take (n - 1)).length = n - 1 := by simp; omega
  refine expandMacro_user T fuel _ _ tok st _ _ _ hl rfl rfl
    (by rw [hskip]; exact collectArgs_opt T nm n dt b rest st opt gs tok.pos hopt hne hg hn) ?_
    (by rw [List.length_cons, List.length_map, hlen, Nat.sub_add_cancel hn1]; exact hr)
  intro a ha
  rcases List.mem_cons.mp ha with rfl | ha
  · cases opt with
    | none => simpa [firstArg] using hdne
    | some o => exact (hopt o rfl).2
  · obtain ⟨g, hg', rfl⟩ := List.mem_map.mp ha
    exact (hg g (List.mem_of_mem_take hg')).1

/-- the pieces of a token buffer: a token that is copied, a definition
    `\kw { \name } [ n ] [ dflt ] { body }`, a use `\name [ a1 ] { a2 } … { am }` / `\name { a2 } … { am }` -/
inductive OPiece where
  | tok (t : Tok)
  | defn (kw : Str) (p q1 q2 q3 q4 q5 q6 r1 r2 q7 q8 : Nat) (name : Str) (n : Nat) (dt body : List Tok)
  | use (p : Nat) (name : Str) (opt : Opt) (gs : List Group)

def OPiece.toks : OPiece → List Tok
  | .tok t => [t]
  | .defn kw p q1 q2 q3 q4 q5 q6 r1 r2 q7 q8 name n dt body =>
    cwTok p kw :: lbr q1 :: cwTok q2 name :: rbr q3 :: txtTok q4 '[' :: txtTok q5 (digitChar n) ::
      txtTok q6 ']' :: txtTok r1 '[' :: (dt ++ txtTok r2 ']' :: lbr q7 :: (body ++ [rbr q8]))
  | .use p name opt gs => cwTok p name :: (optFlat opt ++ groupsFlat gs)

def oflat : List OPiece → List Tok
  | [] => []
  | p :: ps => p.toks ++ oflat ps

/-- the tokens of a default value / of an optional argument -/
def GoodRun (T : PTables) (st : PState) (ts : List Tok) : Prop :=
  ts ≠ [] ∧ ∀ t ∈ ts, PlainTok t ∧ (activeChars T st).contains t.txt = false ∧ t.txt ≠ [']']

theorem GoodRun.noBrk {T : PTables} {st : PState} {ts : List Tok} (h : GoodRun T st ts) :
    ∀ t ∈ ts, NoBrk t :=
  fun t ht => ⟨plainTok_noBrace (h.2 t ht).1, (h.2 t ht).2.2⟩

/-- the keyword of a definition: not `\def`, declared like `\newcommand` -/
structure KwOk (st1 : PState) (kw : Str) : Prop where
  nDef : ('\\' :: kw) ≠ sDef
  decl : ∃ m, lookupMacro st1 ('\\' :: kw) = some m ∧ ncDeclOk m = true

def OPiecesOk (T : PTables) (st1 : PState) : List OPiece → Prop
  | [] => True
  | .tok t :: rest => PlainTok t ∧ PassTok T st1 t (oflat rest) ∧ OPiecesOk T st1 rest
  | .defn kw _ _ _ _ _ _ _ _ _ _ _ name n dt body :: rest =>
    KwOk st1 kw ∧ NameOk st1 name ∧ DigitOk T st1 n ∧ 1 ≤ n ∧ GoodRun T st1 dt ∧ GoodBody T st1 n body ∧
    OPiecesOk T st1 rest
  | .use _ name opt gs :: rest =>
    NameOk st1 name ∧ (∀ o, opt = some o → GoodRun T st1 o.2.1) ∧ (opt = none → gs ≠ []) ∧
    (∀ g ∈ gs, GroupGood T st1 g) ∧ OPiecesOk T st1 rest

/-- the parser state while the document is expanded, relative to the initialised state `st1`:
    declared macros keep their meaning, every other macro is a user macro with an optional first
    argument, a good default and a good body -/
def OStOk (T : PTables) (st1 st : PState) : Prop :=
  UserTable.Keeps (fun nm m => ∃ n dt b, m = optMacro nm n dt b ∧ 1 ≤ n ∧ GoodRun T st1 dt ∧ GoodBody T st1 n b)
    st1 st

def odefSt (st : PState) (name : Str) (n : Nat) (dt body : List Tok) : PState :=
  { st with macros := setMacro st.macros (optMacro ('\\' :: name) n dt body) }

def ouseSt (st : PState) (name : Str) : PState :=
  match lookupMacro st ('\\' :: name) with
  | some _ => st
  | none => { st with unknowns := addU st.unknowns ('\\' :: name) }

/-- the number of groups a use consumes: the number of mandatory parameters of the macro, 0 if
    undefined -/
def ouseN (st : PState) (name : Str) : Nat :=
  match lookupMacro st ('\\' :: name) with
  | some m => m.args.length - 1
  | none => 0

def ouseBody (st : PState) (p : Nat) (name : Str) (opt : Opt) (gs : List Group) : List Tok :=
  match lookupMacro st ('\\' :: name) with
  | some m =>
    genOut (firstArg p (m.defaults.head?.getD []) opt :: (gs.take (m.args.length - 1)).map (·.toks)) m.repl
      (genCur (firstArg p (m.defaults.head?.getD []) opt :: (gs.take (m.args.length - 1)).map (·.toks))
        m.repl p)
  | none => []

theorem OStOk.defSt {T : PTables} {st1 st : PState} (h : OStOk T st1 st) (name : Str) (n : Nat)
    (dt body : List Tok) (hn : NameOk st1 name) (hn1 : 1 ≤ n) (hd : GoodRun T st1 dt)
    (hb : GoodBody T st1 n body) : OStOk T st1 (odefSt st name n dt body) :=
  UserTable.Keeps.set h _ hn.undecl ⟨n, dt, body, rfl, hn1, hd, hb⟩

theorem ouseSt_reads (st : PState) (name : Str) : Reads st (ouseSt st name) := by
  unfold ouseSt
  split <;> exact ⟨rfl, rfl⟩

theorem OStOk.useSt {T : PTables} {st1 st : PState} (h : OStOk T st1 st) (name : Str) :
    OStOk T st1 (ouseSt st name) :=
  UserTable.Keeps.reads h (ouseSt_reads st name)

/-- what `expandSequence` emits for the pieces before the blank-line removal -/
def ooutP : PState → List OPiece → List Tok
  | _, [] => []
  | st, .tok t :: rest => t :: ooutP st rest
  | st, .defn _ p _ _ _ _ _ _ _ _ _ _ name n dt body :: rest => mkAction p :: ooutP (odefSt st name n dt body) rest
  | st, .use p name opt gs :: rest =>
    mkAction p :: (ouseBody st p name opt gs
      ++ (groupsOut (gs.drop (ouseN st name)) ++ ooutP (ouseSt st name) rest))

def ofinalSt : PState → List OPiece → PState
  | st, [] => st
  | st, .tok _ :: rest => ofinalSt st rest
  | st, .defn _ _ _ _ _ _ _ _ _ _ _ _ name n dt body :: rest => ofinalSt (odefSt st name n dt body) rest
  | st, .use _ name _ _ :: rest => ofinalSt (ouseSt st name) rest

/-- iterations of `expandSequence` -/
def ocost : PState → List OPiece → Nat
  | _, [] => 0
  | st, .tok _ :: rest => 1 + ocost st rest
  | st, .defn _ _ _ _ _ _ _ _ _ _ _ _ name n dt body :: rest => 2 + ocost (odefSt st name n dt body) rest
  | st, .use p name opt gs :: rest =>
    2 + (ouseBody st p name opt gs).length + (groupsOut (gs.drop (ouseN st name))).length
      + ocost (ouseSt st name) rest

/-- every use has at least as many groups as the macro in force has mandatory parameters; only a
    defined name is followed by `[…]` -/
def OArityOk : PState → List OPiece → Prop
  | _, [] => True
  | st, .tok _ :: rest => OArityOk st rest
  | st, .defn _ _ _ _ _ _ _ _ _ _ _ _ name n dt body :: rest => OArityOk (odefSt st name n dt body) rest
  | st, .use _ name opt gs :: rest =>
    (lookupMacro st ('\\' :: name) = none → opt = none) ∧ ouseN st name ≤ gs.length ∧
    OArityOk (ouseSt st name) rest

/-- **the definition step of `expandSequence`**: the keyword, then the Action token it leaves.  The call
    of the handler needs six units of fuel (it expands `[n]`); the second iteration is one of them, five
    more must remain behind the step -/
theorem seqRun_defD (T : PTables) (kw : Str) (p q1 q2 q3 q4 q5 q6 r1 r2 q7 q8 : Nat)
    (name : Str) (n : Nat) (dt body : List Tok) (rest : Buf) (envStop : Option Str) (out : List Tok)
    (st1 st : PState) (hst : OStOk T st1 st) (hkw : KwOk st1 kw) (hn : NameOk st1 name)
    (hd : DigitOk T st1 n) (hn1 : 1 ≤ n) (hdt : GoodRun T st1 dt)
    (hb : GoodBody T st1 n body) (ha : noEmptyActive T st1 = true) :
    SeqRun T envStop 5 2
      (cwTok p kw :: lbr q1 :: cwTok q2 name :: rbr q3 :: txtTok q4 '[' :: txtTok q5 (digitChar n) ::
        txtTok q6 ']' :: txtTok r1 '[' :: (dt ++ txtTok r2 ']' :: lbr q7 :: (body ++ rbr q8 :: rest)))
      out st rest (out ++ [mkAction p]) (odefSt st name n dt body) := by
  rw [odefSt, ← ncMacro_opt _ n body hdt.1]
  exact seqRun_nc T p kw q2 name q5 n dt body _ rest envStop out st1 st hst.ext
    hkw.nDef hkw.decl hn hd (Or.inr hn1) hb.refs ha rfl
    (fun m _ => collectArgs_defD T m q1 q3 q4 q5 q6 r1 r2 q7 q8 (cwTok q2 name) (cwTok_noBrace q2 name)
      (digitChar n) hd.nBr (hd.plain q5) dt hdt.noBrk hdt.1 body hb.noBrace hb.1 rest p st)

theorem GoodRun.ext {T : PTables} {st st' : PState} (h : Ext st st') {ts : List Tok}
    (hg : GoodRun T st ts) : GoodRun T st' ts :=
  ⟨hg.1, fun t ht => ⟨(hg.2 t ht).1, by rw [h.activeChars]; exact (hg.2 t ht).2.1, (hg.2 t ht).2.2⟩⟩

/-- **the use step of `expandSequence`**: the macro token, the Action token, one iteration per token of
    the expansion, then the groups that are left; an undefined name is recorded, an Action token and
    the groups are left -/
theorem seqRun_useO (T : PTables) (p : Nat) (name : Str) (opt : Opt) (gs : List Group)
    (rest : Buf) (envStop : Option Str) (out : List Tok) (st1 st : PState)
    (hst : OStOk T st1 st) (hn : NameOk st1 name) (ha : noEmptyActive T st1 = true)
    (hopt : ∀ o, opt = some o → GoodRun T st1 o.2.1)
    (hne : opt = none → gs ≠ []) (hg : ∀ g ∈ gs, GroupGood T st1 g)
    (hund : lookupMacro st ('\\' :: name) = none → opt = none) (har : ouseN st name ≤ gs.length) :
    SeqRun T envStop 0 (2 + (ouseBody st p name opt gs).length + (groupsOut (gs.drop (ouseN st name))).length)
      (cwTok p name :: (optFlat opt ++ (groupsFlat gs ++ rest))) out st rest
      (out ++ mkAction p :: (ouseBody st p name opt gs ++ groupsOut (gs.drop (ouseN st name))))
      (ouseSt st name) := by
  have ha' := hst.ext.noEmptyActive ha
  have hgst : ∀ x ∈ gs, GroupGood T st x := fun x hx => (hg x hx).ext hst.ext
  cases hl : lookupMacro st ('\\' :: name) with
  | none =>
    have ho := hund hl
    subst ho
    have e1 : ouseBody st p name none gs = [] := by simp [ouseBody, hl]
    have e2 : ouseSt st name = { st with unknowns := addU st.unknowns ('\\' :: name) } := by
      simp [ouseSt, hl]
    have e3 : ouseN st name = 0 := by simp [ouseN, hl]
    rw [e1, e2, e3, List.drop_zero]
    exact seqRun_undef T p name gs rest envStop out st hn.nDef hl ha' (hne rfl) hgst
  | some m =>
    obtain ⟨n, dt, b, rfl, hn1, hdt, hb⟩ := hst.user _ m hn.undecl hl
    have hlen : (optMacro ('\\' :: name) n dt b).args.length - 1 = n - 1 := by
      simp [optMacro]
    have e3 : ouseN st name = n - 1 := by simp [ouseN, hl, hlen]
    have e1 : ouseBody st p name opt gs
        = genOut (firstArg p dt opt :: (gs.take (n - 1)).map (·.toks)) b
            (genCur (firstArg p dt opt :: (gs.take (n - 1)).map (·.toks)) b p) := by
      simp only [ouseBody, hl, hlen]
      rfl
    have e2 : ouseSt st name = st := by simp [ouseSt, hl]
    rw [e3] at har ⊢
    rw [e1, e2]
    have hoptst : ∀ o, opt = some o → GoodRun T st o.2.1 := fun o ho => (hopt o ho).ext hst.ext
    have hdtst : GoodRun T st dt := hdt.ext hst.ext
    have hargs : ∀ a ∈ firstArg p dt opt :: (gs.take (n - 1)).map (·.toks), ∀ u ∈ a,
        PlainTok u ∧ (activeChars T st).contains u.txt = false := by
      intro a ha2 u hu
      rcases List.mem_cons.mp ha2 with rfl | ha2
      · cases opt with
        | none =>
          simp only [firstArg, List.mem_map] at hu
          obtain ⟨v, hv, rfl⟩ := hu
          exact ⟨plainTok_restamp p v (hdtst.2 v hv).1, (hdtst.2 v hv).2.1⟩
        | some o =>
          have := (hoptst o rfl).2 u hu
          exact ⟨this.1, this.2.1⟩
      · obtain ⟨x, hx, rfl⟩ := List.mem_map.mp ha2
        exact (hgst x (List.mem_of_mem_take hx)).2 u hu
    exact seqRun_expand T p name _ (gs.drop (n - 1)) rest envStop out st _ hn.nDef ha'
      (fun g => expandMacro_useO T g opt gs rest (cwTok p name) st _ n dt b hl hn1 har
        (fun o ho => ⟨(hopt o ho).noBrk, (hopt o ho).1⟩) hne hdt.1 (fun x hx => (hgst x hx).ok) hb.refs)
      (genOut_ne _ _ b hb.1) (genOut_copy T st n _ hargs b _ (hb.toks hst.ext))
      (fun x hx => hgst x (List.mem_of_mem_drop hx))

/-- five units of fuel must remain behind the loop (a definition may be the last piece) -/
theorem seqRun_opt (T : PTables) (envStop : Option Str) (st1 : PState) (ha : noEmptyActive T st1 = true) :
    ∀ (ps : List OPiece) (out : List Tok) (st : PState),
      OPiecesOk T st1 ps → OArityOk st ps → OStOk T st1 st →
      SeqRun T envStop 5 (ocost st ps) (oflat ps) out st [] (out ++ ooutP st ps) (ofinalSt st ps)
  | [], out, st, _, _, _ => by
    rw [ooutP, List.append_nil]
    exact SeqRun.refl.mono (Nat.zero_le _) (Nat.le_refl _)
  | .tok t :: ps, out, st, hok, har, hst =>
    (seqRun_plainTok hok.1 (hst.ext.passTok hok.2.1)).app
      (seqRun_opt T envStop st1 ha ps (out ++ [t]) st hok.2.2 har hst) (Nat.zero_le _)
  | .defn kw p q1 q2 q3 q4 q5 q6 r1 r2 q7 q8 name n dt body :: ps, out, st, hok, har, hst => by
    obtain ⟨hkw, hn, hd, hn1, hdt, hb, hrest⟩ := hok
    simp only [oflat, OPiece.toks, List.cons_append, List.append_assoc, List.nil_append]
    exact (seqRun_defD T kw p q1 q2 q3 q4 q5 q6 r1 r2 q7 q8 name n dt body (oflat ps) envStop out st1 st hst
      hkw hn hd hn1 hdt hb ha).app
      (seqRun_opt T envStop st1 ha ps _ _ hrest har (hst.defSt name n dt body hn hn1 hdt hb))
      (Nat.le_add_right ..)
  | .use p name opt gs :: ps, out, st, hok, har, hst => by
    obtain ⟨hn, hopt, hne, hg, hrest⟩ := hok
    obtain ⟨hund, har1, har2⟩ := har
    have h := (seqRun_useO T p name opt gs (oflat ps) envStop out st1 st hst hn ha hopt hne hg hund har1).app
      (seqRun_opt T envStop st1 ha ps _ _ hrest har2 (hst.useSt name)) (Nat.zero_le _)
    simpa only [oflat, OPiece.toks, ooutP, ocost, ofinalSt, List.cons_append, List.append_assoc] using h

end PlainOptArg
end Yalafi
