/-
  Proofs/PlainGroup.lean — C03 "every word in arguments of unknown or pass-through macros appears
  exactly once, in order; no markup is left" and C02 "arguments of unknown or pass-through macros
  carry the offset of that very character", end to end on the model, for documents of inert text,
  UNDECLARED CONTROL WORDS and BRACE GROUPS, nested arbitrarily:

      item ::= inert text | `{` items `}` | `\name`

  so that a call with braced arguments `\name{a}{b}` is the control word followed by two groups
  (`mac name [a, b]`), and `\textbf{bold \emph{and nested}}` is a control word and a group that holds
  text, a control word and a group.  (Undeclared control words WITHOUT groups: Proofs/PlainUnknown.lean,
  whose result is up to white space; here the output is exact.)

  What the model does: `expand_sequence` never recurses for these
  constructs.  The scanner yields one macro token for `\name` and one special token for each brace.
  The main loop hands an undeclared macro token to `expand_macro`, which skips the space token behind
  the name (`skip_space(stop_lang, stop_action)`: a run of white space with at most one line break;
  a run with two or more line breaks is a paragraph token and stays), records the name in `unknowns`
  and returns one Action token; `{` and `}` become one Action token each.  The arguments simply stay
  in the text flow.  `remove_pure_action_lines` then deletes every line that consists only of white
  space and Action tokens (at least one), together with its line break, and drops the text-less
  tokens.

  Documents
    `Item`, `render`           the recursive document type (nesting depth unbounded) and its source text
    `mac name args`            `\name{a1}…{an}` = `.cw name :: args.map .grp`
    `Atom`, `atoms`, `renderA` the document flattened: a character, `{`, `}`, a control word;
                               `render_eq : render doc = renderA (atoms doc)`.  Everything below the
                               statement lives on atoms — the braces need not even be balanced
                               (`tex2txt_atoms`), the nesting is only in `render` / `atoms`.
  Reference output
    `marksA`, `marks`          the source as a list of `PlainMacro.Mark`s: `some (c, pos)` for a text
                               character, `none` for a brace or a control word; behind a control word
                               `dropSp` drops the white space up to the next other mark unless it holds
                               two or more line breaks
    `namesA`, `names`          the control words (with backslash) in order of occurrence
    `PlainMacro.delLines`      the character-level model of `remove_pure_action_lines`
  Expander level
    `GSeq`, `gErase`, `seqRun_grp`   the loop over the FLAT token list: plain tokens copied, macro token ↦
                               Action + skip, brace ↦ Action; names recorded
  Source level
    `Con`, `OkSrc`             the well-formed sources (`OkSrcG` of Proofs/OkSrc.lean; the meaning is the pair
                               of the control words and the marks)
    `scanAll_grp`              the scanner, and what `gErase` of its tokens means
                               (`marksOf (gErase false toks) = marks`); by `scanAll_of_runs` and
                               `OkSrcG.scans_chr`: white space behind a control word needs the source behind it
  Readings (used by Properties/PlainGroupStmt.lean)
    `plain`                    the characters of the marks
    `marksA_src`               a character mark is the source character at its position
    `marksA_text`, `atomsOk_chr`, `not_markup`   … and a text character, hence no `\ { }`
    `marksA_sorted`, `delLines_sorted`   the output is a subsequence (`PlainMix.delLines_sublist`) of the character
                               marks; its positions are strictly increasing
    `tight`, `textOf`, `plain_tight`   without white space behind control words `plain` = all text characters
  Simpler sufficient conditions
    `tablesOk`, `atomsOkSimple`, `docOkSimple`, `docOk_of_simple`   per character / per name; the only
                               context left is the character behind a control word

  The end-to-end statement `tex2txt_groups`.  `tex2txt` succeeds; text and (1-based) positions are
  `delLines (marks 0 doc)`: every text character — at whatever depth of groups / arguments — is copied
  with its own source position, in order, exactly once; braces and control words leave nothing; the
  white space directly behind a control word is dropped (at most one line break; `\foo {a}` gives
  `a`); then every line is deleted (with its line break) that consists of white space only and
  holds at least one brace or control word.  `unknowns` = the control words, each once, in order of
  first occurrence; no diagnostic is added.

  Side conditions (all in `DocOk T st1 doc`; `st1` = state after `Parser.__init__`)
    `noEmptyActive T st1`      the empty string is no "active character" (else the text-less Action
                               tokens would go to `expand_short_macro`); real tables: yes
    text characters            `okAt` of Proofs/PlainUnknown.lean, in their right context (the whole rest
                               of the source, across braces and control words): not active, or no short
                               macro with the next token; white space, or none of `% # \ $ { }` and no
                               special sequence of the tables matches there (real tables: `~ & _ ^` and the
                               sequences `-- --- '' `` ` are not inert; a single `-` or `'` is)
    braces                     `braceAt`: the scanner makes the one-character special token of it (real
                               tables: `{` and `}` are special sequences and none of more than one character
                               starts with a brace: `tablesOk`)
    control words              `cwOk` of Proofs/PlainUnknown.lean: a non-empty string of ASCII letters / `@`
                               that is not continued by the next character, no special sequence matches at
                               the backslash, none of `\begin \end \item \verb \def`, no accent macro
                               (`\u{x}`, `\v{x}`, `\c{x}` … are accents, not unknown macros), NOT DECLARED
                               in `st1`
    options                    no --defs, --extr, --repl, --unkn; single-language mode
    fuel                       `(render doc).length + 2 ≤ fuel`

  NOT covered: declared macros (pass-through macros like `\textbf` under `--pack` with a declaration
  `\textbf{#1}` go through `expand_arguments`, cf. Proofs/PlainMacroArgs.lean for user definitions);
  optional arguments in brackets (they would be plain text here: `[` `]` are inert characters, so
  `\foo[x]{y}` IS covered and yields `[x]y`, which is what the filter does for unknown macros);
  control symbols (`\,` `\%` …), `$`, `%`, `#`, `&`, `~`, `_`, `^` inside the groups; `--unkn`;
  multi-language mode.
-/
import YalafiVerif.Proofs.PlainVanish
namespace Yalafi
namespace PlainGroup

open M
open PlainMacro

/-- an item of the source: a run of text, a brace group, or a control word `\name` -/
inductive Item where
  | txt (s : Str)
  | grp (body : List Item)
  | cw (name : Str)
deriving Repr

/-- `\name{a1}…{an}`: the control word, directly followed by `n` brace groups -/
def mac (name : Str) (args : List (List Item)) : List Item := .cw name :: args.map .grp

mutual
def Item.render : Item → Str
  | .txt s => s
  | .grp body => '{' :: (render body ++ ['}'])
  | .cw name => '\\' :: name
def render : List Item → Str
  | [] => []
  | i :: rest => i.render ++ render rest
end

/-- the document without its nesting: a text character, an opening brace, a closing brace, a
    control word -/
inductive Atom where
  | chr (c : Char)
  | opn
  | cls
  | cw (name : Str)
deriving Repr, DecidableEq

mutual
def Item.atoms : Item → List Atom
  | .txt s => s.map .chr
  | .grp body => .opn :: (atoms body ++ [.cls])
  | .cw name => [.cw name]
def atoms : List Item → List Atom
  | [] => []
  | i :: rest => i.atoms ++ atoms rest
end

def Atom.render : Atom → Str
  | .chr c => [c]
  | .opn => ['{']
  | .cls => ['}']
  | .cw name => '\\' :: name

def renderA : List Atom → Str
  | [] => []
  | a :: r => a.render ++ renderA r

theorem renderA_append : ∀ (a b : List Atom), renderA (a ++ b) = renderA a ++ renderA b
  | [], _ => rfl
  | x :: a, b => by simp [renderA, renderA_append a b]

theorem renderA_chr : ∀ (s : Str), renderA (s.map .chr) = s
  | [] => rfl
  | c :: s => by simp [renderA, Atom.render, renderA_chr s]

mutual
theorem Item.render_eq : ∀ (i : Item), i.render = renderA i.atoms
  | .txt s => by simp [Item.render, Item.atoms, renderA_chr]
  | .grp body => by
    simp [Item.render, Item.atoms, renderA, Atom.render, renderA_append, render_eq body]
  | .cw name => by simp [Item.render, Item.atoms, renderA, Atom.render]
theorem render_eq : ∀ (d : List Item), render d = renderA (atoms d)
  | [] => rfl
  | i :: rest => by simp [render, atoms, renderA_append, Item.render_eq i, render_eq rest]
end

def spMark : Mark → Bool
  | some cp => isSpace cp.1
  | none => false

def nlMark : Mark → Bool
  | some cp => cp.1 == nl
  | none => false

/-- what `skip_space` does behind a control word: the run of white space in front (up to the next
    visible character, brace or control word) is dropped if it holds at most one line break (a space
    token); with two or more line breaks it is a paragraph token and stays -/
def dropSp (ms : List Mark) : List Mark :=
  if (ms.takeWhile spMark).countP nlMark < 2 then ms.dropWhile spMark else ms

/-- **the reference**: the flattened document, which starts at position `p`, as a list of marks —
    a text character with its own position, `none` for a brace and for a control word; the white
    space behind a control word is dropped (`dropSp`) -/
def marksA : Nat → List Atom → List Mark
  | _, [] => []
  | p, .chr c :: r => some (c, p) :: marksA (p + 1) r
  | p, .opn :: r => none :: marksA (p + 1) r
  | p, .cls :: r => none :: marksA (p + 1) r
  | p, .cw name :: r => none :: dropSp (marksA (p + (name.length + 1)) r)

def namesA : List Atom → List Str
  | [] => []
  | .cw name :: r => ('\\' :: name) :: namesA r
  | _ :: r => namesA r

def marks (p : Nat) (d : List Item) : List Mark := marksA p (atoms d)

def names (d : List Item) : List Str := namesA (atoms d)

/-- well-formed flattened documents: every atom is fine in front of the rendering of the following
    ones (`okAt`, `cwOk` of Proofs/PlainUnknown.lean, `braceAt` of Proofs/PlainMacro.lean) -/
def atomsOk (T : PTables) (st : PState) : List Atom → Bool
  | [] => true
  | .chr c :: r => okAt T st c (renderA r) && atomsOk T st r
  | .opn :: r => braceAt T '{' (renderA r) && atomsOk T st r
  | .cls :: r => braceAt T '}' (renderA r) && atomsOk T st r
  | .cw name :: r => cwOk T st name (renderA r) && atomsOk T st r

def docOk (T : PTables) (st : PState) (d : List Item) : Bool := atomsOk T st (atoms d)

def DocOk (T : PTables) (st : PState) (d : List Item) : Prop :=
  noEmptyActive T st = true ∧ docOk T st d = true

instance (T : PTables) (st : PState) (d : List Item) : Decidable (DocOk T st d) := by
  unfold DocOk; infer_instance

def NoSp (ms : List Mark) : Prop := ∀ m ms', ms = m :: ms' → spMark m = false

theorem dropSp_noSp {ms : List Mark} (h : NoSp ms) : dropSp ms = ms := by
  cases ms with
  | nil => simp [dropSp]
  | cons m ms' =>
    have := h m ms' rfl
    simp [dropSp, this]

theorem dropSp_none (ms : List Mark) : dropSp (none :: ms) = none :: ms :=
  dropSp_noSp (by intro m ms' e; cases e; rfl)

theorem takeWhile_run (W : List (Char × Nat)) (hW : ∀ cp ∈ W, isSpace cp.1 = true) (ms : List Mark)
    (h : NoSp ms) : (W.map some ++ ms).takeWhile spMark = W.map some := by
  induction W with
  | nil =>
    cases ms with
    | nil => rfl
    | cons m ms' => simp [h m ms' rfl]
  | cons cp W ih =>
    have h1 : spMark (some cp) = true := hW cp (List.mem_cons_self ..)
    simp only [List.map_cons, List.cons_append, List.takeWhile_cons, h1, if_true]
    rw [ih (fun x hx => hW x (List.mem_cons_of_mem _ hx))]

theorem dropWhile_run (W : List (Char × Nat)) (hW : ∀ cp ∈ W, isSpace cp.1 = true) (ms : List Mark)
    (h : NoSp ms) : (W.map some ++ ms).dropWhile spMark = ms := by
  induction W with
  | nil =>
    cases ms with
    | nil => rfl
    | cons m ms' => simp [h m ms' rfl]
  | cons cp W ih =>
    have h1 : spMark (some cp) = true := hW cp (List.mem_cons_self ..)
    simp only [List.map_cons, List.cons_append, List.dropWhile_cons, h1, if_true]
    exact ih (fun x hx => hW x (List.mem_cons_of_mem _ hx))

theorem countP_nlMark_posText : ∀ (w : Str) (p : Nat),
    ((posText p w).map some).countP nlMark = countNl w
  | [], _ => rfl
  | c :: w, p => by
    have ih := countP_nlMark_posText w (p + 1)
    simp only [posText, List.map_cons, List.countP_cons, ih, countNl, List.count_cons, nlMark]
    rfl

theorem dropSp_run (w : Str) (p : Nat) (hw : ∀ x ∈ w, isSpace x = true) (ms : List Mark) (h : NoSp ms) :
    dropSp ((posText p w).map some ++ ms)
      = if countNl w < 2 then ms else (posText p w).map some ++ ms := by
  have hW : ∀ cp ∈ posText p w, isSpace cp.1 = true := by
    intro cp hcp
    have : cp.1 ∈ (posText p w).map (·.1) := List.mem_map.mpr ⟨cp, hcp, rfl⟩
    rw [posText_fst] at this
    exact hw _ this
  unfold dropSp
  rw [takeWhile_run _ hW ms h, dropWhile_run _ hW ms h, countP_nlMark_posText]

theorem mem_dropSp {m : Mark} {ms : List Mark} (h : m ∈ dropSp ms) : m ∈ ms := by
  unfold dropSp at h
  split at h
  · exact (List.dropWhile_sublist _).subset h
  · exact h

structure BrTok (t : Tok) : Prop where
  kind : t.kind = .special
  txt : t.txt = ['{'] ∨ t.txt = ['}']

def isBraceTok (t : Tok) : Bool := t.kind == .special && (t.txt == ['{'] || t.txt == ['}'])

theorem BrTok.isBrace {t : Tok} (h : BrTok t) : isBraceTok t = true := by
  rcases h.txt with ht | ht <;> simp [isBraceTok, h.kind, ht]

theorem BrTok.notMacro {t : Tok} (h : BrTok t) : isMacroTok t = false := by
  simp [isMacroTok, h.kind]

theorem BrTok.notSpace {t : Tok} (h : BrTok t) : isSpaceTok t = false := by
  simp [isSpaceTok, h.kind]

theorem _root_.Yalafi.PlainTok.notBrace {t : Tok} (h : PlainTok t) : isBraceTok t = false := by
  unfold isBraceTok
  rcases h.kind with hk | hk | hk <;> simp [hk]

theorem _root_.Yalafi.CwTokOk.notBrace {st : PState} {t : Tok} (h : CwTokOk st t) : isBraceTok t = false := by
  simp [isBraceTok, h.kind]

def GSeq (T : PTables) (st : PState) : List Tok → Prop
  | [] => True
  | t :: rest => ((PlainTok t ∧ PassTok T st t rest) ∨ CwTokOk st t ∨ BrTok t) ∧ GSeq T st rest

/-- what `expandSequence` makes of the buffer before the blank-line removal: a macro token becomes
    an Action token and the space token behind it is dropped (`skip` = directly behind a macro
    token); a brace becomes an Action token -/
def gErase : Bool → List Tok → List Tok
  | _, [] => []
  | skip, t :: rest =>
    if isMacroTok t then mkAction t.pos :: gErase true rest
    else if isBraceTok t then mkAction t.pos :: gErase false rest
    else if skip && (isSpaceTok t && !isLangK t && !(t.kind == .action)) then gErase true rest
    else t :: gErase false rest

theorem gErase_true : ∀ toks : List Tok, gErase true toks = gErase false (skipSpaceStopLangAct toks)
  | [] => rfl
  | t :: rest => by
    by_cases hm : isMacroTok t = true
    · have hk : t.kind = .xmacro := by simpa [isMacroTok] using hm
      have hs : isSpaceTok t = false := by simp [isSpaceTok, hk]
      simp [gErase, hm, skipSpaceStopLangAct, hs]
    · by_cases hb : isBraceTok t = true
      · have hk : t.kind = .special := by
          simp only [isBraceTok, Bool.and_eq_true, beq_iff_eq] at hb; exact hb.1
        have hs : isSpaceTok t = false := by simp [isSpaceTok, hk]
        simp [gErase, hm, hb, skipSpaceStopLangAct, hs]
      · by_cases hd : (isSpaceTok t && !isLangK t && !(t.kind == .action)) = true
        · have ih := gErase_true rest
          simp only [skipSpaceStopLangAct] at ih
          simp only [gErase, hm, hb, hd, skipSpaceStopLangAct, List.dropWhile_cons, Bool.and_self, if_true,
            Bool.false_eq_true, if_false]
          exact ih
        · simp only [gErase, hm, hb, hd, skipSpaceStopLangAct, List.dropWhile_cons, Bool.and_false,
            Bool.false_eq_true, if_false]

theorem GSeq.dropWhile {T : PTables} {st : PState} (p : Tok → Bool) :
    ∀ {toks : List Tok}, GSeq T st toks → GSeq T st (toks.dropWhile p)
  | [], h => h
  | t :: rest, h => by
    rw [List.dropWhile_cons]
    split
    · exact GSeq.dropWhile p h.2
    · exact h

theorem GSeq.noCom {T : PTables} {st : PState} : ∀ {toks : List Tok}, GSeq T st toks → NoCom toks
  | [], _ => .nil
  | _ :: _, hs => .cons (by
      rcases hs.1 with ⟨hp, _⟩ | hc | hb
      · exact hp.notComment
      · exact NoCom.of_kind hc.kind
      · exact NoCom.of_kind hb.kind) (noCom hs.2)

/-- **the loop on the flat buffer** of plain tokens, undeclared macros and braces: the output is
    `gErase` of the buffer, the names of the macro tokens are recorded in order (each once), nothing
    else in the state changes.  The loop does not recurse: a brace is one iteration, a macro token
    two (`cost` of Proofs/PlainUnknown.lean).  By induction on the length, since the white space behind
    a macro token is skipped. -/
theorem seqRun_grp (T : PTables) (envStop : Option Str) {st0 : PState} (ha : noEmptyActive T st0 = true) :
    ∀ (n : Nat) (toks : List Tok), toks.length ≤ n → ∀ (out : List Tok) (st : PState),
      Reads st0 st → GSeq T st0 toks →
      SeqRun T envStop 0 (cost toks) toks out st [] (out ++ gErase false toks)
        { st with unknowns := (macroNames toks).foldl addU st.unknowns } := by
  intro n
  induction n with
  | zero =>
    intro toks hn out st _ _
    obtain rfl : toks = [] := List.eq_nil_of_length_eq_zero (by omega)
    rw [show gErase false [] = [] from rfl, List.append_nil]
    exact .refl
  | succ n ih =>
    intro toks hn out st hR hseq
    cases toks with
    | nil =>
      rw [show gErase false [] = [] from rfl, List.append_nil]
      exact .refl
    | cons t ts =>
      rcases hseq.1 with ⟨hp, hpass⟩ | hcw | hbr
      · have hm : isMacroTok t = false := hp.notMacro
        have hb : isBraceTok t = false := hp.notBrace
        have h := (seqRun_plainTok (envStop := envStop) (out := out) hp (hR.ext.passTok hpass)).app
          (ih ts (by simpa using hn) (out ++ [t]) st hR hseq.2) (Nat.zero_le _)
        simpa only [cost, gErase, hm, hb, Bool.false_eq_true, if_false, Bool.false_and, macroNames,
          List.filter_cons, List.singleton_append] using h
      · have hm : isMacroTok t = true := by simp [isMacroTok, hcw.kind]
        have hlen : (skipSpaceStopLangAct ts).length ≤ n := by
          have : (skipSpaceStopLangAct ts).length ≤ ts.length :=
            (List.dropWhile_sublist _).length_le
          simp only [List.length_cons] at hn; omega
        have hcost : cost (skipSpaceStopLangAct ts) ≤ cost ts :=
          cost_dropWhile (fun t => isSpaceTok t && !isLangK t && !(t.kind == .action)) ts
        have h := ((seqRun_cw (envStop := envStop) (out := out) (hcw.reads hR) (hR.ext.noEmptyActive ha)).app
          (ih (skipSpaceStopLangAct ts) hlen (out ++ [mkAction t.pos])
            { st with unknowns := addU st.unknowns t.txt } (hR.trans ⟨rfl, rfl⟩)
            (GSeq.dropWhile (fun t => isSpaceTok t && !isLangK t && !(t.kind == .action)) hseq.2))
          (Nat.zero_le _)).mono (c' := 2 + cost ts) (Nat.le_refl _) (by omega)
        rw [macroNames_skip] at h
        simpa only [cost, gErase, hm, if_true, gErase_true, macroNames, List.filter_cons, List.map_cons,
          List.foldl_cons, List.singleton_append] using h
      · have hm : isMacroTok t = false := hbr.notMacro
        have hb : isBraceTok t = true := hbr.isBrace
        have h := (seqRun_brace (envStop := envStop) (out := out) hbr.kind hbr.txt).app
          (ih ts (by simpa using hn) (out ++ [mkAction t.pos]) st hR hseq.2) (Nat.zero_le _)
        simpa only [cost, gErase, hm, hb, Bool.false_eq_true, if_false, if_true, macroNames,
          List.filter_cons, List.singleton_append] using h

/-- a brace or a control word at the head of the source; the meaning is the list of control words and
    the marks -/
inductive Con (T : PTables) (st : PState) :
    Nat → Str → List Str × List Mark → Nat → Str → List Str × List Mark → Prop
  | br (p : Nat) (c : Char) (cs : Str) (names : List Str) (ms : List Mark) :
      (c = '{' ∨ c = '}') → braceAt T c cs = true →
      Con T st p (c :: cs) (names, none :: ms) (p + 1) cs (names, ms)
  | cw (p : Nat) (name R : Str) (names : List Str) (ms : List Mark) : cwOk T st name R = true →
      Con T st p ('\\' :: (name ++ R)) (('\\' :: name) :: names, none :: dropSp ms) (p + (name.length + 1)) R
        (names, ms)

theorem Con.vis (T : PTables) (st : PState) : ConVis (Con T st) := by
  intro p W a p' R a' h
  cases h with
  | br _ _ _ _ hb => rcases hb with rfl | rfl <;> exact ⟨_, _, rfl, rfl⟩
  | cw => exact ⟨_, _, rfl, rfl⟩

abbrev OkSrc (T : PTables) (st : PState) (p : Nat) (W : Str) (names : List Str) (ms : List Mark) : Prop :=
  OkSrcG (okAt T st) (sndChr some) (· = ([], [])) (Con T st) p W (names, ms)

theorem OkSrc_of_atomsOk (T : PTables) (st : PState) :
    ∀ (as : List Atom) (p : Nat), atomsOk T st as = true →
      OkSrc T st p (renderA as) (namesA as) (marksA p as)
  | [], p, _ => .nil p _ rfl
  | .chr c :: r, p, h => by
    simp only [atomsOk, Bool.and_eq_true] at h
    exact .chr p c _ _ h.1 (OkSrc_of_atomsOk T st r _ h.2)
  | .opn :: r, p, h => by
    simp only [atomsOk, Bool.and_eq_true] at h
    exact .con (.br p '{' _ _ _ (Or.inl rfl) h.1) (OkSrc_of_atomsOk T st r _ h.2)
  | .cls :: r, p, h => by
    simp only [atomsOk, Bool.and_eq_true] at h
    exact .con (.br p '}' _ _ _ (Or.inr rfl) h.1) (OkSrc_of_atomsOk T st r _ h.2)
  | .cw name :: r, p, h => by
    simp only [atomsOk, Bool.and_eq_true] at h
    exact .con (.cw p name _ _ _ h.1) (OkSrc_of_atomsOk T st r _ h.2)

theorem OkSrc.noSp {T : PTables} {st : PState} {p : Nat} {s : Str} {names : List Str} {ms : List Mark}
    (h : OkSrc T st p s names ms) (hs : ∀ c cs, s = c :: cs → isSpace c = false) : NoSp ms := by
  intro m ms' e
  cases h with
  | nil _ _ h => cases h; cases e
  | chr _ c cs _ _ _ => cases e; exact hs c cs rfl
  | con hd _ => cases hd <;> (cases e; rfl)


theorem dropWhile_head {α} (p : α → Bool) : ∀ (l : List α) (c : α) (cs : List α),
    l.dropWhile p = c :: cs → p c = false
  | [], _, _, h => by simp at h
  | a :: l, c, cs, h => by
    rw [List.dropWhile_cons] at h
    split at h
    · exact dropWhile_head p l c cs h
    · cases h; simpa using ‹¬ p a = true›

structure ScanFacts (T : PTables) (st : PState) (rest : Str) (names : List Str) (ms : List Mark)
    (steps : List ScanStep) : Prop where
  ok : ∀ s ∈ steps, s.diag = none ∧ s.extra = []
  seq : GSeq T st (steps.map (·.tok))
  first : ∀ s ss, steps = s :: ss → s.tok.txt = firstTokTxtM rest
  names : macroNames (steps.map (·.tok)) = names
  cost : cost (steps.map (·.tok)) ≤ rest.length
  marks : marksOf (gErase false (steps.map (·.tok))) = ms
  skip : marksOf (gErase true (steps.map (·.tok))) = dropSp ms
  simple : ∀ t ∈ steps.map (·.tok), isMacroTok t = false → isBraceTok t = false → Simple t

theorem ScanFacts_nil (T : PTables) (st : PState) : ScanFacts T st [] [] [] [] :=
  ⟨by simp, trivial, by simp, rfl, by simp [cost], rfl, rfl, by simp⟩

theorem scanAll_grp (T : PTables) (st : PState) (src : Str) (pos : Nat) (rest : Str) (names : List Str)
    (ms : List Mark) (h : OkSrc T st pos rest names ms) :
      ScanFacts T st rest names ms (scanAll T.toTables src pos rest).1 := by
  refine scanAll_of_runs T.toTables src (OkSrcG (okAt T st) (sndChr some) (· = ([], [])) (Con T st))
    (fun W a ss => ScanFacts T st W a.1 a.2 ss) (fun _ _ h => ?_) ?_ pos rest (names, ms) h
  · cases h with
    | nil _ _ h => cases h; exact ScanFacts_nil T st
    | con hd _ => obtain ⟨_, _, e, _⟩ := Con.vis T st _ _ _ _ _ _ hd; cases e
  intro pos c cs a hok
  cases hok with
  | chr _ _ _ a0 hat hsub0 =>
    obtain ⟨names, ms'⟩ := a0
    obtain ⟨s, ⟨_, ms1⟩, ha1, hsub, r, K⟩ := OkSrcG.scans_chr T st firstTokTxtM src (fun _ _ h => h)
      (fun c cs h => firstTokTxtM_of_text c cs (h.imp id (·.1))) (Con.vis T st) hat hsub0
    rw [chrs_snd] at ha1
    obtain ⟨rfl, hms1⟩ := Prod.mk.inj ha1
    refine ⟨[s], _, _, (names, ms1), by simp, r, hsub, fun rs hnil I => ?_⟩
    have K := K rs hnil I.first
    have hp := K.step
    have hone := K.one
    have hs := K.eq
    have h2 := hp.len_le
    show ScanFacts T st (c :: cs) names (some (c, pos) :: ms') (s :: rs)
    have hnm : isMacroTok s.tok = false := hp.tok.notMacro
    have hnb : isBraceTok s.tok = false := hp.tok.notBrace
    have hmk : marksOf (s.tok :: gErase false (rs.map (·.tok))) = some (c, pos) :: ms' :=
      (marksOf_append [s.tok] _).trans (by rw [K.marks, I.marks, hms1])
    refine ⟨?_, ?_, ?_, ?_, ?_, ?_, ?_, ?_⟩
    · intro x hx
      rcases List.mem_cons.mp hx with rfl | hx
      · exact ⟨hp.diag, hp.extra⟩
      · exact I.ok x hx
    · exact ⟨Or.inl ⟨hp.tok, K.pass⟩, I.seq⟩
    · intro s' ss' he
      simp only [List.cons.injEq] at he
      rw [← he.1]; exact K.first
    · simp only [List.map_cons, macroNames, List.filter_cons, hnm, Bool.false_eq_true, if_false]
      exact I.names
    · have hc := I.cost
      have h1 := hp.len_pos
      simp only [List.map_cons, Yalafi.cost, hnm, Bool.false_eq_true, if_false]
      simp only [List.length_drop, List.length_cons] at hc h2 ⊢
      omega
    · simp only [List.map_cons, gErase, hnm, hnb, Bool.false_eq_true, if_false,
        Bool.false_and]
      exact hmk
    · -- behind a control word
      by_cases hsp : isSpace c = true
      · have hs' := hs
        rw [nextToken_white T.toTables src pos hsp rfl] at hs'
        have hlen : s.len = ((c :: cs).takeWhile isSpace).length := by rw [← hs']
        have hkind : s.tok.kind
            = if countNl ((c :: cs).takeWhile isSpace) < 2 then .space else .par := by
          rw [← hs']; rfl
        have htake : (c :: cs).take s.len = (c :: cs).takeWhile isSpace := by
          rw [hlen]; exact ScannerAux.take_length_takeWhile _ _
        have hdrop : (c :: cs).drop s.len = (c :: cs).dropWhile isSpace := by
          rw [hlen]; exact drop_length_takeWhile _ _
        have hns : NoSp ms1 := OkSrc.noSp hsub (by
          intro d ds e
          rw [hdrop] at e
          exact dropWhile_head _ _ _ _ e)
        have hrun := dropSp_run ((c :: cs).takeWhile isSpace) pos
          (fun x hx => mem_takeWhile_imp _ _ _ hx) ms1 hns
        rw [hms1, htake, hrun]
        by_cases hcnt : countNl ((c :: cs).takeWhile isSpace) < 2
        · have hk : s.tok.kind = .space := by rw [hkind, if_pos hcnt]
          have hsk : (isSpaceTok s.tok && !isLangK s.tok && !(s.tok.kind == .action)) = true := by
            simp [isSpaceTok, isLangK, hk]
          simp only [List.map_cons, gErase, hnm, hnb, hsk, Bool.false_eq_true,
            if_false, Bool.and_self, if_true, if_pos hcnt]
          rw [I.skip, dropSp_noSp hns]
        · have hk : s.tok.kind = .par := by rw [hkind, if_neg hcnt]
          have hsk : (isSpaceTok s.tok && !isLangK s.tok && !(s.tok.kind == .action)) = false := by
            simp [isSpaceTok, hk]
          simp only [List.map_cons, gErase, hnm, hnb, hsk, Bool.false_eq_true,
            if_false, Bool.and_false, if_neg hcnt]
          rw [hmk, hms1, htake]
      · have hsp' : isSpace c = false := by simpa using hsp
        have hk : s.tok.kind = .text := (hone hsp').2
        have hsk : (isSpaceTok s.tok && !isLangK s.tok && !(s.tok.kind == .action)) = false := by
          simp [isSpaceTok, hk]
        simp only [List.map_cons, gErase, hnm, hnb, hsk, Bool.false_eq_true,
          if_false, Bool.and_false]
        rw [hmk, dropSp_noSp (by intro m ms'' e; cases e; exact hsp')]
    · intro t ht hm hb
      simp only [List.map_cons, List.mem_cons] at ht
      rcases ht with rfl | ht
      · exact K.simple _ (List.mem_singleton.mpr rfl)
      · exact I.simple t ht hm hb
  | con hd hsub =>
    cases hd with
    | br _ _ names ms' hc hbr =>
      refine ⟨_, _, _, (names, ms'), by simp, scans_brace T src pos c cs hc hbr, hsub, fun rs _ I => ?_⟩
      have hB : BrTok { kind := .special, pos := pos, txt := [c] } :=
        ⟨rfl, by rcases hc with rfl | rfl <;> simp⟩
      have hnm := hB.notMacro
      have hnb := hB.isBrace
      have hmk : marksOf (gErase false ({ kind := .special, pos := pos, txt := [c] } :: rs.map (·.tok)))
          = none :: ms' := by
        simp only [gErase, hnm, hnb, Bool.false_eq_true, if_false, if_true]
        rw [marksOf_cons, tokMarks_mkAction, I.marks]; rfl
      refine ⟨?_, ?_, ?_, ?_, ?_, ?_, ?_, ?_⟩
      · intro x hx
        rcases List.mem_cons.mp hx with rfl | hx
        · exact ⟨rfl, rfl⟩
        · exact I.ok x hx
      · exact ⟨Or.inr (Or.inr hB), I.seq⟩
      · intro s' ss' he
        simp only [List.singleton_append, List.cons.injEq] at he
        rw [← he.1]
        rcases hc with rfl | rfl <;> rfl
      · simp only [List.singleton_append, List.map_cons, macroNames, List.filter_cons, hnm,
          Bool.false_eq_true, if_false]
        exact I.names
      · have := I.cost
        simp only [List.singleton_append, List.map_cons, Yalafi.cost, hnm, Bool.false_eq_true, if_false,
          List.length_cons]
        omega
      · exact hmk
      · simp only [List.singleton_append, List.map_cons]
        rw [dropSp_none, ← hmk]
        simp only [gErase, hnm, hnb, Bool.false_eq_true, if_false, if_true]
      · intro t ht hm hb
        simp only [List.singleton_append, List.map_cons, List.mem_cons] at ht
        rcases ht with rfl | ht
        · rw [hnb] at hb; cases hb
        · exact I.simple t ht hm hb
    | cw name _ names' ms' hcw =>
      have facts := cwFacts hcw
      refine ⟨_, _, _, (names', ms'), by simp, scans_cw T src pos facts, hsub, fun rs _ I => ?_⟩
      have hm : isMacroTok (cwTok pos name) = true := rfl
      have hmk : marksOf (gErase false (cwTok pos name :: rs.map (·.tok))) = none :: dropSp ms' := by
        simp only [gErase, hm, if_true]
        rw [marksOf_cons, I.skip]; rfl
      refine ⟨?_, ?_, ?_, ?_, ?_, ?_, ?_, ?_⟩
      · intro x hx
        rcases List.mem_cons.mp hx with rfl | hx
        · exact ⟨rfl, rfl⟩
        · exact I.ok x hx
      · exact ⟨Or.inr (Or.inl (cwTokOk_cwTok facts pos)), I.seq⟩
      · intro s' ss' he
        simp only [List.singleton_append, List.cons.injEq] at he
        rw [← he.1]
        simp [firstTokTxtM, cwTok, facts.tw, show isSpace '\\' = false by decide]
      · simp only [List.singleton_append, List.map_cons, macroNames, List.filter_cons, hm, if_true]
        have := I.names
        simp only [macroNames] at this
        rw [this]; rfl
      · have := List.length_pos_iff.mpr facts.ne
        have := I.cost
        simp only [List.singleton_append, List.map_cons, Yalafi.cost, hm, if_true, List.length_cons,
          List.length_append]
        omega
      · exact hmk
      · simp only [List.singleton_append, List.map_cons]
        rw [dropSp_none, ← hmk]
        simp only [gErase, hm, if_true]
      · intro t ht hm' hb
        simp only [List.singleton_append, List.map_cons, List.mem_cons] at ht
        rcases ht with rfl | ht
        · rw [hm] at hm'; cases hm'
        · exact I.simple t ht hm' hb

theorem mem_gErase : ∀ (toks : List Tok) (b : Bool) (t : Tok), t ∈ gErase b toks →
    (∃ p, t = mkAction p) ∨ (t ∈ toks ∧ isMacroTok t = false ∧ isBraceTok t = false)
  | [], _, _, h => by simp [gErase] at h
  | x :: rest, b, t, h => by
    have lift : ((∃ p, t = mkAction p) ∨ (t ∈ rest ∧ isMacroTok t = false ∧ isBraceTok t = false)) →
        ((∃ p, t = mkAction p) ∨ (t ∈ x :: rest ∧ isMacroTok t = false ∧ isBraceTok t = false)) := by
      rintro (h | ⟨h1, h2⟩)
      · exact Or.inl h
      · exact Or.inr ⟨List.mem_cons_of_mem _ h1, h2⟩
    unfold gErase at h
    split at h
    · rcases List.mem_cons.mp h with rfl | h
      · exact Or.inl ⟨_, rfl⟩
      · exact lift (mem_gErase rest true t h)
    · rename_i hm
      split at h
      · rcases List.mem_cons.mp h with rfl | h
        · exact Or.inl ⟨_, rfl⟩
        · exact lift (mem_gErase rest false t h)
      · rename_i hb
        split at h
        · exact lift (mem_gErase rest true t h)
        · rcases List.mem_cons.mp h with rfl | h
          · exact Or.inr ⟨List.mem_cons_self .., by simpa using hm, by simpa using hb⟩
          · exact lift (mem_gErase rest false t h)

/-- **the end-to-end statement on flattened documents** (the braces need not be balanced) -/
theorem tex2txt_atoms (T : PTables) (o : Options) (fs : FS) (thresh : Nat) (as : List Atom)
    (fuel : Nat) (st1 : PState)
    (hdefs : o.defs = []) (hextr : o.extr = []) (hrepl : o.hasRepl = false) (hunkn : o.unkn = false)
    (hinit : initParser T fuel o (initialState T o false fs) = .ok ((), st1))
    (ha : noEmptyActive T st1 = true) (hok : atomsOk T st1 as = true)
    (hf : (renderA as).length + 2 ≤ fuel) :
    ∃ r, tex2txt T fuel (renderA as) o false thresh fs = .ok r ∧
      r.txt = (delLines (marksA 0 as)).map (·.1) ∧
      r.pos = (delLines (marksA 0 as)).map (·.2 + 1) ∧
      r.unknowns = (namesA as).eraseDups ∧ r.diags = st1.diags ∧ r.parts = [] := by
  have R : PlainSetup T o fs fuel st1 := ⟨⟨hdefs, hextr, hinit⟩, hrepl, hunkn⟩
  have F := scanAll_grp T st1 (renderA as) 0 _ _ _ (OkSrc_of_atomsOk T st1 as 0 hok)
  have hcost := F.cost
  let st' := startState st1 (renderA as)
  obtain ⟨r, h, htx, hp, hpa, hu, hdg, _⟩ := R.of_run thresh F.ok rfl (F.seq.noCom.noBegin _)
    ((seqRun_grp T none ha _ _ (Nat.le_refl _) [] st' (.startState st1 _) F.seq).mono (Nat.zero_le 1)
      (Nat.le_refl _)) (Nat.le_refl _) (by omega)
    (fun t ht => by
      rcases mem_gErase _ _ t ht with ⟨p, rfl⟩ | ⟨h1, h2, h3⟩
      · exact simple_mkAction p
      · exact F.simple t h1 h2 h3)
  have hx : ∀ u, charsOf (flowsToks ({ st' with unknowns := u } : PState).extracted) = [] := fun _ => rfl
  rw [F.marks, hx, List.append_nil] at htx hp
  refine ⟨r, h, htx, hp, ?_, hdg, hpa⟩
  rw [hu, F.names]
  exact foldl_addU_nil _

/-- **C03 / C02 end to end.**  The document consists of inert text, undeclared control words and
    brace groups, nested arbitrarily (`DocOk`: all side conditions); `st1` is the state after
    `Parser.__init__`; no `--defs`, `--extr`, `--repl`, `--unkn`; single-language mode.  With one
    unit of fuel per source character and two more, `tex2txt` succeeds and

    * the output text with its (1-based) positions is `delLines (marks 0 doc)`: every text
      character, at any depth, with its own position; nothing for a brace or a control word; the
      white space behind a control word dropped (unless it holds two line breaks); and then every
      line deleted (with its line break) that consists of white space only and holds at least one
      brace or control word (`remove_pure_action_lines`);
    * `unknowns` = the control words, each once, in order of first occurrence;
    * no diagnostic is added. -/
theorem tex2txt_groups (T : PTables) (o : Options) (fs : FS) (thresh : Nat) (doc : List Item)
    (fuel : Nat) (st1 : PState)
    (hdefs : o.defs = []) (hextr : o.extr = []) (hrepl : o.hasRepl = false) (hunkn : o.unkn = false)
    (hinit : initParser T fuel o (initialState T o false fs) = .ok ((), st1))
    (hok : DocOk T st1 doc) (hf : (render doc).length + 2 ≤ fuel) :
    ∃ r, tex2txt T fuel (render doc) o false thresh fs = .ok r ∧
      r.txt = (delLines (marks 0 doc)).map (·.1) ∧
      r.pos = (delLines (marks 0 doc)).map (·.2 + 1) ∧
      r.unknowns = (names doc).eraseDups ∧ r.diags = st1.diags ∧ r.parts = [] := by
  rw [render_eq] at hf ⊢
  exact tex2txt_atoms T o fs thresh (atoms doc) fuel st1 hdefs hextr hrepl hunkn hinit hok.1 hok.2 hf

/-- the characters of the marks: the text with the braces, the control words and the white space
    skipped behind control words cut out -/
def plain (p : Nat) (d : List Item) : List (Char × Nat) := (marks p d).filterMap id

theorem getElem?_behind {c : Char} {p q : Nat} (a : Str) {R : Str}
    (h : p + a.length ≤ q ∧ R[q - (p + a.length)]? = some c) : p ≤ q ∧ (a ++ R)[q - p]? = some c := by
  refine ⟨by omega, ?_⟩
  rw [show q - p = a.length + (q - (p + a.length)) by omega,
    List.getElem?_append_right (Nat.le_add_right ..)]
  simpa using h.2

theorem marksA_src {c : Char} {q : Nat} : ∀ {as : List Atom} {p : Nat}, some (c, q) ∈ marksA p as →
    p ≤ q ∧ (renderA as)[q - p]? = some c
  | [], _, h => by simp [marksA] at h
  | .chr d :: r, p, h => by
    simp only [marksA, List.mem_cons, Option.some.injEq, Prod.mk.injEq] at h
    rcases h with ⟨rfl, rfl⟩ | h
    · simp [renderA, Atom.render]
    · exact getElem?_behind [d] (marksA_src h)
  | .opn :: r, p, h => by
    simp only [marksA, List.mem_cons, reduceCtorEq, false_or] at h
    exact getElem?_behind ['{'] (marksA_src h)
  | .cls :: r, p, h => by
    simp only [marksA, List.mem_cons, reduceCtorEq, false_or] at h
    exact getElem?_behind ['}'] (marksA_src h)
  | .cw name :: r, p, h => by
    simp only [marksA, List.mem_cons, reduceCtorEq, false_or] at h
    exact getElem?_behind ('\\' :: name) (marksA_src (mem_dropSp h))

theorem marksA_text {c : Char} {q : Nat} : ∀ {as : List Atom} {p : Nat}, some (c, q) ∈ marksA p as →
    Atom.chr c ∈ as
  | [], _, h => by simp [marksA] at h
  | .chr d :: r, p, h => by
    simp only [marksA, List.mem_cons, Option.some.injEq, Prod.mk.injEq] at h
    rcases h with ⟨rfl, rfl⟩ | h
    · simp
    · exact List.mem_cons_of_mem _ (marksA_text h)
  | .opn :: r, p, h => by
    simp only [marksA, List.mem_cons, reduceCtorEq, false_or] at h
    exact List.mem_cons_of_mem _ (marksA_text h)
  | .cls :: r, p, h => by
    simp only [marksA, List.mem_cons, reduceCtorEq, false_or] at h
    exact List.mem_cons_of_mem _ (marksA_text h)
  | .cw name :: r, p, h => by
    simp only [marksA, List.mem_cons, reduceCtorEq, false_or] at h
    exact List.mem_cons_of_mem _ (marksA_text (mem_dropSp h))

theorem atomsOk_chr {T : PTables} {st : PState} {c : Char} : ∀ {as : List Atom},
    atomsOk T st as = true → Atom.chr c ∈ as → isSpace c = true ∨ structuralChar c = false
  | [], _, h => by simp at h
  | .chr d :: r, hok, h => by
    simp only [atomsOk, Bool.and_eq_true] at hok
    simp only [List.mem_cons, Atom.chr.injEq] at h
    rcases h with rfl | h
    · rcases okAt_snd hok.1 with h | h
      · exact Or.inl h
      · exact Or.inr h.1
    · exact atomsOk_chr hok.2 h
  | .opn :: r, hok, h => by
    simp only [atomsOk, Bool.and_eq_true] at hok
    simp only [List.mem_cons, reduceCtorEq, false_or] at h
    exact atomsOk_chr hok.2 h
  | .cls :: r, hok, h => by
    simp only [atomsOk, Bool.and_eq_true] at hok
    simp only [List.mem_cons, reduceCtorEq, false_or] at h
    exact atomsOk_chr hok.2 h
  | .cw name :: r, hok, h => by
    simp only [atomsOk, Bool.and_eq_true] at hok
    simp only [List.mem_cons, reduceCtorEq, false_or] at h
    exact atomsOk_chr hok.2 h

theorem not_markup {c : Char} (h : isSpace c = true ∨ structuralChar c = false) :
    c ≠ '\\' ∧ c ≠ '{' ∧ c ≠ '}' := by
  have hs : structuralChar c = false := by
    rcases h with h | h
    · exact structuralChar_of_isSpace c h
    · exact h
  simp only [structuralChar, Bool.or_eq_false_iff, beq_eq_false_iff_ne] at hs
  obtain ⟨⟨⟨⟨⟨_, _⟩, h3⟩, _⟩, h5⟩, h6⟩ := hs
  exact ⟨h3, h5, h6⟩

theorem dropSp_sublist (ms : List Mark) : (dropSp ms).Sublist ms := by
  unfold dropSp
  split
  · exact List.dropWhile_sublist _
  · exact List.Sublist.refl _

theorem marksA_sorted : ∀ (as : List Atom) (p : Nat),
    (((marksA p as).filterMap id).map (·.2)).Pairwise (· < ·) ∧
    ∀ q ∈ ((marksA p as).filterMap id).map (·.2), p ≤ q
  | [], _ => by simp [marksA]
  | .chr c :: r, p => by
    obtain ⟨h1, h2⟩ := marksA_sorted r (p + 1)
    simp only [marksA, List.filterMap_cons, id, List.map_cons, List.pairwise_cons, List.mem_cons]
    refine ⟨⟨fun q hq => ?_, h1⟩, ?_⟩
    · have := h2 q hq; omega
    · rintro q (rfl | hq)
      · exact Nat.le_refl _
      · have := h2 q hq; omega
  | .opn :: r, p => by
    obtain ⟨h1, h2⟩ := marksA_sorted r (p + 1)
    simp only [marksA, List.filterMap_cons, id]
    exact ⟨h1, fun q hq => by have := h2 q hq; omega⟩
  | .cls :: r, p => by
    obtain ⟨h1, h2⟩ := marksA_sorted r (p + 1)
    simp only [marksA, List.filterMap_cons, id]
    exact ⟨h1, fun q hq => by have := h2 q hq; omega⟩
  | .cw name :: r, p => by
    obtain ⟨h1, h2⟩ := marksA_sorted r (p + (name.length + 1))
    have hs : (((dropSp (marksA (p + (name.length + 1)) r)).filterMap id).map (·.2)).Sublist
        (((marksA (p + (name.length + 1)) r).filterMap id).map (·.2)) :=
      ((dropSp_sublist _).filterMap id).map _
    simp only [marksA, List.filterMap_cons, id]
    exact ⟨h1.sublist hs, fun q hq => by have := h2 q (hs.subset hq); omega⟩

/-- the output positions (0-based) are strictly increasing: no character is used twice, the order
    of the source is kept -/
theorem delLines_sorted (as : List Atom) (p : Nat) :
    ((delLines (marksA p as)).map (·.2)).Pairwise (· < ·) :=
  (marksA_sorted as p).1.sublist ((PlainMix.delLines_sublist _).map _)

def tightA : List Atom → Bool
  | [] => true
  | .cw _ :: r => (renderA r).head?.all (fun d => !isSpace d) && tightA r
  | _ :: r => tightA r

def textA : Nat → List Atom → List (Char × Nat)
  | _, [] => []
  | p, .chr c :: r => (c, p) :: textA (p + 1) r
  | p, .opn :: r => textA (p + 1) r
  | p, .cls :: r => textA (p + 1) r
  | p, .cw name :: r => textA (p + (name.length + 1)) r

theorem marksA_noSp : ∀ (as : List Atom) (p : Nat), (renderA as).head?.all (fun d => !isSpace d) = true →
    NoSp (marksA p as)
  | [], _, _ => by intro m ms' e; simp [marksA] at e
  | .chr c :: r, p, h => by
    intro m ms' e
    simp only [marksA, List.cons.injEq] at e
    rw [← e.1]
    simpa [renderA, Atom.render, spMark] using h
  | .opn :: r, p, _ => by intro m ms' e; simp only [marksA, List.cons.injEq] at e; rw [← e.1]; rfl
  | .cls :: r, p, _ => by intro m ms' e; simp only [marksA, List.cons.injEq] at e; rw [← e.1]; rfl
  | .cw _ :: r, p, _ => by intro m ms' e; simp only [marksA, List.cons.injEq] at e; rw [← e.1]; rfl

theorem marksA_tight : ∀ (as : List Atom) (p : Nat), tightA as = true →
    (marksA p as).filterMap id = textA p as
  | [], _, _ => rfl
  | .chr c :: r, p, h => by
    simp only [tightA] at h
    simp [marksA, textA, marksA_tight r (p + 1) h]
  | .opn :: r, p, h => by
    simp only [tightA] at h
    simp [marksA, textA, marksA_tight r (p + 1) h]
  | .cls :: r, p, h => by
    simp only [tightA] at h
    simp [marksA, textA, marksA_tight r (p + 1) h]
  | .cw name :: r, p, h => by
    simp only [tightA, Bool.and_eq_true] at h
    simp [marksA, textA, dropSp_noSp (marksA_noSp r _ h.1), marksA_tight r _ h.2]

def tight (d : List Item) : Bool := tightA (atoms d)

def textOf (p : Nat) (d : List Item) : List (Char × Nat) := textA p (atoms d)

theorem plain_tight (d : List Item) (p : Nat) (h : tight d = true) : plain p d = textOf p d :=
  marksA_tight (atoms d) p h

/-! ### simpler sufficient conditions

  `atomsOk` is context dependent; the following conditions on the tables, the characters and the
  names imply it.  The only context that remains is the character behind a control word. -/

/-- the conditions on the tables: no special sequence is a backslash followed by a letter
    (`specialsNoCW` of Proofs/PlainUnknown.lean); `{` and `}` are always scanned as such
    (`braceKey` of Proofs/PlainMacro.lean) -/
def tablesOk (T : PTables) : Bool :=
  specialsNoCW T.toTables && braceKey T.toTables '{' && braceKey T.toTables '}'

/-- text of inert characters (`inertChar` of Proofs/Plain.lean), control words with good names
    (`cwNameOk` of Proofs/PlainUnknown.lean) and no letter directly behind a control word -/
def atomsOkSimple (T : PTables) (st : PState) : List Atom → Bool
  | [] => true
  | .chr c :: r => inertChar T st c && atomsOkSimple T st r
  | .opn :: r => atomsOkSimple T st r
  | .cls :: r => atomsOkSimple T st r
  | .cw name :: r =>
    cwNameOk T st name && (renderA r).head?.all (fun d => !macroChar d) && atomsOkSimple T st r

theorem atomsOk_of_simple (T : PTables) (st : PState) (ht : tablesOk T = true) :
    ∀ as : List Atom, atomsOkSimple T st as = true → atomsOk T st as = true
  | [], _ => rfl
  | .chr c :: r, h => by
    simp only [atomsOkSimple, Bool.and_eq_true] at h
    simp only [atomsOk, Bool.and_eq_true]
    exact ⟨okAt_of_inertChar T st c _ h.1, atomsOk_of_simple T st ht r h.2⟩
  | .opn :: r, h => by
    simp only [tablesOk, Bool.and_eq_true] at ht
    simp only [atomsOkSimple] at h
    simp only [atomsOk, Bool.and_eq_true]
    exact ⟨braceAt_of_key T '{' ht.1.2 _, atomsOk_of_simple T st (by simp [tablesOk, ht]) r h⟩
  | .cls :: r, h => by
    simp only [tablesOk, Bool.and_eq_true] at ht
    simp only [atomsOkSimple] at h
    simp only [atomsOk, Bool.and_eq_true]
    exact ⟨braceAt_of_key T '}' ht.2 _, atomsOk_of_simple T st (by simp [tablesOk, ht]) r h⟩
  | .cw name :: r, h => by
    have ht' := ht
    simp only [tablesOk, Bool.and_eq_true] at ht'
    simp only [atomsOkSimple, Bool.and_eq_true] at h
    simp only [atomsOk, Bool.and_eq_true]
    exact ⟨cwOk_of_name T st ht'.1.1 name _ h.1.1 h.1.2, atomsOk_of_simple T st ht r h.2⟩

def docOkSimple (T : PTables) (st : PState) (d : List Item) : Bool := atomsOkSimple T st (atoms d)

theorem docOk_of_simple (T : PTables) (st : PState) (ht : tablesOk T = true) (d : List Item)
    (h : docOkSimple T st d = true) : docOk T st d = true :=
  atomsOk_of_simple T st ht (atoms d) h

end PlainGroup
end Yalafi
