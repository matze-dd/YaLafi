/-
  Proofs/PlainDefs.lean — C09, last sentence: "the text extracted from the rest of the document is the
  same, with positions shifted by a constant, whether the definitions stand in the document or in the
  file given with --defs": the `--defs` route, end to end on the model, for the document class of
  Proofs/PlainMacroArgs.lean (inert text, definitions `\newcommand{\name}[n]{body}`, uses
  `\name{a1}…{am}`).  (The comparison with the in-document run is Proofs/PlainDefsCmp.lean.)

  What `Parser.parse` does with a definitions text `D` (model: `parse` in Model/Tex2txt.lean): it runs
  `parser_work` on `D`, keeps of the resulting tokens only the language tokens (`filter_set_toks(…, 0,
  True)`), and then runs `parser_work` on the document `X` IN THE STATE THE FIRST RUN LEFT BEHIND.  For
  a `D` of our class the first run leaves no language token, so nothing of `D` reaches the output; the
  state differs from the initialised state `st1` in the macro table (the definitions of `D`) and in the
  list of unknowns (names used in `D` before their definition; `parse` clears that list BEFORE the
  definitions are read, not after).

  Structure
    `envAfter`                  the definitions in force behind a document
    `emb`, `render_emb`, `segMarks_emb`, `segsOk_emb`, …   a document of the class is a document of the
                                class with `\def` (Proofs/PlainDefTex.lean), with the same source, reference
                                output and side conditions
    `tex2txt_defs_route`        `PlainDefTex.tex2txt_defs_route` at the embedded documents: the two runs of
                                `parserWork`, the second in the state the first left behind, are dealt
                                with there
    `tex2txt_newcommand_args`, `tex2txt_newcommand_args_kept`   no `--defs`: the class of
                                Proofs/PlainMacroArgs.lean end to end
    `segMarks_append`, `segUnknowns_append`, … the reference functions on `D ++ X`

  The end-to-end statement (`tex2txt_defs_route`): for `D X : List Seg`, `o.defs = render D`,
  `tex2txt T fuel (render X) o …` succeeds and
    text / 1-based positions  = `delLines (segMarks (envAfter [] D) 0 X)`: the output of the document `X`
                                read with the definitions of `D` in force, positions counted in `X`;
    unknowns                  = `(segUnknowns [] (D ++ X)).eraseDups`: exactly those of the run on `D ++ X`;
    diagnostics               = those of the initialisation.
  `D` may be ANY document of the class (text and uses in `D` are expanded and thrown away); the empty `D`
  is included (then `--defs` is absent).

  Side conditions (`DefsOk T st1 D X`, decidable): `noEmptyActive`, `ncOk` (see PlainMacroArgs);
  `segsOk T st1 D` (with NOTHING behind `D`) and `segsOk T st1 X`; `arityOk [] D` and
  `arityOk (envAfter [] D) X`; options: no --extr, --repl, --unkn, single-language mode;
  fuel: `|render D| + segInserted [] 0 D + 6 ≤ fuel` and `|render X| + segInserted (envAfter [] D) 0 X + 6 ≤ fuel`
  (the two `parser_work` runs use the same budget one after the other).

  NOT covered: everything PlainMacroArgs does not cover (optional first parameter, `\renewcommand`, `\def`,
  nested uses, …); definitions read with `\LTinput`; `--defs` together with `--extr`; multi-language mode
  (there the language tokens of `D` matter).
-/
import YalafiVerif.Proofs.PlainDefTex
namespace Yalafi
namespace PlainMacroArgs

open M
open PlainMacro (delLines ncOk)

/-! ### the definitions in force behind a document -/

/-- the environment behind the segments (latest definition first) -/
def envAfter : Env → List Seg → Env
  | env, [] => env
  | env, .txt _ :: rest => envAfter env rest
  | env, .defn name n body :: rest => envAfter ((name, n, body) :: env) rest
  | env, .use _ _ :: rest => envAfter env rest

/-! ### the class as part of the class with `\def` (Proofs/PlainDefTex.lean) -/

def emb : Seg → PlainDefTex.Seg
  | .txt s => .txt s
  | .defn name n body => .defn name n body
  | .use name args => .use name args

theorem render_emb : ∀ segs : List Seg, PlainDefTex.render (segs.map emb) = render segs
  | [] => rfl
  | s :: rest => by cases s <;> simp only [List.map, emb, PlainDefTex.render, render, render_emb rest] <;> rfl

theorem segMarks_emb : ∀ (segs : List Seg) (env : Env) (p : Nat),
    PlainDefTex.segMarks env p (segs.map emb) = segMarks env p segs
  | [], _, _ => rfl
  | s :: rest, env, p => by
    cases s <;> simp only [List.map, emb, PlainDefTex.segMarks, segMarks, segMarks_emb rest]

theorem segUnknowns_emb : ∀ (segs : List Seg) (env : Env),
    PlainDefTex.segUnknowns env (segs.map emb) = segUnknowns env segs
  | [], _ => rfl
  | s :: rest, env => by
    cases s <;> simp only [List.map, emb, PlainDefTex.segUnknowns, segUnknowns, segUnknowns_emb rest]

theorem segInserted_emb : ∀ (segs : List Seg) (env : Env) (p : Nat),
    PlainDefTex.segInserted env p (segs.map emb) = segInserted env p segs
  | [], _, _ => rfl
  | s :: rest, env, p => by
    cases s <;> simp only [List.map, emb, PlainDefTex.segInserted, segInserted, segInserted_emb rest]

theorem arityOk_emb : ∀ (segs : List Seg) (env : Env),
    PlainDefTex.arityOk env (segs.map emb) = arityOk env segs
  | [], _ => rfl
  | s :: rest, env => by
    cases s <;> simp only [List.map, emb, PlainDefTex.arityOk, arityOk, arityOk_emb rest]

theorem envAfter_emb : ∀ (segs : List Seg) (env : Env),
    PlainDefTex.envAfter env (segs.map emb) = envAfter env segs
  | [], _ => rfl
  | s :: rest, env => by
    cases s <;> simp only [List.map, emb, PlainDefTex.envAfter, envAfter, envAfter_emb rest]

theorem segsOk_emb (T : PTables) (st : PState) :
    ∀ segs : List Seg, PlainDefTex.segsOk T st (segs.map emb) = segsOk T st segs
  | [] => rfl
  | s :: rest => by
    cases s <;> simp only [List.map, emb, PlainDefTex.segsOk, segsOk, segsOk_emb T st rest, render_emb]

/-! ### the reference functions on `D ++ X` -/

theorem render_append : ∀ (A B : List Seg), render (A ++ B) = render A ++ render B
  | [], _ => rfl
  | s :: A, B => by simp only [List.cons_append, render, render_append A B, List.append_assoc]

theorem render_defn_length (name : Str) (n : Nat) (body : List BP) :
    (Seg.defn name n body).render.length = name.length + (bodyStr body).length + 19 := by
  simp only [Seg.render, List.length_cons, List.length_append, PlainMacro.ncName_eq, List.length_nil]
  simp; omega

theorem render_use_length (name : Str) (args : List Str) :
    (Seg.use name args).render.length = name.length + 1 + argsLen args := by
  simp only [Seg.render, List.length_cons, List.length_append, argsStr_length]; omega

theorem segMarks_append : ∀ (A B : List Seg) (env : Env) (p : Nat),
    segMarks env p (A ++ B) = segMarks env p A ++ segMarks (envAfter env A) (p + (render A).length) B
  | [], _, _, _ => by simp [segMarks, envAfter, render]
  | .txt s :: A, B, env, p => by
    simp only [List.cons_append, segMarks, envAfter, render, Seg.render, List.length_append,
      segMarks_append A B, List.append_assoc, Nat.add_assoc]
  | .defn name n body :: A, B, env, p => by
    have := render_defn_length name n body
    simp only [List.cons_append, segMarks, envAfter, render, List.length_append, this,
      segMarks_append A B, Nat.add_assoc]
  | .use name args :: A, B, env, p => by
    have := render_use_length name args
    simp only [List.cons_append, segMarks, envAfter, render, List.length_append, this,
      segMarks_append A B, List.append_assoc, Nat.add_assoc]

theorem segUnknowns_append : ∀ (A B : List Seg) (env : Env),
    segUnknowns env (A ++ B) = segUnknowns env A ++ segUnknowns (envAfter env A) B
  | [], _, _ => rfl
  | .txt s :: A, B, env => by simp only [List.cons_append, segUnknowns, envAfter, segUnknowns_append A B]
  | .defn name n body :: A, B, env => by
    simp only [List.cons_append, segUnknowns, envAfter, segUnknowns_append A B]
  | .use name args :: A, B, env => by
    simp only [List.cons_append, segUnknowns, envAfter, segUnknowns_append A B, List.append_assoc]

theorem arityOk_append : ∀ (A B : List Seg) (env : Env),
    arityOk env (A ++ B) = (arityOk env A && arityOk (envAfter env A) B)
  | [], _, _ => by simp [arityOk, envAfter]
  | .txt s :: A, B, env => by simp only [List.cons_append, arityOk, envAfter, arityOk_append A B]
  | .defn name n body :: A, B, env => by
    simp only [List.cons_append, arityOk, envAfter, arityOk_append A B]
  | .use name args :: A, B, env => by
    simp only [List.cons_append, arityOk, envAfter, arityOk_append A B, Bool.and_assoc]

theorem segInserted_append : ∀ (A B : List Seg) (env : Env) (p : Nat),
    segInserted env p (A ++ B)
      = segInserted env p A + segInserted (envAfter env A) (p + (render A).length) B
  | [], _, _, _ => by simp [segInserted, envAfter, render]
  | .txt s :: A, B, env, p => by
    simp only [List.cons_append, segInserted, envAfter, render, Seg.render, List.length_append,
      segInserted_append A B, Nat.add_assoc]
  | .defn name n body :: A, B, env, p => by
    have := render_defn_length name n body
    simp only [List.cons_append, segInserted, envAfter, render, List.length_append, this,
      segInserted_append A B, Nat.add_assoc]
  | .use name args :: A, B, env, p => by
    have := render_use_length name args
    simp only [List.cons_append, segInserted, envAfter, render, List.length_append, this,
      segInserted_append A B, Nat.add_assoc]

/-! ### the end-to-end theorem -/

/-- all side conditions on the tables, the initialised parser state, the definitions text `D` and the
    document `X` -/
def DefsOk (T : PTables) (st : PState) (D X : List Seg) : Prop :=
  noEmptyActive T st = true ∧ ncOk st = true ∧ segsOk T st D = true ∧ segsOk T st X = true ∧
  arityOk [] D = true ∧ arityOk (envAfter [] D) X = true

instance (T : PTables) (st : PState) (D X : List Seg) : Decidable (DefsOk T st D X) := by
  unfold DefsOk; infer_instance

/-- **C09, the `--defs` route.**  The document `X` is read with the definitions of the text `D` given
    as `--defs` in force; nothing of `D` reaches the output; positions are those in `X`. -/
theorem tex2txt_defs_route (T : PTables) (o : Options) (fs : FS) (thresh : Nat) (D X : List Seg)
    (fuel : Nat) (st1 : PState)
    (hdefs : o.defs = render D) (hextr : o.extr = []) (hrepl : o.hasRepl = false) (hunkn : o.unkn = false)
    (hinit : initParser T fuel o (initialState T o false fs) = .ok ((), st1))
    (hok : DefsOk T st1 D X)
    (hfD : (render D).length + segInserted [] 0 D + 6 ≤ fuel)
    (hfX : (render X).length + segInserted (envAfter [] D) 0 X + 6 ≤ fuel) :
    ∃ r, tex2txt T fuel (render X) o false thresh fs = .ok r ∧
      r.txt = (delLines (segMarks (envAfter [] D) 0 X)).map (·.1) ∧
      r.pos = (delLines (segMarks (envAfter [] D) 0 X)).map (·.2 + 1) ∧
      r.unknowns = (segUnknowns [] (D ++ X)).eraseDups ∧
      r.diags = st1.diags ∧ r.parts = [] := by
  obtain ⟨ha, hnc, hsD, hsX, harD, harX⟩ := hok
  have h := PlainDefTex.tex2txt_defs_route T o fs thresh (D.map emb) (X.map emb) fuel st1
    (by rw [render_emb]; exact hdefs) hextr hrepl hunkn hinit ha hnc
    (by rw [segsOk_emb]; exact hsD) (by rw [segsOk_emb]; exact hsX) (by rw [arityOk_emb]; exact harD)
    (by rw [envAfter_emb, arityOk_emb]; exact harX) (by rw [render_emb, segInserted_emb]; exact hfD)
    (by rw [render_emb, envAfter_emb, segInserted_emb]; exact hfX)
  rw [render_emb, envAfter_emb, segMarks_emb, ← List.map_append, segUnknowns_emb] at h
  exact h

/-- **C09 / C04 / C02 end to end, definitions with parameters**: no `--defs` -/
theorem tex2txt_newcommand_args (T : PTables) (o : Options) (fs : FS) (thresh : Nat) (segs : List Seg)
    (fuel : Nat) (st1 : PState)
    (hdefs : o.defs = []) (hextr : o.extr = []) (hrepl : o.hasRepl = false) (hunkn : o.unkn = false)
    (hinit : initParser T fuel o (initialState T o false fs) = .ok ((), st1))
    (hok : SegsOk T st1 segs) (hf : (render segs).length + segInserted [] 0 segs + 6 ≤ fuel) :
    ∃ r, tex2txt T fuel (render segs) o false thresh fs = .ok r ∧
      r.txt = (delLines (segMarks [] 0 segs)).map (·.1) ∧
      r.pos = (delLines (segMarks [] 0 segs)).map (·.2 + 1) ∧
      r.unknowns = (segUnknowns [] segs).eraseDups ∧
      r.diags = st1.diags ∧ r.parts = [] :=
  tex2txt_defs_route T o fs thresh [] segs fuel st1 hdefs hextr hrepl hunkn hinit
    ⟨hok.1, hok.2.1, rfl, hok.2.2.1, rfl, hok.2.2.2⟩ (Nat.le_trans (Nat.le_add_left _ _) hf) hf

/-- when no line is blank and marked (`linesKept`), the output is the expansion itself -/
theorem tex2txt_newcommand_args_kept (T : PTables) (o : Options) (fs : FS) (thresh : Nat) (segs : List Seg)
    (fuel : Nat) (st1 : PState)
    (hdefs : o.defs = []) (hextr : o.extr = []) (hrepl : o.hasRepl = false) (hunkn : o.unkn = false)
    (hinit : initParser T fuel o (initialState T o false fs) = .ok ((), st1))
    (hok : SegsOk T st1 segs) (hf : (render segs).length + segInserted [] 0 segs + 6 ≤ fuel)
    (hk : PlainMacro.linesKept true false (segMarks [] 0 segs) = true) :
    ∃ r, tex2txt T fuel (render segs) o false thresh fs = .ok r ∧
      r.txt = (expand [] 0 segs).map (·.1) ∧ r.pos = (expand [] 0 segs).map (·.2 + 1) ∧
      r.unknowns = (segUnknowns [] segs).eraseDups ∧ r.diags = st1.diags := by
  obtain ⟨r, h1, h2, h3, h4, h5, _⟩ := tex2txt_newcommand_args T o fs thresh segs fuel st1 hdefs hextr hrepl
    hunkn hinit hok hf
  rw [PlainMacro.delLines_kept _ hk, segMarks_chars] at h2 h3
  exact ⟨r, h1, h2, h3, h4, h5⟩

end PlainMacroArgs
end Yalafi
