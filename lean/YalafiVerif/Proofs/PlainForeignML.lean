/-
  Proofs/PlainForeignML.lean — the multi-language splitter `get_txt_pos_ml` (`utils.py`) on the
  token lists that documents of inert text and insertions `\foreignlanguage{name}{text}` produce.
  (First half of the END-TO-END theorem C12 for `\foreignlanguage`; the expander half and the file
  header with all side conditions are in Proofs/PlainForeign.lean.)

  The section loop of `get_txt_pos_ml` is read on the level of items (characters with positions,
  language tokens: `secsItems` of Proofs/MLSections.lean); `docItems` are the items of a document
  after the blank-line removal, which deletes nothing (Proofs/PlainForeign.lean).
-/
import YalafiVerif.Proofs.PlainLang
import YalafiVerif.Proofs.PlainLangCor
namespace Yalafi
namespace PlainForeign

open LinesLang (Item Mark ch isLg tokItems itemsOf delLines marksOf)
open PlainMacro (tokChars tokChars_fst)
open PlainLang (codeOfName langOf addPart groupSecs groupParts_fold shiftParts tokChars_snd)

/-- a segment of the source: a run of text, or an insertion `\foreignlanguage{name}{body}` -/
inductive Seg where
  | txt (s : Str)
  | frn (name body : Str)
deriving Repr, DecidableEq

def frnName : Str := "foreignlanguage".toList

def Seg.render : Seg → Str
  | .txt s => s
  | .frn name body => '\\' :: (frnName ++ '{' :: (name ++ '}' :: '{' :: (body ++ ['}'])))

def render : List Seg → Str
  | [] => []
  | s :: rest => s.render ++ render rest

/-- offset of the first character of `body` in `\foreignlanguage{name}{body}` -/
def bodyOff (name : Str) : Nat := name.length + 19
/-- length of `\foreignlanguage{name}{body}` -/
def frnLen (name body : Str) : Nat := name.length + body.length + 20

/-- the language token `h_foreignlanguage` puts in front of the text -/
def openTok (T : PTables) (p : Nat) (code : Str) : Tok := mkLang p code false false T.foreignBrk
/-- the language token `h_foreignlanguage` puts behind the text -/
def backTok (p : Nat) : Tok := mkLang p [] true false false

/-- the items of a document that starts at position `p`: every text character with its (0-based)
    source position; an insertion contributes its opening language token, the characters of its
    text, and the token that switches back (position: the last scanner token of the text) -/
def docItems (T : PTables) : Nat → List Seg → List Item
  | _, [] => []
  | p, .txt s :: rest => ch (posText p s) ++ docItems T (p + s.length) rest
  | p, .frn n b :: rest =>
    .inr (openTok T p (codeOfName T n)) :: (ch (posText (p + bodyOff n) b) ++
      .inr (backTok (p + bodyOff n + PlainFootnote.lastTokOff b)) :: docItems T (p + frnLen n b) rest)

/-- the sections of a document: `back` = the current run of main-language text follows an
    insertion, `acc` = its characters so far -/
def refSecs (T : PTables) (main : Str) : Nat → Bool → List (Char × Nat) → List Seg → List Sec
  | _, back, acc, [] => emitSec main back false acc
  | p, back, acc, .txt s :: rest => refSecs T main (p + s.length) back (acc ++ posText p s) rest
  | p, back, acc, .frn n b :: rest =>
    emitSec main back false acc ++
      mkSec (codeOfName T n) false T.foreignBrk (posText (p + bodyOff n) b) ::
        refSecs T main (p + frnLen n b) true [] rest

def frnsOk (T : PTables) (main : Str) : List Seg → Bool
  | [] => true
  | .txt _ :: rest => frnsOk T main rest
  | .frn n b :: rest => (codeOfName T n != main) && !b.isEmpty && frnsOk T main rest

theorem secsItems_doc (T : PTables) (main : Str) : ∀ (segs : List Seg) (p : Nat) (back : Bool)
    (acc : List (Char × Nat)), frnsOk T main segs = true →
    secsItems [main] back false acc (docItems T p segs) = refSecs T main p back acc segs
  | [], _, _, _, _ => rfl
  | .txt s :: rest, p, back, acc, h => by
    simp only [docItems, refSecs, secsItems_ch]
    exact secsItems_doc T main rest _ back _ h
  | .frn n b :: rest, p, back, acc, h => by
    simp only [frnsOk, Bool.and_eq_true, bne_iff_ne, ne_eq, Bool.not_eq_true',
      List.isEmpty_eq_false_iff] at h
    obtain ⟨⟨hc, hb⟩, hrest⟩ := h
    have hne : (codeOfName T n == main) = false := by simpa using hc
    have hne' : (main == codeOfName T n) = false := by
      simpa using (fun e : main = codeOfName T n => hc e.symm)
    have hbe : (posText (p + bodyOff n) b).isEmpty = false := by
      cases b with
      | nil => exact absurd rfl hb
      | cons c cs => rfl
    simp only [docItems, refSecs, secsItems, openTok, backTok, mkLang, stepStack, stackTop,
      List.headD_cons, hne, Bool.false_eq_true, if_false, secsItems_ch, List.nil_append, if_true,
      List.length_cons, List.length_nil, List.tail_cons, hne',
      show (1 : Nat) + 1 > 1 by omega, Nat.zero_add, Nat.reduceAdd, Nat.reduceLT, gt_iff_lt]
    rw [secsItems_doc T main rest _ true [] hrest]
    simp [emitSec, hbe]

/-- what `ml_append_placeholder` appends to the surrounding section for the insertion `b` that
    starts at position `q`: the placeholder `r0`, every character of it at the position of the first
    visible character of `b`; in front of it the first character of `b` if that is white space,
    behind it the last one if that is white space (issue 117), at their own positions -/
def placeholder (r0 : Str) (q : Nat) (b : Str) : List (Char × Nat) :=
  (match b.head? with | some c0 => if isSpace c0 then [(c0, q)] else [] | none => []) ++
  r0.map (fun c => (c, q + idxOf (fun c => !isSpace c) b)) ++
  (match b.getLast? with | some cl => if isSpace cl then [(cl, q + (b.length - 1))] else [] | none => [])

theorem not_blank_any (b : Str) (h : isBlank b = false) : b.any (fun c => !isSpace c) = true := by
  unfold isBlank at h
  induction b with
  | nil => simp at h
  | cons c cs ih =>
    simp only [List.all_cons, Bool.and_eq_false_iff] at h
    simp only [List.any_cons, Bool.or_eq_true, Bool.not_eq_true']
    rcases h with h | h
    · exact Or.inl h
    · exact Or.inr (by simpa using ih h)

theorem lcGet_lcSet (lc : LangChange) (k : Str) (v w : List Str) (h : lcGet lc k = some w) :
    lcGet (lcSet lc k v) k = some v := by
  induction lc with
  | nil => simp [lcGet] at h
  | cons e lc ih =>
    unfold lcGet lcSet at *
    by_cases he : (e.1 == k) = true
    · rw [List.map_cons, if_pos he, List.find?_cons_of_pos (by simp)]
      rfl
    · simp only [List.map_cons, he, Bool.false_eq_true, if_false]
      rw [List.find?_cons_of_neg (by simpa using he)] at h ⊢
      exact ih h

theorem range'_getElem? (q n i : Nat) (h : i < n) : (List.range' q n)[i]? = some (q + i) := by
  rw [List.getElem?_eq_getElem (by simpa using h)]
  simp

theorem range'_getLast? (q n : Nat) (h : 0 < n) : (List.range' q n).getLast? = some (q + (n - 1)) := by
  rw [List.getLast?_eq_getElem?]
  simp only [List.length_range']
  rw [range'_getElem? q n (n - 1) (by omega)]

theorem appendPlaceholder_eq (lc : LangChange) (lang code : Str) (back brk fb : Bool)
    (acc : List (Char × Nat)) (q : Nat) (b : Str) (repl : List Str)
    (hb : isBlank b = false)
    (hl : lcGet lc (checkParserLang (lc.map (·.1)) lang) = some repl) (hr : repl ≠ []) :
    appendPlaceholder lc (mkSec lang back brk acc) (mkSec code false fb (posText q b))
      = some (mkSec lang back brk (acc ++ placeholder ((rotate repl).headD []) q b),
              lcSet lc (checkParserLang (lc.map (·.1)) lang) (rotate repl)) := by
  obtain ⟨r0, rt, hrot⟩ : ∃ r0 rt, rotate repl = r0 :: rt := by
    cases h : rotate repl with
    | nil => exact absurd h (rotate_ne_nil repl hr)
    | cons a t => exact ⟨a, t, rfl⟩
  have hlt := idxOf_lt_of_any (fun c => !isSpace c) b (not_blank_any b hb)
  obtain ⟨c0, cs, rfl⟩ : ∃ c0 cs, b = c0 :: cs := by
    cases b with
    | nil => simp [isBlank] at hb
    | cons c cs => exact ⟨c, cs, rfl⟩
  obtain ⟨cl, hcl⟩ := Call.getLast?_of_ne (List.cons_ne_nil c0 cs)
  have hrep : (List.map ((fun x => x.2) ∘ fun c => (c, q + idxOf (fun c => !isSpace c) (c0 :: cs))) r0)
      = List.replicate r0.length (q + idxOf (fun c => !isSpace c) (c0 :: cs)) := by
    rw [List.eq_replicate_iff]; simp
  have hfst : (List.map ((fun x => x.1) ∘ fun c => (c, q + idxOf (fun c => !isSpace c) (c0 :: cs))) r0)
      = r0 := by
    simp [Function.comp_def]
  unfold appendPlaceholder
  simp only [mkSec, posText_fst, posText_snd, hb, Bool.false_eq_true, if_false, hl, hrot,
    List.head?_cons, range'_getElem? q _ _ hlt, hcl, range'_getLast? q (c0 :: cs).length (by simp)]
  simp only [List.length_cons, List.range'_succ, List.head?_cons, placeholder, List.headD_cons,
    hcl, List.map_append, List.map_map, hrep, hfst]
  cases isSpace c0 <;> cases isSpace cl <;> simp

/-- `ml_check_lang_section`: the insertion has at most `thresh` words (`len(txt.split()) <= thresh`) -/
def isShort (thresh : Nat) (b : Str) : Bool := decide ((splitWs b).length ≤ thresh)

def emitP (main : Str) (acc : List (Char × Nat)) : List (Str × List (Char × Nat)) :=
  if acc.isEmpty then [] else [(main, acc)]

/-- **the pieces of text `get_txt_pos_ml` produces for a document**, in the order in which they
    are produced, each with its language code and its characters with their (0-based) positions.
    `repl` = the language-change collection of the main language in its current rotation,
    `acc` = the current piece of the main language.
    * text is appended to the current piece;
    * a SHORT insertion (at most `thresh` words) behind a non-empty piece of main-language text:
      the insertion is a piece of its own under its language code; the collection is rotated by
      one and its new head is appended to the current piece as placeholder (`placeholder`); the
      current piece CONTINUES behind the insertion;
    * any other insertion (more than `thresh` words, or no main-language text in front of it, i.e.
      at the very beginning): the current piece ends in front of it, the insertion is a piece of
      its own, a new piece of the main language starts behind it. -/
def refOut (T : PTables) (main : Str) (thresh : Nat) :
    Nat → List Str → List (Char × Nat) → List Seg → List (Str × List (Char × Nat))
  | _, _, acc, [] => emitP main acc
  | p, repl, acc, .txt s :: rest => refOut T main thresh (p + s.length) repl (acc ++ posText p s) rest
  | p, repl, acc, .frn n b :: rest =>
    if isShort thresh b && !acc.isEmpty then
      (codeOfName T n, posText (p + bodyOff n) b) ::
        refOut T main thresh (p + frnLen n b) (rotate repl)
          (acc ++ placeholder ((rotate repl).headD []) (p + bodyOff n) b) rest
    else
      emitP main acc ++ (codeOfName T n, posText (p + bodyOff n) b) ::
        refOut T main thresh (p + frnLen n b) repl [] rest

def proj (s : Sec) : Str × Str × List Nat := (s.lang, s.txt, s.pos)
def projP (x : Str × List (Char × Nat)) : Str × Str × List Nat := (x.1, x.2.map (·.1), x.2.map (·.2))

theorem proj_mkSec (l : Str) (back brk : Bool) (acc : List (Char × Nat)) :
    proj (mkSec l back brk acc) = projP (l, acc) := rfl

theorem emitSec_proj (l : Str) (back brk : Bool) (acc : List (Char × Nat)) :
    (emitSec l back brk acc).map proj = (emitP l acc).map projP := by
  unfold emitSec emitP
  split <;> rfl

def behindOk : List Seg → Bool
  | [] => true
  | .txt s :: _ => !s.isEmpty
  | .frn _ _ :: _ => false

def sepOk : List Seg → Bool
  | [] => true
  | .txt _ :: rest => sepOk rest
  | .frn _ _ :: rest => behindOk rest && sepOk rest

/-- the sections of a document whose current run of main-language text is not empty: the first
    section is this run, extended by the text up to the next insertion -/
theorem refSecs_head (T : PTables) (main : Str) : ∀ (segs : List Seg) (p : Nat),
    ∃ l tl, ∀ (back : Bool) (acc : List (Char × Nat)), acc ≠ [] →
      refSecs T main p back acc segs = mkSec main back false (acc ++ l) :: tl
  | [], p => ⟨[], [], by
      intro back acc h
      have : acc.isEmpty = false := by simpa using h
      simp [refSecs, emitSec, this]⟩
  | .txt s :: rest, p => by
    obtain ⟨l, tl, h⟩ := refSecs_head T main rest (p + s.length)
    refine ⟨posText p s ++ l, tl, ?_⟩
    intro back acc hacc
    simp only [refSecs]
    rw [h back (acc ++ posText p s) (by simp [hacc]), List.append_assoc]
  | .frn n b :: rest, p => ⟨[], mkSec (codeOfName T n) false T.foreignBrk (posText (p + bodyOff n) b) ::
        refSecs T main (p + frnLen n b) true [] rest, by
      intro back acc h
      have : acc.isEmpty = false := by simpa using h
      simp only [refSecs, emitSec, this, Bool.false_eq_true, if_false, List.append_nil,
        List.singleton_append]⟩

theorem joinLoop_skip (thresh fuel : Nat) (lc : LangChange) (s0 : Sec) (R out : List Sec)
    (h : ∀ s ∈ R.head?, s.back = true) :
    joinLoop thresh (fuel + 1) lc (s0 :: R) out = joinLoop thresh fuel lc R (out ++ [s0]) := by
  cases R with
  | nil => simp only [joinLoop]
  | cons s1 rest2 =>
    have h1 : s1.back = true := h s1 (by simp)
    simp only [joinLoop, h1, Bool.not_true, Bool.and_false, Bool.false_and, Bool.false_eq_true,
      if_false]

theorem refSecs_behind (T : PTables) (main : Str) (p : Nat) (rest : List Seg)
    (h : behindOk rest = true) :
    ∀ s ∈ (refSecs T main p true [] rest).head?, s.back = true := by
  intro s hs
  cases rest with
  | nil => simp [refSecs, emitSec] at hs
  | cons sg rest' =>
    cases sg with
    | frn n b => simp [behindOk] at h
    | txt t =>
      have ht : t ≠ [] := by simpa [behindOk] using h
      obtain ⟨l, tl, hh⟩ := refSecs_head T main rest' (p + t.length)
      have hne : posText p t ≠ [] := by
        cases t with
        | nil => exact absurd rfl ht
        | cons c cs => simp [posText]
      simp only [refSecs, List.nil_append] at hs
      rw [hh true _ hne] at hs
      simp only [List.head?_cons, Option.mem_def, Option.some.injEq] at hs
      rw [← hs]; rfl

theorem sepOk_tail {sg : Seg} {rest : List Seg} (h : sepOk (sg :: rest) = true) : sepOk rest = true := by
  cases sg with
  | txt s => exact h
  | frn n b =>
    simp only [sepOk, Bool.and_eq_true] at h
    exact h.2

/-- **the joining loop on the sections of a document.**  `lc` = the language-change collections,
    `repl` = the one of (the settings of) the main language, not empty. -/
theorem joinLoop_doc (T : PTables) (main : Str) (thresh : Nat) (hfb : T.foreignBrk = false) :
    ∀ (segs : List Seg) (p : Nat) (back : Bool) (acc : List (Char × Nat)) (repl : List Str)
      (lc : LangChange) (out : List Sec) (fuel : Nat),
      sepOk segs = true → frnsOk T main segs = true →
      (∀ n b, Seg.frn n b ∈ segs → isBlank b = false) →
      lcGet lc (checkParserLang (lc.map (·.1)) main) = some repl → repl ≠ [] →
      (refSecs T main p back acc segs).length ≤ fuel →
      ∃ res lc', joinLoop thresh fuel lc (refSecs T main p back acc segs) out = some (out ++ res, lc') ∧
        res.map proj = (refOut T main thresh p repl acc segs).map projP
  | [], p, back, acc, repl, lc, out, fuel, _, _, _, _, _, hf => by
    simp only [refSecs, refOut] at hf ⊢
    by_cases ha : acc.isEmpty = true
    · refine ⟨[], lc, ?_, by simp [emitP, ha]⟩
      simp only [emitSec, ha, if_true]
      cases fuel <;> simp [joinLoop]
    · have ha' : acc.isEmpty = false := by simpa using ha
      simp only [emitSec, ha', Bool.false_eq_true, if_false, List.length_singleton] at hf ⊢
      obtain ⟨f, rfl⟩ : ∃ f, fuel = f + 1 := ⟨fuel - 1, by omega⟩
      refine ⟨[mkSec main back false acc], lc, ?_, by simp [emitP, ha', proj_mkSec]⟩
      simp only [joinLoop]
  | .txt s :: rest, p, back, acc, repl, lc, out, fuel, hsep, hfr, hbl, hl, hr, hf => by
    simp only [refSecs, refOut] at hf ⊢
    exact joinLoop_doc T main thresh hfb rest _ back _ repl lc out fuel (sepOk_tail hsep) hfr
      (fun n b hm => hbl n b (List.mem_cons_of_mem _ hm)) hl hr hf
  | .frn n b :: rest, p, back, acc, repl, lc, out, fuel, hsep, hfr, hbl, hl, hr, hf => by
    have hsep' := sepOk_tail hsep
    have hbeh : behindOk rest = true := by
      simp only [sepOk, Bool.and_eq_true] at hsep
      exact hsep.1
    have hfr' : frnsOk T main rest = true := by
      simp only [frnsOk, Bool.and_eq_true] at hfr
      exact hfr.2
    have hbl' : ∀ n b, Seg.frn n b ∈ rest → isBlank b = false :=
      fun n b hm => hbl n b (List.mem_cons_of_mem _ hm)
    have hblank : isBlank b = false := hbl n b (List.mem_cons_self ..)
    have hskip := refSecs_behind T main (p + frnLen n b) rest hbeh
    generalize hF : mkSec (codeOfName T n) false T.foreignBrk (posText (p + bodyOff n) b) = F at *
    have hFp : proj F = projP (codeOfName T n, posText (p + bodyOff n) b) := by rw [← hF]; rfl
    by_cases ha : acc.isEmpty = true
    · -- no text of the main language in front of the insertion
      have hacc : acc = [] := by simpa using ha
      subst hacc
      simp only [refSecs, refOut, emitSec, emitP, List.isEmpty_nil, if_true, List.nil_append,
        Bool.not_true, Bool.and_false, Bool.false_eq_true, if_false, hF, List.length_cons] at hf ⊢
      obtain ⟨f, rfl⟩ : ∃ f, fuel = f + 1 := ⟨fuel - 1, by omega⟩
      rw [joinLoop_skip thresh f lc F _ out hskip]
      obtain ⟨res, lc', h1, h2⟩ := joinLoop_doc T main thresh hfb rest (p + frnLen n b) true [] repl lc
        (out ++ [F]) f hsep' hfr' hbl' hl hr (by omega)
      refine ⟨F :: res, lc', ?_, ?_⟩
      · rw [h1]; simp
      · simp [h2, hFp]
    · have ha' : acc.isEmpty = false := by simpa using ha
      have hane : acc ≠ [] := by simpa using ha
      by_cases hshort : isShort thresh b = true
      · -- a short insertion: placeholder, the section continues
        have hFb : F.brk = false := by rw [← hF]; exact hfb
        have hFk : F.back = false := by rw [← hF]; rfl
        have hchk : checkLangSection thresh F = true := by
          rw [← hF]
          simpa [checkLangSection, mkSec, posText_fst, isShort] using hshort
        have hph := appendPlaceholder_eq lc main (codeOfName T n) back false T.foreignBrk acc
          (p + bodyOff n) b repl hblank hl hr
        rw [hF] at hph
        have hl' := lcGet_lcSet lc (checkParserLang (lc.map (·.1)) main) (rotate repl) repl hl
        have hkeys := lcSet_keys lc (checkParserLang (lc.map (·.1)) main) (rotate repl)
        simp only [refSecs, refOut, emitSec, ha', hshort, Bool.false_eq_true, if_false, Bool.not_false,
          Bool.and_self, if_true, hF, List.singleton_append, List.length_cons] at hf ⊢
        obtain ⟨f, rfl⟩ : ∃ f, fuel = f + 1 := ⟨fuel - 1, by omega⟩
        cases rest with
        | nil =>
          simp only [refSecs, emitSec, List.isEmpty_nil, if_true]
          simp only [joinLoop, hFb, hFk, hchk, Bool.not_false, Bool.and_self, if_true, hph]
          obtain ⟨res, lc', h1, h2⟩ := joinLoop_doc T main thresh hfb [] (p + frnLen n b) back
            (acc ++ placeholder ((rotate repl).headD []) (p + bodyOff n) b) (rotate repl)
            (lcSet lc (checkParserLang (lc.map (·.1)) main) (rotate repl)) (out ++ [F]) f rfl rfl
            (by intro n b hm; cases hm) (by rw [hkeys]; exact hl') (rotate_ne_nil repl hr)
            (by simp only [refSecs, emitSec] at hf ⊢
                split <;> simp <;> omega)
          have hne2 : (acc ++ placeholder ((rotate repl).headD []) (p + bodyOff n) b).isEmpty = false := by
            simp [hane]
          simp only [refSecs, emitSec, hne2, Bool.false_eq_true, if_false] at h1
          refine ⟨F :: res, lc', ?_, ?_⟩
          · rw [h1]; simp
          · simp [h2, hFp]
        | cons sg rest' =>
          cases sg with
          | frn n2 b2 => simp [behindOk] at hbeh
          | txt t =>
            have ht : t ≠ [] := by simpa [behindOk] using hbeh
            have htne : posText (p + frnLen n b) t ≠ [] := by
              cases t with
              | nil => exact absurd rfl ht
              | cons c cs => simp [posText]
            obtain ⟨l, tl, hh⟩ := refSecs_head T main rest' (p + frnLen n b + t.length)
            have e1 := hh true (posText (p + frnLen n b) t) htne
            have e2 := hh back (acc ++ placeholder ((rotate repl).headD []) (p + bodyOff n) b
              ++ posText (p + frnLen n b) t) (by simp [hane])
            obtain ⟨res, lc', h1, h2⟩ := joinLoop_doc T main thresh hfb (.txt t :: rest')
              (p + frnLen n b) back
              (acc ++ placeholder ((rotate repl).headD []) (p + bodyOff n) b) (rotate repl)
              (lcSet lc (checkParserLang (lc.map (·.1)) main) (rotate repl)) (out ++ [F]) f hsep' hfr'
              hbl' (by rw [hkeys]; exact hl') (rotate_ne_nil repl hr)
              (by simp only [refSecs, List.nil_append] at hf ⊢
                  rw [e1] at hf; rw [e2]
                  simp only [List.length_cons] at hf ⊢; omega)
            simp only [refSecs, List.nil_append] at h1 ⊢
            rw [e2] at h1
            rw [e1]
            have hlang : (mkSec main back false acc).lang == (mkSec main true false
                (posText (p + frnLen n b) t ++ l)).lang := by simp [mkSec]
            simp only [joinLoop, hFb, hFk, hchk, hlang, Bool.not_false, Bool.and_self, if_true, hph]
            have hsec : ({ mkSec main back false (acc ++ placeholder ((rotate repl).headD []) (p + bodyOff n) b)
                  with txt := (mkSec main back false (acc ++ placeholder ((rotate repl).headD [])
                          (p + bodyOff n) b)).txt ++ (mkSec main true false (posText (p + frnLen n b) t ++ l)).txt,
                       pos := (mkSec main back false (acc ++ placeholder ((rotate repl).headD [])
                          (p + bodyOff n) b)).pos ++ (mkSec main true false (posText (p + frnLen n b) t ++ l)).pos } : Sec)
                = mkSec main back false (acc ++ placeholder ((rotate repl).headD []) (p + bodyOff n) b
                    ++ posText (p + frnLen n b) t ++ l) := by
              simp [mkSec]
            rw [hsec, h1]
            refine ⟨F :: res, lc', by simp, ?_⟩
            simp [h2, hFp]
      · -- a long insertion: the section ends
        have hshort' : isShort thresh b = false := by simpa using hshort
        have hchk : checkLangSection thresh F = false := by
          rw [← hF]
          simpa [checkLangSection, mkSec, posText_fst, isShort] using hshort'
        simp only [refSecs, refOut, emitSec, emitP, ha', hshort', Bool.false_eq_true, if_false,
          Bool.false_and, hF, List.singleton_append, List.length_cons] at hf ⊢
        obtain ⟨f, rfl⟩ : ∃ f, fuel = f + 2 := ⟨fuel - 2, by omega⟩
        have hstep : joinLoop thresh (f + 2) lc
              (mkSec main back false acc :: F :: refSecs T main (p + frnLen n b) true [] rest) out
            = joinLoop thresh (f + 1) lc (F :: refSecs T main (p + frnLen n b) true [] rest)
                (out ++ [mkSec main back false acc]) := by
          simp only [joinLoop, hchk, Bool.and_false, Bool.false_eq_true, if_false]
        rw [hstep, joinLoop_skip thresh f lc F _ _ hskip]
        obtain ⟨res, lc', h1, h2⟩ := joinLoop_doc T main thresh hfb rest (p + frnLen n b) true [] repl lc
          (out ++ [mkSec main back false acc] ++ [F]) f hsep' hfr' hbl' hl hr (by omega)
        refine ⟨mkSec main back false acc :: F :: res, lc', ?_, ?_⟩
        · rw [h1]; simp
        · simp [h2, hFp, proj_mkSec]

/-- a piece as a section (the flags are not read behind this point) -/
def toSec (x : Str × List (Char × Nat)) : Sec := mkSec x.1 false false x.2

theorem groupSecs_proj (l : List Sec) :
    groupSecs l = (l.map proj).foldl (fun ps x => addPart ps x.1 x.2) [] := by
  unfold groupSecs
  rw [List.foldl_map]
  rfl

theorem groupSecs_congr (l1 l2 : List Sec) (h : l1.map proj = l2.map proj) :
    groupSecs l1 = groupSecs l2 := by
  rw [groupSecs_proj, groupSecs_proj, h]

/-- the language-change collection `ml_append_placeholder` uses for sections of the language
    `main`: the one of the settings `check_parser_lang(main)` -/
def mainRepl (lc : LangChange) (main : Str) : List Str :=
  (lcGet lc (checkParserLang (lc.map (·.1)) main)).getD []

/-- **the expected `parts`**: the pieces of `refOut`, grouped by language code (codes in the order
    of their first piece, the pieces of one code in the order of `refOut`, NOT merged), positions
    1-based -/
def refParts (T : PTables) (main : Str) (thresh : Nat) (repl : List Str) (segs : List Seg) : Parts :=
  shiftParts (groupSecs ((refOut T main thresh 0 repl [] segs).map toSec))

def bodiesOk : List Seg → Bool
  | [] => true
  | .txt _ :: rest => bodiesOk rest
  | .frn _ b :: rest => !isBlank b && bodiesOk rest

theorem bodiesOk_mem : ∀ (segs : List Seg), bodiesOk segs = true →
    ∀ n b, Seg.frn n b ∈ segs → isBlank b = false
  | [], _, _, _, hm => by cases hm
  | .txt _ :: rest, h, n, b, hm => by
    rcases List.mem_cons.mp hm with e | hm
    · cases e
    · exact bodiesOk_mem rest h n b hm
  | .frn _ _ :: rest, h, n, b, hm => by
    simp only [bodiesOk, Bool.and_eq_true, Bool.not_eq_true'] at h
    rcases List.mem_cons.mp hm with e | hm
    · cases e; exact h.1
    · exact bodiesOk_mem rest h.2 n b hm

theorem getTxtPosML_doc (T : PTables) (main : Str) (thresh : Nat) (lc : LangChange) (segs : List Seg)
    (toks : List Tok) (hfb : T.foreignBrk = false)
    (hitems : itemsOf toks = docItems T 0 segs)
    (hsep : sepOk segs = true) (hfr : frnsOk T main segs = true) (hbo : bodiesOk segs = true)
    (hr : mainRepl lc main ≠ []) :
    ∃ lc', getTxtPosML toks main thresh lc
      = some (groupSecs ((refOut T main thresh 0 (mainRepl lc main) [] segs).map toSec), lc') := by
  have hl : lcGet lc (checkParserLang (lc.map (·.1)) main) = some (mainRepl lc main) := by
    unfold mainRepl at hr ⊢
    cases h : lcGet lc (checkParserLang (lc.map (·.1)) main) with
    | none => rw [h] at hr; exact absurd rfl hr
    | some v => rfl
  have hsecs : sections toks main = refSecs T main 0 false [] segs := by
    rw [sections_secsItems, hitems, secsItems_doc T main segs 0 false [] hfr]
  obtain ⟨res, lc', h1, h2⟩ := joinLoop_doc T main thresh hfb segs 0 false [] (mainRepl lc main) lc []
    (refSecs T main 0 false [] segs).length hsep hfr (bodiesOk_mem segs hbo) hl hr (Nat.le_refl _)
  refine ⟨lc', ?_⟩
  unfold getTxtPosML
  simp only [hsecs, h1, List.nil_append, groupParts_fold]
  have : groupSecs res = groupSecs ((refOut T main thresh 0 (mainRepl lc main) [] segs).map toSec) := by
    apply groupSecs_congr
    rw [h2, List.map_map]
    rfl
  rw [← this]
  rfl

end PlainForeign
end Yalafi
