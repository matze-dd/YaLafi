/-
  Proofs/PlainMix3Scan.lean — the scan of a source of the third union grammar, definitions: the
  structural relation `Link T st ps items` between the pieces of the token buffer and the items of
  the source (`IsFix`: a stateless piece), and `ScanFacts`: what the scanner loop yields (the pieces,
  their static conditions `PiecesOk T st ps`, the link; the text of the first token, and what the
  source starts with if the first token is white space or a comment).  Header with the end-to-end
  statement and all side conditions: Proofs/PlainMix3E2E.lean.
-/
import YalafiVerif.Proofs.PlainMix3Src
namespace Yalafi
namespace PlainMix3

open PlainMacro
open PlainMix (droppable dropComToks)
open PlainFootnote (flowToks)
open PlainMacroArgs (BP Group BodyLink normBody GroupsLink)
open PlainMathRich (MT mt)
open PlainUnkn2 (mcost)


/-- a stateless piece of `len` source characters with the marks `ms`: what it emits and costs does
    not depend on the state -/
structure IsFix (T : PTables) (pc : Piece) (ms : List Mark) (len : Nat) : Prop where
  out : ∃ h : List Tok, (∀ st l rest, outP T st l (pc :: rest) = h ++ outP T st l rest) ∧
          marksOf h = ms ∧ (∀ t ∈ h, Simple t)
  next : ∀ st, nextSt st pc = st
  live : ∀ st, liveHead T st pc
  cost : ∃ c, (∀ st rest, cost st (pc :: rest) = c + cost st rest) ∧ c ≤ len
  names : ∀ st rest, names st (pc :: rest) = names (nextSt st pc) rest
  flows : ∀ rest, flowsOf (pc :: rest) = flowsOf rest
  nmath : ∀ rest, nMath (pc :: rest) = nMath rest
  ndisp : ∀ rest, nDisp (pc :: rest) = nDisp rest

inductive Link (T : PTables) (st1 : PState) : List Piece → List Item → Prop
  | nil : Link T st1 [] []
  | tok (t : Tok) (ps : List Piece) (items : List Item) :
      t.fix = false → Shape t → Link T st1 ps items → Link T st1 (.tok t :: ps) (chrItems t.pos t.txt ++ items)
  | fix (pc : Piece) (ms : List Mark) (len : Nat) (ps : List Piece) (items : List Item) :
      IsFix T pc ms len → Link T st1 ps items → Link T st1 (pc :: ps) (.fix ms len :: items)
  | cw (p : Nat) (name : Str) (sk : List Tok) (len : Nat) (ps : List Piece) (items : List Item) :
      2 ≤ len → Link T st1 ps items → Link T st1 (.cw p name sk :: ps) (.cw name len :: items)
  | math (d1 : Tok) (b : List Tok) (d2 : Tok) (m : List MT) (len : Nat) (ps : List Piece)
      (items : List Item) :
      b.flatMap (mt T) = m → mcost b + 2 ≤ len → Link T st1 ps items →
      Link T st1 (.math d1 b d2 :: ps) (.math m len :: items)
  | foot (fn lb : Tok) (b : List Tok) (rb : Tok) (fl : List (Char × Nat)) (len : Nat)
      (ps : List Piece) (items : List Item) :
      charsOf (flowToks b) = fl → b.length + 6 ≤ len → Link T st1 ps items →
      Link T st1 (.foot fn lb b rb :: ps) (.foot fl len :: items)
  | defn (p q1 q2 q3 q4 q5 q6 q7 q8 : Nat) (name : Str) (n : Nat) (body : List BP) (btoks : List Tok)
      (ps : List Piece) (items : List Item) :
      BodyLink btoks (normBody body) → Link T st1 ps items →
      Link T st1 (.defn p q1 q2 q3 q4 q5 q6 q7 q8 name n btoks :: ps) (.defn p name n body :: items)
  | use (p : Nat) (name : Str) (args : List Str) (gs : List Group) (ps : List Piece)
      (items : List Item) :
      name ≠ [] → GroupsLink (p + name.length + 1) gs args → Link T st1 ps items →
      Link T st1 (.use p name gs :: ps) (.use p name args :: items)
  | disp (ops : List Str) (d1 : Tok) (b : List Tok) (d2 : Tok) (ms : Str → List Mark) (len : Nat)
      (ps : List Piece) (items : List Item) :
      (∀ ph, marksOf (PlainDisplay.dispOut T ph d1.pos (PlainDisplay.elemPos T ops b)
          (PlainMath.firstPos (PlainMath.mathToks b)) (PlainMath.bodyTxt (PlainMath.mathToks b))) = ms ph) →
      b.length + 3 ≤ len → Link T st1 ps items →
      Link T st1 (.disp ops d1 b d2 :: ps) (.disp ms len :: items)
  | denv (ops : List Str) (p q1 q2 : Nat) (nt b : List Tok) (p' q1' q2' : Nat) (nt' : List Tok)
      (ms : Str → List Mark) (len : Nat) (ps : List Piece) (items : List Item) :
      (∀ ph, marksOf (mkAction p :: mkAction p ::
          PlainDisplay.dispOut T ph p (PlainDisplay.elemPos T ops b)
            (PlainMath.firstPos (PlainMath.mathToks b)) (PlainMath.bodyTxt (PlainMath.mathToks b))) = ms ph) →
      b.length + nt.length + nt'.length + 11 ≤ len → Link T st1 ps items →
      Link T st1 (.denv ops p q1 q2 nt b p' q1' q2' nt' :: ps) (.disp ms len :: items)
  | beg (p q1 q2 : Nat) (name : Str) (nt : List Tok) (ps : List Piece) (items : List Item) :
      bodyTxt nt = name → nt.length ≤ name.length → Link T st1 ps items →
      Link T st1 (.beg p q1 q2 nt :: ps)
        (.stk (fun _ => PlainItem.envMarks (PlainItem.envOf st1 name) p ++ [none])
          (fun stk => PlainItem.begStk st1 stk name) (fun _ => true) (name.length + 8) :: items)
  | item (p : Nat) (sp : List Tok) (len : Nat) (ps : List Piece) (items : List Item) :
      5 ≤ len → Link T st1 ps items →
      Link T st1 (.item p sp :: ps)
        (.stk (itemMarks T p) PlainItem.itemStk (fun stk => PlainItem.labelAt T st1 stk) len :: items)
  | en (p q1 q2 : Nat) (name : Str) (nt : List Tok) (ps : List Piece) (items : List Item) :
      bodyTxt nt = name → nt.length ≤ name.length → Link T st1 ps items →
      Link T st1 (.en p q1 q2 nt :: ps)
        (.stk (fun _ => PlainItem.envMarks (PlainItem.envOf st1 name) p) PlainItem.endStk (fun _ => true)
          (name.length + 6) :: items)


structure ScanFacts (T : PTables) (st : PState) (rest : Str) (items : List Item)
    (steps : List ScanStep) : Prop where
  ok : ∀ s ∈ steps, s.diag = none ∧ s.extra = []
  pieces : ∃ ps, steps.map (·.tok) = flat ps ∧ PiecesOk T st ps ∧ Link T st ps items
  first : ∀ s ss, steps = s :: ss → s.tok.txt = firstTokTxtV T.toTables rest
  firstK : ∀ t ts, dropComToks (steps.map (·.tok)) = t :: ts → droppable t = true →
    ∃ c cs, rest = c :: cs ∧ isSpace c = true ∧ countNl (rest.takeWhile isSpace) < 2
  firstC : ∀ s ss, steps = s :: ss → s.tok.kind = .comment → ∃ ds, rest = '%' :: ds

end PlainMix3
end Yalafi
