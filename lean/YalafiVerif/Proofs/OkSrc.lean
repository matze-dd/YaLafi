/-
  Proofs/OkSrc.lean — the well-formed sources of the document classes, as ONE predicate.

  `OkSrcG okAt chr Nil Con p W a`: the source `W` at position `p` is a sequence of inert text characters and
  constructs, and means `a`.  A class supplies the test `okAt` of a text character, what a character adds
  to the meaning (`chr`; `chrs` for a text), the meanings of the empty source (`Nil`) and a NON-RECURSIVE
  relation `Con p W a p' R a'` with one constructor per construct: `W` at `p` starts with a construct behind
  which `R` at `p'` remains, and if `R` means `a'` then `W` means `a`.  Indices that a construct changes (an
  environment of definitions, a stack) are components of the meaning.  `ConVis`: a construct begins with a
  visible character; `OkSrcG.text`, `OkSrcG.drop_space`, `OkSrcG.len` need no more of it.
  `scanAll_okSrc` is the induction of a class's scanner lemma over `OkSrcG`, on top of `scanAll_of_runs`: the
  class says what the run of a construct does to its statement `F`, and what ONE token of a text character
  does (`TextTok`: the facts about that token that do not depend on the class).  `OkSrcG.scans_chr` is its text
  case alone, for a class whose statement also needs the well-formedness of the source behind the token.
-/
import YalafiVerif.Proofs.Plain
namespace Yalafi

open PlainMacro (TextStep passTok_steps)

/-- the test of a text character that all classes use; `ftt`: the text of the first token of a source, as
    the class computes it (`firstTokTxt`, `firstTokTxtM`, …).  A class's own `okAt…` is this function at its `ftt`
    by unfolding, which is why the hypothesis `hok` of `scanAll_okSrc` is met by `fun _ _ h => h` -/
def okAtG (T : PTables) (st : PState) (ftt : Str → Str) (c : Char) (cs : Str) : Bool :=
  (!(activeChars T st).contains [c] ||
    (!isSpace c && (cs.isEmpty || !(shortKeys T st).contains (c :: ftt cs)))) &&
  (isSpace c || (!structuralChar c && (matchSpecial T.toTables (c :: cs)).isNone))

def textOkG (okAt : Char → Str → Bool) : Str → Str → Bool
  | [], _ => true
  | c :: cs, R => okAt c (cs ++ R) && textOkG okAt cs R

def chrs {α : Type} (chr : Char → Nat → α → α) : Nat → Str → α → α
  | _, [], a => a
  | p, c :: cs, a => chr c p (chrs chr (p + 1) cs a)

inductive OkSrcG {α : Type} (okAt : Char → Str → Bool) (chr : Char → Nat → α → α) (Nil : α → Prop)
    (Con : Nat → Str → α → Nat → Str → α → Prop) : Nat → Str → α → Prop
  | nil (p : Nat) (a : α) : Nil a → OkSrcG okAt chr Nil Con p [] a
  | chr (p : Nat) (c : Char) (cs : Str) (a : α) :
      okAt c cs = true → OkSrcG okAt chr Nil Con (p + 1) cs a → OkSrcG okAt chr Nil Con p (c :: cs) (chr c p a)
  | con {p : Nat} {W : Str} {a : α} {p' : Nat} {R : Str} {a' : α} :
      Con p W a p' R a' → OkSrcG okAt chr Nil Con p' R a' → OkSrcG okAt chr Nil Con p W a

def ConVis {α : Type} (Con : Nat → Str → α → Nat → Str → α → Prop) : Prop :=
  ∀ p W a p' R a', Con p W a p' R a' → ∃ c cs, W = c :: cs ∧ isSpace c = false

namespace OkSrcG

variable {α : Type} {okAt : Char → Str → Bool} {chr : Char → Nat → α → α} {Nil : α → Prop}
  {Con : Nat → Str → α → Nat → Str → α → Prop}

theorem text (R : Str) (a : α) : ∀ (s : Str) (p : Nat), OkSrcG okAt chr Nil Con (p + s.length) R a →
    textOkG okAt s R = true → OkSrcG okAt chr Nil Con p (s ++ R) (chrs chr p s a)
  | [], _, hR, _ => hR
  | c :: cs, p, hR, h => by
    simp only [textOkG, Bool.and_eq_true] at h
    refine .chr p c (cs ++ R) _ h.1 (text R a cs (p + 1) ?_ h.2)
    rwa [Nat.add_assoc, Nat.add_comm 1]

theorem drop_space (hvis : ConVis Con) : ∀ (k p : Nat) (s : Str) (a : α), k ≤ s.length →
    OkSrcG okAt chr Nil Con p s a → (∀ x ∈ s.take k, isSpace x = true) →
    ∃ a', a = chrs chr p (s.take k) a' ∧ OkSrcG okAt chr Nil Con (p + k) (s.drop k) a'
  | 0, _, _, a, _, h, _ => ⟨a, rfl, h⟩
  | k + 1, _, [], _, hk, _, _ => by simp at hk
  | k + 1, p, c :: cs, _, hk, h, hsp => by
    have hc : isSpace c = true := hsp c (by simp)
    cases h with
    | chr _ _ _ a0 _ h2 =>
      obtain ⟨a', e, h3⟩ := drop_space hvis k (p + 1) cs a0 (by simpa using hk) h2
        (fun x hx => hsp x (by simp [hx]))
      refine ⟨a', by rw [e]; rfl, ?_⟩
      rwa [show p + (k + 1) = p + 1 + k by omega]
    | con hd _ =>
      obtain ⟨d, ds, e, hv⟩ := hvis _ _ _ _ _ _ hd
      cases e
      rw [hv] at hc; cases hc

/-- a measure of the meaning that counts the characters of the source -/
theorem len (m : α → Nat) (hnil : ∀ a, Nil a → m a = 0) (hchr : ∀ c p a, m (chr c p a) = m a + 1)
    (hcon : ∀ p W a p' R a', Con p W a p' R a' → m a + R.length = m a' + W.length) {p : Nat} {W : Str} {a : α}
    (h : OkSrcG okAt chr Nil Con p W a) : m a = W.length := by
  induction h with
  | nil _ _ h => exact hnil _ h
  | chr _ _ _ _ _ _ ih => rw [hchr, ih]; rfl
  | con hd _ ih => have := hcon _ _ _ _ _ _ hd; omega

end OkSrcG

theorem headTok_of_append {ss rs : List ScanStep} {toks : List Tok} {t0 : Tok} {ts0 : List Tok}
    (htoks : ss.map (·.tok) = toks) (hhd : toks = t0 :: ts0) {s : ScanStep} {ss' : List ScanStep}
    (he : ss ++ rs = s :: ss') : s.tok = t0 := by
  subst hhd
  cases ss with
  | nil => cases htoks
  | cons s0 ss0 => rw [← (List.cons.inj he).1]; exact (List.cons.inj htoks).1

/-- the token `s` of the scanner on the text character `c` in front of `cs`, before the steps `rs`: what
    a class's scanner lemma uses of it -/
structure TextTok (T : PTables) (st : PState) (ftt : Str → Str) (src : Str) (p : Nat) (c : Char) (cs : Str)
    (s : ScanStep) (rs : List ScanStep) : Prop where
  eq : nextToken T.toTables src p (c :: cs) = s
  step : PlainStep p (c :: cs) s
  one : isSpace c = false → s.len = 1 ∧ s.tok.kind = .text
  white : isSpace c = true → s.tok.kind = .space ∨ s.tok.kind = .par
  shape : TextStep c cs s
  run : Scans T.toTables src p (c :: cs) [s] (p + s.len) ((c :: cs).drop s.len)
  pass : PassTok T st s.tok (rs.map (·.tok))
  first : s.tok.txt = ftt (c :: cs)
  len : ((c :: cs).drop s.len).length + 1 ≤ (c :: cs).length

/-- the scanner on a text character at the head of a well-formed source: ONE token (a run of white space is
    one token), behind which the source is well formed again; `rs` are the steps behind it -/
theorem OkSrcG.scans_chr {α : Type} (T : PTables) (st : PState) (ftt : Str → Str) (src : Str)
    {okAt : Char → Str → Bool} {chr : Char → Nat → α → α} {Nil : α → Prop}
    {Con : Nat → Str → α → Nat → Str → α → Prop}
    (hok : ∀ c cs, okAt c cs = true → okAtG T st ftt c cs = true)
    (hftt : ∀ c cs, isSpace c = true ∨ (structuralChar c = false ∧ matchSpecial T.toTables (c :: cs) = none) →
      ftt (c :: cs) = firstTokTxt (c :: cs))
    (hvis : ConVis Con) {p : Nat} {c : Char} {cs : Str} {a0 : α} (hat : okAt c cs = true)
    (hsub0 : OkSrcG okAt chr Nil Con (p + 1) cs a0) :
    ∃ s a1, chr c p a0 = chrs chr p ((c :: cs).take s.len) a1 ∧
      OkSrcG okAt chr Nil Con (p + s.len) ((c :: cs).drop s.len) a1 ∧
      Scans T.toTables src p (c :: cs) [s] (p + s.len) ((c :: cs).drop s.len) ∧
      ∀ rs, ((c :: cs).drop s.len = [] → rs = []) →
        (∀ s2 ss, rs = s2 :: ss → s2.tok.txt = ftt ((c :: cs).drop s.len)) → TextTok T st ftt src p c cs s rs := by
  have hat' := Bool.and_eq_true_iff.mp (hok c cs hat)
  have hsnd := textChar_cases hat'.2
  obtain ⟨s, hs, hp, hone, hwhite, X, r⟩ := Scans.text T src p c cs hsnd
  obtain ⟨a1, ha1, hsub⟩ : ∃ a1, chr c p a0 = chrs chr p ((c :: cs).take s.len) a1 ∧
      OkSrcG okAt chr Nil Con (p + s.len) ((c :: cs).drop s.len) a1 := by
    by_cases hsp : isSpace c = true
    · exact OkSrcG.drop_space hvis s.len p (c :: cs) _ hp.len_le (.chr p c cs a0 hat hsub0) (X.blank hsp)
    · rw [(hone (by simpa using hsp)).1]
      exact ⟨a0, rfl, hsub0⟩
  refine ⟨s, a1, ha1, hsub, r, fun rs hnil hfirst => ⟨hs, hp, hone, hwhite, X, r, ?_, ?_, ?_⟩⟩
  · exact passTok_steps T st X (fun h => (hone h).1) ftt (activeChar_cases hat'.1) rs hfirst hnil
  · rw [hp.first, hftt c cs hsnd]
  · have := hp.len_le
    have := hp.len_pos
    simp only [List.length_drop, List.length_cons] at this ⊢
    omega

/-- **The scanner lemma of a class**, as far as it does not depend on the class.  `F W a ss`: what the class
    says of the steps `ss` of the loop on the source `W` that means `a`; it must tell the text of the first
    token (`hfirst`: a text character in front of it may form a short macro with it). -/
theorem scanAll_okSrc {α : Type} (T : PTables) (st : PState) (ftt : Str → Str) (src : Str)
    {okAt : Char → Str → Bool} {chr : Char → Nat → α → α} {Nil : α → Prop}
    {Con : Nat → Str → α → Nat → Str → α → Prop} (F : Str → α → List ScanStep → Prop)
    (hok : ∀ c cs, okAt c cs = true → okAtG T st ftt c cs = true)
    (hftt : ∀ c cs, isSpace c = true ∨ (structuralChar c = false ∧ matchSpecial T.toTables (c :: cs) = none) →
      ftt (c :: cs) = firstTokTxt (c :: cs))
    (hvis : ConVis Con)
    (hfirst : ∀ W a ss, F W a ss → ∀ s ss', ss = s :: ss' → s.tok.txt = ftt W)
    (hnil : ∀ a, Nil a → F [] a [])
    (htext : ∀ p c cs s rs a, TextTok T st ftt src p c cs s rs → F ((c :: cs).drop s.len) a rs →
      F (c :: cs) (chrs chr p ((c :: cs).take s.len) a) (s :: rs))
    (hcon : ∀ p W a p' R a', Con p W a p' R a' → ∃ ss, ss ≠ [] ∧ Scans T.toTables src p W ss p' R ∧
      ∀ rs, (R = [] → rs = []) → F R a' rs → F W a (ss ++ rs)) :
    ∀ (p : Nat) (W : Str) (a : α), OkSrcG okAt chr Nil Con p W a →
      F W a (scanAll T.toTables src p W).1 := by
  refine scanAll_of_runs T.toTables src (OkSrcG okAt chr Nil Con) F (fun p a h => ?_) ?_
  · cases h with
    | nil _ _ h => exact hnil a h
    | con hd _ => obtain ⟨_, _, e, _⟩ := hvis _ _ _ _ _ _ hd; cases e
  intro p c cs a h
  cases h with
  | chr _ _ _ a0 hat hsub0 =>
    obtain ⟨s, a1, ha1, hsub, r, K⟩ := OkSrcG.scans_chr T st ftt src hok hftt hvis hat hsub0
    refine ⟨[s], _, _, a1, by simp, r, hsub, fun rs hnil' I => ?_⟩
    rw [ha1]
    exact htext p c cs s rs a1 (K rs hnil' (hfirst _ _ _ I)) I
  | con hd hsub =>
    obtain ⟨ss, hne, r, hF⟩ := hcon _ _ _ _ _ _ hd
    exact ⟨ss, _, _, _, hne, r, hsub, hF⟩

end Yalafi
