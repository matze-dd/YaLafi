/-
  Proofs/PlainSpecial.lean — C06, second half, end to end on the model:
  "special character sequences follow the table".

  For a text made of inert characters and special sequences the filter returns exactly what
  the table-driven reference `refSpecial` says: at every offset the longest key of
  `special_tokens` that matches is replaced by its value, the replacement is mapped to the
  position where the sequence starts, everything else is copied with its own position.

  Spec level (independent of the scanner: no `specialSorted`, no `matchSpecial`)
    `longestKey T s`        the longest key of the dictionary that is a prefix of `s`
    `refSpecial T s i`      the reference output (text, 0-based positions) for `s` at offset `i`
    `plainSpecialKey T k`   the keys that reach the `.special` branch of `expandSequence`
    `specText T st s`       the class of texts: every offset is the start of a `plainSpecialKey`
                            match, or an inert character at which nothing matches
    `linesOK T s`           no line consists only of white space and special sequences with blank
                            values (such a line is deleted by `remove_pure_action_lines`)
  Results
    `longestKey_eq_matchSpecial`  the scanner's `matchSpecial` is the longest match (from `WFScan`)
    `refSpecial_nil/_key/_char`   the defining equations of the reference
    `removeLines_safe_id`         `removeLines` drops nothing but empty tokens if the line automaton
                                  `lineRun` accepts the work list (token level; the general tool)
    `LineSim`, `lineSim_ws/_txt/_action_text`, `removeLines_of_lineRun`, `removeLines_of_source`
                                  a token list moves `lineRun` like an automaton on the source
                                  (`LineSim`: shared with Proofs/PlainVerb.lean; `removeLines_of_lineRun`:
                                  for a class that follows `lineRun` token by token)
    `LineTo P Q ts`, `LAny`, `LOk`, `LVis` (end of the file)   a token list in `lineRun` as a triple: from
                                  a state with `P` to one with `Q`; `.append`, one rule per kind of
                                  token, `.removeLines` (the maths classes)
    `tex2txt_special_text`        `tex2txt`: the complete result record
    `tex2txt_special`             `tex2txt`: text and positions are `refSpecial`, no unknowns, no
                                  new diagnostics

  Side conditions of the end-to-end theorems
    `hwf : T.toTables.WFScan`     `specialSorted` has the keys of the dictionary, longest first,
                                  none empty — makes the scanner's first match the longest match
    `hnl : no value contains a line break`   a value with a line break would itself start / end
                                  lines in `remove_pure_action_lines` (true for the real table)
    `specText T st1 src`          the class (depends on `st1` only through the language stack)
    `linesOK T src`               see above; without it the line is deleted (examples in `SpecialExample`)
    options / fuel                as in `tex2txt_plain_text`: no --defs, --extr, --repl, --unkn,
                                  single-language mode, `src.length + 2 ≤ fuel`
-/
import YalafiVerif.Proofs.Plain
namespace Yalafi

open M

/-! ### the specification -/

/-- the longest key of the dictionary `special_tokens` that is a prefix of `s`
    (the first key that matches and is at least as long as every key that matches) -/
def longestKey (T : Tables) (s : Str) : Option Str :=
  let ks := (T.special.map (·.1)).filter (fun k => startsWith s k)
  ks.find? (fun k => ks.all (fun k' => k'.length ≤ k.length))

/-- the value of a key that matched (a key of the dictionary always has one) -/
def specialValD (T : Tables) (k : Str) : Str := (T.specialVal k).getD []

/-- reference: left-to-right longest match.  `skip` counts the characters of a matched key that
    are still to be passed over.  At offset `i` a matched key `k` with value `v` contributes `v`
    with the positions `i, i+1, …` (one per character of `v`) and the next `k.length` characters
    are consumed; any other character is copied with its own position. -/
def refSpecialA (T : Tables) : Nat → Str → Nat → Str × List Nat
  | _, [], _ => ([], [])
  | skip + 1, _ :: cs, i => refSpecialA T skip cs (i + 1)
  | 0, c :: cs, i =>
    match longestKey T (c :: cs) with
    | some k =>
      let r := refSpecialA T (k.length - 1) cs (i + 1)
      (specialValD T k ++ r.1, List.range' i (specialValD T k).length ++ r.2)
    | none =>
      let r := refSpecialA T 0 cs (i + 1)
      (c :: r.1, i :: r.2)

def refSpecial (T : Tables) (s : Str) (i : Nat) : Str × List Nat := refSpecialA T 0 s i

/-- the token texts on which `expandSequence` dispatches before it looks at the token class -/
def dispatchedTexts : List Str := ["$", "\\(", "$$", "\\[", "\\\\", "{", "}"].map String.toList

/-- the keys that become a SpecialToken in the scanner (they do not start with white space,
    `%` or `#`, which `next_token` tests first) and reach the `.special` branch of
    `expandSequence` (the token text is none of `$ \( $$ \[ \\ { }`), where they have a value -/
def plainSpecialKey (T : Tables) (k : Str) : Bool :=
  (match k with | [] => false | c :: _ => !isSpace c && c != '%' && c != '#') &&
  !dispatchedTexts.contains k && (T.specialVal k).isSome

/-- the text of the first scanner token of a text of the class: a run of white space, a matched
    key, or one character -/
def nextTokTxt (T : Tables) : Str → Str
  | [] => []
  | d :: ds =>
    if isSpace d then (d :: ds).takeWhile isSpace
    else match longestKey T (d :: ds) with
      | some k => k
      | none => [d]

/-- `c` followed by `cs` is copied (no key matches here):
    * it is white space or no structural character (`% # \ $ { }`), and
    * it is not an active character of the current language settings, or it is no white space
      and does not form a short macro with the token behind it (or nothing is behind it) -/
def copyAt (T : PTables) (st : PState) (c : Char) (cs : Str) : Bool :=
  (isSpace c || !structuralChar c) &&
  (!(activeChars T st).contains [c] ||
    (!isSpace c && (cs.isEmpty || !(shortKeys T st).contains (c :: nextTokTxt T.toTables cs))))

/-- the class of texts: at every offset that is not inside a matched key, the longest matching
    key is a `plainSpecialKey`, or nothing matches and the character is copied -/
def specTextA (T : PTables) (st : PState) : Nat → Str → Bool
  | _, [] => true
  | skip + 1, _ :: cs => specTextA T st skip cs
  | 0, c :: cs =>
    match longestKey T.toTables (c :: cs) with
    | some k => plainSpecialKey T.toTables k && specTextA T st (k.length - 1) cs
    | none => copyAt T st c cs && specTextA T st 0 cs

def specText (T : PTables) (st : PState) (s : Str) : Bool := specTextA T st 0 s

/-- the line automaton on the source.  State `some a`: the current line consists of white space
    and special sequences with blank value so far, `a` = there was such a sequence; `none`: the
    line has a visible character.  Result `none`: a line break or the end was reached in state
    `some true` — that line would be deleted. -/
def lineStateA (T : Tables) : Nat → Option Bool → Str → Option (Option Bool)
  | _, s, [] => some s
  | skip + 1, s, _ :: cs => lineStateA T skip s cs
  | 0, s, c :: cs =>
    match longestKey T (c :: cs) with
    | some k =>
      lineStateA T (k.length - 1)
        (if isBlank (specialValD T k) then s.map (fun _ => true) else none) cs
    | none =>
      if c == nl then (if s == some true then none else lineStateA T 0 (some false) cs)
      else if isSpace c then lineStateA T 0 s cs
      else lineStateA T 0 none cs

/-- no line of `src` (maximal run without line break) consists only of white space and of
    special sequences whose value is blank, with at least one such sequence -/
def linesOK (T : Tables) (src : Str) : Bool :=
  match lineStateA T 0 (some false) src with
  | some s => s != some true
  | none => false

theorem startsWith_eq_of_length (s a b : Str) (ha : startsWith s a = true)
    (hb : startsWith s b = true) (hl : a.length = b.length) : a = b := by
  have h1 := (ScannerAux.startsWith_spec s a ha).2
  have h2 := (ScannerAux.startsWith_spec s b hb).2
  rw [← h1, ← h2, hl]

theorem longestKey_eq_matchSpecial (T : Tables) (h : T.WFScan) (s : Str) :
    longestKey T s = matchSpecial T s := by
  cases hm : matchSpecial T s with
  | none =>
    have hn := matchSpecial_none T h s hm
    have : (T.special.map (·.1)).filter (fun k => startsWith s k) = [] := by
      rw [List.filter_eq_nil_iff]
      intro k hk
      simp [hn k hk]
    simp only [longestKey, this, List.find?_nil]
  | some t =>
    obtain ⟨hp, hk, hmax⟩ := matchSpecial_longest T h s t hm
    unfold longestKey
    simp only []
    generalize hks : (T.special.map (·.1)).filter (fun k => startsWith s k) = ks
    have hmem : ∀ k, k ∈ ks ↔ k ∈ T.special.map (·.1) ∧ startsWith s k = true := by
      intro k; rw [← hks, List.mem_filter]
    have ht : t ∈ ks := (hmem t).mpr ⟨hk, hp⟩
    have hPt : ks.all (fun k' => decide (k'.length ≤ t.length)) = true := by
      rw [List.all_eq_true]
      intro k' hk'
      have := (hmem k').mp hk'
      simpa using hmax k' this.1 this.2
    cases hf : ks.find? (fun k => ks.all (fun k' => decide (k'.length ≤ k.length))) with
    | none =>
      have := List.find?_eq_none.mp hf t ht
      rw [hPt] at this
      exact absurd rfl this
    | some t' =>
      have h1 := List.find?_some hf
      have h2 := (hmem t').mp (List.mem_of_find?_eq_some hf)
      have h3 : t.length ≤ t'.length := by
        have := (List.all_eq_true.mp h1) t ht
        simpa using this
      have h4 := hmax t' h2.1 h2.2
      rw [startsWith_eq_of_length s t' t h2.2 hp (by omega)]

/-! ### `expandSequence` on plain and special tokens -/

/-- what `expandSequence` emits for one scanner token of the class: a SpecialToken becomes an
    Action token and a text token with the table value, at the position of the sequence -/
def expTok (T : Tables) (t : Tok) : List Tok :=
  if t.kind == .special then
    [mkAction t.pos, { kind := .text, pos := t.pos, txt := specialValD T t.txt, fix := t.fix }]
  else [t]

def SpecialTok (T : Tables) (t : Tok) : Prop :=
  t.kind = .special ∧ plainSpecialKey T t.txt = true

def PSSeq (T : PTables) (st : PState) : List Tok → Prop
  | [] => True
  | t :: rest => ((PlainTok t ∧ PassTok T st t rest) ∨ SpecialTok T.toTables t) ∧ PSSeq T st rest

theorem PSSeq.notComment {T : PTables} {st : PState} : ∀ {toks : List Tok}, PSSeq T st toks →
    ∀ t ∈ toks, t.kind ≠ .comment
  | [], _, _, h => nomatch h
  | _ :: _, hs, x, hx => by
    rcases List.mem_cons.mp hx with rfl | hx
    · rcases hs.1 with ⟨h1, _⟩ | h
      · exact h1.notComment
      · rw [h.1]; simp
    · exact PSSeq.notComment hs.2 x hx

theorem expTok_plain (T : Tables) (t : Tok) (h : PlainTok t) : expTok T t = [t] := by
  unfold expTok
  rcases h.kind with hk | hk | hk <;> simp [hk]

theorem txtIs_false_of_not_dispatched (t : Tok)
    (h : dispatchedTexts.contains t.txt = false) :
    txtIs t "$" = false ∧ txtIs t "\\(" = false ∧ txtIs t "$$" = false ∧ txtIs t "\\[" = false ∧
    txtIs t "\\\\" = false ∧ txtIs t "{" = false ∧ txtIs t "}" = false := by
  have hn : ∀ s ∈ dispatchedTexts, (t.txt == s) = false := by
    intro s hs
    cases hb : t.txt == s with
    | false => rfl
    | true =>
      have : dispatchedTexts.contains t.txt = true := by
        rw [List.contains_iff_mem]
        rw [beq_iff_eq] at hb
        rw [hb]; exact hs
      rw [h] at this; cases this
  unfold txtIs
  refine ⟨hn _ ?_, hn _ ?_, hn _ ?_, hn _ ?_, hn _ ?_, hn _ ?_, hn _ ?_⟩ <;> decide

theorem seqRun_specialTok {T : PTables} {tok : Tok} {rest : Buf} {envStop : Option Str} {out : List Tok}
    {st : PState} (h : SpecialTok T.toTables tok) :
    SeqRun T envStop 0 1 (tok :: rest) out st rest (out ++ expTok T.toTables tok) st := by
  obtain ⟨hk, hp⟩ := h
  simp only [plainSpecialKey, Bool.and_eq_true, Bool.not_eq_true'] at hp
  obtain ⟨v, hv⟩ := Option.isSome_iff_exists.mp hp.2
  obtain ⟨n1, n2, n3, n4, n5, n6, n7⟩ := txtIs_false_of_not_dispatched tok hp.1.2
  refine .one fun f => ?_
  rw [loop_special hk (by simp only [seqKey, n1, n2, n3, n4, n5, n6, n7, Bool.or_self]) hv]
  simp only [expTok, hk, beq_self_eq_true, if_true, specialValD, hv, Option.getD_some]

theorem seqRun_spec (T : PTables) {st0 st : PState} (hr : Ext st0 st) (envStop : Option Str) :
    ∀ (toks : List Tok) (out : List Tok), PSSeq T st0 toks →
      SeqRun T envStop 0 toks.length toks out st [] (out ++ toks.flatMap (expTok T.toTables)) st
  | [], out, _ => by rw [List.flatMap_nil, List.append_nil]; exact .refl
  | t :: ts, out, hp => by
    have S : SeqRun T envStop 0 1 (t :: ts) out st ts (out ++ expTok T.toTables t) st := by
      rcases hp.1 with ⟨h1, h2⟩ | h
      · rw [expTok_plain _ _ h1]; exact seqRun_plainTok h1 (hr.passTok h2)
      · exact seqRun_specialTok h
    rw [List.flatMap_cons]
    exact S.app_comm (seqRun_spec T hr envStop ts (out ++ expTok T.toTables t) hp.2) (Nat.zero_le _)

/-! ### `removeLines` deletes nothing but empty tokens if no line is a pure Action line

  Token level, for arbitrary token lists.  `lineRun` runs over the work list of
  `remove_pure_action_lines`; state `some a`: we are behind an item that can start a line and
  have seen only blank items since, `a` = one of them was an Action token. -/

def lineRun : Option Bool → List LItem → Bool
  | _, [] => true
  | s, i :: is =>
    !(i.cs && isAction i.tok) &&
    !(s.isSome && (i.ce || (i.blank && is.isEmpty)) && (s.getD false || isAction i.tok)) &&
    lineRun (if s.isSome && i.blank && !i.ce then some (s.getD false || isAction i.tok)
             else if i.cs then some false else none) is

/-- no segment of the work list satisfies the conditions of the removing branch -/
def Safe (items : List LItem) : Prop :=
  ∀ pre t mid lst rest', items = pre ++ t :: (mid ++ lst :: rest') → t.cs = true →
    (∀ i ∈ mid, i.blank = true ∧ i.ce = false) →
    (lst.ce = false → lst.blank = true → rest' = []) → (lst.ce || lst.blank) = true →
    (t :: (mid ++ [lst])).any (fun i => isAction i.tok) = false

/-- re-evaluating an item (it loses the sentinel overrides) does not make it a line start -/
def CsMono (i : LItem) : Prop := (evalTok i.tok).cs = true → i.cs = true

theorem CsMono_evalTok (t : Tok) : CsMono (evalTok t) := by
  intro h; rwa [evalTok_tok] at h

theorem CsMono_of_sentinel (i : LItem) (p : Nat) (h : i.tok = sentinel p) : CsMono i := by
  intro hc
  rw [h] at hc
  simp [evalTok, sentinel, isAction, hasNl] at hc

theorem Safe_tail (t : LItem) (rest : List LItem) (h : Safe (t :: rest)) : Safe rest := by
  intro pre t2 mid lst rest' he
  exact h (t :: pre) t2 mid lst rest' (by rw [he]; rfl)

theorem Safe_keep (t : LItem) (mid : List LItem) (lst : LItem) (rest' : List LItem)
    (h : Safe (t :: (mid ++ lst :: rest'))) (hm : CsMono lst) : Safe (evalTok lst.tok :: rest') := by
  intro pre t2 mid2 lst2 rest2 he hcs2 hm2 hx2 hb2
  cases pre with
  | nil =>
    simp only [List.nil_append, List.cons.injEq] at he
    obtain ⟨rfl, rfl⟩ := he
    have := h (t :: mid) lst mid2 lst2 rest2 (by simp) (hm hcs2) hm2 hx2 hb2
    simpa using this
  | cons x pre' =>
    simp only [List.cons_append, List.cons.injEq] at he
    obtain ⟨_, rfl⟩ := he
    exact h (t :: (mid ++ lst :: pre')) t2 mid2 lst2 rest2 (by simp) hcs2 hm2 hx2 hb2

theorem LinesRel_safe (items : List LItem) (r : List Tok) (hrel : LinesRel items r)
    (hs : Safe items) (hm : ∀ i ∈ items, CsMono i) : r = items.map (·.tok) := by
  induction hrel with
  | nil => rfl
  | skip t rest r hcs _ ih =>
    simp [ih (Safe_tail t rest hs) (fun i hi => hm i (by simp [hi]))]
  | one t hcs => rfl
  | remove t mid lst rest' r hcs hm' hx hb hany _ ih =>
    exfalso
    have := hs [] t mid lst rest' rfl hcs hm' hx hb
    rw [this] at hany
    cases hany
  | keep t mid lst rest' r hcs hm' hx hb _ ih =>
    have := ih (Safe_keep t mid lst rest' hs (hm lst (by simp))) (by
      intro i hi
      simp only [List.mem_cons] at hi
      rcases hi with rfl | hi
      · exact CsMono_evalTok _
      · exact hm i (by simp [hi]))
    simp [this]

theorem lineRun_safe : ∀ (items : List LItem) (s : Option Bool), lineRun s items = true →
    Safe items ∧
    (∀ a, s = some a → ∀ mid lst rest', items = mid ++ lst :: rest' →
      (∀ i ∈ mid, i.blank = true ∧ i.ce = false) →
      (lst.ce = false → lst.blank = true → rest' = []) → (lst.ce || lst.blank) = true →
      a = false ∧ (mid ++ [lst]).any (fun i => isAction i.tok) = false) := by
  intro items
  induction items with
  | nil =>
    intro s _
    refine ⟨?_, ?_⟩
    · intro pre t mid lst rest' he; simp at he
    · intro a _ mid lst rest' he; simp at he
  | cons i is ih =>
    intro s h
    simp only [lineRun, Bool.and_eq_true, Bool.not_eq_true'] at h
    obtain ⟨⟨c1, c2⟩, c3⟩ := h
    obtain ⟨ih1, ih2⟩ := ih _ c3
    refine ⟨?_, ?_⟩
    · intro pre t mid lst rest' he hcs hmid hx hb
      cases pre with
      | nil =>
        simp only [List.nil_append, List.cons.injEq] at he
        obtain ⟨rfl, rfl⟩ := he
        have hact : isAction i.tok = false := by simpa [hcs] using c1
        have hn : ∃ b, (if (s.isSome = true ∧ i.blank = true) ∧ i.ce = false then
            some (s.getD false || isAction i.tok) else if i.cs = true then some false else none)
            = some b := by
          by_cases hc : (s.isSome = true ∧ i.blank = true) ∧ i.ce = false
          · rw [if_pos hc]; exact ⟨_, rfl⟩
          · rw [if_neg hc, if_pos hcs]; exact ⟨_, rfl⟩
        obtain ⟨b, hb'⟩ := hn
        have := (ih2 b hb' mid lst rest' rfl hmid hx hb).2
        simp only [List.any_cons, hact, Bool.false_or]
        exact this
      | cons x pre' =>
        simp only [List.cons_append, List.cons.injEq] at he
        obtain ⟨_, rfl⟩ := he
        exact ih1 pre' t mid lst rest' rfl hcs hmid hx hb
    · intro a hs mid lst rest' he hmid hx hb
      subst hs
      cases mid with
      | nil =>
        simp only [List.nil_append, List.cons.injEq] at he
        obtain ⟨rfl, rfl⟩ := he
        have hcond : (i.ce || (i.blank && is.isEmpty)) = true := by
          cases hce : i.ce with
          | true => rfl
          | false =>
            have hbl : i.blank = true := by simpa [hce] using hb
            have := hx hce hbl
            simp [hbl, this]
        simp only [Option.isSome_some, hcond, Bool.and_self, Bool.true_and, Option.getD_some,
          Bool.or_eq_false_iff] at c2
        simpa using c2
      | cons m mid' =>
        simp only [List.cons_append, List.cons.injEq] at he
        obtain ⟨rfl, rfl⟩ := he
        obtain ⟨hb1, hb2⟩ := hmid i (by simp)
        have := ih2 (a || isAction i.tok) (by simp [hb1, hb2]) mid' lst rest' rfl
          (fun j hj => hmid j (by simp [hj])) hx hb
        simp only [Bool.or_eq_false_iff] at this
        simp only [List.cons_append, List.any_cons, this.1.2, Bool.false_or]
        exact ⟨this.1.1, this.2⟩

/-- if the line automaton accepts the work list, the pass only drops empty tokens (Action
    tokens among them) -/
theorem removeLines_safe_id (ts : List Tok) (h : lineRun none (linesInit ts) = true) :
    removeLines ts = some (ts.filter keepOut) := by
  have hp := removeLines_progress ts
  cases hr : removeLines ts with
  | none => rw [hr] at hp; cases hp
  | some out =>
    obtain ⟨r, hrel, rfl⟩ := removeLines_rel ts out hr
    obtain ⟨p, e⟩ := linesInit_eq ts
    rw [e] at hrel h
    have := LinesRel_safe _ r hrel (lineRun_safe _ _ h).1 (by
      intro i hi
      simp only [List.mem_cons, List.mem_append, List.mem_map, List.mem_filter, List.not_mem_nil,
        or_false] at hi
      rcases hi with rfl | ⟨t, _, rfl⟩ | rfl
      · exact CsMono_of_sentinel _ 0 firstItem_tok
      · exact CsMono_evalTok _
      · exact CsMono_of_sentinel _ p (lastItem_tok p))
    subst this
    simp only [List.map_cons, List.map_append, List.map_map, List.map_nil, firstItem_tok,
      lastItem_tok, List.filter_cons, keepOut_sentinel, Bool.false_eq_true, if_false,
      List.filter_append, List.filter_nil, List.append_nil, Option.some.injEq]
    have e2 : List.map ((fun x => x.tok) ∘ evalTok) (List.filter keepIn ts) = List.filter keepIn ts := by
      rw [show ((fun x : LItem => x.tok) ∘ evalTok) = id from by funext t; simp]
      simp
    rw [e2, List.filter_filter]
    apply List.filter_congr
    intro t _
    simp only [keepOut, keepIn]
    cases t.txt.isEmpty <;> cases isLang t <;> simp

/-! ### the `skip` counter; one step of the specification functions -/

theorem refSpecialA_nil (T : Tables) (n i : Nat) : refSpecialA T n [] i = ([], []) := by
  cases n <;> rfl

theorem refSpecialA_skip (T : Tables) : ∀ (n : Nat) (s : Str) (i : Nat),
    refSpecialA T n s i = refSpecialA T 0 (s.drop n) (i + n)
  | 0, s, i => by simp
  | n + 1, [], i => by simp [refSpecialA_nil]
  | n + 1, c :: cs, i => by
    rw [refSpecialA, refSpecialA_skip T n cs (i + 1)]
    simp [Nat.add_assoc, Nat.add_comm 1 n]

theorem specTextA_nil (T : PTables) (st : PState) (n : Nat) : specTextA T st n [] = true := by
  cases n <;> rfl

theorem specTextA_skip (T : PTables) (st : PState) : ∀ (n : Nat) (s : Str),
    specTextA T st n s = specTextA T st 0 (s.drop n)
  | 0, s => by simp
  | n + 1, [] => by simp [specTextA_nil]
  | n + 1, c :: cs => by
    rw [specTextA, specTextA_skip T st n cs]
    simp

theorem lineStateA_nil (T : Tables) (n : Nat) (σ : Option Bool) : lineStateA T n σ [] = some σ := by
  cases n <;> rfl

theorem lineStateA_skip (T : Tables) : ∀ (n : Nat) (σ : Option Bool) (s : Str),
    lineStateA T n σ s = lineStateA T 0 σ (s.drop n)
  | 0, σ, s => by simp
  | n + 1, σ, [] => by simp [lineStateA_nil]
  | n + 1, σ, c :: cs => by
    rw [lineStateA, lineStateA_skip T n σ cs]
    simp

theorem longestKey_some_startsWith (T : Tables) (s k : Str) (h : longestKey T s = some k) :
    startsWith s k = true := by
  unfold longestKey at h
  have := List.mem_of_find?_eq_some h
  rw [List.mem_filter] at this
  exact this.2

theorem plainKey_head (T : Tables) (c : Char) (cs k : Str) (hs : startsWith (c :: cs) k = true)
    (hp : plainSpecialKey T k = true) :
    ∃ tl, k = c :: tl ∧ isSpace c = false ∧ c ≠ '%' ∧ c ≠ '#' := by
  simp only [plainSpecialKey, Bool.and_eq_true] at hp
  obtain ⟨⟨h1, _⟩, _⟩ := hp
  cases k with
  | nil => simp at h1
  | cons d tl =>
    simp only [startsWith, Bool.and_eq_true, beq_iff_eq] at hs
    obtain ⟨rfl, _⟩ := hs
    simp only [Bool.and_eq_true, Bool.not_eq_true', bne_iff_ne, ne_eq] at h1
    exact ⟨tl, rfl, h1.1.1, h1.1.2, h1.2⟩

theorem refSpecial_key (T : Tables) (c : Char) (cs : Str) (i : Nat) (k : Str)
    (h : longestKey T (c :: cs) = some k) (hk : k ≠ []) :
    refSpecial T (c :: cs) i =
      (specialValD T k ++ (refSpecial T ((c :: cs).drop k.length) (i + k.length)).1,
       List.range' i (specialValD T k).length
         ++ (refSpecial T ((c :: cs).drop k.length) (i + k.length)).2) := by
  obtain ⟨m, hm⟩ : ∃ m, k.length = m + 1 :=
    ⟨k.length - 1, by have := List.length_pos_iff.mpr hk; omega⟩
  simp only [refSpecial, refSpecialA, h]
  rw [refSpecialA_skip, hm]
  simp [Nat.add_assoc, Nat.add_comm 1 m]

theorem refSpecial_char (T : Tables) (c : Char) (cs : Str) (i : Nat)
    (h : longestKey T (c :: cs) = none) :
    refSpecial T (c :: cs) i = (c :: (refSpecial T cs (i + 1)).1, i :: (refSpecial T cs (i + 1)).2) := by
  simp only [refSpecial, refSpecialA, h]

theorem refSpecial_nil (T : Tables) (i : Nat) : refSpecial T [] i = ([], []) := rfl

theorem specText_space (T : PTables) (st : PState) (c : Char) (cs : Str) (hc : isSpace c = true)
    (h : specTextA T st 0 (c :: cs) = true) :
    longestKey T.toTables (c :: cs) = none ∧ specTextA T st 0 cs = true := by
  simp only [specTextA] at h
  cases hl : longestKey T.toTables (c :: cs) with
  | some k =>
    simp only [hl, Bool.and_eq_true] at h
    obtain ⟨_, _, h2, _⟩ := plainKey_head _ c cs k (longestKey_some_startsWith _ _ _ hl) h.1
    rw [hc] at h2; cases h2
  | none =>
    simp only [hl, Bool.and_eq_true] at h
    exact ⟨rfl, h.2⟩

theorem ws_run (T : PTables) (st : PState) : ∀ (w r : Str), (∀ c ∈ w, isSpace c = true) →
    specTextA T st 0 (w ++ r) = true →
    specTextA T st 0 r = true ∧
    (∀ i, refSpecialA T.toTables 0 (w ++ r) i =
      (w ++ (refSpecialA T.toTables 0 r (i + w.length)).1,
       List.range' i w.length ++ (refSpecialA T.toTables 0 r (i + w.length)).2)) ∧
    (∀ σ, lineStateA T.toTables 0 σ (w ++ r) =
      if hasNl w then (if σ == some true then none else lineStateA T.toTables 0 (some false) r)
      else lineStateA T.toTables 0 σ r) := by
  intro w
  induction w with
  | nil => intro r _ h; exact ⟨by simpa using h, by simp, by simp [hasNl]⟩
  | cons c w ih =>
    intro r hw h
    have hc := hw c (by simp)
    obtain ⟨hl, h'⟩ := specText_space T st c (w ++ r) hc h
    obtain ⟨i1, i2, i3⟩ := ih r (fun d hd => hw d (by simp [hd])) h'
    refine ⟨i1, ?_, ?_⟩
    · intro i
      simp only [List.cons_append, refSpecialA, hl, i2, List.length_cons, List.range'_succ]
      simp [Nat.add_assoc, Nat.add_comm 1 w.length]
    · intro σ
      simp only [List.cons_append, lineStateA, hl, i3]
      by_cases hn : c = nl
      · subst hn
        have : hasNl (nl :: w) = true := by simp [hasNl]
        simp only [beq_self_eq_true, if_true, this]
        cases σ with
        | none => simp
        | some a => cases a <;> simp
      · have h1 : (c == nl) = false := by simpa using hn
        have h2 : hasNl (c :: w) = hasNl w := by
          simp only [hasNl, List.contains_cons]
          have : (nl == c) = false := by simpa using fun e : nl = c => hn e.symm
          rw [this, Bool.false_or]
        simp only [h1, Bool.false_eq_true, if_false, hc, if_true, h2]

/-! ### one token in the line automaton of the work list -/

/-- a white-space token: a line break closes the line and opens the next one -/
theorem lineRun_ws (t : Tok) (hk : t.kind = .space ∨ t.kind = .par) (hw : isBlank t.txt = true)
    (σ : Option Bool) (tail : List LItem) (ht : tail ≠ []) :
    lineRun σ (evalTok t :: tail) =
      if hasNl t.txt then (if σ == some true then false else lineRun (some false) tail)
      else lineRun σ tail := by
  have ha : isAction t = false := by rcases hk with hk | hk <;> simp [isAction, hk]
  have he : tail.isEmpty = false := by cases tail <;> simp_all
  cases hn : hasNl t.txt with
  | true =>
    cases σ with
    | none =>
      simp [lineRun, evalTok, ha, hn, hw, he, isBlank_afterLastNl _ hw, isBlank_beforeFirstNl _ hw]
    | some a =>
      cases a <;>
      simp [lineRun, evalTok, ha, hn, hw, he, isBlank_afterLastNl _ hw, isBlank_beforeFirstNl _ hw]
  | false =>
    cases σ with
    | none => simp [lineRun, evalTok, ha, hn, hw, he]
    | some a => simp [lineRun, evalTok, ha, hn, hw, he]

/-- a text token without line break: visible text closes the line, blank text changes nothing -/
theorem lineRun_txt (t : Tok) (hk : t.kind = .text) (hn : hasNl t.txt = false)
    (σ : Option Bool) (tail : List LItem) (ht : tail ≠ []) :
    lineRun σ (evalTok t :: tail) = lineRun (if isBlank t.txt then σ else none) tail := by
  have ha : isAction t = false := by simp [isAction, hk]
  have he : tail.isEmpty = false := by cases tail <;> simp_all
  cases hb : isBlank t.txt <;> cases σ <;> simp [lineRun, evalTok, ha, hn, hb, he]

theorem lineRun_action (t : Tok) (hk : t.kind = .action)
    (σ : Option Bool) (tail : List LItem) (ht : tail ≠ []) :
    lineRun σ (evalTok t :: tail) = lineRun (σ.map (fun _ => true)) tail := by
  have ha : isAction t = true := by simp [isAction, hk]
  have he : tail.isEmpty = false := by cases tail <;> simp_all
  cases σ <;> simp [lineRun, evalTok, ha, he]

/-! ### a token list in the line automaton

  `LineSim ts δ`: over the items of `ts` that the pass keeps, `lineRun` moves from the state `σ` to
  `δ σ` (`none`: it rejects).  The scanner lemmas below carry it along the source, where `δ` is the
  line automaton of the document class on the source text. -/

def LineSim (ts : List Tok) (δ : Option Bool → Option (Option Bool)) : Prop :=
  ∀ σ tail, tail ≠ [] →
    lineRun σ ((ts.filter keepIn).map evalTok ++ tail) =
      match δ σ with
      | none => false
      | some σ' => lineRun σ' tail

theorem LineSim.nil : LineSim [] some := fun _ _ _ => rfl

theorem LineSim.cons {as bs : List Tok} {δ f g : Option Bool → Option (Option Bool)}
    (a : LineSim as δ) (b : LineSim bs f)
    (hg : ∀ σ, g σ = match δ σ with
      | none => none
      | some σ' => f σ') : LineSim (as ++ bs) g := by
  intro σ tail ht
  rw [List.filter_append, List.map_append, List.append_assoc, a σ _ (by simp [ht]), hg σ]
  cases δ σ with
  | none => rfl
  | some σ' => exact b σ' tail ht

theorem lineSim_ws {t : Tok} (hk : t.kind = .space ∨ t.kind = .par) (hne : t.txt ≠ [])
    (hw : isBlank t.txt = true) :
    LineSim [t] (fun σ => if hasNl t.txt then (if σ == some true then none else some (some false))
      else some σ) := by
  intro σ tail ht
  have hkeep : keepIn t = true := by simp [keepIn, hne]
  simp only [List.filter_cons, hkeep, if_true, List.filter_nil, List.map_cons, List.map_nil,
    List.cons_append, List.nil_append]
  rw [lineRun_ws t hk hw σ tail ht]
  cases hasNl t.txt
  · simp
  · by_cases hσ : (σ == some true) = true <;> simp [hσ]

theorem lineSim_txt {t : Tok} (hk : t.kind = .text) (hne : t.txt ≠ []) (hn : hasNl t.txt = false) :
    LineSim [t] (fun σ => some (if isBlank t.txt then σ else none)) := by
  intro σ tail ht
  have hkeep : keepIn t = true := by simp [keepIn, hne]
  simp only [List.filter_cons, hkeep, if_true, List.filter_nil, List.map_cons, List.map_nil,
    List.cons_append, List.nil_append]
  exact lineRun_txt t hk hn σ tail ht

/-- an Action token and a text token without line break (an empty one is not kept) -/
theorem lineSim_action_text (p : Nat) (v : Str) (fx : Bool) (hn : hasNl v = false) :
    LineSim [mkAction p, { kind := .text, pos := p, txt := v, fix := fx }]
      (fun σ => some (if isBlank v then σ.map (fun _ => true) else none)) := by
  have hA : LineSim [mkAction p] (fun σ => some (σ.map fun _ => true)) := fun σ tail ht =>
    lineRun_action (mkAction p) rfl σ tail ht
  cases v with
  | nil => exact fun σ tail ht => (hA σ tail ht).trans (by simp [isBlank])
  | cons d ds =>
    refine hA.cons (lineSim_txt (t := { kind := .text, pos := p, txt := d :: ds, fix := fx }) rfl
      (List.cons_ne_nil _ _) hn) (fun σ => ?_)
    cases σ <;> rfl

/-! ### one scanner step on a text of the class -/

structure StepLink (T : PTables) (st : PState) (pos : Nat) (rest : Str) (s : ScanStep) : Prop where
  diag : s.diag = none
  extra : s.extra = []
  len_pos : 1 ≤ s.len
  len_le : s.len ≤ rest.length
  ne : s.tok.txt ≠ []
  cls : specTextA T st 0 (rest.drop s.len) = true
  tokc : PlainTok s.tok ∨ SpecialTok T.toTables s.tok
  first : s.tok.txt = nextTokTxt T.toTables rest
  pass : PlainTok s.tok → ∀ steps : List ScanStep,
    (∀ s2 ss, steps = s2 :: ss → s2.tok.txt = nextTokTxt T.toTables (rest.drop s.len)) →
    (rest.drop s.len = [] → steps = []) → PassTok T st s.tok (steps.map (·.tok))
  txt : refSpecialA T.toTables 0 rest pos =
    ((getTxtPos (expTok T.toTables s.tok)).1
        ++ (refSpecialA T.toTables 0 (rest.drop s.len) (pos + s.len)).1,
     (getTxtPos (expTok T.toTables s.tok)).2
        ++ (refSpecialA T.toTables 0 (rest.drop s.len) (pos + s.len)).2)
  lines : ∃ δ, LineSim (expTok T.toTables s.tok) δ ∧
    ∀ σ, lineStateA T.toTables 0 σ rest =
      match δ σ with
      | none => none
      | some σ' => lineStateA T.toTables 0 σ' (rest.drop s.len)

theorem specialValD_noNl (T : Tables) (hnl : ∀ e ∈ T.special, hasNl e.2 = false) (k : Str) :
    hasNl (specialValD T k) = false := by
  unfold specialValD Tables.specialVal
  cases hf : T.special.find? (·.1 == k) with
  | none => rfl
  | some e => exact hnl e (List.mem_of_find?_eq_some hf)

theorem link_key (T : PTables) (st : PState) (src : Str) (pos : Nat) (c : Char) (cs k : Str)
    (hnl : ∀ e ∈ T.special, hasNl e.2 = false)
    (hl : longestKey T.toTables (c :: cs) = some k)
    (hms : matchSpecial T.toTables (c :: cs) = some k)
    (hp : plainSpecialKey T.toTables k = true)
    (hcls : specTextA T st (k.length - 1) cs = true) :
    StepLink T st pos (c :: cs) (nextToken T.toTables src pos (c :: cs)) := by
  have hsw := longestKey_some_startsWith _ _ _ hl
  obtain ⟨tl, rfl, hsp, h1, h2⟩ := plainKey_head _ c cs k hsw hp
  rw [nextToken_specialAt T.toTables src pos hsp h1 h2 hms]
  have hdrop : (c :: cs).drop (c :: tl).length = cs.drop tl.length := by simp
  refine ⟨rfl, rfl, by simp, (ScannerAux.startsWith_spec _ _ hsw).1, by simp, ?_, Or.inr ⟨rfl, hp⟩,
    ?_, ?_, ?_, ?_⟩
  · show specTextA T st 0 ((c :: cs).drop (c :: tl).length) = true
    rw [hdrop]
    rw [specTextA_skip] at hcls
    simpa using hcls
  · simp [nextTokTxt, hsp, hl]
  · intro hP
    have := hP.kind
    simp at this
  · have := refSpecial_key T.toTables c cs pos (c :: tl) hl (by simp)
    simp only [refSpecial] at this
    rw [this]
    simp [expTok, getTxtPos, tokPositions, mkAction, List.range'_eq_map_range]
  · refine ⟨_, lineSim_action_text pos _ false (specialValD_noNl _ hnl (c :: tl)), fun σ => ?_⟩
    simp only [lineStateA, hl]
    rw [lineStateA_skip]
    simp

theorem link_ws (T : PTables) (st : PState) (src : Str) (pos : Nat) (c : Char) (cs : Str)
    (hsp : isSpace c = true) (hact : (activeChars T st).contains [c] = false)
    (h0 : specTextA T st 0 (c :: cs) = true) :
    StepLink T st pos (c :: cs) (nextToken T.toTables src pos (c :: cs)) := by
  have hnsp : isSpace c = false → False := fun h => by rw [hsp] at h; cases h
  obtain ⟨s, hs, hp, -, hk, X, -⟩ := Scans.text T src pos c cs (Or.inl hsp)
  have hkind := hk hsp
  rw [hs]
  have hblank : isBlank s.tok.txt = true := X.blankOrOne.resolve_right (fun h => hnsp h.2)
  have hsplit : s.tok.txt ++ (c :: cs).drop s.len = c :: cs := by rw [hp.txt, List.take_append_drop]
  have hlen : s.tok.txt.length = s.len := by
    rw [hp.txt, List.length_take]; exact Nat.min_eq_left hp.len_le
  obtain ⟨r1, r2, r3⟩ := ws_run T st s.tok.txt ((c :: cs).drop s.len)
    (by rw [hp.txt]; exact X.blank hsp) (by rw [hsplit]; exact h0)
  rw [hsplit, hlen] at r2
  rw [hsplit] at r3
  have hexp : expTok T.toTables s.tok = [s.tok] := expTok_plain _ _ hp.tok
  refine ⟨hp.diag, hp.extra, hp.len_pos, hp.len_le, X.ne, r1, Or.inl hp.tok, ?_, ?_, ?_, ?_⟩
  · rw [hp.first]; simp [nextTokTxt, firstTokTxt, hsp]
  · exact fun _ steps _ _ => PlainMacro.passTok_text T st X (fun h => (hnsp h).elim) _ (Or.inl hact)
  · rw [r2 pos, hexp]
    simp [getTxtPos, tokPositions, hp.fix, hp.pos, hlen, List.range'_eq_map_range]
  · refine ⟨_, hexp ▸ lineSim_ws hkind X.ne hblank, fun σ => ?_⟩
    rw [r3 σ]
    cases hasNl s.tok.txt
    · simp
    · by_cases hσ : (σ == some true) = true <;> simp [hσ]

theorem link_char (T : PTables) (st : PState) (src : Str) (pos : Nat) (c : Char) (cs : Str)
    (hsp : isSpace c = false) (hst : structuralChar c = false)
    (hact : (activeChars T st).contains [c] = false ∨
      (cs.isEmpty = true ∨ (shortKeys T st).contains (c :: nextTokTxt T.toTables cs) = false))
    (hl : longestKey T.toTables (c :: cs) = none)
    (hms : matchSpecial T.toTables (c :: cs) = none)
    (hcls : specTextA T st 0 cs = true) :
    StepLink T st pos (c :: cs) (nextToken T.toTables src pos (c :: cs)) := by
  obtain ⟨s, hs, hp, hone, -, X, -⟩ := Scans.text T src pos c cs (Or.inr ⟨hst, hms⟩)
  rw [hs]
  obtain ⟨hlen, hkind⟩ := hone hsp
  have htxt : s.tok.txt = [c] := by rw [hp.txt, hlen]; rfl
  have hexp : expTok T.toTables s.tok = [s.tok] := expTok_plain _ _ hp.tok
  have hcn : c ≠ nl := by
    intro e
    rw [e] at hsp
    exact absurd hsp (by decide)
  have hnb : isBlank [c] = false := by simp [isBlank, hsp]
  refine ⟨hp.diag, hp.extra, hp.len_pos, hp.len_le, X.ne, by rw [hlen]; simpa using hcls,
    Or.inl hp.tok, ?_, ?_, ?_, ?_⟩
  · rw [htxt]; simp [nextTokTxt, hsp, hl]
  · exact fun _ => PlainMacro.passTok_steps T st X (fun h => (hone h).1) (nextTokTxt T.toTables)
      (hact.imp id (fun h => ⟨hsp, h⟩))
  · have := refSpecial_char T.toTables c cs pos hl
    simp only [refSpecial] at this
    rw [this, hexp, hlen]
    simp [getTxtPos, tokPositions, hp.fix, htxt, hp.pos]
  · refine ⟨_, hexp ▸ lineSim_txt hkind X.ne (by rw [htxt]; exact PlainMacro.hasNl_single c hsp), fun σ => ?_⟩
    simp [lineStateA, hl, hcn, hsp, hlen, htxt, hnb]

theorem nextToken_link (T : PTables) (st : PState) (src : Str) (pos : Nat) (c : Char) (cs : Str)
    (hm : ∀ s, longestKey T.toTables s = matchSpecial T.toTables s)
    (hnl : ∀ e ∈ T.special, hasNl e.2 = false)
    (h : specTextA T st 0 (c :: cs) = true) :
    StepLink T st pos (c :: cs) (nextToken T.toTables src pos (c :: cs)) := by
  have h0 := h
  simp only [specTextA] at h
  cases hl : longestKey T.toTables (c :: cs) with
  | some k =>
    simp only [hl, Bool.and_eq_true] at h
    exact link_key T st src pos c cs k hnl hl (by rw [← hm, hl]) h.1 h.2
  | none =>
    simp only [hl, Bool.and_eq_true, copyAt, Bool.or_eq_true, Bool.not_eq_true'] at h
    obtain ⟨⟨ha, hb⟩, hc⟩ := h
    cases hsp : isSpace c with
    | true =>
      refine link_ws T st src pos c cs hsp ?_ h0
      rcases hb with hb | hb
      · exact hb
      · rw [hsp] at hb; simp at hb
    | false =>
      refine link_char T st src pos c cs hsp ?_ ?_ hl (by rw [← hm, hl]) hc
      · simpa [hsp] using ha
      · rcases hb with hb | hb
        · exact Or.inl hb
        · exact Or.inr hb.2

def outToks (T : Tables) (steps : List ScanStep) : List Tok :=
  (steps.map (·.tok)).flatMap (expTok T)

theorem outToks_cons (T : Tables) (s : ScanStep) (ss : List ScanStep) :
    outToks T (s :: ss) = expTok T s.tok ++ outToks T ss := rfl

structure ScanFacts (T : PTables) (st : PState) (pos : Nat) (rest : Str) (steps : List ScanStep) :
    Prop where
  ok : ∀ s ∈ steps, s.diag = none ∧ s.extra = [] ∧ s.tok.txt ≠ []
  seq : PSSeq T st (steps.map (·.tok))
  first : ∀ s ss, steps = s :: ss → s.tok.txt = nextTokTxt T.toTables rest
  txt : getTxtPos (outToks T.toTables steps) = refSpecialA T.toTables 0 rest pos
  len : steps.length ≤ rest.length
  lines : LineSim (outToks T.toTables steps) (lineStateA T.toTables 0 · rest)

theorem ScanFacts_nil (T : PTables) (st : PState) (pos : Nat) : ScanFacts T st pos [] [] where
  ok := by simp
  seq := trivial
  first := by simp
  txt := rfl
  len := Nat.le_refl _
  lines := LineSim.nil

theorem scanAll_special (T : PTables) (st : PState) (src : Str)
    (hm : ∀ s, longestKey T.toTables s = matchSpecial T.toTables s)
    (hnl : ∀ e ∈ T.special, hasNl e.2 = false) (pos : Nat) (rest : Str)
    (h : specTextA T st 0 rest = true) :
    ScanFacts T st pos rest (scanAll T.toTables src pos rest).1 := by
  refine scanAll_of_runs T.toTables src (fun p W a => p = a ∧ specTextA T st 0 W = true)
    (fun W a ss => ScanFacts T st a W ss) (fun _ a _ => ScanFacts_nil T st a) ?_ pos rest pos ⟨rfl, h⟩
  rintro p c cs _ ⟨rfl, hin⟩
  have L := nextToken_link T st src p c cs hm hnl hin
  refine ⟨[_], _, _, _, by simp, Scans.step rfl rfl L.len_pos L.diag L.extra, ⟨rfl, L.cls⟩,
    fun rs hnil I => ?_⟩
  generalize nextToken T.toTables src p (c :: cs) = s at L I hnil ⊢
  obtain ⟨δ, d1, d2⟩ := L.lines
  exact {
    ok := List.forall_mem_cons.mpr ⟨⟨L.diag, L.extra, L.ne⟩, I.ok⟩
    seq := ⟨L.tokc.imp (fun hp => ⟨hp, L.pass hp rs I.first hnil⟩) id, I.seq⟩
    first := fun _ _ he => (List.cons.inj he).1 ▸ L.first
    txt := by rw [List.singleton_append, outToks_cons, getTxtPos_append, L.txt, I.txt]
    len := by
      have := I.len
      have := L.len_pos
      have := L.len_le
      simp only [List.singleton_append, List.length_cons, List.length_drop] at *
      omega
    lines := d1.cons I.lines d2 }

/-- the tokens of the result: the scanner tokens, each SpecialToken replaced by a text token with
    the table value (empty values dropped) -/
def specialOut (T : Tables) (src : Str) : List Tok :=
  ((scan T src).toks.flatMap (expTok T)).filter keepOut

theorem getTxtPos_filter_keepOut (l : List Tok) : getTxtPos (l.filter keepOut) = getTxtPos l := by
  induction l with
  | nil => rfl
  | cons t l ih =>
    cases hk : keepOut t with
    | true => simp only [List.filter_cons, hk, if_true, getTxtPos, ih]
    | false =>
      have := keepOut_txt t hk
      simp only [List.filter_cons, hk, Bool.false_eq_true, if_false, getTxtPos, ih, this,
        tokPositions, List.length_nil, List.replicate_zero, List.range_zero, List.map_nil, ite_self,
        List.nil_append]

/-- `scan` on a text of the class: no diagnostics, one token per white-space run,
    matched key or other character; the buffer passes `expandSequence`; what the loop emits
    spells the reference output; the line automaton of the work list follows the one of the
    source -/
theorem scan_special (T : PTables) (st : PState) (src : Str) (hwf : T.toTables.WFScan)
    (hnl : ∀ e ∈ T.special, hasNl e.2 = false) (h : specText T st src = true) :
    (scan T.toTables src).diags = [] ∧
    PSSeq T st (scan T.toTables src).toks ∧
    getTxtPos ((scan T.toTables src).toks.flatMap (expTok T.toTables)) = refSpecial T.toTables src 0 ∧
    (scan T.toTables src).toks.length ≤ src.length ∧
    LineSim ((scan T.toTables src).toks.flatMap (expTok T.toTables)) (lineStateA T.toTables 0 · src) := by
  have F := scanAll_special T st src (longestKey_eq_matchSpecial _ hwf) hnl 0 src h
  obtain ⟨hd, ht⟩ := scan_of_scanAll (fun s hs => ⟨(F.ok s hs).1, (F.ok s hs).2.1⟩)
  rw [ht]
  refine ⟨hd, F.seq, F.txt, ?_, F.lines⟩
  simpa using F.len

theorem lineRun_linesInit (ts : List Tok)
    (h : ∀ p, lineRun (some false) ((ts.filter keepIn).map evalTok ++ [lastItem p]) = true) :
    lineRun none (linesInit ts) = true := by
  obtain ⟨p, e⟩ := linesInit_eq ts
  rw [e]
  have : ∀ X, lineRun none (firstItem :: X) = lineRun (some false) X := by
    intro X
    simp [lineRun, firstItem, evalTok, sentinel, isAction]
  rw [this]
  exact h p

theorem lineRun_lastItem (σ : Option Bool) (p : Nat) :
    lineRun σ [lastItem p] = (σ != some true) := by
  have h1 : (lastItem p).cs = false := rfl
  have h2 : (lastItem p).ce = true := rfl
  have h3 : isAction (lastItem p).tok = false := rfl
  cases σ with
  | none => simp [lineRun, h1, h2]
  | some a => cases a <;> simp [lineRun, h1, h2]

/-- the blank-line removal drops the empty tokens only if, from the beginning of a line, the kept items
    lead the line automaton to a state that is no pure Action line -/
theorem removeLines_of_lineRun {ts : List Tok}
    (h : ∀ tail : List LItem, tail ≠ [] → ∃ σ', σ' ≠ some true ∧
      lineRun (some false) ((ts.filter keepIn).map evalTok ++ tail) = lineRun σ' tail) :
    removeLines ts = some (ts.filter keepOut) := by
  apply removeLines_safe_id
  apply lineRun_linesInit
  intro p
  obtain ⟨σ', h1, h2⟩ := h [lastItem p] (by simp)
  rw [h2, lineRun_lastItem]
  cases σ' with
  | none => rfl
  | some a => cases a <;> simp at h1 ⊢

/-- … in particular if on `ts` the line automaton follows an automaton `f` on the source that, from the
    beginning of a line, does not end in a pure Action line -/
theorem removeLines_of_source {ts : List Tok} {f : Option Bool → Option (Option Bool)} (h : LineSim ts f)
    (hok : (match f (some false) with
      | some s => s != some true
      | none => false) = true) : removeLines ts = some (ts.filter keepOut) :=
  removeLines_of_lineRun fun tail ht => by
    rw [h (some false) tail ht]
    generalize f (some false) = r at hok ⊢
    cases r with
    | none => exact Bool.noConfusion hok
    | some σ' => exact ⟨σ', bne_iff_ne.mp hok, rfl⟩

/-- **C06 (special sequences) on `tex2txt`, complete result record.**  `st1` is the state after
    `Parser.__init__`; no `--defs`, `--extr`, `--repl`, `--unkn`; single-language mode.  The result
    tokens are the scanner tokens with every SpecialToken replaced by its table value; the state is
    unchanged.  Fuel: one unit for `parserWork`, one per token (at most one per character) and one for
    the final call of the loop. -/
theorem tex2txt_special_text {T : PTables} {o : Options} {fs : FS} {fuel : Nat} {st1 : PState}
    (R : PlainSetup T o fs fuel st1) (thresh : Nat) (src : Str)
    (hwf : T.toTables.WFScan) (hnl : ∀ e ∈ T.special, hasNl e.2 = false)
    (h : specText T st1 src = true) (hlines : linesOK T.toTables src = true)
    (hf : src.length + 2 ≤ fuel) :
    tex2txt T fuel src o false thresh fs
      = .ok { toks := specialOut T.toTables src, txt := (refSpecial T.toTables src 0).1,
              pos := (refSpecial T.toTables src 0).2.map (· + 1), parts := [], unknowns := [],
              diags := st1.diags, foreign := false } := by
  obtain ⟨hd, hseq, htp, hlen, hlin⟩ := scan_special T st1 src hwf hnl h
  have hs := ((seqRun_spec T (Reads.startState st1 src).ext none _ [] hseq).mono
    (Nat.zero_le 1) (Nat.le_refl _)).finish (Nat.le_refl _) (fuel := fuel - 1) (by omega)
  rw [List.nil_append] at hs
  rw [R.of_lines thresh ⟨hd, rfl⟩ (NoCom.noBegin hseq.notComment _) (by omega) hs
    (removeLines_of_source hlin hlines)]
  simp only [startState, flowsToks, List.map_nil, List.flatten_nil, List.append_nil,
    getTxtPos_filter_keepOut, htp]
  rfl

/-- **C06, second half, on `tex2txt`.**  For a text of inert characters and special sequences
    the output is the reference output: at every offset the longest matching key of
    `special_tokens` is replaced by its value, mapped to the position where the sequence starts;
    everything else is copied with its own position (1-based, as `tex2txt` reports positions);
    nothing is reported as unknown and no diagnostic is added. -/
theorem tex2txt_special (T : PTables) (o : Options) (fs : FS) (thresh : Nat) (src : Str)
    (fuel : Nat) (st1 : PState)
    (hwf : T.toTables.WFScan) (hnl : ∀ e ∈ T.special, hasNl e.2 = false)
    (hdefs : o.defs = []) (hextr : o.extr = []) (hrepl : o.hasRepl = false)
    (hunkn : o.unkn = false)
    (hinit : initParser T fuel o (initialState T o false fs) = .ok ((), st1))
    (h : specText T st1 src = true) (hlines : linesOK T.toTables src = true)
    (hf : src.length + 2 ≤ fuel) :
    ∃ r, tex2txt T fuel src o false thresh fs = .ok r ∧
      r.txt = (refSpecial T.toTables src 0).1 ∧
      r.pos = (refSpecial T.toTables src 0).2.map (· + 1) ∧
      r.unknowns = [] ∧ r.diags = st1.diags :=
  ⟨_, tex2txt_special_text ⟨⟨hdefs, hextr, hinit⟩, hrepl, hunkn⟩ thresh src hwf hnl h hlines hf,
    rfl, rfl, rfl, rfl⟩

/-! ### the hypotheses can be met

  Small concrete tables (`PlainExample.tinyT` with `\%` and `\,` added and the real values of `~`, `--`, `---`); the real tables are used
  in the recorded `#eval`s below only, so that this file does not depend on the generated file. -/

namespace SpecialExample
open PlainExample

def tinyS : PTables :=
  { tinyT with
    special := [("---".toList, "—".toList), ("--".toList, "–".toList),
                ("\\\\".toList, " ".toList), ("~".toList, "\u00a0".toList), ("{".toList, []),
                ("}".toList, []), ("$".toList, []), ("&".toList, " ".toList), ("_".toList, []),
                ("^".toList, []), ("\\%".toList, "%".toList), ("\\,".toList, "\u202f".toList)]
    specialSorted := ["---".toList, "--".toList, "\\\\".toList, "\\%".toList, "\\,".toList,
                      "~".toList, "{".toList, "}".toList, "$".toList, "&".toList, "_".toList,
                      "^".toList] }

def stS : PState := initialState tinyS oEn false []
def text3 : Str := "A -- B~C, 100\\% sure.".toList
def text4 : Str := "x\n ~ \ny".toList

theorem tinyS_wf : tinyS.toTables.WFScan where
  special_nonempty := by decide
  sorted := by decide
  keys := by
    have h1 : ∀ k ∈ tinyS.toTables.specialSorted, k ∈ tinyS.toTables.special.map (·.1) := by decide
    have h2 : ∀ k ∈ tinyS.toTables.special.map (·.1), k ∈ tinyS.toTables.specialSorted := by decide
    exact fun k => ⟨h1 k, h2 k⟩
  mark_nonempty := by decide

theorem tinyS_noNl : ∀ e ∈ tinyS.special, hasNl e.2 = false := by decide

theorem initParser_tinyS : initParser tinyS 30 oEn (initialState tinyS oEn false []) = .ok ((), stS) := by
  with_unfolding_all rfl

theorem text3_spec : specText tinyS stS text3 = true := by decide
theorem text3_lines : linesOK tinyS.toTables text3 = true := by decide

/-- `--` ↦ en dash at the position of the first `-`, `~` ↦ no-break space, `\%` ↦ `%` at the
    position of the backslash, everything else copied -/
theorem text3_ref : refSpecial tinyS.toTables text3 0
    = ("A – B C, 100% sure.".toList,
       [0, 1, 2, 4, 5, 6, 7, 8, 9, 10, 11, 12, 13, 15, 16, 17, 18, 19, 20]) := by decide

/-- the end-to-end statement applies (21 characters, fuel 30) -/
example : ∃ r, tex2txt tinyS 30 text3 oEn false 0 [] = .ok r ∧
    r.txt = "A – B C, 100% sure.".toList ∧
    r.pos = [1, 2, 3, 5, 6, 7, 8, 9, 10, 11, 12, 13, 14, 16, 17, 18, 19, 20, 21] ∧
    r.unknowns = [] ∧ r.diags = [] := by
  obtain ⟨r, h1, h2, h3, h4, h5⟩ := tex2txt_special tinyS oEn [] 0 text3 30 stS tinyS_wf tinyS_noNl
    rfl rfl rfl rfl initParser_tinyS text3_spec text3_lines (by decide)
  refine ⟨r, h1, ?_, ?_, h4, h5⟩
  · rw [h2, text3_ref]
  · rw [h3, text3_ref]; rfl

/-- the keys of the class; the dispatched ones are excluded -/
example : (tinyS.special.map (·.1)).filter (plainSpecialKey tinyS.toTables)
    = ["---", "--", "~", "&", "_", "^", "\\%", "\\,"].map String.toList := by decide

/-- `linesOK` is needed: the line ` ~ ` consists of white space and an Action token, it is deleted
    by the model (and by Python), the reference keeps it -/
example : specText tinyS stS text4 = true ∧ linesOK tinyS.toTables text4 = false := by decide
example : (refSpecial tinyS.toTables text4 0).1 = "x\n   \ny".toList := by decide

/-- the class admits an active character of the language settings (`"` for 'de') in front of a
    special sequence as long as both together are no short macro; it rejects `"a` (a short
    macro), the dispatched keys, macros and comments -/
example : specText tinyS (initialState tinyS oDe false []) "sag \"--\" nie".toList = true := by decide
example : specText tinyS (initialState tinyS oDe false []) "\"a".toList = false := by decide
example : specText tinyS stS "a{b}".toList = false := by decide
example : specText tinyS stS "a\\\\b".toList = false := by decide
example : specText tinyS stS "a\\foo".toList = false := by decide
example : specText tinyS stS "50% x".toList = false := by decide

/-
  With the real tables (`import YalafiVerif.Generated.Tables`, `T := Generated.theTables`,
  `o := { lang := "en".toList }`, `st1` = the state after `initParser T 1000 o`), `#eval` gives:

  * keys with `plainSpecialKey T.toTables k = true` (24 of 32):
      & _ ^ \) \] ~ `` '' -- --- "\ " "\<tab>" "\<newline>" \, \: \; \! \{ \} \$ \# \& \_ \%
    not in the class: { } $$ $ # \( \[ \\   (`#` is scanned by `scan_arg_token`, the others are
    dispatched on by `expandSequence` before the `.special` branch).
  * `T.toTables.special.all (fun e => !hasNl e.2) = true` (hypothesis `hnl`);
    `Generated.wfScan : theTables.toTables.WFScan` (hypothesis `hwf`).
  * "A -- B~C, 100\% sure." : in the class, `linesOK`; `tex2txt T 1000 … o false 3 []` returns
      "A – B C, 100% sure." (en dash, no-break space) with the positions
      [1,2,3,5,6,7,8,9,10,11,12,13,14,16,17,18,19,20,21] = `refSpecial`, no unknowns, no diagnostics.
  * "``quoted'' --- a\,b \& c \$ d \# e \_ f \{ g \}" : in the class, `linesOK`, output = reference
      “quoted” — a b & c $ d # e _ f { g }  (narrow no-break space for `\,`).
  * "a\!b \<newline>c" ↦ "ab  c", positions [1,4,5,6,8] (`\!` has the empty value; the key
    `\<newline>` contains a line break, its value is a blank) : output = reference.
  * `linesOK` is sharp on the examples tried: "x\n ~ \ny" ↦ "x\ny" (positions [1,2,7]),
    "x\n \! \ny" ↦ "x\ny", "~" ↦ "", "\n~\n" ↦ "\n" — in the class, not `linesOK`, and the
    output differs from the reference; "x\n -- \ny" ↦ "x\n – \ny" and "a~\n~b" ↦ "a \n b" are
    `linesOK` and agree with the reference.
  * 'de': "Er sagte \"--\" und \" a" is in the class (output: en dash between the quotes);
    "Er sagte \"--\" und \"a" is not (`"a` is a short macro, it yields `ä`).
-/

end SpecialExample

/-! ### token lists in the line automaton, as triples

  `LineTo P Q ts`: from a state with `P`, over the items of `ts` that the pass keeps, `lineRun` reaches
  a state with `Q` (and does not reject).  Three conditions occur: any state, `LOk` (no pure Action
  line: what `removeLines_of_lineRun` asks for), `LVis` (behind visible text). -/

def LineTo (P Q : Option Bool → Prop) (ts : List Tok) : Prop :=
  ∀ (σ : Option Bool) (tail : List LItem), tail ≠ [] → P σ →
    ∃ σ', Q σ' ∧ lineRun σ ((ts.filter keepIn).map evalTok ++ tail) = lineRun σ' tail

def LAny (_ : Option Bool) : Prop := True
def LOk (σ : Option Bool) : Prop := σ ≠ some true
def LVis (σ : Option Bool) : Prop := σ = none

theorem LVis.ok {σ : Option Bool} (h : LVis σ) : LOk σ := by rw [h]; exact nofun

namespace LineTo
variable {P Q R : Option Bool → Prop} {as bs ts : List Tok} {t : Tok}

theorem nil : LineTo P P [] := fun σ _ _ h => ⟨σ, h, rfl⟩

theorem append (a : LineTo P Q as) (b : LineTo Q R bs) : LineTo P R (as ++ bs) := by
  intro σ tail ht hσ
  obtain ⟨σ1, h1, e1⟩ := a σ ((bs.filter keepIn).map evalTok ++ tail) (by simp [ht]) hσ
  obtain ⟨σ2, h2, e2⟩ := b σ1 tail ht h1
  exact ⟨σ2, h2, by rw [List.filter_append, List.map_append, List.append_assoc, e1, e2]⟩

theorem cons (a : LineTo P Q [t]) (b : LineTo Q R ts) : LineTo P R (t :: ts) := a.append b

theorem mono {P' Q' : Option Bool → Prop} (h : LineTo P Q ts) (hp : ∀ σ, P' σ → P σ)
    (hq : ∀ σ, Q σ → Q' σ) : LineTo P' Q' ts := fun σ tail ht hσ =>
  let ⟨σ', h1, e⟩ := h σ tail ht (hp σ hσ); ⟨σ', hq σ' h1, e⟩

theorem single (hk : keepIn t = true) (f : Option Bool → Option Bool)
    (h : ∀ σ tail, tail ≠ [] → lineRun σ (evalTok t :: tail) = lineRun (f σ) tail)
    (hf : ∀ σ, P σ → Q (f σ)) : LineTo P Q [t] := fun σ tail ht hσ =>
  ⟨f σ, hf σ hσ, by
    simp only [List.filter_cons, hk, if_true, List.filter_nil, List.map_cons, List.map_nil,
      List.cons_append, List.nil_append]
    exact h σ tail ht⟩

theorem skip (hk : keepIn t = false) : LineTo P P [t] := fun σ _ _ h =>
  ⟨σ, h, by simp [hk]⟩

theorem action (hk : t.kind = .action) (hf : ∀ σ, P σ → Q (σ.map fun _ => true)) : LineTo P Q [t] :=
  single (by simp [keepIn, isAction, hk]) _ (lineRun_action t hk) hf

theorem text (hk : t.kind = .text) (hn : hasNl t.txt = false)
    (hf : ∀ σ, P σ → Q (if isBlank t.txt then σ else none)) : LineTo P Q [t] := by
  by_cases hkeep : keepIn t = true
  · exact single hkeep _ (lineRun_txt t hk hn) hf
  · have hk' : keepIn t = false := by simpa using hkeep
    have he : t.txt = [] := by
      simp only [keepIn, Bool.or_eq_false_iff, Bool.not_eq_false', List.isEmpty_iff] at hk'
      exact hk'.1.1
    exact (skip hk').mono (fun _ h => h) (fun σ h => by simpa [he, isBlank] using hf σ h)

theorem actionAny (hk : t.kind = .action) : LineTo LAny LAny [t] := action hk fun _ _ => trivial

theorem actionVis (hk : t.kind = .action) : LineTo LVis LVis [t] :=
  action hk fun σ (h : σ = none) => by rw [h]; rfl

theorem visible (hk : t.kind = .text) (hn : hasNl t.txt = false) (hb : isBlank t.txt = false) :
    LineTo LAny LVis [t] := text hk hn fun σ _ => by rw [hb]; rfl

theorem textVis (hk : t.kind = .text) (hn : hasNl t.txt = false) : LineTo LVis LVis [t] :=
  text hk hn fun σ (h : σ = none) => by rw [h]; exact ite_self _

theorem blank (hk : t.kind = .space ∨ t.kind = .par) (hw : isBlank t.txt = true)
    (hn : hasNl t.txt = false) : LineTo P P [t] := by
  by_cases hkeep : keepIn t = true
  · refine single hkeep id (fun σ tail ht => ?_) (fun _ h => h)
    rw [lineRun_ws t hk hw σ tail ht, hn]; rfl
  · exact skip (by simpa using hkeep)

/-- a white-space token: its line break closes a line that is no pure Action line -/
theorem ws (hk : t.kind = .space ∨ t.kind = .par) (hw : isBlank t.txt = true) : LineTo LOk LOk [t] := by
  by_cases hkeep : keepIn t = true
  · intro σ tail ht hσ
    have hσ' : (σ == some true) = false := by
      cases σ with
      | none => rfl
      | some a => cases a <;> simp [LOk] at hσ ⊢
    refine ⟨if hasNl t.txt then some false else σ, by split; exact nofun; exact hσ, ?_⟩
    simp only [List.filter_cons, hkeep, if_true, List.filter_nil, List.map_cons, List.map_nil,
      List.cons_append, List.nil_append]
    rw [lineRun_ws t hk hw σ tail ht, hσ']
    split <;> rfl
  · exact skip (by simpa using hkeep)

/-- what ends behind visible text, wherever it starts, keeps off a pure Action line -/
theorem ok (h : LineTo LAny LVis ts) : LineTo LOk LOk ts := h.mono (fun _ _ => trivial) fun _ => LVis.ok

theorem all (h : ∀ t ∈ ts, LineTo P P [t]) : LineTo P P ts := by
  induction ts with
  | nil => exact nil
  | cons t ts ih => exact (h t (by simp)).cons (ih fun x hx => h x (by simp [hx]))

theorem opt (b : Prop) [Decidable b] (h : LineTo P P ts) : LineTo P P (if b then ts else []) := by
  split
  · exact h
  · exact nil

theorem removeLines (h : LineTo LOk LOk ts) : removeLines ts = some (ts.filter keepOut) :=
  removeLines_of_lineRun fun tail ht => h (some false) tail ht nofun

end LineTo

end Yalafi
