/-
  Proofs/NoEmptyHandlerC.lean — NoEmpty bundle: one lemma per handler of `callHandler`, part C
  (package cleveref: `crefWarn`, `readSed`, `cref`, `crefrange`).
-/
import YalafiVerif.Proofs.NoEmptyBase1
import YalafiVerif.Proofs.NoEmptyBase2
namespace Yalafi
namespace NoEmpty
open M

set_option linter.unusedVariables false

variable {T : PTables}

private theorem crefToks_spec (hw : T.WFInv) {st0 s : PState} (h0 : Fr T st0 s) (str : Str) (pos : Nat)
    (hp : pos < st0.latex.length) (h : Handler) :
    Post' (crefToks T str pos s) (fun r s' => Fr T st0 s' ∧ HRes T st0.latex.length h r) := by
  unfold crefToks
  apply Post'_bind _ _ _ (fun _ s' => Fr T st0 s')
  · exact Post'_modify _ _ _ ⟨StOk_congr h0.1 rfl rfl rfl, h0.2⟩
  · intro _ s' hs'
    refine Post'_pure _ _ _ ⟨hs', HRes_of_ANE ?_⟩
    intro x hx
    obtain ⟨t, ht, rfl⟩ := List.mem_map.1 hx
    exact NE_restamp (ANE_ANE0 (scan_ANE hw str) t ht) hp

private theorem defineSedMacro_spec (hw : T.WFInv) (m : Cleveref.SedMacro) (st : PState) (hs : StOk T st) :
    Post' (defineSedMacro T m st) (fun _ st' => Fr T st st') := by
  unfold defineSedMacro
  apply Post'_bind _ _ _ (fun _ s' => Fr T st s')
  · exact Post'_modify _ _ _ ⟨StOk_congr hs rfl rfl rfl, rfl⟩
  · intro _ s hfr
    generalize List.find? _ (scan T.toTables m.repl).toks = o
    cases o with
    | some bad => exact Post'_fatal _ _ _
    | none =>
      dsimp only
      refine Post'_modify _ _ _ ⟨StOk_setMacro s _ hfr.1 ⟨?_, ?_, ?_⟩ rfl, hfr.2⟩
      · exact ANE_ANE0 (scan_ANE hw m.repl)
      · intro d hd; cases hd
      · exact ANE0_nil

private theorem forM_sed_spec (hw : T.WFInv) (ms : List Cleveref.SedMacro) (st0 st : PState) (hs : Fr T st0 st) :
    Post' (ms.forM (defineSedMacro T) st) (fun _ s => Fr T st0 s) := by
  induction ms generalizing st with
  | nil => exact Post'_pure (α := PUnit) _ _ _ hs
  | cons m rest ih =>
    apply Post'_bind (β := PUnit) _ (fun _ => rest.forM _) _ (Q := fun _ s => Fr T st0 s)
    · exact Post'_mono _ _ _ (defineSedMacro_spec hw m st hs.1) (fun _ s h => hs.trans h)
    · intro _ s h
      exact ih s h

private theorem crefMacros_ok (ls : List Cleveref.SedLine) :
    ∀ m ∈ crefMacros ls, MacOk T m ∧ isFront m.handler = false := by
  intro m hm
  simp only [crefMacros, List.mem_cons, List.not_mem_nil, or_false] at hm
  rcases hm with rfl | rfl | rfl | rfl <;>
    exact ⟨⟨ANE0_nil, fun d hd => (by cases hd), ANE0_nil⟩, rfl⟩

private theorem readSedText_spec (hw : T.WFInv) (sed : Str) (st : PState) (hs : StOk T st) :
    Post' (readSedText T sed st) (fun _ st' => Fr T st st') := by
  unfold readSedText
  apply Post'_bind _ _ _ (fun _ s => Fr T st s)
  · exact forM_sed_spec hw _ st st (Fr.refl hs)
  · intro _ s hfr
    refine Post'_modify _ _ _ ⟨⟨?_, hfr.1.envs, hfr.1.gloss⟩, hfr.2⟩
    intro m hm
    rcases foldl_setMacro_mem _ _ m hm with h | h
    · exact hfr.1.macros m h
    · exact crefMacros_ok _ m h

theorem handler_crefWarn (hne : tblOkB T = true) (hw : T.WFInv) (fuel : Nat) (IH : AllSpecs T fuel)
    (buf : Buf) (mac : MacroDef) (args : List (List Tok)) (pos : Nat) (st : PState) (hs : StOk T st)
    (ha : ∀ a ∈ args, ANE T st.latex.length a) (hp : pos < st.latex.length) :
    Post' (callHandler T (fuel + 1) .crefWarn buf mac args pos st)
      (fun r st' => Fr T st st' ∧ HRes T st.latex.length .crefWarn r) := by
  unfold callHandler
  simp only []
  exact latexError_sub (Fr.refl hs) _ _ hp _

theorem handler_readSed (hne : tblOkB T = true) (hw : T.WFInv) (fuel : Nat) (IH : AllSpecs T fuel)
    (buf : Buf) (mac : MacroDef) (args : List (List Tok)) (pos : Nat) (st : PState) (hs : StOk T st)
    (ha : ∀ a ∈ args, ANE T st.latex.length a) (hp : pos < st.latex.length) :
    Post' (callHandler T (fuel + 1) .readSed buf mac args pos st)
      (fun r st' => Fr T st st' ∧ HRes T st.latex.length .readSed r) := by
  unfold callHandler
  simp only []
  refine Post'_get_bind _ st _ ?_
  refine Post'_ite _ _ _ _ _ (fun _ => ?_) (fun _ => ?_)
  · exact Post'_pure _ _ _ ⟨Fr.refl hs, HRes_of_ANE (ANE_nil _)⟩
  · refine Post'_argBind args 0 _ st _ (fun a0 h0 _ => ?_)
    refine Post'_bind _ _ _ _ _ (text_sub IH (Fr.refl hs) a0 (ha a0 h0)) (fun file s hfr => ?_)
    refine Post'_get_bind _ s _ ?_
    cases hf : List.find? (fun x => x.fst == file) s.fs with
    | none => exact latexError_sub hfr _ _ hp _
    | some f =>
      dsimp only
      refine Post'_bind _ _ _ (fun _ s' => Fr T st s') _ ?_ ?_
      · exact Post'_mono _ _ _ (readSedText_spec hw f.2 s hfr.1) (fun _ s' h => hfr.trans h)
      · intro _ s' h
        exact Post'_pure _ _ _ ⟨h, HRes_of_ANE (ANE_nil _)⟩

theorem handler_cref (plain star : List (Str × Str)) (hne : tblOkB T = true) (hw : T.WFInv) (fuel : Nat)
    (IH : AllSpecs T fuel)
    (buf : Buf) (mac : MacroDef) (args : List (List Tok)) (pos : Nat) (st : PState) (hs : StOk T st)
    (ha : ∀ a ∈ args, ANE T st.latex.length a) (hp : pos < st.latex.length) :
    Post' (callHandler T (fuel + 1) (.cref plain star) buf mac args pos st)
      (fun r st' => Fr T st st' ∧ HRes T st.latex.length (.cref plain star) r) := by
  unfold callHandler
  simp only []
  refine Post'_argBind args 0 _ st _ (fun a0 h0 _ => ?_)
  refine Post'_argBind args 1 _ st _ (fun a1 h1 _ => ?_)
  generalize Cleveref.lookupLast _ (getTextDirect a1) = o
  cases o with
  | some str => exact crefToks_spec hw (Fr.refl hs) _ _ hp _
  | none => exact latexError_sub (Fr.refl hs) _ _ hp _

theorem handler_crefrange (plain star : List ((Str × Str) × Str)) (hne : tblOkB T = true) (hw : T.WFInv)
    (fuel : Nat) (IH : AllSpecs T fuel)
    (buf : Buf) (mac : MacroDef) (args : List (List Tok)) (pos : Nat) (st : PState) (hs : StOk T st)
    (ha : ∀ a ∈ args, ANE T st.latex.length a) (hp : pos < st.latex.length) :
    Post' (callHandler T (fuel + 1) (.crefrange plain star) buf mac args pos st)
      (fun r st' => Fr T st st' ∧ HRes T st.latex.length (.crefrange plain star) r) := by
  unfold callHandler
  simp only []
  refine Post'_argBind args 0 _ st _ (fun a0 h0 _ => ?_)
  refine Post'_argBind args 1 _ st _ (fun a1 h1 _ => ?_)
  refine Post'_argBind args 2 _ st _ (fun a2 h2 _ => ?_)
  generalize Cleveref.lookupLast _ (getTextDirect a1, getTextDirect a2) = o
  cases o with
  | some str => exact crefToks_spec hw (Fr.refl hs) _ _ hp _
  | none => exact latexError_sub (Fr.refl hs) _ _ hp _

end NoEmpty
end Yalafi
