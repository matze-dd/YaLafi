/-
  Proofs/NoEmptyTop.lean — from the bundle (`∀ fuel, AllSpecs T fuel`) to `initParser`, `parse`, `tex2txt`:
  the whole filter model never ends in `.crash "glossaries.py:cap_first:txt[0]"`.
-/
import YalafiVerif.Proofs.NoEmptyBase1
import YalafiVerif.Proofs.NoEmptyBase2
namespace Yalafi
namespace NoEmpty

open M

variable {T : PTables}

theorem Post'_iff {α} (x : Outcome (α × PState)) (Q : α → PState → Prop) :
    Post' x Q ↔ PostC (· ≠ site) x Q := by
  rcases x with ⟨a, s⟩ | _ | _ | _ <;> exact Iff.rfl

theorem run_StOk (hne : tblOkB T = true) (hw : T.WFInv) {fuel : Nat} (A : AllSpecs T fuel) (latex : Str)
    (o : Options) (multi : Bool) (fs : FS) :
    PostC (· ≠ site) (runT2T T fuel latex o multi fs) (fun _ s => StOk T s) :=
  PostC.bind
    (initParser_inv (StOk T) (ModOk T)
      (fun name md b hmd st hs => ((Post'_iff _ _).1 (A.init name md b [] 0 st hs hmd)).mono fun _ _ h => h.1.1)
      (builtinModule_ModOk hne o) (getPackages_ModOk hne) _ (initialState_StOk o multi fs))
    fun _ s hs => parse_inv (StOk T)
      (fun latex st hs => ((Post'_iff _ _).1 (A.work latex st hs)).mono fun _ _ h => h.1.1)
      (fun st ex hs => initExtractions_StOk hw st ex hs)
      (fun _ hs => StOk_congr hs rfl rfl rfl) (fun _ hs => StOk_congr hs rfl rfl rfl) _ _ _ s hs

theorem tex2txt_noCapFirst (hne : tblOkB T = true) (hw : T.WFInv) (H : ∀ fuel, AllSpecs T fuel)
    (fuel : Nat) (latex : Str) (o : Options) (multi : Bool) (thresh : Nat) (fs : FS) :
    tex2txt T fuel latex o multi thresh fs ≠ .crash site :=
  fun h => tex2txt_crash_of_run (C := (· ≠ site)) (by simp [site])
    ((run_StOk hne hw (H fuel) latex o multi fs).mono fun _ _ _ => trivial) h rfl

end NoEmpty
end Yalafi
