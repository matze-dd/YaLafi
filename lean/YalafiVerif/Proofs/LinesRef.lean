/-
  Proofs/LinesRef.lean — the blank-line removal (`Parser.remove_pure_action_lines`), exactly, on the
  level of characters with positions.

  The reference is stated twice.  `PlainMacro.delLines` works on characters and Action marks: a line
  (with its line break) is deleted iff it is blank and holds an Action mark.  In multi-language mode
  the expander leaves `LanguageToken`s in its output; the removal treats them like empty text,
  except that the language tokens of a deleted line are kept: `LinesLang.delLines` works on *items*
  (a character or a language token) and Action marks.  The theorem is proved for the second
  (`LinesLang.removeLines_items`: induction on the relational form `LinesRel` of the loop with the
  invariant `WL` on the work list, whose meaning on the level of items is `specW`); on marks without
  language tokens the two references agree (`LinesLang.delGo_plain`), which gives the first
  (`PlainMacro.removeLines_simple`).

  namespace `PlainMacro`
    `tokChars`, `firstPart`, `afterPart`, `parts_nl`, `trimLast_nl`   the characters of a token and of
                   its trimmed versions
    `Mark`, `tokMarks`, `marksOf`, `charsOf`, `delGo`, `delLines`     the reference without language tokens
    `Simple`       an Action token has no text, there is no language token, a token with a line break
                   is blank
    `removeLines_simple`   `charsOf (removeLines ts) = delLines (marksOf ts)` for simple tokens
  namespace `LinesLang`
    `Item`         a character with its position, or a language token
    `Mark`         an item, or the mark of an Action token
    `delGo`, `delLines`   the reference: a line (with its line break) is deleted iff it is blank and
                   holds an Action mark; the language tokens of a deleted line are kept, in order
    `Simple`       Action and language tokens have no text; a token with a line break is blank
    `removeLines_items`   `itemsOf (removeLines ts) = delLines (marksOf ts)` for simple tokens
    `delGo_plain`, `marksOf_plain`, `charsOf_of_items`   marks, reference and items without language tokens
  `PlainSetup.of_simple`, `PlainSetup.of_run`, `tex2txt_of_parse_chars`   text and positions of `tex2txt` as characters of
                               tokens; `of_run`: from the scanner's steps and a run of the loop that empties the buffer
-/
import YalafiVerif.Proofs.Plain
namespace Yalafi

namespace PlainMacro

def tokChars (t : Tok) : List (Char × Nat) := t.txt.zip (tokPositions t)

def Blank (l : List (Char × Nat)) : Prop := ∀ cp ∈ l, isSpace cp.1 = true
def NoNl (l : List (Char × Nat)) : Prop := ∀ cp ∈ l, (cp.1 == nl) = false

theorem all_of_Blank {l : List (Char × Nat)} (h : Blank l) : l.all (fun cp => isSpace cp.1) = true := by
  rw [List.all_eq_true]; exact h

theorem tokChars_fst (t : Tok) : (tokChars t).map (·.1) = t.txt := by
  unfold tokChars
  rw [List.map_fst_zip]
  rw [tokPositions_length]; exact Nat.le_refl _

theorem mem_tokChars {t : Tok} {cp : Char × Nat} (h : cp ∈ tokChars t) : cp.1 ∈ t.txt :=
  (List.of_mem_zip h).1

theorem tokChars_split (t : Tok) (u a : Str) (h : t.txt = u ++ a) :
    tokChars t = u.zip (posOf t.fix t.pos u.length) ++
      a.zip (posOf t.fix (if t.fix then t.pos else t.pos + u.length) a.length) := by
  unfold tokChars
  rw [tokPositions_eq, h, List.length_append, posOf_add, List.zip_append (posOf_length ..).symm]

def firstPart (t : Tok) : List (Char × Nat) := tokChars (trimFirst t)
def afterPart (t : Tok) : List (Char × Nat) := (tokChars t).drop (firstPart t).length

theorem tokChars_parts (t : Tok) : tokChars t = firstPart t ++ afterPart t := by
  unfold afterPart firstPart
  cases hn : hasNl t.txt with
  | true =>
    rw [tokChars_split t _ _ (split_last t.txt).symm]
    have : tokChars (trimFirst t)
        = (uptoLastNl t.txt).zip (posOf t.fix t.pos (uptoLastNl t.txt).length) := by
      simp [tokChars, trimFirst, hn, tokPositions_eq]
    rw [this, List.drop_left]
  | false =>
    have : tokChars (trimFirst t) = [] := by simp [tokChars, trimFirst, hn]
    rw [this]; simp

theorem firstPart_noNl (t : Tok) (hn : hasNl t.txt = false) : firstPart t = [] := by
  simp [firstPart, tokChars, trimFirst, hn]

theorem blank_tokChars (t : Tok) (hb : isBlank t.txt = true) : Blank (tokChars t) := by
  intro cp hcp
  unfold isBlank at hb
  rw [List.all_eq_true] at hb
  exact hb _ (mem_tokChars hcp)

theorem map_eq_snoc {α β} (f : α → β) (l : List α) (w : List β) (x : β) (h : l.map f = w ++ [x]) :
    ∃ W y, l = W ++ [y] ∧ W.map f = w ∧ f y = x := by
  obtain ⟨l1, l2, e, h1, h2⟩ := List.map_eq_append_iff.mp h
  match l2, h2 with
  | [y], h2 => exact ⟨l1, y, e, h1, by simpa using h2⟩

theorem dropWhile_ne_mem : ∀ (l : List Char), nl ∈ l → ∃ xs, l.dropWhile (· != nl) = nl :: xs
  | [], h => by simp at h
  | c :: cs, h => by
    by_cases hc : c = nl
    · subst hc; exact ⟨cs, by simp⟩
    · have : nl ∈ cs := by
        rcases List.mem_cons.mp h with e | e
        · exact absurd e.symm hc
        · exact e
      obtain ⟨xs, hx⟩ := dropWhile_ne_mem cs this
      exact ⟨xs, by simp [hc, hx]⟩

theorem uptoLastNl_snoc (s : Str) (hn : hasNl s = true) : ∃ w, uptoLastNl s = w ++ [nl] := by
  unfold uptoLastNl
  have hmem : nl ∈ s.reverse := by
    simpa [hasNl] using hn
  obtain ⟨xs, hd⟩ := dropWhile_ne_mem s.reverse hmem
  exact ⟨xs.reverse, by rw [hd]; simp⟩

theorem parts_nl (t : Tok) (hn : hasNl t.txt = true) (hb : isBlank t.txt = true) :
    (∃ W nlp, firstPart t = W ++ [nlp] ∧ (nlp.1 == nl) = true) ∧ Blank (firstPart t) ∧
    Blank (afterPart t) ∧ NoNl (afterPart t) := by
  have hall := blank_tokChars t hb
  have hparts := tokChars_parts t
  have hB1 : Blank (firstPart t) := fun cp h => hall cp (by rw [hparts]; simp [h])
  have hB2 : Blank (afterPart t) := fun cp h => hall cp (by rw [hparts]; simp [h])
  refine ⟨?_, hB1, hB2, ?_⟩
  · obtain ⟨w, hw⟩ := uptoLastNl_snoc t.txt hn
    have : (firstPart t).map (·.1) = w ++ [nl] := by
      unfold firstPart
      rw [tokChars_fst]
      simp [trimFirst, hn, hw]
    obtain ⟨W, y, e, _, hy⟩ := map_eq_snoc _ _ _ _ this
    exact ⟨W, y, e, by simp [hy]⟩
  · have hfst : (afterPart t).map (·.1) = afterLastNl t.txt := by
      have h1 := congrArg (List.map (·.1)) hparts
      rw [tokChars_fst, List.map_append] at h1
      have h2 : (firstPart t).map (·.1) = uptoLastNl t.txt := by
        unfold firstPart; rw [tokChars_fst]; simp [trimFirst, hn]
      rw [h2] at h1
      exact (List.append_cancel_left ((split_last t.txt).trans h1)).symm
    intro cp hcp
    have : cp.1 ∈ afterLastNl t.txt := by rw [← hfst]; exact List.mem_map_of_mem hcp
    unfold afterLastNl at this
    rw [List.mem_reverse] at this
    have := mem_takeWhile_imp _ _ _ this
    simpa using this

theorem trimLast_nl (t : Tok) (hn : hasNl t.txt = true) (hb : isBlank t.txt = true) :
    ∃ B nlp, tokChars t = B ++ nlp :: tokChars (trimLast t) ∧ (nlp.1 == nl) = true ∧
      Blank B ∧ NoNl B := by
  have hall := blank_tokChars t hb
  have e : t.txt = (beforeFirstNl t.txt ++ [nl]) ++ afterFirstNl t.txt := by
    simpa using (split_first t.txt hn).symm
  have hsplit := tokChars_split t _ _ e
  have h2 : tokChars (trimLast t)
      = (afterFirstNl t.txt).zip (posOf t.fix (if t.fix then t.pos else t.pos + (beforeFirstNl t.txt ++ [nl]).length)
          (afterFirstNl t.txt).length) := by
    simp [tokChars, trimLast, hn, tokPositions_eq]
  rw [← h2] at hsplit
  have hfst : ((beforeFirstNl t.txt ++ [nl]).zip
      (posOf t.fix t.pos (beforeFirstNl t.txt ++ [nl]).length)).map (·.1) = beforeFirstNl t.txt ++ [nl] := by
    rw [List.map_fst_zip]; rw [posOf_length]; exact Nat.le_refl _
  obtain ⟨B, nlp, eB, hBf, hy⟩ := map_eq_snoc _ _ _ _ hfst
  rw [eB] at hsplit
  refine ⟨B, nlp, by rw [hsplit]; simp, by simp [hy], ?_, ?_⟩
  · intro cp hcp; exact hall cp (by rw [hsplit]; simp [hcp])
  · intro cp hcp
    have : cp.1 ∈ beforeFirstNl t.txt := by rw [← hBf]; exact List.mem_map_of_mem hcp
    have := mem_takeWhile_imp _ _ _ this
    simpa using this

theorem trimLast_noNl (t : Tok) (hn : hasNl t.txt = false) : tokChars (trimLast t) = [] := by
  simp [tokChars, trimLast, hn]

theorem tokChars_of_nil (t : Tok) (h : t.txt = []) : tokChars t = [] := by simp [tokChars, h]

theorem noNl_of_hasNl_false (t : Tok) (hn : hasNl t.txt = false) : NoNl (tokChars t) := by
  intro cp hcp
  have := mem_tokChars hcp
  cases hb : cp.1 == nl with
  | false => rfl
  | true =>
    rw [beq_iff_eq] at hb
    rw [hb] at this
    have : hasNl t.txt = true := by simpa [hasNl] using this
    rw [hn] at this; cases this

theorem all_tokChars (t : Tok) : (tokChars t).all (fun cp => isSpace cp.1) = isBlank t.txt := by
  have := tokChars_fst t
  unfold isBlank
  rw [← this, List.all_map]
  rfl

theorem filterMap_map_some {α} (l : List α) : (l.map some).filterMap id = l := by
  induction l with
  | nil => rfl
  | cons a l ih => simp [ih]

theorem any_isNone_map_some {α} (l : List α) : (l.map some).any Option.isNone = false := by
  induction l with
  | nil => rfl
  | cons a l ih => simp [ih]

theorem flatMap_filter_of_nil {α β} (f : α → Bool) (g : α → List β) (h : ∀ a, f a = false → g a = []) :
    ∀ (l : List α), (l.filter f).flatMap g = l.flatMap g
  | [] => rfl
  | a :: l => by
    have ih := flatMap_filter_of_nil f g h l
    cases hf : f a with
    | true => simp [hf, ih]
    | false => simp [hf, ih, h a hf]

/-- a character with its position, or the mark of an Action token -/
abbrev Mark := Option (Char × Nat)

def tokMarks (t : Tok) : List Mark := if isAction t then [none] else (tokChars t).map some
def marksOf (ts : List Tok) : List Mark := ts.flatMap tokMarks
def charsOf (ts : List Tok) : List (Char × Nat) := ts.flatMap tokChars

/-- the reference: `cur` = the characters of the current line so far, `blank` = they are all white
    space, `act` = the line holds an Action mark -/
def delGo : List (Char × Nat) → Bool → Bool → List Mark → List (Char × Nat)
  | cur, blank, act, [] => if blank && act then [] else cur
  | cur, blank, _, none :: xs => delGo cur blank true xs
  | cur, blank, act, some cp :: xs =>
    if cp.1 == nl then (if blank && act then [] else cur ++ [cp]) ++ delGo [] true false xs
    else delGo (cur ++ [cp]) (blank && isSpace cp.1) act xs

def delLines (ms : List Mark) : List (Char × Nat) := delGo [] true false ms

def Simple (t : Tok) : Prop :=
  (isAction t = true → t.txt = []) ∧ isLang t = false ∧ (hasNl t.txt = true → isBlank t.txt = true)

def FItem (i : LItem) : Prop := i = evalTok i.tok ∧ Simple i.tok
/-- the sentinel at the end -/
def EItem (i : LItem) : Prop :=
  i.tok.txt = [] ∧ isAction i.tok = false ∧ isLang i.tok = false ∧ i.cs = false ∧ i.blank = true ∧ i.ce = true

theorem tokMarks_nil (t : Tok) (h : t.txt = []) (ha : isAction t = false) : tokMarks t = [] := by
  simp [tokMarks, ha, tokChars_of_nil t h]

theorem tokMarks_nonaction (t : Tok) (ha : isAction t = false) : tokMarks t = (tokChars t).map some := by
  simp [tokMarks, ha]

theorem tokMarks_action (t : Tok) (ha : isAction t = true) : tokMarks t = [none] := by
  simp [tokMarks, ha]

theorem Simple_of_nil (t : Tok) (h : t.txt = []) (hl : isLang t = false) : Simple t :=
  ⟨fun _ => h, hl, by rw [h]; intro h'; simp [hasNl] at h'⟩

theorem charsOf_cons (t : Tok) (ts : List Tok) : charsOf (t :: ts) = tokChars t ++ charsOf ts := by
  simp [charsOf]

theorem charsOf_append (a b : List Tok) : charsOf (a ++ b) = charsOf a ++ charsOf b := by
  simp [charsOf]

theorem charsOf_filter_keepOut (ts : List Tok) : charsOf (ts.filter keepOut) = charsOf ts :=
  flatMap_filter_of_nil keepOut tokChars (fun t hk => tokChars_of_nil t (keepOut_txt t hk)) ts

theorem item_notLang {i : LItem} (h : FItem i ∨ EItem i) : isLang i.tok = false := by
  rcases h with h | h
  · exact h.2.2.1
  · exact h.2.2.1

theorem getTxtPos_charsOf : ∀ (ts : List Tok),
    getTxtPos ts = ((charsOf ts).map (·.1), (charsOf ts).map (·.2))
  | [] => rfl
  | t :: ts => by
    have h2 : (tokChars t).map (·.2) = tokPositions t := by
      unfold tokChars
      rw [List.map_snd_zip]
      rw [tokPositions_length]; exact Nat.le_refl _
    simp only [getTxtPos, getTxtPos_charsOf ts, charsOf_cons, List.map_append, tokChars_fst, h2]

end PlainMacro

namespace LinesLang

open PlainMacro (tokChars firstPart afterPart tokChars_parts Blank NoNl all_of_Blank blank_tokChars
  parts_nl trimLast_nl trimLast_noNl noNl_of_hasNl_false all_tokChars tokChars_of_nil
  filterMap_map_some any_isNone_map_some flatMap_filter_of_nil EItem)

/-- a character with its position, or a language token -/
abbrev Item := (Char × Nat) ⊕ Tok
/-- an item, or the mark of an Action token (`none`) -/
abbrev Mark := Option Item

def ch (l : List (Char × Nat)) : List Item := l.map Sum.inl

def isLg : Item → Bool
  | .inr _ => true
  | .inl _ => false

def tokItems (t : Tok) : List Item := if isLang t then [.inr t] else ch (tokChars t)
def tokMarks (t : Tok) : List Mark := if isAction t then [none] else (tokItems t).map some
def marksOf (ts : List Tok) : List Mark := ts.flatMap tokMarks
def itemsOf (ts : List Tok) : List Item := ts.flatMap tokItems

/-- the reference: `cur` = the items of the current line so far, `blank` = its characters are all
    white space, `act` = the line holds an Action mark.  At a line break (and at the end) a blank
    line with an Action mark is deleted, except for its language tokens. -/
def delGo : List Item → Bool → Bool → List Mark → List Item
  | cur, blank, act, [] => if blank && act then cur.filter isLg else cur
  | cur, blank, _, none :: xs => delGo cur blank true xs
  | cur, blank, act, some (.inr t) :: xs => delGo (cur ++ [.inr t]) blank act xs
  | cur, blank, act, some (.inl cp) :: xs =>
    if cp.1 == nl then (if blank && act then cur.filter isLg else cur ++ [.inl cp]) ++ delGo [] true false xs
    else delGo (cur ++ [.inl cp]) (blank && isSpace cp.1) act xs

def delLines (ms : List Mark) : List Item := delGo [] true false ms

@[simp] theorem ch_nil : ch [] = [] := rfl
@[simp] theorem ch_append (a b : List (Char × Nat)) : ch (a ++ b) = ch a ++ ch b := by simp [ch]
@[simp] theorem ch_cons (a : Char × Nat) (b : List (Char × Nat)) : ch (a :: b) = .inl a :: ch b := rfl
@[simp] theorem filter_isLg_ch (l : List (Char × Nat)) : (ch l).filter isLg = [] := by
  induction l with
  | nil => rfl
  | cons a l ih => simp [isLg, ih]

theorem delGo_nb : ∀ (ms : List Mark) (cur : List Item) (act : Bool),
    delGo cur false act ms = cur ++ delGo [] false false ms
  | [], cur, act => by simp [delGo]
  | none :: xs, cur, act => by
    rw [delGo, delGo, delGo_nb xs cur true, delGo_nb xs [] true]; simp
  | some (.inr t) :: xs, cur, act => by
    rw [delGo, delGo, delGo_nb xs (cur ++ [(Sum.inr t : Item)]) act, delGo_nb xs ([] ++ [(Sum.inr t : Item)]) false]; simp
  | some (.inl cp) :: xs, cur, act => by
    rw [delGo, delGo]
    by_cases h : (cp.1 == nl) = true
    · simp [h]
    · simp only [h, Bool.false_eq_true, if_false, Bool.false_and]
      rw [delGo_nb xs (cur ++ [(Sum.inl cp : Item)]) act, delGo_nb xs ([] ++ [(Sum.inl cp : Item)]) false]
      simp

theorem delGo_chars : ∀ (cs : List (Char × Nat)) (cur : List Item) (b act : Bool) (X : List Mark),
    NoNl cs → delGo cur b act ((ch cs).map some ++ X)
      = delGo (cur ++ ch cs) (b && cs.all (fun cp => isSpace cp.1)) act X
  | [], cur, b, act, X, _ => by simp
  | cp :: cs, cur, b, act, X, h => by
    have h1 : (cp.1 == nl) = false := h cp (List.mem_cons_self ..)
    simp only [ch_cons, List.map_cons, List.cons_append, delGo, h1, Bool.false_eq_true, if_false]
    rw [delGo_chars cs _ _ act X (fun x hx => h x (List.mem_cons_of_mem _ hx))]
    simp [Bool.and_assoc]


def BlankRun (ms : List Mark) : Prop :=
  ∀ m ∈ ms, m = none ∨ (∃ t, m = some (.inr t)) ∨
    ∃ cp, m = some (.inl cp) ∧ isSpace cp.1 = true ∧ (cp.1 == nl) = false

theorem delGo_blankrun : ∀ (ms : List Mark) (cur : List Item) (act : Bool) (X : List Mark),
    BlankRun ms →
    delGo cur true act (ms ++ X) = delGo (cur ++ ms.filterMap id) true (act || ms.any Option.isNone) X
  | [], cur, act, X, _ => by simp
  | none :: ms, cur, act, X, h => by
    simp only [List.cons_append, delGo]
    rw [delGo_blankrun ms cur true X (fun m hm => h m (List.mem_cons_of_mem _ hm))]
    simp
  | some (.inr t) :: ms, cur, act, X, h => by
    simp only [List.cons_append, delGo]
    rw [delGo_blankrun ms _ act X (fun m hm => h m (List.mem_cons_of_mem _ hm))]
    simp
  | some (.inl cp) :: ms, cur, act, X, h => by
    rcases h (some (.inl cp)) (List.mem_cons_self ..) with h0 | ⟨t, h0⟩ | ⟨cp', e, h1, h2⟩
    · cases h0
    · cases h0
    · cases e
      simp only [List.cons_append, delGo, h2, Bool.false_eq_true, if_false, h1, Bool.and_self]
      rw [delGo_blankrun ms _ act X (fun m hm => h m (List.mem_cons_of_mem _ hm))]
      simp

theorem delGo_keep_nl : ∀ (w : List (Char × Nat)) (cur : List Item) (b act : Bool)
    (nlp : Char × Nat) (X : List Mark), Blank w → (nlp.1 == nl) = true → (b && act) = false →
    delGo cur b act ((ch w).map some ++ some (.inl nlp) :: X)
      = cur ++ ch w ++ [.inl nlp] ++ delGo [] true false X
  | [], cur, b, act, nlp, X, _, hn, hk => by simp [delGo, hn, hk]
  | cp :: w, cur, b, act, nlp, X, hw, hn, hk => by
    have hw' : Blank w := fun x hx => hw x (List.mem_cons_of_mem _ hx)
    simp only [ch_cons, List.map_cons, List.cons_append, delGo]
    by_cases h : (cp.1 == nl) = true
    · simp only [h, if_true, hk, Bool.false_eq_true, if_false]
      rw [delGo_keep_nl w [] true false nlp X hw' hn rfl]
      simp
    · simp only [h, Bool.false_eq_true, if_false]
      rw [delGo_keep_nl w _ (b && isSpace cp.1) act nlp X hw' hn
        (by rw [Bool.and_right_comm, hk, Bool.false_and])]
      simp

def Simple (t : Tok) : Prop :=
  ((isAction t = true ∨ isLang t = true) → t.txt = []) ∧ (hasNl t.txt = true → isBlank t.txt = true)

theorem Simple.toMacro {t : Tok} (h : Simple t) (hl : isLang t = false) : PlainMacro.Simple t :=
  ⟨fun ha => h.1 (Or.inl ha), hl, h.2⟩

theorem tokItems_notLang (t : Tok) (h : isLang t = false) : tokItems t = ch (tokChars t) := by
  simp [tokItems, h]

theorem tokItems_lang (t : Tok) (h : isLang t = true) : tokItems t = [.inr t] := by
  simp [tokItems, h]

theorem tokItems_of_nil (t : Tok) (h : t.txt = []) (hl : isLang t = false) : tokItems t = [] := by
  simp [tokItems, hl, tokChars_of_nil t h]

theorem tokMarks_nil (t : Tok) (h : t.txt = []) (ha : isAction t = false) (hl : isLang t = false) :
    tokMarks t = [] := by
  simp [tokMarks, ha, tokItems_of_nil t h hl]

theorem tokMarks_chars (t : Tok) (ha : isAction t = false) (hl : isLang t = false) :
    tokMarks t = (ch (tokChars t)).map some := by
  simp [tokMarks, ha, tokItems_notLang t hl]

theorem tokMarks_lang (t : Tok) (ha : isAction t = false) (hl : isLang t = true) :
    tokMarks t = [some (.inr t)] := by
  simp [tokMarks, ha, tokItems_lang t hl]

theorem tokMarks_action (t : Tok) (ha : isAction t = true) : tokMarks t = [none] := by
  simp [tokMarks, ha]

theorem marksOf_append (a b : List Tok) : marksOf (a ++ b) = marksOf a ++ marksOf b := by
  simp [marksOf]

theorem marksOf_cons (t : Tok) (b : List Tok) : marksOf (t :: b) = tokMarks t ++ marksOf b := by
  simp [marksOf]

theorem not_action_of_lang (t : Tok) (h : isLang t = true) : isAction t = false := by
  unfold isLang at h
  unfold isAction
  split at h
  · rename_i hk; simp [hk]
  · cases h

theorem not_lang_of_action (t : Tok) (h : isAction t = true) : isLang t = false := by
  cases hl : isLang t with
  | false => rfl
  | true => rw [not_action_of_lang t hl] at h; cases h

theorem delGo_ntok (t : Tok) (hn : hasNl t.txt = true) (hb : isBlank t.txt = true)
    (cur : List Item) (b : Bool) (X : List Mark) :
    delGo cur b false ((ch (tokChars t)).map some ++ X)
      = cur ++ ch (firstPart t) ++ delGo (ch (afterPart t)) true false X := by
  obtain ⟨⟨W, nlp, eW, hnl⟩, hB1, hB2, hN2⟩ := parts_nl t hn hb
  have hBW : Blank W := fun cp h => hB1 cp (by rw [eW]; simp [h])
  rw [tokChars_parts t, eW]
  simp only [ch_append, ch_cons, ch_nil, List.map_append, List.map_cons,
    List.append_assoc, List.cons_append, List.nil_append]
  have h2 : delGo [] true false ((ch (afterPart t)).map some ++ X) = delGo (ch (afterPart t)) true false X := by
    rw [delGo_chars _ _ _ _ _ hN2, all_of_Blank hB2]; simp
  rw [delGo_keep_nl W cur b false nlp _ hBW hnl (Bool.and_false b), h2]
  simp

def FItem (i : LItem) : Prop := i = evalTok i.tok ∧ Simple i.tok
/-- a sentinel that starts a line -/
def SItem (i : LItem) : Prop :=
  i.tok.txt = [] ∧ isAction i.tok = false ∧ isLang i.tok = false ∧ i.cs = true ∧ i.blank = true ∧ i.ce = false
/-- the tail of a work list: evaluated simple tokens; the last one is no language token (it may be
    the end sentinel) -/
def WLt : List LItem → Prop
  | [] => True
  | [i] => (FItem i ∧ isLang i.tok = false) ∨ EItem i
  | i :: j :: tl => FItem i ∧ WLt (j :: tl)

/-- a work list: its head may also be a line-start sentinel -/
def WL : List LItem → Prop
  | [] => True
  | t :: rest => (FItem t ∨ SItem t ∨ (EItem t ∧ rest = [])) ∧ WLt rest

theorem WLt_cons {i : LItem} {tl : List LItem} (h : WLt (i :: tl)) :
    (FItem i ∨ (EItem i ∧ tl = [])) ∧ (tl = [] → isLang i.tok = false) ∧ WLt tl := by
  cases tl with
  | nil =>
    rcases h with h | h
    · exact ⟨Or.inl h.1, fun _ => h.2, trivial⟩
    · exact ⟨Or.inr ⟨h, rfl⟩, fun _ => h.2.2.1, trivial⟩
  | cons j tl => exact ⟨Or.inl h.1, (fun e => nomatch e), h.2⟩

theorem WLt_append {a : List LItem} {lst : LItem} {rest' : List LItem} (h : WLt (a ++ lst :: rest')) :
    (∀ i ∈ a, FItem i) ∧ WLt (lst :: rest') := by
  induction a with
  | nil => exact ⟨by simp, h⟩
  | cons x xs ih =>
    have hx : WLt (x :: (xs ++ lst :: rest')) := h
    obtain ⟨h1, _, h2⟩ := WLt_cons hx
    obtain ⟨i1, i2⟩ := ih h2
    refine ⟨?_, i2⟩
    intro i hi
    rcases List.mem_cons.mp hi with rfl | hi
    · rcases h1 with h1 | ⟨_, h1⟩
      · exact h1
      · simp at h1
    · exact i1 i hi

theorem WL_of_WLt {l : List LItem} (h : WLt l) : WL l := by
  cases l with
  | nil => trivial
  | cons i tl =>
    obtain ⟨h1, _, h2⟩ := WLt_cons h
    refine ⟨?_, h2⟩
    rcases h1 with h1 | h1
    · exact Or.inl h1
    · exact Or.inr (Or.inr h1)

theorem WLt_cons_F {i : LItem} {tl : List LItem} (hi : FItem i) (hl : tl = [] → isLang i.tok = false)
    (h : WLt tl) : WLt (i :: tl) := by
  cases tl with
  | nil => exact Or.inl ⟨hi, hl rfl⟩
  | cons j tl => exact ⟨hi, h⟩

theorem evalTok_simple (t : Tok) (hs : Simple t) (ha : isAction t = false) :
    (evalTok t).cs = hasNl t.txt ∧ (evalTok t).ce = hasNl t.txt ∧
    (evalTok t).blank = (!hasNl t.txt && isBlank t.txt) := by
  cases hn : hasNl t.txt with
  | false => simp [evalTok, ha, hn]
  | true =>
    have hb := hs.2 hn
    simp [evalTok, ha, hn, isBlank_afterLastNl _ hb, isBlank_beforeFirstNl _ hb]

def imarks (items : List LItem) : List Mark := items.flatMap (fun i => tokMarks i.tok)

/-- what the loop makes of a work list, on the level of items -/
def specW : List LItem → List Item
  | [] => []
  | t :: rest =>
    if t.cs then ch (firstPart t.tok) ++ delGo (ch (afterPart t.tok)) true false (imarks rest)
    else delGo [] false false (imarks (t :: rest))

theorem specW_cons (t : LItem) (rest : List LItem) :
    specW (t :: rest) = if t.cs then ch (firstPart t.tok) ++ delGo (ch (afterPart t.tok)) true false (imarks rest)
      else delGo [] false false (imarks (t :: rest)) := rfl

theorem imarks_cons (i : LItem) (l : List LItem) : imarks (i :: l) = tokMarks i.tok ++ imarks l := by
  simp [imarks]

theorem imarks_append (a b : List LItem) : imarks (a ++ b) = imarks a ++ imarks b := by
  simp [imarks]

theorem FItem_flags {i : LItem} (h : FItem i) (ha : isAction i.tok = false) :
    i.cs = hasNl i.tok.txt ∧ i.ce = hasNl i.tok.txt ∧ i.blank = (!hasNl i.tok.txt && isBlank i.tok.txt) := by
  have := evalTok_simple i.tok h.2 ha
  rw [← h.1] at this
  exact this

theorem FItem_action {i : LItem} (h : FItem i) (ha : isAction i.tok = true) :
    i.cs = false ∧ i.ce = false ∧ i.blank = true ∧ i.tok.txt = [] := by
  have e := h.1
  have : evalTok i.tok = { tok := i.tok, blank := true, cs := false, ce := false } := by
    simp [evalTok, ha]
  rw [this] at e
  refine ⟨by rw [e], by rw [e], by rw [e], h.2.1 (Or.inl ha)⟩

theorem FItem_lang {i : LItem} (h : FItem i) (hl : isLang i.tok = true) :
    i.cs = false ∧ i.ce = false ∧ i.blank = true ∧ i.tok.txt = [] := by
  have htxt := h.2.1 (Or.inr hl)
  obtain ⟨f1, f2, f3⟩ := FItem_flags h (not_action_of_lang _ hl)
  rw [htxt] at f1 f2 f3
  exact ⟨f1, f2, f3, htxt⟩

theorem hasNl_of_cs {i : LItem} (h : FItem i) (hcs : i.cs = true) :
    isAction i.tok = false ∧ isLang i.tok = false ∧ hasNl i.tok.txt = true := by
  have ha : isAction i.tok = false := by
    cases ha : isAction i.tok with
    | false => rfl
    | true => have := (FItem_action h ha).1; rw [hcs] at this; cases this
  have hl : isLang i.tok = false := by
    cases hl : isLang i.tok with
    | false => rfl
    | true => have := (FItem_lang h hl).1; rw [hcs] at this; cases this
  exact ⟨ha, hl, by rw [← (FItem_flags h ha).1]; exact hcs⟩

/-- in the middle of a kept line: the rest of the work list -/
theorem specW_goK : ∀ (rest : List LItem), WLt rest → delGo [] false false (imarks rest) = specW rest
  | [], _ => rfl
  | h :: tl, hw => by
    by_cases hcs : h.cs = true
    · obtain ⟨h1, _, _⟩ := WLt_cons hw
      have hF : FItem h := by
        rcases h1 with h1 | ⟨h1, _⟩
        · exact h1
        · have := h1.2.2.2.1; rw [hcs] at this; cases this
      obtain ⟨ha, hl, hn⟩ := hasNl_of_cs hF hcs
      have hb := hF.2.2 hn
      simp only [specW, hcs, if_true]
      rw [imarks_cons, tokMarks_chars _ ha hl, delGo_ntok h.tok hn hb [] false]
      simp
    · simp only [specW, hcs, Bool.false_eq_true, if_false]

theorem itemsOf_cons (t : Tok) (ts : List Tok) : itemsOf (t :: ts) = tokItems t ++ itemsOf ts := by
  simp [itemsOf]

theorem itemsOf_append (a b : List Tok) : itemsOf (a ++ b) = itemsOf a ++ itemsOf b := by
  simp [itemsOf]

theorem mid_run : ∀ (mid : List LItem), (∀ i ∈ mid, FItem i) → (∀ i ∈ mid, i.blank = true ∧ i.ce = false) →
    BlankRun (imarks mid) ∧ (imarks mid).filterMap id = itemsOf (mid.map (·.tok)) ∧
    (imarks mid).any Option.isNone = mid.any (fun i => isAction i.tok) ∧
    itemsOf ((mid.map (·.tok)).filter isLang) = (itemsOf (mid.map (·.tok))).filter isLg
  | [], _, _ => ⟨by intro m hm; simp [imarks] at hm, rfl, rfl, rfl⟩
  | i :: mid, hF, hm => by
    obtain ⟨r1, r2, r3, r4⟩ := mid_run mid (fun x hx => hF x (List.mem_cons_of_mem _ hx))
      (fun x hx => hm x (List.mem_cons_of_mem _ hx))
    have hFi := hF i (List.mem_cons_self ..)
    obtain ⟨hb, hce⟩ := hm i (List.mem_cons_self ..)
    rw [imarks_cons]
    cases ha : isAction i.tok with
    | true =>
      have htxt := (FItem_action hFi ha).2.2.2
      have hl := not_lang_of_action _ ha
      rw [tokMarks_action _ ha]
      refine ⟨?_, ?_, ?_, ?_⟩
      · intro m hm'
        rcases List.mem_append.mp hm' with h | h
        · left; simpa using h
        · exact r1 m h
      · simp [r2, itemsOf, tokItems_of_nil _ htxt hl]
      · simp [ha]
      · simp only [List.map_cons, List.filter_cons, hl, Bool.false_eq_true, if_false, itemsOf_cons,
          tokItems_of_nil _ htxt hl, List.nil_append]
        exact r4
    | false =>
      cases hl : isLang i.tok with
      | true =>
        rw [tokMarks_lang _ ha hl]
        refine ⟨?_, ?_, ?_, ?_⟩
        · intro m hm'
          rcases List.mem_append.mp hm' with h | h
          · right; left; exact ⟨i.tok, by simpa using h⟩
          · exact r1 m h
        · simp [r2, itemsOf_cons, tokItems_lang _ hl]
        · simp [r3, ha]
        · simp only [List.map_cons, List.filter_cons, hl, if_true, itemsOf_cons, tokItems_lang _ hl,
            List.singleton_append, isLg]
          rw [r4]
      | false =>
        obtain ⟨_, f2, f3⟩ := FItem_flags hFi ha
        have hn : hasNl i.tok.txt = false := by rw [← f2]; exact hce
        have hbl : isBlank i.tok.txt = true := by simpa [hn, hb] using f3.symm
        rw [tokMarks_chars _ ha hl]
        refine ⟨?_, ?_, ?_, ?_⟩
        · intro m hm'
          rcases List.mem_append.mp hm' with h | h
          · right; right
            obtain ⟨it, hit, rfl⟩ := List.mem_map.mp h
            obtain ⟨cp, hcp, rfl⟩ := List.mem_map.mp hit
            exact ⟨cp, rfl, blank_tokChars _ hbl cp hcp, noNl_of_hasNl_false _ hn cp hcp⟩
          · exact r1 m h
        · rw [List.filterMap_append, filterMap_map_some, r2]; simp [itemsOf_cons, tokItems_notLang _ hl]
        · rw [List.any_append, any_isNone_map_some, r3]; simp [ha]
        · simp only [List.map_cons, List.filter_cons, hl, Bool.false_eq_true, if_false, itemsOf_cons,
            tokItems_notLang _ hl, List.filter_append, filter_isLg_ch, List.nil_append]
          exact r4

theorem Simple_of_nil (t : Tok) (h : t.txt = []) : Simple t :=
  ⟨fun _ => h, by rw [h]; intro h'; simp [hasNl] at h'⟩

theorem Simple_trimLast (t : Tok) (h : Simple t) : Simple (trimLast t) := by
  refine ⟨?_, ?_⟩
  · intro ha
    have := h.1 (by simpa using ha)
    simp [trimLast, this, hasNl_nil]
  · intro hn
    cases hnt : hasNl t.txt with
    | false => simp [trimLast, hnt, hasNl_nil] at hn
    | true =>
      have hb := h.2 hnt
      have e := split_first t.txt hnt
      have : isBlank (afterFirstNl t.txt) = true := by
        rw [← e, isBlank_append] at hb
        simp only [Bool.and_eq_true] at hb
        have := hb.2
        simp only [isBlank, List.all_cons, Bool.and_eq_true] at this ⊢
        exact this.2
      simpa [trimLast, hnt] using this

theorem FItem_evalTok (t : Tok) (h : Simple t) : FItem (evalTok t) := by
  unfold FItem
  rw [evalTok_tok]
  exact ⟨rfl, h⟩

/-- the end of a blank line with an Action mark: the line is deleted, through the first line
    break of the last collected token; its language tokens are kept -/
theorem lst_remove (lst : LItem) (rest' : List LItem) (cur : List Item) (act : Bool)
    (hl : FItem lst ∨ (EItem lst ∧ rest' = [])) (hnl : isLang lst.tok = false)
    (hx : lst.ce = false → lst.blank = true → rest' = []) (hb : (lst.ce || lst.blank) = true)
    (hact : (act || isAction lst.tok) = true) :
    delGo cur true act (tokMarks lst.tok ++ imarks rest')
      = cur.filter isLg ++ delGo [] true false (tokMarks (trimLast lst.tok) ++ imarks rest') := by
  have hnl' : isLang (trimLast lst.tok) = false := by simpa using hnl
  rcases hl with hF | ⟨hE, rfl⟩
  · cases ha : isAction lst.tok with
    | true =>
      obtain ⟨_, f2, f3, f4⟩ := FItem_action hF ha
      have := hx f2 f3
      subst this
      have ha' : isAction (trimLast lst.tok) = true := by simpa using ha
      rw [tokMarks_action _ ha, tokMarks_action _ ha']
      simp [imarks, delGo]
    | false =>
      have hact' : act = true := by simpa [ha] using hact
      subst hact'
      have ha' : isAction (trimLast lst.tok) = false := by simpa using ha
      obtain ⟨_, f2, f3⟩ := FItem_flags hF ha
      rw [tokMarks_chars _ ha hnl, tokMarks_chars _ ha' hnl']
      cases hn : hasNl lst.tok.txt with
      | true =>
        have hbl := hF.2.2 hn
        obtain ⟨B, nlp, e, hnl2, hB, hN⟩ := trimLast_nl lst.tok hn hbl
        rw [e]
        simp only [ch_append, ch_cons, List.map_append, List.map_cons, List.append_assoc,
          List.cons_append]
        rw [delGo_chars B cur true true _ hN, all_of_Blank hB]
        simp [delGo, hnl2]
      | false =>
        have hce : lst.ce = false := by rw [f2]; exact hn
        have hblank : lst.blank = true := by simpa [hce] using hb
        have hbl : isBlank lst.tok.txt = true := by simpa [hn, hblank] using f3.symm
        have := hx hce hblank
        subst this
        rw [trimLast_noNl _ hn]
        simp only [imarks, List.flatMap_nil, List.append_nil, ch_nil, List.map_nil]
        have := delGo_chars (tokChars lst.tok) cur true true [] (noNl_of_hasNl_false _ hn)
        simp only [List.append_nil] at this
        rw [this, all_of_Blank (blank_tokChars _ hbl)]
        simp [delGo]
  · obtain ⟨h1, h2, h3, _, _, h6⟩ := hE
    have hact' : act = true := by simpa [h2] using hact
    subst hact'
    have e1 : tokMarks lst.tok = [] := tokMarks_nil _ h1 h2 h3
    have e2 : tokMarks (trimLast lst.tok) = [] :=
      tokMarks_nil _ (by simp [trimLast, h1, hasNl_nil]) (by simpa using h2) (by simpa using h3)
    rw [e1, e2]
    simp [imarks, delGo]

/-- the end of a line that is kept -/
theorem lst_keep (lst : LItem) (rest' : List LItem) (cur : List Item) (act : Bool)
    (hl : FItem lst ∨ (EItem lst ∧ rest' = [])) (hnl : isLang lst.tok = false)
    (hx : lst.ce = false → lst.blank = true → rest' = [])
    (hcond : ((lst.ce || lst.blank) && (act || isAction lst.tok)) = false) :
    delGo cur true act (tokMarks lst.tok ++ imarks rest')
      = cur ++ specW (evalTok lst.tok :: rest') := by
  rcases hl with hF | ⟨hE, rfl⟩
  · have hev : evalTok lst.tok = lst := hF.1.symm
    rw [hev]
    cases ha : isAction lst.tok with
    | true =>
      obtain ⟨_, f2, f3, f4⟩ := FItem_action hF ha
      simp [f2, f3, ha] at hcond
    | false =>
      obtain ⟨f1, f2, f3⟩ := FItem_flags hF ha
      rw [tokMarks_chars _ ha hnl]
      cases hn : hasNl lst.tok.txt with
      | true =>
        have hbl := hF.2.2 hn
        have hce : lst.ce = true := by rw [f2]; exact hn
        have hact : act = false := by simpa [hce, ha] using hcond
        subst hact
        have hcs : lst.cs = true := by rw [f1]; exact hn
        rw [delGo_ntok lst.tok hn hbl cur true]
        simp [specW, hcs]
      | false =>
        have hcs : lst.cs = false := by rw [f1]; exact hn
        have hce : lst.ce = false := by rw [f2]; exact hn
        have hN := noNl_of_hasNl_false _ hn
        simp only [specW, hcs, Bool.false_eq_true, if_false, imarks_cons, tokMarks_chars _ ha hnl]
        rw [delGo_chars _ cur true act _ hN, delGo_chars _ [] false false _ hN, all_tokChars]
        cases hbl : isBlank lst.tok.txt with
        | true =>
          have hblank : lst.blank = true := by rw [f3]; simp [hn, hbl]
          have := hx hce hblank
          subst this
          have hact : act = false := by simpa [hce, hblank, ha] using hcond
          subst hact
          simp [imarks, delGo]
        | false =>
          simp only [Bool.and_false, List.nil_append]
          rw [delGo_nb _ (cur ++ ch (tokChars lst.tok)) act, delGo_nb _ (ch (tokChars lst.tok)) false]
          simp
  · obtain ⟨h1, h2, h3, _, _, h6⟩ := hE
    have hact : act = false := by simpa [h6, h2] using hcond
    subst hact
    have e1 : tokMarks lst.tok = [] := tokMarks_nil _ h1 h2 h3
    have hcs : (evalTok lst.tok).cs = false := by
      simp [evalTok, h2, h1, hasNl_nil]
    rw [e1]
    simp [specW, hcs, imarks, evalTok_tok, e1, delGo]

theorem sentinel_start (p : Nat) (i : LItem) (h : i = { evalTok (sentinel p) with cs := true }) :
    SItem i ∧ firstPart i.tok = [] ∧ afterPart i.tok = [] := by
  subst h
  refine ⟨?_, ?_, ?_⟩
  · simp [SItem, evalTok, sentinel, isAction, isLang, hasNl, isBlank]
  · simp [firstPart, tokChars, trimFirst, sentinel, hasNl, evalTok, isAction]
  · simp [afterPart, tokChars, sentinel, evalTok, isAction]

theorem head_not_action {t : LItem} {rest : List LItem}
    (h : FItem t ∨ SItem t ∨ (EItem t ∧ rest = [])) (hcs : t.cs = true) :
    isAction t.tok = false ∧ isLang t.tok = false := by
  rcases h with h | h | ⟨h, _⟩
  · exact ⟨(hasNl_of_cs h hcs).1, (hasNl_of_cs h hcs).2.1⟩
  · exact ⟨h.2.1, h.2.2.1⟩
  · exact ⟨h.2.1, h.2.2.1⟩

theorem lst_notLang {lst : LItem} {rest' : List LItem} (hw : WLt (lst :: rest'))
    (hx : lst.ce = false → lst.blank = true → rest' = []) : isLang lst.tok = false := by
  obtain ⟨h1, h2, _⟩ := WLt_cons hw
  cases hl : isLang lst.tok with
  | false => rfl
  | true =>
    rcases h1 with hF | ⟨hE, _⟩
    · obtain ⟨_, f2, f3, _⟩ := FItem_lang hF hl
      have := h2 (hx f2 f3)
      rw [hl] at this; cases this
    · have := hE.2.2.1; rw [hl] at this; cases this

theorem LinesRel_items (items : List LItem) (r : List Tok) (hrel : LinesRel items r) (hw : WL items) :
    itemsOf r = specW items := by
  induction hrel with
  | nil => rfl
  | skip t rest r hcs _ ih =>
    obtain ⟨ht, hrest⟩ := hw
    rw [itemsOf_cons, ih (WL_of_WLt hrest), specW_cons]
    simp only [hcs, Bool.false_eq_true, if_false, imarks_cons]
    rcases ht with hF | hS | ⟨hE, rfl⟩
    · cases ha : isAction t.tok with
      | true =>
        have hl := not_lang_of_action _ ha
        rw [tokMarks_action _ ha, tokItems_of_nil _ (FItem_action hF ha).2.2.2 hl]
        simp only [List.nil_append, List.singleton_append, delGo]
        rw [delGo_nb, specW_goK rest hrest]; simp
      | false =>
        cases hl : isLang t.tok with
        | true =>
          rw [tokMarks_lang _ ha hl, tokItems_lang _ hl]
          simp only [List.singleton_append, delGo, List.nil_append]
          rw [delGo_nb, specW_goK rest hrest]
          rfl
        | false =>
          have hn : hasNl t.tok.txt = false := by rw [← (FItem_flags hF ha).1]; exact hcs
          rw [tokMarks_chars _ ha hl, tokItems_notLang _ hl,
            delGo_chars _ [] false false _ (noNl_of_hasNl_false _ hn)]
          simp only [Bool.false_and, List.nil_append]
          rw [delGo_nb, specW_goK rest hrest]
    · have := hS.2.2.2.1; rw [hcs] at this; cases this
    · rw [tokMarks_nil _ hE.1 hE.2.1 hE.2.2.1, tokItems_of_nil _ hE.1 hE.2.2.1]
      simp [imarks, delGo, specW]
  | one t hcs =>
    obtain ⟨ht, _⟩ := hw
    obtain ⟨_, htl⟩ := head_not_action ht hcs
    rw [specW_cons]
    simp only [hcs, if_true, imarks, List.flatMap_nil, delGo, Bool.and_false, Bool.false_eq_true, if_false]
    rw [itemsOf_cons]
    simp only [itemsOf, List.flatMap_nil, List.append_nil]
    rw [tokItems_notLang _ htl, tokChars_parts t.tok, ch_append]
  | remove t mid lst rest' r hcs hm hx hb hany _ ih =>
    obtain ⟨ht, hrest⟩ := hw
    obtain ⟨hmidF, hl⟩ := WLt_append hrest
    obtain ⟨hl1, _, hrest'⟩ := WLt_cons hl
    obtain ⟨hta, htl⟩ := head_not_action ht hcs
    have hlnl := lst_notLang hl hx
    have hlsimple : Simple (trimLast lst.tok) := by
      rcases hl1 with h | ⟨h, _⟩
      · exact Simple_trimLast _ h.2
      · exact Simple_of_nil _ (by simp [trimLast, h.1, hasNl_nil])
    obtain ⟨hS, hs1, hs2⟩ := sentinel_start _ (sentItem (trimLast lst.tok)) rfl
    have hwl : WL (sentItem (trimLast lst.tok) :: evalTok (trimLast lst.tok) :: rest') :=
      ⟨Or.inr (Or.inl hS), WLt_cons_F (FItem_evalTok _ hlsimple) (fun _ => by simpa using hlnl) hrest'⟩
    obtain ⟨r1, r2, r3, r4⟩ := mid_run mid hmidF hm
    have hlangs : itemsOf (((t :: (mid ++ [lst])).map (·.tok)).filter isLang)
        = (itemsOf (mid.map (·.tok))).filter isLg := by
      simp only [List.map_cons, List.map_append, List.map_nil, List.filter_cons, htl,
        Bool.false_eq_true, if_false, List.filter_append, hlnl, List.filter_nil, List.append_nil]
      exact r4
    have hact : ((false || (imarks mid).any Option.isNone) || isAction lst.tok) = true := by
      rw [r3]
      simpa [List.any_append, hta] using hany
    rw [itemsOf_cons, itemsOf_append, hlangs, ih hwl]
    have hsent : (sentItem (trimLast lst.tok)).cs = true := rfl
    have htf : tokItems (trimFirst t.tok) = ch (firstPart t.tok) := by
      rw [tokItems_notLang _ (by simpa using htl)]; rfl
    rw [specW_cons, specW_cons]
    simp only [hcs, hsent, if_true, hs1, hs2, ch_nil, List.nil_append, imarks_cons, imarks_append,
      evalTok_tok, htf]
    rw [delGo_blankrun _ _ _ _ r1, lst_remove lst rest' _ _ hl1 hlnl hx hb hact, r2]
    simp
  | keep t mid lst rest' r hcs hm hx hcond _ ih =>
    obtain ⟨ht, hrest⟩ := hw
    obtain ⟨hmidF, hl⟩ := WLt_append hrest
    obtain ⟨hl1, _, hrest'⟩ := WLt_cons hl
    obtain ⟨hta, htl⟩ := head_not_action ht hcs
    have hlnl := lst_notLang hl hx
    have hlsimple : Simple lst.tok := by
      rcases hl1 with h | ⟨h, _⟩
      · exact h.2
      · exact Simple_of_nil _ h.1
    have hwl : WL (evalTok lst.tok :: rest') :=
      WL_of_WLt (WLt_cons_F (FItem_evalTok _ hlsimple) (fun _ => by simpa using hlnl) hrest')
    obtain ⟨r1, r2, r3, _⟩ := mid_run mid hmidF hm
    have hcond' : ((lst.ce || lst.blank) &&
        ((false || (imarks mid).any Option.isNone) || isAction lst.tok)) = false := by
      rw [r3]
      simpa [List.any_append, hta] using hcond
    rw [itemsOf_cons, itemsOf_append, ih hwl, specW_cons (t := t)]
    simp only [hcs, if_true, imarks_cons, imarks_append]
    rw [delGo_blankrun _ _ _ _ r1, lst_keep lst rest' _ _ hl1 hlnl hx hcond', r2,
      tokItems_notLang _ htl]
    conv => lhs; rw [tokChars_parts t.tok]
    simp only [ch_append, List.append_assoc]

theorem WLt_init (p : Nat) : ∀ (l : List Tok), (∀ t ∈ l, Simple t) → WLt (l.map evalTok ++ [lastItem p])
  | [], _ => by
    refine Or.inr ?_
    simp [EItem, lastItem, evalTok, sentinel, isAction, isLang, hasNl, isBlank]
  | t :: l, h => by
    have : (t :: l).map evalTok ++ [lastItem p] = evalTok t :: (l.map evalTok ++ [lastItem p]) := rfl
    rw [this]
    exact WLt_cons_F (FItem_evalTok t (h t (List.mem_cons_self ..))) (fun e => by simp at e)
      (WLt_init p l (fun x hx => h x (List.mem_cons_of_mem _ hx)))

theorem imarks_map_evalTok (l : List Tok) : imarks (l.map evalTok) = marksOf l := by
  simp [imarks, marksOf, List.flatMap_map]


theorem marksOf_filter_keepIn (ts : List Tok) : marksOf (ts.filter keepIn) = marksOf ts := by
  refine flatMap_filter_of_nil keepIn tokMarks (fun t hk => ?_) ts
  have hk' := hk
  simp only [keepIn, Bool.or_eq_false_iff] at hk'
  exact tokMarks_nil t (keepIn_txt t hk) hk'.1.2 hk'.2

theorem itemsOf_filter_keepOut (ts : List Tok) : itemsOf (ts.filter keepOut) = itemsOf ts := by
  refine flatMap_filter_of_nil keepOut tokItems (fun t hk => ?_) ts
  have hk' := hk
  simp only [keepOut, Bool.or_eq_false_iff] at hk'
  exact tokItems_of_nil t (keepOut_txt t hk) hk'.2

/-- **the blank-line removal on simple tokens, exactly.**  The items of the result (characters
    with their positions, language tokens) are those of the input with every line deleted that is
    blank and holds an Action token; the language tokens of a deleted line are kept. -/
theorem removeLines_items (ts : List Tok) (h : ∀ t ∈ ts, Simple t) :
    ∃ r, removeLines ts = some r ∧ itemsOf r = delLines (marksOf ts) := by
  obtain ⟨out, hr⟩ := Option.isSome_iff_exists.mp (removeLines_progress ts)
  refine ⟨out, hr, ?_⟩
  obtain ⟨r, hrel, rfl⟩ := removeLines_rel ts out hr
  obtain ⟨p, e⟩ := linesInit_eq ts
  rw [e] at hrel
  have hsimple : ∀ t ∈ ts.filter keepIn, Simple t := fun t ht => h t (List.mem_filter.mp ht).1
  obtain ⟨hS, hs1, hs2⟩ := sentinel_start 0 firstItem rfl
  have hwl : WL (firstItem :: ((ts.filter keepIn).map evalTok ++ [lastItem p])) :=
    ⟨Or.inr (Or.inl hS), WLt_init p _ hsimple⟩
  rw [itemsOf_filter_keepOut, LinesRel_items _ r hrel hwl, specW_cons]
  have hcs : firstItem.cs = true := rfl
  have hlast : imarks [lastItem p] = [] := by
    simp [imarks, tokMarks_nil (sentinel p) rfl rfl rfl]
  simp only [hcs, if_true, hs1, hs2, ch_nil, List.nil_append, imarks_append, imarks_map_evalTok, hlast,
    List.append_nil, marksOf_filter_keepIn, delLines]

theorem delGo_plain : ∀ (ms : List PlainMacro.Mark) (cur : List (Char × Nat)) (b act : Bool),
    delGo (ch cur) b act (ms.map (Option.map Sum.inl)) = ch (PlainMacro.delGo cur b act ms)
  | [], cur, b, act => by
    simp only [List.map_nil, delGo, PlainMacro.delGo]
    split <;> simp
  | none :: xs, cur, b, act => by
    simp only [List.map_cons, Option.map_none, delGo, PlainMacro.delGo]
    exact delGo_plain xs cur b true
  | some cp :: xs, cur, b, act => by
    simp only [List.map_cons, Option.map_some, delGo, PlainMacro.delGo]
    split
    · rw [← ch_nil, delGo_plain xs [] true false]
      split <;> simp
    · rw [show ch cur ++ [Sum.inl cp] = ch (cur ++ [cp]) by simp]
      exact delGo_plain xs _ _ act

theorem ch_inj {a b : List (Char × Nat)} (h : ch a = ch b) : a = b :=
  (List.map_inj_right (fun _ _ => Sum.inl.inj)).mp h

theorem marksOf_plain : ∀ (ts : List Tok), (∀ t ∈ ts, isLang t = false) →
    marksOf ts = (PlainMacro.marksOf ts).map (Option.map Sum.inl)
  | [], _ => rfl
  | t :: ts, h => by
    have ht : tokMarks t = (PlainMacro.tokMarks t).map (Option.map Sum.inl) := by
      cases ha : isAction t with
      | true => simp [tokMarks, PlainMacro.tokMarks, ha]
      | false => simp [tokMarks, PlainMacro.tokMarks, ha, tokItems_notLang t (h t (List.mem_cons_self ..)), ch]
    have ih := marksOf_plain ts (fun x hx => h x (List.mem_cons_of_mem _ hx))
    simp only [marksOf, PlainMacro.marksOf, List.flatMap_cons, List.map_append] at ih ⊢
    rw [ht, ih]

theorem charsOf_of_items : ∀ (r : List Tok) (X : List (Char × Nat)),
    itemsOf r = ch X → PlainMacro.charsOf r = X
  | [], X, h => by
    cases X with
    | nil => rfl
    | cons _ _ => cases h
  | t :: r, X, h => by
    rw [itemsOf_cons] at h
    cases hl : isLang t with
    | true =>
      rw [tokItems_lang _ hl] at h
      cases X <;> simp [ch] at h
    | false =>
      rw [tokItems_notLang _ hl] at h
      obtain ⟨X1, X2, rfl, h1, h2⟩ := List.map_eq_append_iff.mp h.symm
      rw [PlainMacro.charsOf_cons, ← ch_inj h1, charsOf_of_items r X2 h2.symm]

end LinesLang

namespace PlainMacro
open LinesLang (ch ch_inj ch_append delGo_plain)

theorem Simple.toLang {t : Tok} (h : Simple t) : LinesLang.Simple t :=
  ⟨fun ha => ha.elim h.1 (fun hl => by rw [h.2.1] at hl; cases hl), h.2.2⟩

theorem delGo_nb (ms : List Mark) (cur : List (Char × Nat)) (act : Bool) :
    delGo cur false act ms = cur ++ delGo [] false false ms := by
  apply ch_inj
  rw [ch_append, ← delGo_plain, ← delGo_plain, LinesLang.delGo_nb]
  rfl

/-- **the blank-line removal on simple tokens, exactly.**  The characters of the result, with
    their positions, are those of the input with every line deleted that is blank and holds an
    Action token. -/
theorem removeLines_simple (ts : List Tok) (h : ∀ t ∈ ts, Simple t) :
    ∃ r, removeLines ts = some r ∧ charsOf r = delLines (marksOf ts) := by
  obtain ⟨r, hr, e⟩ := LinesLang.removeLines_items ts (fun t ht => (h t ht).toLang)
  rw [LinesLang.marksOf_plain ts (fun t ht => (h t ht).2.1)] at e
  exact ⟨r, hr, LinesLang.charsOf_of_items r _ (e.trans (delGo_plain _ [] true false))⟩

end PlainMacro
open PlainMacro in
theorem PlainSetup.of_simple (R : PlainSetup T o fs fuel st1) (thresh : Nat)
    (hscan : (scan T.toTables src).diags = [] ∧ (scan T.toTables src).toks = toks)
    (hnb : NoBegin st1.skipBegin toks) (hfuel : 0 < fuel)
    (hs : expandSequence T (fuel - 1) toks none [] (startState st1 src)
      = match removeLines out with
        | some r => .ok ((r, []), st2)
        | none => .outOfFuel)
    (hsimple : ∀ t ∈ out, Simple t) :
    ∃ res, tex2txt T fuel src o false thresh fs = .ok res ∧
      res.txt = (delLines (marksOf out) ++ charsOf (flowsToks st2.extracted)).map (·.1) ∧
      res.pos = (delLines (marksOf out) ++ charsOf (flowsToks st2.extracted)).map (·.2 + 1) ∧
      res.parts = [] ∧ res.unknowns = st2.unknowns ∧ res.diags = st2.diags ∧
      res.foreign = st2.foreign := by
  obtain ⟨r, hr, hc⟩ := removeLines_simple out hsimple
  refine ⟨_, R.of_lines thresh hscan hnb hfuel hs hr, ?_, ?_, rfl, rfl, rfl, rfl⟩
  · simp only [getTxtPos_charsOf, charsOf_append, hc]
  · simp only [getTxtPos_charsOf, charsOf_append, hc, List.map_map]
    rfl

open PlainMacro in
/-- `tex2txt` behind the scanner lemma and the loop lemma of a class: the scanner yields the tokens `toks`
    without diagnostics, and the loop runs through them from the start state with an empty output -/
theorem PlainSetup.of_run (R : PlainSetup T o fs fuel st1) (thresh : Nat) {d c : Nat}
    (hok : ∀ x ∈ (scanAll T.toTables src 0 src).1, x.diag = none ∧ x.extra = [])
    (hflat : (scanAll T.toTables src 0 src).1.map (·.tok) = toks) (hnb : NoBegin st1.skipBegin toks)
    (hrun : SeqRun T none d c toks [] (startState st1 src) [] ([] ++ out) st2) (hd : 1 ≤ d)
    (hf : c + d + 1 ≤ fuel) (hsimple : ∀ t ∈ out, Simple t) :
    ∃ res, tex2txt T fuel src o false thresh fs = .ok res ∧
      res.txt = (delLines (marksOf out) ++ charsOf (flowsToks st2.extracted)).map (·.1) ∧
      res.pos = (delLines (marksOf out) ++ charsOf (flowsToks st2.extracted)).map (·.2 + 1) ∧
      res.parts = [] ∧ res.unknowns = st2.unknowns ∧ res.diags = st2.diags ∧
      res.foreign = st2.foreign :=
  R.of_simple thresh ((scan_of_scanAll hok).imp_right (·.trans hflat)) hnb (by omega)
    (hrun.finish (fuel := fuel - 1) hd (by omega)) hsimple

open PlainMacro in
theorem tex2txt_of_parse_chars {T : PTables} {o : Options} {fs : FS} {fuel : Nat} {st1 st2 : PState}
    (R : PlainSetup T o fs fuel st1) (thresh : Nat) {src : Str} {toks : List Tok} {cs : List (Char × Nat)}
    (hp : parse T fuel src [] [] st1 = .ok (toks, st2)) (hc : charsOf toks = cs) :
    ∃ r, tex2txt T fuel src o false thresh fs = .ok r ∧ r.txt = cs.map (·.1) ∧
      r.pos = cs.map (·.2 + 1) ∧ r.unknowns = st2.unknowns ∧ r.diags = st2.diags ∧ r.parts = [] := by
  refine ⟨_, tex2txt_of_parse thresh R.defs R.extr R.repl R.unkn R.init hp, ?_, ?_, rfl, rfl, rfl⟩
  · rw [getTxtPos_charsOf, hc]
  · rw [getTxtPos_charsOf, hc, List.map_map]
    rfl

end Yalafi
