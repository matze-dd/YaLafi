/-
  Proofs/PlainMix2Src.lean — source level of the ENLARGED union grammar (header with the end-to-end
  statement and all side conditions: Proofs/PlainMix2E2E.lean).

  `Seg`, `render`, `cwNames`, `nFormulas`, `grp`, `mac`   the documents (braces are flat atoms `opn` /
                                  `cls`; `grp body` = `{body}`, `mac name args` = `\name{a1}…{an}`)
  `marks`, `flows`                the reference: the main flow as a list of `PlainMacro.Mark`s, the
                                  detached flows (footnotes) as characters with positions;
                                  `marks_congr`, `marks_rotL`, `marks_nomath`: the collection matters
                                  only through the placeholders (the model keeps it rotated)
  `segsOk`                        the side conditions (computable): those of Proofs/PlainMixSrc.lean
                                  for its seven kinds, `braceAt`, `PlainRef.refOk / citeOk /
                                  citeNOk`, `PlainFootnote.footOk`, `PlainHeading.headOk` (+ the
                                  conditions on the state the respective construct needs)
  `Con`, `OkSrc`                  the same on the source text (what the proofs use): `OkSrcG` over the
                                  constructs `Con`; the meaning is marks, unknown names, formulas, flows
-/
import YalafiVerif.Proofs.PlainMix2
namespace Yalafi
namespace PlainMix2

open M
open PlainMacro
open PlainMix (firstTokTxtU okAtU textOkU spcOk cwOkU comOk verbOkU mathMarks spcOk_ne spcOk_head fnChr chrs_fn
  textOkU_eq)
open PlainFootnote (lastTokOff flowOut)

inductive Seg where
  | txt (s : Str)
  /-- a special sequence `k` of the table -/
  | spc (k : Str)
  | opn
  | cls
  /-- an undeclared control word `\name` and the white space `sp` that is dropped behind it -/
  | cw (name sp : Str)
  /-- a call `\name{key}` of a vanishing macro -/
  | van (name key : Str)
  /-- a comment `%body` (`body`: everything the scanner takes) -/
  | com (body : Str)
  /-- a complete `\verb d s d` -/
  | verb (d : Char) (s : Str)
  /-- a simple inline formula `$body$` -/
  | math (body : Str)
  /-- a reference `\name{key}` (`\ref`, `\pageref`, …) -/
  | ref (name key : Str)
  | cite (name key : Str)
  | citeN (name note key : Str)
  | foot (body : Str)
  | head (name title : Str)
deriving Repr, DecidableEq

def Seg.render : Seg → Str
  | .txt s => s
  | .spc k => k
  | .opn => ['{']
  | .cls => ['}']
  | .cw name sp => '\\' :: (name ++ sp)
  | .van name key => '\\' :: (name ++ '{' :: (key ++ ['}']))
  | .com body => '%' :: body
  | .verb d s => '\\' :: 'v' :: 'e' :: 'r' :: 'b' :: d :: (s ++ [d])
  | .math body => '$' :: (body ++ ['$'])
  | .ref name key => '\\' :: (name ++ '{' :: (key ++ ['}']))
  | .cite name key => '\\' :: (name ++ '{' :: (key ++ ['}']))
  | .citeN name note key => '\\' :: (name ++ '[' :: (note ++ ']' :: '{' :: (key ++ ['}'])))
  | .foot body => '\\' :: 'f' :: 'o' :: 'o' :: 't' :: 'n' :: 'o' :: 't' :: 'e' :: '{' :: (body ++ ['}'])
  | .head name title => '\\' :: (name ++ '{' :: (title ++ ['}']))

def render : List Seg → Str
  | [] => []
  | s :: rest => s.render ++ render rest

def grp (body : List Seg) : List Seg := .opn :: (body ++ [.cls])

def mac (name : Str) (args : List (List Seg)) : List Seg := .cw name [] :: (args.map grp).flatten

def Seg.len (s : Seg) : Nat := s.render.length

def cwNames : List Seg → List Str
  | [] => []
  | .cw name _ :: rest => ('\\' :: name) :: cwNames rest
  | _ :: rest => cwNames rest

def nFormulas : List Seg → Nat
  | [] => 0
  | .math _ :: rest => nFormulas rest + 1
  | _ :: rest => nFormulas rest

/-- the full stop `h_heading` appends to a title that starts at position `q` -/
def dotMarks (T : PTables) (q : Nat) (title : Str) : List Mark :=
  if PlainHeading.needsDot T title then [some ('.', q + lastTokOff title)] else []

/-- **the reference for the main flow**: the document, which starts at position `p`, as a list of
    marks — `some (c, pos)` for an output character with its position, `none` where the model
    leaves an Action token; `repls` = the inline placeholders of the language, `k` = the number of
    formulas in front; `st` = the initialised parser state (for the placeholder of `\ref`):
    * text, special sequences, control words, vanishing calls, comments, `\verb`, formulas:
      as in `PlainMix.marks`;
    * a brace: a mark;
    * a reference: a mark, the placeholder `PlainRef.phOf st name` at the backslash;
    * a citation: a mark, `[0]` at the backslash, a mark; with a note: a mark, `[0, ` at the
      backslash, the note at its own positions, `]` at the start of the last token of the note,
      a mark;
    * a footnote: a mark (the body goes to `flows`);
    * a heading: a mark, the title at its own positions, a full stop (`PlainHeading.needsDot`)
      at the start of the last token of the title. -/
def marks (T : PTables) (st : PState) (repls : List Str) : Nat → Nat → List Seg → List Mark
  | _, _, [] => []
  | k, p, .txt s :: rest => (posText p s).map some ++ marks T st repls k (p + s.length) rest
  | k, p, .spc key :: rest =>
    none :: ((posText p (specialValD T.toTables key)).map some
      ++ marks T st repls k (p + key.length) rest)
  | k, p, .opn :: rest => none :: marks T st repls k (p + 1) rest
  | k, p, .cls :: rest => none :: marks T st repls k (p + 1) rest
  | k, p, .cw name sp :: rest => none :: marks T st repls k (p + (name.length + 1 + sp.length)) rest
  | k, p, .van name key :: rest => none :: marks T st repls k (p + PlainVanish.vanLen name key) rest
  | k, p, .com body :: rest => marks T st repls k (p + (body.length + 1)) rest
  | k, p, .verb _ s :: rest =>
    none :: ((posText (p + 6) s).map some ++ marks T st repls k (p + (s.length + 7)) rest)
  | k, p, .math body :: rest =>
    mathMarks T (PlainMath.placeholder repls (k + 1)) p body
      ++ marks T st repls (k + 1) (p + (body.length + 2)) rest
  | k, p, .ref name key :: rest =>
    none :: (PlainRef.fixMarks p (PlainRef.phOf st name)
      ++ marks T st repls k (p + PlainRef.callLen name key) rest)
  | k, p, .cite name key :: rest =>
    none :: (PlainRef.fixMarks p "[0]".toList
      ++ none :: marks T st repls k (p + PlainRef.callLen name key) rest)
  | k, p, .citeN name note key :: rest =>
    none :: (PlainRef.fixMarks p "[0, ".toList ++ ((posText (p + name.length + 2) note).map some ++
      some (']', p + name.length + 2 + lastTokOff note) :: none ::
        marks T st repls k (p + PlainRef.callNLen name note key) rest))
  | k, p, .foot body :: rest => none :: marks T st repls k (p + (body.length + 11)) rest
  | k, p, .head name title :: rest =>
    none :: ((posText (p + name.length + 2) title).map some ++ (dotMarks T (p + name.length + 2) title
      ++ marks T st repls k (p + (name.length + title.length + 3)) rest))

/-- **the reference for the detached flows**: for every footnote, in order, three line breaks at
    the position of the first body character, the body at its own positions, a line break at the
    start of the last token of the body (`PlainFootnote.flowOut`); `p` = position of the document -/
def flows : Nat → List Seg → List (Char × Nat)
  | _, [] => []
  | p, .foot body :: rest => flowOut (p + 10) body ++ flows (p + (body.length + 11)) rest
  | p, s :: rest => flows (p + s.len) rest

theorem marks_congr (T : PTables) (st : PState) {l l' : List Str} : ∀ (segs : List Seg) (k k' p : Nat),
    (∀ j, j < nFormulas segs →
      PlainMath.placeholder l (k + j + 1) = PlainMath.placeholder l' (k' + j + 1)) →
    marks T st l k p segs = marks T st l' k' p segs
  | [], _, _, _, _ => rfl
  | .txt s :: rest, k, k', p, h => by simp only [marks, marks_congr T st rest k k' _ h]
  | .spc key :: rest, k, k', p, h => by simp only [marks, marks_congr T st rest k k' _ h]
  | .opn :: rest, k, k', p, h => by simp only [marks, marks_congr T st rest k k' _ h]
  | .cls :: rest, k, k', p, h => by simp only [marks, marks_congr T st rest k k' _ h]
  | .cw name sp :: rest, k, k', p, h => by simp only [marks, marks_congr T st rest k k' _ h]
  | .van name key :: rest, k, k', p, h => by simp only [marks, marks_congr T st rest k k' _ h]
  | .com body :: rest, k, k', p, h => by simp only [marks, marks_congr T st rest k k' _ h]
  | .verb d s :: rest, k, k', p, h => by simp only [marks, marks_congr T st rest k k' _ h]
  | .math body :: rest, k, k', p, h => by
    have h0 : PlainMath.placeholder l (k + 1) = PlainMath.placeholder l' (k' + 1) := h 0 (Nat.succ_pos _)
    have hr : ∀ j, j < nFormulas rest →
        PlainMath.placeholder l (k + 1 + j + 1) = PlainMath.placeholder l' (k' + 1 + j + 1) := fun j hj => by
      have := h (j + 1) (Nat.succ_lt_succ hj)
      rwa [show k + (j + 1) + 1 = k + 1 + j + 1 by omega,
        show k' + (j + 1) + 1 = k' + 1 + j + 1 by omega] at this
    simp only [marks, h0, marks_congr T st rest (k + 1) (k' + 1) _ hr]
  | .ref name key :: rest, k, k', p, h => by simp only [marks, marks_congr T st rest k k' _ h]
  | .cite name key :: rest, k, k', p, h => by simp only [marks, marks_congr T st rest k k' _ h]
  | .citeN name note key :: rest, k, k', p, h => by simp only [marks, marks_congr T st rest k k' _ h]
  | .foot body :: rest, k, k', p, h => by simp only [marks, marks_congr T st rest k k' _ h]
  | .head name title :: rest, k, k', p, h => by simp only [marks, marks_congr T st rest k k' _ h]

/-- the model keeps the collection rotated: the next formula takes the head of `rotL l` -/
theorem marks_rotL (T : PTables) (st : PState) (l : List Str) (segs : List Seg) (k p : Nat) :
    marks T st (rotL l) k p segs = marks T st l (k + 1) p segs :=
  marks_congr T st segs k (k + 1) p fun j _ => by
    rw [PlainMath.rotL_placeholder, show k + 1 + j + 1 = k + j + 1 + 1 by omega]

theorem marks_nomath (T : PTables) (st : PState) (l l' : List Str) (segs : List Seg) (k k' p : Nat)
    (h : nFormulas segs = 0) : marks T st l k p segs = marks T st l' k' p segs :=
  marks_congr T st segs k k' p fun j hj => absurd hj (by omega)

/-- well-formed documents: every segment is fine in front of the rendering of the following ones -/
def segsOk (T : PTables) (st : PState) : List Seg → Bool
  | [] => true
  | .txt s :: rest => textOkU T st s (render rest) && segsOk T st rest
  | .spc k :: rest => spcOk T k (render rest) && segsOk T st rest
  | .opn :: rest => braceAt T '{' (render rest) && segsOk T st rest
  | .cls :: rest => braceAt T '}' (render rest) && segsOk T st rest
  | .cw name sp :: rest => cwOkU T st name sp (render rest) && segsOk T st rest
  | .van name key :: rest => PlainVanish.vanOk T st name key (render rest) && segsOk T st rest
  | .com body :: rest => comOk T st body (render rest) && segsOk T st rest
  | .verb d s :: rest => verbOkU T d s (render rest) && segsOk T st rest
  | .math body :: rest => PlainMath.mathOk T body (render rest) && segsOk T st rest
  | .ref name key :: rest => PlainRef.refOk T st name key (render rest) && segsOk T st rest
  | .cite name key :: rest =>
    (PlainRef.citeOk T st name key (render rest) && PlainRef.stateOk T st) && segsOk T st rest
  | .citeN name note key :: rest =>
    (PlainRef.citeNOk T st name note key (render rest) && PlainRef.stateOk T st) && segsOk T st rest
  | .foot body :: rest =>
    (PlainFootnote.footOk T st body (render rest) && PlainFootnote.stateOk T st) && segsOk T st rest
  | .head name title :: rest =>
    (PlainHeading.headOk T st name title (render rest) && PlainHeading.stateOk T st)
      && segsOk T st rest

/-- a construct at the head of the source, in front of the rest `R`; the meaning is the marks (as a function
    of the stored placeholder collection), the unknown names, the number of formulas and the flows -/
inductive Con (T : PTables) (st : PState) :
    Nat → Str → (List Str → List Mark) × List Str × Nat × List (Char × Nat) →
    Nat → Str → (List Str → List Mark) × List Str × Nat × List (Char × Nat) → Prop
  | spc (p : Nat) (c : Char) (tl R : Str) (ms : List Str → List Mark) (nms : List Str) (nf : Nat)
      (fl : List (Char × Nat)) :
      spcOk T (c :: tl) R = true →
      Con T st p (c :: (tl ++ R))
        (fun l => none :: ((posText p (specialValD T.toTables (c :: tl))).map some ++ ms l), nms, nf, fl)
        (p + (tl.length + 1)) R (ms, nms, nf, fl)
  | br (p : Nat) (c : Char) (R : Str) (ms : List Str → List Mark) (nms : List Str) (nf : Nat)
      (fl : List (Char × Nat)) :
      (c = '{' ∨ c = '}') → braceAt T c R = true →
      Con T st p (c :: R) (fun l => none :: ms l, nms, nf, fl) (p + 1) R (ms, nms, nf, fl)
  | cw (p : Nat) (name sp R : Str) (ms : List Str → List Mark) (nms : List Str) (nf : Nat)
      (fl : List (Char × Nat)) :
      cwOkU T st name sp R = true →
      Con T st p ('\\' :: (name ++ (sp ++ R))) (fun l => none :: ms l, ('\\' :: name) :: nms, nf, fl)
        (p + (name.length + 1 + sp.length)) R (ms, nms, nf, fl)
  | van (p : Nat) (name key R : Str) (ms : List Str → List Mark) (nms : List Str) (nf : Nat)
      (fl : List (Char × Nat)) :
      PlainVanish.vanOk T st name key R = true →
      Con T st p ('\\' :: (name ++ '{' :: (key ++ '}' :: R))) (fun l => none :: ms l, nms, nf, fl)
        (p + PlainVanish.vanLen name key) R (ms, nms, nf, fl)
  | com (p : Nat) (body R : Str) (ms : List Str → List Mark) (nms : List Str) (nf : Nat)
      (fl : List (Char × Nat)) :
      comOk T st body R = true →
      Con T st p ('%' :: (body ++ R)) (ms, nms, nf, fl) (p + (body.length + 1)) R (ms, nms, nf, fl)
  | verb (p : Nat) (d : Char) (s R : Str) (ms : List Str → List Mark) (nms : List Str) (nf : Nat)
      (fl : List (Char × Nat)) :
      verbOkU T d s R = true →
      Con T st p ('\\' :: 'v' :: 'e' :: 'r' :: 'b' :: d :: (s ++ d :: R))
        (fun l => none :: ((posText (p + 6) s).map some ++ ms l), nms, nf, fl) (p + (s.length + 7)) R (ms, nms, nf, fl)
  | math (p : Nat) (body R : Str) (ms : List Str → List Mark) (nms : List Str) (nf : Nat)
      (fl : List (Char × Nat)) :
      PlainMath.mathOk T body R = true →
      Con T st p ('$' :: (body ++ '$' :: R))
        (fun l => mathMarks T ((rotL l).headD []) p body ++ ms (rotL l), nms, nf + 1, fl)
        (p + (body.length + 2)) R (ms, nms, nf, fl)
  | ref (p : Nat) (name key R : Str) (ms : List Str → List Mark) (nms : List Str) (nf : Nat)
      (fl : List (Char × Nat)) :
      PlainRef.refOk T st name key R = true →
      Con T st p ('\\' :: (name ++ '{' :: (key ++ '}' :: R)))
        (fun l => none :: (PlainRef.fixMarks p (PlainRef.phOf st name) ++ ms l), nms, nf, fl)
        (p + PlainRef.callLen name key) R (ms, nms, nf, fl)
  | cite (p : Nat) (name key R : Str) (ms : List Str → List Mark) (nms : List Str) (nf : Nat)
      (fl : List (Char × Nat)) :
      PlainRef.citeOk T st name key R = true → PlainRef.stateOk T st = true →
      Con T st p ('\\' :: (name ++ '{' :: (key ++ '}' :: R)))
        (fun l => none :: (PlainRef.fixMarks p "[0]".toList ++ none :: ms l), nms, nf, fl)
        (p + PlainRef.callLen name key) R (ms, nms, nf, fl)
  | citeN (p : Nat) (name note key R : Str) (ms : List Str → List Mark) (nms : List Str) (nf : Nat)
      (fl : List (Char × Nat)) :
      PlainRef.citeNOk T st name note key R = true → PlainRef.stateOk T st = true →
      Con T st p ('\\' :: (name ++ '[' :: (note ++ ']' :: '{' :: (key ++ '}' :: R))))
        (fun l => none :: (PlainRef.fixMarks p "[0, ".toList ++
          ((posText (p + name.length + 2) note).map some ++
            some (']', p + name.length + 2 + lastTokOff note) :: none :: ms l)), nms, nf, fl)
        (p + PlainRef.callNLen name note key) R (ms, nms, nf, fl)
  | foot (p : Nat) (body R : Str) (ms : List Str → List Mark) (nms : List Str) (nf : Nat)
      (fl : List (Char × Nat)) :
      PlainFootnote.footOk T st body R = true → PlainFootnote.stateOk T st = true →
      Con T st p
        ('\\' :: 'f' :: 'o' :: 'o' :: 't' :: 'n' :: 'o' :: 't' :: 'e' :: '{' :: (body ++ '}' :: R))
        (fun l => none :: ms l, nms, nf, flowOut (p + 10) body ++ fl) (p + (body.length + 11)) R (ms, nms, nf, fl)
  | head (p : Nat) (name title R : Str) (ms : List Str → List Mark) (nms : List Str) (nf : Nat)
      (fl : List (Char × Nat)) :
      PlainHeading.headOk T st name title R = true → PlainHeading.stateOk T st = true →
      Con T st p ('\\' :: (name ++ '{' :: (title ++ '}' :: R)))
        (fun l => none :: ((posText (p + name.length + 2) title).map some ++
          (dotMarks T (p + name.length + 2) title ++ ms l)), nms, nf, fl)
        (p + (name.length + title.length + 3)) R (ms, nms, nf, fl)

theorem Con.vis (T : PTables) (st : PState) : ConVis (Con T st) := by
  rintro _ _ _ _ _ _ ⟨⟩
  case spc hd => exact ⟨_, _, rfl, (spcOk_head hd).1⟩
  case br hc _ => exact ⟨_, _, rfl, by rcases hc with rfl | rfl <;> rfl⟩
  all_goals exact ⟨_, _, rfl, rfl⟩

/-- the source text, which starts at position `p`, with its marks (as a function of the stored
    placeholder collection), its unknown names, its number of formulas and its flows -/
abbrev OkSrc (T : PTables) (st : PState) (p : Nat) (W : Str) (ms : List Str → List Mark) (nms : List Str)
    (nf : Nat) (fl : List (Char × Nat)) : Prop :=
  OkSrcG (okAtU T st) fnChr (· = (fun _ => [], [], 0, [])) (Con T st) p W (ms, nms, nf, fl)

theorem flows_text (s : Str) (rest : List Seg) (p : Nat) :
    flows p (.txt s :: rest) = flows (p + s.length) rest := by
  simp [flows, Seg.len, Seg.render]

theorem OkSrc_of_segsOk (T : PTables) (st : PState) :
    ∀ (segs : List Seg) (p : Nat), segsOk T st segs = true →
      OkSrc T st p (render segs) (fun l => marks T st l 0 p segs) (cwNames segs) (nFormulas segs)
        (flows p segs)
  | [], p, _ => .nil p _ rfl
  | .txt s :: rest, p, h => by
    simp only [segsOk, Bool.and_eq_true, textOkU_eq] at h
    have := OkSrcG.text _ _ s p (OkSrc_of_segsOk T st rest _ h.2) h.1
    rw [flows_text]
    rwa [chrs_fn] at this
  | .spc k :: rest, p, h => by
    simp only [segsOk, Bool.and_eq_true] at h
    cases k with
    | nil => exact absurd rfl (spcOk_ne h.1)
    | cons c tl =>
      have := OkSrcG.con (Con.spc p c tl (render rest) _ _ _ _ h.1) (OkSrc_of_segsOk T st rest _ h.2)
      simpa [render, Seg.render, marks, cwNames, nFormulas, flows, Seg.len] using this
  | .opn :: rest, p, h => by
    simp only [segsOk, Bool.and_eq_true] at h
    have := OkSrcG.con (Con.br p '{' (render rest) _ _ _ _ (Or.inl rfl) h.1) (OkSrc_of_segsOk T st rest _ h.2)
    simpa [render, Seg.render, marks, cwNames, nFormulas, flows, Seg.len] using this
  | .cls :: rest, p, h => by
    simp only [segsOk, Bool.and_eq_true] at h
    have := OkSrcG.con (Con.br p '}' (render rest) _ _ _ _ (Or.inr rfl) h.1) (OkSrc_of_segsOk T st rest _ h.2)
    simpa [render, Seg.render, marks, cwNames, nFormulas, flows, Seg.len] using this
  | .cw name sp :: rest, p, h => by
    simp only [segsOk, Bool.and_eq_true] at h
    have := OkSrcG.con (Con.cw p name sp (render rest) _ _ _ _ h.1) (OkSrc_of_segsOk T st rest _ h.2)
    have e : p + (name.length + sp.length + 1) = p + (name.length + 1 + sp.length) := by omega
    simpa [render, Seg.render, marks, cwNames, nFormulas, flows, Seg.len, e] using this
  | .van name key :: rest, p, h => by
    simp only [segsOk, Bool.and_eq_true] at h
    have := OkSrcG.con (Con.van p name key (render rest) _ _ _ _ h.1) (OkSrc_of_segsOk T st rest _ h.2)
    have e : p + (name.length + (key.length + 1 + 1) + 1) = p + PlainVanish.vanLen name key := by
      simp only [PlainVanish.vanLen]; omega
    simpa [render, Seg.render, marks, cwNames, nFormulas, flows, Seg.len, e] using this
  | .com body :: rest, p, h => by
    simp only [segsOk, Bool.and_eq_true] at h
    have := OkSrcG.con (Con.com p body (render rest) _ _ _ _ h.1) (OkSrc_of_segsOk T st rest _ h.2)
    simpa [render, Seg.render, marks, cwNames, nFormulas, flows, Seg.len] using this
  | .verb d s :: rest, p, h => by
    simp only [segsOk, Bool.and_eq_true] at h
    have := OkSrcG.con (Con.verb p d s (render rest) _ _ _ _ h.1) (OkSrc_of_segsOk T st rest _ h.2)
    have e : p + (s.length + 1 + 1 + 1 + 1 + 1 + 1 + 1) = p + (s.length + 7) := by omega
    simpa [render, Seg.render, marks, cwNames, nFormulas, flows, Seg.len, e] using this
  | .math body :: rest, p, h => by
    simp only [segsOk, Bool.and_eq_true] at h
    have := OkSrcG.con (Con.math p body (render rest) _ _ _ _ h.1) (OkSrc_of_segsOk T st rest _ h.2)
    have e : p + (body.length + 1 + 1) = p + (body.length + 2) := by omega
    simp only [PlainMath.rotL_headD, marks_rotL] at this
    simpa [render, Seg.render, marks, cwNames, nFormulas, flows, Seg.len, e] using this
  | .ref name key :: rest, p, h => by
    simp only [segsOk, Bool.and_eq_true] at h
    have := OkSrcG.con (Con.ref p name key (render rest) _ _ _ _ h.1) (OkSrc_of_segsOk T st rest _ h.2)
    have e : p + (name.length + (key.length + 1 + 1) + 1) = p + PlainRef.callLen name key := by
      simp only [PlainRef.callLen]; omega
    simpa [render, Seg.render, marks, cwNames, nFormulas, flows, Seg.len, e] using this
  | .cite name key :: rest, p, h => by
    simp only [segsOk, Bool.and_eq_true] at h
    have := OkSrcG.con (Con.cite p name key (render rest) _ _ _ _ h.1.1 h.1.2) (OkSrc_of_segsOk T st rest _ h.2)
    have e : p + (name.length + (key.length + 1 + 1) + 1) = p + PlainRef.callLen name key := by
      simp only [PlainRef.callLen]; omega
    simpa [render, Seg.render, marks, cwNames, nFormulas, flows, Seg.len, e] using this
  | .citeN name note key :: rest, p, h => by
    simp only [segsOk, Bool.and_eq_true] at h
    have := OkSrcG.con (Con.citeN p name note key (render rest) _ _ _ _ h.1.1 h.1.2)
      (OkSrc_of_segsOk T st rest _ h.2)
    have e : p + (name.length + (note.length + (key.length + 1 + 1 + 1) + 1) + 1)
        = p + PlainRef.callNLen name note key := by
      simp only [PlainRef.callNLen]; omega
    simpa [render, Seg.render, marks, cwNames, nFormulas, flows, Seg.len, e] using this
  | .foot body :: rest, p, h => by
    simp only [segsOk, Bool.and_eq_true] at h
    have := OkSrcG.con (Con.foot p body (render rest) _ _ _ _ h.1.1 h.1.2) (OkSrc_of_segsOk T st rest _ h.2)
    simpa [render, Seg.render, marks, cwNames, nFormulas, flows] using this
  | .head name title :: rest, p, h => by
    simp only [segsOk, Bool.and_eq_true] at h
    have := OkSrcG.con (Con.head p name title (render rest) _ _ _ _ h.1.1 h.1.2)
      (OkSrc_of_segsOk T st rest _ h.2)
    have e : p + (name.length + (title.length + 1 + 1) + 1) = p + (name.length + title.length + 3) := by
      omega
    simpa [render, Seg.render, marks, cwNames, nFormulas, flows, Seg.len, e] using this

end PlainMix2
end Yalafi
