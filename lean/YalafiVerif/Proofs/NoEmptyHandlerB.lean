/-
  Proofs/NoEmptyHandlerB.lean — NoEmpty bundle: one lemma per handler of `callHandler`, part B
  (babel, substack, proof, biblatex, xspace, glossaries).
-/
import YalafiVerif.Proofs.NoEmptyBase1
import YalafiVerif.Proofs.NoEmptyBase2
namespace Yalafi
namespace NoEmpty
open M

set_option linter.unusedVariables false

variable {T : PTables}

private theorem hb_keyvals {fuel : Nat} (IH : AllSpecs T fuel) {st0 s : PState} (h0 : Fr T st0 s) (buf : Buf)
    (hb : ANE T st0.latex.length buf) :
    Post' (parseKeyvals T fuel buf [] s) (fun r s' => Fr T st0 s' ∧ kvOk T st0.latex.length r) := by
  apply Post'_mono _ _ _ (IH.keyvals buf [] s h0.1 (by rw [h0.len]; exact hb)
    (by intro kv hkv; cases hkv))
  intro r s' h1
  exact ⟨h0.trans h1.1, by rw [← h0.len]; exact h1.2⟩

private theorem hb_modDesc {fuel : Nat} (IH : AllSpecs T fuel) {st0 s : PState} (h0 : Fr T st0 s) (toks : List Tok)
    (hb : ANE T st0.latex.length toks) (h : Handler) :
    Post' (modifyDescription T fuel toks s) (fun r s' => Fr T st0 s' ∧ HRes T st0.latex.length h r) := by
  apply Post'_mono _ _ _ (IH.modDesc toks s h0.1 (by rw [h0.len]; exact hb))
  intro r s' h1
  exact ⟨h0.trans h1.1, HRes_of_ANE (by rw [← h0.len]; exact h1.2)⟩

private theorem ANE_last_pos {n : Nat} {a : List Tok} {l : Tok} (ha : ANE T n a) (h : a.getLast? = some l) :
    l.pos < n := (ha l (List.mem_of_getLast? h)).1.1

private theorem hb_gloss_lookup {g : List (Str × List (Str × Option (List Tok)))} (hg : glossOk T g)
    {p : Str × List (Str × Option (List Tok)) → Bool} {q : Str × Option (List Tok) → Bool}
    {k : Str} {toks : List Tok}
    (h : (g.find? p).bind (fun e => e.2.find? q) = some (k, some toks)) : ANE0 T toks := by
  obtain ⟨e, he, hq⟩ := Option.bind_eq_some_iff.mp h
  exact hg e (List.mem_of_find?_eq_some he) _ (List.mem_of_find?_eq_some hq) toks rfl

private theorem hb_kvOk_description {n : Nat} {kv : List (Str × Option (List Tok))} (h : kvOk T n kv)
    (p : Str × Option (List Tok) → Bool) :
    ANE T n (((kv.reverse.find? p).bind (·.2)).getD []) := by
  cases hf : (kv.reverse.find? p).bind (·.2) with
  | none => exact ANE_nil n
  | some ts =>
    obtain ⟨e, he, hq⟩ := Option.bind_eq_some_iff.mp hf
    exact h e (List.mem_reverse.mp (List.mem_of_find?_eq_some he)) ts hq

theorem handler_foreignlanguage (hne : tblOkB T = true) (hw : T.WFInv) (fuel : Nat) (IH : AllSpecs T fuel)
    (buf : Buf) (mac : MacroDef) (args : List (List Tok)) (pos : Nat) (st : PState) (hs : StOk T st)
    (ha : ∀ a ∈ args, ANE T st.latex.length a) (hp : pos < st.latex.length) :
    Post' (callHandler T (fuel + 1) .foreignlanguage buf mac args pos st)
      (fun r st' => Fr T st st' ∧ HRes T st.latex.length .foreignlanguage r) := by
  unfold callHandler
  simp only []
  refine Post'_argBind args 1 _ st _ (fun a1 h1 _ => ?_)
  refine Post'_argBind args 2 _ st _ (fun a2 h2 _ => ?_)
  have hA := ha a2 h2
  refine Post'_bind _ _ _ _ _ (text_sub IH (Fr.refl hs) a1 (ha a1 h1)) (fun l s hfr => ?_)
  cases ht : translateLang T (strip l) with
  | none => exact Post'_crash _ _ _ (by simp [site])
  | some lt =>
    cases hl : a2.getLast? with
    | none => exact Post'_crash _ _ _ (by simp [site])
    | some last =>
      dsimp only
      have hlp := ANE_last_pos hA hl
      refine Post'_pure _ _ _ ⟨hfr, HRes_of_ANE ?_⟩
      simp [NE_mkLang, hp, hlp, hA]

theorem handler_selectlanguage (hne : tblOkB T = true) (hw : T.WFInv) (fuel : Nat) (IH : AllSpecs T fuel)
    (buf : Buf) (mac : MacroDef) (args : List (List Tok)) (pos : Nat) (st : PState) (hs : StOk T st)
    (ha : ∀ a ∈ args, ANE T st.latex.length a) (hp : pos < st.latex.length) :
    Post' (callHandler T (fuel + 1) .selectlanguage buf mac args pos st)
      (fun r st' => Fr T st st' ∧ HRes T st.latex.length .selectlanguage r) := by
  unfold callHandler
  simp only []
  refine Post'_argBind args 0 _ st _ (fun a0 h0 _ => ?_)
  refine Post'_bind _ _ _ _ _ (text_sub IH (Fr.refl hs) a0 (ha a0 h0)) (fun l s hfr => ?_)
  cases ht : translateLang T (strip l) with
  | none => exact Post'_crash _ _ _ (by simp [site])
  | some lt =>
    refine Post'_pure _ _ _ ⟨hfr, HRes_of_ANE ?_⟩
    simp [NE_mkLang, hp]

theorem handler_beginOtherlang (hne : tblOkB T = true) (hw : T.WFInv) (fuel : Nat) (IH : AllSpecs T fuel)
    (buf : Buf) (mac : MacroDef) (args : List (List Tok)) (pos : Nat) (st : PState) (hs : StOk T st)
    (ha : ∀ a ∈ args, ANE T st.latex.length a) (hp : pos < st.latex.length) :
    Post' (callHandler T (fuel + 1) .beginOtherlang buf mac args pos st)
      (fun r st' => Fr T st st' ∧ HRes T st.latex.length .beginOtherlang r) := by
  unfold callHandler
  simp only []
  refine Post'_argBind args 0 _ st _ (fun a0 h0 _ => ?_)
  refine Post'_bind _ _ _ _ _ (text_sub IH (Fr.refl hs) a0 (ha a0 h0)) (fun l s hfr => ?_)
  cases ht : translateLang T (strip l) with
  | none => exact Post'_crash _ _ _ (by simp [site])
  | some lt =>
    refine Post'_pure _ _ _ ⟨hfr, HRes_of_ANE ?_⟩
    simp [NE_mkLang, hp]

theorem handler_endOtherlang (hne : tblOkB T = true) (hw : T.WFInv) (fuel : Nat) (IH : AllSpecs T fuel)
    (buf : Buf) (mac : MacroDef) (args : List (List Tok)) (pos : Nat) (st : PState) (hs : StOk T st)
    (ha : ∀ a ∈ args, ANE T st.latex.length a) (hp : pos < st.latex.length) :
    Post' (callHandler T (fuel + 1) .endOtherlang buf mac args pos st)
      (fun r st' => Fr T st st' ∧ HRes T st.latex.length .endOtherlang r) := by
  unfold callHandler
  simp only []
  refine Post'_pure _ _ _ ⟨Fr.refl hs, HRes_of_ANE ?_⟩
  simp [NE_mkLang, NE_mkTok_xmacro, hp]

theorem handler_endOtherlangStar (hne : tblOkB T = true) (hw : T.WFInv) (fuel : Nat) (IH : AllSpecs T fuel)
    (buf : Buf) (mac : MacroDef) (args : List (List Tok)) (pos : Nat) (st : PState) (hs : StOk T st)
    (ha : ∀ a ∈ args, ANE T st.latex.length a) (hp : pos < st.latex.length) :
    Post' (callHandler T (fuel + 1) .endOtherlangStar buf mac args pos st)
      (fun r st' => Fr T st st' ∧ HRes T st.latex.length .endOtherlangStar r) := by
  unfold callHandler
  simp only []
  refine Post'_pure _ _ _ ⟨Fr.refl hs, HRes_of_ANE ?_⟩
  simp [NE_mkLang, hp]

theorem handler_substack (hne : tblOkB T = true) (hw : T.WFInv) (fuel : Nat) (IH : AllSpecs T fuel)
    (buf : Buf) (mac : MacroDef) (args : List (List Tok)) (pos : Nat) (st : PState) (hs : StOk T st)
    (ha : ∀ a ∈ args, ANE T st.latex.length a) (hp : pos < st.latex.length) :
    Post' (callHandler T (fuel + 1) .substack buf mac args pos st)
      (fun r st' => Fr T st st' ∧ HRes T st.latex.length .substack r) := by
  unfold callHandler
  simp only []
  refine Post'_argBind args 0 _ st _ (fun a0 h0 _ => ?_)
  exact Post'_pure _ _ _ ⟨Fr.refl hs, HRes_of_ANE (substackLoop_ANE _ _ _ (ha a0 h0))⟩

theorem handler_proof (hne : tblOkB T = true) (hw : T.WFInv) (fuel : Nat) (IH : AllSpecs T fuel)
    (buf : Buf) (mac : MacroDef) (args : List (List Tok)) (pos : Nat) (st : PState) (hs : StOk T st)
    (ha : ∀ a ∈ args, ANE T st.latex.length a) (hp : pos < st.latex.length) :
    Post' (callHandler T (fuel + 1) .proof buf mac args pos st)
      (fun r st' => Fr T st st' ∧ HRes T st.latex.length .proof r) := by
  unfold callHandler
  simp only []
  refine Post'_argBind args 0 _ st _ (fun a0 h0 _ => ?_)
  have hA := ha a0 h0
  refine Post'_get_bind _ st _ ?_
  cases a0 with
  | nil =>
    simp only [List.isEmpty_nil, Bool.not_true, Bool.false_eq_true, if_false, List.getLast?_singleton]
    refine Post'_pure _ _ _ ⟨Fr.refl hs, ?_⟩
    unfold HRes
    refine ⟨fun h => absurd h (by decide), ?_⟩
    simp only [List.cons_append, List.nil_append]
    refine ⟨W_mkFix_text _ _ _ hp, ?_⟩
    have e : ∀ x : Str, (mkFix Kind.text pos x).pos = pos := fun _ => rfl
    rw [e]
    simp [NE_mkFix_text, NE_mkFix_space, hp]
  | cons t ts =>
    simp only [List.isEmpty_cons, Bool.not_false, if_true]
    cases hl : (t :: ts).getLast? with
    | none => exact Post'_crash _ _ _ (by simp [site])
    | some l =>
      dsimp only
      have hlp := ANE_last_pos hA hl
      refine Post'_pure _ _ _ ⟨Fr.refl hs, ?_⟩
      unfold HRes
      refine ⟨fun h => absurd h (by decide), ?_⟩
      simp only [List.cons_append]
      rw [ANE_cons] at hA
      refine ⟨hA.1.1, ?_⟩
      simp [NE_mkFix_text, NE_mkFix_space, hlp, hA.2]

theorem handler_bibCite (hne : tblOkB T = true) (hw : T.WFInv) (fuel : Nat) (IH : AllSpecs T fuel)
    (buf : Buf) (mac : MacroDef) (args : List (List Tok)) (pos : Nat) (st : PState) (hs : StOk T st)
    (ha : ∀ a ∈ args, ANE T st.latex.length a) (hp : pos < st.latex.length) :
    Post' (callHandler T (fuel + 1) .bibCite buf mac args pos st)
      (fun r st' => Fr T st st' ∧ HRes T st.latex.length .bibCite r) := by
  unfold callHandler
  simp only []
  cases h : bibCite T args pos with
  | none => exact Post'_crash _ _ _ (by simp [site])
  | some o => exact Post'_pure _ _ _ ⟨Fr.refl hs, HRes_of_ANE (bibCite_both hne _ args pos o ha hp h).1⟩

theorem handler_footcite (hne : tblOkB T = true) (hw : T.WFInv) (fuel : Nat) (IH : AllSpecs T fuel)
    (buf : Buf) (mac : MacroDef) (args : List (List Tok)) (pos : Nat) (st : PState) (hs : StOk T st)
    (ha : ∀ a ∈ args, ANE T st.latex.length a) (hp : pos < st.latex.length) :
    Post' (callHandler T (fuel + 1) .footcite buf mac args pos st)
      (fun r st' => Fr T st st' ∧ HRes T st.latex.length .footcite r) := by
  unfold callHandler
  simp only []
  cases h : bibCite T args pos with
  | none => exact Post'_crash _ _ _ (by simp [site])
  | some o =>
    dsimp only
    obtain ⟨ho, hlp⟩ := bibCite_both hne _ args pos o ha hp h
    generalize (Option.map _ o.getLast?).getD pos = lp at hlp
    refine Post'_pure _ _ _ ⟨Fr.refl hs, HRes_of_ANE ?_⟩
    simp [NE_mkFix_text, NE_mkAction, NE_mkTok_xmacro, NE_mkTok_special, hp, hlp, ho]

theorem handler_xspace (hne : tblOkB T = true) (hw : T.WFInv) (fuel : Nat) (IH : AllSpecs T fuel)
    (buf : Buf) (mac : MacroDef) (args : List (List Tok)) (pos : Nat) (st : PState) (hs : StOk T st)
    (ha : ∀ a ∈ args, ANE T st.latex.length a) (hp : pos < st.latex.length) :
    Post' (callHandler T (fuel + 1) .xspace buf mac args pos st)
      (fun r st' => Fr T st st' ∧ HRes T st.latex.length .xspace r) := by
  unfold callHandler
  simp only []
  cases hh : buf.head? with
  | none => exact Post'_pure _ _ _ ⟨Fr.refl hs, HRes_of_ANE (ANE_nil _)⟩
  | some t =>
    dsimp only
    refine Post'_ite _ _ _ _ _ (fun _ => ?_) (fun _ => ?_)
    · exact Post'_pure _ _ _ ⟨Fr.refl hs, HRes_of_ANE (ANE_nil _)⟩
    · refine Post'_pure _ _ _ ⟨Fr.refl hs, HRes_of_ANE ?_⟩
      simp [NE_mkTok_space, hp]

theorem handler_gls (key : Str) (cf ca : Bool) (hne : tblOkB T = true) (hw : T.WFInv) (fuel : Nat)
    (IH : AllSpecs T fuel)
    (buf : Buf) (mac : MacroDef) (args : List (List Tok)) (pos : Nat) (st : PState) (hs : StOk T st)
    (ha : ∀ a ∈ args, ANE T st.latex.length a) (hp : pos < st.latex.length) :
    Post' (callHandler T (fuel + 1) (.gls key cf ca) buf mac args pos st)
      (fun r st' => Fr T st st' ∧ HRes T st.latex.length (.gls key cf ca) r) := by
  unfold callHandler
  simp only []
  refine Post'_argBind args 1 _ st _ (fun a1 h1 _ => ?_)
  refine Post'_bind _ _ _ _ _ (text_sub IH (Fr.refl hs) a1 (ha a1 h1)) (fun label s hfr => ?_)
  refine Post'_get_bind _ s _ ?_
  generalize he : Option.bind (List.find? _ s.glossary) _ = entry
  match entry, he with
  | none, _ => exact latexError_sub hfr _ _ hp _
  | some (_, none), _ => exact latexError_sub hfr _ _ hp _
  | some (k, some toks), he =>
    dsimp only
    have hst : ANE0 T toks := hb_gloss_lookup hfr.1.gloss he
    generalize hc : (if cf = true then capFirst T toks else some toks) = c
    cases c with
    | none =>
      exfalso
      split at hc
      · obtain ⟨r, hr⟩ := capFirst_some (T := T) toks hst
        rw [hr] at hc; cases hc
      · cases hc
    | some t1 =>
      dsimp only
      have h1 : ANE0 T t1 := by
        split at hc
        · exact capFirst_ANE0 hne toks t1 hst hc
        · cases hc; exact hst
      have h2 : ANE0 T (if ca = true then capAll T t1 else t1) := by
        split
        · exact capAll_ANE0 hne t1 h1
        · exact h1
      refine Post'_pure _ _ _ ⟨hfr, HRes_of_ANE ?_⟩
      intro x hx
      obtain ⟨t, ht, rfl⟩ := List.mem_map.1 hx
      exact NE_restamp (h2 t ht) hp

theorem handler_newacronym (hne : tblOkB T = true) (hw : T.WFInv) (fuel : Nat) (IH : AllSpecs T fuel)
    (buf : Buf) (mac : MacroDef) (args : List (List Tok)) (pos : Nat) (st : PState) (hs : StOk T st)
    (ha : ∀ a ∈ args, ANE T st.latex.length a) (hp : pos < st.latex.length) :
    Post' (callHandler T (fuel + 1) .newacronym buf mac args pos st)
      (fun r st' => Fr T st st' ∧ HRes T st.latex.length .newacronym r) := by
  unfold callHandler
  simp only []
  refine Post'_argBind args 2 _ st _ (fun a2 h2 _ => ?_)
  exact hb_modDesc IH (Fr.refl hs) a2 (ha a2 h2) _

theorem handler_newglossaryentry (hne : tblOkB T = true) (hw : T.WFInv) (fuel : Nat) (IH : AllSpecs T fuel)
    (buf : Buf) (mac : MacroDef) (args : List (List Tok)) (pos : Nat) (st : PState) (hs : StOk T st)
    (ha : ∀ a ∈ args, ANE T st.latex.length a) (hp : pos < st.latex.length) :
    Post' (callHandler T (fuel + 1) .newglossaryentry buf mac args pos st)
      (fun r st' => Fr T st st' ∧ HRes T st.latex.length .newglossaryentry r) := by
  unfold callHandler
  simp only []
  refine Post'_argBind args 1 _ st _ (fun a1 h1 _ => ?_)
  refine Post'_bind _ _ _ _ _ (hb_keyvals IH (Fr.refl hs) a1 (ha a1 h1)) (fun kv s hk => ?_)
  exact hb_modDesc IH hk.1 _ (hb_kvOk_description hk.2 _) _

theorem handler_parseGlsdefs (hne : tblOkB T = true) (hw : T.WFInv) (fuel : Nat) (IH : AllSpecs T fuel)
    (buf : Buf) (mac : MacroDef) (args : List (List Tok)) (pos : Nat) (st : PState) (hs : StOk T st)
    (ha : ∀ a ∈ args, ANE T st.latex.length a) (hp : pos < st.latex.length) :
    Post' (callHandler T (fuel + 1) .parseGlsdefs buf mac args pos st)
      (fun r st' => Fr T st st' ∧ HRes T st.latex.length .parseGlsdefs r) := by
  unfold callHandler
  simp only []
  refine Post'_argBind args 0 _ st _ (fun a0 h0 _ => ?_)
  refine Post'_argBind args 1 _ st _ (fun a1 h1 _ => ?_)
  refine Post'_bind _ _ _ _ _ (text_sub IH (Fr.refl hs) a0 (ha a0 h0)) (fun label s hfr => ?_)
  refine Post'_bind _ _ _ _ _ (hb_keyvals IH hfr a1 (ha a1 h1)) (fun kv s' hk => ?_)
  refine Post'_modifyPure _ _ _ _ ⟨⟨StOk_setGloss s' label _ hk.1.1 ?_, hk.1.2⟩, HRes_of_ANE (ANE_nil _)⟩
  intro e he ts hts
  rcases mem_dedup kv [] e he with h | h
  · cases h
  · exact ANE_ANE0 (hk.2 e h ts hts)

end NoEmpty
end Yalafi
