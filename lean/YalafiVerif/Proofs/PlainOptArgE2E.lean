/-
  Proofs/PlainOptArgE2E.lean — the meaning of the token buffers of Proofs/PlainOptArg.lean in terms of the
  source (`olink_sem`), and the end-to-end theorem `tex2txt_renewcommand_default` (see the header of
  Proofs/PlainOptArg.lean).
-/
import YalafiVerif.Proofs.PlainOptArg
namespace Yalafi
namespace PlainOptArg

open M
open PlainMacro (restamp bodyTxt Mark marksOf charsOf delLines)
open PlainMacroArgs (BP argsLen argSpans groupMarks normBody BodyLink GroupsLink argsStr_length
  groupsLink_length groups_sem argAt headPos lastPos genCur genOut Group GroupGood BodyTok)

/-! ### the reference on items -/

def orefMarks : OEnv → List OItem → List Mark
  | _, [] => []
  | env, .chr c p :: rest => some (c, p) :: orefMarks env rest
  | env, .defn _ _ name n dflt body :: rest => none :: orefMarks ((name, n, dflt, body) :: env) rest
  | env, .use p name opt args :: rest =>
    none :: (obodyMarks (useSpans env p name opt args)
              (ostartCur (useSpans env p name opt args) p (odefOf env name).2.2) (odefOf env name).2.2
      ++ (groupMarks ((argSpans (p + name.length + 1 + optLen opt) args).drop ((odefOf env name).1 - 1))
      ++ orefMarks env rest))

def orefUnknowns : OEnv → List OItem → List Str
  | _, [] => []
  | env, .chr _ _ :: rest => orefUnknowns env rest
  | env, .defn _ _ name n dflt body :: rest => orefUnknowns ((name, n, dflt, body) :: env) rest
  | env, .use _ name _ _ :: rest =>
    (if (olookup env name).isNone then [('\\' :: name)] else []) ++ orefUnknowns env rest

def orefInserted : OEnv → List OItem → Nat
  | _, [] => 0
  | env, .chr _ _ :: rest => orefInserted env rest
  | env, .defn _ _ name n dflt body :: rest => orefInserted ((name, n, dflt, body) :: env) rest
  | env, .use p name opt args :: rest =>
    obodyInserted (useSpans env p name opt args) (odefOf env name).2.2 + orefInserted env rest

def orefArity : OEnv → List OItem → Bool
  | _, [] => true
  | env, .chr _ _ :: rest => orefArity env rest
  | env, .defn _ _ name n dflt body :: rest => orefArity ((name, n, dflt, body) :: env) rest
  | env, .use _ name opt args :: rest =>
    decide ((odefOf env name).1 - 1 ≤ args.length) && ((olookup env name).isSome || opt.isNone)
      && orefArity env rest

def oitemsLen : List OItem → Nat
  | [] => 0
  | .chr _ _ :: rest => 1 + oitemsLen rest
  | .defn _ kw name _ dflt body :: rest => defLen kw name dflt body + oitemsLen rest
  | .use _ name opt args :: rest => name.length + 1 + optLen opt + argsLen args + oitemsLen rest

/-- the state and the environment agree on the names that are not declared in `st1` -/
def ORel (st1 st : PState) (env : OEnv) : Prop :=
  UserTable.Agree (olookup env)
    (fun name d m => 1 ≤ d.1 ∧ ∃ dt b, m = optMacro ('\\' :: name) d.1 dt b ∧ DLink dt d.2.1 ∧
      BodyLink b (normBody d.2.2)) st1 st

theorem ORel.defSt {st1 st : PState} {env : OEnv} (h : ORel st1 st env) (name : Str) (n : Nat)
    (dflt : Str) (body : List BP) (dt btoks : List Tok) (hn1 : 1 ≤ n) (hd : DLink dt dflt)
    (hb : BodyLink btoks (normBody body)) :
    ORel st1 (odefSt st name n dt btoks) ((name, n, dflt, body) :: env) :=
  UserTable.Agree.set h name (n, dflt, body) _ rfl ⟨hn1, dt, btoks, rfl, hd, hb⟩
    (UserTable.assoc_cons env name (n, dflt, body))

theorem ORel.useSt {st1 st : PState} {env : OEnv} (h : ORel st1 st env) (name : Str) :
    ORel st1 (ouseSt st name) env :=
  UserTable.Agree.of_macros h (ouseSt_reads st name).macros

/-! ### the actual arguments of a use -/

theorem charsOf_restamp (p : Nat) : ∀ dt : List Tok,
    charsOf (dt.map (restamp p)) = (bodyTxt dt).map (fun c => (c, p))
  | [] => rfl
  | t :: dt => by
    rw [List.map_cons, PlainMacro.charsOf_cons, PlainMacro.tokChars_restamp, charsOf_restamp p dt]
    simp [bodyTxt]

theorem headPos_restamp (p : Nat) (dt : List Tok) (h : dt ≠ []) : headPos (dt.map (restamp p)) = p := by
  cases dt with
  | nil => exact absurd rfl h
  | cons t ts => rfl

theorem argAt_cons (x : List Tok) (l : List (List Tok)) (k : Nat) (hk : 2 ≤ k) :
    argAt (x :: l) k = argAt l (k - 1) := by
  obtain ⟨j, rfl⟩ : ∃ j, k = j + 2 := ⟨k - 2, by omega⟩
  simp [argAt]

theorem spAt_cons (x : Sp) (l : List Sp) (k : Nat) (hk : 2 ≤ k) : spAt (x :: l) k = spAt l (k - 1) := by
  obtain ⟨j, rfl⟩ : ∃ j, k = j + 2 := ⟨k - 2, by omega⟩
  simp [spAt]

theorem oargsSem_of_link {T : PTables} {st : PState} {p q : Nat} {dflt : Str} {dt : List Tok}
    {opt : Opt} {a : Option Str} {gs : List Group} {args : List Str} {qa : Nat}
    (hd : DLink dt dflt) (hdne : dt ≠ []) (ho : OptLink q opt a)
    (hop : ∀ o, opt = some o → GoodRun T st o.2.1)
    (h : GroupsLink qa gs args) (hg : ∀ g ∈ gs, GroupGood T st g) (n : Nat) (hn : n - 1 ≤ gs.length) :
    OArgsSem (firstArg p dt opt :: (gs.take (n - 1)).map (·.toks))
      (firstSp p q dflt a :: (argSpans qa args).map spOf) n := by
  intro k k1 k2
  by_cases hk : k = 1
  · subst hk
    have e1 : argAt (firstArg p dt opt :: (gs.take (n - 1)).map (·.toks)) 1 = firstArg p dt opt := rfl
    have e2 : spAt (firstSp p q dflt a :: (argSpans qa args).map spOf) 1 = firstSp p q dflt a := rfl
    rw [e1, e2]
    cases opt with
    | none =>
      cases a with
      | some _ => exact absurd ho (by simp [OptLink])
      | none =>
        simp only [firstArg, firstSp, dfltSp]
        refine ⟨by rw [charsOf_restamp, hd.2], headPos_restamp p dt hdne, PlainMacroArgs.lastPos_restamp p dt hdne, ?_, ?_⟩
        · intro t ht
          obtain ⟨u, hu, rfl⟩ := List.mem_map.mp ht
          exact (hd.1 u hu).2
        · intro t ht
          obtain ⟨u, hu, rfl⟩ := List.mem_map.mp ht
          exact PlainMacro.plainTok_restamp p u (hd.1 u hu).1
    | some o =>
      cases a with
      | none => exact absurd ho (by simp [OptLink])
      | some a1 =>
        obtain ⟨_, _, F⟩ := ho
        simp only [firstArg, firstSp, spOf]
        exact ⟨F.chars, F.head, F.last, F.shape, fun t ht => ((hop o rfl).2 t ht).1⟩
  · have hk2 : 2 ≤ k := by omega
    rw [argAt_cons _ _ k hk2, spAt_cons _ _ k hk2]
    exact (PlainMacroArgs.argsSem_of_link h hg (n - 1) hn).sp (k - 1) (by omega) (by omega)

/-! ### what the pieces mean -/

theorem orefMarks_chrItems (env : OEnv) (items : List OItem) : ∀ (s : Str) (p : Nat),
    orefMarks env (ochrItems p s ++ items) = (posText p s).map some ++ orefMarks env items
  | [], _ => rfl
  | c :: cs, p => by
    simp only [ochrItems, List.cons_append, orefMarks, posText, List.map_cons,
      orefMarks_chrItems env items cs (p + 1)]

theorem ochrItems_skip {β : Type} (f : List OItem → β) (h : ∀ c p r, f (.chr c p :: r) = f r)
    (items : List OItem) : ∀ (s : Str) (p : Nat), f (ochrItems p s ++ items) = f items
  | [], _ => rfl
  | c :: cs, p => (h c p _).trans (ochrItems_skip f h items cs (p + 1))

theorem oitemsLen_chrItems (items : List OItem) : ∀ (s : Str) (p : Nat),
    oitemsLen (ochrItems p s ++ items) = s.length + oitemsLen items
  | [], _ => by simp [ochrItems]
  | c :: cs, p => by
    simp only [ochrItems, List.cons_append, oitemsLen, oitemsLen_chrItems items cs (p + 1), List.length_cons]
    omega

theorem optMacro_inj {nm : Str} {n n' : Nat} {dt dt' b b' : List Tok} (hn : 1 ≤ n) (hn' : 1 ≤ n')
    (h : optMacro nm n dt b = optMacro nm n' dt' b') : n = n' ∧ dt = dt' ∧ b = b' := by
  have h1 := congrArg MacroDef.repl h
  have h2 := congrArg (fun m => m.args.length) h
  have h3 := congrArg MacroDef.defaults h
  simp only [optMacro, List.length_cons, List.length_replicate, List.cons.injEq, and_true] at h1 h2 h3
  exact ⟨by omega, h3, h1⟩

structure OSem (st : PState) (env : OEnv) (ps : List OPiece) (items : List OItem) : Prop where
  marks : marksOf (ooutP st ps) = orefMarks env items
  simple : ∀ t ∈ ooutP st ps, PlainMacro.Simple t
  cost : ocost st ps ≤ oitemsLen items + orefInserted env items
  unk : (ofinalSt st ps).unknowns = (orefUnknowns env items).foldl addU st.unknowns
  arity : OArityOk st ps

theorem optLen_of_link {q : Nat} {opt : Opt} {a : Option Str} (h : OptLink q opt a) :
    (opt = none ↔ a = none) := by
  cases opt <;> cases a <;> simp_all [OptLink]

theorem olink_sem (T : PTables) (st1 : PState) {ps : List OPiece} {items : List OItem} (hl : OLink ps items) :
    OPiecesOk T st1 ps → ∀ (st : PState) (env : OEnv), OStOk T st1 st → ORel st1 st env →
    orefArity env items = true → OSem st env ps items := by
  induction hl with
  | nil => intro _ st env _ _ _; exact ⟨rfl, by simp [ooutP], by simp [ocost], rfl, trivial⟩
  | tok t ps items hfix hshape _ ih =>
    intro hok st env hst hrel har
    obtain ⟨hp, _, hrest⟩ := hok
    rw [ochrItems_skip (orefArity env) (fun _ _ _ => rfl)] at har
    have I := ih hrest st env hst hrel har
    refine ⟨?_, ?_, ?_, ?_, I.arity⟩
    · simp only [ooutP]
      rw [PlainMacro.marksOf_cons, PlainMacro.tokMarks_nonaction _ hp.notAction,
        PlainMacro.tokChars_nofix t hfix, orefMarks_chrItems, I.marks]
    · intro x hx
      simp only [ooutP, List.mem_cons] at hx
      rcases hx with rfl | hx
      · exact PlainMacro.simple_of_plain hp hshape
      · exact I.simple x hx
    · have := I.cost
      have h1 := List.length_pos_iff.mpr hshape.1
      simp only [ocost, oitemsLen_chrItems, ochrItems_skip (orefInserted env) (fun _ _ _ => rfl)]
      omega
    · simp only [ofinalSt, ochrItems_skip (orefUnknowns env) (fun _ _ _ => rfl)]
      exact I.unk
  | defn p q1 q2 q3 q4 q5 q6 r1 r2 q7 q8 kw name n dflt body dt btoks ps items hd hb _ ih =>
    intro hok st env hst hrel har
    obtain ⟨_, hn, _, hn1, hdt, hgb, hrest⟩ := hok
    simp only [orefArity] at har
    have I := ih hrest (odefSt st name n dt btoks) ((name, n, dflt, body) :: env)
      (hst.defSt name n dt btoks hn hn1 hdt hgb) (hrel.defSt name n dflt body dt btoks hn1 hd hb) har
    refine ⟨?_, ?_, ?_, ?_, I.arity⟩
    · simp only [ooutP, orefMarks]
      rw [PlainMacro.marksOf_cons, PlainMacro.tokMarks_mkAction, I.marks]; rfl
    · intro x hx
      simp only [ooutP, List.mem_cons] at hx
      rcases hx with rfl | hx
      · exact PlainMacro.simple_mkAction p
      · exact I.simple x hx
    · have := I.cost
      simp only [ocost, oitemsLen, orefInserted, defLen]
      omega
    · simp only [ofinalSt, orefUnknowns]
      exact I.unk
  | use p name opt a args gs ps items hne hol hgl _ ih =>
    intro hok st env hst hrel har
    obtain ⟨hn, hopt, _, hgg, hrest⟩ := hok
    simp only [orefArity, Bool.and_eq_true, decide_eq_true_eq, Bool.or_eq_true] at har
    obtain ⟨⟨har1, har0⟩, har2⟩ := har
    have I := ih hrest (ouseSt st name) env (hst.useSt name) (hrel.useSt name) har2
    have hname := List.length_pos_iff.mpr hne
    have hlen := groupsLink_length hgl
    cases hbo : olookup env name with
    | none =>
      have hR := hrel.undef hn.undecl hbo
      have ha : a = none := by
        rcases har0 with h | h
        · rw [hbo] at h; cases h
        · simpa using h
      subst ha
      have ho : opt = none := (optLen_of_link hol).mpr rfl
      subst ho
      have e1 : ouseBody st p name none gs = [] := by simp [ouseBody, hR]
      have e2 : ouseSt st name = { st with unknowns := addU st.unknowns ('\\' :: name) } := by
        simp [ouseSt, hR]
      have e3 : ouseN st name = 0 := by simp [ouseN, hR]
      have e4 : odefOf env name = (0, [], []) := by simp [odefOf, hbo]
      obtain ⟨g1, g2, g3⟩ := groups_sem 0 hgl hgg
      refine ⟨?_, ?_, ?_, ?_, ?_⟩
      · simp only [ooutP, orefMarks, e1, e3, e4, List.nil_append, obodyMarks, Nat.zero_sub]
        rw [PlainMacro.marksOf_cons, PlainMacro.tokMarks_mkAction, PlainMacro.marksOf_append, g1, I.marks]; rfl
      · intro x hx
        simp only [ooutP, e1, e3, List.nil_append, List.mem_cons, List.mem_append] at hx
        rcases hx with rfl | hx | hx
        · exact PlainMacro.simple_mkAction p
        · exact g3 x hx
        · exact I.simple x hx
      · have := I.cost
        simp only [ocost, oitemsLen, orefInserted, e1, e3, e4, List.length_nil, obodyInserted]
        omega
      · simp only [ofinalSt, orefUnknowns, hbo, Option.isNone_none, if_true, List.singleton_append,
          List.foldl_cons]
        rw [I.unk, e2]
      · exact ⟨fun _ => rfl, by rw [e3]; omega, I.arity⟩
    | some d =>
      obtain ⟨n, dflt, body⟩ := d
      obtain ⟨_, hlk, hn1, dt, bt, rfl, hdl, hbl⟩ := hrel.defined hn.undecl hbo
      simp only [] at hn1 hlk hdl hbl
      obtain ⟨n', dt', bt', hm, hn1', hdt', hgb⟩ := hst.user _ _ hn.undecl hlk
      obtain ⟨rfl, rfl, rfl⟩ := optMacro_inj hn1 hn1' hm
      have hal : (optMacro ('\\' :: name) n dt bt).args.length - 1 = n - 1 := by simp [optMacro]
      have e1 : ouseBody st p name opt gs
          = genOut (firstArg p dt opt :: (gs.take (n - 1)).map (·.toks)) bt
              (genCur (firstArg p dt opt :: (gs.take (n - 1)).map (·.toks)) bt p) := by
        simp only [ouseBody, hlk, hal]
        rfl
      have e2 : ouseSt st name = st := by simp [ouseSt, hlk]
      have e3 : ouseN st name = n - 1 := by simp [ouseN, hlk, hal]
      have e4 : odefOf env name = (n, dflt, body) := by simp [odefOf, hbo]
      rw [e4] at har1
      simp only [] at har1
      obtain ⟨g1, g2, g3⟩ := groups_sem (n - 1) hgl hgg
      have hsem := oargsSem_of_link (p := p) (q := p + name.length + 1) (qa := p + name.length + 1 + optLen a)
        hdl hdt'.1 hol hopt hgl hgg n (by omega)
      obtain ⟨b1, b2, b3⟩ := obody_sem _ _ n hsem bt body hbl hgb.refs p
      rw [← e1] at b1 b2 b3
      have hsp : useSpans env p name a args
          = firstSp p (p + name.length + 1) dflt a :: (argSpans (p + name.length + 1 + optLen a) args).map spOf := by
        simp only [useSpans, e4]
      refine ⟨?_, ?_, ?_, ?_, ?_⟩
      · simp only [ooutP, orefMarks, e3, e4, hsp]
        rw [PlainMacro.marksOf_cons, PlainMacro.tokMarks_mkAction, PlainMacro.marksOf_append,
          PlainMacro.marksOf_append, b1, g1, I.marks]; rfl
      · intro x hx
        simp only [ooutP, e3, List.mem_cons, List.mem_append] at hx
        rcases hx with rfl | hx | hx | hx
        · exact PlainMacro.simple_mkAction p
        · exact b3 x hx
        · exact g3 x hx
        · exact I.simple x hx
      · have := I.cost
        have hI : orefInserted env (.use p name a args :: items)
            = obodyInserted (firstSp p (p + name.length + 1) dflt a
                :: (argSpans (p + name.length + 1 + optLen a) args).map spOf) body
              + orefInserted env items := by
          simp only [orefInserted, useSpans, e4]
        rw [hI]
        simp only [ocost, oitemsLen, e3]
        omega
      · simp only [ofinalSt, orefUnknowns, hbo, Option.isNone_some, Bool.false_eq_true, if_false,
          List.nil_append]
        rw [I.unk, e2]
      · exact ⟨fun h => absurd (hlk.symm.trans h) (by simp), by rw [e3]; omega, I.arity⟩

theorem OkSrcO_len {T : PTables} {st : PState} {p : Nat} {s : Str} {items : List OItem}
    (h : OkSrcO T st p s items) : oitemsLen items = s.length := by
  refine h.len oitemsLen (by rintro _ rfl; rfl) (fun _ _ _ => Nat.add_comm ..) ?_
  rintro _ _ _ _ _ _ (⟨kw, name, n, dflt, body, R, items, -⟩ | ⟨name, opt, args, R, items, -⟩)
  · simp only [oitemsLen, List.length_cons, List.length_append, defLen]; omega
  · cases opt <;>
      simp only [oitemsLen, List.length_cons, List.length_append, argsStr_length, optStr, optLen,
        List.length_nil] <;> omega

theorem bodyTok_notComment {T : PTables} {st : PState} {n : Nat} {x : Tok} (h : BodyTok T st n x) :
    x.kind ≠ .comment := by
  rcases h with ⟨h1, _⟩ | ⟨k, hk, _⟩
  · exact h1.notComment
  · intro e
    simp [argRef, e] at hk

theorem OPiecesOk.noCom {T : PTables} {st : PState} : ∀ {ps : List OPiece}, OPiecesOk T st ps → NoCom (oflat ps)
  | [], _ => .nil
  | .tok _ :: _, h => .cons h.1.notComment (noCom h.2.2)
  | .defn .. :: _, h =>
    .append (.cons nofun <| .cons nofun <| .cons nofun <| .cons nofun <| .cons nofun <| .cons nofun <|
      .cons nofun <| .cons nofun <| .append (fun t ht => (h.2.2.2.2.1.2 t ht).1.notComment) <|
      .cons nofun <| .cons nofun <| .append (fun t ht => bodyTok_notComment (h.2.2.2.2.2.1.2 t ht)) <|
      .cons nofun .nil) (noCom h.2.2.2.2.2.2)
  | .use _ _ none _ :: _, h => .append (.cons nofun (PlainMacroArgs.noCom_groups h.2.2.2.1)) (noCom h.2.2.2.2)
  | .use _ _ (some o) _ :: _, h =>
    .append (.cons nofun <| .append (.cons nofun <| .append (fun t ht => ((h.2.1 o rfl).2 t ht).1.notComment) <|
      .cons nofun .nil) (PlainMacroArgs.noCom_groups h.2.2.2.1)) (noCom h.2.2.2.2)

theorem ofinalSt_eq : ∀ (ps : List OPiece) (st : PState),
    ofinalSt st ps = { st with macros := (ofinalSt st ps).macros, unknowns := (ofinalSt st ps).unknowns }
  | [], st => rfl
  | .tok _ :: rest, st => ofinalSt_eq rest st
  | .defn _ _ _ _ _ _ _ _ _ _ _ _ name n dt body :: rest, st => by
    have := ofinalSt_eq rest (odefSt st name n dt body)
    simp only [ofinalSt]
    rw [this]
    rfl
  | .use _ name _ _ :: rest, st => by
    have := ofinalSt_eq rest (ouseSt st name)
    simp only [ofinalSt]
    rw [this]
    unfold ouseSt
    split <;> rfl

/-! ### the reference on the level of segments -/

theorem orefMarks_itemsOf : ∀ (segs : List OSeg) (env : OEnv) (p : Nat),
    orefMarks env (oitemsOf p segs) = osegMarks env p segs
  | [], _, _ => rfl
  | .txt s :: rest, env, p => by
    simp only [oitemsOf, osegMarks, orefMarks_chrItems, orefMarks_itemsOf rest]
  | .defn kw name n dflt body :: rest, env, p => by
    simp only [oitemsOf, osegMarks, orefMarks, orefMarks_itemsOf rest]
  | .use name opt args :: rest, env, p => by
    simp only [oitemsOf, osegMarks, orefMarks, orefMarks_itemsOf rest]

theorem orefUnknowns_itemsOf : ∀ (segs : List OSeg) (env : OEnv) (p : Nat),
    orefUnknowns env (oitemsOf p segs) = osegUnknowns env segs
  | [], _, _ => rfl
  | .txt s :: rest, env, p => by
    simp only [oitemsOf, osegUnknowns, ochrItems_skip (orefUnknowns env) (fun _ _ _ => rfl), orefUnknowns_itemsOf rest]
  | .defn kw name n dflt body :: rest, env, p => by
    simp only [oitemsOf, osegUnknowns, orefUnknowns, orefUnknowns_itemsOf rest]
  | .use name opt args :: rest, env, p => by
    simp only [oitemsOf, osegUnknowns, orefUnknowns, orefUnknowns_itemsOf rest]

theorem orefInserted_itemsOf : ∀ (segs : List OSeg) (env : OEnv) (p : Nat),
    orefInserted env (oitemsOf p segs) = osegInserted env p segs
  | [], _, _ => rfl
  | .txt s :: rest, env, p => by
    simp only [oitemsOf, osegInserted, ochrItems_skip (orefInserted env) (fun _ _ _ => rfl), orefInserted_itemsOf rest]
  | .defn kw name n dflt body :: rest, env, p => by
    simp only [oitemsOf, osegInserted, orefInserted, orefInserted_itemsOf rest]
  | .use name opt args :: rest, env, p => by
    simp only [oitemsOf, osegInserted, orefInserted, orefInserted_itemsOf rest]

theorem orefArity_itemsOf : ∀ (segs : List OSeg) (env : OEnv) (p : Nat),
    orefArity env (oitemsOf p segs) = oarityOk env segs
  | [], _, _ => rfl
  | .txt s :: rest, env, p => by
    simp only [oitemsOf, oarityOk, ochrItems_skip (orefArity env) (fun _ _ _ => rfl), orefArity_itemsOf rest]
  | .defn kw name n dflt body :: rest, env, p => by
    simp only [oitemsOf, oarityOk, orefArity, orefArity_itemsOf rest]
  | .use name opt args :: rest, env, p => by
    simp only [oitemsOf, oarityOk, orefArity, orefArity_itemsOf rest]

def OSegsOk (T : PTables) (st : PState) (segs : List OSeg) : Prop :=
  noEmptyActive T st = true ∧ osegsOk T st segs = true ∧ oarityOk [] segs = true

instance (T : PTables) (st : PState) (segs : List OSeg) : Decidable (OSegsOk T st segs) := by
  unfold OSegsOk; infer_instance

/-- **C09 / C04 end to end, definitions with an optional first parameter and a default value.** -/
theorem tex2txt_renewcommand_default (T : PTables) (o : Options) (fs : FS) (thresh : Nat) (segs : List OSeg)
    (fuel : Nat) (st1 : PState)
    (hdefs : o.defs = []) (hextr : o.extr = []) (hrepl : o.hasRepl = false) (hunkn : o.unkn = false)
    (hinit : initParser T fuel o (initialState T o false fs) = .ok ((), st1))
    (hok : OSegsOk T st1 segs) (hf : (orender segs).length + osegInserted [] 0 segs + 6 ≤ fuel) :
    ∃ r, tex2txt T fuel (orender segs) o false thresh fs = .ok r ∧
      r.txt = (delLines (osegMarks [] 0 segs)).map (·.1) ∧
      r.pos = (delLines (osegMarks [] 0 segs)).map (·.2 + 1) ∧
      r.unknowns = (osegUnknowns [] segs).eraseDups ∧
      r.diags = st1.diags ∧ r.parts = [] := by
  have R : PlainSetup T o fs fuel st1 := ⟨⟨hdefs, hextr, hinit⟩, hrepl, hunkn⟩
  obtain ⟨ha, hsegs, har⟩ := hok
  have hsrc := OkSrcO_of_segsOk T st1 segs 0 hsegs
  have F := scanAll_opt T st1 (orender segs) 0 _ _ hsrc
  obtain ⟨ps, hflat, hpok, hlink⟩ := F.pieces
  let st' := startState st1 (orender segs)
  have hstok : OStOk T st1 st' := (UserTable.Keeps.refl _ st1).reads (.startState st1 _)
  have S := olink_sem T st1 hlink hpok st' [] hstok (.init _ (fun _ => rfl) rfl)
    (by rw [orefArity_itemsOf]; exact har)
  have hlen := OkSrcO_len hsrc
  obtain ⟨res, hres, ht, hp, hpa, hu, hd, _⟩ := R.of_run thresh F.ok hflat (hpok.noCom.noBegin _)
    (seqRun_opt T none st1 ha ps [] st' hpok S.arity hstok) (by omega)
    (by have := S.cost; rw [orefInserted_itemsOf] at this; omega) S.simple
  have e := ofinalSt_eq ps st'
  have hex : (ofinalSt st' ps).extracted = [] := by rw [e]; rfl
  have hdi : (ofinalSt st' ps).diags = st1.diags := by rw [e]; rfl
  rw [S.marks, orefMarks_itemsOf, hex, show charsOf (flowsToks []) = [] from rfl, List.append_nil] at ht hp
  exact ⟨res, hres, ht, hp,
    hu.trans (S.unk.trans (by rw [orefUnknowns_itemsOf]; exact foldl_addU_nil _)), hd.trans hdi, hpa⟩

end PlainOptArg
end Yalafi
