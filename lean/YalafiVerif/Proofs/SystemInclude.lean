/-
  Proofs/SystemInclude.lean — C18, second half, composed from the filter and the shell:
  "Built on this [the extraction], --include checks exactly the files reachable from the given ones
  through \input/\include (adding .tex where missing), each once, in discovery order, without
  files matching --skip, and terminates on cyclic inclusion."

  The Python (yalafi/shell/shell.py, l. 264–295):

      opts = tex2txt.Options(extr='include,input', repl=cmdline.replace, defs=cmdline.define,
                             lang=cmdline.language[:2], dcls=…, pack=…, nosp=…)
      todo = cmdline.file;  done = []
      while todo:
          f = todo.pop(0)
          if f in done or skip_file(f): continue
          done.append(f)
          fp = tex2txt.myopen(f, …); tex = fp.read()          # fatal exit if `f` cannot be opened
          (plain, _) = tex2txt.tex2txt(tex, opts)
          for f in plain.split():
              if not f.endswith('.tex'): f += '.tex'
              if f not in done + todo and not skip_file(f): todo.append(f)

  The model.  The loop is `includeLoop includes skip fuel todo done` (Model/Shell.lean) for a
  function `includes : Str → List Str`; Properties/C18.lean and Proofs/SystemIncludeLoop.lean are
  about an ABSTRACT `includes`.  Here the CONCRETE function is defined on the model of the filter:

    `inclOpts o`          the options of the scan: those of the command line with
                          `extr := "include,input"` (no `--seqs`, no `--unkn`)
    `readFile fs f`       the file system is the association list `fs : FS` that the filter itself
                          reads from (`\LTinput`): first entry with name `f`
    `includesOf? T fuel o fs f`   read `f` (`none` = the fatal exit of `myopen`), run `tex2txt`
                          of the model with `inclOpts o` in single-language mode (`none` if it does
                          not return a result), split `r.txt` at white space (`splitWs` =
                          `str.split()`), `addTex` every part
    `includesOf …`        the same as a total function (`[]` in the fatal cases) — the argument of
                          `includeLoop`.  The theorems below show that the fatal case does not
                          occur for any file the loop opens.

  (B) `includesOf?_document`: for a file whose content is a document `PlainExtract.render segs` of
  the class of `C18_extract_e2e` (inert text, calls `\input{…}` / `\include{…}` — `.call`, the listed
  macros —, calls of declared macros that are not listed — `.skip`: `\label`, `\section`, … —,
  comment lines with arbitrary text — `.com`: `% \input{hidden}`):

      includesOf? … f = some (inclNames segs),
      inclNames segs = ((bodies segs).flatMap splitWs).map addTex

  i.e. exactly the arguments of the `\input`/`\include` calls, in source order, with `.tex` added
  where missing; nothing from text, from other macros or from comments.  The statement follows the
  code for arguments that contain white space: `\input{my file}` is taken for TWO files `my.tex`
  and `file.tex` (`plain.split()`); for arguments without white space (`namesOk`)
  `inclNames segs = (bodies segs).map addTex` (`inclNames_of_namesOk`).

  (C) `include_system`: a finite file system `docs : List (Str × List Seg)` (name, document; a
  later entry with the name of an earlier one is shadowed), every document well formed (`docsOk`),
  every root and every included name that is not skipped present (`closedOk`: the fatal exit is
  not taken).  With `n ≥ |roots| + |docs|` iterations the loop terminates — cyclic inclusion or
  not — and its result `out`
    * every `f ∈ out` is a file of `docs`, and the scan of it succeeds;
    * has no duplicates and contains no skipped file;
    * `f ∈ out ↔ ReachNS (docIncludes docs) skip roots f`: exactly the files reachable from a root
      that is not skipped through `\input`/`\include` calls in files that are not skipped (what a
      skipped file includes is not followed: it is never opened);
    * `out = firstNew skip [] (roots ++ out.flatMap (docIncludes docs))`: breadth-first discovery
      order — the first occurrences of the non-skipped names in the sequence "roots, then what
      out[0] includes, then what out[1] includes, …";
    * `Causal`: every member is a root or is included by an earlier member.

  Side conditions (all computable, reasons):
    `o.defs = []`, `o.hasRepl = false`   no `--define`, no `--replace` (as in `C18_extract_e2e`);
    `hinit`    `st1` = state after `Parser.__init__` for `inclOpts o` and the file system;
    `stateOk`, `segsOk` for `initExtractions T st1 ["\\include", "\\input"]`  see Proofs/PlainExtract.lean;
    `fuel`     filter fuel: one unit per source character of the longest file plus four;
    `closedOk` see above.
  Not covered: everything `C18_extract_e2e` does not cover (arguments with macros or braces,
  `\input file` without braces — TeX's own syntax; the filter then takes the next TOKEN, i.e. the
  single character `f` —, white space between name and brace, `%%% LT-SKIP-BEGIN`), relative
  paths / directories (names are compared as strings, as in the Python code: `a.tex` and
  `./a.tex` are different files; `addTex` compares with `.tex` exactly, `a.TEX` becomes
  `a.TEX.tex`), files outside the class, missing files (fatal exit of the real program;
  `includesOf?` is `none`), `--define` / `--replace` together with `--include`.
-/
import YalafiVerif.Proofs.PlainExtract
import YalafiVerif.Proofs.SystemIncludeLoop
namespace Yalafi
namespace SystemInclude

open PlainExtract (extrList)
open IncludeLoop

/-! ### (A) the concrete inclusion function of the shell -/

/-- `inclusion_macros = 'include,input'` (shell.py l. 75) -/
def inclusionMacros : Str := "include,input".toList

/-- the options of the inclusion scan (shell.py l. 267): language, document class, packages,
    `--no-specials`, definitions and replacements of the command line; extraction list
    `include,input`; `seqs` and `unkn` keep their default `False` -/
def inclOpts (o : Options) : Options :=
  { o with extr := inclusionMacros, seqs := false, unkn := false }

def inclList : List Str := extrList inclusionMacros

theorem inclList_eq : inclList = ["\\include".toList, "\\input".toList] := by decide

/-- `open(f).read()` on the association list -/
def readFile (fs : FS) (f : Str) : Option Str := (fs.find? (·.1 == f)).map (·.2)

/-- the names one file contributes to the work list, `none` = fatal exit (the file cannot be
    opened, or the filter does not return) -/
def includesOf? (T : PTables) (fuel : Nat) (o : Options) (fs : FS) (f : Str) : Option (List Str) :=
  match readFile fs f with
  | none => none
  | some tex =>
    match tex2txt T fuel tex (inclOpts o) false 0 fs with
    | .ok r => some ((splitWs r.txt).map addTex)
    | _ => none

def includesOf (T : PTables) (fuel : Nat) (o : Options) (fs : FS) (f : Str) : List Str :=
  (includesOf? T fuel o fs f).getD []

/-! ### `str.split()` of the extraction output -/

theorem splitWsAux_acc : ∀ (s cur : Str) (acc : List Str),
    splitWsAux s cur acc = acc.reverse ++ splitWsAux s cur []
  | [], cur, acc => by
    simp only [splitWsAux]
    split <;> simp
  | c :: cs, cur, acc => by
    simp only [splitWsAux]
    split
    · rw [splitWsAux_acc cs [] (if cur.isEmpty then acc else cur.reverse :: acc),
        splitWsAux_acc cs [] (if cur.isEmpty then [] else [cur.reverse])]
      split <;> simp
    · exact splitWsAux_acc cs (c :: cur) acc

theorem splitWsAux_sep (c : Char) (hc : isSpace c = true) (b : Str) : ∀ (a cur : Str),
    splitWsAux (a ++ c :: b) cur [] = splitWsAux a cur [] ++ splitWs b
  | [], cur => by
    simp only [List.nil_append, splitWsAux, hc, if_true]
    rw [splitWsAux_acc]
    rfl
  | x :: a, cur => by
    simp only [List.cons_append, splitWsAux]
    split
    · rw [splitWsAux_acc, splitWsAux_sep c hc b a [], splitWsAux_acc a [] (if cur.isEmpty then [] else [cur.reverse])]
      simp
    · exact splitWsAux_sep c hc b a (x :: cur)

theorem splitWs_sep (c : Char) (hc : isSpace c = true) (a b : Str) :
    splitWs (a ++ c :: b) = splitWs a ++ splitWs b :=
  splitWsAux_sep c hc b a []

theorem splitWs_lead (c : Char) (hc : isSpace c = true) (b : Str) : splitWs (c :: b) = splitWs b := by
  have := splitWs_sep c hc [] b
  simpa [splitWs, splitWsAux] using this

theorem splitWsAux_word : ∀ (w cur : Str), (∀ c ∈ w, isSpace c = false) →
    splitWsAux w cur [] = if (w.reverse ++ cur).isEmpty then [] else [(w.reverse ++ cur).reverse]
  | [], cur, _ => by
    simp only [splitWsAux, List.reverse_nil, List.nil_append]
    split <;> simp_all
  | c :: w, cur, h => by
    have hc := h c List.mem_cons_self
    simp only [splitWsAux, hc, Bool.false_eq_true, if_false]
    rw [splitWsAux_word w (c :: cur) (fun d hd => h d (List.mem_cons_of_mem _ hd))]
    simp

theorem splitWs_word (w : Str) (hne : w ≠ []) (h : ∀ c ∈ w, isSpace c = false) : splitWs w = [w] := by
  rw [splitWs, splitWsAux_word w [] h]
  simp [hne]

/-- what the filter makes of one extracted argument -/
def wrap (b : Str) : Str := [nl, nl, nl] ++ b ++ [nl]

theorem splitWs_wraps : ∀ bs : List Str, splitWs (bs.map wrap).flatten = bs.flatMap splitWs
  | [] => rfl
  | b :: bs => by
    have hnl : isSpace nl = true := by decide
    have e : ((b :: bs).map wrap).flatten = nl :: nl :: nl :: (b ++ nl :: (bs.map wrap).flatten) := by
      simp [wrap]
    rw [e, splitWs_lead nl hnl, splitWs_lead nl hnl, splitWs_lead nl hnl, splitWs_sep nl hnl,
      splitWs_wraps bs, List.flatMap_cons]

/-- `plain.split()` of the output of the scan: the words of the arguments, in order -/
theorem splitWs_flowsText (segs : List PlainExtract.Seg) :
    splitWs (PlainExtract.flowsText segs) = (PlainExtract.bodies segs).flatMap splitWs :=
  splitWs_wraps (PlainExtract.bodies segs)

/-! ### (B) the scan of one document -/

/-- the arguments of the `\input`/`\include` calls, split at white space as `plain.split()` does -/
def inclArgs (segs : List PlainExtract.Seg) : List Str := (PlainExtract.bodies segs).flatMap splitWs

/-- the names a document contributes: `.tex` added where missing -/
def inclNames (segs : List PlainExtract.Seg) : List Str := (inclArgs segs).map addTex

def namesOk (segs : List PlainExtract.Seg) : Bool := (PlainExtract.bodies segs).all (fun b => !b.any isSpace)

theorem flatMap_splitWs_words : ∀ bs : List Str,
    bs.all (fun b => !b.any isSpace) = true → bs.all (fun b => !b.isEmpty) = true →
    bs.flatMap splitWs = bs
  | [], _, _ => rfl
  | b :: bs, hn, hne => by
    simp only [List.all_cons, Bool.and_eq_true, Bool.not_eq_true', List.isEmpty_eq_false_iff] at hn hne
    rw [List.flatMap_cons, flatMap_splitWs_words bs hn.2 hne.2, splitWs_word b hne.1]
    · rfl
    · intro c hc
      have := hn.1
      simp only [List.any_eq_false] at this
      simpa using this c hc

theorem inclNames_of_namesOk (T : PTables) (st : PState) (segs : List PlainExtract.Seg)
    (hok : PlainExtract.segsOk T st segs = true) (hn : namesOk segs = true) :
    inclNames segs = (PlainExtract.bodies segs).map addTex := by
  have hne := PlainExtract.bodiesNonEmpty_of_segsOk T st segs hok
  unfold inclNames inclArgs
  rw [flatMap_splitWs_words _ hn hne]

/-- **(B) the names the shell takes from one file.**  The file `f` contains the document
    `render segs`; hypotheses of `C18_extract_e2e` for the options of the scan.  Then the scan
    succeeds and delivers exactly the (white-space separated parts of the) arguments of the
    `\input` / `\include` calls in source order, `.tex` added where missing. -/
theorem includesOf?_document (T : PTables) (o : Options) (fs : FS) (f : Str) (segs : List PlainExtract.Seg)
    (fuel : Nat) (st1 : PState)
    (hfile : readFile fs f = some (PlainExtract.render segs))
    (hdefs : o.defs = []) (hrepl : o.hasRepl = false)
    (hinit : initParser T fuel (inclOpts o) (initialState T (inclOpts o) false fs) = .ok ((), st1))
    (hst : PlainExtract.stateOk T (initExtractions T st1 inclList) = true)
    (hok : PlainExtract.segsOk T (initExtractions T st1 inclList) segs = true)
    (hf : (PlainExtract.render segs).length + 4 ≤ fuel) :
    includesOf? T fuel o fs f = some (inclNames segs) := by
  have hextr : (inclOpts o).extr ≠ [] := by
    show inclusionMacros ≠ []
    decide
  have hunkn : (inclOpts o).unkn = false := rfl
  obtain ⟨r, hr, ht, _⟩ := PlainExtract.tex2txt_extract T (inclOpts o) fs 0 segs fuel st1 hdefs
    hextr hrepl hunkn hinit hst hok hf
  simp only [includesOf?, hfile, hr, ht, splitWs_flowsText]
  rfl

/-! ### (C) file systems of documents -/

abbrev Docs := List (Str × List PlainExtract.Seg)

/-- the file system the filter and the shell read -/
def fsOf (docs : Docs) : FS := docs.map (fun d => (d.1, PlainExtract.render d.2))

/-- the document stored under a name (first entry) -/
def docOf (docs : Docs) (f : Str) : Option (List PlainExtract.Seg) := (docs.find? (·.1 == f)).map (·.2)

/-- the inclusion relation of the file system, read off the documents: `g ∈ docIncludes docs f`
    iff the file `f` contains a call `\input{b}` or `\include{b}` and `g` is (a white-space
    separated part of) `b` with `.tex` added where missing -/
def docIncludes (docs : Docs) (f : Str) : List Str :=
  match docOf docs f with
  | some segs => inclNames segs
  | none => []

def hasFile (docs : Docs) (f : Str) : Bool := docs.any (·.1 == f)

/-- every document is in the class of `C18_extract_e2e` and short enough for the fuel of the filter -/
def docsOk (T : PTables) (st : PState) (fuel : Nat) (docs : Docs) : Bool :=
  docs.all (fun d => PlainExtract.segsOk T st d.2 && decide ((PlainExtract.render d.2).length + 4 ≤ fuel))

/-- no fatal exit: every root and every included name that is not skipped is a file -/
def closedOk (skip : Str → Bool) (docs : Docs) (roots : List Str) : Bool :=
  roots.all (fun r => skip r || hasFile docs r) &&
  docs.all (fun d => (inclNames d.2).all (fun g => skip g || hasFile docs g))

theorem readFile_fsOf (docs : Docs) (f : Str) : readFile (fsOf docs) f = (docOf docs f).map PlainExtract.render := by
  simp only [readFile, fsOf, docOf, List.find?_map, Option.map_map]
  rfl

theorem docOf_mem (docs : Docs) (f : Str) (segs : List PlainExtract.Seg) (h : docOf docs f = some segs) :
    (f, segs) ∈ docs := by
  simp only [docOf, Option.map_eq_some_iff] at h
  obtain ⟨d, hd, rfl⟩ := h
  have h1 := List.mem_of_find?_eq_some hd
  have h2 := List.find?_some hd
  simp only [beq_iff_eq] at h2
  rw [← h2]
  exact h1

theorem docOf_of_hasFile (docs : Docs) (f : Str) (h : hasFile docs f = true) :
    ∃ segs, docOf docs f = some segs := by
  simp only [hasFile, List.any_eq_true] at h
  obtain ⟨d, hd, hf⟩ := h
  cases hfind : docs.find? (·.1 == f) with
  | none =>
    rw [List.find?_eq_none] at hfind
    exact absurd hf (hfind d hd)
  | some e => exact ⟨e.2, by simp [docOf, hfind]⟩

/-- on a file system of well-formed documents the concrete inclusion function of the shell is the
    inclusion relation read off the documents -/
theorem includesOf_docs (T : PTables) (o : Options) (docs : Docs) (fuel : Nat) (st1 : PState)
    (hdefs : o.defs = []) (hrepl : o.hasRepl = false)
    (hinit : initParser T fuel (inclOpts o) (initialState T (inclOpts o) false (fsOf docs)) = .ok ((), st1))
    (hst : PlainExtract.stateOk T (initExtractions T st1 inclList) = true)
    (hdocs : docsOk T (initExtractions T st1 inclList) fuel docs = true) (f : Str) :
    (∀ segs, docOf docs f = some segs →
      includesOf? T fuel o (fsOf docs) f = some (inclNames segs)) ∧
    includesOf T fuel o (fsOf docs) f = docIncludes docs f := by
  have h1 : ∀ segs, docOf docs f = some segs →
      includesOf? T fuel o (fsOf docs) f = some (inclNames segs) := by
    intro segs hseg
    have hm := docOf_mem docs f segs hseg
    simp only [docsOk, List.all_eq_true, Bool.and_eq_true, decide_eq_true_eq] at hdocs
    obtain ⟨hok, hf⟩ := hdocs _ hm
    exact includesOf?_document T o (fsOf docs) f segs fuel st1
      (by rw [readFile_fsOf, hseg]; rfl) hdefs hrepl hinit hst hok hf
  refine ⟨h1, ?_⟩
  unfold includesOf docIncludes
  cases hseg : docOf docs f with
  | some segs => rw [h1 segs hseg]; rfl
  | none =>
    have : readFile (fsOf docs) f = none := by rw [readFile_fsOf, hseg]; rfl
    simp [includesOf?, this]

theorem docIncludes_hasFile (skip : Str → Bool) (docs : Docs) (roots : List Str)
    (hclosed : closedOk skip docs roots = true) (f g : Str) (hg : g ∈ docIncludes docs f)
    (hs : skip g = false) : hasFile docs g = true := by
  unfold docIncludes at hg
  cases hseg : docOf docs f with
  | none => simp [hseg] at hg
  | some segs =>
    simp only [hseg] at hg
    have hm := docOf_mem docs f segs hseg
    simp only [closedOk, Bool.and_eq_true, List.all_eq_true, Bool.or_eq_true] at hclosed
    rcases hclosed.2 _ hm g hg with h | h
    · rw [hs] at h; exact absurd h (by simp)
    · exact h

theorem mem_keys_of_hasFile (docs : Docs) (g : Str) (h : hasFile docs g = true) :
    g ∈ docs.map (·.1) := by
  simp only [hasFile, List.any_eq_true, beq_iff_eq] at h
  obtain ⟨d, hd, rfl⟩ := h
  exact List.mem_map.mpr ⟨d, hd, rfl⟩

/-- **(C) the work list of `--include` on a file system of documents** (see the file header) -/
theorem include_system (T : PTables) (o : Options) (docs : Docs) (roots : List Str)
    (skip : Str → Bool) (fuel n : Nat) (st1 : PState)
    (hdefs : o.defs = []) (hrepl : o.hasRepl = false)
    (hinit : initParser T fuel (inclOpts o) (initialState T (inclOpts o) false (fsOf docs)) = .ok ((), st1))
    (hst : PlainExtract.stateOk T (initExtractions T st1 inclList) = true)
    (hdocs : docsOk T (initExtractions T st1 inclList) fuel docs = true)
    (hclosed : closedOk skip docs roots = true)
    (hn : roots.length + docs.length ≤ n) :
    ∃ out, includeLoop (includesOf T fuel o (fsOf docs)) skip n roots [] = some out ∧
      (∀ f ∈ out, ∃ segs, docOf docs f = some segs ∧
        includesOf? T fuel o (fsOf docs) f = some (inclNames segs)) ∧
      out.Nodup ∧ (∀ f ∈ out, skip f = false) ∧
      (∀ f, f ∈ out ↔ ReachNS (docIncludes docs) skip roots f) ∧
      out = firstNew skip [] (roots ++ out.flatMap (docIncludes docs)) ∧
      Causal (docIncludes docs) roots out := by
  have hfun : includesOf T fuel o (fsOf docs) = docIncludes docs :=
    funext (fun f => (includesOf_docs T o docs fuel st1 hdefs hrepl hinit hst hdocs f).2)
  rw [hfun]
  have hU : ∀ f g, g ∈ docIncludes docs f → skip g = false → g ∈ docs.map (·.1) :=
    fun f g hg hs => mem_keys_of_hasFile docs g (docIncludes_hasFile skip docs roots hclosed f g hg hs)
  obtain ⟨out, h, hnd, hreach, hord, hcaus⟩ := includeLoop_bfs (docIncludes docs) skip (docs.map (·.1))
    roots hU n (by simpa using hn)
  have hskip := (includeLoop_nodup (docIncludes docs) skip n roots [] out List.nodup_nil (by simp) h).2.1
  refine ⟨out, h, ?_, hnd, hskip, hreach, hord, hcaus⟩
  intro f hf
  have hr := (hreach f).mp hf
  have hfile : hasFile docs f = true := by
    cases hr with
    | root r hr hs =>
      simp only [closedOk, Bool.and_eq_true, List.all_eq_true, Bool.or_eq_true] at hclosed
      rcases hclosed.1 f hr with h' | h'
      · rw [hs] at h'; exact absurd h' (by simp)
      · exact h'
    | step f' g _ hg hs => exact docIncludes_hasFile skip docs roots hclosed f' f hg hs
  obtain ⟨segs, hseg⟩ := docOf_of_hasFile docs f hfile
  exact ⟨segs, hseg, (includesOf_docs T o docs fuel st1 hdefs hrepl hinit hst hdocs f).1 segs hseg⟩

end SystemInclude
end Yalafi
