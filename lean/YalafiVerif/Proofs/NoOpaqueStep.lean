/-
  Proofs/NoOpaqueStep.lean — step lemmas of the NoOpaque bundle: all functions of the mutual block except
  `callHandler` (Proofs/NoOpaqueHandler.lean).
-/
import YalafiVerif.Proofs.NoOpaqueDefs
set_option linter.unusedVariables false
namespace Yalafi
namespace NoOpaque
open M

variable {T : PTables}

theorem seq_step (fuel : Nat) (IH : AllGood T fuel) :
    ∀ buf envStop out, Good (expandSequence T (fuel + 1) buf envStop out) := by
  intro buf envStop out
  cases buf with
  | nil => simp only [expandSequence]; good IH
  | cons tok rest =>
    simp only [expandSequence]
    good IH

theorem text_step (fuel : Nat) (IH : AllGood T fuel) : ∀ toks, Good (getTextExpanded T (fuel + 1) toks) := by
  intro toks
  simp only [getTextExpanded]
  good IH

theorem envName_step (fuel : Nat) (IH : AllGood T fuel) :
    ∀ buf tok, Good (getEnvironmentName T (fuel + 1) buf tok) := by
  intro buf tok
  simp only [getEnvironmentName]
  good IH

theorem begin_step (fuel : Nat) (IH : AllGood T fuel) :
    ∀ buf tok math, Good (beginEnvironment T (fuel + 1) buf tok math) := by
  intro buf tok math
  simp only [beginEnvironment]
  good IH

theorem end_step (fuel : Nat) (IH : AllGood T fuel) :
    ∀ buf tok envStop, Good (endEnvironment T (fuel + 1) buf tok envStop) := by
  intro buf tok envStop
  simp only [endEnvironment]
  good IH

theorem macro_step (fuel : Nat) (IH : AllGood T fuel) :
    ∀ buf tok math, Good (expandMacro T (fuel + 1) buf tok math) := by
  intro buf tok math
  simp only [expandMacro]
  good IH

theorem args_step (fuel : Nat) (IH : AllGood T fuel) :
    ∀ buf mac start, DOk mac → Good (expandArguments T (fuel + 1) buf mac start) := by
  intro buf mac start hm
  have h1 := hm.1
  simp only [expandArguments]
  good IH

theorem item_step (fuel : Nat) (IH : AllGood T fuel) :
    ∀ buf tok out, Good (expandItem T (fuel + 1) buf tok out) := by
  intro buf tok out
  simp only [expandItem]
  good IH

theorem accent_step (fuel : Nat) (IH : AllGood T fuel) :
    ∀ buf tok, Good (expandAccent T (fuel + 1) buf tok) := by
  intro buf tok
  simp only [expandAccent]
  good IH

theorem work_step (fuel : Nat) (IH : AllGood T fuel) : ∀ latex, Good (parserWork T (fuel + 1) latex) := by
  intro latex
  simp only [parserWork]
  good IH

theorem init_step (hT : TOk T) (fuel : Nat) (IH : AllGood T fuel) :
    ∀ name md builtin options position, ModOk md →
      Good (initPackage T (fuel + 1) name md builtin options position) := by
  intro name md builtin options position hmd
  simp only [initPackage]
  good IH
  all_goals
    refine Good_foldlM _ ?_ _ _
    intro acc requ
    good IH
    exact ⟨findModule_ModOk hT false requ⟩

theorem modParams_step (fuel : Nat) (IH : AllGood T fuel) :
    ∀ md options position, ModOk md → Good (modifyParameters T (fuel + 1) md options position) := by
  intro md options position hmd
  simp only [modifyParameters, hmd.notOpaque, Bool.false_eq_true, if_false]
  good IH
  all_goals
    refine ⟨?_⟩
    intro s hs
    exact ⟨AOk_foldl_setMacro _ hmd.macros _ hs.macros, AOk_foldl_setMacro _ hmd.envs _ hs.envs⟩

theorem keyvals_step (fuel : Nat) (IH : AllGood T fuel) :
    ∀ buf acc, Good (parseKeyvals T (fuel + 1) buf acc) := by
  intro buf acc
  simp only [parseKeyvals]
  good IH

theorem value_step (fuel : Nat) (IH : AllGood T fuel) :
    ∀ buf val, Good (parseValue T (fuel + 1) buf val) := by
  intro buf val
  simp only [parseValue]
  good IH

theorem expandKv_step (fuel : Nat) (IH : AllGood T fuel) :
    ∀ kvs, Good (expandKeyvals T (fuel + 1) kvs) := by
  intro kvs
  cases kvs with
  | nil => rw [expandKeyvals.eq_2]; exact Good_pure _
  | cons kv rest =>
    obtain ⟨k, v⟩ := kv
    cases v with
    | none => rw [expandKeyvals.eq_3]; good IH
    | some toks => rw [expandKeyvals.eq_4]; good IH

theorem modDesc_step (fuel : Nat) (IH : AllGood T fuel) :
    ∀ toks, Good (modifyDescription T (fuel + 1) toks) := by
  intro toks
  simp only [modifyDescription]
  good IH

theorem mathSec_step (fuel : Nat) (IH : AllGood T fuel) :
    ∀ buf start toksStop envStop out, Good (expandMathSection T (fuel + 1) buf start toksStop envStop out) := by
  intro buf start toksStop envStop out
  simp only [expandMathSection]
  good IH

theorem inline_step (fuel : Nat) (IH : AllGood T fuel) :
    ∀ buf tok, Good (expandInlineMath T (fuel + 1) buf tok) := by
  intro buf tok
  simp only [expandInlineMath]
  good IH

theorem dispLoop_step (fuel : Nat) (IH : AllGood T fuel) :
    ∀ buf start envName first next out, Good (displayLoop T (fuel + 1) buf start envName first next out) := by
  intro buf start envName first next out
  simp only [displayLoop]
  good IH

theorem display_step (fuel : Nat) (IH : AllGood T fuel) :
    ∀ buf tok envName remove, Good (expandDisplayMath T (fuel + 1) buf tok envName remove) := by
  intro buf tok envName remove
  simp only [expandDisplayMath]
  good IH

end NoOpaque
end Yalafi
