/-
  Proofs/PlainFlows.lean (with Proofs/PlainFlowsBase.lean; readings: Proofs/PlainFlowsRead.lean) — C03
  "detached flows (footnotes, captions) follow the main flow, each complete and in order of
  appearance", end to end on the model, for ALL macros of the tables that detach an argument:
  documents that consist of inert text (as in Proofs/PlainUnknown.lean),
    `\name{body}` and `\name[opt]{body}`            for every macro declared like `\footnote`
        (argument codes `OA`, no handler, empty replacement, extraction text `#2`: in the tables
        of /repo exactly `\footnote`, `\footnotetext`, `\caption` — the entries of
        `Generated.stDefault.macros` with `MacroDef.extract ≠ []`; there is no `\thanks`, and
        `\footnotemark` is defined by `\newcommand{\footnotemark}[1][]{}`: no extraction, it vanishes —
        `C03_flow_macros_current`, `C03_footnotemark_eval` in Properties/PlainFlowsStmt.lean),
    `\begin{name}`, `\begin{name}[placement]`, `\end{name}`   for every environment declared like
        `figure` / `table` (one optional argument, nothing else, body kept),
  in any order and mixture (`\caption` inside or outside a float, text inside the float, …).

  What the model does
    `\name[opt]{body}`   `collectArgs` stores the tokens between `[` and the FIRST `]` as argument 1
        (a void token for `[]`) and the tokens of the brace group as argument 2; the extraction text
        `#2` is expanded to `Action body Action` behind a Language token, expanded by a nested
        `expand_sequence` (the Language token vanishes in single-language mode, the blank-line
        removal drops the two Action tokens) and appended to `extracted`; the replacement is empty:
        the call leaves ONE Action token at its backslash.  NOTHING of `opt` is used.
    `\begin{name}`       `begin_environment` emits an Action token (no `add_pars`), `expand_arguments`
        another one; looking for the optional argument it SKIPS THE WHITE SPACE (at most one line
        break) behind `}` and does not give it back.  With `[placement]` the placement vanishes and
        nothing behind `]` is skipped.  The body of the environment is kept (no `remove`).
    `\end{name}`         one Action token.
    `parse` appends, for every flow in order, `[par "\n\n\n" @ first token] ++ flow ++
        [space "\n" @ last token]` behind the main tokens.
    At the end of the MAIN loop `remove_pure_action_lines` deletes every line that is blank and holds
    an Action token (`delLines` of Proofs/LinesRef.lean): a line with nothing but `\caption{…}`,
    `\begin{figure}`, `\end{figure}`, `\footnotetext{…}` disappears WITH its line break.

  The end-to-end statement `tex2txt_flows`.  `tex2txt` succeeds; text and (1-based) positions are
  `delLines (marks 0 segs) ++ flows 0 segs`:
    `marks`   text: every character with its own position; a call: ONE text-less mark; `\begin{…}`:
              two text-less marks (and the white space behind it dropped); `\end{…}`: one;
    `delLines` then every line deleted, with its line break, that is blank and holds a mark;
    `flows`   behind the main text, for every call in SOURCE ORDER: three line breaks pinned to the
              first body character, the body at its own positions, one line break pinned to the
              start of the last token of the body (`PlainFootnote.flowOut`);
  `unknowns = []`, no diagnostic.

  Side conditions (all in `SegsOk T st1 segs`, decidable; `st1` = state after `Parser.__init__`)
    `stateOk T st1`   single-language mode (Language tokens produce nothing); the empty string is no
                      "active character" (else Action tokens would go to `expand_short_macro`)
    text segments     `textOk` of Proofs/PlainUnknown.lean
    `callOk`          `\name` is one macro token (`PlainRef.nameOk`), declared with `flowDeclOk`;
                      `{body}`: both braces scanned as braces, the body not empty and inert in front of
                      `}` (`PlainFootnote.textOk`: no active character, no `% # \ $ { }`, no special
                      sequence); the body has visible text on its first and on its last line
                      (`lineC (some true) body = some none`: the flow is expanded between two Action
                      tokens, `remove_pure_action_lines` deletes a first / last line of white space;
                      `\footnote{ }` yields no text at all).  Sufficient, not necessary.
    `callOOk`         the same, and `[opt]` directly behind the name: brackets scanned as text tokens,
                      `opt` inert (MAY BE EMPTY), without `]`; `{` directly behind `]`
    `begOk`/`begNOk`/`endOk`   no special sequence matches at the backslash, `{name}` does not open
                      `{verbatim}`; the name: braces scanned as braces, not empty, inert; declared with
                      `figEnvOk`; `wsOk ws R` (Proofs/PlainThm.lean): `ws` is the whole white space
                      behind `}` with at most one line break, and what follows starts neither with
                      skippable white space nor with `[`; the placement as `opt`
    NO line condition on the main text (`delLines` is exact).
    options           no --defs, --extr, --repl, --unkn; single-language mode
    fuel              `(render segs).length + 4 ≤ fuel`
  NOT covered: bodies / optional arguments with macros, braces, maths, active characters, `]` inside
  `opt`; white space between the name and `[` / `{` (model: skipped, `\footnote [2] {x}` works, see the
  recorded `#eval`s at the end of this file); bodies whose first or last line is blank; `\footnotemark`;
  floats with `remove` or `add_pars`; a blank line (paragraph break) directly behind `\begin{figure}` is
  fine, a `[` behind white space behind it is not (it would be read as the placement);
  multi-language mode.
-/
import YalafiVerif.Proofs.PlainFlowsBase
import YalafiVerif.Proofs.PlainThm
namespace Yalafi
namespace PlainFlows

open M
open PlainMacro
open PlainFootnote (CopyTok FlowSafe TextRun lineC flowOut flowToks addFlows)
open PlainRef (bracketAt scans_note mem_txt_of_getTxtPos)
open PlainItem (begTok endTok nBegin nEnd nextToken_begin nextToken_end firstTok_beg
  firstTok_end)
open PlainThm (headSp headSp_of_spaceStep wsOk WsFacts wsFacts bracedTextOk BracedText bracedText scans_bracedText
  spToks_whiteSteps headOk_steps nameToks_of_run cwTok_notSpace)

/-- a segment of the source: a run of text; `\name{body}`; `\name[opt]{body}`; `\begin{name}` and the
    white space behind it; `\begin{name}[note]`; `\end{name}` -/
inductive Seg where
  | txt (s : Str)
  | call (name body : Str)
  | callO (name opt body : Str)
  | beg (name ws : Str)
  | begN (name note : Str)
  | en (name : Str)
deriving Repr, DecidableEq

def Seg.render : Seg → Str
  | .txt s => s
  | .call name body => '\\' :: (name ++ '{' :: (body ++ ['}']))
  | .callO name opt body => '\\' :: (name ++ '[' :: (opt ++ ']' :: '{' :: (body ++ ['}'])))
  | .beg name ws => '\\' :: (nBegin ++ '{' :: (name ++ '}' :: ws))
  | .begN name note => '\\' :: (nBegin ++ '{' :: (name ++ '}' :: '[' :: (note ++ [']'])))
  | .en name => '\\' :: (nEnd ++ '{' :: (name ++ ['}']))

def render : List Seg → Str
  | [] => []
  | s :: rest => s.render ++ render rest

def Seg.len : Seg → Nat
  | .txt s => s.length
  | .call name body => name.length + body.length + 3
  | .callO name opt body => name.length + opt.length + body.length + 5
  | .beg name ws => name.length + ws.length + 8
  | .begN name note => name.length + note.length + 10
  | .en name => name.length + 6

/-- **the main flow on the level of marks**: the document, which starts at position `p` — a text
    character with its position; ONE text-less mark for a call (with or without optional argument:
    nothing of either argument stays in the main flow); two text-less marks for `\begin{name}` /
    `\begin{name}[note]` (the white space behind `\begin{name}` is skipped); one for `\end{name}` -/
def marks : Nat → List Seg → List Mark
  | _, [] => []
  | p, .txt s :: rest => (posText p s).map some ++ marks (p + s.length) rest
  | p, .call name body :: rest => none :: marks (p + (name.length + body.length + 3)) rest
  | p, .callO name opt body :: rest =>
    none :: marks (p + (name.length + opt.length + body.length + 5)) rest
  | p, .beg name ws :: rest => none :: none :: marks (p + (name.length + ws.length + 8)) rest
  | p, .begN name note :: rest => none :: none :: marks (p + (name.length + note.length + 10)) rest
  | p, .en name :: rest => none :: marks (p + (name.length + 6)) rest

/-- **the detached flows**, in source order of their calls: for every call three line breaks at the
    position of the first character of the body, the body with its own positions, one line break
    at the position of the last token of the body (`PlainFootnote.flowOut`); `p` = offset of the
    first segment -/
def flows : Nat → List Seg → List (Char × Nat)
  | _, [] => []
  | p, .txt s :: rest => flows (p + s.length) rest
  | p, .call name body :: rest =>
    flowOut (p + name.length + 2) body ++ flows (p + (name.length + body.length + 3)) rest
  | p, .callO name opt body :: rest =>
    flowOut (p + name.length + opt.length + 4) body ++
      flows (p + (name.length + opt.length + body.length + 5)) rest
  | p, .beg name ws :: rest => flows (p + (name.length + ws.length + 8)) rest
  | p, .begN name note :: rest => flows (p + (name.length + note.length + 10)) rest
  | p, .en name :: rest => flows (p + (name.length + 6)) rest

def refOut (segs : List Seg) : List (Char × Nat) := delLines (marks 0 segs) ++ flows 0 segs

def stateOk (T : PTables) (st : PState) : Bool := PlainExtract.stateOk T st

def optOk (T : PTables) (st : PState) (opt X : Str) : Bool :=
  bracketAt T '[' (opt ++ ']' :: X) && !opt.contains ']' &&
  PlainFootnote.textOk T st opt (']' :: X) && bracketAt T ']' X

def callOk (T : PTables) (st : PState) (name body R : Str) : Bool :=
  PlainRef.nameOk T name ('{' :: (body ++ '}' :: R)) && flowName st name &&
  bracedTextOk T st body R && (lineC (some true) body == some none)

def callOOk (T : PTables) (st : PState) (name opt body R : Str) : Bool :=
  PlainRef.nameOk T name ('[' :: (opt ++ ']' :: '{' :: (body ++ '}' :: R))) && flowName st name &&
  optOk T st opt ('{' :: (body ++ '}' :: R)) &&
  bracedTextOk T st body R && (lineC (some true) body == some none)

def begOk (T : PTables) (st : PState) (name ws R : Str) : Bool :=
  (matchSpecial T.toTables ('\\' :: (nBegin ++ '{' :: (name ++ '}' :: (ws ++ R))))).isNone &&
  !startsWith ('{' :: (name ++ '}' :: (ws ++ R))) sVerbatimArg &&
  bracedTextOk T st name (ws ++ R) && figEnvAt st name && wsOk ws R

def begNOk (T : PTables) (st : PState) (name note R : Str) : Bool :=
  (matchSpecial T.toTables ('\\' :: (nBegin ++ '{' :: (name ++ '}' :: '[' :: (note ++ ']' :: R))))).isNone &&
  !startsWith ('{' :: (name ++ '}' :: '[' :: (note ++ ']' :: R))) sVerbatimArg &&
  bracedTextOk T st name ('[' :: (note ++ ']' :: R)) && figEnvAt st name && optOk T st note R

def endOk (T : PTables) (st : PState) (name R : Str) : Bool :=
  (matchSpecial T.toTables ('\\' :: (nEnd ++ '{' :: (name ++ '}' :: R)))).isNone &&
  bracedTextOk T st name R && figEnvAt st name

def segsOk (T : PTables) (st : PState) : List Seg → Bool
  | [] => true
  | .txt s :: rest => textOk T st s (render rest) && segsOk T st rest
  | .call name body :: rest => callOk T st name body (render rest) && segsOk T st rest
  | .callO name opt body :: rest => callOOk T st name opt body (render rest) && segsOk T st rest
  | .beg name ws :: rest => begOk T st name ws (render rest) && segsOk T st rest
  | .begN name note :: rest => begNOk T st name note (render rest) && segsOk T st rest
  | .en name :: rest => endOk T st name (render rest) && segsOk T st rest

def SegsOk (T : PTables) (st : PState) (segs : List Seg) : Prop :=
  stateOk T st = true ∧ segsOk T st segs = true

instance (T : PTables) (st : PState) (segs : List Seg) : Decidable (SegsOk T st segs) := by
  unfold SegsOk; infer_instance

structure OptFacts (T : PTables) (st : PState) (opt X : Str) : Prop where
  lb : bracketAt T '[' (opt ++ ']' :: X) = true
  nrb : ']' ∉ opt
  txt : PlainFootnote.textOk T st opt (']' :: X) = true
  rb : bracketAt T ']' X = true

theorem optFacts {T : PTables} {st : PState} {opt X : Str} (h : optOk T st opt X = true) :
    OptFacts T st opt X := by
  simp only [optOk, Bool.and_eq_true, Bool.not_eq_true', List.contains_eq_mem,
    decide_eq_false_iff_not] at h
  exact ⟨h.1.1.1, h.1.1.2, h.1.2, h.2⟩

structure CallFacts (T : PTables) (st : PState) (name body R : Str) : Prop where
  cw : CwFacts T ({ macros := [] } : PState) name ('{' :: (body ++ '}' :: R))
  fn : FlowName st name
  bt : BracedText T st body R
  lines : lineC (some true) body = some none

theorem callFacts {T : PTables} {st : PState} {name body R : Str} (h : callOk T st name body R = true) :
    CallFacts T st name body R := by
  simp only [callOk, PlainRef.nameOk, Bool.and_eq_true, beq_iff_eq] at h
  exact ⟨cwFacts h.1.1.1, FlowName_of h.1.1.2, bracedText h.1.2, h.2⟩

structure CallOFacts (T : PTables) (st : PState) (name opt body R : Str) : Prop where
  cw : CwFacts T ({ macros := [] } : PState) name ('[' :: (opt ++ ']' :: '{' :: (body ++ '}' :: R)))
  fn : FlowName st name
  op : OptFacts T st opt ('{' :: (body ++ '}' :: R))
  bt : BracedText T st body R
  lines : lineC (some true) body = some none

theorem callOFacts {T : PTables} {st : PState} {name opt body R : Str}
    (h : callOOk T st name opt body R = true) : CallOFacts T st name opt body R := by
  simp only [callOOk, PlainRef.nameOk, Bool.and_eq_true, beq_iff_eq] at h
  exact ⟨cwFacts h.1.1.1.1, FlowName_of h.1.1.1.2, optFacts h.1.1.2, bracedText h.1.2, h.2⟩

structure BegFacts (T : PTables) (st : PState) (name ws R : Str) : Prop where
  special : matchSpecial T.toTables ('\\' :: (nBegin ++ '{' :: (name ++ '}' :: (ws ++ R)))) = none
  noverb : startsWith ('{' :: (name ++ '}' :: (ws ++ R))) sVerbatimArg = false
  nm : BracedText T st name (ws ++ R)
  env : FigEnvAt st name
  ws : WsFacts ws R

theorem begFacts {T : PTables} {st : PState} {name ws R : Str} (h : begOk T st name ws R = true) :
    BegFacts T st name ws R := by
  simp only [begOk, Bool.and_eq_true, Bool.not_eq_true', Option.isNone_iff_eq_none] at h
  exact ⟨h.1.1.1.1, h.1.1.1.2, bracedText h.1.1.2, FigEnvAt_of h.1.2, wsFacts h.2⟩

structure BegNFacts (T : PTables) (st : PState) (name note R : Str) : Prop where
  special : matchSpecial T.toTables
    ('\\' :: (nBegin ++ '{' :: (name ++ '}' :: '[' :: (note ++ ']' :: R)))) = none
  noverb : startsWith ('{' :: (name ++ '}' :: '[' :: (note ++ ']' :: R))) sVerbatimArg = false
  nm : BracedText T st name ('[' :: (note ++ ']' :: R))
  env : FigEnvAt st name
  op : OptFacts T st note R

theorem begNFacts {T : PTables} {st : PState} {name note R : Str} (h : begNOk T st name note R = true) :
    BegNFacts T st name note R := by
  simp only [begNOk, Bool.and_eq_true, Bool.not_eq_true', Option.isNone_iff_eq_none] at h
  exact ⟨h.1.1.1.1, h.1.1.1.2, bracedText h.1.1.2, FigEnvAt_of h.1.2, optFacts h.2⟩

structure EndFacts (T : PTables) (st : PState) (name R : Str) : Prop where
  special : matchSpecial T.toTables ('\\' :: (nEnd ++ '{' :: (name ++ '}' :: R))) = none
  nm : BracedText T st name R
  env : FigEnvAt st name

theorem endFacts {T : PTables} {st : PState} {name R : Str} (h : endOk T st name R = true) :
    EndFacts T st name R := by
  simp only [endOk, Bool.and_eq_true, Option.isNone_iff_eq_none] at h
  exact ⟨h.1.1, bracedText h.1.2, FigEnvAt_of h.2⟩

/-- a construct at the head of the source; the meaning is the flows and the marks -/
inductive Con (T : PTables) (st : PState) :
    Nat → Str → List (Char × Nat) × List Mark → Nat → Str → List (Char × Nat) × List Mark → Prop
  | call (p : Nat) (name body R : Str) (ms : List Mark) (fl : List (Char × Nat)) :
      callOk T st name body R = true →
      Con T st p ('\\' :: (name ++ '{' :: (body ++ '}' :: R)))
        (flowOut (p + name.length + 2) body ++ fl, none :: ms) (p + (name.length + body.length + 3)) R (fl, ms)
  | callO (p : Nat) (name opt body R : Str) (ms : List Mark) (fl : List (Char × Nat)) :
      callOOk T st name opt body R = true →
      Con T st p ('\\' :: (name ++ '[' :: (opt ++ ']' :: '{' :: (body ++ '}' :: R))))
        (flowOut (p + name.length + opt.length + 4) body ++ fl, none :: ms)
        (p + (name.length + opt.length + body.length + 5)) R (fl, ms)
  | beg (p : Nat) (name ws R : Str) (ms : List Mark) (fl : List (Char × Nat)) : begOk T st name ws R = true →
      Con T st p ('\\' :: (nBegin ++ '{' :: (name ++ '}' :: (ws ++ R)))) (fl, none :: none :: ms)
        (p + (name.length + ws.length + 8)) R (fl, ms)
  | begN (p : Nat) (name note R : Str) (ms : List Mark) (fl : List (Char × Nat)) :
      begNOk T st name note R = true →
      Con T st p ('\\' :: (nBegin ++ '{' :: (name ++ '}' :: '[' :: (note ++ ']' :: R)))) (fl, none :: none :: ms)
        (p + (name.length + note.length + 10)) R (fl, ms)
  | en (p : Nat) (name R : Str) (ms : List Mark) (fl : List (Char × Nat)) : endOk T st name R = true →
      Con T st p ('\\' :: (nEnd ++ '{' :: (name ++ '}' :: R))) (fl, none :: ms) (p + (name.length + 6)) R (fl, ms)

theorem Con.vis (T : PTables) (st : PState) : ConVis (Con T st) := by
  rintro _ _ _ _ _ _ ⟨⟩ <;> exact ⟨_, _, rfl, rfl⟩

abbrev OkSrc (T : PTables) (st : PState) (p : Nat) (W : Str) (ms : List Mark) (fl : List (Char × Nat)) : Prop :=
  OkSrcG (okAt T st) (sndChr some) (· = ([], [])) (Con T st) p W (fl, ms)

theorem OkSrc_of_segsOk (T : PTables) (st : PState) :
    ∀ (segs : List Seg) (p : Nat), segsOk T st segs = true →
      OkSrc T st p (render segs) (marks p segs) (flows p segs)
  | [], p, _ => .nil p _ rfl
  | .txt s :: rest, p, h => by
    simp only [segsOk, Bool.and_eq_true, textOk_eq] at h
    have := OkSrcG.text _ _ s p (OkSrc_of_segsOk T st rest _ h.2) h.1
    rwa [chrs_snd] at this
  | .call name body :: rest, p, h => by
    simp only [segsOk, Bool.and_eq_true] at h
    have := OkSrcG.con (Con.call p name body (render rest) _ _ h.1) (OkSrc_of_segsOk T st rest _ h.2)
    simpa [render, Seg.render, marks, flows] using this
  | .callO name opt body :: rest, p, h => by
    simp only [segsOk, Bool.and_eq_true] at h
    have := OkSrcG.con (Con.callO p name opt body (render rest) _ _ h.1) (OkSrc_of_segsOk T st rest _ h.2)
    simpa [render, Seg.render, marks, flows] using this
  | .beg name ws :: rest, p, h => by
    simp only [segsOk, Bool.and_eq_true] at h
    have := OkSrcG.con (Con.beg p name ws (render rest) _ _ h.1) (OkSrc_of_segsOk T st rest _ h.2)
    simpa [render, Seg.render, marks, flows] using this
  | .begN name note :: rest, p, h => by
    simp only [segsOk, Bool.and_eq_true] at h
    have := OkSrcG.con (Con.begN p name note (render rest) _ _ h.1) (OkSrc_of_segsOk T st rest _ h.2)
    simpa [render, Seg.render, marks, flows] using this
  | .en name :: rest, p, h => by
    simp only [segsOk, Bool.and_eq_true] at h
    have := OkSrcG.con (Con.en p name (render rest) _ _ h.1) (OkSrc_of_segsOk T st rest _ h.2)
    simpa [render, Seg.render, marks, flows] using this

/-- what a text run that is the body of a call means: the tokens are copied, the blank-line removal
    leaves exactly them of `Action body Action`, and the flow `parse` builds of them is
    `flowOut` -/
theorem flow_of_run {T : PTables} {st : PState} {q : Nat} {body : Str} {bsteps : List ScanStep}
    (B : TextRun T st q body bsteps) (hne : body ≠ []) (hlc : lineC (some true) body = some none) :
    bsteps.map (·.tok) ≠ [] ∧ (∀ t ∈ bsteps.map (·.tok), CopyTok T st t) ∧
    FlowSafe (bsteps.map (·.tok)) ∧
    getTxtPos (flowToks (bsteps.map (·.tok)))
      = ((flowOut q body).map (·.1), (flowOut q body).map (·.2)) := by
  have hbne : bsteps.map (·.tok) ≠ [] := by
    intro e
    exact hne (B.nil_iff (by simpa using e))
  obtain ⟨h, hs, hx⟩ := List.exists_cons_of_ne_nil hbne
  have hl := List.getLast?_eq_some_getLast hbne
  refine ⟨hbne, B.copy, PlainFootnote.flowSafe_of_lines _ body (fun t ht => (B.copy t ht).txt_ne) B.lines hlc,
    ?_⟩
  rw [PlainFootnote.getTxtPos_flowToks _ h _ body q (by rw [hx]; rfl) hl B.txt, B.first h hs hx, B.last _ hl]
  simp [flowOut, posText_fst, posText_snd]

theorem optToks_of_run {T : PTables} {st : PState} {q : Nat} {opt : Str} {osteps : List ScanStep}
    (B : TextRun T st q opt osteps) (hnrb : ']' ∉ opt) : OptToks T st (osteps.map (·.tok)) := by
  intro t ht
  obtain ⟨x, hx, rfl⟩ := List.mem_map.mp ht
  refine ⟨B.copy _ ht, ?_⟩
  intro e
  have hmem := mem_txt_of_getTxtPos (c := ']') ht (by rw [e]; simp)
  rw [B.txt] at hmem
  exact hnrb hmem

structure ScanFacts (T : PTables) (st : PState) (rest : Str) (ms : List Mark) (fl : List (Char × Nat))
    (steps : List ScanStep) : Prop where
  ok : ∀ s ∈ steps, s.diag = none ∧ s.extra = []
  pieces : ∃ ps, steps.map (·.tok) = flat ps ∧ PiecesOk T st ps ∧ marksOf (outP ps) = ms ∧
    (∀ t ∈ outP ps, Simple t) ∧ cost ps ≤ rest.length ∧
    getTxtPos ((flowsOf ps).map flowToks).flatten = (fl.map (·.1), fl.map (·.2))
  first : ∀ s ss, steps = s :: ss → s.tok.txt = firstTokTxtM rest
  firstSp : ∀ s ss, steps = s :: ss → isSpaceTok s.tok = true → headSp rest = true

theorem ScanFacts_nil (T : PTables) (st : PState) : ScanFacts T st [] [] [] [] :=
  ⟨by simp, ⟨[], rfl, trivial, rfl, by simp [outP], by simp [cost], rfl⟩, by simp, by simp⟩

/-- Action tokens leave text-less marks (in the form `ScanFacts.cons` asks for) -/
theorem marksOf_actions (l : List Nat) (ms : List Mark) :
    marksOf (l.map mkAction) ++ ms = (l.map fun _ => none) ++ ms := by
  induction l with
  | nil => rfl
  | cons p l ih => rw [List.map_cons, marksOf_cons, tokMarks_mkAction, List.append_assoc, ih]; rfl

theorem simple_actions (l : List Nat) : ∀ t ∈ l.map mkAction, Simple t := by
  intro t ht
  obtain ⟨p, _, rfl⟩ := List.mem_map.mp ht
  exact simple_mkAction p

/-- a piece in front of a scanned rest: `ss` are the steps of the scanner through the tokens of the
    piece `pc`, which emits `h` and detaches the flows `bs` (`fo` in the reference) -/
theorem ScanFacts.cons {T : PTables} {st : PState} {W R : Str} {ss rs : List ScanStep}
    {ms' ms : List Mark} {fl' fl : List (Char × Nat)} (pc : Piece) (h : List Tok) (bs : List (List Tok))
    (fo : List (Char × Nat)) {t0 : Tok} {ts0 : List Tok}
    (hclean : ∀ s ∈ ss, s.diag = none ∧ s.extra = []) (I : ScanFacts T st R ms' fl' rs)
    (htoks : ss.map (·.tok) = pc.toks) (hhd : pc.toks = t0 :: ts0)
    (hpc : ∀ ps, rs.map (·.tok) = flat ps → PiecesOk T st ps → PiecesOk T st (pc :: ps))
    (hout : ∀ ps, outP (pc :: ps) = h ++ outP ps) (hm : marksOf h ++ ms' = ms) (hs : ∀ t ∈ h, Simple t)
    (hcost : ∀ ps, cost (pc :: ps) + R.length ≤ cost ps + W.length)
    (hfs : ∀ ps, flowsOf (pc :: ps) = bs ++ flowsOf ps)
    (hfo : getTxtPos (bs.map flowToks).flatten = (fo.map (·.1), fo.map (·.2))) (hfl : fo ++ fl' = fl)
    (hfirst : t0.txt = firstTokTxtM W) (hsp : isSpaceTok t0 = true → headSp W = true) :
    ScanFacts T st W ms fl (ss ++ rs) := by
  obtain ⟨ps, hflat, hpok, hmarks, hsimple, hc, hflows⟩ := I.pieces
  have hd : ∀ s ss', ss ++ rs = s :: ss' → s.tok = t0 := fun _ _ => headTok_of_append htoks hhd
  refine ⟨List.forall_mem_append.mpr ⟨hclean, I.ok⟩, ⟨pc :: ps, ?_, hpc ps hflat hpok, ?_, ?_, ?_, ?_⟩, ?_, ?_⟩
  · rw [List.map_append, htoks, hflat]; rfl
  · rw [hout, marksOf_append, hmarks, hm]
  · rw [hout]; exact List.forall_mem_append.mpr ⟨hs, hsimple⟩
  · have := hcost ps; omega
  · rw [hfs, List.map_append, List.flatten_append, getTxtPos_append, hflows, hfo, ← hfl]
    simp
  · intro s ss' he
    rw [hd s ss' he]; exact hfirst
  · intro s ss' he
    rw [hd s ss' he]; exact hsp

theorem scanAll_flows (T : PTables) (st : PState) (src : Str) (pos : Nat) (rest : Str) (ms : List Mark)
    (fl : List (Char × Nat)) (h : OkSrc T st pos rest ms fl) :
      ScanFacts T st rest ms fl (scanAll T.toTables src pos rest).1 := by
  refine scanAll_okSrc T st firstTokTxtM src (fun W a ss => ScanFacts T st W a.2 a.1 ss) (fun _ _ h => h)
    (fun c cs h => firstTokTxtM_of_text c cs (h.imp id (·.1))) (Con.vis T st) (fun _ _ _ I => I.first) (by rintro _ rfl; exact ScanFacts_nil T st) ?_ ?_
    pos rest (fl, ms) h
  · rintro pos c cs s rs ⟨fl, ms'⟩ K I
    rw [chrs_snd]
    exact ScanFacts.cons (.tok s.tok) [s.tok] [] [] K.run.clean I rfl rfl
      (fun ps hflat hpok => ⟨K.step.tok, hflat ▸ K.pass, hpok⟩) (fun _ => rfl) (by rw [K.marks]) K.simple
      (fun ps => by have := K.len; simp only [cost, List.length_cons] at this ⊢; omega) (fun _ => rfl) rfl rfl
      K.first (headSp_of_spaceStep K.eq (fun h => (K.one h).2))
  intro pos _ _ _ R _ hc
  cases hc with
  | call name body _ ms' fl' hd =>
    have V := callFacts hd
    have hname := List.length_pos_iff.mpr V.cw.ne
    have r1 := Scans.step (R := '{' :: (body ++ '}' :: R)) (nextToken_cw T _ src pos name _ V.cw) (by simp)
    obtain ⟨bst, B, r2⟩ := scans_bracedText T st src (pos + (name.length + 1)) V.bt
    have r := (r1.append r2).to (q := pos + (name.length + body.length + 3)) (by omega)
    have hBl := B.len
    obtain ⟨hbne, hbc, hsafe, hfo⟩ := flow_of_run B V.bt.ne V.lines
    refine ⟨_, by simp, r, fun rs _ I => ?_⟩
    refine ScanFacts.cons (.call pos (pos + (name.length + 1)) (pos + (name.length + 1) + 1 + body.length)
        name (bst.map (·.tok))) [mkAction pos] [bst.map (·.tok)] (flowOut (pos + (name.length + 1) + 1) body)
      r.clean I (by simp [Piece.toks]) rfl
      (fun ps _ hpok => ⟨V.fn, hbne, hbc, hsafe, hpok⟩) (fun _ => rfl) (marksOf_actions [pos] _) (simple_actions [pos]) ?_
      (fun _ => rfl) (by simpa using hfo)
      (by rw [show pos + (name.length + 1) + 1 = pos + name.length + 2 by omega])
      (PlainRef.firstTok_cw name _ V.cw.tw).symm (fun h => by simp [cwTok_notSpace] at h)
    intro ps
    simp only [cost, List.length_cons, List.length_append, List.length_map]
    omega
  | callO name opt body _ ms' fl' hd =>
    have V := callOFacts hd
    have hname := List.length_pos_iff.mpr V.cw.ne
    have r1 := Scans.step (R := '[' :: (opt ++ ']' :: '{' :: (body ++ '}' :: R)))
      (nextToken_cw T _ src pos name _ V.cw) (by simp)
    obtain ⟨ost, O, r2⟩ := scans_note T st src (pos + (name.length + 1)) V.op.lb V.op.txt V.op.rb
    obtain ⟨bst, B, r3⟩ := scans_bracedText T st src (pos + (name.length + 1) + (opt.length + 2)) V.bt
    have r := ((r1.append r2).append r3).to (q := pos + (name.length + opt.length + body.length + 5))
      (by omega)
    have hBl := B.len
    obtain ⟨hbne, hbc, hsafe, hfo⟩ := flow_of_run B V.bt.ne V.lines
    refine ⟨_, by simp, r, fun rs _ I => ?_⟩
    refine ScanFacts.cons (.callO pos (pos + (name.length + 1)) (pos + (name.length + 1) + 1 + opt.length)
        (pos + (name.length + 1) + (opt.length + 2))
        (pos + (name.length + 1) + (opt.length + 2) + 1 + body.length) name
        (ost.map (·.tok)) (bst.map (·.tok))) [mkAction pos] [bst.map (·.tok)]
      (flowOut (pos + (name.length + 1) + (opt.length + 2) + 1) body) r.clean I
      (by simp [Piece.toks]) rfl
      (fun ps _ hpok => ⟨V.fn, optToks_of_run O V.op.nrb, hbne, hbc, hsafe, hpok⟩) (fun _ => rfl)
      (marksOf_actions [pos] _) (simple_actions [pos]) ?_ (fun _ => rfl) (by simpa using hfo)
      (by rw [show pos + (name.length + 1) + (opt.length + 2) + 1 = pos + name.length + opt.length + 4
        by omega])
      (PlainRef.firstTok_cw name _ V.cw.tw).symm (fun h => by simp [cwTok_notSpace] at h)
    intro ps
    simp only [cost, List.length_cons, List.length_append, List.length_map]
    omega
  | beg name ws _ ms' fl hd =>
    have V := begFacts hd
    have r1 := Scans.step (R := '{' :: (name ++ '}' :: (ws ++ R)))
      (nextToken_begin T src pos _ V.special V.noverb) rfl
    obtain ⟨nst, N, r2⟩ := scans_bracedText T st src (pos + 6) V.nm
    have r3 := Scans.whiteSteps T.toTables src (pos + 6 + (name.length + 2)) (List.all_eq_true.mp V.ws.blank)
      V.ws.whole
    have r := ((r1.append r2).append r3).to (q := pos + (name.length + ws.length + 8))
      (by omega)
    have hNl := N.len
    have hwl := r3.len
    rw [List.length_append] at hwl
    obtain ⟨hN, eN⟩ := nameToks_of_run N V.nm.ne
    refine ⟨_, by simp, r, fun rs _ I => ?_⟩
    refine ScanFacts.cons (.beg pos (pos + 6) (pos + 6 + 1 + name.length) (nst.map (·.tok))
        ((whiteSteps (pos + 6 + (name.length + 2)) ws).map (·.tok))) [mkAction pos, mkAction pos] [] []
      r.clean I (by simp [Piece.toks]) rfl
      (fun ps hflat hpok => ⟨hN, eN ▸ V.env, spToks_whiteSteps _ V.ws.nls,
        hflat ▸ headOk_steps rs R V.ws.head I.first I.firstSp, hpok⟩)
      (fun _ => rfl) (marksOf_actions [pos, pos] _) (simple_actions [pos, pos]) ?_ (fun _ => rfl) rfl rfl
      (firstTok_beg _)
      (fun h => by simp [isSpaceTok, begTok] at h)
    intro ps
    simp only [cost, List.length_cons, List.length_append, List.length_map, show nBegin.length = 5 from rfl]
    omega
  | begN name note _ ms' fl hd =>
    have V := begNFacts hd
    have r1 := Scans.step (R := '{' :: (name ++ '}' :: '[' :: (note ++ ']' :: R)))
      (nextToken_begin T src pos _ V.special V.noverb) rfl
    obtain ⟨nst, N, r2⟩ := scans_bracedText T st src (pos + 6) V.nm
    obtain ⟨ost, O, r3⟩ := scans_note T st src (pos + 6 + (name.length + 2)) V.op.lb V.op.txt V.op.rb
    have r := ((r1.append r2).append r3).to (q := pos + (name.length + note.length + 10))
      (by omega)
    have hNl := N.len
    obtain ⟨hN, eN⟩ := nameToks_of_run N V.nm.ne
    refine ⟨_, by simp, r, fun rs _ I => ?_⟩
    refine ScanFacts.cons (.begN pos (pos + 6) (pos + 6 + 1 + name.length) (pos + 6 + (name.length + 2))
        (pos + 6 + (name.length + 2) + 1 + note.length) (nst.map (·.tok)) (ost.map (·.tok)))
      [mkAction pos, mkAction pos] [] [] r.clean I (by simp [Piece.toks]) rfl
      (fun ps _ hpok => ⟨hN, eN ▸ V.env, optToks_of_run O V.op.nrb, hpok⟩)
      (fun _ => rfl) (marksOf_actions [pos, pos] _) (simple_actions [pos, pos]) ?_ (fun _ => rfl) rfl rfl
      (firstTok_beg _)
      (fun h => by simp [isSpaceTok, begTok] at h)
    intro ps
    simp only [cost, List.length_cons, List.length_append, List.length_map, show nBegin.length = 5 from rfl]
    omega
  | en name _ ms' fl hd =>
    have V := endFacts hd
    have r1 := Scans.step (R := '{' :: (name ++ '}' :: R)) (nextToken_end T src pos _ V.special) rfl
    obtain ⟨nst, N, r2⟩ := scans_bracedText T st src (pos + 4) V.nm
    have r := (r1.append r2).to (q := pos + (name.length + 6)) (by omega)
    have hNl := N.len
    obtain ⟨hN, eN⟩ := nameToks_of_run N V.nm.ne
    refine ⟨_, by simp, r, fun rs _ I => ?_⟩
    refine ScanFacts.cons (.en pos (pos + 4) (pos + 4 + 1 + name.length) (nst.map (·.tok)))
      [mkAction pos] [] [] r.clean I (by simp [Piece.toks]) rfl
      (fun ps _ hpok => ⟨hN, eN ▸ V.env, hpok⟩)
      (fun _ => rfl) (marksOf_actions [pos] _) (simple_actions [pos]) ?_ (fun _ => rfl) rfl rfl
      (firstTok_end _)
      (fun h => by simp [isSpaceTok, endTok] at h)
    intro ps
    simp only [cost, List.length_cons, List.length_append, List.length_map, show nEnd.length = 3 from rfl]
    omega

/-- **C03 end to end, all detached flows.**  The document consists of inert text, calls
    `\name{body}` / `\name[opt]{body}` of macros declared like `\footnote` (`\footnote`,
    `\footnotetext`, `\caption` in the real tables) and float environments `\begin{name}` /
    `\begin{name}[placement]` … `\end{name}` declared like `figure` (`SegsOk`: all side conditions);
    `st1` is the state after `Parser.__init__`; no `--defs`, `--extr`, `--repl`, `--unkn`;
    single-language mode.  With one unit of fuel per source character and four more, `tex2txt`
    succeeds and the output text with its (1-based) positions is
    `refOut segs = delLines (marks 0 segs) ++ flows 0 segs`: the main text with every call cut out
    (one text-less mark stays; then every line is deleted, with its line break, that is blank and
    holds a mark), followed by the flows in source order of their calls — each three line breaks, the
    body at its own positions, one line break; nothing of an optional argument or a placement
    appears; there are no unknowns and no diagnostic is added. -/
theorem tex2txt_flows (T : PTables) (o : Options) (fs : FS) (thresh : Nat) (segs : List Seg)
    (fuel : Nat) (st1 : PState)
    (hdefs : o.defs = []) (hextr : o.extr = []) (hrepl : o.hasRepl = false) (hunkn : o.unkn = false)
    (hinit : initParser T fuel o (initialState T o false fs) = .ok ((), st1))
    (hok : SegsOk T st1 segs) (hf : (render segs).length + 4 ≤ fuel) :
    ∃ r, tex2txt T fuel (render segs) o false thresh fs = .ok r ∧
      r.txt = (refOut segs).map (·.1) ∧
      r.pos = (refOut segs).map (·.2 + 1) ∧
      r.unknowns = [] ∧ r.diags = st1.diags ∧ r.parts = [] := by
  have R : PlainSetup T o fs fuel st1 := ⟨⟨hdefs, hextr, hinit⟩, hrepl, hunkn⟩
  have F := scanAll_flows T st1 (render segs) 0 _ _ _ (OkSrc_of_segsOk T st1 segs 0 hok.2)
  obtain ⟨ps, hflat, hpok, hmarks, hsimple, hcost, hflows⟩ := F.pieces
  obtain ⟨r, h, ht, hp, hpa, hu, hd, _⟩ := R.of_run thresh F.ok hflat (hpok.noCom.noBegin _)
    (seqRun_flows T (PlainExtract.stateFacts hok.1) ps [] _ (Reads.startState st1 _).ext hpok) (by decide)
    (by omega) hsimple
  have hfl : charsOf (flowsToks (addFlows (startState st1 (render segs)) (flowsOf ps)).extracted)
      = flows 0 segs := by
    have e := Prod.mk.inj ((getTxtPos_charsOf _).symm.trans hflows)
    show charsOf ((flowsOf ps).map flowToks).flatten = _
    rw [← zip_fst_snd (charsOf _), e.1, e.2, zip_fst_snd]
  rw [hmarks, hfl] at ht hp
  exact ⟨r, h, ht, hp, hu, hd, hpa⟩

/-
  Recorded `#eval`s (real tables: `Generated.theTables`, `Generated.stDefault`, default options).

  * `Text\footnote[2]{first note} more \footnotetext{second} end.⏎\caption[short]{A long caption}`
    ↦ `"Text more  end.⏎⏎⏎⏎first note⏎⏎⏎⏎second⏎⏎⏎⏎A long caption⏎"` = `refOut` (Properties/PlainFlowsStmt.lean,
    `C03_detached_flows_doc1_eval`): the line of `\caption` has vanished, `2` and `short` do not appear.
  * `A⏎\begin{figure}⏎\caption{Cap text}⏎\end{figure}⏎B⏎` ↦ `"A⏎B⏎⏎⏎⏎Cap text⏎"` = `refOut`: all three
    lines of the float are pure Action lines.
  * `A\footnote [2] {x y} B⏎` ↦ `"A B⏎⏎⏎⏎x y⏎"`: white space in front of `[` and `{` is skipped (NOT in the
    document class: `callOOk` wants `[` and `{` adjacent).
  * `A\footnote[a]b]{x y} B⏎` ↦ `"A]x y B⏎⏎⏎⏎b⏎"`: the optional argument ends at the FIRST `]`, the
    mandatory argument is then the single token `b` — the flow is `b`, and `]{x y}` stays in the main
    text.  Rejected by `optOk` (`]` inside `opt`).
  * `\begin{figure} [ht] x\end{figure}⏎` ↦ `" x⏎"`: a `[` behind white space behind `\begin{figure}` is
    read as the placement (rejected by `wsOk`: what follows the white space must not start with `[`).
  * `\begin{figure}⏎⏎x\end{figure}⏎` ↦ `"⏎x⏎"`: a paragraph break behind `\begin{figure}` is not
    skipped (accepted: `ws = []`, the text segment starts with the blank line).
  * `segsOk`: `[.call footnote " x"]` accepted; `[.call footnote "x⏎"]` rejected although the output
    equals `refOut` (`lineC`: sufficient only); `[.call thanks "x"]` rejected (`\thanks` is not declared:
    it would be an unknown macro, its argument stays in the main text).
-/

end PlainFlows
end Yalafi
