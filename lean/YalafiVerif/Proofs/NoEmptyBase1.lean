/-
  Proofs/NoEmptyBase1.lean — leaf lemmas (no induction hypothesis) for the NoEmpty bundle, part 1:
  the tokens the filter makes, error marks, `arg_buffer`, argument collection, replacement generation, `\def`.
-/
import YalafiVerif.Proofs.NoEmptyDefs
import YalafiVerif.Proofs.Inv.Basic
namespace Yalafi
namespace NoEmpty

variable {T : PTables}

theorem NE_mkFix_text (n p : Nat) (txt : Str) (hp : p < n) (ht : txt ≠ []) : NE T n (mkFix .text p txt) := by
  simp [NE, W, NE0, MB, ctlEmpty, mkFix, hp, ht]

theorem W_mkFix_text (n p : Nat) (txt : Str) (hp : p < n) : W T n (mkFix .text p txt) := by
  simp [W, MB, ctlEmpty, mkFix, hp]

theorem NE_mkFix_space (n p : Nat) (txt : Str) (hp : p < n) : NE T n (mkFix .space p txt) := by
  simp [NE, W, NE0, MB, ctlEmpty, mkFix, hp]

theorem NE_mkTok_text (n p : Nat) (txt : Str) (hp : p < n) (ht : txt ≠ []) : NE T n (mkTok .text p txt) := by
  simp [NE, W, NE0, MB, ctlEmpty, mkTok, hp, ht]

theorem NE_mkTok_space (n p : Nat) (txt : Str) (hp : p < n) : NE T n (mkTok .space p txt) := by
  simp [NE, W, NE0, MB, ctlEmpty, mkTok, hp]

theorem NE_mkTok_special (n p : Nat) (txt : Str) (hp : p < n) : NE T n (mkTok .special p txt) := by
  simp [NE, W, NE0, MB, ctlEmpty, mkTok, hp]

theorem NE_mkTok_xmacro (n p : Nat) (txt : Str) (hp : p < n) : NE T n (mkTok .xmacro p txt) := by
  simp [NE, W, NE0, MB, ctlEmpty, mkTok, hp]

theorem NE_mkVoid (n p : Nat) (hp : p < n) : NE T n (mkVoid p) := by
  simp [NE, W, NE0, MB, ctlEmpty, mkVoid, hp]

theorem NE_mkAction (n p : Nat) (hp : p < n) : NE T n (mkAction p) := by
  simp [NE, W, NE0, MB, ctlEmpty, mkAction, hp]

theorem NE_mkLang (n p : Nat) (l : Str) (b h k : Bool) (hp : p < n) : NE T n (mkLang p l b h k) := by
  simp [NE, W, NE0, MB, ctlEmpty, mkLang, hp]

theorem Skip_mkAction (p : Nat) : Skip (mkAction p) := by
  simp [Skip, mkAction, isSpaceTok]

theorem noCall_mkAction (p : Nat) : noCall (mkAction p) = true := rfl

theorem NE_restamp {n p : Nat} {t : Tok} (h : NE0 T t) (hp : p < n) : NE T n { t with pos := p, fix := true } := by
  obtain ⟨h1, h2⟩ := h
  have h2' : MB T { t with pos := p, fix := true } := h2
  exact ⟨⟨hp, fun _ hf => (by cases hf), h2'⟩, h1, h2'⟩

theorem call_of_beq (tok : Tok) (k : Kind) (h : (tok.kind == k) = true)
    (hk : ∀ t : Tok, t.kind = k → noCall t = false) : noCall tok = false :=
  hk tok (by simpa using h)

theorem lastPos_lt {n pos : Nat} {l : List Tok} (hl : ANE T n l) (hp : pos < n) :
    (Option.map (fun x => x.pos) l.getLast?).getD pos < n := by
  cases h : l.getLast? with
  | none => simpa using hp
  | some t => simpa using (hl t (List.mem_of_getLast? h)).1.1

theorem HRes_of_ANE {n : Nat} {h : Handler} {r : List Tok} (hr : ANE T n r) : HRes T n h r := by
  refine ⟨fun _ => hr, ?_⟩
  cases r with
  | nil => trivial
  | cons t ts => exact ⟨(hr t (by simp)).1, fun x hx => hr x (by simp [hx])⟩

theorem latexErrorToks_ANE (err : Str) (pos n : Nat) (h : pos < n) :
    ANE T n (latexErrorToks T.toTables err pos n) := by
  have hm : ∃ c cs, errMark T.toTables err = c :: cs := ⟨' ', _, rfl⟩
  intro t ht
  unfold latexErrorToks at ht
  simp only [] at ht
  obtain ⟨c, cs, hm⟩ := hm
  rw [hm] at ht
  have h1 : (c :: cs).take (min (c :: cs).length (n - pos)) ≠ [] := by
    rw [Ne, List.take_eq_nil_iff]
    simp only [List.length_cons, reduceCtorEq, or_false]
    omega
  split at ht
  · rename_i hlt
    simp only [List.mem_cons, List.not_mem_nil, or_false] at ht
    rcases ht with rfl | rfl
    · exact NE_mkFix_text n pos _ h h1
    · refine NE_mkFix_text n _ _ (by simp only [List.length_cons] at hlt ⊢; omega) ?_
      rw [Ne, List.drop_eq_nil_iff]
      omega
  · simp only [List.mem_cons, List.not_mem_nil, or_false] at ht
    subst ht
    exact NE_mkFix_text n pos _ h h1

theorem latexErrorToks_ANC (T' : Tables) (err : Str) (pos n : Nat) : ANC (latexErrorToks T' err pos n) := by
  intro t ht
  unfold latexErrorToks at ht
  simp only [] at ht
  split at ht
  · simp only [List.mem_cons, List.not_mem_nil, or_false] at ht
    rcases ht with rfl | rfl <;> rfl
  · simp only [List.mem_cons, List.not_mem_nil, or_false] at ht
    subst ht
    rfl

theorem latexError_spec (err : Str) (pos : Nat) (st : PState) (hs : StOk T st) :
    Post' (latexError T.toTables err pos st) (fun r st' =>
      Fr T st st' ∧ ANC r ∧ (pos < st.latex.length → ANE T st.latex.length r)) := by
  exact ⟨⟨StOk_congr hs rfl rfl rfl, rfl⟩, latexErrorToks_ANC _ _ _ _, fun hp => latexErrorToks_ANE err pos _ hp⟩

private theorem argBufferPure_ANE (n : Nat) (mark : Str) (buf : Buf) (start : Nat) (endBrace : Bool)
    (hb : ANE T n buf) (hs : start < n) :
    ANE T n (argBufferPure mark buf start endBrace).arg ∧
    ANE T n (argBufferPure mark buf start endBrace).buf ∧
    (∀ e, (argBufferPure mark buf start endBrace).err = some e →
      (argBufferPure mark buf start endBrace).errPos < n) :=
  argBufferPure_all (NE T n) (· < n) mark buf start endBrace hb (fun t ht => (hb t ht).1.1) hs
    (fun p hp => ⟨NE_mkVoid n p hp, NE_mkFix_text n p _ hp (by simp)⟩)

private theorem argBufferPure_ANC (mark : Str) (buf : Buf) (start : Nat) (endBrace : Bool) (hb : ANC buf) :
    ANC (argBufferPure mark buf start endBrace).buf :=
  (argBufferPure_all (noCall · = true) (fun _ => True) mark buf start endBrace hb (fun _ _ => trivial) trivial
    (fun _ _ => ⟨rfl, rfl⟩)).2.1

theorem argBuffer_spec (buf : Buf) (start : Nat) (endBrace : Bool) (st : PState) (hs : StOk T st) :
    Post' (argBuffer T.toTables buf start endBrace st) (fun r st' =>
      Fr T st st' ∧
      (ANE T st.latex.length buf → start < st.latex.length →
        ANE T st.latex.length r.1 ∧ ANE T st.latex.length r.2) ∧
      (ANC buf → ANC r.2)) := by
  have hA := argBufferPure_ANE (T := T) st.latex.length T.mark buf start endBrace
  have hC := argBufferPure_ANC T.mark buf start endBrace
  simp only [argBuffer]
  generalize argBufferPure T.mark buf start endBrace = r at *
  obtain ⟨arg, rbuf, err, errPos⟩ := r
  simp only [] at hA hC ⊢
  cases err with
  | none =>
    exact ⟨Fr.refl hs, fun hb hp => ⟨(hA hb hp).1, (hA hb hp).2.1⟩, hC⟩
  | some e =>
    simp only []
    apply Post'_bind _ _ _ _ _ (latexError_spec e errPos st hs)
    intro errToks s ⟨hfr, hc, ha⟩
    cases rbuf with
    | nil =>
      refine ⟨hfr, fun hb hp => ?_, fun _ => hc⟩
      obtain ⟨h1, _, h3⟩ := hA hb hp
      exact ⟨h1, ha (h3 e rfl)⟩
    | cons opening collected =>
      refine ⟨hfr, fun hb hp => ?_, fun hb => ?_⟩
      · obtain ⟨h1, h2, h3⟩ := hA hb hp
        rw [ANE_cons] at h2
        refine ⟨h1, ?_⟩
        show ANE T _ (opening :: (errToks ++ collected))
        rw [ANE_cons, ANE_append]
        exact ⟨h2.1, ha (h3 e rfl), h2.2⟩
      · have h2 := hC hb
        rw [ANC_cons] at h2
        show ANC (opening :: (errToks ++ collected))
        rw [ANC_cons, ANC_append]
        exact ⟨h2.1, hc, h2.2⟩

theorem parseNewlineOption_spec (buf : Buf) (skip : Bool) (st : PState) (hs : StOk T st)
    (hb : Buf3 T st.latex.length buf) :
    Post' (parseNewlineOption T buf skip st) (fun r st' => Fr T st st' ∧ Buf3 T st.latex.length r) := by
  simp only [parseNewlineOption]
  have hb1 : Buf3 T st.latex.length (if skip = true then (match lookAheadSL buf with
                            | some t => if txtIsNV t "[" = true then skipSpace buf else buf
                            | none => buf) else buf) := by
    split
    · split
      · split
        · exact Buf3_dropWhile _ hb
        · exact hb
      · exact hb
    · exact hb
  generalize (if skip = true then (match lookAheadSL buf with
                            | some t => if txtIsNV t "[" = true then skipSpace buf else buf
                            | none => buf) else buf) = buf1 at hb1
  cases buf1 with
  | nil => exact ⟨Fr.refl hs, hb1⟩
  | cons t tail =>
    simp only []
    split
    · rename_i hbr
      have htxt : t.txt = ['['] := by
        simp only [txtIsNV, Bool.and_eq_true, beq_iff_eq] at hbr
        exact hbr.2
      apply Post'_bind _ _ _ _ _ (argBuffer_spec (t :: tail) t.pos false st hs)
      intro r s ⟨hfr, h1, h2⟩
      refine ⟨hfr, ?_⟩
      rcases hb1 with hp | hc
      · exact Buf3_of_ANE (h1 (Pre_bracket hp htxt) hp.1.1).2
      · exact Or.inr (h2 hc)
    · exact ⟨Fr.refl hs, hb1⟩

def ArgsOk (T : PTables) (n : Nat) (a : Args) : Prop :=
  (∀ x ∈ a.args, ANE T n x) ∧ (∀ x ∈ a.extr, ANE T n x) ∧ ANE T n a.langs ∧ (∀ t ∈ a.langs, isLangK t = true)

theorem ArgsOk_empty (n : Nat) : ArgsOk T n {} := by
  refine ⟨?_, ?_, ?_, ?_⟩ <;> intro x hx <;> cases hx

theorem collectArgs_spec (mac : MacroDef) (hm : ∀ d ∈ mac.defaults, ANE0 T d) (codes : List Char) (k : Nat)
    (buf : Buf) (pos0 : Nat) (acc : Args) (st : PState) (hs : StOk T st)
    (hb : ANE T st.latex.length buf) (hp : pos0 < st.latex.length) (ha : ArgsOk T st.latex.length acc) :
    Post' (collectArgs T mac codes k buf pos0 acc st) (fun r st' =>
      Fr T st st' ∧ ArgsOk T st.latex.length r.1 ∧ ANE T st.latex.length r.2) := by
  refine PostC.mono (collectArgs_all T (NE T st.latex.length) (fun t => NE T st.latex.length t ∧ isLangK t = true)
    (· < st.latex.length) (Fr T st) mac ?_ (fun t h => h.1.1) (fun t h hk => ⟨h, hk⟩) (fun p hp' => NE_mkVoid _ p hp')
    (fun d hd t ht p hp' => NE_restamp (hm d hd t ht) hp') codes k buf pos0 acc st (Fr.refl hs) hb hp
    ⟨ha.1, ha.2.1, fun t ht => ⟨ha.2.2.1 t ht, ha.2.2.2 t ht⟩⟩)
    (fun r s h => ⟨h.1, ⟨h.2.1.1, h.2.1.2.1, fun t ht => (h.2.1.2.2 t ht).1, fun t ht => (h.2.1.2.2 t ht).2⟩, h.2.2⟩)
  intro b p eb s hI hb' hp'
  refine PostC.mono (argBuffer_spec b p eb s hI.1) ?_
  intro r s' h
  rw [hI.len] at h
  exact ⟨hI.trans h.1, h.2.1 hb' hp'⟩

theorem generateReplacements_ANE (n : Nat) (arguments : List (List Tok)) (repls : List Tok) (start : Nat)
    (g : List Tok) (ha : ∀ a ∈ arguments, ANE T n a) (hr : ANE0 T repls) (hs : start < n)
    (h : generateReplacements arguments repls start = some g) : ANE T n g :=
  generateReplacements_all (NE T n) (NE0 T) (· < n) (fun _ h => h.1.1) arguments ha (fun p hp => NE_mkAction n p hp)
    (fun _ _ ht hp => NE_restamp ht hp) repls start g hr hs h

theorem generateReplacements_nil (arguments : List (List Tok)) (start : Nat) :
    generateReplacements arguments [] start = some [] := by
  simp [generateReplacements, initCurPos, genReplLoop]

private theorem NE0_arg (t : Tok) (k : Nat) : NE0 T { t with kind := .arg k } := by
  simp [NE0, MB, ctlEmpty]

private theorem defMapRepl_ANE0 (map : List Nat) : ∀ (ts acc : List Tok), ANE0 T ts → ANE0 T acc →
    ∀ r, defMapRepl map ts acc = .ok r → ANE0 T r := by
  intro ts
  induction ts with
  | nil =>
    intro acc _ ha r h
    simp only [defMapRepl, Except.ok.injEq] at h
    subst h
    intro t ht; exact ha t (by simpa using ht)
  | cons u us ih =>
    intro acc hts ha r h
    have hus : ANE0 T us := fun t ht => hts t (by simp [ht])
    simp only [defMapRepl] at h
    split at h
    · split at h
      · cases h
      · exact ih _ hus ((ANE0_cons _ _).2 ⟨NE0_arg u _, ha⟩) r h
    · exact ih _ hus ((ANE0_cons _ _).2 ⟨hts u (by simp), ha⟩) r h

private theorem errRet_spec (st s : PState) (hfr : Fr T st s) (err : Str) (pos : Nat) (b : Buf)
    (hb : ANE T st.latex.length b) :
    Post' ((latexError T.toTables err pos >>= fun e => (pure (e, b) : M (List Tok × Buf))) s) (fun r st' =>
      Fr T st st' ∧ ANC r.1 ∧ ANE T st.latex.length r.2) := by
  apply Post'_bind _ _ _ _ _ (latexError_spec err pos s hfr.1)
  intro e s' ⟨hfr', hc, _⟩
  exact ⟨hfr.trans hfr', hc, hb⟩

theorem parseDefMacro_spec (buf : Buf) (start : Nat) (st : PState) (hs : StOk T st)
    (hb : ANE T st.latex.length buf) (hp : start < st.latex.length) :
    Post' (parseDefMacro T buf start st) (fun r st' =>
      Fr T st st' ∧ ANC r.1 ∧ ANE T st.latex.length r.2) := by
  have hsk : ANE T st.latex.length (skipSpace buf) := ANE_dropWhile _ hb
  simp only [parseDefMacro]
  generalize skipSpace buf = b at hsk ⊢
  cases b with
  | nil => exact errRet_spec st st (Fr.refl hs) _ _ _ (ANE_nil _)
  | cons tok rest =>
    obtain ⟨htok, hrest⟩ := (ANE_cons _ _ _).1 hsk
    simp only []
    split
    · exact errRet_spec st st (Fr.refl hs) _ _ _ hsk
    · cases hda : defArgs (rest.length + 1) rest [] with
      | none => exact errRet_spec st st (Fr.refl hs) _ _ _ (ANE_nil _)
      | some ab =>
        obtain ⟨args, buf1⟩ := ab
        simp only []
        obtain ⟨_, m2⟩ := defArgs_mem _ _ _ _ _ hda
        have hbuf1 : ANE T st.latex.length buf1 := fun t ht => hrest t (m2 t ht)
        have hp' : (match buf1.head? with | some t => t.pos | none => start) < st.latex.length := by
          split
          · rename_i t ht; exact (hbuf1 t (List.mem_of_mem_head? ht)).1.1
          · exact hp
        apply Post'_bind _ _ _ _ _ (argBuffer_spec buf1 _ true st hs)
        intro r s ⟨hfr, h1, _⟩
        obtain ⟨h1, h3⟩ := h1 hbuf1 hp'
        cases hpm : defArgPosMap args 1 1 [] with
        | error t => exact errRet_spec st s hfr _ _ _ h3
        | ok map =>
          simp only []
          cases hmr : defMapRepl map r.1 [] with
          | error t => exact errRet_spec st s hfr _ _ _ h3
          | ok repl =>
            simp only []
            have hrepl : ANE0 T repl := defMapRepl_ANE0 map r.1 [] (ANE_ANE0 h1) ANE0_nil repl hmr
            apply Post'_bind _ _ _ (fun _ s' => Fr T st s') _ (Post'_modify _ _ _ ?_)
            · intro _ s' hfr'
              refine ⟨hfr', ?_, h3⟩
              intro x hx; simp at hx; subst hx; rfl
            · refine ⟨⟨?_, hfr.1.envs, hfr.1.gloss⟩, hfr.2⟩
              intro m hm
              rcases setMacro_mem _ _ _ hm with hm | rfl
              · exact hfr.1.macros m hm
              · exact ⟨⟨hrepl, fun d hd => (by cases hd), ANE0_nil⟩, rfl⟩

theorem expandShortMacro_spec (st : PState) (tok : Tok) (rest : Buf) (h : noCall tok = true) :
    noCall (expandShortMacro T st tok rest).1 = true ∧
    ((expandShortMacro T st tok rest).2 = rest ∨ (expandShortMacro T st tok rest).2 = rest.tail) := by
  unfold expandShortMacro
  split
  · exact ⟨h, Or.inl rfl⟩
  · rename_i cur rest'
    simp only []
    split
    · exact ⟨h, Or.inl rfl⟩
    · exact ⟨rfl, Or.inr rfl⟩

theorem expandVerbEnvToken_ANE (n : Nat) (t : Tok) (h : W T n t) (hk : t.kind = .verb true) :
    ANE T n (expandVerbEnvToken t) := by
  obtain ⟨hp, hext, hmb⟩ := h
  have he : (if t.fix = true then t.pos else t.pos + t.txt.length) < n := by
    split
    · exact hp
    · rename_i hf; exact hext hk (by simpa using hf)
  intro x hx
  simp only [expandVerbEnvToken, List.mem_cons, List.not_mem_nil, or_false] at hx
  rcases hx with rfl | rfl | rfl | rfl | rfl | rfl | rfl | rfl | rfl
  · simp [NE, W, NE0, MB, ctlEmpty, hp]
  · simp [NE, W, NE0, MB, ctlEmpty, hp]
  · simp [NE, W, NE0, MB, ctlEmpty, hp]
  · simp [NE, W, NE0, MB, ctlEmpty, hp]
  · simp [NE, W, NE0, MB, ctlEmpty, hp]
  · simp [NE, W, NE0, MB, ctlEmpty, he]
  · simp [NE, W, NE0, MB, ctlEmpty, he]
  · simp [NE, W, NE0, MB, ctlEmpty, he]
  · simp [NE, W, NE0, MB, ctlEmpty, he]

theorem setMacro_mem' (ms : List MacroDef) (m x : MacroDef) (h : x ∈ setMacro ms m) : x ∈ ms ∨ x = m :=
  setMacro_mem ms m x h

end NoEmpty
end Yalafi
