/-
  Proofs/SystemWordMix3.lean — SYSTEM LEVEL for the union grammar of TWENTY-TWO construct kinds
  (`PlainMix3`, the grammar of `C03_mix3_e2e`): the filter's theorem composed with the shell's
  pipeline.  The analogue of Proofs/SystemWordMix2.lean; the grammar-free lemmas are those of
  Proofs/SystemWord.lean (`FlaggedAt`, `flaggedAt_of_run`, `sorted_of_flagged`) and
  Proofs/SystemWordRun.lean (`copied_run_marks`, `flaggedAt_of_text`, `flaggedAt_of_flow_text`,
  `inert_head_not_backslash`).  The theorems that need nothing but these (marks level, the order of two
  words) are proved where they are stated, in Properties/SystemMix3Stmt.lean.

  The reference of a `PlainMix3` document threads FIVE quantities along the document (the
  definitions in force, the stack of label generators, the numbers of formulas and displayed
  equations in front, the position).  `envAfter`, `stkAfter`, `nFormulas`, `nDisplays`,
  `|render pre|` give their values behind a prefix `pre`; `marks_append3`, `flows_append3` split
  the reference at any segment boundary.

  `C14_copied_run_mix3` (Properties/SystemMix3Stmt.lean, marks level): every run of character marks
      `some (c₀, p), some (c₁, p+1), …` of the reference `PlainMix3.marks` without a text-less mark
      in between whose first and last
      characters are no white space appears in the plain text as a contiguous block at some offset
      `off`, and the map entries there are `p+1, p+2, …` (`RunAt`).  This covers the text of `txt`
      segments (also the text of list items, of groups and of arguments of undeclared macros), the
      contents of `\verb`, the notes of citations, the titles of headings, and the ARGUMENTS of the
      uses of user macros where the body substitutes them (`bodyMarks` copies an argument at its own
      positions).  `C14_copied_run_footnote_mix3`: the same for a stretch of a footnote body.
  `C14_flagged_run_mix3_e2e` (ibid.): such a run whose characters are those of the file at `p`
      (`src[p … p+l) = w`, decidable) and which does not start with a backslash, through filter AND
      shell.
  `flagged_word_mix3`: a stretch `w` of a `txt` segment (`segs = pre ++ .txt (a ++ w ++ b) :: post`,
      first and last character of `w` no white space), `p = |render pre| + |a|`: both facts are
      derived from the side conditions, conclusions as in `flagged_word_mix2`.
  `flagged_word_foot3`, `flagged_word_head3`: the same for a stretch of a footnote body / of the
      title of a heading (that it does not start with a backslash follows from the side
      conditions: the body of a footnote and a title are inert text).
  `C14_sorted_mix3_e2e` (ibid.): two words of `txt` segments are reported in the order of the file.

  NOT covered: what `PlainMix3` does not cover; flagged stretches that mix copied characters with
  replaced ones (`a–b`, `café` with `\'e`: the accent value is ONE character pinned to the
  backslash, the next copied character is 3 further — the map entries are not consecutive); text
  that comes from the BODY of a user macro (all its characters carry the position of the use or of
  the last argument token: no run); placeholders and labels.
-/
import YalafiVerif.Proofs.SystemWordGroup
import YalafiVerif.Proofs.PlainMix3Read
namespace Yalafi
namespace SystemWord

open PlainMacro Reports

/-! ### the state of the reference behind a prefix -/

def envAfter : PlainMix3.Env → List PlainMix3.Seg → PlainMix3.Env
  | env, [] => env
  | env, .defn name n body :: rest => envAfter ((name, n, body) :: env) rest
  | env, _ :: rest => envAfter env rest

def stkAfter (st1 : PState) : List ItemGen → List PlainMix3.Seg → List ItemGen
  | stk, [] => stk
  | stk, .beg name :: rest => stkAfter st1 (PlainItem.begStk st1 stk name) rest
  | stk, .item _ :: rest => stkAfter st1 (PlainItem.itemStk stk) rest
  | stk, .en _ :: rest => stkAfter st1 (PlainItem.endStk stk) rest
  | stk, _ :: rest => stkAfter st1 stk rest

theorem render_append3 : ∀ (pre rest : List PlainMix3.Seg),
    PlainMix3.render (pre ++ rest) = PlainMix3.render pre ++ PlainMix3.render rest
  | [], _ => rfl
  | s :: pre, rest => by simp [PlainMix3.render, render_append3 pre rest]

theorem marks_append3' (T : PTables) (st1 : PState) (repls drepls : List Str) (rest : List PlainMix3.Seg) :
    ∀ (pre : List PlainMix3.Seg) (env : PlainMix3.Env) (stk : List ItemGen) (k k2 p k' k2' q : Nat),
      k' = k + PlainMix3.nFormulas pre → k2' = k2 + PlainMix3.nDisplays pre →
      q = p + (PlainMix3.render pre).length →
      PlainMix3.marks T st1 repls drepls env stk k k2 p (pre ++ rest)
        = PlainMix3.marks T st1 repls drepls env stk k k2 p pre
          ++ PlainMix3.marks T st1 repls drepls (envAfter env pre) (stkAfter st1 stk pre) k' k2' q rest := by
  intro pre
  induction pre with
  | nil =>
    intro env stk k k2 p k' k2' q hk hk2 hq
    simp only [PlainMix3.nFormulas, PlainMix3.nDisplays, PlainMix3.render, List.length_nil,
      Nat.add_zero] at hk hk2 hq
    subst hk; subst hk2; subst hq
    rfl
  | cons s pre ih =>
    intro env stk k k2 p k' k2' q hk hk2 hq
    have hq' : q = p + s.len + (PlainMix3.render pre).length := by
      simp only [PlainMix3.render, List.length_append] at hq
      simp only [PlainMix3.Seg.len]; omega
    cases s <;>
      (simp only [List.cons_append, PlainMix3.marks, envAfter, stkAfter, List.append_assoc]
       rw [ih _ _ _ _ _ k' k2' q (by simp [PlainMix3.nFormulas] at hk ⊢; omega)
          (by simp [PlainMix3.nDisplays] at hk2 ⊢; omega) (by first | exact hq' | (simp [PlainMix3.Seg.len, PlainMix3.Seg.render] at hq' ⊢; omega))])

theorem marks_append3 (T : PTables) (st1 : PState) (repls drepls : List Str) (pre rest : List PlainMix3.Seg) :
    PlainMix3.marks T st1 repls drepls [] st1.itemStack 0 0 0 (pre ++ rest)
      = PlainMix3.marks T st1 repls drepls [] st1.itemStack 0 0 0 pre
        ++ PlainMix3.marks T st1 repls drepls (envAfter [] pre) (stkAfter st1 st1.itemStack pre)
            (PlainMix3.nFormulas pre) (PlainMix3.nDisplays pre) (PlainMix3.render pre).length rest :=
  marks_append3' T st1 repls drepls rest pre [] st1.itemStack 0 0 0 _ _ _ (Nat.zero_add _).symm
    (Nat.zero_add _).symm (Nat.zero_add _).symm

theorem flows_append3 (rest : List PlainMix3.Seg) : ∀ (pre : List PlainMix3.Seg) (p q : Nat),
    q = p + (PlainMix3.render pre).length →
    PlainMix3.flows p (pre ++ rest) = PlainMix3.flows p pre ++ PlainMix3.flows q rest := by
  intro pre
  induction pre with
  | nil =>
    intro p q hq
    simp only [PlainMix3.render, List.length_nil, Nat.add_zero] at hq
    subst hq; rfl
  | cons s pre ih =>
    intro p q hq
    have hq' : q = p + s.len + (PlainMix3.render pre).length := by
      simp only [PlainMix3.render, List.length_append] at hq
      simp only [PlainMix3.Seg.len]; omega
    cases s <;>
      (simp only [List.cons_append, PlainMix3.flows, List.append_assoc]
       rw [ih _ q (by first | exact hq' | (simp [PlainMix3.Seg.len, PlainMix3.Seg.render] at hq' ⊢; omega))])

theorem segsOk_drop3 (T : PTables) (st : PState) (rest : List PlainMix3.Seg) :
    ∀ (pre : List PlainMix3.Seg), PlainMix3.segsOk T st (pre ++ rest) = true → PlainMix3.segsOk T st rest = true
  | [], h => h
  | s :: pre, h => by
    cases s <;>
      (simp only [List.cons_append, PlainMix3.segsOk, Bool.and_eq_true] at h
       exact segsOk_drop3 T st rest pre h.2)

theorem txt_not_backslash3 {T : PTables} {st : PState} {pre post : List PlainMix3.Seg} {a w b : Str}
    (h : PlainMix3.segsOk T st (pre ++ .txt (a ++ (w ++ b)) :: post) = true) : w.head? ≠ some '\\' := by
  have h1 := segsOk_drop3 T st _ pre h
  simp only [PlainMix3.segsOk, Bool.and_eq_true] at h1
  exact head_not_backslash (tx := PlainMix3.textOkV T st) (ok := PlainMix3.okAtV T st) (fun _ _ _ => rfl)
    (fun _ _ h2 => not_backslash ((PlainMix3.okAtV_snd h2).imp id And.left)) h1.1

/-! ### a flagged word of a text segment, a title, a footnote body: through filter and shell -/

abbrev offOf (pre : List PlainMix3.Seg) (a : Str) : Nat := (PlainMix3.render pre).length + a.length

theorem flagged_word_mix3 (T : PTables) (o : Options) (fs : FS) (thresh : Nat)
    (segs : List PlainMix3.Seg) (fuel : Nat) (st1 : PState) (repls drepls : List Str)
    (hdefs : o.defs = []) (hextr : o.extr = []) (hrepl : o.hasRepl = false) (hunkn : o.unkn = false)
    (hinit : initParser T fuel o (initialState T o false fs) = .ok ((), st1))
    (hok : PlainMix3.SegsOk T st1 repls drepls segs)
    (hf : (PlainMix3.render segs).length + PlainMix3.inserted [] 0 segs + 6 ≤ fuel)
    (pre post : List PlainMix3.Seg) (a w b : Str) (hsegs : segs = pre ++ .txt (a ++ (w ++ b)) :: post)
    (hw : wordEnds w = true) :
    FlaggedAt T o fs thresh fuel (PlainMix3.render segs) ((PlainMix3.render pre).length + a.length) w := by
  obtain ⟨r, h1, h2, h3, _⟩ :=
    PlainMix3.tex2txt_mix3 T o fs thresh segs fuel st1 repls drepls hdefs hextr hrepl hunkn hinit hok hf
  refine flaggedAt_of_text h1 h2 h3 (L := PlainMix3.render pre) (R := PlainMix3.render post) (b := b) ?_ rfl ?_
    hw (txt_not_backslash3 (by rw [← hsegs]; exact hok.2.1))
  · rw [hsegs, render_append3]; simp [PlainMix3.render, PlainMix3.Seg.render]
  · rw [hsegs, marks_append3]; exact ⟨_, _, rfl⟩

/-- **a flagged word of the title of a heading** (`\section{a w b}`; `w` with visible ends) -/
theorem flagged_word_head3 (T : PTables) (o : Options) (fs : FS) (thresh : Nat)
    (segs : List PlainMix3.Seg) (fuel : Nat) (st1 : PState) (repls drepls : List Str)
    (hdefs : o.defs = []) (hextr : o.extr = []) (hrepl : o.hasRepl = false) (hunkn : o.unkn = false)
    (hinit : initParser T fuel o (initialState T o false fs) = .ok ((), st1))
    (hok : PlainMix3.SegsOk T st1 repls drepls segs)
    (hf : (PlainMix3.render segs).length + PlainMix3.inserted [] 0 segs + 6 ≤ fuel)
    (pre post : List PlainMix3.Seg) (name a w b : Str) (hsegs : segs = pre ++ .head name (a ++ (w ++ b)) :: post)
    (hw : wordEnds w = true) :
    FlaggedAt T o fs thresh fuel (PlainMix3.render segs)
      ((PlainMix3.render pre).length + name.length + 2 + a.length) w := by
  obtain ⟨r, h1, h2, h3, _⟩ :=
    PlainMix3.tex2txt_mix3 T o fs thresh segs fuel st1 repls drepls hdefs hextr hrepl hunkn hinit hok hf
  have hs := segsOk_drop3 T st1 _ pre (by rw [← hsegs]; exact hok.2.1)
  simp only [PlainMix3.segsOk, PlainHeading.headOk, Bool.and_eq_true] at hs
  refine flaggedAt_of_text h1 h2 h3 (L := PlainMix3.render pre ++ '\\' :: (name ++ ['{']))
    (R := '}' :: PlainMix3.render post) (b := b) ?_ (by simp; omega) ?_ hw (inert_head_not_backslash hs.1.1.1.1.2)
  · rw [hsegs, render_append3]; simp [PlainMix3.render, PlainMix3.Seg.render]
  · rw [hsegs, marks_append3]
    simp only [PlainMix3.marks, PlainMix3.fixOf, List.append_assoc, List.cons_append]
    exact ⟨_, _, (List.append_assoc _ [none] _).symm⟩

theorem append_block {α} (A B C R : List α) : A ++ (B ++ (C ++ R)) = (A ++ (B ++ C)) ++ R := by
  simp only [List.append_assoc]

/-- **a flagged word of a footnote body** (`\footnote{a w b}`; `w` not empty) -/
theorem flagged_word_foot3 (T : PTables) (o : Options) (fs : FS) (thresh : Nat)
    (segs : List PlainMix3.Seg) (fuel : Nat) (st1 : PState) (repls drepls : List Str)
    (hdefs : o.defs = []) (hextr : o.extr = []) (hrepl : o.hasRepl = false) (hunkn : o.unkn = false)
    (hinit : initParser T fuel o (initialState T o false fs) = .ok ((), st1))
    (hok : PlainMix3.SegsOk T st1 repls drepls segs)
    (hf : (PlainMix3.render segs).length + PlainMix3.inserted [] 0 segs + 6 ≤ fuel)
    (pre post : List PlainMix3.Seg) (a w b : Str) (hsegs : segs = pre ++ .foot (a ++ (w ++ b)) :: post)
    (hne : w ≠ []) :
    FlaggedAt T o fs thresh fuel (PlainMix3.render segs)
      ((PlainMix3.render pre).length + 10 + a.length) w := by
  obtain ⟨r, h1, h2, h3, _⟩ :=
    PlainMix3.tex2txt_mix3 T o fs thresh segs fuel st1 repls drepls hdefs hextr hrepl hunkn hinit hok hf
  have hs := segsOk_drop3 T st1 _ pre (by rw [← hsegs]; exact hok.2.1)
  simp only [PlainMix3.segsOk, PlainFootnote.footOk, Bool.and_eq_true] at hs
  refine flaggedAt_of_flow_text h1 h2 h3 (L := PlainMix3.render pre ++ "\\footnote{".toList)
    (R := '}' :: PlainMix3.render post) (b := b) ?_ (by simp) ?_ hne (inert_head_not_backslash hs.1.1.1.2)
  · rw [hsegs, render_append3]; simp [PlainMix3.render, PlainMix3.Seg.render]
  · rw [hsegs, flows_append3 _ pre 0 _ (Nat.zero_add _).symm]
    simp only [PlainMix3.flows, PlainFootnote.flowOut, List.append_assoc]
    exact ⟨_, _, append_block _ _ _ _⟩

end SystemWord
end Yalafi
