/-
  Proofs/PlainDefTexNestExp.lean — the expander level of Proofs/PlainDefTexNest.lean (nested uses: a macro
  body that calls other user macros; arguments braced or one unbraced character).

    `balToks`, `collectArg_bal`, `argBuffer_group`, `argBuffer_bal`
                                        `arg_buffer` on a brace group with balanced content
    `seqRun_defB`, `seqRun_ddefB`       `\newcommand{\name}[n]{body}` / `\def\name#1…#n{body}` with a body that
                                        contains brace groups (`PlainMacroArgs.seqRun_nc`,
                                        `PlainDefTex.seqRun_ddef_braced` with `argBuffer_bal`)
    `PE`, `NP`, `inst`, `instCur`, `splitGroup`, `dropSp`, `takeArg`, `takeGroups`, `noSkip`, `evalPE`
                                        THE REFERENCE MACHINE: positioned elements, instantiation of a
                                        body, collection of arguments, evaluation with fuel
    `TR`, `BodyTR`                      tokens that represent positioned elements / body pieces
    `genOut_inst`                       `generate_replacements` = `inst`
    `split_collect`, `skip_dropSp`, `skipAct_dropSp`, `collect_takeGroups`
                                        `arg_buffer` / `skip_space` / `expand_arguments` = `splitGroup` /
                                        `dropSp` / `takeGroups`
    `SimOut`, `sim`                     the loop of the model simulates the reference machine:
                                        `evalPE env F pes = some marks` and `TR toks pes` give output tokens
                                        with these marks in at most `2 * marks.length` iterations (the call
                                        of a user macro is `PlainMacroArgs.expandMacro_user`)
-/
import YalafiVerif.Proofs.PlainDefTexExp
namespace Yalafi
namespace PlainDefTexNest

open M
open PlainMacro (lbr rbr NoBrace restamp ncDeclOk_facts
  ncName plainTok_noBrace cwTok_noBrace NcOk
  lookup_setMacro NameOk plainTok_restamp Shape bodyTxt Mark marksOf)
open PlainMacroArgs (digitChar userMacro RefsOk txtTok collectArgs_defN seqRun_nc
  expandMacro_user DigitOk genOut genCur argAt headPos lastPos lastTokStart ArgFacts defSt)

/-! ### brace groups with balanced content -/

/-- brace balance of a token list in which `d` braces are open -/
def balToks : Nat → List Tok → Bool
  | d, [] => d == 0
  | d, t :: ts =>
    if txtIsNV t "{" then balToks (d + 1) ts
    else if txtIsNV t "}" then (match d with | 0 => false | d' + 1 => balToks d' ts)
    else balToks d ts

theorem txtIsNV_lr {t : Tok} (h : txtIsNV t "{" = true) : txtIsNV t "}" = false := by
  simp only [txtIsNV, Bool.and_eq_true, Bool.not_eq_true', beq_iff_eq] at h
  simp [txtIsNV, h.2]

theorem collectArg_bal (q : Nat) (rest : Buf) : ∀ (ts : List Tok) (d : Nat) (acc : List Tok),
    balToks d ts = true →
    collectArg ['}'] ((d : Int) + 1) (ts ++ rbr q :: rest) acc = some (acc.reverse ++ ts, rest)
  | [], d, acc, h => by
    have hd : d = 0 := by simpa [balToks] using h
    subst hd
    simp [collectArg, rbr, txtIsNV, isVerb]
  | t :: ts, d, acc, h => by
    by_cases h1 : txtIsNV t "{" = true
    · have h2 := txtIsNV_lr h1
      have h2' : (!isVerb t && t.txt == ['}']) = false := h2
      simp only [balToks, h1, if_true] at h
      simp only [List.cons_append, collectArg, h1, h2, h2', if_true, Bool.false_eq_true, if_false,
        Bool.false_and]
      have := collectArg_bal q rest ts (d + 1) (t :: acc) h
      rw [show ((d : Int) + 1 + 1) = ((d + 1 : Nat) : Int) + 1 by omega, this]
      simp
    · have h1' : txtIsNV t "{" = false := by simpa using h1
      by_cases h2 : txtIsNV t "}" = true
      · cases d with
        | zero => simp [balToks, h1', h2] at h
        | succ d' =>
          simp only [balToks, h1', h2, if_true, Bool.false_eq_true, if_false] at h
          have h2' : (!isVerb t && t.txt == ['}']) = true := h2
          have hz : (((d' + 1 : Nat) : Int) + 1 - 1 == 0) = false := by
            simp; omega
          simp only [List.cons_append, collectArg, h1', h2, h2', if_true, Bool.false_eq_true, if_false, hz,
            Bool.and_false]
          have := collectArg_bal q rest ts d' (t :: acc) h
          rw [show (((d' + 1 : Nat) : Int) + 1 - 1) = (d' : Int) + 1 by omega, this]
          simp
      · have h2' : txtIsNV t "}" = false := by simpa using h2
        have h2'' : (!isVerb t && t.txt == ['}']) = false := h2'
        simp only [balToks, h1', h2', Bool.false_eq_true, if_false] at h
        simp only [List.cons_append, collectArg, h1', h2', h2'', Bool.false_eq_true, if_false, Bool.false_and]
        rw [collectArg_bal q rest ts d (t :: acc) h]
        simp

/-- `arg_buffer` in front of `{`, given what the collecting loop finds up to the closing brace -/
theorem argBuffer_group (T : Tables) {t : Tok} (hl : Call.Brace '{' t) {buf gt buf2 : List Tok}
    (hc : collectArg ['}'] 1 buf [] = some (gt, buf2)) (hne : gt ≠ []) (start : Nat) (st : PState) :
    argBuffer T (t :: buf) start true st = .ok ((gt, buf2), st) := by
  have hn : txtIsNV t "{" = true := by simp [hl.nv]
  rw [Call.argBuffer_of_collect T start true st hl.notSpace hl.notPar (by simp [hn]) (by rw [hn]; exact hc),
    Call.argOr_of_ne hne]

theorem argBuffer_bal (T : Tables) (p q : Nat) (arg : List Tok) (rest : Buf) (start : Nat)
    (st : PState) (h : balToks 0 arg = true) (hne : arg ≠ []) :
    argBuffer T (lbr p :: (arg ++ rbr q :: rest)) start true st = .ok ((arg, rest), st) :=
  argBuffer_group T (PlainMacro.lbr_brace p) (by simpa using collectArg_bal q rest arg 0 [] h) hne start st

/-! ### the definition step with a body that contains brace groups -/

/-- the parser state while the document is expanded, relative to the initialised state `st1`:
    declared macros keep their meaning (what the user macros are is said by `RelN` below) -/
def StOkN (st1 st : PState) : Prop := UserTable.Keeps (fun _ _ => True) st1 st

theorem StOkN.defSt {st1 st : PState} (h : StOkN st1 st) (name : Str) (n : Nat)
    (body : List Tok) (hn : NameOk st1 name) : StOkN st1 (defSt st name n body) :=
  UserTable.Keeps.set h _ hn.undecl trivial

theorem noEmptyActive_of_StOkN {T : PTables} {st1 st : PState} (h : StOkN st1 st)
    (ha : noEmptyActive T st1 = true) : noEmptyActive T st = true :=
  h.ext.noEmptyActive ha

/-- **the definition step of `expandSequence`** for a body with balanced braces: two iterations, and
    five units of fuel behind them for the calls inside the handler -/
theorem seqRun_defB (T : PTables) (p q1 q2 q3 q4 q5 q6 q7 q8 : Nat) (name : Str) (n : Nat)
    (body : List Tok) (rest : Buf) (envStop : Option Str) (out : List Tok) (st1 st : PState)
    (hst : StOkN st1 st) (hnc : NcOk st1) (hn : NameOk st1 name) (hd : DigitOk T st1 n)
    (hbal : balToks 0 body = true) (hbne : body ≠ []) (hbr : RefsOk n body)
    (ha : noEmptyActive T st1 = true) :
    SeqRun T envStop 5 2
      (cwTok p ncName :: lbr q1 :: cwTok q2 name :: rbr q3 :: txtTok q4 '[' :: txtTok q5 (digitChar n) ::
        txtTok q6 ']' :: lbr q7 :: (body ++ rbr q8 :: rest)) out st
      rest (out ++ [mkAction p]) (defSt st name n body) :=
  seqRun_nc T p ncName q2 name q5 n [] body _ rest envStop out st1 st hst.ext
    (by decide) hnc hn hd (Or.inl rfl) hbr ha rfl
    (fun m hm => collectArgs_defN T m (ncDeclOk_facts hm).2.2.1 q1 q3 q4 q5 q6 q7 q8 (cwTok q2 name)
      (cwTok_noBrace q2 name) (digitChar n) hd.nBr (hd.plain q5) body rest p st
      (argBuffer_bal T.toTables q7 q8 body rest q7 st hbal hbne))

/-! ### THE REFERENCE MACHINE

  The reference for nested uses is an abstract machine on *positioned elements*: what `\outer{x}` means
  is found by instantiating the body of `\outer` (`inst`), and evaluating the result from left to right
  (`evalPE`), a macro name being replaced by the instantiated body of its definition in force; the
  result is re-read ("nested uses expand fully").  Everything carries source positions. -/

inductive PE where
  /-- literal text of a body; every character is pinned to the position `p` -/
  | text (s : Str) (p : Nat)
  /-- the text of an argument written in the document; its characters are at `q`, `q+1`, … -/
  | arg (q : Nat) (s : Str)
  /-- an Action mark that remembers the position `p` -/
  | act (p : Nat)
  /-- a macro name, pinned to `p` -/
  | cs (name : Str) (p : Nat)
  /-- braces, pinned to `p` -/
  | lb (p : Nat)
  | rb (p : Nat)
  /-- white space of the document at `q` (one token) in front of an argument -/
  | sp (q : Nat) (s : Str)
  /-- a visible character of the document at `q` (one token): an unbraced argument -/
  | chr (c : Char) (q : Nat)
deriving Repr, DecidableEq

/-- the position `generate_replacements` sees at the front / at the end of an element -/
def PE.hd : PE → Nat
  | .text _ p => p | .arg q _ => q | .act p => p | .cs _ p => p | .lb p => p | .rb p => p
  | .sp q _ => q | .chr _ q => q
def PE.lst : PE → Nat
  | .text _ p => p | .arg q s => q + lastTokStart s | .act p => p | .cs _ p => p | .lb p => p | .rb p => p
  | .sp q _ => q | .chr _ q => q

def hdOf (v : List PE) : Nat := match v.head? with | some e => e.hd | none => 0
def lstOf (v : List PE) : Nat := match v.getLast? with | some e => e.lst | none => 0

/-- a piece of a body: literal text, a reference `#k`, a macro name, a brace -/
inductive NP where
  | lit (s : Str)
  | par (k : Nat)
  | cs (name : Str)
  | lb
  | rb
deriving Repr, DecidableEq

/-- the k-th value (1-based) -/
def valAt (vals : List (List PE)) (k : Nat) : List PE := (vals[k - 1]?).getD []

/-- where the pieces in front of the first `#k` are pinned: the front of the value that is referenced
    LAST in the body; `cur` (the position of the call) if the body has no `#k` -/
def instCur (vals : List (List PE)) : List NP → Nat → Nat
  | [], cur => cur
  | .par k :: r, _ => instCur vals r (hdOf (valAt vals k))
  | .lit _ :: r, cur => instCur vals r cur
  | .cs _ :: r, cur => instCur vals r cur
  | .lb :: r, cur => instCur vals r cur
  | .rb :: r, cur => instCur vals r cur

/-- the body with the values substituted: literal text, names and braces are pinned to `cur`; `#k`
    is the k-th value between two Action marks, and `cur` moves to the end of that value -/
def inst (vals : List (List PE)) : List NP → Nat → List PE
  | [], _ => []
  | .lit s :: r, cur => .text s cur :: inst vals r cur
  | .par k :: r, _ =>
    .act (hdOf (valAt vals k)) :: (valAt vals k ++ .act (lstOf (valAt vals k)) :: inst vals r (lstOf (valAt vals k)))
  | .cs name :: r, cur => .cs name cur :: inst vals r cur
  | .lb :: r, cur => .lb cur :: inst vals r cur
  | .rb :: r, cur => .rb cur :: inst vals r cur

/-- the elements up to the brace that closes the group (`d` inner braces are open) -/
def splitGroup : Nat → List PE → Option (List PE × List PE)
  | _, [] => none
  | d, .lb p :: r => (splitGroup (d + 1) r).map (fun x => (.lb p :: x.1, x.2))
  | 0, .rb _ :: r => some ([], r)
  | d + 1, .rb p :: r => (splitGroup d r).map (fun x => (.rb p :: x.1, x.2))
  | d, .text s p :: r => (splitGroup d r).map (fun x => (.text s p :: x.1, x.2))
  | d, .arg q s :: r => (splitGroup d r).map (fun x => (.arg q s :: x.1, x.2))
  | d, .act p :: r => (splitGroup d r).map (fun x => (.act p :: x.1, x.2))
  | d, .cs n p :: r => (splitGroup d r).map (fun x => (.cs n p :: x.1, x.2))
  | d, .sp q s :: r => (splitGroup d r).map (fun x => (.sp q s :: x.1, x.2))
  | d, .chr c q :: r => (splitGroup d r).map (fun x => (.chr c q :: x.1, x.2))

/-- white space of the document in front is skipped -/
def dropSp : List PE → List PE
  | .sp _ _ :: r => dropSp r
  | r => r

/-- one argument: a non-empty brace group, or one visible character of the document -/
def takeArg : List PE → Option (List PE × List PE)
  | .lb _ :: r =>
    match splitGroup 0 r with
    | some (g, r') => if g.isEmpty then none else some (g, r')
    | none => none
  | .chr c q :: r => some ([.chr c q], r)
  | _ => none

/-- `n` arguments, each possibly behind white space of the document -/
def takeGroups : Nat → List PE → Option (List (List PE) × List PE)
  | 0, r => some ([], r)
  | n + 1, r =>
    match takeArg (dropSp r) with
    | some (g, r') => (takeGroups n r').map (fun x => (g :: x.1, x.2))
    | none => none

/-- the definitions in force: name (without backslash), number of parameters, body; latest first -/
abbrev EnvN := List (Str × Nat × List NP)

def lookupDefN (env : EnvN) (name : Str) : Option (Nat × List NP) := (env.find? (·.1 == name)).map (·.2)

/-- what may follow a macro name (behind white space of the document): an Action mark, a name, a brace
    or a visible character of the document (the model skips white space there, also in literal text
    of a body and beyond the end of the expansion — not covered) -/
def noSkip : List PE → Bool
  | .act _ :: _ => true
  | .cs _ _ :: _ => true
  | .lb _ :: _ => true
  | .rb _ :: _ => true
  | .chr _ _ :: _ => true
  | _ => false

/-- **evaluation**, one unit of fuel per element: text yields its characters; an Action mark and a
    brace yield a mark; a name yields a mark and is replaced by the instantiated body of its
    definition in force (`none` = not covered: name undefined, too few groups directly behind it, an
    empty group) -/
def evalPE (env : EnvN) : Nat → List PE → Option (List Mark)
  | 0, _ => none
  | _ + 1, [] => some []
  | f + 1, .text s p :: r => (evalPE env f r).map (s.map (fun c => some (c, p)) ++ ·)
  | f + 1, .arg q s :: r => (evalPE env f r).map ((posText q s).map some ++ ·)
  | f + 1, .act _ :: r => (evalPE env f r).map (none :: ·)
  | f + 1, .lb _ :: r => (evalPE env f r).map (none :: ·)
  | f + 1, .rb _ :: r => (evalPE env f r).map (none :: ·)
  | f + 1, .sp q s :: r => (evalPE env f r).map ((posText q s).map some ++ ·)
  | f + 1, .chr c q :: r => (evalPE env f r).map (some (c, q) :: ·)
  | f + 1, .cs name p :: r =>
    match lookupDefN env name with
    | none => none
    | some (n, body) =>
      if body.isEmpty || !noSkip (dropSp r) then none else
      match takeGroups n (dropSp r) with
      | none => none
      | some (vals, r') => (evalPE env f (inst vals body (instCur vals body p) ++ r')).map (none :: ·)

/-! ### tokens that represent positioned elements -/

/-- a macro name that may be called: not `\def`, not declared in the initialised parser -/
structure CsOk (st1 : PState) (name : Str) : Prop where
  nDef : ('\\' :: name) ≠ sDef
  undecl : lookupMacro st1 ('\\' :: name) = none

theorem CsOk.of_nameOk {st1 : PState} {name : Str} (h : NameOk st1 name) : CsOk st1 name := ⟨h.nDef, h.undecl⟩

/-- `toks` represents the elements `pes` (`sp`: one space token of the document; `chr`: one text token
    of one visible character of the document):
    * `text s p`: one or more plain, never active tokens that spell `s`, re-stamped to `p`;
    * `arg q s`: the tokens of an argument of the document (`ArgFacts`: they spell `s` from `q` on);
    * `act p`: an Action token; `cs`, `lb`, `rb`: a macro token / brace token at that position -/
inductive TR (T : PTables) (st1 : PState) : List Tok → List PE → Prop
  | nil : TR T st1 [] []
  | text (ts : List Tok) (s : Str) (p : Nat) (toks : List Tok) (pes : List PE) :
      ts ≠ [] → (∀ t ∈ ts, PlainTok t ∧ Shape t ∧ (activeChars T st1).contains t.txt = false) →
      bodyTxt ts = s → TR T st1 toks pes → TR T st1 (ts.map (restamp p) ++ toks) (.text s p :: pes)
  | arg (ts : List Tok) (q : Nat) (s : Str) (toks : List Tok) (pes : List PE) :
      ts ≠ [] → ArgFacts q s ts → (∀ t ∈ ts, PlainTok t ∧ (activeChars T st1).contains t.txt = false) →
      TR T st1 toks pes → TR T st1 (ts ++ toks) (.arg q s :: pes)
  | act (p : Nat) (toks : List Tok) (pes : List PE) :
      TR T st1 toks pes → TR T st1 (mkAction p :: toks) (.act p :: pes)
  | cs (t : Tok) (name : Str) (toks : List Tok) (pes : List PE) :
      t.kind = .xmacro → t.txt = '\\' :: name → CsOk st1 name →
      TR T st1 toks pes → TR T st1 (t :: toks) (.cs name t.pos :: pes)
  | lb (t : Tok) (toks : List Tok) (pes : List PE) :
      t.kind = .special → t.txt = ['{'] → TR T st1 toks pes → TR T st1 (t :: toks) (.lb t.pos :: pes)
  | rb (t : Tok) (toks : List Tok) (pes : List PE) :
      t.kind = .special → t.txt = ['}'] → TR T st1 toks pes → TR T st1 (t :: toks) (.rb t.pos :: pes)
  | sp (t : Tok) (toks : List Tok) (pes : List PE) :
      t.kind = .space → t.fix = false → PlainTok t → Shape t → (activeChars T st1).contains t.txt = false →
      TR T st1 toks pes → TR T st1 (t :: toks) (.sp t.pos t.txt :: pes)
  | chr (t : Tok) (c : Char) (toks : List Tok) (pes : List PE) :
      t.kind = .text → t.txt = [c] → t.fix = false → PlainTok t → Shape t →
      (activeChars T st1).contains t.txt = false →
      TR T st1 toks pes → TR T st1 (t :: toks) (.chr c t.pos :: pes)

theorem TR_append {T : PTables} {st1 : PState} {a : List Tok} {x : List PE} (h : TR T st1 a x)
    {b : List Tok} {y : List PE} (h2 : TR T st1 b y) : TR T st1 (a ++ b) (x ++ y) := by
  induction h with
  | nil => exact h2
  | text ts s p toks pes h1 h3 h4 _ ih => rw [List.append_assoc]; exact .text ts s p _ _ h1 h3 h4 ih
  | arg ts q s toks pes h1 h3 h4 _ ih => rw [List.append_assoc]; exact .arg ts q s _ _ h1 h3 h4 ih
  | act p toks pes _ ih => exact .act p _ _ ih
  | cs t name toks pes h1 h3 h4 _ ih => exact .cs t name _ _ h1 h3 h4 ih
  | lb t toks pes h1 h3 _ ih => exact .lb t _ _ h1 h3 ih
  | rb t toks pes h1 h3 _ ih => exact .rb t _ _ h1 h3 ih
  | sp t toks pes h1 h3 h4 h5 h6 _ ih => exact .sp t _ _ h1 h3 h4 h5 h6 ih
  | chr t c toks pes h1 h3 h4 h5 h6 h7 _ ih => exact .chr t c _ _ h1 h3 h4 h5 h6 h7 ih

theorem TR_ne {T : PTables} {st1 : PState} {toks : List Tok} {pes : List PE} (h : TR T st1 toks pes) :
    (toks = [] ↔ pes = []) := by
  cases h with
  | nil => simp
  | text ts s p toks pes h1 _ _ _ => cases ts <;> simp_all
  | arg ts q s toks pes h1 _ _ _ => cases ts <;> simp_all
  | act => simp
  | cs => simp
  | lb => simp
  | rb => simp
  | sp => simp
  | chr => simp

theorem headPos_append (a b : List Tok) (h : a ≠ []) : headPos (a ++ b) = headPos a := by
  cases a with
  | nil => exact absurd rfl h
  | cons x xs => rfl

theorem lastPos_append (a b : List Tok) (h : b ≠ []) : lastPos (a ++ b) = lastPos b := by
  obtain ⟨x, hx⟩ := Call.getLast?_of_ne h
  simp only [lastPos, List.getLast?_append, hx]
  rfl

theorem lstOf_cons (e : PE) (b : List PE) (h : b ≠ []) : lstOf (e :: b) = lstOf b := by
  cases b with
  | nil => exact absurd rfl h
  | cons x xs => simp [lstOf, List.getLast?_cons_cons]

theorem TR_head {T : PTables} {st1 : PState} {toks : List Tok} {pes : List PE} (h : TR T st1 toks pes)
    (hne : pes ≠ []) : headPos toks = hdOf pes := by
  cases h with
  | nil => exact absurd rfl hne
  | text ts s p toks pes h1 _ _ _ =>
    rw [headPos_append _ _ (by simpa using h1)]
    cases ts with
    | nil => exact absurd rfl h1
    | cons x xs => rfl
  | arg ts q s toks pes h1 hF _ _ =>
    rw [headPos_append _ _ h1, hF.head]; rfl
  | act => rfl
  | cs => rfl
  | lb => rfl
  | rb => rfl
  | sp => rfl
  | chr => rfl

/-- one more element `e` in front, represented by the tokens `a` -/
theorem TR_last_cons {T : PTables} {st1 : PState} {a toks : List Tok} {e : PE} {pes : List PE}
    (hl : lastPos a = e.lst) (htr : TR T st1 toks pes) (ih : pes ≠ [] → lastPos toks = lstOf pes) :
    lastPos (a ++ toks) = lstOf (e :: pes) := by
  by_cases hp : pes = []
  · subst hp
    rw [(TR_ne htr).mpr rfl, List.append_nil, hl]; rfl
  · rw [lastPos_append _ _ (fun e => hp ((TR_ne htr).mp e)), lstOf_cons _ _ hp]; exact ih hp

theorem TR_last {T : PTables} {st1 : PState} {toks : List Tok} {pes : List PE} (h : TR T st1 toks pes) :
    pes ≠ [] → lastPos toks = lstOf pes := by
  induction h with
  | nil => intro hne; exact absurd rfl hne
  | text ts s p toks pes h1 _ _ htr ih => exact fun _ => TR_last_cons (PlainMacroArgs.lastPos_restamp p ts h1) htr ih
  | arg ts q s toks pes _ hF _ htr ih => exact fun _ => TR_last_cons hF.last htr ih
  | act p toks pes htr ih => exact fun _ => TR_last_cons (a := [mkAction p]) rfl htr ih
  | cs t name toks pes _ _ _ htr ih => exact fun _ => TR_last_cons (a := [t]) rfl htr ih
  | lb t toks pes _ _ htr ih => exact fun _ => TR_last_cons (a := [t]) rfl htr ih
  | rb t toks pes _ _ htr ih => exact fun _ => TR_last_cons (a := [t]) rfl htr ih
  | sp t toks pes _ _ _ _ _ htr ih => exact fun _ => TR_last_cons (a := [t]) rfl htr ih
  | chr t c toks pes _ _ _ _ _ _ htr ih => exact fun _ => TR_last_cons (a := [t]) rfl htr ih

/-! ### brace groups: `splitGroup` / `takeGroups` against `collectArg` / `collectArgs` -/

theorem collectArg_skip (R : Buf) : ∀ (ts : List Tok) (lev : Int) (acc : List Tok), (∀ t ∈ ts, NoBrace t) →
    collectArg ['}'] lev (ts ++ R) acc = collectArg ['}'] lev R (ts.reverse ++ acc)
  | [], _, _, _ => rfl
  | t :: ts, lev, acc, h => by
    obtain ⟨h1, h2⟩ := h t (List.mem_cons_self ..)
    have h2' : (!isVerb t && t.txt == ['}']) = false := h2
    simp only [List.cons_append, collectArg, h1, h2, h2', Bool.false_eq_true, if_false, Bool.false_and]
    rw [collectArg_skip R ts lev (t :: acc) (fun x hx => h x (List.mem_cons_of_mem _ hx))]
    simp

theorem noBrace_mkAction (p : Nat) : NoBrace (mkAction p) := by
  constructor <;> simp [txtIsNV, mkAction]

theorem noBrace_cs {t : Tok} {name : Str} (h : t.txt = '\\' :: name) : NoBrace t := by
  constructor <;> simp [txtIsNV, h]

theorem splitGroup_cons_eq {d : Nat} {e : PE} {r g r2 : List PE} (hb : ∀ p, e ≠ .lb p ∧ e ≠ .rb p)
    (hs : splitGroup d (e :: r) = some (g, r2)) : ∃ g', g = e :: g' ∧ splitGroup d r = some (g', r2) := by
  cases e with
  | lb p => exact absurd rfl (hb p).1
  | rb p => exact absurd rfl (hb p).2
  | _ =>
    simp only [splitGroup, Option.map_eq_some_iff] at hs
    obtain ⟨⟨g', r'⟩, hs', he⟩ := hs
    cases he
    exact ⟨g', rfl, hs'⟩

/-- `split_collect` for one more element `e` in front that is no brace and is represented by the
    brace-free tokens `a` -/
theorem split_collect_cons {T : PTables} {st1 : PState} {a toks : List Tok} {e : PE} {pes : List PE}
    (hb : ∀ p, e ≠ .lb p ∧ e ≠ .rb p) (hnb : ∀ t ∈ a, NoBrace t)
    (hcons : ∀ {gt : List Tok} {g' : List PE}, TR T st1 gt g' → TR T st1 (a ++ gt) (e :: g'))
    (ih : ∀ (d : Nat) (g r2 : List PE), splitGroup d pes = some (g, r2) →
      ∃ gt toks2, TR T st1 gt g ∧ TR T st1 toks2 r2 ∧
        ∀ acc, collectArg ['}'] ((d : Int) + 1) toks acc = some (acc.reverse ++ gt, toks2))
    (d : Nat) (g r2 : List PE) (hs : splitGroup d (e :: pes) = some (g, r2)) :
    ∃ gt toks2, TR T st1 gt g ∧ TR T st1 toks2 r2 ∧
      ∀ acc, collectArg ['}'] ((d : Int) + 1) (a ++ toks) acc = some (acc.reverse ++ gt, toks2) := by
  obtain ⟨g', rfl, hs'⟩ := splitGroup_cons_eq hb hs
  obtain ⟨gt, toks2, i1, i2, i3⟩ := ih d _ _ hs'
  refine ⟨a ++ gt, toks2, hcons i1, i2, fun acc => ?_⟩
  rw [collectArg_skip _ _ _ _ hnb, i3]
  simp

theorem split_collect {T : PTables} {st1 : PState} {toks : List Tok} {r : List PE} (h : TR T st1 toks r) :
    ∀ (d : Nat) (g r2 : List PE), splitGroup d r = some (g, r2) →
      ∃ gt toks2, TR T st1 gt g ∧ TR T st1 toks2 r2 ∧
        ∀ acc, collectArg ['}'] ((d : Int) + 1) toks acc = some (acc.reverse ++ gt, toks2) := by
  induction h with
  | nil => intro d g r2 hs; simp [splitGroup] at hs
  | text ts s p toks pes h1 h3 h4 _ ih =>
    refine split_collect_cons (fun _ => ⟨nofun, nofun⟩) ?_ (fun h => .text ts s p _ _ h1 h3 h4 h) ih
    intro t ht
    obtain ⟨u, hu, rfl⟩ := List.mem_map.mp ht
    exact plainTok_noBrace (plainTok_restamp p u (h3 u hu).1)
  | arg ts q s toks pes h1 h3 h4 _ ih =>
    exact split_collect_cons (fun _ => ⟨nofun, nofun⟩) (fun t ht => plainTok_noBrace (h4 t ht).1)
      (fun h => .arg ts q s _ _ h1 h3 h4 h) ih
  | act p toks pes _ ih =>
    exact split_collect_cons (a := [mkAction p]) (fun _ => ⟨nofun, nofun⟩)
      (by simpa using noBrace_mkAction p) (fun h => .act p _ _ h) ih
  | cs t name toks pes h1 h3 h4 _ ih =>
    exact split_collect_cons (a := [t]) (fun _ => ⟨nofun, nofun⟩) (by simpa using noBrace_cs h3)
      (fun h => .cs t name _ _ h1 h3 h4 h) ih
  | sp t toks pes h1 h3 h4 h5 h6 _ ih =>
    exact split_collect_cons (a := [t]) (fun _ => ⟨nofun, nofun⟩) (by simpa using plainTok_noBrace h4)
      (fun h => .sp t _ _ h1 h3 h4 h5 h6 h) ih
  | chr t c toks pes h1 h3 h4 h5 h6 h7 _ ih =>
    exact split_collect_cons (a := [t]) (fun _ => ⟨nofun, nofun⟩) (by simpa using plainTok_noBrace h5)
      (fun h => .chr t c _ _ h1 h3 h4 h5 h6 h7 h) ih
  | lb t toks pes h1 h3 _ ih =>
    intro d g r2 hs
    simp only [splitGroup, Option.map_eq_some_iff] at hs
    obtain ⟨⟨g', r'⟩, hs', he⟩ := hs
    cases he
    obtain ⟨gt, toks2, i1, i2, i3⟩ := ih (d + 1) _ _ hs'
    refine ⟨t :: gt, toks2, .lb t _ _ h1 h3 i1, i2, ?_⟩
    intro acc
    have hv : isVerb t = false := by simp [isVerb, h1]
    have e1 : txtIsNV t "{" = true := by simp [txtIsNV, hv, h3]
    have e2 : txtIsNV t "}" = false := by simp [txtIsNV, h3]
    have e2' : (!isVerb t && t.txt == ['}']) = false := e2
    simp only [collectArg, e1, e2, e2', if_true, Bool.false_eq_true, if_false, Bool.false_and]
    rw [show ((d : Int) + 1 + 1) = ((d + 1 : Nat) : Int) + 1 by omega, i3]
    simp
  | rb t toks pes h1 h3 htr ih =>
    intro d g r2 hs
    have hv : isVerb t = false := by simp [isVerb, h1]
    have e1 : txtIsNV t "{" = false := by simp [txtIsNV, h3]
    have e2 : txtIsNV t "}" = true := by simp [txtIsNV, hv, h3]
    have e2' : (!isVerb t && t.txt == ['}']) = true := e2
    cases d with
    | zero =>
      simp only [splitGroup, Option.some.injEq, Prod.mk.injEq] at hs
      obtain ⟨rfl, rfl⟩ := hs
      refine ⟨[], toks, .nil, htr, ?_⟩
      intro acc
      simp [collectArg, e1, e2, e2']
    | succ d' =>
      simp only [splitGroup, Option.map_eq_some_iff] at hs
      obtain ⟨⟨g', r'⟩, hs', he⟩ := hs
      cases he
      obtain ⟨gt, toks2, i1, i2, i3⟩ := ih d' _ _ hs'
      refine ⟨t :: gt, toks2, .rb t _ _ h1 h3 i1, i2, ?_⟩
      intro acc
      have hz : (((d' + 1 : Nat) : Int) + 1 - 1 == 0) = false := by
        simp; omega
      simp only [collectArg, e1, e2, e2', if_true, Bool.false_eq_true, if_false, hz, Bool.and_false]
      rw [show (((d' + 1 : Nat) : Int) + 1 - 1) = (d' : Int) + 1 by omega, i3]
      simp

theorem collectArg_append (e : Str) (rest : Buf) : ∀ (a : List Tok) (lev : Int) (acc x y : List Tok),
    collectArg e lev a acc = some (x, y) → collectArg e lev (a ++ rest) acc = some (x, y ++ rest)
  | [], _, _, _, _, h => by simp [collectArg] at h
  | t :: ts, lev, acc, x, y, h => by
    have key : ∀ (c : Bool) (l : Int),
        (if c = true then some (acc.reverse, ts) else collectArg e l ts (t :: acc)) = some (x, y) →
        (if c = true then some (acc.reverse, ts ++ rest) else collectArg e l (ts ++ rest) (t :: acc))
          = some (x, y ++ rest) := by
      intro c l h
      cases c
      · simpa using collectArg_append e rest ts l (t :: acc) x y (by simpa using h)
      · simp only [if_true, Option.some.injEq, Prod.mk.injEq] at h ⊢
        exact ⟨h.1, by rw [h.2]⟩
    simp only [collectArg, List.cons_append] at h ⊢
    exact key _ _ h

def AllTR (T : PTables) (st1 : PState) : List (List Tok) → List (List PE) → Prop
  | [], [] => True
  | a :: as, v :: vs => TR T st1 a v ∧ AllTR T st1 as vs
  | _, _ => False

theorem dropSp_idem : ∀ r : List PE, dropSp (dropSp r) = dropSp r
  | [] => rfl
  | .sp _ _ :: r => by simp only [dropSp]; exact dropSp_idem r
  | .text _ _ :: _ => rfl
  | .arg _ _ :: _ => rfl
  | .act _ :: _ => rfl
  | .cs _ _ :: _ => rfl
  | .lb _ :: _ => rfl
  | .rb _ :: _ => rfl
  | .chr _ _ :: _ => rfl

/-- white space of the document in front of an argument is skipped by `skip_space` -/
theorem skip_dropSp {T : PTables} {st1 : PState} {toks : List Tok} {r : List PE} (h : TR T st1 toks r) :
    (takeArg (dropSp r)).isSome = true →
    ∃ toks0, TR T st1 toks0 (dropSp r) ∧
      ∀ rest, skipSpace (toks ++ rest) = toks0 ++ rest ∧ skippedLangs (toks ++ rest) = [] := by
  induction h with
  | nil => intro hn; simp [dropSp, takeArg] at hn
  | text => intro hn; simp [dropSp, takeArg] at hn
  | arg => intro hn; simp [dropSp, takeArg] at hn
  | act => intro hn; simp [dropSp, takeArg] at hn
  | cs => intro hn; simp [dropSp, takeArg] at hn
  | rb => intro hn; simp [dropSp, takeArg] at hn
  | lb t toks pes hk ht htr _ =>
    intro _
    have hs : isSpaceTok t = false := by simp [isSpaceTok, hk]
    exact ⟨t :: toks, .lb t _ _ hk ht htr, fun rest =>
      ⟨Call.skipSpace_cons hs, Call.skippedLangs_cons hs⟩⟩
  | chr t c toks pes hk ht hf hp hsh hna htr _ =>
    intro _
    have hs : isSpaceTok t = false := by simp [isSpaceTok, hk]
    exact ⟨t :: toks, .chr t c _ _ hk ht hf hp hsh hna htr, fun rest =>
      ⟨Call.skipSpace_cons hs, Call.skippedLangs_cons hs⟩⟩
  | sp t toks pes hk _ _ _ _ _ ih =>
    intro hn
    obtain ⟨toks0, i1, i2⟩ := ih (by simpa [dropSp] using hn)
    refine ⟨toks0, by simpa [dropSp] using i1, fun rest => ?_⟩
    obtain ⟨j1, j2⟩ := i2 rest
    have hs : isSpaceTok t = true := by simp [isSpaceTok, hk]
    have hl : isLangK t = false := by simp [isLangK, hk]
    constructor
    · simp only [List.cons_append, skipSpace, List.dropWhile_cons, hs, if_true]
      exact j1
    · simp only [List.cons_append, skippedLangs, List.takeWhile_cons, hs, if_true, List.filter_cons, hl,
        Bool.false_eq_true, if_false]
      exact j2

/-- … and by `skip_space(stop_lang, stop_action)` behind a macro name -/
theorem skipAct_dropSp {T : PTables} {st1 : PState} {toks : List Tok} {r : List PE} (h : TR T st1 toks r) :
    noSkip (dropSp r) = true →
    ∃ toks0, TR T st1 toks0 (dropSp r) ∧ ∀ rest, skipSpaceStopLangAct (toks ++ rest) = toks0 ++ rest := by
  induction h with
  | nil => intro hn; simp [dropSp, noSkip] at hn
  | text => intro hn; simp [dropSp, noSkip] at hn
  | arg => intro hn; simp [dropSp, noSkip] at hn
  | act p toks pes htr _ =>
    intro _
    exact ⟨mkAction p :: toks, .act p _ _ htr, fun rest => by simp [skipSpaceStopLangAct, mkAction]⟩
  | cs t name toks pes hk ht hn htr _ =>
    intro _
    exact ⟨t :: toks, .cs t name _ _ hk ht hn htr, fun rest =>
      Call.skipSpaceStopLangAct_cons (by simp [isSpaceTok, hk])⟩
  | lb t toks pes hk ht htr _ =>
    intro _
    exact ⟨t :: toks, .lb t _ _ hk ht htr, fun rest =>
      Call.skipSpaceStopLangAct_cons (by simp [isSpaceTok, hk])⟩
  | rb t toks pes hk ht htr _ =>
    intro _
    exact ⟨t :: toks, .rb t _ _ hk ht htr, fun rest =>
      Call.skipSpaceStopLangAct_cons (by simp [isSpaceTok, hk])⟩
  | chr t c toks pes hk ht hf hp hsh hna htr _ =>
    intro _
    exact ⟨t :: toks, .chr t c _ _ hk ht hf hp hsh hna htr, fun rest =>
      Call.skipSpaceStopLangAct_cons (by simp [isSpaceTok, hk])⟩
  | sp t toks pes hk _ _ _ _ _ ih =>
    intro hn
    obtain ⟨toks0, i1, i2⟩ := ih (by simpa [dropSp] using hn)
    refine ⟨toks0, by simpa [dropSp] using i1, fun rest => ?_⟩
    have hc : (isSpaceTok t && !isLangK t && !(t.kind == Kind.action)) = true := by
      simp [isSpaceTok, isLangK, hk]
    simp only [List.cons_append, skipSpaceStopLangAct, List.dropWhile_cons, hc, if_true]
    exact i2 rest

/-- **`collectArgs` collects what `takeGroups` takes** -/
theorem collect_takeGroups (T : PTables) (st1 : PState) :
    ∀ (n : Nat) (toks : List Tok) (pes : List PE) (vals : List (List PE)) (pes' : List PE),
      TR T st1 toks pes → takeGroups n pes = some (vals, pes') →
      ∃ As toks', (∀ (mac : MacroDef) (st : PState) (rest : Buf) (i pos0 : Nat) (acc : Args),
          collectArgs T mac (List.replicate n 'A') i (toks ++ rest) pos0 acc st
            = .ok (({ acc with args := acc.args ++ As, extr := acc.extr ++ As }, toks' ++ rest), st)) ∧
        TR T st1 toks' pes' ∧ AllTR T st1 As vals ∧ (∀ v ∈ vals, v ≠ [])
  | 0, toks, pes, vals, pes', htr, h => by
    simp only [takeGroups, Option.some.injEq, Prod.mk.injEq] at h
    obtain ⟨rfl, rfl⟩ := h
    refine ⟨[], toks, ?_, htr, trivial, by simp⟩
    intro mac st rest i pos0 acc
    simp [collectArgs]
    rfl
  | n + 1, toks, pes, vals, pes', htr, h => by
    simp only [takeGroups] at h
    cases hta : takeArg (dropSp pes) with
    | none => simp [hta] at h
    | some gr =>
      obtain ⟨g, r2⟩ := gr
      simp only [hta, Option.map_eq_some_iff] at h
      obtain ⟨⟨vals', pes''⟩, htk, he⟩ := h
      cases he
      obtain ⟨toks0, htr0, hskip⟩ := skip_dropSp htr (by rw [hta]; rfl)
      -- the argument: a group or a character
      have key : ∃ gt toks2, TR T st1 gt g ∧ TR T st1 toks2 r2 ∧ g ≠ [] ∧
          ∀ (mac : MacroDef) (st : PState) (rest : Buf) (codes : List Char) (i pos0 : Nat) (acc : Args),
            collectArgs T mac ('A' :: codes) i (toks ++ rest) pos0 acc st
              = collectArgs T mac codes (i + 1) (toks2 ++ rest)
                  (match (toks0 ++ rest).head? with | some t => t.pos | none => pos0)
                  { acc with args := acc.args ++ [gt], extr := acc.extr ++ [gt] } st := by
        cases hd : dropSp pes with
        | nil => simp [hd, takeArg] at hta
        | cons e r =>
          rw [hd] at hta htr0
          cases e with
          | text s p => simp [takeArg] at hta
          | arg q s => simp [takeArg] at hta
          | act p => simp [takeArg] at hta
          | cs nm p => simp [takeArg] at hta
          | rb p => simp [takeArg] at hta
          | sp q s => simp [takeArg] at hta
          | chr c q =>
            simp only [takeArg, Option.some.injEq, Prod.mk.injEq] at hta
            obtain ⟨rfl, rfl⟩ := hta
            cases htr0 with
            | chr t _ toks1 _ hk ht hf hp hsh hna htr1 =>
              refine ⟨[t], toks1, .chr t c _ _ hk ht hf hp hsh hna .nil, htr1, by simp, ?_⟩
              intro mac st rest codes i pos0 acc
              obtain ⟨j1, j2⟩ := hskip rest
              exact Call.collectArgs_A T mac codes i pos0 acc st ⟨j1, j2⟩ (plainTok_noBrace hp).2
                (Call.argBuffer_single T.toTables (toks1 ++ rest) t.pos st (by simp [isSpaceTok, hk]) (by simp [hk])
                  (plainTok_noBrace hp).1)
          | lb p =>
            simp only [takeArg] at hta
            cases htr0 with
            | lb t toks1 _ hk ht htr1 =>
              cases hsp : splitGroup 0 r with
              | none => simp [hsp] at hta
              | some gr' =>
                obtain ⟨g', r2'⟩ := gr'
                simp only [hsp] at hta
                by_cases hge : g'.isEmpty = true
                · simp [hge] at hta
                · simp only [hge, Bool.false_eq_true, if_false, Option.some.injEq, Prod.mk.injEq] at hta
                  obtain ⟨rfl, rfl⟩ := hta
                  obtain ⟨gt, toks2, g1, g2, g3⟩ := split_collect htr1 0 g' r2' hsp
                  have hgne : g' ≠ [] := by simpa using hge
                  have hgtne : gt ≠ [] := fun e => hgne ((TR_ne g1).mp e)
                  refine ⟨gt, toks2, g1, g2, hgne, ?_⟩
                  intro mac st rest codes i pos0 acc
                  obtain ⟨j1, j2⟩ := hskip rest
                  have hrb : txtIsNV t "}" = false := by simp [txtIsNV, ht]
                  have hc : collectArg ['}'] 1 (toks1 ++ rest) [] = some (gt, toks2 ++ rest) := by
                    have := g3 []
                    have e0 : ((0 : Nat) : Int) + 1 = 1 := by omega
                    rw [e0] at this
                    exact collectArg_append _ rest _ _ _ _ _ (by simpa using this)
                  exact Call.collectArgs_A T mac codes i pos0 acc st ⟨j1, j2⟩ hrb
                    (argBuffer_group T.toTables ⟨.inl hk, ht⟩ hc hgtne t.pos st)
      obtain ⟨gt, toks2, g1, g2, hgne, g3⟩ := key
      obtain ⟨As, toks', i1, i2, i3, i4⟩ := collect_takeGroups T st1 n toks2 r2 vals' pes'' g2 htk
      refine ⟨gt :: As, toks', ?_, i2, ⟨g1, i3⟩, ?_⟩
      · intro mac st rest i pos0 acc
        rw [List.replicate_succ, g3, i1]
        simp
      · intro v hv
        rcases List.mem_cons.mp hv with rfl | hv
        · exact hgne
        · exact i4 v hv

theorem allTR_length {T : PTables} {st1 : PState} : ∀ {As : List (List Tok)} {vals : List (List PE)},
    AllTR T st1 As vals → As.length = vals.length
  | [], [], _ => rfl
  | [], _ :: _, h => nomatch h
  | _ :: _, [], h => nomatch h
  | _ :: as, _ :: vs, h => by simp [allTR_length h.2]

theorem allTR_get {T : PTables} {st1 : PState} : ∀ {As : List (List Tok)} {vals : List (List PE)},
    AllTR T st1 As vals → ∀ (j : Nat) (a : List Tok), As[j]? = some a → ∃ v, vals[j]? = some v ∧ TR T st1 a v
  | [], [], _, j, a, h => by simp at h
  | [], _ :: _, h, _, _, _ => nomatch h
  | _ :: _, [], h, _, _, _ => nomatch h
  | a0 :: as, v0 :: vs, h, j, a, hj => by
    cases j with
    | zero =>
      simp only [List.getElem?_cons_zero, Option.some.injEq] at hj
      subst hj
      exact ⟨v0, rfl, h.1⟩
    | succ j =>
      simp only [List.getElem?_cons_succ] at hj
      obtain ⟨v, h1, h2⟩ := allTR_get h.2 j a hj
      exact ⟨v, by simpa using h1, h2⟩

theorem takeGroups_length : ∀ (n : Nat) (r : List PE) (vals : List (List PE)) (r' : List PE),
    takeGroups n r = some (vals, r') → vals.length = n
  | 0, r, vals, r', h => by
    simp only [takeGroups, Option.some.injEq, Prod.mk.injEq] at h
    rw [← h.1]; rfl
  | n + 1, r, vals, r', h => by
    simp only [takeGroups] at h
    cases hta : takeArg (dropSp r) with
    | none => simp [hta] at h
    | some gr =>
      simp only [hta, Option.map_eq_some_iff] at h
      obtain ⟨⟨vals', pes''⟩, htk, he⟩ := h
      cases he
      simp [takeGroups_length n _ _ _ htk]

theorem takeArg_noSkip (r : List PE) (h : (takeArg r).isSome = true) : noSkip r = true := by
  cases r with
  | nil => simp [takeArg] at h
  | cons e r => cases e <;> first | rfl | (simp [takeArg] at h)

theorem takeGroups_noSkip (n : Nat) (r : List PE) (x : List (List PE) × List PE)
    (h : takeGroups (n + 1) r = some x) : noSkip (dropSp r) = true := by
  simp only [takeGroups] at h
  cases hta : takeArg (dropSp r) with
  | none => simp [hta] at h
  | some gr => exact takeArg_noSkip _ (by rw [hta]; rfl)

/-! ### bodies -/

/-- the tokens of a stored body represent the pieces `body` -/
inductive BodyTR (T : PTables) (st1 : PState) : List Tok → List NP → Prop
  | nil : BodyTR T st1 [] []
  | lit (ts : List Tok) (s : Str) (b : List Tok) (body : List NP) :
      ts ≠ [] → (∀ t ∈ ts, PlainTok t ∧ Shape t ∧ (activeChars T st1).contains t.txt = false) →
      bodyTxt ts = s → BodyTR T st1 b body → BodyTR T st1 (ts ++ b) (.lit s :: body)
  | par (t : Tok) (k : Nat) (b : List Tok) (body : List NP) :
      argRef t = some k → NoBrace t → BodyTR T st1 b body → BodyTR T st1 (t :: b) (.par k :: body)
  | cs (t : Tok) (name : Str) (b : List Tok) (body : List NP) :
      t.kind = .xmacro → t.txt = '\\' :: name → CsOk st1 name →
      BodyTR T st1 b body → BodyTR T st1 (t :: b) (.cs name :: body)
  | lb (t : Tok) (b : List Tok) (body : List NP) :
      t.kind = .special → t.txt = ['{'] → BodyTR T st1 b body → BodyTR T st1 (t :: b) (.lb :: body)
  | rb (t : Tok) (b : List Tok) (body : List NP) :
      t.kind = .special → t.txt = ['}'] → BodyTR T st1 b body → BodyTR T st1 (t :: b) (.rb :: body)

theorem argRef_of_kind {t : Tok} (h : t.kind = .xmacro ∨ t.kind = .special) : argRef t = none := by
  unfold argRef
  rcases h with h | h <;> simp [h]

/-- **`generate_replacements` instantiates the body** -/
theorem genOut_inst {T : PTables} {st1 : PState} {n : Nat} {As : List (List Tok)} {vals : List (List PE)}
    (hA : ∀ k, 1 ≤ k → k ≤ n → TR T st1 (argAt As k) (valAt vals k) ∧ valAt vals k ≠ [])
    {b : List Tok} {body : List NP} (h : BodyTR T st1 b body) :
    RefsOk n b → ∀ cur, TR T st1 (genOut As b cur) (inst vals body cur) ∧
      genCur As b cur = instCur vals body cur := by
  induction h with
  | nil => intro _ cur; exact ⟨.nil, rfl⟩
  | lit ts s b body h1 h2 h3 _ ih =>
    intro hr cur
    have hp : ∀ u ∈ ts, PlainTok u := fun u hu => (h2 u hu).1
    obtain ⟨i1, i2⟩ := ih hr.append_right cur
    rw [PlainMacroArgs.genOut_plain_run As b cur ts hp, PlainMacroArgs.genCur_plain_run As b cur ts hp]
    exact ⟨.text ts s cur _ _ h1 h2 h3 i1, i2⟩
  | par t k b body hk _ _ ih =>
    intro hr cur
    obtain ⟨k1, k2⟩ := hr t (List.mem_cons_self ..) k hk
    obtain ⟨a1, a2⟩ := hA k k1 k2
    have e1 := TR_head a1 a2
    have e2 := TR_last a1 a2
    obtain ⟨i1, _⟩ := ih hr.tail (lstOf (valAt vals k))
    obtain ⟨_, i2⟩ := ih hr.tail (hdOf (valAt vals k))
    simp only [genOut, genCur, hk, inst, instCur, e1, e2]
    exact ⟨.act _ _ _ (TR_append a1 (.act _ _ _ i1)), i2⟩
  | cs t name b body hk ht hn _ ih =>
    intro hr cur
    obtain ⟨i1, i2⟩ := ih hr.tail cur
    have hk' := argRef_of_kind (Or.inl hk)
    simp only [genOut, genCur, hk', inst, instCur]
    exact ⟨.cs (restamp cur t) name _ _ hk ht hn i1, i2⟩
  | lb t b body hk ht _ ih =>
    intro hr cur
    obtain ⟨i1, i2⟩ := ih hr.tail cur
    have hk' := argRef_of_kind (Or.inr hk)
    simp only [genOut, genCur, hk', inst, instCur]
    exact ⟨.lb (restamp cur t) _ _ hk ht i1, i2⟩
  | rb t b body hk ht _ ih =>
    intro hr cur
    obtain ⟨i1, i2⟩ := ih hr.tail cur
    have hk' := argRef_of_kind (Or.inr hk)
    simp only [genOut, genCur, hk', inst, instCur]
    exact ⟨.rb (restamp cur t) _ _ hk ht i1, i2⟩

theorem balToks_skip (b : List Tok) : ∀ (ts : List Tok) (d : Nat), (∀ t ∈ ts, NoBrace t) →
    balToks d (ts ++ b) = balToks d b
  | [], _, _ => rfl
  | t :: ts, d, h => by
    obtain ⟨h1, h2⟩ := h t (List.mem_cons_self ..)
    simp only [List.cons_append, balToks, h1, h2, Bool.false_eq_true, if_false]
    exact balToks_skip b ts d (fun x hx => h x (List.mem_cons_of_mem _ hx))

/-- brace balance of a body: `lb` / `rb` count, nothing else does -/
def balNP : Nat → List NP → Bool
  | d, [] => d == 0
  | d, .lb :: r => balNP (d + 1) r
  | 0, .rb :: _ => false
  | d + 1, .rb :: r => balNP d r
  | d, .lit _ :: r => balNP d r
  | d, .par _ :: r => balNP d r
  | d, .cs _ :: r => balNP d r

theorem balToks_of_BodyTR {T : PTables} {st1 : PState} {b : List Tok} {body : List NP}
    (h : BodyTR T st1 b body) : ∀ d, balToks d b = balNP d body := by
  induction h with
  | nil => intro d; rfl
  | lit ts s b body _ h2 _ _ ih =>
    intro d
    rw [balToks_skip b ts d (fun t ht => plainTok_noBrace (h2 t ht).1)]
    simpa [balNP] using ih d
  | par t k b body _ hnb _ ih =>
    intro d
    have := balToks_skip b [t] d (by simpa using hnb)
    simp only [List.singleton_append] at this
    rw [this]; simpa [balNP] using ih d
  | cs t name b body _ ht _ _ ih =>
    intro d
    have := balToks_skip b [t] d (by simpa using noBrace_cs ht)
    simp only [List.singleton_append] at this
    rw [this]; simpa [balNP] using ih d
  | lb t b body hk ht _ ih =>
    intro d
    have e1 : txtIsNV t "{" = true := by simp [txtIsNV, isVerb, hk, ht]
    simp only [balToks, e1, if_true, balNP]
    exact ih (d + 1)
  | rb t b body hk ht _ ih =>
    intro d
    have e1 : txtIsNV t "{" = false := by simp [txtIsNV, ht]
    have e2 : txtIsNV t "}" = true := by simp [txtIsNV, isVerb, hk, ht]
    cases d with
    | zero => simp [balToks, e1, e2, balNP]
    | succ d' =>
      simp only [balToks, e1, e2, if_true, Bool.false_eq_true, if_false, balNP]
      exact ih d'

theorem BodyTR.noCom {T : PTables} {st1 : PState} {b : List Tok} {body : List NP}
    (h : BodyTR T st1 b body) : NoCom b := by
  induction h with
  | nil => exact .nil
  | lit ts s b body _ h2 _ _ ih => exact .append (fun t ht => (h2 t ht).1.notComment) ih
  | par t k b body hk _ _ ih => exact .cons (fun e => by simp [argRef, e] at hk) ih
  | cs t name b body hk _ _ _ ih => exact .cons (NoCom.of_kind hk) ih
  | lb t b body hk _ _ ih => exact .cons (NoCom.of_kind hk) ih
  | rb t b body hk _ _ ih => exact .cons (NoCom.of_kind hk) ih

theorem TR.noCom {T : PTables} {st1 : PState} {toks : List Tok} {pes : List PE} (h : TR T st1 toks pes) :
    NoCom toks := by
  induction h with
  | nil => exact .nil
  | text ts s p toks pes _ h2 _ _ ih =>
    refine .append (fun t ht => ?_) ih
    obtain ⟨u, hu, rfl⟩ := List.mem_map.mp ht
    exact (plainTok_restamp p u (h2 u hu).1).notComment
  | arg ts q s toks pes _ _ h2 _ ih => exact .append (fun t ht => (h2 t ht).1.notComment) ih
  | act p toks pes _ ih => exact .cons nofun ih
  | cs t name toks pes hk _ _ _ ih => exact .cons (NoCom.of_kind hk) ih
  | lb t toks pes hk _ _ ih => exact .cons (NoCom.of_kind hk) ih
  | rb t toks pes hk _ _ ih => exact .cons (NoCom.of_kind hk) ih
  | sp t toks pes hk _ _ _ _ _ ih => exact .cons (NoCom.of_kind hk) ih
  | chr t c toks pes hk _ _ _ _ _ _ ih => exact .cons (NoCom.of_kind hk) ih

/-! ### `\def` with a body that contains brace groups -/

open PlainDefTex (paramToks defName) in
/-- the `\def` step of `expandSequence` (one iteration) for a body with balanced braces -/
theorem seqRun_ddefB (T : PTables) (p q2 q q7 q8 : Nat) (name : Str) (n : Nat)
    (body : List Tok) (rest : Buf) (envStop : Option Str) (out : List Tok) (st : PState)
    (hb : balToks 0 body = true) (hbne : body ≠ []) (hr : RefsOk n body) :
    SeqRun T envStop 0 1
      (cwTok p defName :: cwTok q2 name :: (paramToks q 1 n ++ lbr q7 :: (body ++ rbr q8 :: rest))) out st
      rest (out ++ [mkAction p]) (defSt st name n body) :=
  PlainDefTex.seqRun_ddef_braced T p q2 q q7 q8 name n body rest envStop out st
    (argBuffer_bal T.toTables q7 q8 body rest q7 st hb hbne) hr

/-! ### the simulation -/

/-- the state and the environment agree on the names that are not declared in `st1` -/
def RelN (T : PTables) (st1 st : PState) (env : EnvN) : Prop :=
  UserTable.Agree (lookupDefN env)
    (fun name nb m => ∃ b, m = userMacro ('\\' :: name) nb.1 b ∧ BodyTR T st1 b nb.2 ∧ RefsOk nb.1 b) st1 st

theorem shape_restamp {p : Nat} {t : Tok} (h : Shape t) : Shape (restamp p t) := h

theorem inst_ne (vals : List (List PE)) : ∀ (body : List NP) (cur : Nat), body ≠ [] → inst vals body cur ≠ []
  | [], _, h => absurd rfl h
  | .lit _ :: _, _, _ => by simp [inst]
  | .par _ :: _, _, _ => by simp [inst]
  | .cs _ :: _, _, _ => by simp [inst]
  | .lb :: _, _, _ => by simp [inst]
  | .rb :: _, _, _ => by simp [inst]

/-- what `sim` promises for tokens `toks` whose elements evaluate to `marks`: in front of any `rest` the
    loop turns them into tokens `O` with these marks, in at most two iterations per mark (one unit of
    fuel behind them: a macro call nests two deep, and its Action token is one iteration more), and
    leaves the state as it is -/
def SimOut (T : PTables) (st : PState) (toks : List Tok) (marks : List Mark) : Prop :=
  ∃ O, marksOf O = marks ∧ (∀ t ∈ O, PlainMacro.Simple t) ∧
    ∀ (rest : Buf) (envStop : Option Str) (out : List Tok),
      SeqRun T envStop 1 (2 * marks.length) (toks ++ rest) out st rest (out ++ O) st

/-- one token `t0` in front that the loop turns into the token `o` in one iteration -/
theorem SimOut.cons {T : PTables} {st : PState} {t0 o : Tok} {toks1 : List Tok} {ms m' : List Mark}
    (h : SimOut T st toks1 m')
    (hstep : ∀ (rest : Buf) (envStop : Option Str) (out : List Tok),
      SeqRun T envStop 0 1 (t0 :: rest) out st rest (out ++ [o]) st)
    (hm : PlainMacro.tokMarks o = ms) (hlen : 1 ≤ ms.length) (hs : PlainMacro.Simple o) :
    SimOut T st (t0 :: toks1) (ms ++ m') := by
  obtain ⟨O', i2, i3, i4⟩ := h
  refine ⟨o :: O', by rw [PlainMacro.marksOf_cons, hm, i2], ?_, fun rest envStop out => ?_⟩
  · intro u hu
    rcases List.mem_cons.mp hu with rfl | hu
    · exact hs
    · exact i3 u hu
  · exact ((hstep _ envStop out).app (i4 rest envStop _) (Nat.zero_le _)).mono (Nat.le_refl _)
      (by simp only [List.length_append]; omega)

/-- **the loop of the model simulates the reference machine.**  If the machine evaluates `pes` to
    `marks`, then on tokens that represent `pes` the loop emits tokens with these marks, in at most two
    iterations per mark, without changing the state. -/
theorem sim (T : PTables) (st1 st : PState) (env : EnvN) (hst : StOkN st1 st) (hrel : RelN T st1 st env)
    (ha : noEmptyActive T st1 = true) :
    ∀ (F : Nat) (pes : List PE) (marks : List Mark), evalPE env F pes = some marks →
      ∀ toks, TR T st1 toks pes → SimOut T st toks marks := by
  have ha' := noEmptyActive_of_StOkN hst ha
  have hact : ∀ x : Str, (activeChars T st).contains x = (activeChars T st1).contains x := by
    intro x; rw [hst.ext.activeChars]
  intro F
  induction F with
  | zero => intro pes marks h; simp [evalPE] at h
  | succ F ih =>
    intro pes marks hev toks htr
    cases htr with
    | nil =>
      simp only [evalPE, Option.some.injEq] at hev
      subst hev
      exact ⟨[], rfl, by simp, fun rest envStop out => by
        rw [List.append_nil]; exact SeqRun.refl.mono (Nat.zero_le _) (Nat.zero_le _)⟩
    | text ts s p toks1 pes1 h1 h2 h3 htr1 =>
      obtain ⟨m', hm', rfl⟩ := Option.map_eq_some_iff.mp (by simpa only [evalPE] using hev)
      obtain ⟨O', i2, i3, i4⟩ := ih pes1 m' hm' toks1 htr1
      have hp : ∀ u ∈ ts, PlainTok u := fun u hu => (h2 u hu).1
      have hlen : ts.length ≤ s.length := by
        have := PlainMacro.length_le_bodyTxt ts (fun u hu => (h2 u hu).2.1)
        rw [h3] at this; exact this
      refine ⟨ts.map (restamp p) ++ O', ?_, ?_, fun rest envStop out => ?_⟩
      · rw [PlainMacro.marksOf_append, PlainMacro.marksOf_restamp p ts hp, h3, i2]
      · intro t ht
        rcases List.mem_append.mp ht with ht | ht
        · obtain ⟨u, hu, rfl⟩ := List.mem_map.mp ht
          exact PlainMacro.simple_of_plain (plainTok_restamp p u (h2 u hu).1) (shape_restamp (h2 u hu).2.1)
        · exact i3 t ht
      · rw [List.append_assoc]
        exact ((seqRun_copied (.of_forall fun t ht _ => by
            obtain ⟨u, hu, rfl⟩ := List.mem_map.mp ht
            exact .of_plain (plainTok_restamp p u (h2 u hu).1) (Or.inl (by rw [hact]; exact (h2 u hu).2.2))) out).app
          (i4 rest envStop _) (Nat.zero_le _)).mono (Nat.le_refl _)
          (by simp only [List.length_append, List.length_map]; omega)
    | arg ts q s toks1 pes1 h1 hF h2 htr1 =>
      obtain ⟨m', hm', rfl⟩ := Option.map_eq_some_iff.mp (by simpa only [evalPE] using hev)
      obtain ⟨O', i2, i3, i4⟩ := ih pes1 m' hm' toks1 htr1
      have hp : ∀ u ∈ ts, PlainTok u := fun u hu => (h2 u hu).1
      have hlen : ts.length ≤ s.length := by
        have := PlainMacro.length_le_bodyTxt ts hF.shape
        rw [PlainMacroArgs.bodyTxt_of_chars _ _ _ hF.chars] at this; exact this
      refine ⟨ts ++ O', ?_, ?_, fun rest envStop out => ?_⟩
      · rw [PlainMacro.marksOf_append, PlainMacroArgs.marksOf_plain ts hp, hF.chars, i2]
      · intro t ht
        rcases List.mem_append.mp ht with ht | ht
        · exact PlainMacro.simple_of_plain (hp t ht) (hF.shape t ht)
        · exact i3 t ht
      · rw [List.append_assoc]
        exact ((seqRun_copied (.of_forall fun t ht _ =>
            .of_plain (hp t ht) (Or.inl (by rw [hact]; exact (h2 t ht).2))) out).app
          (i4 rest envStop _) (Nat.zero_le _)).mono (Nat.le_refl _)
          (by simp only [List.length_append, List.length_map, PlainMacroArgs.posText_length]; omega)
    | act p toks1 pes1 htr1 =>
      obtain ⟨m', hm', rfl⟩ := Option.map_eq_some_iff.mp (by simpa only [evalPE] using hev)
      exact SimOut.cons (ih pes1 m' hm' toks1 htr1)
        (fun _ _ _ => seqRun_action p ha')
        (PlainMacro.tokMarks_mkAction p) (Nat.le_refl 1) (PlainMacro.simple_mkAction p)
    | lb t toks1 pes1 hk ht htr1 =>
      obtain ⟨m', hm', rfl⟩ := Option.map_eq_some_iff.mp (by simpa only [evalPE] using hev)
      exact SimOut.cons (ih pes1 m' hm' toks1 htr1)
        (fun _ _ _ => .one fun _ => loop_brace (Or.inl hk) (Or.inl ht))
        (PlainMacro.tokMarks_mkAction t.pos) (Nat.le_refl 1) (PlainMacro.simple_mkAction _)
    | rb t toks1 pes1 hk ht htr1 =>
      obtain ⟨m', hm', rfl⟩ := Option.map_eq_some_iff.mp (by simpa only [evalPE] using hev)
      exact SimOut.cons (ih pes1 m' hm' toks1 htr1)
        (fun _ _ _ => .one fun _ => loop_brace (Or.inl hk) (Or.inr ht))
        (PlainMacro.tokMarks_mkAction t.pos) (Nat.le_refl 1) (PlainMacro.simple_mkAction _)
    | sp t toks1 pes1 hk hfix hp hsh hna htr1 =>
      obtain ⟨m', hm', rfl⟩ := Option.map_eq_some_iff.mp (by simpa only [evalPE] using hev)
      have hlen : 1 ≤ ((posText t.pos t.txt).map some).length := by
        have h1 := List.length_pos_iff.mpr hsh.1
        simp only [List.length_map, PlainMacroArgs.posText_length]; omega
      exact SimOut.cons (ih pes1 m' hm' toks1 htr1)
        (fun _ _ _ => seqRun_plainTok hp (Or.inl (by rw [hact]; exact hna)))
        (by rw [PlainMacro.tokMarks_nonaction _ hp.notAction, PlainMacro.tokChars_nofix t hfix]) hlen
        (PlainMacro.simple_of_plain hp hsh)
    | chr t c toks1 pes1 hk ht hfix hp hsh hna htr1 =>
      obtain ⟨m', hm', rfl⟩ := Option.map_eq_some_iff.mp (by simpa only [evalPE] using hev)
      exact SimOut.cons (ms := [some (c, t.pos)]) (ih pes1 m' hm' toks1 htr1)
        (fun _ _ _ => seqRun_plainTok hp (Or.inl (by rw [hact]; exact hna)))
        (by rw [PlainMacro.tokMarks_nonaction _ hp.notAction, PlainMacro.tokChars_nofix t hfix, ht]; rfl)
        (Nat.le_refl 1) (PlainMacro.simple_of_plain hp hsh)
    | cs t name toks1 pes1 hk ht hname htr1 =>
      simp only [evalPE] at hev
      cases hld : lookupDefN env name with
      | none => simp [hld] at hev
      | some nb =>
        obtain ⟨n, body⟩ := nb
        obtain ⟨_, hlk, b, rfl, hbody, hrefs⟩ := hrel.defined hname.undecl hld
        simp only [hld] at hev
        by_cases hcond : (body.isEmpty || !noSkip (dropSp pes1)) = true
        · simp [hcond] at hev
        · rw [if_neg hcond] at hev
          cases htk : takeGroups n (dropSp pes1) with
          | none => simp [htk] at hev
          | some vr =>
            obtain ⟨vals, r'⟩ := vr
            simp only [htk] at hev
            obtain ⟨m', hm', rfl⟩ := Option.map_eq_some_iff.mp hev
            simp only [Bool.or_eq_true, Bool.not_eq_true', not_or, Bool.not_eq_false] at hcond
            have hns : noSkip (dropSp pes1) = true := hcond.2
            have hvl := takeGroups_length n _ vals r' htk
            obtain ⟨toks0, htr0, hskip⟩ := skipAct_dropSp htr1 hns
            obtain ⟨As, toks', c1, c2, c3, c4⟩ := collect_takeGroups T st1 n toks0 _ vals r' htr0 htk
            have hAl : As.length = n := by rw [allTR_length c3, hvl]
            have hA : ∀ k, 1 ≤ k → k ≤ n → TR T st1 (argAt As k) (valAt vals k) ∧ valAt vals k ≠ [] := by
              intro k k1 k2
              have hlt : k - 1 < As.length := by omega
              obtain ⟨v, hv1, hv2⟩ := allTR_get c3 (k - 1) As[k - 1] (List.getElem?_eq_getElem hlt)
              have e1 : argAt As k = As[k - 1] := by
                simp only [argAt, List.getElem?_eq_getElem hlt, Option.getD_some]
              have e2 : valAt vals k = v := by simp only [valAt, hv1, Option.getD_some]
              rw [e1, e2]
              exact ⟨hv2, c4 v (List.mem_of_getElem? hv1)⟩
            have hne : ∀ a ∈ As, a ≠ [] := by
              intro a ha2
              obtain ⟨j, hj, rfl⟩ := List.mem_iff_getElem.mp ha2
              obtain ⟨v, hv1, hv2⟩ := allTR_get c3 j As[j] (List.getElem?_eq_getElem hj)
              exact fun e => c4 v (List.mem_of_getElem? hv1) ((TR_ne hv2).mp e)
            obtain ⟨g1, g2⟩ := genOut_inst hA hbody hrefs (genCur As b t.pos)
            have g2' : genCur As b t.pos = instCur vals body t.pos := (genOut_inst hA hbody hrefs t.pos).2
            rw [g2'] at g1
            obtain ⟨O', i2, i3, i4⟩ := ih _ m' hm' _ (TR_append g1 c2)
            refine ⟨mkAction t.pos :: O', ?_, ?_, fun rest envStop out => ?_⟩
            · rw [PlainMacro.marksOf_cons, PlainMacro.tokMarks_mkAction, i2]; rfl
            · intro u hu
              rcases List.mem_cons.mp hu with rfl | hu
              · exact PlainMacro.simple_mkAction _
              · exact i3 u hu
            · have hc : collectArgs T (userMacro ('\\' :: name) n b) (List.replicate n 'A') 0
                    (skipSpaceStopLangAct (toks1 ++ rest)) t.pos {} st
                  = .ok (({ args := As, extr := As, langs := [] }, toks' ++ rest), st) := by
                rw [hskip rest]; simpa using c1 (userMacro ('\\' :: name) n b) st rest 0 t.pos {}
              have hd : txtIs t "\\def" = false := by
                simpa [txtIs, ht, sDef] using hname.nDef
              -- the call (one iteration, two calls deep), then the Action token, then the expansion
              have s1 : SeqRun T envStop 2 1 (t :: (toks1 ++ rest)) out st
                  (mkAction t.pos :: (genOut As b (instCur vals body t.pos) ++ toks' ++ rest)) out st :=
                .intro fun g => by
                  rw [loop_macro_ok hk hd
                    (expandMacro_user T g (toks1 ++ rest) (toks' ++ rest) t st
                      (userMacro ('\\' :: name) n b) As As (by rw [ht]; exact hlk) rfl rfl hc hne
                      (by rw [hAl]; exact hrefs))]
                  simp only [userMacro, g2', List.cons_append, List.append_assoc]
              exact (s1.trans ((seqRun_action t.pos ha').app (i4 rest envStop _) (Nat.zero_le _))
                  (by omega)).mono (Nat.le_refl _)
                (by simp only [List.length_cons]; omega)

end PlainDefTexNest
end Yalafi
