/-
  Proofs/DelLines.lean — general facts about the reference `PlainMacro.delLines` of the blank-line
  removal (Proofs/LinesRef.lean), on any list of marks; the readings of a class's reference
  `delLines (marks …)` are instances.

    `delLines_kept`        if no line is blank and marked (`linesKept`, decidable), only the marks are
                           dropped; `delLines_chars`: text without marks is not touched
    `delLines_append_nl`   what follows a line break is treated on its own
    `delLines_sublist`     the output is a subsequence of the characters of the marks: nothing is
                           added, in particular no line break
    `delLines_words`       the characters that are no white space all survive, in order
    `delLines_mid`, `delLines_end`   the reference line by line: a line (marks without line break,
                           between line breaks) is deleted, with its line break, iff it is *pure*
                           (`pureLine`: white space only and at least one text-less mark); every other
                           line is copied without its marks
    `delLines_drop_line`   the case of a pure line: it disappears with its line break, nothing else
                           changes
-/
import YalafiVerif.Proofs.LinesRef
namespace Yalafi
namespace PlainMacro

/-- no line is blank and holds an Action mark (`blank`, `act`: the state of the current line) -/
def linesKept : Bool → Bool → List Mark → Bool
  | blank, act, [] => !(blank && act)
  | blank, _, none :: xs => linesKept blank true xs
  | blank, act, some cp :: xs =>
    if cp.1 == nl then !(blank && act) && linesKept true false xs
    else linesKept (blank && isSpace cp.1) act xs

theorem delGo_kept : ∀ (ms : List Mark) (cur : List (Char × Nat)) (b a : Bool),
    linesKept b a ms = true → delGo cur b a ms = cur ++ ms.filterMap id
  | [], cur, b, a, h => by
    have : (b && a) = false := by
      simp only [linesKept, Bool.not_eq_true'] at h; exact h
    simp [delGo, this]
  | none :: xs, cur, b, a, h => by
    simp only [linesKept] at h
    simp [delGo, delGo_kept xs cur b true h]
  | some cp :: xs, cur, b, a, h => by
    simp only [linesKept] at h
    by_cases hn : (cp.1 == nl) = true
    · simp only [hn, if_true, Bool.and_eq_true, Bool.not_eq_true'] at h
      simp [delGo, hn, h.1, delGo_kept xs [] true false h.2]
    · simp only [hn, Bool.false_eq_true, if_false] at h
      simp [delGo, hn, delGo_kept xs _ _ a h]

theorem delLines_kept (ms : List Mark) (h : linesKept true false ms = true) :
    delLines ms = ms.filterMap id := by
  have := delGo_kept ms [] true false h
  simpa [delLines] using this

theorem linesKept_text : ∀ (l : List (Char × Nat)) (b a : Bool), (b && a) = false →
    linesKept b a (l.map some) = true
  | [], b, a, h => by simp [linesKept, h]
  | cp :: l, b, a, h => by
    simp only [List.map_cons, linesKept]
    split
    · simp [h, linesKept_text l true false rfl]
    · exact linesKept_text l _ a (by rw [Bool.and_right_comm, h]; rfl)

theorem delLines_chars (cs : List (Char × Nat)) : delLines (cs.map some) = cs := by
  rw [delLines_kept _ (linesKept_text cs true false rfl), filterMap_map_some]

theorem delGo_append_nl (nlp : Char × Nat) (hn : (nlp.1 == nl) = true) (B : List Mark) :
    ∀ (A : List Mark) (cur : List (Char × Nat)) (b a : Bool),
      delGo cur b a (A ++ some nlp :: B) = delGo cur b a (A ++ [some nlp]) ++ delLines B
  | [], cur, b, a => by
    simp [delGo, hn, delLines]
  | none :: A, cur, b, a => by
    simp only [List.cons_append, delGo]
    exact delGo_append_nl nlp hn B A cur b true
  | some cp :: A, cur, b, a => by
    simp only [List.cons_append, delGo]
    split
    · rw [delGo_append_nl nlp hn B A [] true false]; simp
    · exact delGo_append_nl nlp hn B A _ _ a

theorem delLines_append_nl (A B : List Mark) (nlp : Char × Nat) (hn : (nlp.1 == nl) = true) :
    delLines (A ++ some nlp :: B) = delLines (A ++ [some nlp]) ++ delLines B :=
  delGo_append_nl nlp hn B A [] true false

end PlainMacro

namespace PlainMix
open PlainMacro

theorem delGo_sublist : ∀ (ms : List Mark) (cur : List (Char × Nat)) (b a : Bool),
    List.Sublist (delGo cur b a ms) (cur ++ ms.filterMap id)
  | [], cur, b, a => by
    simp only [delGo, List.filterMap_nil, List.append_nil]
    split
    · exact List.nil_sublist _
    · exact List.Sublist.refl _
  | none :: xs, cur, b, a => by
    simp only [delGo, List.filterMap_cons, id]
    exact delGo_sublist xs cur b true
  | some cp :: xs, cur, b, a => by
    simp only [delGo, List.filterMap_cons, id]
    split
    · have h1 : List.Sublist (if (b && a) = true then [] else cur ++ [cp]) (cur ++ [cp]) := by
        split
        · exact List.nil_sublist _
        · exact List.Sublist.refl _
      have h2 := delGo_sublist xs [] true false
      have := List.Sublist.append h1 h2
      simpa using this
    · have := delGo_sublist xs (cur ++ [cp]) (b && isSpace cp.1) a
      simpa using this

theorem delLines_sublist (ms : List Mark) : List.Sublist (delLines ms) (ms.filterMap id) := by
  have := delGo_sublist ms [] true false
  simpa [delLines] using this

def vis (cp : Char × Nat) : Bool := !isSpace cp.1

theorem filter_vis_blank {cur : List (Char × Nat)} (h : Blank cur) : cur.filter vis = [] := by
  rw [List.filter_eq_nil_iff]
  intro x hx
  simp [vis, h x hx]

/-- a deleted line is blank (`hb`), so nothing visible goes with it -/
theorem delGo_words : ∀ (ms : List Mark) (cur : List (Char × Nat)) (b a : Bool),
    (b = true → Blank cur) →
    (delGo cur b a ms).filter vis = cur.filter vis ++ (ms.filterMap id).filter vis
  | [], cur, b, a, hb => by
    simp only [delGo, List.filterMap_nil, List.filter_nil, List.append_nil]
    split
    · rename_i h
      rw [Bool.and_eq_true] at h
      simp [filter_vis_blank (hb h.1)]
    · rfl
  | none :: xs, cur, b, a, hb => by
    simp only [delGo, List.filterMap_cons, id]
    exact delGo_words xs cur b true hb
  | some cp :: xs, cur, b, a, hb => by
    simp only [delGo, List.filterMap_cons, id]
    split
    · rename_i hn
      have hcp : vis cp = false := by
        have : cp.1 = nl := by simpa using hn
        simp [vis, this, show isSpace nl = true by decide]
      rw [List.filter_append, delGo_words xs [] true false (fun _ => by intro x hx; simp at hx)]
      have hcur : (if (b && a) = true then [] else cur ++ [cp]).filter vis = cur.filter vis := by
        split
        · rename_i h
          rw [Bool.and_eq_true] at h
          simp [filter_vis_blank (hb h.1)]
        · simp [List.filter_append, hcp]
      rw [hcur]
      simp [hcp]
    · rw [delGo_words xs (cur ++ [cp]) (b && isSpace cp.1) a (by
        intro h x hx
        simp only [Bool.and_eq_true] at h
        rcases List.mem_append.mp hx with hx | hx
        · exact hb h.1 x hx
        · simp only [List.mem_singleton] at hx
          rw [hx]; exact h.2)]
      by_cases hv : vis cp = true <;> simp [List.filter_append, hv]

theorem delLines_words (ms : List Mark) :
    (delLines ms).filter vis = (ms.filterMap id).filter vis := by
  have := delGo_words ms [] true false (fun _ => by intro x hx; simp at hx)
  simpa [delLines] using this

def isNlMark : Mark → Bool
  | none => false
  | some cp => cp.1 == nl

def blankMark : Mark → Bool
  | none => true
  | some cp => isSpace cp.1

def pureLine (L : List Mark) : Bool := L.all blankMark && L.any Option.isNone

theorem delGo_line : ∀ (L : List Mark) (cur : List (Char × Nat)) (b a : Bool) (X : List Mark),
    L.any isNlMark = false →
    delGo cur b a (L ++ X)
      = delGo (cur ++ L.filterMap id) (b && L.all blankMark) (a || L.any Option.isNone) X
  | [], cur, b, a, X, _ => by simp
  | none :: L, cur, b, a, X, h => by
    simp only [List.any_cons, isNlMark, Bool.false_or] at h
    simp only [List.cons_append, delGo]
    rw [delGo_line L cur b true X h]
    simp [blankMark]
  | some cp :: L, cur, b, a, X, h => by
    simp only [List.any_cons, isNlMark, Bool.or_eq_false_iff] at h
    simp only [List.cons_append, delGo, h.1, Bool.false_eq_true, if_false]
    rw [delGo_line L _ _ a X h.2]
    simp [blankMark, Bool.and_assoc]

theorem delLines_line (L B : List Mark) (nlp : Char × Nat) (hL : L.any isNlMark = false)
    (hn : (nlp.1 == nl) = true) :
    delLines (L ++ some nlp :: B)
      = (if pureLine L then [] else L.filterMap id ++ [nlp]) ++ delLines B := by
  unfold delLines
  rw [delGo_line L [] true false _ hL]
  cases h1 : L.all blankMark <;> cases h2 : L.any Option.isNone <;>
    simp [delGo, hn, pureLine, h1, h2]

theorem delLines_last (L : List Mark) (hL : L.any isNlMark = false) :
    delLines L = if pureLine L then [] else L.filterMap id := by
  unfold delLines
  have := delGo_line L [] true false [] hL
  rw [List.append_nil] at this
  rw [this]
  cases h1 : L.all blankMark <;> cases h2 : L.any Option.isNone <;>
    simp [delGo, pureLine, h1, h2]

theorem delLines_after (A X : List Mark)
    (hA : A = [] ∨ ∃ A' q, A = A' ++ [some q] ∧ (q.1 == nl) = true) :
    delLines (A ++ X) = delLines A ++ delLines X := by
  rcases hA with rfl | ⟨A', q, rfl, hq⟩
  · simp [delLines, delGo]
  · rw [List.append_assoc, List.singleton_append, delLines_append_nl A' X q hq]

theorem delLines_mid (A L B : List Mark) (nlp : Char × Nat)
    (hA : A = [] ∨ ∃ A' q, A = A' ++ [some q] ∧ (q.1 == nl) = true)
    (hL : L.any isNlMark = false) (hn : (nlp.1 == nl) = true) :
    delLines (A ++ (L ++ some nlp :: B))
      = delLines A ++ ((if pureLine L then [] else L.filterMap id ++ [nlp]) ++ delLines B) := by
  rw [delLines_after A _ hA, delLines_line L B nlp hL hn]

theorem delLines_end (A L : List Mark)
    (hA : A = [] ∨ ∃ A' q, A = A' ++ [some q] ∧ (q.1 == nl) = true)
    (hL : L.any isNlMark = false) :
    delLines (A ++ L) = delLines A ++ (if pureLine L then [] else L.filterMap id) := by
  rw [delLines_after A _ hA, delLines_last L hL]

end PlainMix

namespace PlainMacro
open PlainMix

def BlankRun (ms : List Mark) : Prop :=
  ∀ m ∈ ms, m = none ∨ ∃ cp, m = some cp ∧ isSpace cp.1 = true ∧ (cp.1 == nl) = false

theorem blankRun_line {L : List Mark} (hL : BlankRun L) :
    L.any isNlMark = false ∧ L.all blankMark = true := by
  constructor
  · rw [List.any_eq_false]
    intro m hm
    rcases hL m hm with rfl | ⟨cp, rfl, _, h2⟩
    · simp [isNlMark]
    · simp [isNlMark, h2]
  · rw [List.all_eq_true]
    intro m hm
    rcases hL m hm with rfl | ⟨cp, rfl, h1, _⟩
    · rfl
    · exact h1

theorem delLines_drop_line (A L B : List Mark) (nlp : Char × Nat)
    (hA : A = [] ∨ ∃ A' q, A = A' ++ [some q] ∧ (q.1 == nl) = true)
    (hL : BlankRun L) (ha : L.any Option.isNone = true) (hn : (nlp.1 == nl) = true) :
    delLines (A ++ (L ++ some nlp :: B)) = delLines (A ++ B) := by
  rw [delLines_mid A L B nlp hA (blankRun_line hL).1 hn, delLines_after A B hA, pureLine,
    (blankRun_line hL).2, ha]
  rfl

end PlainMacro
end Yalafi
