/-
  Proofs/PlainParEnvRead.lean — the PARAGRAPH-LEVEL reading of the end-to-end theorem
  `PlainParEnv.tex2txt_parenv` (inert text, `\par`, paragraph-forming environments
  `\begin{name}{arg}` … `\end{name}`), with the mark-level facts of Proofs/PlainPara.lean.

  The document is written as `docAB A u a Mid b v B = A ++ .txt (u ++ [a]) :: (Mid ++ .txt (b :: v) :: B)`
  with two visible text characters `a`, `b`.

    `ref_docAB`      the reference output cut at `a` and `b`:
                     `pre … ++ (a, posA) :: (between … ++ (b, posB) :: post …)`
    `layout`         the layout of the source between `a` and `b` as the filter reads it: text by
                     the class of its characters, `\par ws` = ink and two line breaks (`ws` is
                     swallowed), `\begin{name}{arg}` = two line breaks and ink, `\end{name}` = two
                     line breaks
    `between_blank`  the output between `a` and `b` holds a blank line IFF `layout Mid` does
    `hasBreak`, `between_break`   … in particular whenever a `\par`, a `\begin{…}{…}` or an `\end{…}`
                     stands between `a` and `b`
    `between_text`   … and, if only text stands between them, iff that text holds a blank line
    `starts`, `textChars`, `marks_origin`, `out_origin`, `starts_backslash`
                     every output character is a text character at its own position or a line
                     break that carries the position of the backslash of a `\par`, `\begin` or `\end`
-/
import YalafiVerif.Proofs.PlainParEnv
namespace Yalafi
namespace PlainParEnv

open PlainMacro
open PlainPara
open PlainRef (fixMarks)
open PlainItem (nBegin nEnd)

/-! ### `marks` of a concatenation -/

theorem render_append : ∀ (X Y : List Seg), render (X ++ Y) = render X ++ render Y
  | [], _ => rfl
  | s :: X, Y => by simp [render, render_append X Y]

theorem seg_len (s : Seg) : s.render.length = s.len := by
  cases s <;> simp [Seg.render, Seg.len, parName, nBegin, nEnd] <;> omega

theorem render_cons_len (s : Seg) (X : List Seg) :
    (render (s :: X)).length = s.len + (render X).length := by
  simp only [render, List.length_append, seg_len]

theorem fold_marks : SegFold (fun p (s : Seg) => p + s.len) marks :=
  ⟨fun _ => rfl, fun p s rest => by cases s <;> simp [marks, Seg.len]⟩

theorem foldl_len : ∀ (X : List Seg) (p : Nat),
    X.foldl (fun p (s : Seg) => p + s.len) p = p + (render X).length
  | [], _ => rfl
  | s :: X, p => by rw [List.foldl_cons, foldl_len X, render_cons_len, Nat.add_assoc]

theorem marks_append (Y X : List Seg) (p : Nat) :
    marks p (X ++ Y) = marks p X ++ marks (p + (render X).length) Y := by
  rw [fold_marks.append, foldl_len]

/-! ### the document cut at two visible characters -/

def docAB (A : List Seg) (u : Str) (a : Char) (Mid : List Seg) (b : Char) (v : Str) (B : List Seg) :
    List Seg :=
  A ++ .txt (u ++ [a]) :: (Mid ++ .txt (b :: v) :: B)

/-- the (0-based) source position of `a` -/
def posA (A : List Seg) (u : Str) : Nat := (render A).length + u.length

/-- the (0-based) source position of `b` -/
def posB (A : List Seg) (u : Str) (Mid : List Seg) : Nat := posA A u + 1 + (render Mid).length

def midMarks (A : List Seg) (u : Str) (Mid : List Seg) : List Mark := marks (posA A u + 1) Mid

/-- **the output characters strictly between `a` and `b`**, with 0-based positions -/
def between (A : List Seg) (u : Str) (Mid : List Seg) : List (Char × Nat) := sep (midMarks A u Mid)

def frontMarks (A : List Seg) (u : Str) : List Mark :=
  marks 0 A ++ (posText (render A).length u).map some

def backMarks (A : List Seg) (u : Str) (Mid : List Seg) (v : Str) (B : List Seg) : List Mark :=
  (posText (posB A u Mid + 1) v).map some ++ marks (posB A u Mid + 1 + v.length) B

theorem marks_docAB (A : List Seg) (u : Str) (a : Char) (Mid : List Seg) (b : Char) (v : Str)
    (B : List Seg) :
    marks 0 (docAB A u a Mid b v B)
      = frontMarks A u ++ some (a, posA A u)
          :: (midMarks A u Mid ++ some (b, posB A u Mid) :: backMarks A u Mid v B) := by
  unfold docAB frontMarks midMarks backMarks posB posA
  rw [marks_append]
  simp only [Nat.zero_add, marks]
  rw [marks_append]
  simp only [marks, posText_append, List.map_append, posText, List.map_cons, List.map_nil,
    List.append_assoc, List.cons_append, List.length_append,
    List.length_cons, List.length_nil, List.nil_append]
  have e1 : (render A).length + (u.length + (0 + 1)) = (render A).length + u.length + 1 := by omega
  have e2 : (render A).length + u.length + 1 + (render Mid).length + (v.length + 1)
      = (render A).length + u.length + 1 + (render Mid).length + 1 + v.length := by omega
  rw [e1, e2]

theorem ref_docAB (A : List Seg) (u : Str) (a : Char) (Mid : List Seg) (b : Char) (v : Str)
    (B : List Seg) (ha : isSpace a = false) (hb : isSpace b = false) :
    delLines (marks 0 (docAB A u a Mid b v B))
      = pre (frontMarks A u) ++ (a, posA A u)
          :: (between A u Mid ++ (b, posB A u Mid) :: post (backMarks A u Mid v B)) := by
  rw [marks_docAB]
  exact delLines_between (frontMarks A u) (midMarks A u Mid) (backMarks A u Mid v B)
    (a, posA A u) (b, posB A u Mid) ha hb

/-! ### blank lines -/

def layout : List Seg → List Cls
  | [] => []
  | .txt s :: rest => s.map clsC ++ layout rest
  | .par _ :: rest => .ink :: .nl :: .nl :: layout rest
  | .beg _ _ :: rest => .nl :: .nl :: .ink :: layout rest
  | .en _ :: rest => .nl :: .nl :: layout rest

theorem clsC_nl' : clsC nl = .nl := by decide

theorem marks_layout : ∀ (Mid : List Seg) (p : Nat), (marks p Mid).map clsM = layout Mid
  | [], _ => rfl
  | .txt s :: rest, p => by
    simp only [marks, layout, List.map_append, clsM_posText, marks_layout rest]
  | .par ws :: rest, p => by
    simp [marks, layout, fixMarks, clsM, clsC_nl', marks_layout rest]
  | .beg name arg :: rest, p => by
    simp [marks, layout, fixMarks, clsM, clsC_nl', marks_layout rest]
  | .en name :: rest, p => by
    simp [marks, layout, fixMarks, clsM, clsC_nl', marks_layout rest]

theorem between_blank (A : List Seg) (u : Str) (Mid : List Seg) :
    hasBlank ((between A u Mid).map clsP) = hasBlank (layout Mid) := by
  unfold between midMarks
  rw [sep_blank, marks_layout]

def hasBreak : List Seg → Bool
  | [] => false
  | .txt _ :: rest => hasBreak rest
  | _ :: _ => true

theorem layout_break : ∀ (Mid : List Seg) (s : Bool), hasBreak Mid = true →
    blankGo s (layout Mid) = true
  | [], _, h => by simp [hasBreak] at h
  | .txt t :: rest, s, h => by
    simp only [hasBreak] at h
    simp only [layout]
    exact blankGo_append_right _ _ s (layout_break rest false h)
  | .par _ :: rest, s, _ => by simp [layout, blankGo]
  | .beg _ _ :: rest, s, _ => by simp [layout, blankGo]
  | .en _ :: rest, s, _ => by simp [layout, blankGo]

/-- **words separated by `\par` or by the boundary of a paragraph-forming environment are
    separated by a blank line in the output** -/
theorem between_break (A : List Seg) (u : Str) (Mid : List Seg) (h : hasBreak Mid = true) :
    hasBlank ((between A u Mid).map clsP) = true := by
  rw [between_blank]
  exact layout_break Mid false h

def textOf : List Seg → Str
  | [] => []
  | .txt s :: rest => s ++ textOf rest
  | _ :: rest => textOf rest

theorem layout_text : ∀ (Mid : List Seg), hasBreak Mid = false → layout Mid = (textOf Mid).map clsC
  | [], _ => rfl
  | .txt s :: rest, h => by
    simp only [hasBreak] at h
    simp only [layout, textOf, List.map_append, layout_text rest h]
  | .par _ :: _, h => by simp [hasBreak] at h
  | .beg _ _ :: _, h => by simp [hasBreak] at h
  | .en _ :: _, h => by simp [hasBreak] at h

theorem between_text (A : List Seg) (u : Str) (Mid : List Seg) (h : hasBreak Mid = false) :
    hasBlank ((between A u Mid).map clsP) = hasBlankLine (textOf Mid) := by
  rw [between_blank, layout_text Mid h]
  rfl

/-! ### where the output characters come from -/

/-- the positions of the backslashes of the `\par`, `\begin`, `\end` of a document that starts at `p` -/
def starts : Nat → List Seg → List Nat
  | _, [] => []
  | p, .txt s :: rest => starts (p + s.length) rest
  | p, .par ws :: rest => p :: starts (p + (ws.length + 4)) rest
  | p, .beg name arg :: rest => p :: starts (p + (name.length + arg.length + 10)) rest
  | p, .en name :: rest => p :: starts (p + (name.length + 6)) rest

def textChars : Nat → List Seg → List (Char × Nat)
  | _, [] => []
  | p, .txt s :: rest => posText p s ++ textChars (p + s.length) rest
  | p, .par ws :: rest => textChars (p + (ws.length + 4)) rest
  | p, .beg name arg :: rest => textChars (p + (name.length + arg.length + 10)) rest
  | p, .en name :: rest => textChars (p + (name.length + 6)) rest

theorem fold_text : SegFold (fun p (s : Seg) => p + s.len) textChars :=
  ⟨fun _ => rfl, fun p s rest => by cases s <;> simp [textChars, Seg.len]⟩

theorem fold_starts : SegFold (fun p (s : Seg) => p + s.len) starts :=
  ⟨fun _ => rfl, fun p s rest => by cases s <;> simp [starts, Seg.len]⟩

theorem marks_origin (segs : List Seg) (p : Nat) (cp : Char × Nat) (h : some cp ∈ marks p segs) :
    cp ∈ textChars p segs ∨ (cp.1 = nl ∧ cp.2 ∈ starts p segs) := by
  obtain ⟨A, s, B, rfl, hs⟩ := fold_marks.mem h
  refine Or.imp (fold_text.mem_of A s B p) (And.imp_right (fold_starts.mem_of A s B p)) ?_
  generalize A.foldl _ p = q at hs ⊢
  cases s <;> simp [marks, fixMarks, textChars, starts] at hs ⊢
  · exact hs
  all_goals subst hs; exact ⟨rfl, rfl⟩

/-- **every output character** is a text character of the document at its own position, or a
    line break at the position of the backslash of a `\par`, a `\begin` or an `\end` -/
theorem out_origin (segs : List Seg) (cp : Char × Nat) (h : cp ∈ delLines (marks 0 segs)) :
    cp ∈ textChars 0 segs ∨ (cp.1 = nl ∧ cp.2 ∈ starts 0 segs) := by
  have hs := (PlainMix.delLines_sublist (marks 0 segs)).subset h
  simp only [List.mem_filterMap, id] at hs
  obtain ⟨m, hm, rfl⟩ := hs
  exact marks_origin segs 0 cp hm

theorem starts_cons {s : Seg} {rest : List Seg} {p q : Nat} (h : q ∈ starts p (s :: rest)) :
    (q = p ∧ s.render.head? = some '\\') ∨ q ∈ starts (p + s.len) rest := by
  cases s with
  | txt t => exact Or.inr h
  | par ws => exact (List.mem_cons.mp h).imp (fun e => ⟨e, rfl⟩) id
  | beg name arg => exact (List.mem_cons.mp h).imp (fun e => ⟨e, rfl⟩) id
  | en name => exact (List.mem_cons.mp h).imp (fun e => ⟨e, rfl⟩) id

theorem starts_backslash : ∀ (segs : List Seg) (p q : Nat), q ∈ starts p segs →
    p ≤ q ∧ (render segs)[q - p]? = some '\\'
  | [], _, _, h => nomatch h
  | s :: rest, p, q, h => by
    rw [render]
    rcases starts_cons h with ⟨rfl, hb⟩ | h
    · refine ⟨Nat.le_refl _, ?_⟩
      rw [Nat.sub_self, ← List.head?_eq_getElem?, List.head?_append, hb]
      rfl
    · obtain ⟨h1, h2⟩ := starts_backslash rest _ q h
      refine ⟨by omega, ?_⟩
      rw [List.getElem?_append_right (by rw [seg_len]; omega), seg_len, ← h2]
      congr 1
      omega

end PlainParEnv
end Yalafi
