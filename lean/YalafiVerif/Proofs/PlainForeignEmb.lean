/-
  Proofs/PlainForeignEmb.lean — documents of text and `\foreignlanguage` insertions are documents of
  the mixed grammar (Proofs/PlainLangMixSrc.lean): source, marks and side conditions carry over, so
  `tex2txt` on them is `PlainLangMix.tex2txt_mix_toks` at the embedded document, followed by this class's
  reading of `get_txt_pos_ml` (`getTxtPosML_doc`).
-/
import YalafiVerif.Proofs.PlainLangMixE2E
namespace Yalafi
namespace PlainForeign

open LinesLang (itemsOf delLines)

def emb : Seg → PlainLangMix.Seg
  | .txt s => .txt s
  | .frn n b => .frn n b

theorem render_emb : ∀ segs : List Seg, PlainLangMix.render (segs.map emb) = render segs
  | [] => rfl
  | .txt _ :: rest => by simp only [List.map, emb, PlainLangMix.render, render, render_emb rest]; rfl
  | .frn _ _ :: rest => by simp only [List.map, emb, PlainLangMix.render, render, render_emb rest]; rfl

theorem segMarks_emb (T : PTables) : ∀ (segs : List Seg) (p : Nat),
    PlainLangMix.segMarks T p (segs.map emb) = segMarks T p segs
  | [], _ => rfl
  | .txt _ :: rest, p => by simp only [List.map, emb, PlainLangMix.segMarks, segMarks, segMarks_emb T rest]
  | .frn _ _ :: rest, p => by simp only [List.map, emb, PlainLangMix.segMarks, segMarks, segMarks_emb T rest]

/-- the mixed grammar asks less of an insertion (any language, any first character) -/
theorem segsOk_emb (T : PTables) (st : PState) (main : Str) : ∀ segs : List Seg,
    segsOk T st main segs = true → PlainLangMix.segsOk T st (segs.map emb) = true
  | [], _ => rfl
  | .txt s :: rest, h => by
    simp only [segsOk, Bool.and_eq_true] at h
    simp only [List.map, emb, PlainLangMix.segsOk, render_emb, Bool.and_eq_true]
    exact ⟨h.1, segsOk_emb T st main rest h.2⟩
  | .frn n b :: rest, h => by
    simp only [segsOk, frnOk, Bool.and_eq_true, and_assoc] at h
    simp only [List.map, emb, PlainLangMix.segsOk, PlainLangMix.frnOk, render_emb, Bool.and_eq_true, and_assoc]
    obtain ⟨h1, h2, h3, h4, h5, h6, h7, h8, h9, h10, _, h12, hv, h14, _, hr⟩ := h
    exact ⟨h1, h2, h3, h4, h5, h6, h7, h8, h9, h10, h12, by simpa using visFirst_ne hv, h14,
      segsOk_emb T st main rest hr⟩

/-- **C12 for `\foreignlanguage`, end to end.**  The document is a sequence of inert text segments
    and insertions `\foreignlanguage{name}{text}` (`segsOk`); package babel is loaded, `st1` is the
    parser state after `Parser.__init__` in multi-language mode; no `--defs`, `--extr`, `--repl`;
    `foreignlang_break` is not set.  With one unit of fuel per source character plus two, `tex2txt`
    succeeds; the parts are `refParts`, nothing is reported as unknown and no diagnostic is
    added. -/
theorem tex2txt_foreignlanguage (T : PTables) (o : Options) (fs : FS) (thresh : Nat) (segs : List Seg)
    (fuel : Nat) (st1 : PState)
    (hdefs : o.defs = []) (hextr : o.extr = []) (hrepl : o.hasRepl = false)
    (hfb : T.foreignBrk = false)
    (hinit : initParser T fuel o (initialState T o true fs) = .ok ((), st1))
    (hml : st1.multiLanguage = true) (hstk : st1.langStack ≠ [])
    (hlc : mainRepl (lcOf st1) o.lang ≠ [])
    (hok : segsOk T st1 o.lang segs = true)
    (hf : (render segs).length + 2 ≤ fuel) :
    ∃ r, tex2txt T fuel (render segs) o true thresh fs = .ok r ∧
      r.parts = refParts T o.lang thresh (mainRepl (lcOf st1) o.lang) segs ∧ r.unknowns = [] ∧
      r.diags = st1.diags ∧ r.foreign = false := by
  obtain ⟨r, ls, hitems, ht⟩ := PlainLangMix.tex2txt_mix_toks ⟨hdefs, hextr, hinit⟩ thresh (segs.map emb)
    (by rw [render_emb]; exact hf) hml (Or.inl hstk) (segsOk_emb T st1 o.lang segs hok)
  rw [render_emb] at ht
  rw [segMarks_emb, delLines_doc T segs (segsOk_vis T st1 o.lang segs hok)] at hitems
  obtain ⟨hsep, hfr, hbo⟩ := segsOk_sep T st1 o.lang segs hok
  obtain ⟨lc', hml'⟩ := getTxtPosML_doc T o.lang thresh (lcOf st1) segs r hfb hitems hsep hfr hbo hlc
  exact ⟨_, ht.trans (finishT2T_multi hrepl hml'), rfl, rfl, rfl, rfl⟩

end PlainForeign
end Yalafi
