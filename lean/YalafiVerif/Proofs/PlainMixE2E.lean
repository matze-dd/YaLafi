/-
  Proofs/PlainMixE2E.lean — C03 "hidden material never leaks" / C05 "text flow is preserved", end to
  end on the model, for a UNION grammar: documents whose segments are drawn from SEVEN kinds at once
  (files: Proofs/PlainMix.lean = token level, Proofs/PlainMixSrc.lean = documents and scanner,
  this file = the way to `tex2txt` and the end-to-end theorem, Proofs/PlainMixRead.lean = readings;
  statements: Properties/PlainMixStmt.lean).

  Kinds that are in (`PlainMix.Seg`)
    `txt s`        inert text
    `spc k`        a special sequence of the table (`--`, `---`, `` `` ``, `''`, `~`, `&`, `\%`, `\&`, `\$`,
                   `\#`, `\_`, `\{`, `\}`, `\,`, `\ `, `\!` …): every key that reaches the `.special`
                   branch of `expand_sequence`, with any value (also blank or empty)
    `cw name sp`   an undeclared control word `\name` + the white space `sp` the model skips behind it
    `van name key` a call `\name{key}` of a vanishing macro (`\label`, `\index`, `\pagestyle`, …)
    `com body`     a comment `%body` — `body` is everything the scanner takes: the text up to the line
                   break and, unless a blank line follows, the line break and the indentation of the
                   next line (so `%text⏎  ` with the next line starting behind the blanks, `%text` in
                   front of a blank line, `%text` at the end of the source are all instances)
    `verb d s`     `\verb d s d`
    `math body`    a simple inline formula `$body$` (as in Proofs/PlainMath.lean)

  Structure
    `PlainMix.seqRun_mix`     ONE loop lemma by induction over the pieces of the token buffer; it
                              dispatches to the runs of the single-construct files
    `PlainMix.scanAll_mix`    ONE scanner lemma (`scanAll_okSrc`: a run of the scanner per kind of
                              segment); it yields the common invariant
                              `ScanFacts`: "the token buffer is `flat ps`, `PiecesOk ps`, its output
                              tokens spell the marks of the source and are `Simple`"
    `tex2txt_mix_src`, `tex2txt_mix`   the way to `tex2txt` (`PlainSetup.of_run` of
                              Proofs/LinesRef.lean: the blank-line removal on simple output tokens
                              is `delLines`)

  The end-to-end statement `tex2txt_mix`.  `tex2txt` succeeds; text and (1-based) positions are
  `delLines (marks T repls 0 0 segs)` (`marks`: Proofs/PlainMixSrc.lean):
    * a text character is copied with its own position;
    * a special sequence leaves a text-less mark (the model emits an Action token for EVERY special
      token) and its table value at the positions `p, p+1, …` from the first character of the
      sequence on;
    * an undeclared control word (with the white space skipped behind it), a vanishing call: one
      text-less mark each; a comment: nothing at all (NO Action token — its line break is simply gone);
    * `\verb d s d`: a mark and the content `s`, every character at its own position;
    * the `k`-th formula: a mark, the placeholder `PlainMath.placeholder repls k` (entry `k mod
      length` of the inline collection of the language) and the closing punctuation of the body, all
      pinned to the first character of the body that is no white space, and another mark;
    * then (`delLines` = `remove_pure_action_lines`, exactly) every line is deleted, with its line
      break, that consists of white space only and holds at least one text-less mark; every other
      character survives; no line break is ever added;
    * `unknowns` = the control words, each once, in order of first use; no diagnostic is added.

  Side conditions (all in `SegsOk T st1 repls segs`, decidable; `st1` = state after `Parser.__init__`)
    `noEmptyActive T st1`   the empty string is no active character (else text-less tokens would go
                            to `expand_short_macro`)
    `txt`   `textOkU`: every character is white space or an ordinary character (none of `% # \ $ { }`)
            at which no special sequence matches — in its FULL right context (the whole rest of the
            source) —, and it is no active character of the language, or forms no short macro with the
            token behind it, whatever kind that is (`firstTokTxtU`: white space, comment, special
            sequence, control word, content of a `\verb`, `$`, character)
    `spc`   `spcOk`: the scanner matches exactly `k` here; `plainSpecialKey` (reaches the `.special`
            branch: does not start with white space / `%` / `#`, none of `$ \( $$ \[ \\ { }`, has a
            value); the value has no line break or is blank
    `cw`    `cwOkU`: `cwOk` of PlainUnknown (one macro token, undeclared, none of `\begin \end \item
            \verb \def`, no accent); `sp` white space with at most one line break; what follows
            does not start with white space — except `\name⏎⏎…` (`sp` empty, a paragraph token
            follows, which is NOT skipped); comments may follow directly (`skip_space` drops them
            as well; `commentLen_rest`: a comment never leaves droppable white space behind it)
    `van`   `PlainVanish.vanOk` (declared with `A`, no handler, ≤ 2 void tokens; key without
            `% # \ { }`, special sequences in it are not empty and swallow no `}`)
    `com`   `comOk`: `scan_comment` takes exactly `%body`; `comTokOk` of PlainComment (not the marker
            `%%% LT-SKIP-BEGIN`, no active character)
    `verb`  `verbOkU` = `verbOk` of PlainVerb (delimiter no letter / `@` / line break, content
            without delimiter and line break, no special sequence at the backslash)
    `math`  `PlainMath.mathOk` (body characters: no white space run with two line breaks, none of
            `% # \ $ { }`, not in `math_ignore` / `math_space`, no special sequence; not only white
            space; both `$` scanned as `$` — two formulas must not touch); and, ONLY IF the
            document has a formula, `mathReady`: the inline collection of the current language is
            `repls`, not empty, the language settings exist, no placeholder has a line break
            (unless blank)
    options                 no --defs, --extr, --repl, --unkn; single-language mode
    fuel                    `(render segs).length + 2 ≤ fuel`

  NOT covered: everything outside the seven kinds (braces / groups, environments, `\item`, macros
  with other signatures, `\def`, displayed maths, accents, `\\`, `#`); white space or a line break
  between the name of a vanishing macro and `{`;
  unterminated `\verb`; formulas with macros, groups or `\( \)`; multi-language mode.

  Model behaviour worth knowing (implied by the theorem): EVERY special token
  leaves an Action token, so a line that consists only of white space and special sequences with
  blank value (`~` — U+00A0 counts as white space —, `&`, `\ `, `\,` …), e.g. a line `~` or
  `\index{k}~`, is deleted with its line break; `\verb` with blank content likewise.
-/
import YalafiVerif.Proofs.PlainMixSrc
namespace Yalafi
namespace PlainMix

open M
open PlainMacro


/-- `tex2txt` on a well-formed source (no `--defs`, `--extr`, `--repl`, `--unkn`; single-language mode):
    the scanner lemma, the loop lemma from the start state, `PlainSetup.of_run` -/
theorem tex2txt_mix_src {T : PTables} {o : Options} {fs : FS} {fuel : Nat} {st1 : PState}
    (R : PlainSetup T o fs fuel st1) (thresh : Nat) (src : Str) (ms : List Str → List Mark) (nms : List Str)
    (nf : Nat) (rot : Rot) (ls : LangSettings)
    (ha : noEmptyActive T st1 = true) (h : OkSrc T st1 0 src ms nms nf)
    (hm : nf ≠ 0 → MathSt T st1 rot ls) (hr : ∀ r ∈ rot.inl, ReplOk r)
    (hf : src.length + 2 ≤ fuel) :
    ∃ res, tex2txt T fuel src o false thresh fs = .ok res ∧
      res.txt = (delLines (ms rot.inl)).map (·.1) ∧ res.pos = (delLines (ms rot.inl)).map (·.2 + 1) ∧
      res.parts = [] ∧ res.unknowns = nms.eraseDups ∧ res.diags = st1.diags := by
  have F := scanAll_mix T st1 src 0 src ms nms nf h
  obtain ⟨ps, hflat, hpok, hmarks, hsimple, hcost, hnames, hnf⟩ := F.pieces
  let st' := startState st1 src
  obtain ⟨st2, hs, hst2⟩ := seqRun_mix T none ls ha ps.length ps (Nat.le_refl _) [] st' rot
    (.startState st1 src) hpok (fun h0 => hm (hnf ▸ h0))
  obtain ⟨res, hres, ht, hp, hpa, hu, hd, _⟩ := R.of_run thresh F.ok hflat hpok.nobegin hs (Nat.le_refl _)
    (by omega) (hsimple rot.inl hr)
  have he : charsOf (flowsToks st2.extracted) = [] := by rw [hst2]; rfl
  rw [hmarks, he, List.append_nil] at ht hp
  refine ⟨res, hres, ht, hp, hpa, ?_, ?_⟩
  · rw [hu, hst2, ← hnames]; exact foldl_addU_nil _
  · rw [hd, hst2]; rfl


def mathReady (T : PTables) (st : PState) (repls : List Str) : Bool :=
  (rotOf st (curSettings st)).map (·.inl) == some repls && !repls.isEmpty &&
  (settingsOf T (curSettings st)).isSome && repls.all (fun r => !hasNl r || isBlank r)

def SegsOk (T : PTables) (st : PState) (repls : List Str) (segs : List Seg) : Prop :=
  noEmptyActive T st = true ∧ segsOk T st segs = true ∧
  (nFormulas segs = 0 ∨ mathReady T st repls = true)

instance (T : PTables) (st : PState) (repls : List Str) (segs : List Seg) :
    Decidable (SegsOk T st repls segs) := by
  unfold SegsOk; infer_instance

theorem mathReady_facts {T : PTables} {st : PState} {repls : List Str}
    (h : mathReady T st repls = true) :
    ∃ rot ls, MathSt T st rot ls ∧ rot.inl = repls ∧ ∀ r ∈ repls, ReplOk r := by
  simp only [mathReady, Bool.and_eq_true, beq_iff_eq, Bool.not_eq_true', List.isEmpty_eq_false_iff,
    List.all_eq_true, Bool.or_eq_true] at h
  obtain ⟨⟨⟨h1, h2⟩, h3⟩, h4⟩ := h
  obtain ⟨ls, hls⟩ := Option.isSome_iff_exists.mp h3
  cases hrot : rotOf st (curSettings st) with
  | none => rw [hrot] at h1; simp at h1
  | some rot =>
    rw [hrot] at h1
    have hinl : rot.inl = repls := by simpa using h1
    refine ⟨rot, ls, ⟨hrot, by rw [hinl]; exact h2, hls⟩, hinl, ?_⟩
    intro r hr hn
    rcases h4 r hr with h | h
    · rw [hn] at h; cases h
    · exact h

theorem tex2txt_mix (T : PTables) (o : Options) (fs : FS) (thresh : Nat) (segs : List Seg)
    (fuel : Nat) (st1 : PState) (repls : List Str)
    (hdefs : o.defs = []) (hextr : o.extr = []) (hrepl : o.hasRepl = false) (hunkn : o.unkn = false)
    (hinit : initParser T fuel o (initialState T o false fs) = .ok ((), st1))
    (hok : SegsOk T st1 repls segs) (hf : (render segs).length + 2 ≤ fuel) :
    ∃ r, tex2txt T fuel (render segs) o false thresh fs = .ok r ∧
      r.txt = (delLines (marks T repls 0 0 segs)).map (·.1) ∧
      r.pos = (delLines (marks T repls 0 0 segs)).map (·.2 + 1) ∧
      r.unknowns = (cwNames segs).eraseDups ∧ r.diags = st1.diags ∧ r.parts = [] := by
  obtain ⟨ha, hsegs, hmath⟩ := hok
  have R : PlainSetup T o fs fuel st1 := ⟨⟨hdefs, hextr, hinit⟩, hrepl, hunkn⟩
  have hsrc := OkSrc_of_segsOk T st1 segs 0 hsegs
  rcases hmath with h0 | hmr
  · -- no formula: the collection does not matter
    obtain ⟨r, h, ht, hp, hpa, hu, hd⟩ := tex2txt_mix_src R thresh _ _ _ _
      { code := [], inl := [], disp := [], chg := [] } default ha hsrc (fun h => absurd h0 h) (by simp) hf
    simp only [marks_nomath T [] repls segs 0 0 0 h0] at ht hp
    exact ⟨r, h, ht, hp, hu, hd, hpa⟩
  · obtain ⟨rot, ls, hst, hinl, hro⟩ := mathReady_facts hmr
    obtain ⟨r, h, ht, hp, hpa, hu, hd⟩ := tex2txt_mix_src R thresh _ _ _ _ rot ls ha hsrc
      (fun _ => hst) (by rw [hinl]; exact hro) hf
    rw [hinl] at ht hp
    exact ⟨r, h, ht, hp, hu, hd, hpa⟩

end PlainMix
end Yalafi
