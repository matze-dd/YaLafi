/-
  Proofs/SystemWord.lean — SYSTEM LEVEL, grammar-free part: the composition of the filter's result
  (`tex2txt`: plain text `r.txt` and 1-based position map `r.pos`) with the shell's pipeline
  (`map_match_position` = `mapMatch`, the generators of the text / JSON / XML / XML-b reports =
  `Reports.locate` / `Reports.reportAll`, the HTML highlight `Html.computeH`, the sort of the matches
  `sortMatches`).  Everything here holds for EVERY source text; the theorems that discharge the
  hypothesis "these output characters are copies of consecutive source characters" for document
  grammars are in Proofs/SystemWordGroup.lean (text, groups, undeclared macros with arguments) and
  Proofs/SystemWordMix2.lean, Proofs/SystemWordMix3.lean (the union grammars of fourteen and of
  twenty-two construct kinds).

  Definitions
    `natMap pos`            the map the shell receives: `r.pos` as a list of Python ints
    `RunAt pos o l q`       the `l` map entries from plain offset `o` are `q, q+1, …, q+l-1`: the
                            flagged characters are mapped to `l` CONSECUTIVE source characters
    `IsLineCol src q lin col`   `q` is the offset of the `col`-th character of line `lin` of `src`
                            (1-based; the definition of "line and column" used by
                            `C14_linecol_roundtrip`): line `lin` exists, it begins at
                            `starts[lin-1]`, `q` lies `col-1` characters behind that begin and no
                            line break stands in between
    `WordReported src p l L`    everything the reports `L` say about the place of a match, spelled
                            out for a match that IS the source word `src[p … p+l)`
    `ReportInFile src L`    every location of `L` is a place of the file (conclusion of
                            `C15_located_in_file`)
    `shellOne`              one match through the shell: offset check of the sort key function,
                            `map_match_position`, report arithmetic

  Theorems
    `correctMark_word`      the macro-name extension is the identity unless the match is one single
                            backslash
    `mapMatch_run`, `reportAll_run`   for a run the pipeline yields offset `p`, length `l`, and
                            therefore `locate src p l` — with ANY padding appended to the map (the
                            shell appends two entries for its delimiter `'\n\n'`)
    `computeH_run`, `computeH_run_ok`, `html_run` (`HtmlWord`)   the HTML highlight is
                            `src[p : p+l]` on line `lin - 1`, and `computeH` accepts the match if an
                            entry follows the run (always, with the shell's padding)
    `assemble_single`, `shellPad`, `shellPad_mem`   the padding `run_proofreader_options` appends
    `sorted_before`, `runs_sorted`   (C) of two flagged runs the one that stands first in the file is
                            reported first
    `flaggedAt_of_run` (`FlaggedAt`), `sorted_of_flagged`   the above collected for a word `w` of the
                            file at offset `p` that is a run of the filter's output: the form in which
                            the grammar files state their flagged-word theorems
    `every_location_in_file`, `shellOne_dichotomy`, `shell_dichotomy_tex2txt`   (B) for EVERY source
                            text and ANY answer of the proofreader: all locations of all reports are
                            places of the file, or the shell stops with its own error exit; no
                            Python exception

  Side conditions and why
    `1 ≤ l`                 a zero or negative length is mapped differently (`C15_zero_length_mapped`)
    `RunAt pos off l (p+1)` consecutive map entries; otherwise `map_match_position` reports the
                            difference of the two end entries (markup in between is included)
    `¬ (l = 1 ∧ src[p] = '\\')`   `correct_mark_macroname` extends a single flagged backslash to the
                            macro name; never the case for a copied text character of the grammars
    `p + l ≤ |src|`         for `WordReported` (given by C01 / the grammar theorems)
    `∀ c ∈ pad, 0 ≤ c`      for `HtmlWord`: a negative entry would make the match "unsure" (the shell's
                            padding repeats an entry of the map; the model's map has none)
    (B) `T.WFInv` (decidable, true for the real tables), `r.foreign = false` (ghost flag of
        `C01_tex2txt`), no `--unkn` (the map is all zero then), plain text not empty (the shell does
        not call the proofreader on it), an INTEGER length (a missing or non-integer `length` is
        rejected by the sort key function: `C15_jsonGet_typed`), padding with entries of the map
  NOT covered: multi-language mode (several parts: offsets shifted by `C14_assemble_shift`, composed
  in Proofs/SystemML.lean, not here); the matches the shell creates itself (single letters, equation
  punctuation); the texts of the reports other than the numbers; `generate_html` beyond `computeH`
  (regions, overlaps: Proofs/Html.lean).
-/
import YalafiVerif.Proofs.Reports
import YalafiVerif.Proofs.Inv.Tex2txt
namespace Yalafi
namespace SystemWord

open Reports Html

/-! ### the map the shell receives; runs -/

/-- `r.pos` as the list of ints that `tex2txt` hands to the shell (no negative = "unsure" entries:
    the model's `r.pos` holds natural numbers) -/
def natMap (pos : List Nat) : List Int := pos.map Int.ofNat

def RunAt (pos : List Nat) (o l q : Nat) : Prop := (pos.drop o).take l = List.range' q l

instance (pos : List Nat) (o l q : Nat) : Decidable (RunAt pos o l q) := by
  unfold RunAt; infer_instance

theorem RunAt.get {pos : List Nat} {o l q : Nat} (h : RunAt pos o l q) (i : Nat) (hi : i < l) :
    pos[o + i]? = some (q + i) := by
  have h1 : ((pos.drop o).take l)[i]? = (List.range' q l)[i]? := by rw [h]
  rw [List.getElem?_take_of_lt hi, List.getElem?_drop] at h1
  rw [h1, List.getElem?_range' hi]
  simp

theorem RunAt.le {pos : List Nat} {o l q : Nat} (h : RunAt pos o l q) : l = 0 ∨ o + l ≤ pos.length := by
  rcases Nat.eq_zero_or_pos l with h0 | h0
  · exact Or.inl h0
  · right
    have := (List.getElem?_eq_some_iff.mp (h.get (l - 1) (by omega))).1
    omega

theorem runAt_of_get {pos : List Nat} {o l q : Nat} (h : ∀ i, i < l → pos[o + i]? = some (q + i)) :
    RunAt pos o l q := by
  unfold RunAt
  apply List.ext_getElem?
  intro i
  rcases Nat.lt_or_ge i l with hi | hi
  · rw [List.getElem?_take_of_lt hi, List.getElem?_drop, h i hi, List.getElem?_range' hi]
    simp
  · rw [List.getElem?_eq_none (by simp; omega), List.getElem?_eq_none (by simp; omega)]

theorem natMap_get (pos : List Nat) (pad : List Int) (i : Nat) (q : Nat) (h : pos[i]? = some q) :
    (natMap pos ++ pad)[i]? = some (q : Int) := by
  have hlt : i < pos.length := (List.getElem?_eq_some_iff.mp h).1
  rw [List.getElem?_append_left (by simpa [natMap] using hlt)]
  simp [natMap, h]

theorem contiguous_of_run (pos : List Nat) (pad : List Int) (o l q : Nat) (hl : 1 ≤ l)
    (h : RunAt pos o l q) :
    Contiguous (natMap pos ++ pad) o l ∧ (natMap pos ++ pad)[o]? = some (q : Int) := by
  have h0 := natMap_get pos pad o q (by simpa using h.get 0 (by omega))
  refine ⟨⟨?_, ?_⟩, h0⟩
  · rcases h.le with h1 | h1
    · omega
    · simp [natMap]; omega
  · intro i hi
    rw [natMap_get pos pad (o + i) (q + i) (h.get i hi), h0]
    simp

/-! ### "line and column" -/

def IsLineCol (src : Str) (q lin col : Nat) : Prop :=
  1 ≤ lin ∧ lin ≤ (getLineStarts src).length ∧ 1 ≤ col ∧
  (getLineStarts src).getD (lin - 1) 0 + (col - 1) = q ∧
  '\n' ∉ slice src ((getLineStarts src).getD (lin - 1) 0) q

theorem isLineCol_textLineCol (src : Str) (q : Nat) :
    IsLineCol src q (textLineCol src q).1 (textLineCol src q).2 := by
  have ⟨a, b, c, d, e, _⟩ := linecol_roundtrip src q
  exact ⟨a, b, c, d, e⟩

theorem isLineCol_unique (src : Str) (q lin col : Nat) (h : IsLineCol src q lin col) :
    (lin, col) = textLineCol src q := by
  have ⟨_, _, _, _, _, u⟩ := linecol_roundtrip src q
  obtain ⟨a, b, c, d, e⟩ := h
  exact u lin col a b c d e

/-! ### what the reports say about a word of the file -/

/-- All numbers of all reports for a match that is the source word `src[p … p+l)` (0-based offset
    `p`, length `l`), with `(lin, col)` = line and column of its first character and `(elin, ecol)`
    = line and column of its last character `p + l - 1` (all 1-based, `textLineCol`):
    * `offset`, `length` — JSON report and server answer: `p` and `l`;
    * `lin`, `col` — the text report prints `lin` and `col`; `first`: they ARE the line and column
      of the word's first character (`IsLineCol`), `last`: the same for the last character;
    * `json` — `priv` of the JSON report: begin `(lin-1, col-1)` (0-based), end `(elin-1, ecol)`
      (0-based line, column one past the last character); `xml`: XML carries the same numbers;
    * `xmlb` — `--output xml-b`: the same lines; the columns are the UTF-8 byte lengths of the line
      prefixes `src[starts[lin-1] : p]` and `src[starts[elin-1] : p+l]`. -/
structure WordReported (src : Str) (p l : Nat) (L : Located) : Prop where
  offset : L.offset = (p : Int)
  length : L.length = (l : Int)
  lin : L.lin = ((textLineCol src p).1 : Int)
  col : L.col = ((textLineCol src p).2 : Int)
  first : IsLineCol src p (textLineCol src p).1 (textLineCol src p).2
  last : IsLineCol src (p + l - 1) (textLineCol src (p + l - 1)).1 (textLineCol src (p + l - 1)).2
  json : L.json = { fromy := (((textLineCol src p).1 - 1 : Nat) : Int),
                    fromx := (((textLineCol src p).2 - 1 : Nat) : Int),
                    toy := (((textLineCol src (p + l - 1)).1 - 1 : Nat) : Int),
                    tox := ((textLineCol src (p + l - 1)).2 : Int) }
  xml : L.xml = L.json
  xmlb : L.xmlb = { fromy := (((textLineCol src p).1 - 1 : Nat) : Int),
                    fromx := (utf8Size (slice src ((getLineStarts src).getD ((textLineCol src p).1 - 1) 0) p) : Int),
                    toy := (((textLineCol src (p + l - 1)).1 - 1 : Nat) : Int),
                    tox := (utf8Size (slice src ((getLineStarts src).getD ((textLineCol src (p + l - 1)).1 - 1) 0) (p + l)) : Int) }

theorem priv_ext (a b : Priv) (h1 : a.fromy = b.fromy) (h2 : a.fromx = b.fromx) (h3 : a.toy = b.toy)
    (h4 : a.tox = b.tox) : a = b := by
  cases a; cases b; simp_all

theorem locate_word (src : Str) (p l : Nat) (hl : 1 ≤ l) (hp : p + l ≤ src.length) :
    WordReported src p l (locate src p l) := by
  have hj := jsonPriv_nat src p l hl
  have ⟨_, _, _, f4, f5, f6⟩ := formats_agree src p l
  have hb := xmlb_from src p l (by omega)
  have he := xmlb_to src p l (p + l - 1) (by omega) (by omega)
  have hs1 : (getLineStarts src).getD ((textLineCol src p).1 - 1) 0 = lastLineStart (src.take p) := by
    simp only [textLineCol, Nat.add_sub_cancel, lineIdx]; exact starts_eq_lastLineStart src p
  have hs2 : (getLineStarts src).getD ((textLineCol src (p + l - 1)).1 - 1) 0
      = lastLineStart (src.take (p + l - 1)) := by
    simp only [textLineCol, Nat.add_sub_cancel, lineIdx]; exact starts_eq_lastLineStart src (p + l - 1)
  have e1 : p + l - 1 + 1 = p + l := by omega
  refine ⟨rfl, rfl, ?_, ?_, isLineCol_textLineCol src p, isLineCol_textLineCol src (p + l - 1), ?_, ?_, ?_⟩
  · simp only [locate, textReport_nat]
  · simp only [locate, textReport_nat]
  · simp only [locate, hj, xmlFields, textLineCol, Nat.add_sub_cancel]
  · simp only [locate]; exact f4
  · have g1 := hb.1
    have g2 := he.1
    rw [e1] at g2
    simp only [locate]
    rw [hs1, hs2, ← g1, ← g2]
    have h5 : (xmlReport src true p l).fromy = (jsonPriv src p l).fromy := f5
    have h6 : (xmlReport src true p l).toy = (jsonPriv src p l).toy := f6
    have hy1 : (xmlReport src true p l).fromy = (((textLineCol src p).1 - 1 : Nat) : Int) := by
      rw [h5, hj]; simp only [xmlFields, textLineCol, Nat.add_sub_cancel]
    have hy2 : (xmlReport src true p l).toy = (((textLineCol src (p + l - 1)).1 - 1 : Nat) : Int) := by
      rw [h6, hj]; simp only [xmlFields, textLineCol, Nat.add_sub_cancel]
    exact priv_ext _ _ hy1 rfl hy2 rfl

/-! ### `map_match_position` and the reports on a run -/

theorem correctMark_word (p l : Nat) (src : Str) (h : ¬ (l = 1 ∧ src[p]? = some '\\')) :
    correctMarkMacroname (p : Int) (l : Int) src = (l : Int) := by
  by_cases h1 : l = 1
  · subst h1
    exact correctMark_not_backslash (p : Int) src (fun _ => by simpa using fun hx => h ⟨rfl, hx⟩)
  · exact correctMark_ne_one _ _ _ (by omega)

theorem mapMatch_run (src : Str) (pos : List Nat) (pad : List Int) (o l p : Nat) (hl : 1 ≤ l)
    (hrun : RunAt pos o l (p + 1)) (hbs : ¬ (l = 1 ∧ src[p]? = some '\\')) :
    mapMatch (natMap pos ++ pad) src (o : Int) (some (.int l)) = .ok ((p : Int), (l : Int)) := by
  have ⟨hc, h0⟩ := contiguous_of_run pos pad o l (p + 1) hl hrun
  have := mapMatch_word (natMap pos ++ pad) src o l ((p + 1 : Nat) : Int) hl hc h0 (by omega)
  rw [this]
  have e : ((p + 1 : Nat) : Int) - 1 = (p : Int) := by omega
  rw [e, correctMark_word p l src hbs]

theorem reportAll_run (src : Str) (pos : List Nat) (pad : List Int) (o l p : Nat) (hl : 1 ≤ l)
    (hrun : RunAt pos o l (p + 1)) (hbs : ¬ (l = 1 ∧ src[p]? = some '\\')) :
    reportAll (natMap pos ++ pad) src (o : Int) (some (.int l)) = .ok (locate src p l) := by
  simp only [reportAll, mapMatch_run src pos pad o l p hl hrun hbs]

/-! ### the HTML highlight on a run -/

theorem computeH_run (T : Tables) (src : Str) (pos : List Nat) (pad : List Int) (idx o l p : Nat) (hl : 1 ≤ l)
    (hrun : RunAt pos o l (p + 1)) (hbs : ¬ (l = 1 ∧ src[p]? = some '\\')) (hpad : ∀ c ∈ pad, 0 ≤ c)
    (h : HData) (hh : computeH T src (natMap pos ++ pad) idx (o : Int) (l : Int) = .ok h) :
    h.beg = (p : Int) ∧ h.fin = p + l ∧ h.lin + 1 = (textLineCol src p).1 ∧ h.unsure = false ∧
    h.idx = idx := by
  have hm := mapMatch_run src pos pad o l p hl hrun hbs
  have ⟨a1, _, a3⟩ := html_agrees T src _ idx o l h _ hh hm
  have hsure : ∀ c ∈ natMap pos ++ pad, 0 ≤ c := by
    intro c hc
    rcases List.mem_append.mp hc with h1 | h1
    · simp only [natMap, List.mem_map] at h1
      obtain ⟨n, _, rfl⟩ := h1
      exact Int.natCast_nonneg n
    · exact hpad c h1
  have ⟨b1, b2⟩ := html_end_agrees T src _ idx o l h _ hh hm hsure (by omega) (by simp only; omega)
  simp only at a1 a3 b2
  rw [textReport_nat] at a3
  simp only at a3
  refine ⟨a1, by omega, by omega, b1, ?_⟩
  unfold computeH at hh
  simp only at hh
  split at hh
  · cases hh
  · split at hh
    · split at hh
      · cases hh
      · simp only [SOut.ok.injEq] at hh; subst hh; rfl
    · cases hh

theorem ite_some_some_ne {α} (b : Bool) (x : α) :
    (if b = true then some (some x) else none) ≠ some none := by
  cases b <;> simp

theorem computeH_run_ok (T : Tables) (src : Str) (pos : List Nat) (pad : List Int) (idx o l p : Nat) (hl : 1 ≤ l)
    (hrun : RunAt pos o l (p + 1)) (hnext : o + l < (natMap pos ++ pad).length) (hp : p < src.length) :
    ∃ h, computeH T src (natMap pos ++ pad) idx (o : Int) (l : Int) = .ok h := by
  have h0 := natMap_get pos pad o (p + 1) (by simpa using hrun.get 0 (by omega))
  have h1 := natMap_get pos pad (o + (l - 1)) (p + 1 + (l - 1)) (hrun.get (l - 1) (by omega))
  have e1 : (max (o : Int) ((o : Int) + max 1 (l : Int) - 1)).toNat = o + (l - 1) := by omega
  have hr : (decide ((o : Int) < 0) || decide ((o : Int) + max 1 (l : Int) < 0)
      || decide ((o : Int) ≥ ((natMap pos ++ pad).length : Int))
      || decide ((o : Int) + max 1 (l : Int) ≥ ((natMap pos ++ pad).length : Int))) = false := by
    simp only [Bool.or_eq_false_iff, decide_eq_false_iff_not]
    omega
  have hpi : Html.pyIndex src (iabs ((p + 1 : Nat) : Int) - 1) = some src[p] := by
    rw [iabs_pos _ (by omega)]
    have : ((p + 1 : Nat) : Int) - 1 = (p : Int) := by omega
    rw [this]
    simp [Html.pyIndex, hp]
  unfold computeH
  simp only [hr, Bool.false_eq_true, if_false, Int.toNat_natCast, h0, e1, h1, hpi]
  split
  · rename_i hc
    exact absurd hc (ite_some_some_ne _ _)
  · exact ⟨_, rfl⟩

/-- what the HTML report does with a match at plain offset `off`, length `l`, that is the source word
    `src[p … p+l)`: `generate_html` accepts it whenever a map entry follows the flagged stretch, and
    whenever it accepts it the highlighted text `tex[h.beg:h.end]` is the word, the match is "sure",
    and the title of the highlight names the line of the word -/
def HtmlWord (src : Str) (cm : List Int) (off l p : Nat) : Prop :=
  ∀ (T : Tables) (idx : Nat),
    (off + l < cm.length → ∃ h, computeH T src cm idx (off : Int) (l : Int) = .ok h) ∧
    ∀ h, computeH T src cm idx (off : Int) (l : Int) = .ok h →
      h.idx = idx ∧ h.beg = (p : Int) ∧ h.fin = p + l ∧ h.unsure = false ∧
      h.lin + 1 = (textLineCol src p).1 ∧
      slice src h.beg.toNat h.fin = (src.drop p).take l

theorem html_run (src : Str) (pos : List Nat) (pad : List Int) (off l p : Nat) (hl : 1 ≤ l)
    (hrun : RunAt pos off l (p + 1)) (hbs : ¬ (l = 1 ∧ src[p]? = some '\\')) (hp : p < src.length)
    (hpad : ∀ c ∈ pad, 0 ≤ c) : HtmlWord src (natMap pos ++ pad) off l p := by
  intro T idx
  refine ⟨fun hn => computeH_run_ok T src pos pad idx off l p hl hrun hn hp, ?_⟩
  intro h hh
  obtain ⟨a1, a2, a3, a4, a5⟩ := computeH_run T src pos pad idx off l p hl hrun hbs hpad h hh
  refine ⟨a5, a1, a2, a4, a3, ?_⟩
  rw [a1, a2]
  simp only [slice, Int.toNat_natCast, List.drop_take, Nat.add_sub_cancel_left]

theorem run_reported (src : Str) (pos : List Nat) (pad : List Int) (off l p : Nat) (hl : 1 ≤ l)
    (hrun : RunAt pos off l (p + 1)) (hin : p + l ≤ src.length)
    (hbs : ¬ (l = 1 ∧ src[p]? = some '\\')) :
    mapMatch (natMap pos ++ pad) src (off : Int) (some (.int l)) = .ok ((p : Int), (l : Int)) ∧
    reportAll (natMap pos ++ pad) src (off : Int) (some (.int l)) = .ok (locate src p l) ∧
    WordReported src p l (locate src p l) ∧
    ((∀ c ∈ pad, 0 ≤ c) → HtmlWord src (natMap pos ++ pad) off l p) :=
  ⟨mapMatch_run src pos pad off l p hl hrun hbs, reportAll_run src pos pad off l p hl hrun hbs,
   locate_word src p l hl hin, fun hpad => html_run src pos pad off l p hl hrun hbs (by omega) hpad⟩

/-! ### the shell's padding of the map (`run_proofreader_options`) -/

/-- the two entries the shell appends to the map for its delimiter `'\n\n'`: the last entry, twice -/
def shellPad (pos : List Nat) : List Int :=
  [((natMap pos).getLast?).getD 0, ((natMap pos).getLast?).getD 0]

/-- single-language mode, one part: what `run_proofreader_options` assembles from the filter's
    result and the proofreader's matches — text and map padded, offsets unchanged -/
theorem assemble_single (txt : Str) (pos : List Nat) (ms : List RawMatch) :
    assembleNB [({ plain := txt, charmap := natMap pos }, ms)] =
      { plainTot := txt ++ ['\n', '\n'], charmapTot := natMap pos ++ shellPad pos, hits := ms } := by
  simp [assembleNB, assembleStepNB, shellPad]

theorem shellPad_mem (pos : List Nat) (h : pos ≠ []) : ∀ c ∈ shellPad pos, c ∈ natMap pos ∧ 0 ≤ c := by
  intro c hc
  have hne : natMap pos ≠ [] := by simpa [natMap] using h
  have hl : ((natMap pos).getLast?).getD 0 ∈ natMap pos := by
    rw [List.getLast?_eq_some_getLast hne]; exact List.getLast_mem hne
  have hc' : c = ((natMap pos).getLast?).getD 0 := by simpa [shellPad] using hc
  rw [hc']
  refine ⟨hl, ?_⟩
  generalize ((natMap pos).getLast?).getD 0 = x at hl
  simp only [natMap, List.mem_map] at hl
  obtain ⟨n, _, hn⟩ := hl
  rw [← hn]; exact Int.natCast_nonneg n

/-- the shell's padding never makes a match "unsure" (an empty map is padded with `0`) -/
theorem shellPad_nonneg (pos : List Nat) : ∀ c ∈ shellPad pos, 0 ≤ c := by
  intro c hc
  have hc' : c = ((natMap pos).getLast?).getD 0 := by simpa [shellPad] using hc
  rw [hc', natMap, List.getLast?_map]
  cases pos.getLast? <;> simp

/-! ### (C) the order of the reports -/

theorem sorted_before (cmt : List Int) (ms out : List RawMatch) (h : sortMatches cmt ms = .ok out)
    (m1 m2 : RawMatch) (h1 : m1 ∈ ms) (h2 : m2 ∈ ms)
    (hk : iabs ((cmt[m1.offset.toNat]?).getD 0) < iabs ((cmt[m2.offset.toNat]?).getD 0)) :
    ∃ X Y Z, out = X ++ m1 :: (Y ++ m2 :: Z) := by
  obtain ⟨hperm, hpw, _⟩ := sortMatches_sorted cmt ms out h
  obtain ⟨X, R, rfl⟩ := List.append_of_mem ((hperm.mem_iff).mpr h1)
  have hm2 := (hperm.mem_iff).mpr h2
  rw [List.pairwise_append] at hpw
  obtain ⟨_, hR, hXR⟩ := hpw
  rcases List.mem_append.mp hm2 with hx | hx
  · have := hXR m2 hx m1 (List.mem_cons_self ..)
    omega
  · rcases List.mem_cons.mp hx with hx | hx
    · subst hx; omega
    · obtain ⟨Y, Z, rfl⟩ := List.append_of_mem hx
      exact ⟨X, Y, Z, rfl⟩

theorem runs_sorted (pos : List Nat) (pad : List Int) (ms out : List RawMatch)
    (h : sortMatches (natMap pos ++ pad) ms = .ok out)
    (m1 m2 : RawMatch) (h1 : m1 ∈ ms) (h2 : m2 ∈ ms) (o1 l1 p1 o2 l2 p2 : Nat)
    (ho1 : m1.offset = (o1 : Int)) (ho2 : m2.offset = (o2 : Int)) (hl1 : 1 ≤ l1) (hl2 : 1 ≤ l2)
    (hr1 : RunAt pos o1 l1 (p1 + 1)) (hr2 : RunAt pos o2 l2 (p2 + 1)) (hlt : p1 < p2) :
    ∃ X Y Z, out = X ++ m1 :: (Y ++ m2 :: Z) := by
  apply sorted_before _ ms out h m1 m2 h1 h2
  have a1 := natMap_get pos pad o1 (p1 + 1) (by simpa using hr1.get 0 (by omega))
  have a2 := natMap_get pos pad o2 (p2 + 1) (by simpa using hr2.get 0 (by omega))
  rw [ho1, ho2]
  simp only [Int.toNat_natCast, a1, a2, Option.getD_some]
  rw [iabs_pos _ (by omega), iabs_pos _ (by omega)]
  omega

/-! ### a word of the file, through filter and shell -/

/-- the conclusion of the flagged-word theorems: the word stands at offset `p` of the file; the
    filter succeeds and the word is a run of its output; every flagged occurrence with the map
    entries of the word is reported at the word, in all formats -/
def FlaggedAt (T : PTables) (o : Options) (fs : FS) (thresh fuel : Nat) (src : Str) (p : Nat) (w : Str) : Prop :=
  (src.drop p).take w.length = w ∧ p + w.length ≤ src.length ∧
  ∃ r, tex2txt T fuel src o false thresh fs = .ok r ∧
    r.txt.length = r.pos.length ∧
    (∃ off, off + w.length ≤ r.txt.length ∧ RunAt r.pos off w.length (p + 1) ∧
      (r.txt.drop off).take w.length = w) ∧
    ∀ (off : Nat) (pad : List Int), RunAt r.pos off w.length (p + 1) →
      mapMatch (natMap r.pos ++ pad) src (off : Int) (some (.int w.length)) = .ok ((p : Int), (w.length : Int)) ∧
      reportAll (natMap r.pos ++ pad) src (off : Int) (some (.int w.length))
        = .ok (locate src (p : Int) (w.length : Int)) ∧
      WordReported src p w.length (locate src (p : Int) (w.length : Int)) ∧
      ((∀ c ∈ pad, 0 ≤ c) → HtmlWord src (natMap r.pos ++ pad) off w.length p)

theorem word_in_file {src w : Str} {p : Nat} {c : Char} {cs : Str} (hwc : w = c :: cs) (hc : c ≠ '\\')
    (hsrc : (src.drop p).take w.length = w) :
    1 ≤ w.length ∧ p + w.length ≤ src.length ∧ ¬ (w.length = 1 ∧ src[p]? = some '\\') := by
  have hl : 1 ≤ w.length := by rw [hwc]; simp
  have hin : p + w.length ≤ src.length := by
    have := congrArg List.length hsrc
    rw [List.length_take, List.length_drop] at this
    omega
  have hget : src[p]? = some c := by
    have h0 := congrArg (fun l => l[0]?) hsrc
    simp only [hwc, List.length_cons] at h0
    rw [List.getElem?_take_of_lt (by omega), List.getElem?_drop] at h0
    simpa using h0
  refine ⟨hl, hin, ?_⟩
  rintro ⟨_, hb⟩
  rw [hget] at hb
  cases hb
  exact hc rfl

theorem flaggedAt_of_run (T : PTables) (o : Options) (fs : FS) (thresh fuel : Nat) (src : Str) (p : Nat)
    (w : Str) (c : Char) (cs : Str) (hwc : w = c :: cs) (hc : c ≠ '\\')
    (hsrc : (src.drop p).take w.length = w)
    (hrun : ∃ r, tex2txt T fuel src o false thresh fs = .ok r ∧
      r.txt.length = r.pos.length ∧
      ∃ off, off + w.length ≤ r.txt.length ∧ RunAt r.pos off w.length (p + 1) ∧
        (r.txt.drop off).take w.length = w) :
    FlaggedAt T o fs thresh fuel src p w := by
  obtain ⟨hl, hin, hbs⟩ := word_in_file hwc hc hsrc
  obtain ⟨r, h1, h2, hoff⟩ := hrun
  refine ⟨hsrc, hin, r, h1, h2, hoff, ?_⟩
  exact fun off pad hr => run_reported _ r.pos pad off w.length _ hl hr hin hbs

/-- … with the padding of the shell itself (`shellPad`, `assemble_single`): the form of the
    instances on the current tables -/
theorem FlaggedAt.shell {T : PTables} {o : Options} {fs : FS} {thresh fuel : Nat} {src : Str} {p : Nat}
    {w : Str} (h : FlaggedAt T o fs thresh fuel src p w) :
    (src.drop p).take w.length = w ∧
    ∃ r, tex2txt T fuel src o false thresh fs = .ok r ∧
      (∃ off, off + w.length ≤ r.txt.length ∧ RunAt r.pos off w.length (p + 1) ∧
        (r.txt.drop off).take w.length = w) ∧
      ∀ (off : Nat), RunAt r.pos off w.length (p + 1) →
        reportAll (natMap r.pos ++ shellPad r.pos) src (off : Int) (some (.int w.length))
          = .ok (locate src (p : Int) (w.length : Int)) ∧
        WordReported src p w.length (locate src (p : Int) (w.length : Int)) ∧
        HtmlWord src (natMap r.pos ++ shellPad r.pos) off w.length p := by
  obtain ⟨h1, _, r, h3, _, h5, h6⟩ := h
  refine ⟨h1, r, h3, h5, fun off hrun => ?_⟩
  obtain ⟨_, b2, b3, b4⟩ := h6 off (shellPad r.pos) hrun
  exact ⟨b2, b3, b4 (shellPad_nonneg r.pos)⟩

/-- **(C)** two words of the file, the first one standing first: both are runs of the plain text,
    and whenever the proofreader flags them (matches `m1`, `m2` among any list `ms` of matches,
    offsets with the map entries of the words), the shell's sort puts `m1` in front of `m2` —
    wherever they stand in the plain text and in the proofreader's answer -/
theorem sorted_of_flagged {T : PTables} {o : Options} {fs : FS} {thresh fuel : Nat} {src : Str}
    {p1 p2 : Nat} {w1 w2 : Str}
    (h1 : FlaggedAt T o fs thresh fuel src p1 w1) (h2 : FlaggedAt T o fs thresh fuel src p2 w2)
    (hl1 : 1 ≤ w1.length) (hl2 : 1 ≤ w2.length) (hlt : p1 < p2) :
    ∃ r, tex2txt T fuel src o false thresh fs = .ok r ∧
      (∃ off1 off2, RunAt r.pos off1 w1.length (p1 + 1) ∧ RunAt r.pos off2 w2.length (p2 + 1)) ∧
      ∀ (pad : List Int) (ms out : List RawMatch) (m1 m2 : RawMatch) (off1 off2 : Nat),
        sortMatches (natMap r.pos ++ pad) ms = .ok out → m1 ∈ ms → m2 ∈ ms →
        m1.offset = (off1 : Int) → m2.offset = (off2 : Int) →
        RunAt r.pos off1 w1.length (p1 + 1) → RunAt r.pos off2 w2.length (p2 + 1) →
        ∃ X Y Z, out = X ++ m1 :: (Y ++ m2 :: Z) := by
  obtain ⟨_, _, r, hr, _, ⟨off1, _, hr1, _⟩, _⟩ := h1
  obtain ⟨_, _, r', hr', _, ⟨off2, _, hr2, _⟩, _⟩ := h2
  rw [hr] at hr'
  cases hr'
  refine ⟨r, hr, ⟨off1, off2, hr1, hr2⟩, ?_⟩
  intro pad ms out m1 m2 o1 o2 hs hm1 hm2 ho1 ho2 hq1 hq2
  exact runs_sorted r.pos pad ms out hs m1 m2 hm1 hm2 o1 w1.length _ o2 w2.length _ ho1 ho2 hl1 hl2 hq1 hq2 hlt

/-! ### (B) every location in the file -/

/-- every location of every report is a place of the file: first and last character of the
    reported match are characters of the text; the numbers are those the generators compute for
    the reported offset and length; text report, JSON, XML name existing lines and columns on
    them; XML-b the same lines and byte columns within the UTF-8 length of the line (`+ 1` for the
    end column: the line break); for a text that ends in a line break (what the shell hands over)
    never the empty "line" behind the last line break -/
def ReportInFile (tex : Str) (L : Located) : Prop :=
  InText tex L.offset ∧ InText tex (L.offset + L.length - 1) ∧ L = locate tex L.offset L.length ∧
  InFileLC tex L.lin L.col ∧
  InFileLC tex (L.json.fromy + 1) (L.json.fromx + 1) ∧ InFileLC tex (L.json.toy + 1) L.json.tox ∧
  L.xml = L.json ∧ L.xmlb.fromy = L.json.fromy ∧ L.xmlb.toy = L.json.toy ∧
  0 ≤ L.xmlb.fromx ∧ L.xmlb.fromx ≤ utf8Size (lineAt tex ((getLineStarts tex).getD L.json.fromy.toNat 0)) ∧
  0 ≤ L.xmlb.tox ∧ L.xmlb.tox ≤ utf8Size (lineAt tex ((getLineStarts tex).getD L.json.toy.toNat 0)) + 1 ∧
  (EndsNl tex → L.lin ≤ tex.count '\n' ∧ L.json.fromy + 1 ≤ tex.count '\n' ∧ L.json.toy + 1 ≤ tex.count '\n')

/-- with a C01 map and an integer length the pipeline `map_match_position` + generators answers,
    and everything it prints lies in the file -/
theorem reportAll_in_file (cm : List Int) (tex : Str) (offset len : Int)
    (hcm : ∀ p ∈ cm, 1 ≤ iabs p ∧ iabs p ≤ tex.length) (hne : cm ≠ []) :
    ∃ L, reportAll cm tex offset (some (.int len)) = .ok L ∧ ReportInFile tex L := by
  obtain ⟨r, hr⟩ := mapMatch_total cm tex offset len hne
  have hL : reportAll cm tex offset (some (.int len)) = .ok (locate tex r.1 r.2) := by
    simp only [reportAll, hr]
  refine ⟨_, hL, ?_⟩
  have ⟨a, b, c⟩ := mapped_report_in_file cm tex offset len _ hcm hL
  have rr := report_in_file tex (locate tex r.1 r.2).offset (locate tex r.1 r.2).length a b
  rw [← c] at rr
  exact ⟨a, b, c, rr⟩

theorem natMap_c01 (n : Nat) (pos : List Nat) (pad : List Int) (h : ∀ p ∈ pos, 1 ≤ p ∧ p ≤ n)
    (hpad : ∀ c ∈ pad, c ∈ natMap pos) :
    ∀ c ∈ natMap pos ++ pad, 1 ≤ iabs c ∧ iabs c ≤ n := by
  have h1 : ∀ c ∈ natMap pos, 1 ≤ iabs c ∧ iabs c ≤ n := by
    intro c hc
    simp only [natMap, List.mem_map] at hc
    obtain ⟨q, hq, rfl⟩ := hc
    have := h q hq
    show 1 ≤ iabs (q : Int) ∧ iabs (q : Int) ≤ (n : Int)
    rw [iabs_pos _ (Int.natCast_nonneg q)]
    exact ⟨by show (1 : Int) ≤ (q : Int); omega, by show (q : Int) ≤ (n : Int); omega⟩
  intro c hc
  rcases List.mem_append.mp hc with hc | hc
  · exact h1 c hc
  · exact h1 c (hpad c hc)

/-- **(B)** for EVERY source text: whatever offset and integer length the proofreader sends for a
    non-empty plain text, `tex2txt` ∘ `map_match_position` ∘ generators answers, and every location
    it prints is a place of the file -/
theorem every_location_in_file (T : PTables) (hw : T.WFInv) (fuel : Nat) (src : Str) (o : Options)
    (thresh : Nat) (fs : FS) (r : T2TResult) (hr : tex2txt T fuel src o false thresh fs = .ok r)
    (hfor : r.foreign = false) (hunkn : o.unkn = false) (pad : List Int)
    (hpad : ∀ c ∈ pad, c ∈ natMap r.pos) (hne : r.txt ≠ []) (offset len : Int) :
    ∃ L, reportAll (natMap r.pos ++ pad) src offset (some (.int len)) = .ok L ∧ ReportInFile src L := by
  have h := tex2txt_inRange T hw fuel src o false thresh fs
  rw [hr] at h
  obtain ⟨hlen, hok, _⟩ := h
  obtain ⟨_, hrange⟩ := hok hfor hunkn
  apply reportAll_in_file _ _ _ _ (natMap_c01 src.length r.pos pad hrange hpad)
  intro he
  have : r.pos = [] := by
    have := congrArg List.length he
    simp [natMap] at this
    exact this.1
  rw [this] at hlen
  exact hne (List.eq_nil_of_length_eq_zero hlen)

/-- one match of the proofreader through the shell: the sort key function validates the offset
    (`tex2txt.fatal` otherwise), then `map_match_position` and the generators -/
def shellOne (cm : List Int) (src : Str) (offset len : Int) : SOut Located :=
  match sortMatches cm [{ offset := offset, rest := .null }] with
  | .ok _ => reportAll cm src offset (some (.int len))
  | .fatal => .fatal
  | .crash s => .crash s

/-- **(B), the dichotomy**: with a C01 map the shell either stops with its own error exit — exactly
    when the offset lies outside the (padded) plain text — or prints locations in the file; it
    never raises -/
theorem shellOne_dichotomy (cm : List Int) (src : Str) (offset len : Int)
    (hcm : ∀ p ∈ cm, 1 ≤ iabs p ∧ iabs p ≤ src.length) :
    ((offset < 0 ∨ offset ≥ cm.length) ∧ shellOne cm src offset len = .fatal) ∨
    ((0 ≤ offset ∧ offset < cm.length) ∧
      ∃ L, shellOne cm src offset len = .ok L ∧ ReportInFile src L) := by
  by_cases hb : offset < 0 ∨ offset ≥ cm.length
  · left
    refine ⟨hb, ?_⟩
    have : (decide (offset < 0) || decide (offset ≥ (cm.length : Int))) = true := by
      simpa using hb
    simp [shellOne, sortMatches, this]
  · right
    have hb' : 0 ≤ offset ∧ offset < cm.length := by omega
    refine ⟨hb', ?_⟩
    have : (decide (offset < 0) || decide (offset ≥ (cm.length : Int))) = false := by
      simp only [Bool.or_eq_false_iff, decide_eq_false_iff_not]; omega
    have hne : cm ≠ [] := by
      intro h; rw [h] at hb'; simp at hb'; omega
    obtain ⟨L, h1, h2⟩ := reportAll_in_file cm src offset len hcm hne
    refine ⟨L, ?_, h2⟩
    simp [shellOne, sortMatches, this, h1]

/-- **(B), composed with the filter**: for EVERY source text and ANY offset and integer length in
    the proofreader's answer, the shell (map padded as `run_proofreader_options` does it) either
    stops with its own error exit — exactly when the offset lies outside the padded plain text — or
    prints locations in the file -/
theorem shell_dichotomy_tex2txt (T : PTables) (hw : T.WFInv) (fuel : Nat) (src : Str) (o : Options)
    (thresh : Nat) (fs : FS) (r : T2TResult) (hr : tex2txt T fuel src o false thresh fs = .ok r)
    (hfor : r.foreign = false) (hunkn : o.unkn = false) (hne : r.txt ≠ []) (offset len : Int) :
    ((offset < 0 ∨ offset ≥ (r.txt.length : Int) + 2) ∧
      shellOne (natMap r.pos ++ shellPad r.pos) src offset len = .fatal) ∨
    ((0 ≤ offset ∧ offset < (r.txt.length : Int) + 2) ∧
      ∃ L, shellOne (natMap r.pos ++ shellPad r.pos) src offset len = .ok L ∧ ReportInFile src L) := by
  have h := tex2txt_inRange T hw fuel src o false thresh fs
  rw [hr] at h
  obtain ⟨hlen, hok, _⟩ := h
  obtain ⟨_, hrange⟩ := hok hfor hunkn
  have hpne : r.pos ≠ [] := by
    intro he; rw [he] at hlen; exact hne (List.eq_nil_of_length_eq_zero hlen)
  have hcm := natMap_c01 src.length r.pos (shellPad r.pos) hrange (fun c hc => (shellPad_mem r.pos hpne c hc).1)
  have hl : ((natMap r.pos ++ shellPad r.pos).length : Int) = (r.txt.length : Int) + 2 := by
    simp only [List.length_append, natMap, List.length_map, shellPad, List.length_cons, List.length_nil]
    omega
  have := shellOne_dichotomy (natMap r.pos ++ shellPad r.pos) src offset len hcm
  rw [hl] at this
  exact this

end SystemWord
end Yalafi
