/-
  Proofs/SystemIncludeLoop.lean — the `--include` work list of shell.py (`includeLoop`,
  Model/Shell.lean) for an ABSTRACT inclusion function: what holds of every result
  (`includeLoop … = some out`), termination with an explicit fuel bound, exactness (the result
  is the set of files reachable through files that are not skipped) and the discovery order.

  `firstNew skip seen l`    the first occurrences in `l` of the names that are not skipped and not
                            in `seen` — what the loop appends to `todo` for one file
                            (`foldl_firstNew`, `mem_firstNew`)
  `includeLoop_inv`         induction over the run: what both kinds of iteration keep holds at the end
  `includeLoop_nodup`       no duplicates, none skipped, `done` stays a prefix
  `includeLoop_closed`      every root that is not skipped is checked; closed under inclusion
  `includeLoop_reach`       everything checked lies in a set closed under inclusion that holds the
                            roots (with `ReachNS`: `includeLoop_reachNS`)
  `ReachNS`                 reachable from a root that is not skipped through inclusions by files
                            that are not skipped, the target not skipped either (a skipped file is
                            never opened, so what it includes is not followed)
  `includeLoop_terminates`  fuel `|todo| + |U|` suffices when every included name that is not
                            skipped lies in the finite list `U` (no condition on cycles)
  `reachNS_mem`             everything `ReachNS` is checked (from `includeLoop_closed`)
  `includeLoop_order`       `out = firstNew skip [] (roots ++ out.flatMap includes)`: the result is
                            the list of first occurrences of the non-skipped names in the sequence
                            "the roots, then the names included by out[0], then those included by
                            out[1], …" — breadth-first discovery order
  `includeLoop_causal`      every checked file is a root or is included by a file checked earlier
  `bfs_unique`              the last two properties determine the list
  `includeLoop_bfs`         all of it, for the run that starts with `done = []`
-/
import YalafiVerif.Proofs.Shell
namespace Yalafi
namespace IncludeLoop

def firstNew (skip : Str → Bool) : List Str → List Str → List Str
  | _, [] => []
  | seen, g :: gs =>
    if seen.contains g || skip g then firstNew skip seen gs
    else g :: firstNew skip (seen ++ [g]) gs

theorem firstNew_cons_drop (skip : Str → Bool) (seen : List Str) (g : Str) (gs : List Str)
    (h : g ∈ seen ∨ skip g = true) : firstNew skip seen (g :: gs) = firstNew skip seen gs := by
  have : (seen.contains g || skip g) = true := by
    rcases h with h | h <;> simp [h]
  simp only [firstNew, this, if_true]

theorem firstNew_cons_keep (skip : Str → Bool) (seen : List Str) (g : Str) (gs : List Str)
    (h1 : g ∉ seen) (h2 : skip g = false) :
    firstNew skip seen (g :: gs) = g :: firstNew skip (seen ++ [g]) gs := by
  have : (seen.contains g || skip g) = false := by simp [h1, h2]
  simp only [firstNew, this, Bool.false_eq_true, if_false]

theorem dropCase (skip : Str → Bool) (f : Str) (done : List Str) :
    (f ∈ done ∨ skip f = true) ∨ (f ∉ done ∧ skip f = false) := by
  by_cases h : f ∈ done
  · exact Or.inl (Or.inl h)
  · cases hs : skip f with
    | true => exact Or.inl (Or.inr rfl)
    | false => exact Or.inr ⟨h, rfl⟩

/-- what the inner `for` loop of shell.py appends to `todo` -/
theorem foldl_firstNew (skip : Str → Bool) (base : List Str) : ∀ (gs acc : List Str),
    gs.foldl (fun acc g => if (base ++ acc).contains g || skip g then acc else acc ++ [g]) acc
      = acc ++ firstNew skip (base ++ acc) gs
  | [], acc => by simp [firstNew]
  | x :: xs, acc => by
    rw [List.foldl_cons]
    by_cases hc : ((base ++ acc).contains x || skip x) = true
    · rw [if_pos hc, foldl_firstNew skip base xs acc]
      simp only [firstNew, hc, if_true]
    · rw [if_neg hc, foldl_firstNew skip base xs (acc ++ [x])]
      simp only [firstNew, hc, if_false, Bool.false_eq_true]
      simp [List.append_assoc]

theorem mem_firstNew (skip : Str → Bool) (g : Str) : ∀ (l seen : List Str),
    g ∈ firstNew skip seen l ↔ g ∈ l ∧ g ∉ seen ∧ skip g = false
  | [], seen => by simp [firstNew]
  | x :: xs, seen => by
    rcases dropCase skip x seen with hc | ⟨h1, h2⟩
    · rw [firstNew_cons_drop skip seen x xs hc, mem_firstNew skip g xs seen]
      constructor
      · rintro ⟨h1, h2, h3⟩; exact ⟨List.mem_cons_of_mem _ h1, h2, h3⟩
      · rintro ⟨h1, h2, h3⟩
        rcases List.mem_cons.mp h1 with rfl | h1
        · rcases hc with hc | hc
          · exact absurd hc h2
          · rw [h3] at hc; exact absurd hc (by simp)
        · exact ⟨h1, h2, h3⟩
    · rw [firstNew_cons_keep skip seen x xs h1 h2, List.mem_cons, mem_firstNew skip g xs (seen ++ [x])]
      constructor
      · rintro (rfl | ⟨h3, h4, h5⟩)
        · exact ⟨List.mem_cons_self, h1, h2⟩
        · exact ⟨List.mem_cons_of_mem _ h3, fun h => h4 (List.mem_append_left _ h), h5⟩
      · rintro ⟨h3, h4, h5⟩
        by_cases e : g = x
        · exact Or.inl e
        · refine Or.inr ⟨?_, ?_, h5⟩
          · rcases List.mem_cons.mp h3 with h | h
            · exact absurd h e
            · exact h
          · intro h
            rcases List.mem_append.mp h with h | h
            · exact h4 h
            · exact e (List.mem_singleton.mp h)

theorem firstNew_nodup (skip : Str → Bool) : ∀ (l seen : List Str), (firstNew skip seen l).Nodup
  | [], _ => by simp [firstNew]
  | x :: xs, seen => by
    rcases dropCase skip x seen with hc | ⟨h1, h2⟩
    · rw [firstNew_cons_drop skip seen x xs hc]; exact firstNew_nodup skip xs seen
    · rw [firstNew_cons_keep skip seen x xs h1 h2, List.nodup_cons]
      refine ⟨?_, firstNew_nodup skip xs _⟩
      intro h
      have := ((mem_firstNew skip x xs (seen ++ [x])).mp h).2.1
      exact this (List.mem_append_right _ (List.mem_singleton.mpr rfl))

theorem firstNew_congr (skip : Str → Bool) : ∀ (l seen seen' : List Str),
    (∀ g, skip g = false → (g ∈ seen ↔ g ∈ seen')) → firstNew skip seen l = firstNew skip seen' l
  | [], _, _, _ => by simp [firstNew]
  | x :: xs, seen, seen', h => by
    by_cases hs : skip x = true
    · rw [firstNew_cons_drop skip seen x xs (Or.inr hs), firstNew_cons_drop skip seen' x xs (Or.inr hs)]
      exact firstNew_congr skip xs seen seen' h
    · have hs' : skip x = false := by simpa using hs
      by_cases hm : x ∈ seen
      · rw [firstNew_cons_drop skip seen x xs (Or.inl hm),
          firstNew_cons_drop skip seen' x xs (Or.inl ((h x hs').mp hm))]
        exact firstNew_congr skip xs seen seen' h
      · have hm' : x ∉ seen' := fun h' => hm ((h x hs').mpr h')
        rw [firstNew_cons_keep skip seen x xs hm hs', firstNew_cons_keep skip seen' x xs hm' hs']
        congr 1
        apply firstNew_congr skip xs
        intro g hg
        simp only [List.mem_append, List.mem_singleton, h g hg]

theorem firstNew_append (skip : Str → Bool) (b : List Str) : ∀ (a seen : List Str),
    firstNew skip seen (a ++ b) = firstNew skip seen a ++ firstNew skip (seen ++ firstNew skip seen a) b
  | [], seen => by simp [firstNew]
  | x :: a, seen => by
    rcases dropCase skip x seen with hc | ⟨h1, h2⟩
    · rw [List.cons_append, firstNew_cons_drop skip seen x _ hc, firstNew_cons_drop skip seen x _ hc]
      exact firstNew_append skip b a seen
    · rw [List.cons_append, firstNew_cons_keep skip seen x _ h1 h2, firstNew_cons_keep skip seen x _ h1 h2,
        firstNew_append skip b a (seen ++ [x])]
      simp [List.append_assoc]

theorem firstNew_self (skip : Str → Bool) : ∀ (l seen : List Str), l.Nodup →
    (∀ g ∈ l, g ∉ seen ∧ skip g = false) → firstNew skip seen l = l
  | [], _, _, _ => by simp [firstNew]
  | x :: xs, seen, hn, h => by
    obtain ⟨h1, h2⟩ := h x List.mem_cons_self
    rw [List.nodup_cons] at hn
    rw [firstNew_cons_keep skip seen x xs h1 h2, firstNew_self skip xs (seen ++ [x]) hn.2]
    intro g hg
    obtain ⟨h3, h4⟩ := h g (List.mem_cons_of_mem _ hg)
    refine ⟨?_, h4⟩
    intro h'
    rcases List.mem_append.mp h' with h' | h'
    · exact h3 h'
    · rw [List.mem_singleton] at h'; subst h'; exact hn.1 hg

theorem firstNew_prefix (skip : Str → Bool) (seen a b : List Str) :
    firstNew skip seen a <+: firstNew skip seen (a ++ b) := by
  rw [firstNew_append]; exact List.prefix_append _ _

theorem includeLoop_step {includes : Str → List Str} {skip : Str → Bool} {fuel : Nat} {f : Str}
    {todo done : List Str} (h1 : f ∉ done) (h2 : skip f = false) :
    includeLoop includes skip (fuel + 1) (f :: todo) done =
      includeLoop includes skip fuel (todo ++ firstNew skip ((done ++ [f]) ++ todo) (includes f)) (done ++ [f]) := by
  have hc : (done.contains f || skip f) = false := by simp [h1, h2]
  simp only [includeLoop, hc, Bool.false_eq_true, if_false, foldl_firstNew, List.nil_append, List.append_nil]

theorem includeLoop_drop {includes : Str → List Str} {skip : Str → Bool} {fuel : Nat} {f : Str}
    {todo done : List Str} (h : f ∈ done ∨ skip f = true) :
    includeLoop includes skip (fuel + 1) (f :: todo) done = includeLoop includes skip fuel todo done := by
  have hc : (done.contains f || skip f) = true := by
    rcases h with h | h <;> simp [h]
  simp only [includeLoop, hc, if_true]

theorem includeLoop_inv (includes : Str → List Str) (skip : Str → Bool) (P : List Str → List Str → Prop)
    (hdrop : ∀ f todo done, f ∈ done ∨ skip f = true → P (f :: todo) done → P todo done)
    (hstep : ∀ f todo done, f ∉ done → skip f = false → P (f :: todo) done →
      P (todo ++ firstNew skip ((done ++ [f]) ++ todo) (includes f)) (done ++ [f]))
    (fuel : Nat) (todo done out : List Str) (h0 : P todo done)
    (h : includeLoop includes skip fuel todo done = some out) : P [] out := by
  induction fuel generalizing todo done with
  | zero =>
    cases todo with
    | nil => simp only [includeLoop, Option.some.injEq] at h; subst h; exact h0
    | cons f todo => simp [includeLoop] at h
  | succ fuel ih =>
    cases todo with
    | nil => simp only [includeLoop, Option.some.injEq] at h; subst h; exact h0
    | cons f todo =>
      rcases dropCase skip f done with hc | ⟨h1, h2⟩
      · rw [includeLoop_drop hc] at h
        exact ih _ _ (hdrop f todo done hc h0) h
      · rw [includeLoop_step h1 h2] at h
        exact ih _ _ (hstep f todo done h1 h2 h0) h

theorem includeLoop_reach (includes : Str → List Str) (skip : Str → Bool) (fuel : Nat) (todo done out : List Str)
    (R : Str → Prop) (hR : ∀ f, skip f = false → R f → ∀ g ∈ includes f, skip g = false → R g)
    (ht : ∀ f ∈ todo, skip f = false → R f) (hd : ∀ f ∈ done, R f)
    (h : includeLoop includes skip fuel todo done = some out) : ∀ f ∈ out, R f := by
  refine (includeLoop_inv includes skip (fun t d => (∀ f ∈ t, skip f = false → R f) ∧ (∀ f ∈ d, R f)) ?_ ?_
    fuel todo done out ⟨ht, hd⟩ h).2
  · intro f t d _ ⟨ht, hd⟩
    exact ⟨fun g hg => ht g (List.mem_cons_of_mem _ hg), hd⟩
  · intro f t d _ h2 ⟨ht, hd⟩
    have hf : R f := ht f List.mem_cons_self h2
    constructor
    · intro g hg hs
      rcases List.mem_append.mp hg with hg | hg
      · exact ht g (List.mem_cons_of_mem _ hg) hs
      · exact hR f h2 hf g ((mem_firstNew skip g _ _).mp hg).1 hs
    · intro g hg
      rcases List.mem_append.mp hg with hg | hg
      · exact hd g hg
      · simp only [List.mem_singleton] at hg; subst hg; exact hf

end IncludeLoop
open IncludeLoop

/-! ### what holds of every result -/

theorem includeLoop_prefix (includes : Str → List Str) (skip : Str → Bool) (fuel : Nat) (todo done out : List Str)
    (h : includeLoop includes skip fuel todo done = some out) : done <+: out :=
  includeLoop_inv includes skip (fun _ d => done <+: d) (fun _ _ _ _ hp => hp)
    (fun f _ d _ _ hp => hp.trans (List.prefix_append d [f])) fuel todo done out (List.prefix_refl _) h

theorem includeLoop_nodup (includes : Str → List Str) (skip : Str → Bool) (fuel : Nat) (todo done out : List Str)
    (hd : done.Nodup) (hs : ∀ f ∈ done, skip f = false)
    (h : includeLoop includes skip fuel todo done = some out) :
    out.Nodup ∧ (∀ f ∈ out, skip f = false) ∧ done <+: out := by
  suffices key : out.Nodup ∧ ∀ f ∈ out, skip f = false from ⟨key.1, key.2, includeLoop_prefix _ _ _ _ _ _ h⟩
  refine includeLoop_inv includes skip (fun _ d => d.Nodup ∧ ∀ f ∈ d, skip f = false) (fun _ _ _ _ hp => hp) ?_
    fuel todo done out ⟨hd, hs⟩ h
  intro f _ d hnd hsf ⟨hd, hs⟩
  constructor
  · rw [List.nodup_append]
    refine ⟨hd, (by simp), ?_⟩
    intro a ha b hb
    simp only [List.mem_singleton] at hb; subst hb
    intro e; subst e; exact hnd ha
  · intro g hg
    rcases List.mem_append.mp hg with hg | hg
    · exact hs g hg
    · simp only [List.mem_singleton] at hg; subst hg; exact hsf

theorem includeLoop_closed (includes : Str → List Str) (skip : Str → Bool) (fuel : Nat) (todo done out : List Str)
    (hinv : ∀ f ∈ done, ∀ g ∈ includes f, skip g = false → g ∈ done ∨ g ∈ todo)
    (h : includeLoop includes skip fuel todo done = some out) :
    (∀ f ∈ todo, skip f = false → f ∈ out) ∧
    (∀ f ∈ out, ∀ g ∈ includes f, skip g = false → g ∈ out) := by
  -- invariant: what must end up in the result (the given files, the inclusions of checked files) is
  -- checked already or still queued
  suffices key : (∀ f ∈ todo, skip f = false → f ∈ out ∨ f ∈ []) ∧
      (∀ f ∈ out, ∀ g ∈ includes f, skip g = false → g ∈ out ∨ g ∈ []) from
    ⟨fun f hf hs => (key.1 f hf hs).resolve_right List.not_mem_nil,
     fun f hf g hg hs => (key.2 f hf g hg hs).resolve_right List.not_mem_nil⟩
  refine includeLoop_inv includes skip (fun t d => (∀ f ∈ todo, skip f = false → f ∈ d ∨ f ∈ t) ∧
      (∀ f ∈ d, ∀ g ∈ includes f, skip g = false → g ∈ d ∨ g ∈ t)) ?_ ?_ fuel todo done out
    ⟨fun f hf _ => Or.inr hf, hinv⟩ h
  · intro f t d hc ⟨h1, h2⟩
    have drop : ∀ g, skip g = false → g ∈ d ∨ g ∈ f :: t → g ∈ d ∨ g ∈ t := by
      intro g hs hg
      rcases hg with hg | hg
      · exact Or.inl hg
      · rcases List.mem_cons.mp hg with rfl | hg
        · rcases hc with hc | hc
          · exact Or.inl hc
          · rw [hs] at hc; cases hc
        · exact Or.inr hg
    exact ⟨fun g hg hs => drop g hs (h1 g hg hs), fun f' hf' g hg hs => drop g hs (h2 f' hf' g hg hs)⟩
  · intro f t d _ _ ⟨h1, h2⟩
    have move : ∀ g, g ∈ d ∨ g ∈ f :: t →
        g ∈ d ++ [f] ∨ g ∈ t ++ firstNew skip ((d ++ [f]) ++ t) (includes f) := by
      intro g hg
      rcases hg with hg | hg
      · exact Or.inl (List.mem_append_left _ hg)
      · rcases List.mem_cons.mp hg with rfl | hg
        · exact Or.inl (List.mem_append_right _ (List.mem_singleton.mpr rfl))
        · exact Or.inr (List.mem_append_left _ hg)
    refine ⟨fun g hg hs => move g (h1 g hg hs), ?_⟩
    intro f' hf' g hg hs
    rcases List.mem_append.mp hf' with hf' | hf'
    · exact move g (h2 f' hf' g hg hs)
    · simp only [List.mem_singleton] at hf'; subst hf'
      -- an inclusion of the file just checked is known, queued, or discovered by this step
      by_cases hb : g ∈ (d ++ [f']) ++ t
      · exact (List.mem_append.mp hb).imp id (List.mem_append_left _)
      · exact Or.inr (List.mem_append_right _ ((mem_firstNew skip g _ _).mpr ⟨hg, hb, hs⟩))

theorem includeLoop_reachable (includes : Str → List Str) (skip : Str → Bool) (fuel : Nat) (todo done out : List Str)
    (R : Str → Prop) (hR : ∀ f, R f → ∀ g ∈ includes f, R g)
    (ht : ∀ f ∈ todo, R f) (hd : ∀ f ∈ done, R f)
    (h : includeLoop includes skip fuel todo done = some out) : ∀ f ∈ out, R f :=
  includeLoop_reach includes skip fuel todo done out R (fun f _ hf g hg _ => hR f hf g hg)
    (fun f hf _ => ht f hf) hd h

namespace IncludeLoop

/-! ### termination -/

/-- **termination.**  `U` is a finite list that contains every included name that is not
    skipped.  `S` (ghost) = the names appended to `todo` so far: pairwise different, in `U`, not
    skipped, each still in `todo` or already in `done`.  Every iteration removes one entry of
    `todo`; appended entries are new members of `S`, of which there are at most `|U|`. -/
theorem includeLoop_terminates_aux (includes : Str → List Str) (skip : Str → Bool) (U : List Str)
    (hU : ∀ f g, g ∈ includes f → skip g = false → g ∈ U) :
    ∀ (fuel : Nat) (todo done S : List Str), S.Nodup →
      (∀ g ∈ S, g ∈ U ∧ skip g = false ∧ (g ∈ done ∨ g ∈ todo)) →
      todo.length + (U.length - S.length) ≤ fuel →
      ∃ out, includeLoop includes skip fuel todo done = some out := by
  intro fuel
  induction fuel with
  | zero =>
    intro todo done S _ _ hf
    cases todo with
    | nil => exact ⟨done, by simp [includeLoop]⟩
    | cons f todo => simp at hf
  | succ fuel ih =>
    intro todo done S hn hS hf
    cases todo with
    | nil => exact ⟨done, by simp [includeLoop]⟩
    | cons f todo =>
      rcases dropCase skip f done with hc | ⟨h1, h2⟩
      · rw [includeLoop_drop hc]
        refine ih todo done S hn ?_ (by simp only [List.length_cons] at hf; omega)
        intro g hg
        obtain ⟨a, b, c⟩ := hS g hg
        refine ⟨a, b, ?_⟩
        rcases c with c | c
        · exact Or.inl c
        · rcases List.mem_cons.mp c with rfl | c
          · rcases hc with hc | hc
            · exact Or.inl hc
            · rw [b] at hc; exact absurd hc (by simp)
          · exact Or.inr c
      · rw [includeLoop_step h1 h2]
        have hnew : ∀ g ∈ firstNew skip ((done ++ [f]) ++ todo) (includes f),
            g ∈ includes f ∧ g ∉ (done ++ [f]) ++ todo ∧ skip g = false :=
          fun g hg => (mem_firstNew skip g _ _).mp hg
        have hS' : ∀ g ∈ S, g ∈ (done ++ [f]) ++ todo := by
          intro g hg
          obtain ⟨_, _, c⟩ := hS g hg
          rcases c with c | c
          · exact List.mem_append_left _ (List.mem_append_left _ c)
          · rcases List.mem_cons.mp c with rfl | c
            · exact List.mem_append_left _ (List.mem_append_right _ (List.mem_singleton.mpr rfl))
            · exact List.mem_append_right _ c
        have hn' : (S ++ firstNew skip ((done ++ [f]) ++ todo) (includes f)).Nodup := by
          rw [List.nodup_append]
          refine ⟨hn, firstNew_nodup skip _ _, ?_⟩
          intro a ha b hb e
          subst e
          exact (hnew a hb).2.1 (hS' a ha)
        have hsub : S ++ firstNew skip ((done ++ [f]) ++ todo) (includes f) ⊆ U := by
          intro g hg
          rcases List.mem_append.mp hg with hg | hg
          · exact (hS g hg).1
          · exact hU f g (hnew g hg).1 (hnew g hg).2.2
        have hlen := hn'.length_le_of_subset hsub
        simp only [List.length_append] at hlen
        refine ih _ _ _ hn' ?_ ?_
        · intro g hg
          rcases List.mem_append.mp hg with hg' | hg'
          · refine ⟨(hS g hg').1, (hS g hg').2.1, ?_⟩
            rcases List.mem_append.mp (hS' g hg') with c | c
            · exact Or.inl c
            · exact Or.inr (List.mem_append_left _ c)
          · exact ⟨hsub hg, (hnew g hg').2.2, Or.inr (List.mem_append_right _ hg')⟩
        · simp only [List.length_append, List.length_cons] at hf ⊢
          omega

theorem includeLoop_terminates (includes : Str → List Str) (skip : Str → Bool) (U : List Str)
    (hU : ∀ f g, g ∈ includes f → skip g = false → g ∈ U) (fuel : Nat) (todo done : List Str)
    (hf : todo.length + U.length ≤ fuel) :
    ∃ out, includeLoop includes skip fuel todo done = some out :=
  includeLoop_terminates_aux includes skip U hU fuel todo done [] List.nodup_nil (by simp)
    (by simpa using hf)

/-! ### exactness: reachability through files that are not skipped -/

inductive ReachNS (includes : Str → List Str) (skip : Str → Bool) (roots : List Str) : Str → Prop where
  | root (r : Str) : r ∈ roots → skip r = false → ReachNS includes skip roots r
  | step (f g : Str) : ReachNS includes skip roots f → g ∈ includes f → skip g = false →
      ReachNS includes skip roots g

theorem includeLoop_reachNS (includes : Str → List Str) (skip : Str → Bool) (roots : List Str)
    (fuel : Nat) (todo done out : List Str)
    (ht : ∀ f ∈ todo, skip f = false → ReachNS includes skip roots f)
    (hd : ∀ f ∈ done, ReachNS includes skip roots f)
    (h : includeLoop includes skip fuel todo done = some out) : ∀ f ∈ out, ReachNS includes skip roots f :=
  includeLoop_reach includes skip fuel todo done out _ (fun f _ hf g hg hs => .step f g hf hg hs) ht hd h

theorem reachNS_mem (includes : Str → List Str) (skip : Str → Bool) (roots out : List Str)
    (h1 : ∀ f ∈ roots, skip f = false → f ∈ out)
    (h2 : ∀ f ∈ out, ∀ g ∈ includes f, skip g = false → g ∈ out) :
    ∀ f, ReachNS includes skip roots f → f ∈ out := by
  intro f hf
  induction hf with
  | root r hr hs => exact h1 r hr hs
  | step f g _ hg hs ih => exact h2 f ih g hg hs

/-! ### the discovery order -/

theorem order_step (includes : Str → List Str) (skip : Str → Bool) (roots : List Str) (f : Str)
    (todo done : List Str) (h1 : f ∉ done) (h2 : skip f = false)
    (hJ : firstNew skip [] (roots ++ done.flatMap includes) = done ++ firstNew skip done (f :: todo)) :
    firstNew skip [] (roots ++ (done ++ [f]).flatMap includes)
      = (done ++ [f]) ++ firstNew skip (done ++ [f])
          (todo ++ firstNew skip ((done ++ [f]) ++ todo) (includes f)) := by
  rw [firstNew_cons_keep skip done f todo h1 h2] at hJ
  have e1 : roots ++ (done ++ [f]).flatMap includes
      = (roots ++ done.flatMap includes) ++ includes f := by
    simp [List.flatMap_append, List.append_assoc]
  rw [e1, firstNew_append, hJ, firstNew_append skip _ todo (done ++ [f])]
  simp only [List.nil_append]
  have e2 : done ++ f :: firstNew skip (done ++ [f]) todo
      = (done ++ [f]) ++ firstNew skip (done ++ [f]) todo := by simp [List.append_assoc]
  rw [e2, List.append_assoc (done ++ [f])]
  congr 2
  -- `done' ++ N(done', todo)` and `done' ++ todo` have the same non-skipped members
  have hcongr : firstNew skip ((done ++ [f]) ++ firstNew skip (done ++ [f]) todo) (includes f)
      = firstNew skip ((done ++ [f]) ++ todo) (includes f) := by
    apply firstNew_congr
    intro g hg
    simp only [List.mem_append, mem_firstNew, hg, and_true]
    constructor
    · rintro (h | ⟨h, _⟩)
      · exact Or.inl h
      · exact Or.inr h
    · rintro (h | h)
      · exact Or.inl h
      · by_cases hd : g ∈ done ∨ g ∈ [f]
        · exact Or.inl hd
        · exact Or.inr ⟨h, hd⟩
  rw [hcongr]
  symm
  apply firstNew_self _ _ _ (firstNew_nodup skip _ _)
  intro g hg
  obtain ⟨_, h4, h5⟩ := (mem_firstNew skip g _ _).mp hg
  refine ⟨?_, h5⟩
  intro h'
  apply h4
  rcases List.mem_append.mp h' with h' | h'
  · exact List.mem_append_left _ h'
  · exact List.mem_append_right _ ((mem_firstNew skip g _ _).mp h').1

theorem includeLoop_order (includes : Str → List Str) (skip : Str → Bool) (roots : List Str)
    (fuel : Nat) (todo done out : List Str)
    (hJ : firstNew skip [] (roots ++ done.flatMap includes) = done ++ firstNew skip done todo)
    (h : includeLoop includes skip fuel todo done = some out) :
    firstNew skip [] (roots ++ out.flatMap includes) = out := by
  have := includeLoop_inv includes skip
    (fun todo done => firstNew skip [] (roots ++ done.flatMap includes) = done ++ firstNew skip done todo)
    (fun f todo done hc hJ => by rwa [firstNew_cons_drop skip done f todo hc] at hJ)
    (fun f todo done h1 h2 hJ => order_step includes skip roots f todo done h1 h2 hJ) fuel todo done out hJ h
  simpa [firstNew] using this

def Causal (includes : Str → List Str) (roots l : List Str) : Prop :=
  ∀ pre f post, l = pre ++ f :: post → f ∈ roots ∨ ∃ d ∈ pre, f ∈ includes d

theorem includeLoop_causal (includes : Str → List Str) (skip : Str → Bool) (roots : List Str)
    (fuel : Nat) (todo done out : List Str)
    (hJ : firstNew skip [] (roots ++ done.flatMap includes) = done ++ firstNew skip done todo)
    (hC : Causal includes roots done)
    (h : includeLoop includes skip fuel todo done = some out) : Causal includes roots out := by
  refine (includeLoop_inv includes skip
    (fun todo done => firstNew skip [] (roots ++ done.flatMap includes) = done ++ firstNew skip done todo ∧
      Causal includes roots done) ?_ ?_ fuel todo done out ⟨hJ, hC⟩ h).2
  · intro f todo done hc hP
    exact ⟨by rw [← firstNew_cons_drop skip done f todo hc]; exact hP.1, hP.2⟩
  · intro f todo done h1 h2 ⟨hJ, hC⟩
    refine ⟨order_step includes skip roots f todo done h1 h2 hJ, ?_⟩
    -- `f` itself: it is in `N([], roots ++ done.flatMap includes)`
    have hf : f ∈ roots ∨ ∃ d ∈ done, f ∈ includes d := by
      have : f ∈ firstNew skip [] (roots ++ done.flatMap includes) := by
        rw [hJ, firstNew_cons_keep skip done f todo h1 h2]
        exact List.mem_append_right _ List.mem_cons_self
      have := ((mem_firstNew skip f _ _).mp this).1
      rcases List.mem_append.mp this with h | h
      · exact Or.inl h
      · obtain ⟨d, hd, hfd⟩ := List.mem_flatMap.mp h
        exact Or.inr ⟨d, hd, hfd⟩
    intro pre g post e
    rcases List.append_eq_append_iff.mp e with ⟨a', hp, hq⟩ | ⟨c', hp, hq⟩
    · -- pre = done ++ a', [f] = a' ++ g :: post
      cases a' with
      | nil =>
        simp only [List.nil_append, List.cons.injEq] at hq
        obtain ⟨rfl, _⟩ := hq
        simp only [List.append_nil] at hp
        subst hp
        exact hf
      | cons x a' =>
        simp only [List.cons_append, List.cons.injEq] at hq
        have := hq.2
        simp at this
    · -- done = pre ++ c', g :: post = c' ++ [f]
      cases c' with
      | nil =>
        simp only [List.nil_append, List.cons.injEq] at hq
        obtain ⟨rfl, _⟩ := hq
        simp only [List.append_nil] at hp
        subst hp
        exact hf
      | cons x c' =>
        simp only [List.cons_append, List.cons.injEq] at hq
        obtain ⟨rfl, _⟩ := hq
        exact hC pre g c' hp

/-! ### the two order properties determine the list -/

/-- the discovery sequence of a list of checked files -/
def disc (includes : Str → List Str) (skip : Str → Bool) (roots l : List Str) : List Str :=
  firstNew skip [] (roots ++ l.flatMap includes)

theorem disc_mono (includes : Str → List Str) (skip : Str → Bool) (roots p q : List Str) :
    disc includes skip roots p <+: disc includes skip roots (p ++ q) := by
  unfold disc
  rw [List.flatMap_append, ← List.append_assoc]
  exact firstNew_prefix skip [] _ _

/-- in a causal fixed point of `disc` the next member is already discovered by its predecessors -/
theorem disc_next (includes : Str → List Str) (skip : Str → Bool) (roots X : List Str)
    (hX : X = disc includes skip roots X) (cX : Causal includes roots X) (pre : List Str) (f : Str)
    (post : List Str) (e : X = pre ++ f :: post) : pre ++ [f] <+: disc includes skip roots pre := by
  have hnd : X.Nodup := by rw [hX]; exact firstNew_nodup skip _ _
  have hpX : disc includes skip roots pre <+: X := by
    have := disc_mono includes skip roots pre (f :: post)
    rw [← e, ← hX] at this
    exact this
  have hfX : pre ++ [f] <+: X := ⟨post, by rw [e]; simp⟩
  have hfs : skip f = false := by
    have : f ∈ X := by rw [e]; simp
    rw [hX] at this
    exact ((mem_firstNew skip f _ _).mp this).2.2
  have hfd : f ∈ disc includes skip roots pre := by
    refine (mem_firstNew skip f _ _).mpr ⟨?_, by simp, hfs⟩
    rcases cX pre f post e with h | ⟨d, hd, hfd⟩
    · exact List.mem_append_left _ h
    · exact List.mem_append_right _ (List.mem_flatMap.mpr ⟨d, hd, hfd⟩)
  have hfp : f ∉ pre := by
    rw [e, List.nodup_append] at hnd
    intro h
    exact hnd.2.2 f h f List.mem_cons_self rfl
  apply List.prefix_of_prefix_length_le hfX hpX
  simp only [List.length_append, List.length_cons, List.length_nil]
  apply Nat.lt_of_not_le
  intro hle
  have hpp : pre <+: X := ⟨f :: post, e.symm⟩
  have := List.prefix_of_prefix_length_le hpX hpp hle
  exact hfp (this.subset hfd)

theorem bfs_unique_aux_zero (includes : Str → List Str) (skip : Str → Bool) (roots X Y : List Str)
    (hX : X = disc includes skip roots X)
    (hY : Y = disc includes skip roots Y) (cY : Causal includes roots Y)
    (pre sy : List Str) (ex : X = pre ++ []) (ey : Y = pre ++ sy) : X = Y := by
  cases sy with
  | nil => rw [ex, ey]
  | cons g py =>
    have h := disc_next includes skip roots Y hY cY pre g py ey
    have hp : disc includes skip roots pre = pre := by
      have : pre = X := by simpa using ex.symm
      rw [this]; exact hX.symm
    rw [hp] at h
    have := h.length_le
    simp only [List.length_append, List.length_cons, List.length_nil] at this
    omega

theorem bfs_unique_aux (includes : Str → List Str) (skip : Str → Bool) (roots X Y : List Str)
    (hX : X = disc includes skip roots X) (cX : Causal includes roots X)
    (hY : Y = disc includes skip roots Y) (cY : Causal includes roots Y) :
    ∀ (sx pre sy : List Str), X = pre ++ sx → Y = pre ++ sy → X = Y
  | [], pre, sy, ex, ey => bfs_unique_aux_zero includes skip roots X Y hX hY cY pre sy ex ey
  | f :: px, pre, [], ex, ey =>
    (bfs_unique_aux_zero includes skip roots Y X hY hX cX pre (f :: px) ey ex).symm
  | f :: px, pre, g :: py, ex, ey => by
    have h1 := disc_next includes skip roots X hX cX pre f px ex
    have h2 := disc_next includes skip roots Y hY cY pre g py ey
    have h3 : pre ++ [f] = pre ++ [g] :=
      (List.prefix_of_prefix_length_le h1 h2 (by simp)).eq_of_length (by simp)
    have hfg : f = g := by simpa using h3
    subst hfg
    exact bfs_unique_aux includes skip roots X Y hX cX hY cY px (pre ++ [f]) py (by rw [ex]; simp)
      (by rw [ey]; simp)

theorem bfs_unique (includes : Str → List Str) (skip : Str → Bool) (roots X Y : List Str)
    (hX : X = firstNew skip [] (roots ++ X.flatMap includes)) (cX : Causal includes roots X)
    (hY : Y = firstNew skip [] (roots ++ Y.flatMap includes)) (cY : Causal includes roots Y) :
    X = Y :=
  bfs_unique_aux includes skip roots X Y hX cX hY cY X [] Y rfl rfl

/-! ### all of it -/

/-- **the work list of `--include`, for an abstract inclusion function.**  `U` = a finite list
    containing every included name that is not skipped.  With fuel `|roots| + |U|` the loop
    terminates; its result has no duplicates, consists exactly of the files reachable from the
    roots through files that are not skipped, and is in breadth-first discovery order. -/
theorem includeLoop_bfs (includes : Str → List Str) (skip : Str → Bool) (U roots : List Str)
    (hU : ∀ f g, g ∈ includes f → skip g = false → g ∈ U) (fuel : Nat)
    (hf : roots.length + U.length ≤ fuel) :
    ∃ out, includeLoop includes skip fuel roots [] = some out ∧
      out.Nodup ∧
      (∀ f, f ∈ out ↔ ReachNS includes skip roots f) ∧
      out = firstNew skip [] (roots ++ out.flatMap includes) ∧
      Causal includes roots out := by
  obtain ⟨out, h⟩ := includeLoop_terminates includes skip U hU fuel roots [] hf
  have hn := includeLoop_nodup includes skip fuel roots [] out List.nodup_nil (by simp) h
  have hc := includeLoop_closed includes skip fuel roots [] out (by simp) h
  have hJ : firstNew skip [] (roots ++ ([] : List Str).flatMap includes)
      = [] ++ firstNew skip [] roots := by simp
  refine ⟨out, h, hn.1, ?_, (includeLoop_order includes skip roots fuel roots [] out hJ h).symm,
    includeLoop_causal includes skip roots fuel roots [] out hJ ?_ h⟩
  · intro f
    constructor
    · exact includeLoop_reachNS includes skip roots fuel roots [] out
        (fun g hg hs => .root g hg hs) (by simp) h f
    · exact reachNS_mem includes skip roots out hc.1 hc.2 f
  · intro pre f post e
    simp at e

theorem includeLoop_fuel_mono (includes : Str → List Str) (skip : Str → Bool) :
    ∀ (fuel fuel' : Nat) (todo done out : List Str), fuel ≤ fuel' →
      includeLoop includes skip fuel todo done = some out →
      includeLoop includes skip fuel' todo done = some out := by
  intro fuel
  induction fuel with
  | zero =>
    intro fuel' todo done out _ h
    cases todo with
    | nil => cases fuel' <;> simpa [includeLoop] using h
    | cons f todo => simp [includeLoop] at h
  | succ fuel ih =>
    intro fuel' todo done out hle h
    cases todo with
    | nil => cases fuel' <;> simpa [includeLoop] using h
    | cons f todo =>
      obtain ⟨k, rfl⟩ : ∃ k, fuel' = k + 1 := ⟨fuel' - 1, by omega⟩
      rcases dropCase skip f done with hc | ⟨h1, h2⟩
      · rw [includeLoop_drop hc] at h ⊢; exact ih _ _ _ _ (by omega) h
      · rw [includeLoop_step h1 h2] at h ⊢; exact ih _ _ _ _ (by omega) h

end IncludeLoop
end Yalafi
