/-
  Proofs/PlainParEnv.lean (with Proofs/PlainParEnvBase.lean; the scanner runs on `{text}` and on skipped
  white space and `headSp_of_spaceStep` are those of Proofs/PlainThm.lean)
  — C05 "two words separated by `\par` or a paragraph-forming environment are separated by a blank line
  in the output", end to end on the model, for documents that consist of inert text (as in
  Proofs/PlainUnknown.lean), `\par` and PARAGRAPH-FORMING ENVIRONMENTS `\begin{name}{arg}` … `\end{name}`:
  environments declared with `add_pars`, ONE MANDATORY ARGUMENT, no replacement, no handlers — in the
  tables of /repo:
  `minipage` (`\begin{minipage}{5cm}`) and `thebibliography` (`\begin{thebibliography}{99}`) — in any
  order and nesting (the body is whatever segments stand in between).

  What the model does
    `\par`            a declared macro without arguments whose replacement is ONE PARAGRAPH TOKEN
        `\n\n`: `expand_macro` skips the white space behind the name (`skip_space`: space tokens —
        at most one line break —, not paragraph tokens) and returns an Action token and the
        paragraph token, re-stamped at the position of the backslash; the loop copies both.
    `\begin{name}{arg}`   `begin_environment` reads the name, finds the environment, emits the
        paragraph token `\n\n` of `add_pars`, pinned at `\begin`, collects `{arg}` and throws it
        away (no replacement): `expand_arguments` adds an Action token.  Nothing behind the closing
        brace of the argument is skipped.
    `\end{name}`      the paragraph token `\n\n` pinned at `\end`.
    At the end `remove_pure_action_lines` deletes every line that is blank and holds an Action
    token (`delLines` of Proofs/LinesRef.lean).
    NOT paragraph-forming for the filter, although they are for LaTeX: `quote`, `center`, `abstract`,
    `flushleft`, … — they are not declared in the tables; `\begin{quote}` is an unknown environment
    (name in the unknowns list), it leaves one Action token and no line break (see
    `C05_par_quote_eval` in Properties/PlainParEnvStmt.lean).

  The end-to-end statement `tex2txt_parenv`.  `tex2txt` succeeds; text and (1-based) positions are
  `delLines (marks 0 segs)`:
    text                 every character with its own position
    `\par ws`            a text-less mark and `\n\n` at the position of the backslash; `ws` (the white
                         space behind the name, at most one line break) is dropped
    `\begin{name}{arg}`  `\n\n` at the position of `\begin` and a text-less mark
    `\end{name}`         `\n\n` at the position of `\end`
  and then every line deleted, with its line break, that is blank and holds a mark;
  `unknowns = []`, no diagnostic.

  Paragraph level (`between_break` in Proofs/PlainParEnvRead.lean, with Proofs/PlainPara.lean): for two visible text characters `a`,
  `b` with `\par`, `\begin{…}{…}` or `\end{…}` anywhere between them the output between `a` and `b`
  holds a blank line; every generated line break carries the position of the backslash of its
  construct (`marks`).

  Side conditions (all in `SegsOk T st1 segs`, decidable; `st1` = state after `Parser.__init__`)
    `stateOk T st1`   the empty string is no "active character"; `\par` is declared with `parDeclOk`
                      (no arguments, no handler, replacement = one paragraph token `\n\n`); real
                      tables: yes
    text segments     `textOk` of Proofs/PlainUnknown.lean
    `parOkS ws R`     `\par` is one macro token (no letter follows); `ws` is the white space that
                      `skip_space` eats: white space with at most one line break, the WHOLE run, and
                      what follows does not start with skippable white space (a paragraph break
                      behind `\par` is fine: `ws = []`)
    `begOk`           no special sequence matches at the backslash, `{name}` does not open
                      `{verbatim}`; name and argument: `{` `}` scanned as braces, the text not empty
                      and inert in front of `}` (`PlainFootnote.textOk`); the name is declared with
                      `parEnvOk`
    `endOk`           the same for the name
    options           no --defs, --extr, --repl, --unkn; single-language mode
    fuel              `(render segs).length + 2 ≤ fuel`
  NOT covered: arguments with macros or braces; white space between `\begin{name}` and `{arg}`;
  environments with other signatures (`figure`, `table`: optional argument, no `add_pars`);
  `verbatim`; `proof` / theorem environments (Proofs/PlainThm.lean); `\par` followed by a letter
  (another macro); comments; multi-language mode.
-/
import YalafiVerif.Proofs.PlainParEnvBase
import YalafiVerif.Proofs.PlainThm
import YalafiVerif.Proofs.PlainPara
namespace Yalafi
namespace PlainParEnv

open M
open PlainMacro
open PlainRef (fixMarks)
open PlainItem (begTok endTok nBegin nEnd nextToken_begin nextToken_end firstTok_beg
  firstTok_end)
open PlainThm (parTok headSp headSp_of_spaceStep bracedTextOk BracedText bracedText scans_bracedText
  spToks_whiteSteps nameToks_of_run tokMarks_parTok simple_parTok cwTok_notSpace)

/-! ### the documents -/

/-- a segment of the source: a run of text; `\par` and the white space behind it;
    `\begin{name}{arg}`; `\end{name}` -/
inductive Seg where
  | txt (s : Str)
  | par (ws : Str)
  | beg (name arg : Str)
  | en (name : Str)
deriving Repr, DecidableEq

def Seg.render : Seg → Str
  | .txt s => s
  | .par ws => '\\' :: (parName ++ ws)
  | .beg name arg => '\\' :: (nBegin ++ '{' :: (name ++ '}' :: '{' :: (arg ++ ['}'])))
  | .en name => '\\' :: (nEnd ++ '{' :: (name ++ ['}']))

def render : List Seg → Str
  | [] => []
  | s :: rest => s.render ++ render rest

def Seg.len : Seg → Nat
  | .txt s => s.length
  | .par ws => ws.length + 4
  | .beg name arg => name.length + arg.length + 10
  | .en name => name.length + 6

/-- **the reference on the level of marks**: the document, which starts at position `p` — a text
    character with its position; for `\par` a text-less mark and a paragraph break at the position
    of the backslash (the white space behind the name is skipped); for `\begin{name}{arg}` a
    paragraph break at the position of `\begin` and a text-less mark; for `\end{name}` a paragraph
    break at the position of `\end` -/
def marks : Nat → List Seg → List Mark
  | _, [] => []
  | p, .txt s :: rest => (posText p s).map some ++ marks (p + s.length) rest
  | p, .par ws :: rest => none :: (fixMarks p [nl, nl] ++ marks (p + (ws.length + 4)) rest)
  | p, .beg name arg :: rest =>
    fixMarks p [nl, nl] ++ none :: marks (p + (name.length + arg.length + 10)) rest
  | p, .en name :: rest => fixMarks p [nl, nl] ++ marks (p + (name.length + 6)) rest

/-! ### the side conditions -/

def stateOk (T : PTables) (st : PState) : Bool := noEmptyActive T st && parOk st

/-- `\par ws`, followed by `R`: one macro token; `ws` is the white space `skip_space` eats — at
    most one line break, the whole run —, and `R` does not start with skippable white space -/
def parOkS (T : PTables) (ws R : Str) : Bool :=
  PlainRef.nameOk T parName (ws ++ R) &&
  ws.all isSpace && decide (countNl ws < 2) && (ws.isEmpty || R.head?.all (fun d => !isSpace d)) &&
  !headSp R

def begOk (T : PTables) (st : PState) (name arg R : Str) : Bool :=
  (matchSpecial T.toTables ('\\' :: (nBegin ++ '{' :: (name ++ '}' :: '{' :: (arg ++ '}' :: R))))).isNone &&
  !startsWith ('{' :: (name ++ '}' :: '{' :: (arg ++ '}' :: R))) sVerbatimArg &&
  bracedTextOk T st name ('{' :: (arg ++ '}' :: R)) && parEnvAt st name &&
  bracedTextOk T st arg R

def endOk (T : PTables) (st : PState) (name R : Str) : Bool :=
  (matchSpecial T.toTables ('\\' :: (nEnd ++ '{' :: (name ++ '}' :: R)))).isNone &&
  bracedTextOk T st name R && parEnvAt st name

def segsOk (T : PTables) (st : PState) : List Seg → Bool
  | [] => true
  | .txt s :: rest => textOk T st s (render rest) && segsOk T st rest
  | .par ws :: rest => parOkS T ws (render rest) && segsOk T st rest
  | .beg name arg :: rest => begOk T st name arg (render rest) && segsOk T st rest
  | .en name :: rest => endOk T st name (render rest) && segsOk T st rest

def SegsOk (T : PTables) (st : PState) (segs : List Seg) : Prop :=
  stateOk T st = true ∧ segsOk T st segs = true

instance (T : PTables) (st : PState) (segs : List Seg) : Decidable (SegsOk T st segs) := by
  unfold SegsOk; infer_instance

/-! ### the conditions as propositions -/

structure ParFacts (T : PTables) (ws R : Str) : Prop where
  cw : CwFacts T ({ macros := [] } : PState) parName (ws ++ R)
  blank : ws.all isSpace = true
  nls : countNl ws < 2
  whole : ws = [] ∨ R.head?.all (fun d => !isSpace d) = true
  head : headSp R = false

theorem parFacts {T : PTables} {ws R : Str} (h : parOkS T ws R = true) : ParFacts T ws R := by
  simp only [parOkS, PlainRef.nameOk, Bool.and_eq_true, decide_eq_true_eq, Bool.or_eq_true,
    List.isEmpty_iff, Bool.not_eq_true'] at h
  exact ⟨cwFacts h.1.1.1.1, h.1.1.1.2, h.1.1.2, h.1.2, h.2⟩

structure BegFacts (T : PTables) (st : PState) (name arg R : Str) : Prop where
  special : matchSpecial T.toTables
    ('\\' :: (nBegin ++ '{' :: (name ++ '}' :: '{' :: (arg ++ '}' :: R)))) = none
  noverb : startsWith ('{' :: (name ++ '}' :: '{' :: (arg ++ '}' :: R))) sVerbatimArg = false
  nm : BracedText T st name ('{' :: (arg ++ '}' :: R))
  env : ParEnvAt st name
  ag : BracedText T st arg R

theorem begFacts {T : PTables} {st : PState} {name arg R : Str} (h : begOk T st name arg R = true) :
    BegFacts T st name arg R := by
  simp only [begOk, Bool.and_eq_true, Bool.not_eq_true', Option.isNone_iff_eq_none] at h
  exact ⟨h.1.1.1.1, h.1.1.1.2, bracedText h.1.1.2, ParEnvAt_of h.1.2, bracedText h.2⟩

structure EndFacts (T : PTables) (st : PState) (name R : Str) : Prop where
  special : matchSpecial T.toTables ('\\' :: (nEnd ++ '{' :: (name ++ '}' :: R))) = none
  nm : BracedText T st name R
  env : ParEnvAt st name

theorem endFacts {T : PTables} {st : PState} {name R : Str} (h : endOk T st name R = true) :
    EndFacts T st name R := by
  simp only [endOk, Bool.and_eq_true, Option.isNone_iff_eq_none] at h
  exact ⟨h.1.1, bracedText h.1.2, ParEnvAt_of h.2⟩

/-- a construct at the head of the source -/
inductive Con (T : PTables) (st : PState) : Nat → Str → List Mark → Nat → Str → List Mark → Prop
  | par (p : Nat) (ws R : Str) (ms : List Mark) : parOkS T ws R = true →
      Con T st p ('\\' :: (parName ++ (ws ++ R))) (none :: (fixMarks p [nl, nl] ++ ms)) (p + (ws.length + 4)) R ms
  | beg (p : Nat) (name arg R : Str) (ms : List Mark) : begOk T st name arg R = true →
      Con T st p ('\\' :: (nBegin ++ '{' :: (name ++ '}' :: '{' :: (arg ++ '}' :: R))))
        (fixMarks p [nl, nl] ++ none :: ms) (p + (name.length + arg.length + 10)) R ms
  | en (p : Nat) (name R : Str) (ms : List Mark) : endOk T st name R = true →
      Con T st p ('\\' :: (nEnd ++ '{' :: (name ++ '}' :: R))) (fixMarks p [nl, nl] ++ ms) (p + (name.length + 6)) R ms

theorem Con.vis (T : PTables) (st : PState) : ConVis (Con T st) := by
  rintro _ _ _ _ _ _ ⟨⟩ <;> exact ⟨_, _, rfl, rfl⟩

/-- the source text, which starts at position `p`, with its marks -/
abbrev OkSrc (T : PTables) (st : PState) : Nat → Str → List Mark → Prop :=
  OkSrcG (okAt T st) (consChr some) (· = []) (Con T st)

theorem OkSrc_of_segsOk (T : PTables) (st : PState) :
    ∀ (segs : List Seg) (p : Nat), segsOk T st segs = true → OkSrc T st p (render segs) (marks p segs)
  | [], p, _ => .nil p _ rfl
  | .txt s :: rest, p, h => by
    simp only [segsOk, Bool.and_eq_true, textOk_eq] at h
    have := OkSrcG.text _ _ s p (OkSrc_of_segsOk T st rest _ h.2) h.1
    rwa [chrs_cons] at this
  | .par ws :: rest, p, h => by
    simp only [segsOk, Bool.and_eq_true] at h
    have := OkSrcG.con (Con.par p ws (render rest) _ h.1) (OkSrc_of_segsOk T st rest _ h.2)
    simpa [render, Seg.render, marks] using this
  | .beg name arg :: rest, p, h => by
    simp only [segsOk, Bool.and_eq_true] at h
    have := OkSrcG.con (Con.beg p name arg (render rest) _ h.1) (OkSrc_of_segsOk T st rest _ h.2)
    simpa [render, Seg.render, marks] using this
  | .en name :: rest, p, h => by
    simp only [segsOk, Bool.and_eq_true] at h
    have := OkSrcG.con (Con.en p name (render rest) _ h.1) (OkSrc_of_segsOk T st rest _ h.2)
    simpa [render, Seg.render, marks] using this

/-- what the scanner loop yields on a well-formed source, and what the token buffer means -/
structure ScanFacts (T : PTables) (st : PState) (rest : Str) (ms : List Mark)
    (steps : List ScanStep) : Prop where
  ok : ∀ s ∈ steps, s.diag = none ∧ s.extra = []
  pieces : ∃ ps, steps.map (·.tok) = flat ps ∧ PiecesOk T st ps ∧ marksOf (outP ps) = ms ∧
    (∀ t ∈ outP ps, Simple t) ∧ cost ps ≤ rest.length
  first : ∀ s ss, steps = s :: ss → s.tok.txt = firstTokTxtM rest
  firstSp : ∀ s ss, steps = s :: ss → isSpaceTok s.tok = true → headSp rest = true

theorem ScanFacts_nil (T : PTables) (st : PState) : ScanFacts T st [] [] [] :=
  ⟨by simp, ⟨[], rfl, trivial, rfl, by simp [outP], by simp [cost]⟩, by simp, by simp⟩

theorem headVis_steps (steps : List ScanStep) (R : Str) (hR : headSp R = false)
    (hsp : ∀ s ss, steps = s :: ss → isSpaceTok s.tok = true → headSp R = true) :
    HeadVis (steps.map (·.tok)) := by
  intro t ht
  cases steps with
  | nil => simp at ht
  | cons s ss =>
    simp only [List.map_cons, List.head?_cons, Option.some.injEq] at ht
    subst ht
    have hns : isSpaceTok s.tok = false := by
      cases hx : isSpaceTok s.tok with
      | false => rfl
      | true => rw [hsp s ss rfl hx] at hR; cases hR
    refine ⟨fun hk => ?_, fun hk => ?_, fun hk => ?_, ?_⟩
    · simp [isSpaceTok, hk] at hns
    · simp [isSpaceTok, hk] at hns
    · simp [isSpaceTok, hk] at hns
    · unfold isLangK
      split
      · simp [isSpaceTok, ‹s.tok.kind = _›] at hns
      · rfl

theorem parName_len : parName.length = 3 := rfl

/-- a piece in front of a scanned rest: `ss` are the steps of the scanner through the tokens of the
    piece `pc`, which emits `h` -/
theorem ScanFacts.cons {T : PTables} {st : PState} {W R : Str} {ss rs : List ScanStep}
    {ms' ms : List Mark} (pc : Piece) (h : List Tok) {t0 : Tok} {ts0 : List Tok}
    (hclean : ∀ s ∈ ss, s.diag = none ∧ s.extra = []) (I : ScanFacts T st R ms' rs)
    (htoks : ss.map (·.tok) = pc.toks) (hhd : pc.toks = t0 :: ts0)
    (hpc : ∀ ps, rs.map (·.tok) = flat ps → PiecesOk T st ps → PiecesOk T st (pc :: ps))
    (hout : ∀ ps, outP (pc :: ps) = h ++ outP ps) (hm : marksOf h ++ ms' = ms) (hs : ∀ t ∈ h, Simple t)
    (hcost : ∀ ps, cost (pc :: ps) + R.length ≤ cost ps + W.length)
    (hfirst : t0.txt = firstTokTxtM W) (hsp : isSpaceTok t0 = true → headSp W = true) :
    ScanFacts T st W ms (ss ++ rs) := by
  obtain ⟨ps, hflat, hpok, hmarks, hsimple, hc⟩ := I.pieces
  have hd : ∀ s ss', ss ++ rs = s :: ss' → s.tok = t0 := fun _ _ => headTok_of_append htoks hhd
  refine ⟨List.forall_mem_append.mpr ⟨hclean, I.ok⟩, ⟨pc :: ps, ?_, hpc ps hflat hpok, ?_, ?_, ?_⟩, ?_, ?_⟩
  · rw [List.map_append, htoks, hflat]; rfl
  · rw [hout, marksOf_append, hmarks, hm]
  · rw [hout]; exact List.forall_mem_append.mpr ⟨hs, hsimple⟩
  · have := hcost ps; omega
  · intro s ss' he
    rw [hd s ss' he]; exact hfirst
  · intro s ss' he
    rw [hd s ss' he]; exact hsp

theorem scanAll_parenv (T : PTables) (st : PState) (src : Str) (pos : Nat) (rest : Str) (ms : List Mark)
    (h : OkSrc T st pos rest ms) :
      ScanFacts T st rest ms (scanAll T.toTables src pos rest).1 := by
  refine scanAll_okSrc T st firstTokTxtM src (ScanFacts T st) (fun _ _ h => h) (fun c cs h => firstTokTxtM_of_text c cs (h.imp id (·.1)))
    (Con.vis T st) (fun _ _ _ I => I.first) (by rintro _ rfl; exact ScanFacts_nil T st) ?_ ?_ pos rest ms h
  · intro pos c cs s rs ms' K I
    exact ScanFacts.cons (.tok s.tok) [s.tok] K.run.clean I rfl rfl
      (fun ps hflat hpok => ⟨K.step.tok, hflat ▸ K.pass, hpok⟩) (fun _ => rfl) (by rw [K.marks, chrs_cons]) K.simple
      (fun ps => by have := K.len; simp only [cost, List.length_cons] at this ⊢; omega) K.first
      (headSp_of_spaceStep K.eq (fun h => (K.one h).2))
  intro pos _ _ _ R ms' hc
  cases hc with
  | par ws _ _ hd =>
    have V := parFacts hd
    have r1 := Scans.step (R := ws ++ R) (nextToken_cw T _ src pos parName _ V.cw) rfl
    have r2 := Scans.whiteSteps T.toTables src (pos + 4) (List.all_eq_true.mp V.blank) V.whole
    have r := (r1.append r2).to (q := pos + (ws.length + 4)) (by omega)
    have hwl := r2.len
    rw [List.length_append] at hwl
    refine ⟨_, by simp, r, fun rs _ I => ?_⟩
    refine ScanFacts.cons (.par pos ((whiteSteps (pos + 4) ws).map (·.tok))) [mkAction pos, parTok pos]
      r.clean I (by simp [Piece.toks]) rfl
      (fun ps hflat hpok => ⟨spToks_whiteSteps _ V.nls, hflat ▸ headVis_steps rs R V.head I.firstSp, hpok⟩)
      (fun _ => rfl) ?_ ?_ ?_ (PlainRef.firstTok_cw parName _ V.cw.tw).symm
      (fun h => by simp [cwTok_notSpace] at h)
    · rw [marksOf_cons, tokMarks_mkAction, marksOf_cons, tokMarks_parTok]
      rfl
    · intro x hx
      simp only [List.mem_cons, List.not_mem_nil, or_false] at hx
      rcases hx with rfl | rfl
      · exact simple_mkAction pos
      · exact simple_parTok pos
    · intro ps
      simp only [cost, List.length_cons, List.length_append, parName_len]
      omega
  | beg name arg _ _ hd =>
    have V := begFacts hd
    have r1 := Scans.step (R := '{' :: (name ++ '}' :: '{' :: (arg ++ '}' :: R)))
      (nextToken_begin T src pos _ V.special V.noverb) rfl
    obtain ⟨nst, N, r2⟩ := scans_bracedText T st src (pos + 6) V.nm
    obtain ⟨ast, B, r3⟩ := scans_bracedText T st src (pos + 6 + (name.length + 2)) V.ag
    have r := ((r1.append r2).append r3).to (q := pos + (name.length + arg.length + 10)) (by omega)
    have hNl := N.len
    obtain ⟨hN, eN⟩ := nameToks_of_run N V.nm.ne
    refine ⟨_, by simp, r, fun rs _ I => ?_⟩
    refine ScanFacts.cons (.beg pos (pos + 6) (pos + 6 + 1 + name.length) (pos + 6 + (name.length + 2))
        (pos + 6 + (name.length + 2) + 1 + arg.length) (nst.map (·.tok)) (ast.map (·.tok)))
      [parTok pos, mkAction pos] r.clean I (by simp [Piece.toks]) rfl
      (fun ps _ hpok => ⟨hN, eN ▸ V.env, fun t ht => ⟨plainTok_noBrace (B.copy t ht).plain,
        (B.copy t ht).plain.notComment⟩, hpok⟩)
      (fun _ => rfl) ?_ ?_ ?_ (firstTok_beg _)
      (fun h => by simp [isSpaceTok, begTok] at h)
    · rw [marksOf_cons, tokMarks_parTok, marksOf_cons, tokMarks_mkAction]
      rfl
    · intro x hx
      simp only [List.mem_cons, List.not_mem_nil, or_false] at hx
      rcases hx with rfl | rfl
      · exact simple_parTok pos
      · exact simple_mkAction pos
    · intro ps
      simp only [cost, List.length_cons, List.length_append, List.length_map, show nBegin.length = 5 from rfl]
      omega
  | en name _ _ hd =>
    have V := endFacts hd
    have r1 := Scans.step (R := '{' :: (name ++ '}' :: R)) (nextToken_end T src pos _ V.special) rfl
    obtain ⟨nst, N, r2⟩ := scans_bracedText T st src (pos + 4) V.nm
    have r := (r1.append r2).to (q := pos + (name.length + 6)) (by omega)
    have hNl := N.len
    obtain ⟨hN, eN⟩ := nameToks_of_run N V.nm.ne
    refine ⟨_, by simp, r, fun rs _ I => ?_⟩
    refine ScanFacts.cons (.en pos (pos + 4) (pos + 4 + 1 + name.length) (nst.map (·.tok))) [parTok pos]
      r.clean I (by simp [Piece.toks]) rfl (fun ps _ hpok => ⟨hN, eN ▸ V.env, hpok⟩)
      (fun _ => rfl) ?_ ?_ ?_ (firstTok_end _)
      (fun h => by simp [isSpaceTok, endTok] at h)
    · rw [marksOf_cons, tokMarks_parTok]
      rfl
    · intro x hx
      rw [List.mem_singleton.mp hx]
      exact simple_parTok pos
    · intro ps
      simp only [cost, List.length_cons, List.length_append, List.length_map, show nEnd.length = 3 from rfl]
      omega

/-- **C05 end to end, `\par` and paragraph-forming environments.**  The document consists of inert
    text, `\par` and environments `\begin{name}{arg}` … `\end{name}` declared with `add_pars` and one
    mandatory argument (`SegsOk`: all side conditions); `st1` is the state after `Parser.__init__`;
    no `--defs`, `--extr`, `--repl`, `--unkn`; single-language mode.  With one unit of fuel per source
    character and two more, `tex2txt` succeeds and the output text with its (1-based) positions is
    `delLines (marks 0 segs)`: see `marks`, and then every line deleted (with its line break)
    that consists of white space only and holds at least one text-less mark
    (`remove_pure_action_lines`); there are no unknowns and no diagnostic is added. -/
theorem tex2txt_parenv (T : PTables) (o : Options) (fs : FS) (thresh : Nat) (segs : List Seg)
    (fuel : Nat) (st1 : PState)
    (hdefs : o.defs = []) (hextr : o.extr = []) (hrepl : o.hasRepl = false) (hunkn : o.unkn = false)
    (hinit : initParser T fuel o (initialState T o false fs) = .ok ((), st1))
    (hok : SegsOk T st1 segs) (hf : (render segs).length + 2 ≤ fuel) :
    ∃ r, tex2txt T fuel (render segs) o false thresh fs = .ok r ∧
      r.txt = (delLines (marks 0 segs)).map (·.1) ∧
      r.pos = (delLines (marks 0 segs)).map (·.2 + 1) ∧
      r.unknowns = [] ∧ r.diags = st1.diags ∧ r.parts = [] := by
  have R : PlainSetup T o fs fuel st1 := ⟨⟨hdefs, hextr, hinit⟩, hrepl, hunkn⟩
  obtain ⟨hst, hsegs⟩ := hok
  simp only [stateOk, Bool.and_eq_true] at hst
  have F := scanAll_parenv T st1 (render segs) 0 _ _ (OkSrc_of_segsOk T st1 segs 0 hsegs)
  obtain ⟨ps, hflat, hpok, hmarks, hsimple, hcost⟩ := F.pieces
  obtain ⟨r, h, ht, hp, hpa, hu, hd, _⟩ := R.of_run thresh F.ok hflat (hpok.noCom.noBegin _)
    (seqRun_parenv T (Reads.startState st1 _).ext hst.1 (ParOk_of_parOk hst.2) ps [] hpok) (Nat.le_refl _)
    (by omega) hsimple
  rw [hmarks, show charsOf (flowsToks (startState st1 (render segs)).extracted) = [] from rfl, List.append_nil]
    at ht hp
  exact ⟨r, h, ht, hp, hu, hd, hpa⟩

end PlainParEnv
end Yalafi
