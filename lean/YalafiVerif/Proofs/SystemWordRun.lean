/-
  Proofs/SystemWordRun.lean — a WORD of the reference survives blank-line removal as a whole.

  The end-to-end theorems of the filter give the output as `delLines marks (++ flows)`, where
  `marks` is a list of `PlainMacro.Mark`s (`some (c, pos)` = an output character with its position,
  `none` = a text-less Action token) and `delLines` the exact model of `remove_pure_action_lines`.
  Here: if the marks contain a run `W` of character marks WITHOUT a text-less mark in between whose
  first and last characters are no white space (a word, or a phrase — line breaks inside are
  allowed), then the output contains `W` as a contiguous block (`delLines_word`): the line of the
  first character and the line of the last character hold a visible character, and a line in
  between holds no text-less mark, so none of them is deleted.  The argument is made once, for the
  marks with language tokens of multi-language mode (`LinesLang.delLines_word`); the marks of
  single-language mode are those without language tokens (`LinesLang.delGo_plain`).
  (Without the condition on the ends the claim is false: in `{} \nx` the run ` \nx` loses its blank
  and its line break, because the line `{} ` is blank and holds a text-less mark.)

  `run_of_block` turns a block `posText p w` into what the system-level theorems need: the offset of
  the block in the plain text, `RunAt` for the position map, and the flagged text; `run_of_output`
  says so for a result `r` of the filter.  `copied_run_marks` is the composition: the one statement
  about a document whose output is `delLines marks ++ flows` that the grammar files instantiate.
-/
import YalafiVerif.Proofs.SystemWord
import YalafiVerif.Proofs.PlainVanish
import YalafiVerif.Proofs.PlainFootnote
import YalafiVerif.Proofs.LinesLang
namespace Yalafi
namespace SystemWord

open PlainMacro

def wordEnds (w : Str) : Bool :=
  match w.head?, w.getLast? with
  | some a, some b => !isSpace a && !isSpace b
  | _, _ => false

theorem wordEnds_facts {w : Str} (h : wordEnds w = true) :
    (∃ c cs, w = c :: cs ∧ isSpace c = false) ∧ (∀ c, w.getLast? = some c → isSpace c = false) := by
  unfold wordEnds at h
  split at h
  · rename_i a b ha hb
    simp only [Bool.and_eq_true, Bool.not_eq_true'] at h
    refine ⟨?_, ?_⟩
    · cases w with
      | nil => simp at ha
      | cons c cs =>
        simp only [List.head?_cons, Option.some.injEq] at ha
        subst ha
        exact ⟨_, _, rfl, h.1⟩
    · intro c hc
      rw [hb] at hc
      cases hc
      exact h.2
  · cases h

theorem wordEnds_pos {w : Str} (h : wordEnds w = true) : 1 ≤ w.length := by
  obtain ⟨⟨c, cs, rfl, _⟩, _⟩ := wordEnds_facts h
  simp

theorem posText_word {w : Str} (p : Nat) (h : wordEnds w = true) :
    (∃ w0 W', posText p w = w0 :: W' ∧ isSpace w0.1 = false) ∧
    (∀ wl, (posText p w).getLast? = some wl → isSpace wl.1 = false) := by
  obtain ⟨⟨c, cs, rfl, hc⟩, hlast⟩ := wordEnds_facts h
  refine ⟨⟨(c, p), posText (p + 1) cs, rfl, hc⟩, ?_⟩
  intro wl hwl
  apply hlast wl.1
  have := congrArg (Option.map (·.1)) hwl
  rw [← List.getLast?_map, posText_fst] at this
  simpa using this

theorem textOk_mid {ok : Char → Str → Bool} {tx : Str → Str → Bool}
    (hcons : ∀ c cs R, tx (c :: cs) R = (ok c (cs ++ R) && tx cs R)) (c : Char) (cs R : Str) :
    ∀ (a : Str), tx (a ++ c :: cs) R = true → ok c (cs ++ R) = true
  | [], h => by
    rw [List.nil_append, hcons, Bool.and_eq_true] at h
    exact h.1
  | x :: a, h => by
    rw [List.cons_append, hcons, Bool.and_eq_true] at h
    exact textOk_mid hcons c cs R a h.2

/-- what every grammar demands of a text character excludes the backslash -/
theorem not_backslash {c : Char} (h : isSpace c = true ∨ structuralChar c = false) : c ≠ '\\' := by
  rintro rfl
  revert h
  decide

theorem inert_not_backslash {T : PTables} {st : PState} {a cs R : Str} {c : Char}
    (h : PlainFootnote.textOk T st (a ++ c :: cs) R = true) : c ≠ '\\' := by
  have h2 := textOk_mid (tx := PlainFootnote.textOk T st) (ok := PlainFootnote.chrOk T st)
    (fun _ _ _ => rfl) c cs R a h
  simp only [PlainFootnote.chrOk, Bool.and_eq_true, Bool.or_eq_true] at h2
  exact not_backslash (h2.2.imp id (fun h => by simpa using h.1))

theorem posText_head {p : Nat} {w : Str} {w0 : Char × Nat} {W' : List (Char × Nat)}
    (h : posText p w = w0 :: W') : w0.2 = p := by
  cases w with
  | nil => cases h
  | cons c cs =>
    simp only [posText, List.cons.injEq] at h
    rw [← h.1]

theorem not_nl_of_not_space {c : Char} (h : isSpace c = false) : (c == nl) = false := by
  cases hc : c == nl
  · rfl
  · have : c = nl := by simpa using hc
    subst this
    revert h
    decide

theorem last_of_tail {α} {P : α → Prop} {x : α} {rest : List α}
    (h : ∀ wl, (x :: rest).getLast? = some wl → P wl) : ∀ wl, rest.getLast? = some wl → P wl := by
  intro wl hwl
  apply h wl
  cases rest with
  | nil => simp at hwl
  | cons y ys => simpa [List.getLast?_cons_cons] using hwl

end SystemWord

/-! ### the word in the marks with language tokens (`LinesLang`) -/

namespace LinesLang
open SystemWord (not_nl_of_not_space last_of_tail)

/-- inside the word: no text-less mark, so a line that is begun here is kept -/
theorem delGo_inner : ∀ (W : List (Char × Nat)) (cur : List Item) (b : Bool) (B : List Mark),
    (∀ wl, W.getLast? = some wl → isSpace wl.1 = false) → (W = [] → b = false) →
    delGo cur b false ((ch W).map some ++ B) = cur ++ ch W ++ delGo [] false false B
  | [], cur, b, B, _, hb => by
    rw [hb rfl]
    simp only [ch_nil, List.map_nil, List.nil_append, List.append_nil]
    exact delGo_nb B cur false
  | cp :: rest, cur, b, B, hlast, _ => by
    have hlast' := last_of_tail hlast
    simp only [ch_cons, List.map_cons, List.cons_append, delGo]
    by_cases hnl : (cp.1 == nl) = true
    · have hrest : rest ≠ [] := by
        intro hr
        subst hr
        have := hlast cp (by simp)
        have h2 := not_nl_of_not_space this
        rw [hnl] at h2; cases h2
      simp only [hnl, if_true, Bool.and_false, Bool.false_eq_true, if_false]
      rw [delGo_inner rest [] true B hlast' (fun h => absurd h hrest)]
      simp
    · simp only [hnl, Bool.false_eq_true, if_false]
      rw [delGo_inner rest (cur ++ [(Sum.inl cp : Item)]) (b && isSpace cp.1) B hlast' (fun h => by
        subst h
        have := hlast cp (by simp)
        simp [this])]
      simp

/-- the word itself, whatever the state of the line in front of it -/
theorem delGo_word (w0 : Char × Nat) (W' : List (Char × Nat)) (cur : List Item) (b act : Bool)
    (B : List Mark) (h0 : isSpace w0.1 = false)
    (hlast : ∀ wl, (w0 :: W').getLast? = some wl → isSpace wl.1 = false) :
    delGo cur b act ((ch (w0 :: W')).map some ++ B) = cur ++ ch (w0 :: W') ++ delGo [] false false B := by
  have hnl := not_nl_of_not_space h0
  simp only [ch_cons, List.map_cons, List.cons_append, delGo, hnl, Bool.false_eq_true, if_false, h0,
    Bool.and_false]
  rw [delGo_nb, delGo_inner W' [] false B (last_of_tail hlast) (fun _ => rfl)]
  simp

/-- … and with any marks in front -/
theorem delGo_prefix (W : List (Char × Nat)) (B : List Mark)
    (hW : ∃ w0 W', W = w0 :: W' ∧ isSpace w0.1 = false)
    (hlast : ∀ wl, W.getLast? = some wl → isSpace wl.1 = false) :
    ∀ (A : List Mark) (cur : List Item) (b act : Bool),
      ∃ X, delGo cur b act (A ++ ((ch W).map some ++ B)) = X ++ (ch W ++ delGo [] false false B)
  | [], cur, b, act => by
    obtain ⟨w0, W', rfl, h0⟩ := hW
    exact ⟨cur, by rw [List.nil_append, delGo_word w0 W' cur b act B h0 hlast]; simp⟩
  | none :: xs, cur, b, act => by
    obtain ⟨X, hX⟩ := delGo_prefix W B hW hlast xs cur b true
    exact ⟨X, by simp only [List.cons_append, delGo]; exact hX⟩
  | some (.inr t) :: xs, cur, b, act => by
    simp only [List.cons_append, delGo]
    exact delGo_prefix W B hW hlast xs _ b act
  | some (.inl cp) :: xs, cur, b, act => by
    simp only [List.cons_append, delGo]
    split
    · obtain ⟨X, hX⟩ := delGo_prefix W B hW hlast xs [] true false
      exact ⟨_ ++ X, by rw [hX, List.append_assoc]⟩
    · exact delGo_prefix W B hW hlast xs _ _ act

theorem delLines_word (A B : List Mark) (W : List (Char × Nat))
    (hW : ∃ w0 W', W = w0 :: W' ∧ isSpace w0.1 = false)
    (hlast : ∀ wl, W.getLast? = some wl → isSpace wl.1 = false) :
    ∃ X Y, delLines (A ++ ((ch W).map some ++ B)) = X ++ (ch W ++ Y) := by
  obtain ⟨X, hX⟩ := delGo_prefix W B hW hlast A [] true false
  exact ⟨X, _, hX⟩

theorem filterMap_ch (l : List (Char × Nat)) : (ch l).filterMap Sum.getLeft? = l := by
  induction l with
  | nil => rfl
  | cons a l ih => simp [ih]

end LinesLang

namespace SystemWord
open PlainMacro

theorem delLines_word (A B : List Mark) (W : List (Char × Nat))
    (hW : ∃ w0 W', W = w0 :: W' ∧ isSpace w0.1 = false)
    (hlast : ∀ wl, W.getLast? = some wl → isSpace wl.1 = false) :
    ∃ X Y, delLines (A ++ (W.map some ++ B)) = X ++ (W ++ Y) := by
  obtain ⟨X, Y, h⟩ := LinesLang.delLines_word (A.map (Option.map .inl)) (B.map (Option.map .inl)) W hW hlast
  have e := LinesLang.delGo_plain (A ++ (W.map some ++ B)) [] true false
  rw [List.map_append, List.map_append,
    show (W.map some).map (Option.map Sum.inl) = (LinesLang.ch W).map some by simp [LinesLang.ch]] at e
  have := congrArg (List.filterMap Sum.getLeft?) (e.symm.trans h)
  rw [LinesLang.filterMap_ch, List.filterMap_append, List.filterMap_append, LinesLang.filterMap_ch] at this
  exact ⟨_, _, this⟩

theorem run_of_block (X Z : List (Char × Nat)) (p : Nat) (w : Str) :
    X.length + w.length ≤ (X ++ (posText p w ++ Z)).length ∧
    RunAt ((X ++ (posText p w ++ Z)).map (·.2 + 1)) X.length w.length (p + 1) ∧
    (((X ++ (posText p w ++ Z)).map (·.1)).drop X.length).take w.length = w := by
  have hlen : (posText p w).length = w.length := by rw [← List.length_map (f := (·.1)), posText_fst]
  refine ⟨by simp [hlen], ?_, ?_⟩
  · unfold RunAt
    rw [List.map_append, List.map_append, PlainVanish.posText_pos1, List.drop_left' (by simp),
      List.take_left' (by simp)]
  · rw [List.map_append, List.map_append, posText_fst, List.drop_left' (by simp), List.take_left' (by simp)]

theorem run_of_output {r : T2TResult} {out : List (Char × Nat)} (htxt : r.txt = out.map (·.1))
    (hpos : r.pos = out.map (·.2 + 1)) (X Z : List (Char × Nat)) (p : Nat) (w : Str)
    (hout : out = X ++ (posText p w ++ Z)) :
    r.txt.length = r.pos.length ∧
    ∃ off, off + w.length ≤ r.txt.length ∧ RunAt r.pos off w.length (p + 1) ∧
      (r.txt.drop off).take w.length = w := by
  subst hout
  obtain ⟨b1, b2, b3⟩ := run_of_block X Z p w
  rw [htxt, hpos]
  exact ⟨by simp, X.length, by simpa using b1, b2, b3⟩

theorem copied_run_marks {r : T2TResult} {M : List Mark} {F : List (Char × Nat)}
    (htxt : r.txt = (delLines M ++ F).map (·.1)) (hpos : r.pos = (delLines M ++ F).map (·.2 + 1))
    (A B : List Mark) (p : Nat) (w : Str) (hM : M = A ++ ((posText p w).map some ++ B))
    (hw : wordEnds w = true) :
    r.txt.length = r.pos.length ∧
    ∃ off, off + w.length ≤ r.txt.length ∧ RunAt r.pos off w.length (p + 1) ∧
      (r.txt.drop off).take w.length = w := by
  obtain ⟨hW, hlast⟩ := posText_word p hw
  obtain ⟨X, Y, hd⟩ := delLines_word A B (posText p w) hW hlast
  rw [← hM] at hd
  exact run_of_output htxt hpos X (Y ++ F) p w (by rw [hd]; simp)

/-! ### a word of a text that the filter copies: the one statement behind the grammar files -/

theorem source_word {src L R a w b : Str} {q : Nat} (hsrc : src = L ++ ((a ++ (w ++ b)) ++ R))
    (hL : L.length = q) : (src.drop (q + a.length)).take w.length = w := by
  subst hsrc hL
  rw [show L ++ ((a ++ (w ++ b)) ++ R) = (L ++ a) ++ (w ++ (b ++ R)) by simp,
    List.drop_left' (by simp), List.take_left]

theorem posText_word_split (q : Nat) (a w b : Str) :
    posText q (a ++ (w ++ b))
      = posText q a ++ (posText (q + a.length) w ++ posText (q + a.length + w.length) b) := by
  rw [posText_append, posText_append]

theorem head_not_backslash {ok : Char → Str → Bool} {tx : Str → Str → Bool}
    (hcons : ∀ c cs R, tx (c :: cs) R = (ok c (cs ++ R) && tx cs R))
    (hok : ∀ c R, ok c R = true → c ≠ '\\') {a w b R : Str} (h : tx (a ++ (w ++ b)) R = true) :
    w.head? ≠ some '\\' := by
  cases w with
  | nil => simp
  | cons c cs =>
    rw [List.cons_append] at h
    simpa using hok c _ (textOk_mid hcons c (cs ++ b) R a h)

theorem inert_head_not_backslash {T : PTables} {st : PState} {a w b R : Str}
    (h : PlainFootnote.textOk T st (a ++ (w ++ b)) R = true) : w.head? ≠ some '\\' :=
  head_not_backslash (tx := PlainFootnote.textOk T st) (ok := PlainFootnote.chrOk T st) (fun _ _ _ => rfl)
    (fun c R h2 => by
      simp only [PlainFootnote.chrOk, Bool.and_eq_true, Bool.or_eq_true] at h2
      exact not_backslash (h2.2.imp id (fun h => by simpa using h.1))) h

theorem flaggedAt_of_marks {T : PTables} {o : Options} {fs : FS} {thresh fuel : Nat} {src : Str}
    {r : T2TResult} {M : List Mark} {F : List (Char × Nat)}
    (hr : tex2txt T fuel src o false thresh fs = .ok r)
    (htxt : r.txt = (delLines M ++ F).map (·.1)) (hpos : r.pos = (delLines M ++ F).map (·.2 + 1))
    (A B : List Mark) (p : Nat) (w : Str) (hM : M = A ++ ((posText p w).map some ++ B))
    (hw : wordEnds w = true) (hbs : w.head? ≠ some '\\') (hsrc : (src.drop p).take w.length = w) :
    FlaggedAt T o fs thresh fuel src p w := by
  obtain ⟨⟨c, cs, hwc, _⟩, _⟩ := wordEnds_facts hw
  exact flaggedAt_of_run T o fs thresh fuel _ p w c cs hwc (by rintro rfl; exact hbs (by rw [hwc]; rfl)) hsrc
    ⟨r, hr, copied_run_marks htxt hpos A B p w hM hw⟩

/-- **detached flows** (footnote bodies): no condition on the ends -/
theorem flaggedAt_of_flows {T : PTables} {o : Options} {fs : FS} {thresh fuel : Nat} {src : Str}
    {r : T2TResult} {out : List (Char × Nat)}
    (hr : tex2txt T fuel src o false thresh fs = .ok r)
    (htxt : r.txt = out.map (·.1)) (hpos : r.pos = out.map (·.2 + 1))
    (X Z : List (Char × Nat)) (p : Nat) (w : Str) (hout : out = X ++ (posText p w ++ Z))
    (hne : w ≠ []) (hbs : w.head? ≠ some '\\') (hsrc : (src.drop p).take w.length = w) :
    FlaggedAt T o fs thresh fuel src p w := by
  cases w with
  | nil => exact absurd rfl hne
  | cons c cs =>
    exact flaggedAt_of_run T o fs thresh fuel _ p (c :: cs) c cs rfl (by rintro rfl; exact hbs rfl) hsrc
      ⟨r, hr, run_of_output htxt hpos X Z p (c :: cs) hout⟩

theorem flaggedAt_of_text {T : PTables} {o : Options} {fs : FS} {thresh fuel : Nat} {src : Str}
    {r : T2TResult} {M : List Mark} {F : List (Char × Nat)}
    (hr : tex2txt T fuel src o false thresh fs = .ok r)
    (htxt : r.txt = (delLines M ++ F).map (·.1)) (hpos : r.pos = (delLines M ++ F).map (·.2 + 1))
    {L R a w b : Str} {q : Nat} (hsrc : src = L ++ ((a ++ (w ++ b)) ++ R)) (hL : L.length = q)
    (hM : ∃ P Q, M = P ++ ((posText q (a ++ (w ++ b))).map some ++ Q))
    (hw : wordEnds w = true) (hbs : w.head? ≠ some '\\') :
    FlaggedAt T o fs thresh fuel src (q + a.length) w := by
  obtain ⟨P, Q, hM⟩ := hM
  exact flaggedAt_of_marks hr htxt hpos (P ++ (posText q a).map some)
    ((posText (q + a.length + w.length) b).map some ++ Q) _ w
    (by rw [hM, posText_word_split]; simp only [List.map_append, List.append_assoc]) hw hbs
    (source_word hsrc hL)

theorem flaggedAt_of_flow_text {T : PTables} {o : Options} {fs : FS} {thresh fuel : Nat} {src : Str}
    {r : T2TResult} {out : List (Char × Nat)}
    (hr : tex2txt T fuel src o false thresh fs = .ok r)
    (htxt : r.txt = out.map (·.1)) (hpos : r.pos = out.map (·.2 + 1))
    {L R a w b : Str} {q : Nat} (hsrc : src = L ++ ((a ++ (w ++ b)) ++ R)) (hL : L.length = q)
    (hout : ∃ X Z, out = X ++ (posText q (a ++ (w ++ b)) ++ Z))
    (hne : w ≠ []) (hbs : w.head? ≠ some '\\') :
    FlaggedAt T o fs thresh fuel src (q + a.length) w := by
  obtain ⟨X, Z, hout⟩ := hout
  exact flaggedAt_of_flows hr htxt hpos (X ++ posText q a) (posText (q + a.length + w.length) b ++ Z) _ w
    (by rw [hout, posText_word_split]; simp only [List.append_assoc]) hne hbs (source_word hsrc hL)

end SystemWord
end Yalafi
