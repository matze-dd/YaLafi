/-
  Proofs/MLSections.lean — the section loop of `get_txt_pos_ml` (`sections`, `secStep`, `closeSec` of
  Model/ML.lean) on ANY token list: it only reads the items of the list (characters with positions,
  language tokens) and is `secsItems` on them.  Every class of multi-language documents reads its
  sections off this one function.
-/
import YalafiVerif.Proofs.LinesLang
namespace Yalafi

namespace PlainLang
open PlainMacro (tokChars)

theorem tokChars_snd (t : Tok) : (tokChars t).map (·.2) = tokPositions t := by
  unfold tokChars
  rw [List.map_snd_zip]
  rw [tokPositions_length]; exact Nat.le_refl _

end PlainLang

namespace PlainForeign

open LinesLang (Item Mark ch isLg tokItems itemsOf)
open PlainMacro (tokChars tokChars_fst)
open PlainLang (tokChars_snd)

def mkSec (lang : Str) (back brk : Bool) (acc : List (Char × Nat)) : Sec :=
  { lang := lang, back := back, brk := brk, txt := acc.map (·.1), pos := acc.map (·.2) }

def emitSec (lang : Str) (back brk : Bool) (acc : List (Char × Nat)) : List Sec :=
  if acc.isEmpty then [] else [mkSec lang back brk acc]

/-- the language stack behind a language token (`lang_stack` in `get_txt_pos_ml`) -/
def stepStack (stack : List Str) (l : Str) (back hard : Bool) : List Str :=
  if back then (if stack.length > 1 then stack.tail else stack)
  else if hard then l :: stack.tail
  else l :: stack

/-- the section loop of `get_txt_pos_ml` on items: `stack` = the language stack, `back`, `brk` = the
    flags of the switch that started the current section, `acc` = its characters -/
def secsItems : List Str → Bool → Bool → List (Char × Nat) → List Item → List Sec
  | stack, back, brk, acc, [] => emitSec (stackTop stack) back brk acc
  | stack, back, brk, acc, .inl cp :: xs => secsItems stack back brk (acc ++ [cp]) xs
  | stack, back, brk, acc, .inr t :: xs =>
    match t.kind with
    | .lang l b h k =>
      if stackTop (stepStack stack l b h) == stackTop stack then
        secsItems (stepStack stack l b h) back brk acc xs
      else emitSec (stackTop stack) back brk acc ++ secsItems (stepStack stack l b h) b k [] xs
    | _ => secsItems stack back brk acc xs

theorem secsItems_ch : ∀ (l : List (Char × Nat)) (stack : List Str) (back brk : Bool)
    (acc : List (Char × Nat)) (xs : List Item),
    secsItems stack back brk acc (ch l ++ xs) = secsItems stack back brk (acc ++ l) xs
  | [], _, _, _, _, _ => by simp
  | cp :: l, stack, back, brk, acc, xs => by
    simp only [LinesLang.ch_cons, List.cons_append, secsItems]
    rw [secsItems_ch l]
    simp

structure SecInv (s : SecState) (stack : List Str) (back brk : Bool) (acc : List (Char × Nat)) :
    Prop where
  stack : s.stack = stack
  back : s.swBack = back
  brk : s.swBrk = brk
  cur : getTxtPos s.cur = (acc.map (·.1), acc.map (·.2))

theorem closeSec_inv {s : SecState} {stack : List Str} {back brk : Bool} {acc : List (Char × Nat)}
    (h : SecInv s stack back brk acc) :
    closeSec s = s.secs ++ emitSec (stackTop stack) back brk acc := by
  unfold closeSec emitSec mkSec
  simp only [h.cur, h.stack, h.back, h.brk]
  cases acc with
  | nil => simp
  | cons a l => simp

theorem sections_fold : ∀ (toks : List Tok) (s : SecState) (stack : List Str) (back brk : Bool)
    (acc : List (Char × Nat)), SecInv s stack back brk acc →
    closeSec (toks.foldl secStep s) = s.secs ++ secsItems stack back brk acc (itemsOf toks)
  | [], s, stack, back, brk, acc, h => by
    simp only [List.foldl_nil, itemsOf, List.flatMap_nil, secsItems]
    exact closeSec_inv h
  | t :: ts, s, stack, back, brk, acc, h => by
    rw [List.foldl_cons, LinesLang.itemsOf_cons]
    cases hl : isLang t with
    | false =>
      have hstep : secStep s t = { s with cur := s.cur ++ [t] } := by
        unfold secStep
        unfold isLang at hl
        split
        · rename_i hk; simp [hk] at hl
        · rfl
      have hinv : SecInv (secStep s t) stack back brk (acc ++ tokChars t) := by
        rw [hstep]
        refine ⟨h.stack, h.back, h.brk, ?_⟩
        simp only [getTxtPos_append, h.cur, getTxtPos, List.append_nil, List.map_append,
          tokChars_fst, tokChars_snd]
      rw [sections_fold ts _ stack back brk _ hinv, LinesLang.tokItems_notLang _ hl, secsItems_ch,
        hstep]
    | true =>
      obtain ⟨l, b, hd, k, hk⟩ : ∃ l b hd k, t.kind = .lang l b hd k := by
        unfold isLang at hl
        split at hl
        · rename_i l b hd k hk; exact ⟨l, b, hd, k, hk⟩
        · cases hl
      rw [LinesLang.tokItems_lang _ hl]
      simp only [List.singleton_append, secsItems, hk]
      have hst : (if b = true then (if s.stack.length > 1 then s.stack.tail else s.stack)
          else if hd = true then l :: s.stack.tail else l :: s.stack) = stepStack stack l b hd := by
        rw [h.stack]; rfl
      by_cases hsame : (stackTop (stepStack stack l b hd) == stackTop stack) = true
      · have hstep : secStep s t = { s with stack := stepStack stack l b hd } := by
          simp only [secStep, hk, hst]
          rw [h.stack, if_pos hsame]
        have hinv : SecInv (secStep s t) (stepStack stack l b hd) back brk acc := by
          rw [hstep]; exact ⟨rfl, h.back, h.brk, h.cur⟩
        rw [sections_fold ts _ _ back brk _ hinv, hstep, if_pos hsame]
      · have hstep : secStep s t
            = { stack := stepStack stack l b hd, swBack := b, swBrk := k, cur := [],
                secs := closeSec s } := by
          simp only [secStep, hk, hst]
          rw [h.stack, if_neg hsame]
        have hinv : SecInv (secStep s t) (stepStack stack l b hd) b k [] := by
          rw [hstep]; exact ⟨rfl, rfl, rfl, rfl⟩
        rw [sections_fold ts _ _ b k _ hinv, hstep, closeSec_inv h, if_neg hsame]
        simp

theorem sections_secsItems (toks : List Tok) (main : Str) :
    sections toks main = secsItems [main] false false [] (itemsOf toks) := by
  unfold sections
  rw [sections_fold toks _ [main] false false [] ⟨rfl, rfl, rfl, rfl⟩]
  simp

end PlainForeign

namespace PlainLangMix

open LinesLang (Item ch)
open PlainForeign (secsItems secsItems_ch emitSec mkSec)

structure SecWf (s : Sec) : Prop where
  ne : s.txt ≠ []
  len : s.pos.length = s.txt.length

def secChars (s : Sec) : List (Char × Nat) := s.txt.zip s.pos

theorem emitSec_wf (l : Str) (b k : Bool) (acc : List (Char × Nat)) : ∀ s ∈ emitSec l b k acc, SecWf s := by
  intro s hs
  unfold emitSec at hs
  split at hs
  · cases hs
  · rename_i hne
    rw [List.mem_singleton] at hs
    subst hs
    refine ⟨?_, by simp [mkSec]⟩
    intro e
    apply hne
    simp only [mkSec, List.map_eq_nil_iff] at e
    simp [e]

theorem secsItems_wf : ∀ (items : List Item) (stack : List Str) (back brk : Bool) (acc : List (Char × Nat)),
    ∀ s ∈ secsItems stack back brk acc items, SecWf s
  | [], stack, back, brk, acc => emitSec_wf _ _ _ _
  | .inl cp :: xs, stack, back, brk, acc => by
    simp only [secsItems]
    exact secsItems_wf xs stack back brk _
  | .inr t :: xs, stack, back, brk, acc => by
    simp only [secsItems]
    split
    · split
      · exact secsItems_wf xs _ back brk acc
      · intro s hs
        rcases List.mem_append.mp hs with hs | hs
        · exact emitSec_wf _ _ _ _ s hs
        · exact secsItems_wf xs _ _ _ [] s hs
    · exact secsItems_wf xs stack back brk acc

/-! ### a block of characters lies in one section -/

theorem secsItems_acc : ∀ (items : List Item) (stk : List Str) (back brk : Bool) (acc : List (Char × Nat)),
    acc ≠ [] → ∃ l D rest, secsItems stk back brk acc items = mkSec l back brk (acc ++ D) :: rest
  | [], stk, back, brk, acc, h => by
    have : acc.isEmpty = false := by cases acc with | nil => exact absurd rfl h | cons _ _ => rfl
    exact ⟨stackTop stk, [], [], by simp [secsItems, emitSec, this]⟩
  | .inl cp :: xs, stk, back, brk, acc, _ => by
    obtain ⟨l, D, rest, h⟩ := secsItems_acc xs stk back brk (acc ++ [cp]) (by simp)
    exact ⟨l, cp :: D, rest, by simp only [secsItems]; rw [h]; simp⟩
  | .inr t :: xs, stk, back, brk, acc, hne => by
    simp only [secsItems]
    split
    · split
      · exact secsItems_acc xs _ back brk acc hne
      · have : acc.isEmpty = false := by cases acc with | nil => exact absurd rfl hne | cons _ _ => rfl
        rw [show emitSec (stackTop stk) back brk acc = [mkSec (stackTop stk) back brk acc] by
          simp [emitSec, this]]
        exact ⟨_, [], _, by rw [List.append_nil]; rfl⟩
    · exact secsItems_acc xs stk back brk acc hne

theorem secsItems_block : ∀ (X : List Item) (stk : List Str) (back brk : Bool) (acc W : List (Char × Nat))
    (Y : List Item), W ≠ [] → ∃ s ∈ secsItems stk back brk acc (X ++ (ch W ++ Y)), ∃ C D,
      s.txt = (C ++ (W ++ D)).map (·.1) ∧ s.pos = (C ++ (W ++ D)).map (·.2)
  | [], stk, back, brk, acc, W, Y, hW => by
    rw [List.nil_append, secsItems_ch]
    obtain ⟨l, D, rest, h⟩ := secsItems_acc Y stk back brk (acc ++ W) (by simp [hW])
    rw [h]
    exact ⟨_, List.mem_cons_self .., acc, D, by simp [mkSec], by simp [mkSec]⟩
  | .inl cp :: X, stk, back, brk, acc, W, Y, hW => by
    simp only [List.cons_append, secsItems]
    exact secsItems_block X stk back brk _ W Y hW
  | .inr t :: X, stk, back, brk, acc, W, Y, hW => by
    simp only [List.cons_append, secsItems]
    split
    · split
      · exact secsItems_block X _ back brk _ W Y hW
      · obtain ⟨s, hs, h⟩ := secsItems_block X _ _ _ [] W Y hW
        exact ⟨s, List.mem_append_right _ hs, h⟩
    · exact secsItems_block X stk back brk _ W Y hW

end PlainLangMix
end Yalafi
