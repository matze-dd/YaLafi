/-
  Proofs/NoEmptyHandlerA.lean — NoEmpty bundle: one lemma per handler of `callHandler`, part A:
  none, opaqueH, newcommand, theorem, newtheorem, heading, phantom, hspace, cite, loadDefs, loadModule.
-/
import YalafiVerif.Proofs.NoEmptyBase1
import YalafiVerif.Proofs.NoEmptyBase2
namespace Yalafi
namespace NoEmpty
open M
set_option linter.unusedVariables false

variable {T : PTables}

theorem handler_none (hne : tblOkB T = true) (hw : T.WFInv) (fuel : Nat) (IH : AllSpecs T fuel)
    (buf : Buf) (mac : MacroDef) (args : List (List Tok)) (pos : Nat) (st : PState) (hs : StOk T st)
    (ha : ∀ a ∈ args, ANE T st.latex.length a) (hp : pos < st.latex.length) :
    Post' (callHandler T (fuel + 1) .none buf mac args pos st)
      (fun r st' => Fr T st st' ∧ HRes T st.latex.length .none r) := by
  unfold callHandler
  simp only []
  exact Post'_pure _ _ _ ⟨Fr.refl hs, HRes_of_ANE (ANE_nil _)⟩

theorem handler_opaqueH (name : Str) (hne : tblOkB T = true) (hw : T.WFInv) (fuel : Nat) (IH : AllSpecs T fuel)
    (buf : Buf) (mac : MacroDef) (args : List (List Tok)) (pos : Nat) (st : PState) (hs : StOk T st)
    (ha : ∀ a ∈ args, ANE T st.latex.length a) (hp : pos < st.latex.length) :
    Post' (callHandler T (fuel + 1) (.opaqueH name) buf mac args pos st)
      (fun r st' => Fr T st st' ∧ HRes T st.latex.length (.opaqueH name) r) := by
  unfold callHandler
  simp only []
  exact Post'_crash _ _ _ (by simp [site])

theorem handler_theorem (title : Str) (hne : tblOkB T = true) (hw : T.WFInv) (fuel : Nat) (IH : AllSpecs T fuel)
    (buf : Buf) (mac : MacroDef) (args : List (List Tok)) (pos : Nat) (st : PState) (hs : StOk T st)
    (ha : ∀ a ∈ args, ANE T st.latex.length a) (hp : pos < st.latex.length) :
    Post' (callHandler T (fuel + 1) (.theorem title) buf mac args pos st)
      (fun r st' => Fr T st st' ∧ HRes T st.latex.length (.theorem title) r) := by
  unfold callHandler
  simp only []
  refine Post'_argBind args 0 _ st _ (fun a0 h0 _ => ?_)
  have hA := ha a0 h0
  cases hl : a0.getLast? with
  | some l =>
    dsimp only
    have hlp : l.pos < st.latex.length := (hA l (List.mem_of_getLast? hl)).1.1
    refine Post'_pure _ _ _ ⟨Fr.refl hs, ?_, ?_⟩
    · intro h; simp [isFront] at h
    · refine ⟨W_mkFix_text _ _ _ hp, ?_⟩
      simp [NE_mkFix_text, NE_mkFix_space, hp, hlp, hA]
  | none =>
    refine Post'_pure _ _ _ ⟨Fr.refl hs, ?_, ?_⟩
    · intro h; simp [isFront] at h
    · refine ⟨W_mkFix_text _ _ _ hp, ?_⟩
      simp [NE_mkFix_text, NE_mkFix_space, hp]

theorem handler_phantom (hne : tblOkB T = true) (hw : T.WFInv) (fuel : Nat) (IH : AllSpecs T fuel)
    (buf : Buf) (mac : MacroDef) (args : List (List Tok)) (pos : Nat) (st : PState) (hs : StOk T st)
    (ha : ∀ a ∈ args, ANE T st.latex.length a) (hp : pos < st.latex.length) :
    Post' (callHandler T (fuel + 1) .phantom buf mac args pos st)
      (fun r st' => Fr T st st' ∧ HRes T st.latex.length .phantom r) := by
  unfold callHandler
  simp only []
  refine Post'_argBind args 0 _ st _ (fun a h0 _ => ?_)
  refine Post'_bind _ _ _ _ _ (text_sub IH (Fr.refl hs) a (ha a h0)) (fun txt s hfr => ?_)
  refine Post'_ite _ _ _ _ _ (fun _ => ?_) (fun _ => ?_)
  · refine Post'_pure _ _ _ ⟨hfr, HRes_of_ANE ?_⟩
    simp [NE_mkTok_special, hp]
  · exact Post'_pure _ _ _ ⟨hfr, HRes_of_ANE (ANE_nil _)⟩

theorem handler_hspace (hne : tblOkB T = true) (hw : T.WFInv) (fuel : Nat) (IH : AllSpecs T fuel)
    (buf : Buf) (mac : MacroDef) (args : List (List Tok)) (pos : Nat) (st : PState) (hs : StOk T st)
    (ha : ∀ a ∈ args, ANE T st.latex.length a) (hp : pos < st.latex.length) :
    Post' (callHandler T (fuel + 1) .hspace buf mac args pos st)
      (fun r st' => Fr T st st' ∧ HRes T st.latex.length .hspace r) := by
  unfold callHandler
  simp only []
  refine Post'_argBind args 1 _ st _ (fun a h0 _ => ?_)
  refine Post'_bind _ _ _ _ _ (text_sub IH (Fr.refl hs) a (ha a h0)) (fun txt s hfr => ?_)
  refine Post'_ite _ _ _ _ _ (fun _ => ?_) (fun _ => ?_)
  · exact Post'_pure _ _ _ ⟨hfr, HRes_of_ANE (ANE_nil _)⟩
  · refine Post'_pure _ _ _ ⟨hfr, HRes_of_ANE ?_⟩
    simp [NE_mkTok_space, hp]

theorem handler_cite (hne : tblOkB T = true) (hw : T.WFInv) (fuel : Nat) (IH : AllSpecs T fuel)
    (buf : Buf) (mac : MacroDef) (args : List (List Tok)) (pos : Nat) (st : PState) (hs : StOk T st)
    (ha : ∀ a ∈ args, ANE T st.latex.length a) (hp : pos < st.latex.length) :
    Post' (callHandler T (fuel + 1) .cite buf mac args pos st)
      (fun r st' => Fr T st st' ∧ HRes T st.latex.length .cite r) := by
  unfold callHandler
  simp only []
  refine Post'_argBind args 0 _ st _ (fun a0 h0 _ => ?_)
  have hA := ha a0 h0
  cases hl : a0.getLast? with
  | some l =>
    dsimp only
    have hlp : l.pos < st.latex.length := (hA l (List.mem_of_getLast? hl)).1.1
    refine Post'_pure _ _ _ ⟨Fr.refl hs, HRes_of_ANE ?_⟩
    simp [NE_mkFix_text, NE_mkFix_space, NE_mkTok_text, NE_mkAction, hp, hlp, hA]
  | none =>
    refine Post'_pure _ _ _ ⟨Fr.refl hs, HRes_of_ANE ?_⟩
    simp [NE_mkFix_text, NE_mkAction, hp]

theorem handler_heading (hne : tblOkB T = true) (hw : T.WFInv) (fuel : Nat) (IH : AllSpecs T fuel)
    (buf : Buf) (mac : MacroDef) (args : List (List Tok)) (pos : Nat) (st : PState) (hs : StOk T st)
    (ha : ∀ a ∈ args, ANE T st.latex.length a) (hp : pos < st.latex.length) :
    Post' (callHandler T (fuel + 1) .heading buf mac args pos st)
      (fun r st' => Fr T st st' ∧ HRes T st.latex.length .heading r) := by
  unfold callHandler
  simp only []
  refine Post'_argBind args 2 _ st _ (fun a h0 _ => ?_)
  have hA := ha a h0
  refine Post'_bind _ _ _ _ _ (text_sub IH (Fr.refl hs) a hA) (fun txt s hfr => ?_)
  cases hc : (strip txt).getLast? with
  | none => exact Post'_pure _ _ _ ⟨hfr, HRes_of_ANE hA⟩
  | some c =>
    cases hl : a.getLast? with
    | none => exact Post'_crash _ _ _ (by simp [site])
    | some l =>
      dsimp only
      have hlp : l.pos < st.latex.length := (hA l (List.mem_of_getLast? hl)).1.1
      refine Post'_ite _ _ _ _ _ (fun _ => ?_) (fun _ => ?_)
      · refine Post'_pure _ _ _ ⟨hfr, HRes_of_ANE ?_⟩
        simp [NE_mkTok_text, hlp, hA]
      · exact Post'_pure _ _ _ ⟨hfr, HRes_of_ANE hA⟩

theorem handler_newtheorem (hne : tblOkB T = true) (hw : T.WFInv) (fuel : Nat) (IH : AllSpecs T fuel)
    (buf : Buf) (mac : MacroDef) (args : List (List Tok)) (pos : Nat) (st : PState) (hs : StOk T st)
    (ha : ∀ a ∈ args, ANE T st.latex.length a) (hp : pos < st.latex.length) :
    Post' (callHandler T (fuel + 1) .newtheorem buf mac args pos st)
      (fun r st' => Fr T st st' ∧ HRes T st.latex.length .newtheorem r) := by
  unfold callHandler
  simp only []
  refine Post'_argBind args 0 _ st _ (fun a0 h0 _ => ?_)
  refine Post'_argBind args 2 _ st _ (fun a2 h2 _ => ?_)
  refine Post'_bind _ _ _ _ _ (text_sub IH (Fr.refl hs) a0 (ha a0 h0)) (fun name s hfr => ?_)
  refine Post'_bind _ _ _ _ _ (text_sub IH hfr a2 (ha a2 h2)) (fun title s' hfr' => ?_)
  refine Post'_modifyPure _ _ _ _ ⟨⟨StOk_setEnv s' _ hfr'.1 ⟨⟨?_, ?_, ?_⟩, ?_, ?_, ?_⟩, hfr'.2⟩, HRes_of_ANE (ANE_nil _)⟩
  · exact ANE0_nil
  · intro d hd; cases hd
  · exact ANE0_nil
  · rfl
  · intro h; cases h
  · simp [envOk, handlerArity]

theorem handler_newcommand (hne : tblOkB T = true) (hw : T.WFInv) (fuel : Nat) (IH : AllSpecs T fuel)
    (buf : Buf) (mac : MacroDef) (args : List (List Tok)) (pos : Nat) (st : PState) (hs : StOk T st)
    (ha : ∀ a ∈ args, ANE T st.latex.length a) (hp : pos < st.latex.length) :
    Post' (callHandler T (fuel + 1) .newcommand buf mac args pos st)
      (fun r st' => Fr T st st' ∧ HRes T st.latex.length .newcommand r) := by
  unfold callHandler
  simp only []
  refine Post'_argBind args 1 _ st _ (fun a1 h1 _ => ?_)
  refine Post'_argBind args 2 _ st _ (fun a2 h2 _ => ?_)
  refine Post'_argBind args 3 _ st _ (fun a3 h3 _ => ?_)
  refine Post'_argBind args 4 _ st _ (fun a4 h4 _ => ?_)
  refine Post'_get_bind _ st _ ?_
  -- `split` is slow here: it simplifies the whole other branch
  refine Post'_ite _ _ _ st _ (fun _ => ?_) (fun _ => ?_)
  · exact Post'_pure _ _ _ ⟨Fr.refl hs, HRes_of_ANE (ANE_nil _)⟩
  · refine Post'_bind _ _ _ _ _ (text_sub IH (Fr.refl hs) a2 (ha a2 h2)) (fun ns s hfr => ?_)
    have hA3 := ha a3 h3
    have hA4 := ha a4 h4
    generalize (if (!List.isEmpty ns && _) = true then _ else 0) = nargs
    refine Post'_ite _ _ _ s _ (fun _ => latexError_sub hfr _ _ hp _) (fun _ => ?_)
    generalize hf : List.find? _ a4 = o
    cases o with
    | some bad =>
      exact latexError_sub hfr _ _ (hA4 bad (List.mem_of_find?_eq_some hf)).1.1 _
    | none =>
      dsimp only
      refine Post'_ite _ _ _ s _ (fun _ => ?_) (fun _ => ?_)
      · refine Post'_ite _ _ _ s _ (fun _ => ?_) (fun _ => ?_)
        · cases hh' : a1.head? with
          | none => exact Post'_crash _ _ _ (by simp [site])
          | some t =>
            exact latexError_sub hfr _ _ (ha a1 h1 t (List.mem_of_mem_head? (by simp [hh']))).1.1 _
        · refine Post'_modifyPure _ _ _ _ ⟨⟨StOk_setMacro s _ hfr.1 ⟨ANE_ANE0 hA4, ?_, ANE0_nil⟩ rfl, hfr.2⟩,
            HRes_of_ANE (ANE_nil _)⟩
          intro d hd
          simp only [List.mem_cons, List.not_mem_nil, or_false] at hd
          subst hd
          exact ANE_ANE0 hA3
      · refine Post'_modifyPure _ _ _ _ ⟨⟨StOk_setMacro s _ hfr.1 ⟨ANE_ANE0 hA4, ?_, ANE0_nil⟩ rfl, hfr.2⟩,
          HRes_of_ANE (ANE_nil _)⟩
        intro d hd; cases hd

theorem handler_loadDefs (hne : tblOkB T = true) (hw : T.WFInv) (fuel : Nat) (IH : AllSpecs T fuel)
    (buf : Buf) (mac : MacroDef) (args : List (List Tok)) (pos : Nat) (st : PState) (hs : StOk T st)
    (ha : ∀ a ∈ args, ANE T st.latex.length a) (hp : pos < st.latex.length) :
    Post' (callHandler T (fuel + 1) .loadDefs buf mac args pos st)
      (fun r st' => Fr T st st' ∧ HRes T st.latex.length .loadDefs r) := by
  unfold callHandler
  simp only []
  refine Post'_get_bind _ st _ ?_
  refine Post'_ite _ _ _ _ _ (fun _ => ?_) (fun _ => ?_)
  · exact Post'_pure _ _ _ ⟨Fr.refl hs, HRes_of_ANE (ANE_nil _)⟩
  · refine Post'_argBind args 0 _ st _ (fun a0 h0 _ => ?_)
    refine Post'_bind _ _ _ _ _ (text_sub IH (Fr.refl hs) a0 (ha a0 h0)) (fun file s hfr => ?_)
    refine Post'_get_bind _ s _ ?_
    cases hf : List.find? (fun x => x.fst == file) s.fs with
    | none => exact latexError_sub hfr _ _ hp _
    | some f =>
      dsimp only
      refine Post'_bind _ _ _ (fun _ s1 => s1 = { s with extracted := [] }) _ (Post'_modify _ _ _ rfl) ?_
      rintro _ s1 rfl
      have hs1 : StOk T { s with extracted := [] } := StOk_congr hfr.1 rfl rfl rfl
      refine Post'_bind _ _ _ _ _ (IH.work f.2 _ hs1) (fun toks s2 h2 => ?_)
      obtain ⟨hfr2, hanc⟩ := h2
      refine Post'_modifyPure _ _ _ _ ⟨⟨StOk_congr hfr2.1 rfl rfl rfl, ?_⟩, HRes_of_ANE ?_⟩
      · exact (show s2.latex = s.latex from hfr2.2).trans hfr.2
      · exact (filterSetToks_lang _ pos toks hp hanc).1

section fold
variable {fuel : Nat} (IH : AllSpecs T fuel)
include IH

private theorem loadModule_fold (hne : tblOkB T = true) (cls : Bool) (options : List KeyVal) (pos : Nat)
    (st0 : PState) (names : List Str) (acc : List Tok) (s : PState) (hs : Fr T st0 s)
    (hacc : InjOk T st0.latex.length pos acc) :
    Post' (names.foldlM (m := M) (fun acc p => do
        let o ← initPackage T fuel p ((findModule T cls p).getD (emptyModule p)) false options pos
        pure (acc ++ o)) acc s) (fun r s' => Fr T st0 s' ∧ InjOk T st0.latex.length pos r) := by
  induction names generalizing acc s with
  | nil => exact Post'_pure _ _ _ ⟨hs, hacc⟩
  | cons p names ih =>
    rw [List.foldlM_cons]
    refine Post'_bind _ _ _ (fun r s' => Fr T st0 s' ∧ InjOk T st0.latex.length pos r) _ ?_
      (fun r s' h => ih r s' h.1 h.2)
    refine Post'_bind _ _ _ _ _ (IH.init p _ false options pos s hs.1 (findModule_ModOk hne cls p)) (fun o s' h => ?_)
    refine Post'_pure _ _ _ ⟨hs.trans h.1, InjOk_append hacc ?_⟩
    have h2 := h.2
    rw [hs.len] at h2
    exact h2

end fold

theorem handler_loadModule (cls : Bool) (hne : tblOkB T = true) (hw : T.WFInv) (fuel : Nat) (IH : AllSpecs T fuel)
    (buf : Buf) (mac : MacroDef) (args : List (List Tok)) (pos : Nat) (st : PState) (hs : StOk T st)
    (ha : ∀ a ∈ args, ANE T st.latex.length a) (hp : pos < st.latex.length) :
    Post' (callHandler T (fuel + 1) (.loadModule cls) buf mac args pos st)
      (fun r st' => Fr T st st' ∧ HRes T st.latex.length (.loadModule cls) r) := by
  unfold callHandler
  simp only []
  refine Post'_argBind args 0 _ st _ (fun a0 h0 _ => ?_)
  refine Post'_argBind args 1 _ st _ (fun a1 h1 _ => ?_)
  refine Post'_bind _ _ _ _ _ (IH.keyvals a0 [] st hs (ha a0 h0) (by intro kv hkv; cases hkv)) (fun kv s hk => ?_)
  obtain ⟨hfr, hkv⟩ := hk
  refine Post'_bind _ _ _ _ _ (IH.expandKv kv s hfr.1 (by rw [hfr.len]; exact hkv)) (fun options s2 hfr2 => ?_)
  have hfr2' := hfr.trans hfr2
  refine Post'_bind _ _ _ _ _ (text_sub IH hfr2' a1 (ha a1 h1)) (fun packs s3 hfr3 => ?_)
  refine Post'_bind _ _ _ _ _ (loadModule_fold IH hne cls options pos st _ [] s3 hfr3 (InjOk_nil T _ _))
    (fun out s4 hs4 => ?_)
  exact Post'_pure _ _ _ ⟨hs4.1, HRes_of_ANE (filterSetToks_false_ANE _ pos out hp (ANE_ANE0 (hs4.2.1 hp)) hs4.2.2)⟩

end NoEmpty
end Yalafi
