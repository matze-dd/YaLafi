/-
  Proofs/NoEmptyBase2.lean — leaf lemmas for the NoEmpty bundle, part 2: blank-line removal,
  `cap_first` / `cap_all`, small handlers, state updates, tables.
-/
import YalafiVerif.Proofs.NoEmptyDefs
import YalafiVerif.Proofs.NoEmptyBase2b
import YalafiVerif.Proofs.Inv.Basic
namespace Yalafi
namespace NoEmpty

variable {T : PTables}

private theorem ctlEmpty_retxt (t : Tok) (f : Str → Str) (hf : f [] = []) (h : ctlEmpty t = true) :
    ctlEmpty { t with txt := f t.txt } = true := by
  unfold ctlEmpty at h ⊢
  cases hk : t.kind <;> simp_all [List.isEmpty_iff]

private theorem noCall_trimFirst (t : Tok) (h : noCall t = true) : noCall (trimFirst t) = true := by
  unfold noCall at h ⊢
  simp only [Bool.and_eq_true] at h ⊢
  refine ⟨h.1, ?_⟩
  exact ctlEmpty_retxt t (fun s => if hasNl s then uptoLastNl s else []) (by simp [hasNl]) h.2

private theorem noCall_trimLast (t : Tok) (h : noCall t = true) : noCall (trimLast t) = true := by
  unfold noCall at h ⊢
  simp only [Bool.and_eq_true] at h ⊢
  refine ⟨h.1, ?_⟩
  have := ctlEmpty_retxt t (fun s => if hasNl s then afterFirstNl s else []) (by simp [hasNl]) h.2
  unfold ctlEmpty at this ⊢
  exact this

private theorem noCall_sentinel (p : Nat) : noCall (sentinel p) = true := by
  simp [noCall, sentinel, ctlEmpty]

theorem removeLines_ANC (ts out : List Tok) (h : ANC ts) (hr : removeLines ts = some out) : ANC out := by
  obtain ⟨r, hrel, rfl⟩ := removeLines_rel ts out hr
  intro t ht
  simp only [List.mem_filter] at ht
  refine LinesRel_pred (fun t => noCall t = true) noCall_trimFirst noCall_trimLast
    (fun t _ => noCall_sentinel t.pos) _ r hrel ?_ t ht.1
  intro i hi
  simp only [linesInit, List.mem_cons, List.mem_append, List.mem_map, List.mem_filter,
    List.not_mem_nil, or_false] at hi
  rcases hi with (rfl | ⟨u, hu, rfl⟩) | rfl
  · exact noCall_sentinel 0
  · rw [evalTok_tok]; exact h u hu.1
  · exact noCall_sentinel _

theorem upper_ne (hne : tblOkB T = true) (c : Char) : T.toTables.upper c ≠ [] := by
  simp only [tblOkB, Bool.and_eq_true, List.all_eq_true] at hne
  unfold Tables.upper
  split
  · next e he =>
    have := hne.2 e (List.mem_of_find?_eq_some he)
    intro h; rw [h] at this; simp at this
  · simp

private theorem upperTok_NE0 (t : Tok) (txt : Str) (hk : t.kind = .text) (hx : txt ≠ []) :
    NE0 T (upperTok t txt) := by
  refine ⟨fun _ => hx, ?_⟩
  simp [MB, ctlEmpty, upperTok, hk]

private theorem upperTok_W (n : Nat) (t : Tok) (txt : Str) (hk : t.kind = .text) (hw : W T n t) :
    W T n (upperTok t txt) := by
  refine ⟨hw.1, ?_, ?_⟩
  · intro hv; simp [upperTok, hk] at hv
  · simp [MB, ctlEmpty, upperTok, hk]

private theorem capFirst_cases (ts : List Tok) :
    (capFirst T ts = some ts) ∨
    (∃ i t, ts[i]? = some t ∧ t.kind = .text ∧
      ((t.txt = [] ∧ capFirst T ts = none) ∨
       (∃ c cs, t.txt = c :: cs ∧ capFirst T ts = some (ts.set i (upperTok t (T.toTables.upper c)))))) := by
  unfold capFirst
  split
  · exact Or.inl rfl
  · next i hi =>
    split
    · exact Or.inl rfl
    · next t ht =>
      right
      have hk : t.kind = .text := by
        have h1 := List.findIdx?_eq_some_iff_getElem.1 hi
        obtain ⟨hlt, hp, _⟩ := h1
        have : ts[i] = t := by
          rw [List.getElem?_eq_getElem hlt] at ht; exact Option.some.inj ht
        rw [this] at hp; simpa using hp
      refine ⟨i, t, ht, hk, ?_⟩
      cases hx : t.txt with
      | nil => left; simp
      | cons c cs => right; exact ⟨c, cs, rfl, by simp⟩

theorem capFirst_some (ts : List Tok) (h : ANE0 T ts) : ∃ r, capFirst T ts = some r := by
  rcases capFirst_cases (T := T) ts with h1 | ⟨i, t, ht, hk, h2 | ⟨c, cs, _, h2⟩⟩
  · exact ⟨_, h1⟩
  · exact absurd h2.1 ((h t (List.mem_of_getElem? ht)).1 hk)
  · exact ⟨_, h2⟩

theorem capFirst_ANE0 (hne : tblOkB T = true) (ts r : List Tok) (h : ANE0 T ts) (hr : capFirst T ts = some r) :
    ANE0 T r := by
  rcases capFirst_cases (T := T) ts with h1 | ⟨i, t, ht, hk, h2 | ⟨c, cs, _, h2⟩⟩
  · rw [h1] at hr; cases hr; exact h
  · rw [h2.2] at hr; cases hr
  · rw [h2] at hr; cases hr
    intro x hx
    rcases List.mem_or_eq_of_mem_set hx with hx | rfl
    · exact h x hx
    · exact upperTok_NE0 t _ hk (upper_ne hne c)

theorem capFirst_ANE (hne : tblOkB T = true) (n : Nat) (ts r : List Tok) (h : ANE T n ts)
    (hr : capFirst T ts = some r) : ANE T n r := by
  rcases capFirst_cases (T := T) ts with h1 | ⟨i, t, ht, hk, h2 | ⟨c, cs, _, h2⟩⟩
  · rw [h1] at hr; cases hr; exact h
  · rw [h2.2] at hr; cases hr
  · rw [h2] at hr; cases hr
    intro x hx
    rcases List.mem_or_eq_of_mem_set hx with hx | rfl
    · exact h x hx
    · exact ⟨upperTok_W n t _ hk (h t (List.mem_of_getElem? ht)).1, upperTok_NE0 t _ hk (upper_ne hne c)⟩

theorem capAll_ANE0 (hne : tblOkB T = true) (ts : List Tok) (h : ANE0 T ts) : ANE0 T (capAll T ts) := by
  intro x hx
  unfold capAll at hx
  obtain ⟨t, ht, rfl⟩ := List.mem_map.1 hx
  split
  · next hk =>
    have hk' : t.kind = .text := by simpa using hk
    refine upperTok_NE0 t _ hk' ?_
    have hnn := (h t ht).1 hk'
    cases hx : t.txt with
    | nil => exact absurd hx hnn
    | cons c cs =>
      simp only [List.flatMap_cons]
      intro he
      exact upper_ne hne c (List.append_eq_nil_iff.1 he).1
  · exact h t ht

theorem substackLoop_ANE (n : Nat) (lev : Int) (ts : List Tok) (h : ANE T n ts) : ANE T n (substackLoop lev ts) := by
  induction ts generalizing lev with
  | nil => simp [substackLoop]
  | cons t ts ih =>
    rw [ANE_cons] at h
    simp only [substackLoop]
    rw [ANE_cons]
    refine ⟨?_, ih _ h.2⟩
    refine ite_prop (NE T n) _ _ _ ?_ h.1
    have := h.1.1.1
    simp [NE, W, NE0, MB, ctlEmpty, mkTok, this]

theorem bibCite_both (hne : tblOkB T = true) (n : Nat) (args : List (List Tok)) (pos : Nat) (o : List Tok)
    (ha : ∀ a ∈ args, ANE T n a) (hp : pos < n) (h : bibCite T args pos = some o) :
    ANE T n o ∧ (o.getLast?.map (·.pos)).getD pos < n := by
  have hct : T.citeText ≠ [] := by
    simp only [tblOkB, Bool.and_eq_true, List.all_eq_true] at hne
    have := hne.1.2
    intro he; rw [he] at this; simp at this
  unfold bibCite at h
  split at h
  · rename_i o1 o2 h1 h2
    have hA1 := ha o1 (List.mem_of_getElem? h1)
    have hA2 := ha o2 (List.mem_of_getElem? h2)
    extract_lets isVoid opt1 pre post out0 lastPos out1 out2 out3 at h
    have hopt1 : ANE T n opt1 := ite_prop (ANE T n) _ _ _ (ANE_nil n) hA1
    have hpre : ANE T n pre := ite_prop (ANE T n) _ _ _ (ANE_nil n) hopt1
    have hpost : ANE T n post := ite_prop (ANE T n) _ _ _ hopt1 (ite_prop (ANE T n) _ _ _ (ANE_nil n) hA2)
    have hout0 : ANE T n out0 := by simp [out0, NE_mkFix_text, hp]
    have hlast : ∀ l, ANE T n l → lastPos l < n := fun l hl => lastPos_lt hl hp
    have hout1 : ANE T n out1 := by
      apply ite_prop (ANE T n) _ _ _ hout0
      have := hlast (out0 ++ pre) ((ANE_append n _ _).mpr ⟨hout0, hpre⟩)
      simp [NE_mkFix_space, hout0, hpre, this]
    have hout2 : ANE T n out2 := by
      simp [out2, NE_mkFix_text, hct, hout1, hlast out1 hout1]
    have hout3 : ANE T n out3 := by
      apply ite_prop (ANE T n) _ _ _ hout2
      simp [NE_mkFix_text, NE_mkFix_space, hout2, hpost, hlast out2 hout2]
    cases h
    refine ⟨?_, ?_⟩
    · simp [NE_mkFix_text, NE_mkAction, hout3, hlast out3 hout3]
    · have := hlast out3 hout3
      simpa [List.getLast?_append, mkAction] using this
  · cases h

theorem filterSetToks_lang (n pos : Nat) (ts : List Tok) (hp : pos < n) (hc : ANC ts) :
    ANE T n (filterSetToks ts pos true) ∧ langOnly (filterSetToks ts pos true) := by
  have key : ∀ t ∈ filterSetToks ts pos true, NE T n t ∧ isLang t = true ∧ t.txt = [] := by
    intro t ht
    simp only [filterSetToks, List.mem_map, List.mem_filter] at ht
    obtain ⟨u, ⟨hu, hl⟩, rfl⟩ := ht
    have hl' : isLang u = true := by simpa using hl
    have hce := noCall_ctl (hc u hu)
    have htx : u.txt = [] := by
      unfold isLang at hl'; unfold ctlEmpty at hce
      split at hl' <;> simp_all
    unfold isLang at hl'
    split at hl'
    · rename_i hk
      simp [NE, W, NE0, MB, ctlEmpty, isLang, hk, hp, htx]
    · cases hl'
  exact ⟨fun t ht => (key t ht).1, fun t ht => (key t ht).2⟩

theorem filterSetToks_langOnly (n pos : Nat) (ts : List Tok) (hp : pos < n) (h : langOnly ts) :
    ANE T n (filterSetToks ts pos false) := by
  intro t ht
  simp only [filterSetToks, List.mem_map, List.mem_filter] at ht
  obtain ⟨u, ⟨hu, _⟩, rfl⟩ := ht
  obtain ⟨hl, htx⟩ := h u hu
  unfold isLang at hl
  split at hl
  · rename_i hk
    simp [NE, W, NE0, MB, ctlEmpty, hk, hp, htx]
  · cases hl

/-- re-stamping stored-quality tokens at a position inside the text (`filter_set_toks` without the
    language filter: the tokens injected by a package on loading) -/
theorem filterSetToks_false_ANE (n pos : Nat) (ts : List Tok) (hp : pos < n) (h : ANE0 T ts)
    (hv : ∀ t ∈ ts, t.kind ≠ .verb true) : ANE T n (filterSetToks ts pos false) := by
  intro t ht
  simp only [filterSetToks, List.mem_map, List.mem_filter] at ht
  obtain ⟨u, ⟨hu, _⟩, rfl⟩ := ht
  obtain ⟨h1, h2, h3⟩ := h u hu
  have hk := hv u hu
  refine ⟨⟨hp, fun hk' => absurd hk' hk, h2, ?_⟩, h1, h2, ?_⟩
  · simpa [ctlEmpty] using h3
  · simpa [ctlEmpty] using h3

/-! ### calls of the handlers into the bundle, from a state reached by a frame step -/

theorem text_sub {fuel : Nat} (IH : AllSpecs T fuel) {st0 s : PState} (h0 : Fr T st0 s) (toks : List Tok)
    (hb : ANE T st0.latex.length toks) :
    Post' (getTextExpanded T fuel toks s) (fun _ s' => Fr T st0 s') := by
  apply Post'_mono _ _ _ (IH.text toks s h0.1 (Buf3_of_ANE (by rw [h0.len]; exact hb)))
  intro _ s' h1
  exact h0.trans h1

theorem latexError_sub {st0 s : PState} (h0 : Fr T st0 s) (err : Str) (pos : Nat)
    (hp : pos < st0.latex.length) (h : Handler) :
    Post' (latexError T.toTables err pos s) (fun r s' => Fr T st0 s' ∧ HRes T st0.latex.length h r) := by
  apply Post'_mono _ _ _ (latexError_spec err pos s h0.1)
  intro r s' ⟨h1, _, h3⟩
  exact ⟨h0.trans h1, HRes_of_ANE (by rw [← h0.len]; exact h3 (by rw [h0.len]; exact hp))⟩

theorem StOk_setMacro (st : PState) (m : MacroDef) (hs : StOk T st) (hm : MacOk T m) (hf : isFront m.handler = false) :
    StOk T { st with macros := setMacro st.macros m } := by
  refine ⟨fun x hx => ?_, hs.envs, hs.gloss⟩
  rcases setMacro_mem _ _ _ hx with h | rfl
  · exact hs.macros x h
  · exact ⟨hm, hf⟩

theorem StOk_setEnv (st : PState) (m : MacroDef) (hs : StOk T st) (hm : EnvOk T m) :
    StOk T { st with envs := setMacro st.envs m } := by
  refine ⟨hs.macros, fun x hx => ?_, hs.gloss⟩
  rcases setMacro_mem _ _ _ hx with h | rfl
  · exact hs.envs x h
  · exact hm

theorem StOk_setGloss (st : PState) (label : Str) (e : List (Str × Option (List Tok)))
    (hs : StOk T st) (he : ∀ kv ∈ e, ∀ ts, kv.2 = some ts → ANE0 T ts) :
    StOk T { st with glossary := setGloss st.glossary label e } := by
  refine ⟨hs.macros, hs.envs, ?_⟩
  intro x hx
  show ∀ kv ∈ x.2, ∀ ts, kv.2 = some ts → ANE0 T ts
  simp only [setGloss] at hx
  split at hx
  · simp only [List.mem_map] at hx
    obtain ⟨y, hy, rfl⟩ := hx
    split
    · exact he
    · exact hs.gloss y hy
  · simp only [List.mem_append, List.mem_cons, List.not_mem_nil, or_false] at hx
    rcases hx with h | rfl
    · exact hs.gloss x h
    · exact he

theorem initialState_StOk (o : Options) (multi : Bool) (fs : FS) : StOk T (initialState T o multi fs) := by
  refine ⟨?_, ?_, ?_⟩
  · intro m hm; simp [initialState] at hm
  · intro m hm; simp [initialState] at hm
  · intro e he; simp [initialState] at he

private theorem tbl_mod (hne : tblOkB T = true) (md : ModuleDef) (h : md ∈ T.packageModules ++ T.classModules) :
    ModOk T md := by
  simp only [tblOkB, Bool.and_eq_true, List.all_eq_true] at hne
  have := hne.1.1.2 md h
  exact ⟨fun m hm => macroOkB_ok m (this.1 m hm), fun m hm => envOkB_ok m (this.2 m hm)⟩

theorem findModule_ModOk (hne : tblOkB T = true) (cls : Bool) (name : Str) :
    ModOk T ((findModule T cls name).getD (emptyModule name)) := by
  cases h : findModule T cls name with
  | none => simp [emptyModule, ModOk]
  | some md => exact tbl_mod hne md (findModule_mem T h)

theorem builtinModule_ModOk (hne : tblOkB T = true) (o : Options) : ModOk T (builtinModule T o) := by
  simp only [tblOkB, Bool.and_eq_true, List.all_eq_true] at hne
  refine ⟨fun m hm => macroOkB_ok m (hne.1.1.1.1 m ?_), fun m hm => envOkB_ok m (hne.1.1.1.2 m hm)⟩
  simp only [builtinModule, List.mem_append] at hm ⊢
  rcases hm with h | h
  · exact Or.inl h
  · split at h
    · exact Or.inr h
    · cases h

theorem getPackages_ModOk (hne : tblOkB T = true) (cls : Bool) (packs : Str) :
    ∀ nm ∈ getPackages T cls packs, ModOk T nm.2 := by
  intro nm hnm
  unfold getPackages at hnm
  split at hnm
  · cases hnm
  · simp only [List.mem_flatten, List.mem_map] at hnm
    obtain ⟨l, ⟨p, _, rfl⟩, hl⟩ := hnm
    split at hl
    · simp only [List.mem_map] at hl
      obtain ⟨m, _, rfl⟩ := hl
      exact findModule_ModOk hne cls m
    · simp only [List.mem_singleton] at hl
      subst hl
      exact findModule_ModOk hne cls p

end NoEmpty
end Yalafi
