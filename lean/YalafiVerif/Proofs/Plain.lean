/-
  Proofs/Plain.lean — what every document class shares of states, tokens and scanner steps, and the first class:
  C06 "plain prose is a fixed point", end to end on the model.

  `inertChar T st c`   : per-character condition (computable)
  `inertText T st src` : the weaker, context dependent condition the proofs really use
                         (a character may start a special sequence as long as none matches
                         at its offset, e.g. a single `-` or `'`; an active character of the
                         language settings, e.g. `"` for 'de', is allowed where it does not
                         complete a short macro with the token behind it)
  `PState.frame`, `Ext`, `Reads` : what the side conditions of the document classes read of the state; the
                         conditions are checked against the initialised state, the loop lemmas run in any
                         state that extends it (`X.ext`) or reads as it (`X.reads`)
  `nextToken_text`, `PlainStep.textStep`, `PlainMacro.passTok_text`, `PlainMacro.passTok_steps` :
                         one scanner step on a text character and what the scanner lemma of every
                         document class needs of its token; `Scans.text` (`scans_text`): the step as a run
  `wsTok`, `nextToken_white`, `Scans.white`, `nextToken_wsRun`, `Scans.ws`, `Scans.whiteSteps` : a run of white
                         space is one token; `takeWhile_stop`, `takeWhile_stop1`, `dropWhile_head_not`: where
                         a `takeWhile` ends
  `nextToken_specialAt`, `Scans.special` : a special sequence of the tables
  `CopiedTok`, `CopiedSeq`, `seqRun_copiedTok`, `seqRun_copied` : the tokens the loop copies (the hypotheses of
                         `loop_copy`), as a prefix of the buffer; `seqRun_pushed`: pushed back by an iteration
  `seqRun_plainTok`, `seqRun_plain`, `seq_plain_id` : plain tokens are copied; `scanAll_plain`: the scanner loop
  `parserWork_plain`   : `parserWork` returns the scanner tokens, unchanged state,
                         text = source, positions = 0,1,2,…
  `tex2txt_plain`      : the lift to `tex2txt` (1-based positions)
-/
import YalafiVerif.Proofs.Inv.Basic
import YalafiVerif.Proofs.Scanner
import YalafiVerif.Proofs.Lines
import YalafiVerif.Proofs.Utils
import YalafiVerif.Proofs.Top
import YalafiVerif.Proofs.SeqEq
import YalafiVerif.Proofs.Call
import YalafiVerif.Proofs.ScanRun
namespace Yalafi

open M

/-- the characters on which the scanner dispatches through the first character (`% # \`) and
    `expandSequence` through the *text* of a token (`$ $$ \( \[ \\ { }`) -/
def structuralChar (c : Char) : Bool :=
  c == '%' || c == '#' || c == '\\' || c == '$' || c == '{' || c == '}'

def shortKeys (T : PTables) (st : PState) : List Str :=
  (((settingsOf T (curSettings st)).map (·.shortMacros)).getD []).map (·.1)

/-- the text of the first scanner token of an inert text: a run of white space or one character -/
def firstTokTxt : Str → Str
  | [] => []
  | d :: ds => if isSpace d then (d :: ds).takeWhile isSpace else [d]

/-- `c` followed by `cs` is inert:
    * it is not an active character of the current language settings, or it is no white space
      and does not form a short macro with the token behind it (or nothing is behind it), and
    * it is white space, or an ordinary character at which no special sequence matches -/
def inertAt (T : PTables) (st : PState) (c : Char) (cs : Str) : Bool :=
  (!(activeChars T st).contains [c] ||
    (!isSpace c && (cs.isEmpty || !(shortKeys T st).contains (c :: firstTokTxt cs)))) &&
  (isSpace c || (!structuralChar c && (matchSpecial T.toTables (c :: cs)).isNone))

def inertText (T : PTables) (st : PState) : Str → Bool
  | [] => true
  | c :: cs => inertAt T st c cs && inertText T st cs

def startsNoSpecial (T : Tables) (c : Char) : Bool :=
  T.specialSorted.all (fun t => match t with | [] => false | d :: _ => d != c)

/-- per-character inertness (depends on `st` only through `curSettings st`):
    not an active character, and white space or a non-structural character that starts no
    special sequence -/
def inertChar (T : PTables) (st : PState) (c : Char) : Bool :=
  !(activeChars T st).contains [c] &&
  (isSpace c || (!structuralChar c && startsNoSpecial T.toTables c))

theorem matchSpecial_none_of_startsNoSpecial (T : Tables) (c : Char) (cs : Str)
    (h : startsNoSpecial T c = true) : matchSpecial T (c :: cs) = none := by
  unfold matchSpecial
  rw [List.find?_eq_none]
  intro t ht
  have := (List.all_eq_true.mp h) t ht
  cases t with
  | nil => simp at this
  | cons d ds =>
    have hd : d ≠ c := by simpa using this
    simp [startsWith, Ne.symm hd]

theorem PlainMacro.inertChar_facts {T : PTables} {st : PState} {c : Char} (h : inertChar T st c = true)
    (cs : Str) : (activeChars T st).contains [c] = false ∧
    (isSpace c = true ∨ (structuralChar c = false ∧ matchSpecial T.toTables (c :: cs) = none)) := by
  simp only [inertChar, Bool.and_eq_true, Bool.or_eq_true, Bool.not_eq_true'] at h
  exact ⟨h.1, h.2.imp id (fun h => ⟨h.1, matchSpecial_none_of_startsNoSpecial _ _ _ h.2⟩)⟩

theorem inertAt_of_inertChar (T : PTables) (st : PState) (c : Char) (cs : Str)
    (h : inertChar T st c = true) : inertAt T st c cs = true := by
  obtain ⟨h1, h2⟩ := PlainMacro.inertChar_facts h cs
  simp only [inertAt, Bool.and_eq_true, Bool.or_eq_true, Bool.not_eq_true', Option.isNone_iff_eq_none]
  exact ⟨Or.inl h1, h2⟩

theorem inertText_of_inertChar (T : PTables) (st : PState) (src : Str)
    (h : ∀ c ∈ src, inertChar T st c = true) : inertText T st src = true := by
  induction src with
  | nil => rfl
  | cons c cs ih =>
    simp only [inertText, Bool.and_eq_true]
    exact ⟨inertAt_of_inertChar T st c cs (h c (List.mem_cons_self ..)),
      ih (fun d hd => h d (List.mem_cons_of_mem _ hd))⟩

theorem inertText_drop (T : PTables) (st : PState) (k : Nat) (s : Str)
    (h : inertText T st s = true) : inertText T st (s.drop k) = true := by
  induction k generalizing s with
  | zero => simpa using h
  | succ k ih =>
    cases s with
    | nil => simpa using h
    | cons c cs =>
      simp only [inertText, Bool.and_eq_true] at h
      simpa using ih cs h.2

theorem activeChars_congr (T : PTables) (st st' : PState) (h : st'.langStack = st.langStack) :
    activeChars T st' = activeChars T st := by
  unfold activeChars curSettings
  rw [h]

theorem shortKeys_congr (T : PTables) (st st' : PState) (h : st'.langStack = st.langStack) :
    shortKeys T st' = shortKeys T st := by
  unfold shortKeys curSettings
  rw [h]

theorem expandShortMacro_congr (T : PTables) (st st' : PState) (h : st'.langStack = st.langStack)
    (t : Tok) (rest : Buf) : expandShortMacro T st' t rest = expandShortMacro T st t rest := by
  cases rest with
  | nil => rfl
  | cons cur rest' => simp only [expandShortMacro, curSettings, h]

theorem inertText_congr (T : PTables) (st st' : PState) (h : st'.langStack = st.langStack) (s : Str) :
    inertText T st' s = inertText T st s := by
  induction s with
  | nil => rfl
  | cons c cs ih =>
    simp only [inertText, inertAt, activeChars_congr T st st' h, shortKeys_congr T st st' h, ih]

theorem lookupMacro_congr {st st' : PState} (h : st'.macros = st.macros) (name : Str) :
    lookupMacro st' name = lookupMacro st name := by
  unfold lookupMacro
  rw [h]

/-- the state without the macro table, without the journal of a run (`unknowns`, `extracted`, `diags`,
    `latex`, the ghost fields) and without the two stacks that the loop itself moves (`rots`,
    `itemStack`) -/
def PState.frame (st : PState) : PState :=
  { st with macros := [], unknowns := [], extracted := [], diags := [], latex := [], nest := 0,
            foreign := false, rots := [], itemStack := [] }

/-- `st'` **extends** `st`: the same frame, and every macro that `st` declares is declared in `st'` with
    the same meaning (`\newcommand` may have added others).  A side condition that mentions neither the
    journal nor the two stacks, and asks of the macro table only that certain macros are declared, holds
    of `st'` if it holds of `st`: the conditions of a document are checked once, against the initialised
    state, and the loop lemmas run in any state that extends it. -/
structure Ext (st st' : PState) : Prop where
  frame : st'.frame = st.frame
  decl : ∀ nm m, lookupMacro st nm = some m → lookupMacro st' nm = some m

/-- `st'` **reads as** `st`: the same frame and the same macro table (for conditions that also ask that a
    macro is NOT declared).  An update of the journal or of the two stacks is an instance by `⟨rfl, rfl⟩`. -/
structure Reads (st st' : PState) : Prop where
  frame : st'.frame = st.frame
  macros : st'.macros = st.macros

namespace Ext
variable {T : PTables} {st st' st'' : PState}

theorem refl (st : PState) : Ext st st := ⟨rfl, fun _ _ h => h⟩

theorem trans (h : Ext st st') (h' : Ext st' st'') : Ext st st'' :=
  ⟨h'.frame.trans h.frame, fun nm m hm => h'.decl nm m (h.decl nm m hm)⟩

theorem lang (h : Ext st st') : st'.langStack = st.langStack :=
  show st'.frame.langStack = st.frame.langStack from congrArg _ h.frame

theorem envs (h : Ext st st') : st'.envs = st.envs :=
  show st'.frame.envs = st.frame.envs from congrArg _ h.frame

theorem ops (h : Ext st st') : st'.mathOperators = st.mathOperators :=
  show st'.frame.mathOperators = st.frame.mathOperators from congrArg _ h.frame

theorem mtm (h : Ext st st') : st'.mathTextMacros = st.mathTextMacros :=
  show st'.frame.mathTextMacros = st.frame.mathTextMacros from congrArg _ h.frame

theorem ign (h : Ext st st') : st'.newcommandIgnore = st.newcommandIgnore :=
  show st'.frame.newcommandIgnore = st.frame.newcommandIgnore from congrArg _ h.frame

theorem multi (h : Ext st st') : st'.multiLanguage = st.multiLanguage :=
  show st'.frame.multiLanguage = st.frame.multiLanguage from congrArg _ h.frame

theorem ds (h : Ext st st') : st'.displayedSimple = st.displayedSimple :=
  show st'.frame.displayedSimple = st.frame.displayedSimple from congrArg _ h.frame

theorem skipB (h : Ext st st') : st'.skipBegin = st.skipBegin :=
  show st'.frame.skipBegin = st.frame.skipBegin from congrArg _ h.frame

theorem skipE (h : Ext st st') : st'.skipEnd = st.skipEnd :=
  show st'.frame.skipEnd = st.frame.skipEnd from congrArg _ h.frame

theorem lookupEnv (h : Ext st st') (name : Str) : lookupEnv st' name = Yalafi.lookupEnv st name := by
  simp only [Yalafi.lookupEnv, h.envs]

theorem curSettings (h : Ext st st') : curSettings st' = Yalafi.curSettings st := by
  simp only [Yalafi.curSettings, h.lang]

theorem activeChars (h : Ext st st') : activeChars T st' = Yalafi.activeChars T st :=
  activeChars_congr T st st' h.lang

end Ext

namespace Reads
variable {st st' st'' : PState}

theorem ext (h : Reads st st') : Ext st st' :=
  ⟨h.frame, fun nm m hm => (lookupMacro_congr h.macros nm).trans hm⟩

theorem trans (h : Reads st st') (h' : Reads st' st'') : Reads st st'' :=
  ⟨h'.frame.trans h.frame, h'.macros.trans h.macros⟩

theorem startState (st : PState) (src : Str) : Reads st (startState st src) := ⟨rfl, rfl⟩

theorem lookupMacro (h : Reads st st') (name : Str) : lookupMacro st' name = Yalafi.lookupMacro st name :=
  lookupMacro_congr h.macros name

end Reads

theorem Ext.reads {st st' st'' : PState} (h : Ext st st') (h' : Reads st' st'') : Ext st st'' :=
  h.trans h'.ext

/-- a text / space / paragraph token whose text is none of the texts `expandSequence`
    dispatches on -/
structure PlainTok (t : Tok) : Prop where
  kind : t.kind = .text ∨ t.kind = .space ∨ t.kind = .par
  n1 : txtIs t "$" = false
  n2 : txtIs t "\\(" = false
  n3 : txtIs t "$$" = false
  n4 : txtIs t "\\[" = false
  n5 : txtIs t "\\\\" = false
  n6 : txtIs t "{" = false
  n7 : txtIs t "}" = false

/-- the short-macro branch does not fire, or does not change anything -/
def PassTok (T : PTables) (st : PState) (t : Tok) (rest : Buf) : Prop :=
  (activeChars T st).contains t.txt = false ∨ expandShortMacro T st t rest = (t, rest)

theorem PlainMacro.PassTok_congr {T : PTables} {st st' : PState} (hl : st'.langStack = st.langStack)
    {t : Tok} {rest : Buf} (h : PassTok T st t rest) : PassTok T st' t rest := by
  unfold PassTok
  rw [activeChars_congr T st st' hl, expandShortMacro_congr T st st' hl]
  exact h

theorem Ext.passTok {T : PTables} {st st' : PState} (h : Ext st st') {t : Tok} {rest : Buf}
    (hp : PassTok T st t rest) : PassTok T st' t rest :=
  PlainMacro.PassTok_congr h.lang hp

/-- a buffer that `expandSequence` copies to the output -/
def PlainSeq (T : PTables) (st : PState) : List Tok → Prop
  | [] => True
  | t :: rest => PlainTok t ∧ PassTok T st t rest ∧ PlainSeq T st rest

theorem PlainTok.notAction {t : Tok} (h : PlainTok t) : isAction t = false := by
  unfold isAction
  rcases h.kind with hk | hk | hk <;> simp [hk]

theorem PlainTok.notComment {t : Tok} (h : PlainTok t) : t.kind ≠ .comment := by
  rcases h.kind with hk | hk | hk <;> simp [hk]

theorem PlainSeq.all {T : PTables} {st : PState} : ∀ {toks : List Tok}, PlainSeq T st toks →
    ∀ t ∈ toks, PlainTok t
  | [], _, _, h => nomatch h
  | _ :: _, hs, x, hx => by
    rcases List.mem_cons.mp hx with rfl | hx
    · exact hs.1
    · exact PlainSeq.all hs.2.2 x hx

theorem PlainTok.seqKey {t : Tok} (h : PlainTok t) : seqKey t = false := by
  simp only [Yalafi.seqKey, h.n1, h.n2, h.n3, h.n4, h.n5, h.n6, h.n7, Bool.or_self]

theorem PlainTok.kindA {t : Tok} (h : PlainTok t) : seqKindA t.kind = false := by
  rcases h.kind with hk | hk | hk <;> rw [hk] <;> rfl

theorem PlainTok.kindB {t : Tok} (h : PlainTok t) : seqKindB t.kind = false := by
  rcases h.kind with hk | hk | hk <;> rw [hk] <;> rfl

/-- the loop copies `t` in front of `rest`: the hypotheses of `loop_copy` -/
structure CopiedTok (T : PTables) (st : PState) (t : Tok) (rest : Buf) : Prop where
  kindA : seqKindA t.kind = false
  key : seqKey t = false
  kindB : seqKindB t.kind = false
  pass : PassTok T st t rest

namespace CopiedTok
variable {T : PTables} {st st' : PState} {t : Tok} {rest : Buf}

theorem of_plain (h : PlainTok t) (ha : PassTok T st t rest) : CopiedTok T st t rest :=
  ⟨h.kindA, h.seqKey, h.kindB, ha⟩

theorem of_nact (hk : seqKindA t.kind = false) (hx : seqKey t = false) (hb : seqKindB t.kind = false)
    (ha : (activeChars T st).contains t.txt = false) : CopiedTok T st t rest :=
  ⟨hk, hx, hb, Or.inl ha⟩

theorem nil (hk : seqKindA t.kind = false) (hb : seqKindB t.kind = false) (ht : t.txt = [])
    (ha : (activeChars T st).contains [] = false) : CopiedTok T st t rest :=
  of_nact hk (seqKey_nil ht) hb (by rw [ht]; exact ha)

theorem head (c : Char) {tl : Str} (ht : t.txt = c :: tl)
    (hk : t.kind = .text ∨ t.kind = .space ∨ t.kind = .par) (hs : structuralChar c = false)
    (ha : PassTok T st t rest) : CopiedTok T st t rest := by
  simp only [structuralChar, Bool.or_eq_false_iff, beq_eq_false_iff_ne] at hs
  obtain ⟨⟨⟨⟨⟨_, _⟩, h3⟩, h4⟩, h5⟩, h6⟩ := hs
  refine ⟨?_, seqKey_head ht h4 h3 h5 h6, ?_, ha⟩ <;> rcases hk with hk | hk | hk <;> rw [hk] <;> rfl

theorem action (ha : (activeChars T st).contains [] = false) (p : Nat) :
    CopiedTok T st (mkAction p) rest :=
  nil rfl rfl rfl ha

theorem ext (h : Ext st st') (hc : CopiedTok T st t rest) : CopiedTok T st' t rest :=
  ⟨hc.kindA, hc.key, hc.kindB, h.passTok hc.pass⟩

theorem step (h : CopiedTok T st t rest) (fuel : Nat) (envStop : Option Str) (out : List Tok) :
    expandSequence T (fuel + 1) (t :: rest) envStop out st
      = expandSequence T fuel rest envStop (out ++ [t]) st :=
  loop_copy h.kindA h.key h.kindB h.pass

end CopiedTok

theorem seqRun_copiedTok {T : PTables} {t : Tok} {rest : Buf} {envStop : Option Str} {out : List Tok}
    {st : PState} (h : CopiedTok T st t rest) :
    SeqRun T envStop 0 1 (t :: rest) out st rest (out ++ [t]) st :=
  .one fun f => h.step f envStop out

theorem seqRun_plainTok {T : PTables} {tok : Tok} {rest : Buf} {envStop : Option Str} {out : List Tok}
    {st : PState} (h : PlainTok tok) (ha : PassTok T st tok rest) :
    SeqRun T envStop 0 1 (tok :: rest) out st rest (out ++ [tok]) st :=
  seqRun_copiedTok (.of_plain h ha)

def CopiedSeq (T : PTables) (st : PState) : List Tok → Buf → Prop
  | [], _ => True
  | t :: ts, rest => CopiedTok T st t (ts ++ rest) ∧ CopiedSeq T st ts rest

theorem PlainSeq.copied {T : PTables} {st : PState} : ∀ {ts : List Tok}, PlainSeq T st ts →
    CopiedSeq T st ts []
  | [], _ => trivial
  | _ :: ts, h => ⟨.of_plain h.1 (by rw [List.append_nil]; exact h.2.1), PlainSeq.copied h.2.2⟩

namespace CopiedSeq
variable {T : PTables} {st st' : PState} {rest : Buf}

theorem of_forall : ∀ {ts : List Tok}, (∀ t ∈ ts, ∀ r, CopiedTok T st t r) → CopiedSeq T st ts rest
  | [], _ => trivial
  | t :: _, h => ⟨h t (List.mem_cons_self ..) _, of_forall fun x hx => h x (List.mem_cons_of_mem _ hx)⟩

theorem ext (h : Ext st st') : ∀ {ts : List Tok}, CopiedSeq T st ts rest → CopiedSeq T st' ts rest
  | [], _ => trivial
  | _ :: _, hc => ⟨hc.1.ext h, ext h hc.2⟩

theorem append : ∀ {ts us : List Tok}, CopiedSeq T st ts (us ++ rest) → CopiedSeq T st us rest →
    CopiedSeq T st (ts ++ us) rest
  | [], _, _, h2 => h2
  | t :: ts, us, h1, h2 => by
    show CopiedTok T st t (ts ++ us ++ rest) ∧ CopiedSeq T st (ts ++ us) rest
    rw [List.append_assoc]
    exact ⟨h1.1, append h1.2 h2⟩

/-- one iteration per token, as an equation between two calls of the loop -/
theorem loop (envStop : Option Str) : ∀ (ts : List Tok) (fuel : Nat) (out : List Tok),
    CopiedSeq T st ts rest →
      expandSequence T (fuel + ts.length) (ts ++ rest) envStop out st
        = expandSequence T fuel rest envStop (out ++ ts) st
  | [], fuel, out, _ => by rw [List.append_nil]; rfl
  | t :: ts, fuel, out, h => by
    rw [List.length_cons, ← Nat.add_assoc, List.cons_append, h.1.step,
      loop envStop ts fuel (out ++ [t]) h.2, List.append_assoc]
    rfl

end CopiedSeq

theorem seqRun_copied {T : PTables} {st : PState} {envStop : Option Str} {ts : List Tok} {rest : Buf}
    (h : CopiedSeq T st ts rest) (out : List Tok) :
    SeqRun T envStop 0 ts.length (ts ++ rest) out st rest (out ++ ts) st :=
  .intro fun g => CopiedSeq.loop envStop ts (g + 0) out h

/-- an iteration that needs `d` units of fuel below it and pushes back `o`, tokens the loop copies: in
    all `o.length + 1` iterations; a cost `k + 1` that is larger pays for the depth -/
theorem seqRun_pushed {T : PTables} {envStop : Option Str} {out o : List Tok} {st st' : PState}
    {buf rest : Buf} {k d : Nat}
    (h : ∀ f, d ≤ f → expandSequence T (f + 1) buf envStop out st
      = expandSequence T f (o ++ rest) envStop out st')
    (hc : CopiedSeq T st' o rest) (hd : d ≤ k + 1) (ho : o.length ≤ k) :
    SeqRun T envStop 1 (k + 1) buf out st rest (out ++ o) st' :=
  ((SeqRun.of_eq (d := d) (c := 1) (j := 0) h (Nat.le_refl _) (Nat.le_of_eq (Nat.add_comm ..))).trans
    ((seqRun_copied hc out).weaken (d' := 1) (c' := k) (Nat.le_succ_of_le ho) ho)
    (Nat.add_comm 1 k ▸ hd)).mono (Nat.le_refl _) (Nat.le_of_eq (Nat.add_comm ..))

theorem seqRun_plain (T : PTables) (st : PState) (envStop : Option Str) (toks out : List Tok)
    (hp : PlainSeq T st toks) : SeqRun T envStop 0 toks.length toks out st [] (out ++ toks) st := by
  simpa only [List.append_nil] using seqRun_copied (envStop := envStop) hp.copied out

theorem filter_keepOut_id (ts : List Tok) (h : ∀ t ∈ ts, t.txt ≠ []) : ts.filter keepOut = ts := by
  rw [List.filter_eq_self]
  intro t ht
  have := h t ht
  unfold keepOut
  cases hx : t.txt with
  | nil => exact absurd hx this
  | cons => simp

/-- without Action tokens the blank-line removal at the end of the loop is the identity -/
theorem seq_plain_id (T : PTables) (st : PState) (envStop : Option Str) (toks : List Tok) (fuel : Nat)
    (hf : toks.length + 1 ≤ fuel) (hp : PlainSeq T st toks) (hne : ∀ t ∈ toks, t.txt ≠ []) :
    expandSequence T fuel toks envStop [] st = .ok ((toks, []), st) := by
  rw [((seqRun_plain T st envStop toks [] hp).mono (Nat.zero_le 1) (Nat.le_refl _)).finish (Nat.le_refl _) hf,
    List.nil_append, removeLines_noaction_id toks (fun t ht => (hp.all t ht).notAction),
    filter_keepOut_id toks hne]

theorem activeChars_length (T : PTables) (st : PState) : ∀ a ∈ activeChars T st, a.length ≤ 1 := by
  intro a ha
  unfold activeChars at ha
  obtain ⟨e, _, rfl⟩ := List.mem_map.mp ha
  simp only [List.length_take]
  omega

theorem not_active_long (T : PTables) (st : PState) (s : Str) (h : 2 ≤ s.length) :
    (activeChars T st).contains s = false := by
  cases hc : (activeChars T st).contains s with
  | false => rfl
  | true =>
    have := activeChars_length T st _ (List.contains_iff_mem.mp hc)
    omega

theorem not_active_cons (T : PTables) (st : PState) (c : Char) (tl : Str)
    (h : (activeChars T st).contains [c] = false) : (activeChars T st).contains (c :: tl) = false := by
  cases tl with
  | nil => exact h
  | cons d ds =>
    cases hc : (activeChars T st).contains (c :: d :: ds) with
    | false => rfl
    | true =>
      have := activeChars_length T st _ (List.contains_iff_mem.mp hc)
      simp at this

theorem expandShortMacro_none (T : PTables) (st : PState) (t cur : Tok) (rest' : Buf)
    (h : (shortKeys T st).contains (t.txt ++ cur.txt) = false) :
    expandShortMacro T st t (cur :: rest') = (t, cur :: rest') := by
  have hf : (((settingsOf T (curSettings st)).map (·.shortMacros)).getD []).find?
      (·.1 == t.txt ++ cur.txt) = none := by
    rw [List.find?_eq_none]
    intro e he heq
    have hm : (shortKeys T st).contains (t.txt ++ cur.txt) = true := by
      rw [List.contains_iff_mem]
      unfold shortKeys
      exact List.mem_map.mpr ⟨e, he, by simpa using heq⟩
    rw [h] at hm; cases hm
  simp only [expandShortMacro, hf]

theorem plainTok_of_head (t : Tok) (c : Char) (tl : Str)
    (ht : t.txt = c :: tl) (hk : t.kind = .text ∨ t.kind = .space ∨ t.kind = .par)
    (hs : structuralChar c = false) : PlainTok t := by
  simp only [structuralChar, Bool.or_eq_false_iff, beq_eq_false_iff_ne] at hs
  obtain ⟨⟨⟨⟨⟨_, _⟩, h3⟩, h4⟩, h5⟩, h6⟩ := hs
  obtain ⟨n1, n2, n3, n4, n5, n6, n7⟩ := seqKey_false (seqKey_head ht h4 h3 h5 h6)
  exact ⟨hk, n1, n2, n3, n4, n5, n6, n7⟩

theorem structuralChar_of_isSpace (c : Char) (h : isSpace c = true) : structuralChar c = false := by
  cases hs : structuralChar c with
  | false => rfl
  | true =>
    simp only [structuralChar, Bool.or_eq_true, beq_iff_eq] at hs
    rcases hs with ((((rfl | rfl) | rfl) | rfl) | rfl) | rfl <;> exact absurd h (by decide)

/-- what one scanner step on inert text looks like: a plain token at `pos` whose text is the
    consumed prefix — the whole run of white space, or one character -/
structure PlainStep (pos : Nat) (rest : Str) (s : ScanStep) : Prop where
  diag : s.diag = none
  extra : s.extra = []
  len_pos : 1 ≤ s.len
  len_le : s.len ≤ rest.length
  tok : PlainTok s.tok
  fix : s.tok.fix = false
  pos : s.tok.pos = pos
  txt : s.tok.txt = rest.take s.len
  first : s.tok.txt = firstTokTxt rest

/-- the second half of `inertAt` (and of `okAt` of Proofs/PlainUnknown.lean) as a proposition -/
theorem textChar_cases {T : Tables} {c : Char} {cs : Str}
    (h : (isSpace c || (!structuralChar c && (matchSpecial T (c :: cs)).isNone)) = true) :
    isSpace c = true ∨ (structuralChar c = false ∧ matchSpecial T (c :: cs) = none) := by
  simpa only [Bool.or_eq_true, Bool.and_eq_true, Bool.not_eq_true', Option.isNone_iff_eq_none] using h

/-- the first half of `inertAt` (and of `okAt`; `ftt`: the text of the token behind `c`) as a proposition:
    the hypothesis of `PlainMacro.passTok_steps` -/
theorem activeChar_cases {T : PTables} {st : PState} {c : Char} {cs ftt : Str}
    (h : (!(activeChars T st).contains [c] ||
      (!isSpace c && (cs.isEmpty || !(shortKeys T st).contains (c :: ftt)))) = true) :
    (activeChars T st).contains [c] = false ∨
      isSpace c = false ∧ (cs.isEmpty = true ∨ (shortKeys T st).contains (c :: ftt) = false) := by
  simpa only [Bool.or_eq_true, Bool.and_eq_true, Bool.not_eq_true'] using h

/-- one scanner step on a text character: only the second half of `inertAt` matters -/
theorem nextToken_text (T : PTables) (src : Str) (pos : Nat) (c : Char) (cs : Str)
    (hc : isSpace c = true ∨ (structuralChar c = false ∧ matchSpecial T.toTables (c :: cs) = none)) :
    PlainStep pos (c :: cs) (nextToken T.toTables src pos (c :: cs)) ∧
    (isSpace c = false → (nextToken T.toTables src pos (c :: cs)).len = 1 ∧
      (nextToken T.toTables src pos (c :: cs)).tok.kind = .text) := by
  unfold nextToken
  by_cases hsp : isSpace c = true
  · simp only [hsp, if_true]
    have hne : (c :: cs).takeWhile isSpace = c :: cs.takeWhile isSpace := by
      simp [hsp]
    refine ⟨⟨rfl, rfl, ?_, ?_, ?_, rfl, rfl, ?_, ?_⟩, fun h0 => by simp at h0⟩
    · simp [scanSpace, hne]
    · exact ScannerAux.length_takeWhile_le' _ _
    · refine plainTok_of_head _ c (cs.takeWhile isSpace) ?_ ?_ (structuralChar_of_isSpace c hsp)
      · simp only [scanSpace]; exact hne
      · simp only [scanSpace]; split
        · exact Or.inr (Or.inl rfl)
        · exact Or.inr (Or.inr rfl)
    · simp only [scanSpace]
      exact (ScannerAux.take_length_takeWhile _ _).symm
    · simp only [scanSpace, firstTokTxt, hsp, if_true]
  · rcases hc with hc | ⟨hst, hm'⟩
    · exact absurd hc hsp
    · have hst' := hst
      simp only [structuralChar, Bool.or_eq_false_iff, beq_eq_false_iff_ne] at hst'
      obtain ⟨⟨⟨⟨⟨h1, h2⟩, h3⟩, _⟩, _⟩, _⟩ := hst'
      simp only [hsp, Bool.false_eq_true, if_false, beq_iff_eq, h1, h2, h3, hm']
      refine ⟨⟨rfl, rfl, Nat.le_refl _, by simp, ?_, rfl, rfl, by simp, ?_⟩, by simp⟩
      · exact plainTok_of_head _ c [] rfl (Or.inl rfl) hst
      · simp only [firstTokTxt, hsp, Bool.false_eq_true, if_false]

theorem getTxtPos_cons_plain (t : Tok) (ts : List Tok) (hf : t.fix = false) :
    getTxtPos (t :: ts) = (t.txt ++ (getTxtPos ts).1, List.range' t.pos t.txt.length ++ (getTxtPos ts).2) := by
  simp only [getTxtPos, tokPositions, hf, Bool.false_eq_true, if_false, List.range'_eq_map_range]

theorem mem_takeWhile_imp {α} (p : α → Bool) : ∀ (l : List α) (x : α), x ∈ l.takeWhile p → p x = true
  | [], _, h => by simp at h
  | a :: l, x, h => by
    rw [List.takeWhile_cons] at h
    split at h
    · rcases List.mem_cons.mp h with rfl | h
      · assumption
      · exact mem_takeWhile_imp p l x h
    · simp at h

/-! ### the token of a text character in the scanner loop

  Facts about ONE scanner step on a text character: what the scanner lemma of every document class
  derives from `nextToken_text` in its text case.  They are in the namespace `PlainMacro`, which
  the construct files open. -/

namespace PlainMacro

def Shape (t : Tok) : Prop := t.txt ≠ [] ∧ (hasNl t.txt = true → isBlank t.txt = true)

theorem hasNl_single (c : Char) (h : isSpace c = false) : hasNl [c] = false := by
  have : c ≠ nl := by intro e; rw [e] at h; exact absurd h (by decide)
  simpa [hasNl] using fun e : nl = c => this e.symm

/-- what the loop lemmas of all document classes need of the token of one scanner step on a text
    character `c` in front of `cs` (`hp`, `hone`: the two conclusions of `nextToken_text`) -/
structure TextStep (c : Char) (cs : Str) (s : ScanStep) : Prop where
  ne : s.tok.txt ≠ []
  shape : Shape s.tok
  blankOrOne : isBlank s.tok.txt = true ∨ (s.tok.txt = [c] ∧ isSpace c = false)
  head : s.tok.txt = c :: cs.take (s.len - 1)
  blank : isSpace c = true → ∀ x ∈ (c :: cs).take s.len, isSpace x = true
  dropLen : ∀ n, (c :: cs).length ≤ n + 1 → ((c :: cs).drop s.len).length ≤ n

theorem _root_.Yalafi.PlainStep.textStep {pos : Nat} {c : Char} {cs : Str} {s : ScanStep} (hp : PlainStep pos (c :: cs) s)
    (hone : isSpace c = false → s.len = 1) : TextStep c cs s := by
  have h1 := hp.len_pos
  have h2 := hp.len_le
  have hblank : isSpace c = true → ∀ x ∈ (c :: cs).take s.len, isSpace x = true := by
    intro hsp x hx
    rw [← hp.txt, hp.first] at hx
    simp only [firstTokTxt, hsp, if_true] at hx
    exact mem_takeWhile_imp _ _ _ hx
  have hne : s.tok.txt ≠ [] := by
    rw [hp.txt]
    intro h0
    have := congrArg List.length h0
    simp only [List.length_take, List.length_nil] at this
    omega
  have hbo : isBlank s.tok.txt = true ∨ (s.tok.txt = [c] ∧ isSpace c = false) := by
    by_cases hsp : isSpace c = true
    · left
      rw [hp.txt]
      simpa only [isBlank, List.all_eq_true] using hblank hsp
    · have hsp' : isSpace c = false := by simpa using hsp
      right
      rw [hp.txt, hone hsp']
      exact ⟨rfl, hsp'⟩
  refine ⟨hne, ⟨hne, fun hnl => ?_⟩, hbo, ?_, hblank, fun n hn => ?_⟩
  · rcases hbo with hb | ⟨h1c, hsp'⟩
    · exact hb
    · rw [h1c, hasNl_single c hsp'] at hnl; cases hnl
  · rw [hp.txt]
    obtain ⟨k, hk⟩ : ∃ k, s.len = k + 1 := ⟨s.len - 1, by omega⟩
    rw [hk]; simp
  · simp only [List.length_drop]; omega

/-- the short-macro branch of the loop does not fire on the token of a text character: `c` is no active
    character, or it is the whole token and forms no short macro with the text `nxt` of the token behind it
    (`none` at the end of the buffer) -/
theorem passTok_text (T : PTables) (st : PState) {c : Char} {cs : Str} {s : ScanStep} (hs : TextStep c cs s)
    (hone : isSpace c = false → s.len = 1) (rest : Buf)
    (h : (activeChars T st).contains [c] = false ∨
      (isSpace c = false ∧ ∀ t ts, rest = t :: ts → (shortKeys T st).contains (c :: t.txt) = false)) :
    PassTok T st s.tok rest := by
  rcases h with hna | ⟨hns, hk⟩
  · left
    rw [hs.head]
    exact not_active_cons T st c _ hna
  · right
    cases rest with
    | nil => rfl
    | cons t ts =>
      apply expandShortMacro_none
      rw [hs.head, hone hns]
      exact hk t ts rfl

/-- … in front of the tokens of scanner steps `steps`.  `h` is the first half of `inertAt` / `okAt`
    (`ftt`: the text of the token behind the character, as the document class computes it); `hfirst` is
    what the induction hypothesis of a scanner lemma says of the first of the steps behind. -/
theorem passTok_steps (T : PTables) (st : PState) {c : Char} {cs : Str} {s : ScanStep} (X : TextStep c cs s)
    (hone : isSpace c = false → s.len = 1) (ftt : Str → Str)
    (h : (activeChars T st).contains [c] = false ∨
      isSpace c = false ∧ (cs.isEmpty = true ∨ (shortKeys T st).contains (c :: ftt cs) = false))
    (steps : List ScanStep)
    (hfirst : ∀ s2 ss, steps = s2 :: ss → s2.tok.txt = ftt ((c :: cs).drop s.len))
    (hnil : (c :: cs).drop s.len = [] → steps = []) :
    PassTok T st s.tok (steps.map (·.tok)) := by
  refine passTok_text T st X hone _ (h.imp id (fun ⟨hns, hk⟩ => ⟨hns, fun t ts ht => ?_⟩))
  rw [hone hns] at hfirst hnil
  cases steps with
  | nil => cases ht
  | cons s2 ss =>
    rw [← (List.cons.inj ht).1, hfirst s2 ss rfl]
    rcases hk with hk | hk
    · exact absurd (hnil (List.isEmpty_iff.mp hk)) (List.cons_ne_nil _ _)
    · exact hk

end PlainMacro

theorem takeWhile_stop {α} (p : α → Bool) (a b : List α) (ha : ∀ x ∈ a, p x = true)
    (hb : b.head?.all (fun d => !p d) = true) : (a ++ b).takeWhile p = a := by
  induction a with
  | nil =>
    cases b with
    | nil => rfl
    | cons d ds =>
      have : p d = false := by simpa using hb
      simp [this]
  | cons x xs ih =>
    rw [List.cons_append, List.takeWhile_cons, if_pos (ha x (List.mem_cons_self ..)),
      ih (fun y hy => ha y (List.mem_cons_of_mem _ hy))]

theorem takeWhile_stop1 {α} (p : α → Bool) (x : α) (hx : p x = false) :
    ∀ (a b : List α), (a ++ x :: b).takeWhile p = a.takeWhile p
  | [], b => by simp [hx]
  | y :: a, b => by
    by_cases hy : p y = true
    · simp [hy, takeWhile_stop1 p x hx a b]
    · simp [hy]

theorem dropWhile_head_not {α} (p : α → Bool) : ∀ l : List α,
    (l.dropWhile p).head?.all (fun d => !p d) = true
  | [] => rfl
  | a :: l => by
    by_cases h : p a = true
    · simp only [List.dropWhile_cons, h, if_true]; exact dropWhile_head_not p l
    · simp [h]

/-- the token of a run of white space: a paragraph token if the run holds two line breaks -/
def wsTok (q : Nat) (ws : Str) : Tok :=
  { kind := if countNl ws < 2 then .space else .par, pos := q, txt := ws }

theorem wsTok_kind (q : Nat) (ws : Str) : (wsTok q ws).kind = .space ∨ (wsTok q ws).kind = .par := by
  unfold wsTok
  split
  · exact Or.inl rfl
  · exact Or.inr rfl

theorem wsTok_par {q : Nat} {ws : Str} (h : 2 ≤ countNl ws) :
    wsTok q ws = { kind := .par, pos := q, txt := ws } := by
  unfold wsTok
  rw [if_neg (by omega)]

theorem wsTok_space {q : Nat} {ws : Str} (h : countNl ws < 2) :
    wsTok q ws = { kind := .space, pos := q, txt := ws } := by
  unfold wsTok
  rw [if_pos h]

theorem nextToken_white (T : Tables) (src : Str) (pos : Nat) {c : Char} {cs w : Str} (hsp : isSpace c = true)
    (hw : (c :: cs).takeWhile isSpace = w) :
    nextToken T src pos (c :: cs) = { tok := wsTok pos w, len := w.length } := by
  unfold nextToken
  simp only [hsp, if_true, scanSpace, hw, wsTok]

theorem Scans.white (T : Tables) (src : Str) (pos : Nat) {c : Char} {cs w : Str} (hsp : isSpace c = true)
    (hw : (c :: cs).takeWhile isSpace = w) :
    Scans T src pos (c :: cs) [{ tok := wsTok pos w, len := w.length }] (pos + w.length)
      ((c :: cs).drop w.length) :=
  Scans.step (nextToken_white T src pos hsp hw) rfl
    (by rw [← hw, List.takeWhile_cons, if_pos hsp]; exact Nat.le_add_left ..)

theorem nextToken_wsRun (T : Tables) (src : Str) (pos : Nat) {c : Char} {ws X : Str} (hc : isSpace c = true)
    (hws : ∀ d ∈ ws, isSpace d = true) (hX : X.head?.all (fun d => !isSpace d) = true) :
    nextToken T src pos (c :: (ws ++ X)) = { tok := wsTok pos (c :: ws), len := ws.length + 1 } :=
  nextToken_white T src pos hc
    (takeWhile_stop isSpace (c :: ws) X (List.forall_mem_cons.mpr ⟨hc, hws⟩) hX)

theorem Scans.ws (T : Tables) (src : Str) (pos : Nat) {c : Char} {ws X : Str} (hc : isSpace c = true)
    (hws : ∀ d ∈ ws, isSpace d = true) (hX : X.head?.all (fun d => !isSpace d) = true) :
    Scans T src pos (c :: (ws ++ X)) [{ tok := wsTok pos (c :: ws), len := ws.length + 1 }]
      (pos + (ws.length + 1)) X :=
  Scans.step (nextToken_wsRun T src pos hc hws hX) (List.drop_left' rfl) (Nat.le_add_left ..)

def whiteSteps (q : Nat) (ws : Str) : List ScanStep :=
  if ws.isEmpty then [] else [{ tok := wsTok q ws, len := ws.length }]

theorem Scans.whiteSteps (T : Tables) (src : Str) (q : Nat) {ws X : Str} (hws : ∀ d ∈ ws, isSpace d = true)
    (hX : ws = [] ∨ X.head?.all (fun d => !isSpace d) = true) :
    Scans T src q (ws ++ X) (whiteSteps q ws) (q + ws.length) X := by
  cases ws with
  | nil => exact Scans.nil
  | cons c w =>
    exact Scans.ws T src q (hws c (List.mem_cons_self ..)) (fun d hd => hws d (List.mem_cons_of_mem _ hd))
      (hX.resolve_left (List.cons_ne_nil _ _))

theorem nextToken_specialAt (T : Tables) (src : Str) (pos : Nat) {c : Char} {tl X : Str}
    (hsp : isSpace c = false) (h1 : c ≠ '%') (h2 : c ≠ '#')
    (hms : matchSpecial T (c :: X) = some (c :: tl)) :
    nextToken T src pos (c :: X)
      = { tok := { kind := .special, pos := pos, txt := c :: tl }, len := tl.length + 1 } := by
  simp [nextToken, hsp, h1, h2, hms]

theorem Scans.special (T : Tables) (src : Str) (pos : Nat) {c : Char} {tl X R : Str}
    (hsp : isSpace c = false) (h1 : c ≠ '%') (h2 : c ≠ '#')
    (hms : matchSpecial T (c :: X) = some (c :: tl)) (hR : X.drop tl.length = R) :
    Scans T src pos (c :: X) [{ tok := { kind := .special, pos := pos, txt := c :: tl }, len := tl.length + 1 }]
      (pos + (tl.length + 1)) R :=
  Scans.step (nextToken_specialAt T src pos hsp h1 h2 hms) hR (Nat.le_add_left ..)

open PlainMacro (TextStep) in
/-- one step of the scanner on a text character (`nextToken_text`) as a run; the step is named, so that
    further facts about `nextToken` can be rewritten to it -/
theorem Scans.text (T : PTables) (src : Str) (pos : Nat) (c : Char) (cs : Str)
    (hc : isSpace c = true ∨ (structuralChar c = false ∧ matchSpecial T.toTables (c :: cs) = none)) :
    ∃ s, nextToken T.toTables src pos (c :: cs) = s ∧ PlainStep pos (c :: cs) s ∧
      (isSpace c = false → s.len = 1 ∧ s.tok.kind = .text) ∧
      (isSpace c = true → s.tok.kind = .space ∨ s.tok.kind = .par) ∧
      TextStep c cs s ∧ Scans T.toTables src pos (c :: cs) [s] (pos + s.len) ((c :: cs).drop s.len) := by
  obtain ⟨hp, hone⟩ := nextToken_text T src pos c cs hc
  refine ⟨_, rfl, hp, hone, fun hsp => ?_, hp.textStep (fun h => (hone h).1),
    Scans.step rfl rfl hp.len_pos hp.diag hp.extra⟩
  rw [nextToken_white T.toTables src pos hsp rfl]
  exact wsTok_kind ..

open PlainMacro (TextStep) in
theorem scans_text (T : PTables) (src : Str) (pos : Nat) (c : Char) (cs : Str)
    (hc : isSpace c = true ∨ (structuralChar c = false ∧ matchSpecial T.toTables (c :: cs) = none)) :
    ∃ s, PlainStep pos (c :: cs) s ∧ (isSpace c = false → s.len = 1 ∧ s.tok.kind = .text) ∧
      TextStep c cs s ∧ Scans T.toTables src pos (c :: cs) [s] (pos + s.len) ((c :: cs).drop s.len) := by
  obtain ⟨s, _, hp, hone, _, X, r⟩ := Scans.text T src pos c cs hc
  exact ⟨s, hp, hone, X, r⟩

open PlainMacro (passTok_steps) in
/-- the scanner loop on inert text: no diagnostics, one plain non-empty token per
    step (the buffer passes `expandSequence`), and the tokens spell the text with consecutive
    positions -/
theorem scanAll_plain (T : PTables) (st : PState) (src : Str) (pos : Nat) (rest : Str)
    (h : inertText T st rest = true) :
    (∀ s ∈ (scanAll T.toTables src pos rest).1,
        s.diag = none ∧ s.extra = [] ∧ s.tok.txt ≠ [] ∧ s.tok.fix = false) ∧
    PlainSeq T st ((scanAll T.toTables src pos rest).1.map (·.tok)) ∧
    (∀ s ss, (scanAll T.toTables src pos rest).1 = s :: ss → s.tok.txt = firstTokTxt rest) ∧
    getTxtPos ((scanAll T.toTables src pos rest).1.map (·.tok)) = (rest, List.range' pos rest.length) ∧
    (scanAll T.toTables src pos rest).1.length ≤ rest.length := by
  refine scanAll_of_runs T.toTables src (fun p W a => p = a ∧ inertText T st W = true)
    (fun W a ss => (∀ s ∈ ss, s.diag = none ∧ s.extra = [] ∧ s.tok.txt ≠ [] ∧ s.tok.fix = false) ∧
      PlainSeq T st (ss.map (·.tok)) ∧ (∀ s ss', ss = s :: ss' → s.tok.txt = firstTokTxt W) ∧
      getTxtPos (ss.map (·.tok)) = (W, List.range' a W.length) ∧ ss.length ≤ W.length)
    (fun _ _ _ => ⟨by simp, trivial, by simp, rfl, Nat.le_refl _⟩) ?_ pos rest pos ⟨rfl, h⟩
  rintro p c cs _ ⟨rfl, hin⟩
  have hat : inertAt T st c cs = true := (Bool.and_eq_true_iff.mp hin).1
  obtain ⟨s, hp, hone, X, r⟩ := scans_text T src p c cs (textChar_cases (Bool.and_eq_true_iff.mp hat).2)
  refine ⟨[s], _, _, p + s.len, by simp, r, ⟨rfl, inertText_drop T st _ _ hin⟩, ?_⟩
  rintro rs hnil ⟨i2, i3, i4, i5, i6⟩
  have h2 := hp.len_le
  refine ⟨List.forall_mem_cons.mpr ⟨⟨hp.diag, hp.extra, X.ne, hp.fix⟩, i2⟩, ⟨hp.tok, ?_, i3⟩,
    fun _ _ he => (List.cons.inj he).1 ▸ hp.first, ?_, ?_⟩
  · exact passTok_steps T st X (fun h => (hone h).1) firstTokTxt
      (activeChar_cases (Bool.and_eq_true_iff.mp hat).1) rs i4 hnil
  · rw [List.singleton_append, List.map_cons, getTxtPos_cons_plain _ _ hp.fix, i5, hp.pos, hp.txt]
    simp only [List.length_take, List.length_drop, Nat.min_eq_left h2]
    rw [List.take_append_drop, List.range'_append_1]
    congr 2
    omega
  · have := hp.len_pos
    simp only [List.singleton_append, List.length_cons, List.length_drop] at i6 h2 ⊢
    omega

/-- `scan` on inert text: no diagnostics; the tokens are non-empty position-counting
    text / space / paragraph tokens that pass `expandSequence`, spell the source and carry the
    positions 0, 1, 2, …; at most one token per character -/
theorem scan_plain (T : PTables) (st : PState) (src : Str) (h : inertText T st src = true) :
    (scan T.toTables src).diags = [] ∧
    PlainSeq T st (scan T.toTables src).toks ∧
    (∀ t ∈ (scan T.toTables src).toks, t.txt ≠ [] ∧ t.fix = false) ∧
    getTxtPos (scan T.toTables src).toks = (src, List.range src.length) ∧
    (scan T.toTables src).toks.length ≤ src.length := by
  obtain ⟨b, c, _, d, e⟩ := scanAll_plain T st src 0 src h
  obtain ⟨hd, ht⟩ := scan_of_scanAll (fun x hx => ⟨(b x hx).1, (b x hx).2.1⟩)
  rw [ht]
  refine ⟨hd, c, ?_, by rw [d, List.range_eq_range'], by simpa using e⟩
  intro t ht
  obtain ⟨s, hs, rfl⟩ := List.mem_map.mp ht
  exact ⟨(b s hs).2.2.1, (b s hs).2.2.2⟩

/-- **C06 on `parserWork`, context form.**  On inert text `parserWork` returns exactly the scanner
    tokens and the *unchanged* state (`latex` and `nest` are restored, nothing is added to
    `diags`, `unknowns`, …; no hypothesis on the state is needed).  Fuel: one unit for
    `parserWork`, one per token (at most one per character) and one for the final call of the
    loop. -/
theorem parserWork_plain_text (T : PTables) (st : PState) (src : Str) (fuel : Nat)
    (hf : src.length + 2 ≤ fuel) (h : inertText T st src = true) :
    parserWork T fuel src st = .ok ((scan T.toTables src).toks, st) := by
  obtain ⟨f, rfl⟩ : ∃ f, fuel = f + 1 := ⟨fuel - 1, by omega⟩
  obtain ⟨hd, hseq, ht, _, hl⟩ := scan_plain T { st with latex := src, nest := st.nest + 1 } src
    ((inertText_congr T st { st with latex := src, nest := st.nest + 1 } rfl src).trans h)
  have hs := seq_plain_id T { st with latex := src, nest := st.nest + 1 } none _ f (by omega) hseq
    (fun t ht' => (ht t ht').1)
  refine (parserWork_of_seq hd
    (skipPass_noBegin _ _ (NoCom.noBegin (fun t ht' => (hseq.all t ht').notComment) _)) hs).trans ?_
  simp only [Nat.add_sub_cancel]

/-- **C06 on `parserWork`.**  A text of inert characters is a fixed point: the result tokens
    spell the source, the i-th output character maps to source position i (0-based), every
    token is a position-counting text / space / paragraph token, and the state is unchanged. -/
theorem parserWork_plain (T : PTables) (st : PState) (src : Str) (fuel : Nat)
    (hf : src.length + 2 ≤ fuel) (h : ∀ c ∈ src, inertChar T st c = true) :
    ∃ toks, parserWork T fuel src st = .ok (toks, st) ∧
      getTxtPos toks = (src, List.range src.length) ∧
      toks = (scan T.toTables src).toks ∧
      ∀ t ∈ toks, (t.kind = .text ∨ t.kind = .space ∨ t.kind = .par) ∧ t.fix = false ∧ t.txt ≠ [] := by
  have hi := inertText_of_inertChar T st src h
  obtain ⟨_, hseq, ht, hg, _⟩ := scan_plain T st src hi
  exact ⟨_, parserWork_plain_text T st src fuel hf hi, hg, rfl,
    fun t ht' => ⟨(hseq.all t ht').kind, (ht t ht').2, (ht t ht').1⟩⟩

theorem parse_plain_text (T : PTables) (st : PState) (src : Str) (fuel : Nat)
    (hf : src.length + 2 ≤ fuel) (h : inertText T st src = true) :
    parse T fuel src [] [] st
      = .ok ((scan T.toTables src).toks,
             { st with extracted := [], unknowns := [], foreign := false, nest := 0 }) := by
  have hw := parserWork_plain_text T (rootState st) src fuel hf
    ((inertText_congr T st (rootState st) rfl src).trans h)
  simpa [rootState, flowsToks] using parse_of_parserWork hw

/-- **C06 on `tex2txt`, context form.**  `st1` is the state after `Parser.__init__` (built-in
    definitions, `--dcls`, `--pack`); no `--defs`, `--extr`, `--repl`, `--unkn`; single-language
    mode.  The complete result record is determined. -/
theorem tex2txt_plain_text (T : PTables) (o : Options) (fs : FS) (thresh : Nat) (src : Str) (fuel : Nat)
    (st1 : PState) (hdefs : o.defs = []) (hextr : o.extr = []) (hrepl : o.hasRepl = false)
    (hunkn : o.unkn = false)
    (hinit : initParser T fuel o (initialState T o false fs) = .ok ((), st1))
    (h : inertText T st1 src = true) (hf : src.length + 2 ≤ fuel) :
    tex2txt T fuel src o false thresh fs
      = .ok { toks := (scan T.toTables src).toks, txt := src,
              pos := (List.range src.length).map (· + 1), parts := [], unknowns := [],
              diags := st1.diags, foreign := false } := by
  rw [tex2txt_of_parse thresh hdefs hextr hrepl hunkn hinit (parse_plain_text T st1 src fuel hf h),
    (scan_plain T st1 src h).2.2.2.1]

/-- **C06 on `tex2txt`.**  Plain prose is returned unchanged and its i-th character maps to
    source position i (1-based, as `tex2txt` reports positions). -/
theorem tex2txt_plain (T : PTables) (o : Options) (fs : FS) (thresh : Nat) (src : Str) (fuel : Nat)
    (st1 : PState) (hdefs : o.defs = []) (hextr : o.extr = []) (hrepl : o.hasRepl = false)
    (hunkn : o.unkn = false)
    (hinit : initParser T fuel o (initialState T o false fs) = .ok ((), st1))
    (h : ∀ c ∈ src, inertChar T st1 c = true) (hf : src.length + 2 ≤ fuel) :
    ∃ r, tex2txt T fuel src o false thresh fs = .ok r ∧ r.txt = src ∧
      r.pos = (List.range src.length).map (· + 1) ∧ r.unknowns = [] ∧ r.diags = st1.diags :=
  ⟨_, tex2txt_plain_text T o fs thresh src fuel st1 hdefs hextr hrepl hunkn hinit
    (inertText_of_inertChar T st1 src h) hf, rfl, rfl, rfl, rfl⟩

/-! ### the hypotheses can be met

  Small concrete tables (the theorems are parametric in `T`; the real tables occur only in
  the comment at the end, so that this file does not depend on the generated file). -/

namespace PlainExample

def deSettings : LangSettings :=
  { code := "de".toList, proofName := [], inlineRepl := [], displayRepl := [], opText := [],
    opDefault := none, langChange := [],
    shortMacros := [("\"a".toList, "ä".toList), ("\"-".toList, [])] }
def enSettings : LangSettings := { deSettings with code := "en".toList, shortMacros := [] }

def tinyT : PTables :=
  { (default : PTables) with
    special := [("---".toList, "—".toList), ("--".toList, "–".toList), ("\\\\".toList, " ".toList),
                ("~".toList, " ".toList), ("{".toList, []), ("}".toList, []), ("$".toList, []),
                ("&".toList, " ".toList), ("_".toList, []), ("^".toList, [])]
    specialSorted := ["---".toList, "--".toList, "\\\\".toList, "~".toList, "{".toList, "}".toList,
                      "$".toList, "&".toList, "_".toList, "^".toList]
    langs := [enSettings, deSettings]
    mark := "LTERROR".toList }

def oEn : Options := { lang := "en".toList }
def oDe : Options := { lang := "de".toList }
def stEn : PState := initialState tinyT oEn false []
def stDe : PState := initialState tinyT oDe false []
def text1 : Str := "Hello, world (1 + 2)!\n\nNext.".toList
def text2 : Str := "Er sagte \"hallo\" - so, don't.".toList

/-- the per-character hypothesis holds for ordinary prose (28 characters, fuel 30) … -/
theorem text1_inert : ∀ c ∈ text1, inertChar tinyT stEn c = true := by decide

example : ∃ toks, parserWork tinyT 30 text1 stEn = .ok (toks, stEn) ∧
    getTxtPos toks = (text1, List.range 28) := by
  obtain ⟨toks, h1, h2, _⟩ := parserWork_plain tinyT stEn text1 30 (by decide) text1_inert
  exact ⟨toks, h1, h2⟩

/-- … `Parser.__init__` succeeds (here it leaves the initial state unchanged) … -/
theorem initParser_tiny : initParser tinyT 30 oEn (initialState tinyT oEn false []) = .ok ((), stEn) := by
  with_unfolding_all rfl

/-- … so the end-to-end statement applies. -/
example : tex2txt tinyT 30 text1 oEn false 0 []
    = .ok { toks := (scan tinyT.toTables text1).toks, txt := text1,
            pos := (List.range text1.length).map (· + 1), parts := [], unknowns := [],
            diags := [], foreign := false } :=
  tex2txt_plain_text tinyT oEn [] 0 text1 30 stEn rfl rfl rfl rfl initParser_tiny
    (inertText_of_inertChar _ _ _ text1_inert) (by decide)

/-- the context form also admits an isolated `-` and `'`, and the active character `"` of the
    'de' settings where it completes no short macro; it rejects `--` and `"a` -/
example : inertText tinyT stDe text2 = true := by decide
example : (text2.all (inertChar tinyT stDe)) = false := by decide
example : inertText tinyT stDe "a--b".toList = false := by decide
example : inertText tinyT stDe "\"a".toList = false := by decide
example : inertText tinyT stEn "\"a".toList = true := by decide

/-
  RECORDED OBSERVATIONS, NOT CHECKED BY THE BUILD.
  With the real tables (`import YalafiVerif.Generated.Tables`, `T := Generated.theTables`,
  `o := { lang := "en".toList }`, `st0 := initialState T o false []`), `#eval` gives:

  * ASCII characters with `inertChar T st0 c = true`: all control characters `\x00`–`\x1f`
    and `\x7f`, blank, `! " ( ) * + , . / 0-9 : ; < = > ? @ A-Z [ ] a-z |`;
    not inert: `# $ % & ' - \ ^ _ ` { } ~`  (for 'de' additionally `"`; 'ru' as 'en');
    `activeChars T st0 = []`.
  * `initParser T 1000 o st0 = .ok ((), st1)` with `st1.langStack = [("en", "en")]`,
    `st1.diags = []`, and `"Hello, world (1 + 2)!\n\nNext."` is inert w.r.t. `st1`;
    `tex2txt T 1000 "Hello, world (1 + 2)!\n\nNext." o false 3 []` returns that text,
    positions `[1, …, 28]`, no unknowns, no diagnostics  (`initParser` needs more than 31 units).
  * `inertText T st0 "don't - well-known `x'" = true`, `inertText T st0 "a--b" = false`;
    for 'de': `inertText … "Er sagte \"hallo\" und 3\" x\"" = true`, and
    `"… \"Tsch\"u\" …"` is not inert (it yields `Tschü`).
  * the fuel bound is tight: `parserWork T 5 "abcd" st0 = outOfFuel`, `parserWork T 6 "abcd" st0 = ok`.
-/

end PlainExample

end Yalafi
