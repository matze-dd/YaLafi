/-
  Proofs/LinesLang.lean — what the blank-line removal keeps on token lists WITH language tokens.

  Proofs/LinesRef.lean gives the exact reference `LinesLang.delLines` for the removal in
  multi-language mode (`removeLines_items`).  Here: the reference only deletes white space.

    `delLines_sublist`, `delLines_langs`, `delLines_visible`   the result is a sublist of the items of
                   the input and contains every language token and every visible character
-/
import YalafiVerif.Proofs.PlainMacro
namespace Yalafi
namespace LinesLang

/-- the items that are never deleted: language tokens and visible characters -/
def vis : Item → Bool
  | .inl cp => !isSpace cp.1
  | .inr _ => true

def BlankItems (l : List Item) : Prop := ∀ cp, Sum.inl cp ∈ l → isSpace cp.1 = true

theorem filter_vis_blank : ∀ (l : List Item), BlankItems l → (l.filter isLg).filter vis = l.filter vis
  | [], _ => rfl
  | .inl cp :: l, h => by
    have h1 : isSpace cp.1 = true := h cp (List.mem_cons_self ..)
    have ih := filter_vis_blank l (fun c hc => h c (List.mem_cons_of_mem _ hc))
    rw [List.filter_cons_of_neg (by simp [isLg]), List.filter_cons_of_neg (by simp [vis, h1]), ih]
  | .inr t :: l, h => by
    have ih := filter_vis_blank l (fun c hc => h c (List.mem_cons_of_mem _ hc))
    rw [List.filter_cons_of_pos (by rfl), List.filter_cons_of_pos (by rfl),
      List.filter_cons_of_pos (by rfl), ih]

theorem isSpace_of_nl (c : Char) (h : (c == nl) = true) : isSpace c = true := by
  rw [beq_iff_eq] at h; subst h; decide

theorem delGo_vis : ∀ (ms : List Mark) (cur : List Item) (b a : Bool), (b = true → BlankItems cur) →
    (delGo cur b a ms).filter vis = (cur ++ ms.filterMap id).filter vis
  | [], cur, b, a, hb => by
    simp only [delGo, List.filterMap_nil, List.append_nil]
    split
    · rename_i h
      simp only [Bool.and_eq_true] at h
      exact filter_vis_blank cur (hb h.1)
    · rfl
  | none :: xs, cur, b, a, hb => by
    simp only [delGo, List.filterMap_cons, id]
    exact delGo_vis xs cur b true hb
  | some (.inr t) :: xs, cur, b, a, hb => by
    simp only [delGo, List.filterMap_cons, id]
    rw [delGo_vis xs (cur ++ [(Sum.inr t : Item)]) b a (by
      intro hbt cp hcp
      rcases List.mem_append.mp hcp with h | h
      · exact hb hbt cp h
      · simp at h)]
    simp
  | some (.inl cp) :: xs, cur, b, a, hb => by
    simp only [delGo, List.filterMap_cons, id]
    by_cases hn : (cp.1 == nl) = true
    · have hsp := isSpace_of_nl _ hn
      simp only [hn, if_true, List.filter_append]
      rw [delGo_vis xs [] true false (fun _ cp h => by cases h)]
      split
      · rename_i h
        simp only [Bool.and_eq_true] at h
        rw [filter_vis_blank cur (hb h.1)]
        simp [vis, hsp]
      · simp [vis, hsp]
    · simp only [hn, Bool.false_eq_true, if_false]
      rw [delGo_vis xs (cur ++ [(Sum.inl cp : Item)]) (b && isSpace cp.1) a (by
        intro hbt c hc
        simp only [Bool.and_eq_true] at hbt
        rcases List.mem_append.mp hc with h | h
        · exact hb hbt.1 c h
        · simp only [List.mem_singleton, Sum.inl.injEq] at h
          rw [h]; exact hbt.2)]
      simp

theorem delGo_sublist : ∀ (ms : List Mark) (cur : List Item) (b a : Bool),
    List.Sublist (delGo cur b a ms) (cur ++ ms.filterMap id)
  | [], cur, b, a => by
    simp only [delGo, List.filterMap_nil, List.append_nil]
    split
    · exact List.filter_sublist
    · exact List.Sublist.refl _
  | none :: xs, cur, b, a => by
    simp only [delGo, List.filterMap_cons, id]
    exact delGo_sublist xs cur b true
  | some (.inr t) :: xs, cur, b, a => by
    simp only [delGo, List.filterMap_cons, id]
    have := delGo_sublist xs (cur ++ [(Sum.inr t : Item)]) b a
    simpa using this
  | some (.inl cp) :: xs, cur, b, a => by
    simp only [delGo, List.filterMap_cons, id]
    by_cases hn : (cp.1 == nl) = true
    · simp only [hn, if_true]
      have h2 := delGo_sublist xs [] true false
      simp only [List.nil_append] at h2
      split
      · exact List.Sublist.append List.filter_sublist (List.Sublist.cons _ h2)
      · have : cur ++ Sum.inl cp :: List.filterMap id xs = (cur ++ [Sum.inl cp]) ++ List.filterMap id xs := by
          simp
        rw [this]
        exact List.Sublist.append (List.Sublist.refl _) h2
    · simp only [hn, Bool.false_eq_true, if_false]
      have := delGo_sublist xs (cur ++ [(Sum.inl cp : Item)]) (b && isSpace cp.1) a
      simpa using this

theorem delLines_sublist (ms : List Mark) : List.Sublist (delLines ms) (ms.filterMap id) := by
  have := delGo_sublist ms [] true false
  simpa [delLines] using this

theorem delLines_vis (ms : List Mark) : (delLines ms).filter vis = (ms.filterMap id).filter vis := by
  have := delGo_vis ms [] true false (fun _ cp h => by cases h)
  simpa [delLines] using this

theorem filter_isLg_of_vis (l : List Item) : (l.filter vis).filter isLg = l.filter isLg := by
  rw [List.filter_filter]
  apply List.filter_congr
  intro i _
  cases i <;> simp [isLg, vis]

theorem delLines_langs (ms : List Mark) : (delLines ms).filter isLg = (ms.filterMap id).filter isLg := by
  rw [← filter_isLg_of_vis, delLines_vis, filter_isLg_of_vis]

theorem delLines_visible (ms : List Mark) (cp : Char × Nat) (h : some (Sum.inl cp) ∈ ms)
    (hv : isSpace cp.1 = false) : Sum.inl cp ∈ delLines ms := by
  have h1 : Sum.inl cp ∈ (ms.filterMap id).filter vis := by
    rw [List.mem_filter]
    exact ⟨List.mem_filterMap.mpr ⟨_, h, rfl⟩, by simp [vis, hv]⟩
  rw [← delLines_vis] at h1
  exact (List.mem_filter.mp h1).1

end LinesLang
end Yalafi
