/-
  Proofs/PlainCref.lean — C04 "generated text maps into the span of the construct that generated it"
  for the reference macros of package cleveref (`\cref`, `\Cref`, `\crefrange`, `\Crefrange` after
  `\YYCleverefInput`), on the model, at three levels:

  (1) the handler (`cref_call`, `crefrange_call`, `cref_tokens_fixed`, `crefrange_tokens_fixed`): a hit
      returns the scanned replacement text of the sed file, EVERY token at the position of the call and
      position-fixed (`pos_fix`), only the diagnostics of the state change; a miss returns the error
      mark of `latex_error` at the call.  No side condition.
  (2) the macro call (`collectArgs_cref`, `expandMacro_cref`): `\cref{label}` with a known label —
      `{`, plain label tokens, `}` — is replaced by an Action token at the backslash and the generated
      tokens; the label tokens vanish.
  (3) the main loop (`seqRun_cref`, `seqRun_pieces`, `seq_pieces`): a token buffer made of tokens that are copied and
      of such calls whose replacement text consists of tokens that are copied (words, blanks: the
      tokens `CopyTok` of Proofs/PlainFootnote.lean) — `expand_sequence` appends, for every call, an
      Action token and the replacement characters, all pinned to the backslash of THAT call, and
      nothing of the label; the state is unchanged.

  Side conditions of (2), (3): the macro is declared as `h_read_sed` declares it (`CrefDecl`: arguments
  `*A`, handler `.cref plain star`, no extraction); no star; `{` directly behind the name; the label is
  not empty and consists of plain tokens (text / space tokens that are no `$ \( $$ \[ \\ { }`); the
  look-up of the label text in the plain table succeeds; scanning the replacement text yields no
  scanner message (else the state changes: its `diags` grow — level (1) covers that); for (3) the
  empty string is no "active character" of the language settings (`noEmptyActive`, true for the
  real tables) and the generated tokens are `CopyTok` in the state.

  NOT covered here: the scanner level and `tex2txt` (the documents of `Properties/CleverefStmt.lean`
  are evaluated by the kernel instead), the star form, `\crefrange` at levels (2)/(3), replacement
  texts with macros (`\nobreakspace`, `\textup {(\ref {eq:1})}` are pushed back and expanded again, at
  the position of the call: level (1) says that they start there), multi-language mode.
-/
import YalafiVerif.Proofs.PlainHeading
namespace Yalafi
namespace PlainCref

open M
open Cleveref
open PlainFootnote (BraceTok CopyTok noBrace_plain copiedSeq)

/-! ### (1) the handler -/

def genToks (T : PTables) (str : Str) (pos : Nat) : List Tok :=
  (scan T.toTables str).toks.map (fun t => { t with pos := pos, fix := true })

def crefHit (T : PTables) (str : Str) (pos : Nat) (st : PState) : Outcome (List Tok × PState) :=
  .ok (genToks T str pos, { st with diags := st.diags ++ (scan T.toTables str).diags })

theorem crefToks_eq (T : PTables) (str : Str) (pos : Nat) (st : PState) :
    crefToks T str pos st = crefHit T str pos st := rfl

/-- `\cref` / `\Cref` after `\YYCleverefInput` (arguments: star, label) -/
theorem cref_call (T : PTables) (fuel : Nat) (plain star : List (Str × Str)) (buf : Buf) (mac : MacroDef)
    (a0 a1 : List Tok) (rest : List (List Tok)) (pos : Nat) (st : PState) :
    callHandler T (fuel + 1) (.cref plain star) buf mac (a0 :: a1 :: rest) pos st =
      match lookupLast (if (getTextDirect a0).isEmpty then plain else star) (getTextDirect a1) with
      | some str => crefHit T str pos st
      | none => latexError T.toTables (fmt T.crefMsgs.crefUndef [mac.name, getTextDirect a1]) pos st := by
  simp only [callHandler, List.getElem?_cons_zero, List.getElem?_cons_succ]
  show (match lookupLast _ _ with | some str => crefToks T str pos | none => _) st = _
  cases lookupLast (if (getTextDirect a0).isEmpty then plain else star) (getTextDirect a1) <;> rfl

/-- `\crefrange` / `\Crefrange` (arguments: star, first label, second label) -/
theorem crefrange_call (T : PTables) (fuel : Nat) (plain star : List ((Str × Str) × Str)) (buf : Buf)
    (mac : MacroDef) (a0 a1 a2 : List Tok) (rest : List (List Tok)) (pos : Nat) (st : PState) :
    callHandler T (fuel + 1) (.crefrange plain star) buf mac (a0 :: a1 :: a2 :: rest) pos st =
      match lookupLast (if (getTextDirect a0).isEmpty then plain else star) (getTextDirect a1, getTextDirect a2) with
      | some str => crefHit T str pos st
      | none => latexError T.toTables
          (fmt T.crefMsgs.crefrangeUndef [mac.name, getTextDirect a1, getTextDirect a2]) pos st := by
  simp only [callHandler, List.getElem?_cons_zero, List.getElem?_cons_succ]
  show (match lookupLast _ _ with | some str => crefToks T str pos | none => _) st = _
  cases lookupLast (if (getTextDirect a0).isEmpty then plain else star) (getTextDirect a1, getTextDirect a2) <;> rfl

/-- what "generated by this call" means for the tokens a reference macro returns: all position-fixed;
    all at the position of the call, or the error mark `latex_error` puts there -/
def AtCall (T : PTables) (pos : Nat) (st : PState) (r : List Tok) : Prop :=
  (∀ t ∈ r, t.fix = true) ∧
  ((∀ t ∈ r, t.pos = pos) ∨ ∃ err, r = latexErrorToks T.toTables err pos st.latex.length)

theorem genToks_at (T : PTables) (str : Str) (pos : Nat) : ∀ t ∈ genToks T str pos, t.pos = pos ∧ t.fix = true := by
  intro t ht
  simp only [genToks, List.mem_map] at ht
  obtain ⟨u, -, rfl⟩ := ht
  exact ⟨rfl, rfl⟩

theorem atCall_hit (T : PTables) (str : Str) (pos : Nat) (st st' : PState) (r : List Tok)
    (h : crefHit T str pos st = .ok (r, st')) : AtCall T pos st r := by
  simp only [crefHit, Outcome.ok.injEq, Prod.mk.injEq] at h
  obtain ⟨rfl, -⟩ := h
  exact ⟨fun t ht => (genToks_at T str pos t ht).2, Or.inl (fun t ht => (genToks_at T str pos t ht).1)⟩

theorem latexErrorToks_fix (T : Tables) (err : Str) (pos n : Nat) :
    ∀ t ∈ latexErrorToks T err pos n, t.fix = true := by
  intro t ht
  unfold latexErrorToks at ht
  dsimp only at ht
  split at ht
  · simp only [List.mem_cons, List.not_mem_nil, or_false] at ht
    rcases ht with rfl | rfl <;> rfl
  · simp only [List.mem_singleton] at ht
    subst ht; rfl

theorem atCall_miss (T : PTables) (err : Str) (pos : Nat) (st st' : PState) (r : List Tok)
    (h : latexError T.toTables err pos st = .ok (r, st')) : AtCall T pos st r := by
  simp only [latexError, Outcome.ok.injEq, Prod.mk.injEq] at h
  obtain ⟨rfl, -⟩ := h
  exact ⟨latexErrorToks_fix _ _ _ _, Or.inr ⟨err, rfl⟩⟩

/-- **C04 for `\cref`**: every token a call returns is position-fixed; they all carry the position of
    the call (a hit: the generated text maps to the backslash of the call), or they are the error mark
    `latex_error` puts at the call (a miss) -/
theorem cref_tokens_fixed (T : PTables) (fuel : Nat) (plain star : List (Str × Str)) (buf : Buf) (mac : MacroDef)
    (a0 a1 : List Tok) (rest : List (List Tok)) (pos : Nat) (st st' : PState) (r : List Tok)
    (h : callHandler T (fuel + 1) (.cref plain star) buf mac (a0 :: a1 :: rest) pos st = .ok (r, st')) :
    AtCall T pos st r := by
  rw [cref_call] at h
  split at h
  · exact atCall_hit T _ pos st st' r h
  · exact atCall_miss T _ pos st st' r h

/-- **C04 for `\crefrange`** -/
theorem crefrange_tokens_fixed (T : PTables) (fuel : Nat) (plain star : List ((Str × Str) × Str)) (buf : Buf)
    (mac : MacroDef) (a0 a1 a2 : List Tok) (rest : List (List Tok)) (pos : Nat) (st st' : PState) (r : List Tok)
    (h : callHandler T (fuel + 1) (.crefrange plain star) buf mac (a0 :: a1 :: a2 :: rest) pos st = .ok (r, st')) :
    AtCall T pos st r := by
  rw [crefrange_call] at h
  split at h
  · exact atCall_hit T _ pos st st' r h
  · exact atCall_miss T _ pos st st' r h

/-- with fewer arguments than the handler indexes the call is a crash `handler:args[k]`, never a result
    (`expand_arguments` always passes one list per argument code: `arityOk` of the bundle) -/
theorem cref_short_args (T : PTables) (fuel : Nat) (plain star : List (Str × Str)) (buf : Buf) (mac : MacroDef)
    (args : List (List Tok)) (hlen : args.length < 2) (pos : Nat) (st : PState) :
    callHandler T (fuel + 1) (.cref plain star) buf mac args pos st = .crash "handler:args[k]" := by
  match args, hlen with
  | [], _ => simp only [callHandler, List.getElem?_nil]; rfl
  | [a], _ => simp only [callHandler, List.getElem?_cons_zero, List.getElem?_cons_succ, List.getElem?_nil]; rfl

/-! ### (2) the macro call `\cref{label}` -/

/-- the macro as `h_read_sed` declares it -/
structure CrefDecl (mac : MacroDef) (plain star : List (Str × Str)) : Prop where
  args : mac.args = ['*', 'A']
  handler : mac.handler = .cref plain star
  extract : mac.extract = []

theorem collectArgs_cref (T : PTables) (mac : MacroDef) (lb rb : Tok) (body : List Tok)
    (rest : Buf) (start : Nat) (st : PState) (hlb : BraceTok '{' lb) (hrb : BraceTok '}' rb)
    (hb : ∀ t ∈ body, PlainTok t) (hne : body ≠ []) :
    collectArgs T mac ['*', 'A'] 0 (lb :: (body ++ rb :: rest)) start {} st
      = .ok (({ args := [[], body], extr := [[], body], langs := [] }, rest), st) := by
  rw [Call.collectArgs_noStar T mac _ 0 start {} st (.of_not hlb.notSpace) (by simp [hlb.brace.nv]),
    Call.collectArgs_braced T mac _ 1 _ _ st body rest hlb.brace hrb.brace (noBrace_plain hb),
    Call.collectArgs_nil, Call.argOr_of_ne hne]
  rfl

/-- the state after a hit whose replacement text scans without a message is the state before -/
theorem diags_same (st : PState) (d : List Diag) (h : d = []) : { st with diags := st.diags ++ d } = st := by
  subst h
  cases st
  simp

/-- **(2) the call**: an Action token at the position of the macro and the generated tokens, all at that
    position and pinned; the buffer behind the closing brace; the state is unchanged.  The label tokens
    are gone. -/
theorem expandMacro_cref (T : PTables) (fuel : Nat) (mac : MacroDef) (plain star : List (Str × Str))
    (hd lb rb : Tok) (body : List Tok) (rest : Buf) (st : PState)
    (hmac : lookupMacro st hd.txt = some mac) (hm : CrefDecl mac plain star)
    (hlb : BraceTok '{' lb) (hrb : BraceTok '}' rb) (hb : ∀ t ∈ body, PlainTok t) (hne : body ≠ [])
    (str : Str) (hlk : lookupLast plain (getTextDirect body) = some str)
    (hdg : (scan T.toTables str).diags = []) (hf : 3 ≤ fuel) :
    expandMacro T fuel (lb :: (body ++ rb :: rest)) hd false st
      = .ok ((mkAction hd.pos :: genToks T str hd.pos, rest), st) := by
  obtain ⟨f, rfl⟩ : ∃ f, fuel = f + 1 + 2 := ⟨fuel - 3, by omega⟩
  refine Call.expandMacro_handler (f + 1) false hmac hm.extract (by rw [hm.handler]; nofun)
    (Call.skipSpaceStopLangAct_cons hlb.notSpace)
    (hm.args ▸ collectArgs_cref T mac lb rb body rest hd.pos st hlb hrb hb hne) rfl ?_
  rw [hm.handler, cref_call]
  show (match lookupLast plain (getTextDirect body) with
    | some str => crefHit T str hd.pos st
    | none => _) = _
  rw [hlk]
  show Outcome.ok _ = _
  rw [diags_same st _ hdg]

/-! ### (3) the loop -/

structure CallOk (T : PTables) (st : PState) (hd lb : Tok) (lab : List Tok) (rb : Tok) (str : Str) : Prop where
  kind : hd.kind = .xmacro
  nDef : txtIs hd "\\def" = false
  decl : ∃ mac plain star, lookupMacro st hd.txt = some mac ∧ CrefDecl mac plain star ∧
    lookupLast plain (getTextDirect lab) = some str
  hlb : BraceTok '{' lb
  hrb : BraceTok '}' rb
  plainLab : ∀ t ∈ lab, PlainTok t
  ne : lab ≠ []
  quiet : (scan T.toTables str).diags = []
  gen : ∀ t ∈ genToks T str hd.pos, CopyTok T st t

theorem seqRun_cref (T : PTables) (hd lb rb : Tok) (body : List Tok) (str : Str)
    (rest : Buf) (envStop : Option Str) (out : List Tok) (st : PState)
    (hs : noEmptyActive T st = true) (hc : CallOk T st hd lb body rb str) :
    SeqRun T envStop 0 ((genToks T str hd.pos).length + 4) (hd :: lb :: (body ++ rb :: rest)) out st rest
      (out ++ mkAction hd.pos :: genToks T str hd.pos) st := by
  obtain ⟨mac, plain, star, hmac, hm, hlk⟩ := hc.decl
  -- `Piece.cost` counts two iterations more than the call uses: they pay for the depth of the call
  exact (seqRun_pushed (k := (genToks T str hd.pos).length + 2) (d := 3)
    (fun f hf => loop_macro_ok hc.kind hc.nDef (expandMacro_cref T f mac plain star hd lb rb body
      rest st hmac hm hc.hlb hc.hrb hc.plainLab hc.ne str hlk hc.quiet hf))
    ⟨.action (notActive_nil hs) _, copiedSeq hc.gen⟩ (by omega) (Nat.le_succ _)).weaken (by omega) (by omega)

/-- the pieces of a token buffer: a token that is copied, or a call `\cref{label}` whose label stands
    for the replacement text `str` -/
inductive Piece where
  | tok (t : Tok)
  | call (hd lb : Tok) (body : List Tok) (rb : Tok) (str : Str)

def Piece.toks : Piece → List Tok
  | .tok t => [t]
  | .call hd lb b rb _ => hd :: lb :: (b ++ [rb])

/-- what the loop appends for a piece -/
def Piece.out (T : PTables) : Piece → List Tok
  | .tok t => [t]
  | .call hd _ _ _ str => mkAction hd.pos :: genToks T str hd.pos

/-- loop iterations a piece needs at most -/
def Piece.cost (T : PTables) : Piece → Nat
  | .tok _ => 1
  | .call hd _ _ _ str => (genToks T str hd.pos).length + 4

def Piece.Ok (T : PTables) (st : PState) : Piece → Prop
  | .tok t => CopyTok T st t
  | .call hd lb b rb str => CallOk T st hd lb b rb str

def flat (ps : List Piece) : List Tok := (ps.map Piece.toks).flatten
def outP (T : PTables) (ps : List Piece) : List Tok := (ps.map (Piece.out T)).flatten
def cost (T : PTables) (ps : List Piece) : Nat := (ps.map (Piece.cost T)).sum

theorem seqRun_pieces (T : PTables) (st : PState) (envStop : Option Str) (rest : Buf)
    (hs : noEmptyActive T st = true) :
    ∀ (ps : List Piece) (out : List Tok), (∀ p ∈ ps, p.Ok T st) →
      SeqRun T envStop 0 (cost T ps) (flat ps ++ rest) out st rest (out ++ outP T ps) st
  | [], out, _ => by rw [outP, List.map_nil, List.flatten_nil, List.append_nil]; exact .refl
  | .tok t :: ps, out, h =>
    have ht : CopyTok T st t := h (.tok t) (List.mem_cons_self ..)
    (seqRun_copiedTok (ht.copied _)).app
      (seqRun_pieces T st envStop rest hs ps (out ++ [t]) (fun p hp => h p (List.mem_cons_of_mem _ hp)))
      (Nat.zero_le _)
  | .call hd lb b rb str :: ps, out, h => by
    have hc : CallOk T st hd lb b rb str := h (.call hd lb b rb str) (List.mem_cons_self ..)
    have hfl : flat (.call hd lb b rb str :: ps) ++ rest = hd :: lb :: (b ++ rb :: (flat ps ++ rest)) := by
      simp [flat, Piece.toks]
    rw [hfl]
    exact (seqRun_cref T hd lb rb b str (flat ps ++ rest) envStop out st hs hc).app
      (seqRun_pieces T st envStop rest hs ps _ (fun p hp => h p (List.mem_cons_of_mem _ hp)))
      (Nat.zero_le _)

/-- **(3) the loop on a buffer of pieces**: `expand_sequence` works the pieces off one after the other;
    afterwards the output has grown by the tokens that are copied and, for every call, by an Action
    token and the replacement text of its label, every generated token at the position of the
    backslash of ITS call and pinned (`outP_call_at`); no token of a label is appended; the state is
    the same.  (With more fuel than `cost` the equation holds a fortiori: the fuel on the right is
    what is left.) -/
theorem seq_pieces (T : PTables) (st : PState) (envStop : Option Str) (rest : Buf)
    (hs : noEmptyActive T st = true) :
    ∀ (ps : List Piece) (fuel : Nat) (out : List Tok), (∀ p ∈ ps, p.Ok T st) →
      ∃ fuel', fuel ≤ fuel' ∧
      expandSequence T (fuel + cost T ps) (flat ps ++ rest) envStop out st
        = expandSequence T fuel' rest envStop (out ++ outP T ps) st := by
  intro ps fuel out h
  obtain ⟨f', h1, e⟩ := seqRun_pieces T st envStop rest hs ps out h (fuel + cost T ps) (by omega)
  exact ⟨f', by omega, e⟩

theorem outP_call_at (T : PTables) (hd lb : Tok) (b : List Tok) (rb : Tok) (str : Str) :
    ∀ t ∈ Piece.out T (.call hd lb b rb str), t.pos = hd.pos ∧ (t = mkAction hd.pos ∨ t.fix = true) := by
  intro t ht
  simp only [Piece.out, List.mem_cons] at ht
  rcases ht with rfl | ht
  · exact ⟨rfl, Or.inl rfl⟩
  · exact ⟨(genToks_at T str hd.pos t ht).1, Or.inr (genToks_at T str hd.pos t ht).2⟩

/-! ### (4) computable side conditions -/

def plainTokB (t : Tok) : Bool :=
  (t.kind == .text || t.kind == .space || t.kind == .par) &&
  !txtIs t "$" && !txtIs t "\\(" && !txtIs t "$$" && !txtIs t "\\[" && !txtIs t "\\\\" && !txtIs t "{" && !txtIs t "}"

theorem plainTok_of {t : Tok} (h : plainTokB t = true) : PlainTok t := by
  simp only [plainTokB, Bool.and_eq_true, Bool.or_eq_true, beq_iff_eq, Bool.not_eq_true'] at h
  obtain ⟨⟨⟨⟨⟨⟨⟨hk, h1⟩, h2⟩, h3⟩, h4⟩, h5⟩, h6⟩, h7⟩ := h
  exact ⟨by rcases hk with (hk | hk) | hk <;> simp [hk], h1, h2, h3, h4, h5, h6, h7⟩

def copyTokB (T : PTables) (st : PState) (t : Tok) : Bool :=
  plainTokB t && !(activeChars T st).contains t.txt && !t.txt.isEmpty &&
  ((t.kind == .text && !hasNl t.txt) || ((t.kind == .space || t.kind == .par) && isBlank t.txt))

theorem copyTok_of {T : PTables} {st : PState} {t : Tok} (h : copyTokB T st t = true) : CopyTok T st t := by
  simp only [copyTokB, Bool.and_eq_true, Bool.or_eq_true, beq_iff_eq, Bool.not_eq_true', List.isEmpty_eq_false_iff] at h
  obtain ⟨⟨⟨hp, ha⟩, hne⟩, hs⟩ := h
  refine ⟨plainTok_of hp, ha, hne, ?_⟩
  rcases hs with ⟨hk, hn⟩ | ⟨hk, hb⟩
  · exact Or.inl ⟨hk, hn⟩
  · exact Or.inr ⟨hk, hb⟩

def braceTokB (c : Char) (t : Tok) : Bool := (t.kind == .special || t.kind == .text) && t.txt == [c]

theorem braceTok_of {c : Char} {t : Tok} (h : braceTokB c t = true) : BraceTok c t := by
  simp only [braceTokB, Bool.and_eq_true, Bool.or_eq_true, beq_iff_eq] at h
  exact ⟨h.1, h.2⟩

/-- the declaration part of `CallOk`, computed -/
def declB (st : PState) (hd : Tok) (lab : List Tok) (str : Str) : Bool :=
  match lookupMacro st hd.txt with
  | some mac =>
    mac.args == ['*', 'A'] && mac.extract.isEmpty &&
    (match mac.handler with
     | .cref plain _ => lookupLast plain (getTextDirect lab) == some str
     | _ => false)
  | none => false

def callOkB (T : PTables) (st : PState) (hd lb : Tok) (lab : List Tok) (rb : Tok) (str : Str) : Bool :=
  hd.kind == .xmacro && !txtIs hd "\\def" && declB st hd lab str &&
  braceTokB '{' lb && braceTokB '}' rb && lab.all plainTokB && !lab.isEmpty &&
  (scan T.toTables str).diags.isEmpty && (genToks T str hd.pos).all (copyTokB T st)

theorem callOk_of {T : PTables} {st : PState} {hd lb : Tok} {lab : List Tok} {rb : Tok} {str : Str}
    (h : callOkB T st hd lb lab rb str = true) : CallOk T st hd lb lab rb str := by
  simp only [callOkB, Bool.and_eq_true, beq_iff_eq, Bool.not_eq_true', List.all_eq_true,
    List.isEmpty_eq_false_iff, List.isEmpty_iff] at h
  obtain ⟨⟨⟨⟨⟨⟨⟨⟨hk, hnd⟩, hdecl⟩, hlb⟩, hrb⟩, hpl⟩, hne⟩, hq⟩, hg⟩ := h
  refine ⟨hk, hnd, ?_, braceTok_of hlb, braceTok_of hrb, fun t ht => plainTok_of (hpl t ht), hne, hq,
    fun t ht => copyTok_of (hg t ht)⟩
  unfold declB at hdecl
  split at hdecl
  · rename_i mac hmac
    simp only [Bool.and_eq_true, beq_iff_eq, List.isEmpty_iff] at hdecl
    obtain ⟨⟨ha, he⟩, hh⟩ := hdecl
    split at hh
    · rename_i plain star hhd
      exact ⟨mac, plain, star, hmac, ⟨ha, hhd, he⟩, by simpa using hh⟩
    · cases hh
  · cases hdecl

def Piece.okB (T : PTables) (st : PState) : Piece → Bool
  | .tok t => copyTokB T st t
  | .call hd lb b rb str => callOkB T st hd lb b rb str

theorem pieces_ok_of {T : PTables} {st : PState} {ps : List Piece} (h : ps.all (Piece.okB T st) = true) :
    ∀ p ∈ ps, p.Ok T st := by
  intro p hp
  have := List.all_eq_true.mp h p hp
  cases p with
  | tok t => exact copyTok_of this
  | call hd lb b rb str => exact callOk_of this

/-! ### (5) `\YYCleverefInput` replaces the reference macros completely (C17: nothing of an earlier sed
    file survives in them) -/

theorem find_setMacro_same (ms : List MacroDef) (m : MacroDef) :
    (setMacro ms m).find? (·.name == m.name) = some m := by
  rw [PlainMacro.find_setMacro, if_pos (beq_self_eq_true _)]

theorem find_setMacro_other (ms : List MacroDef) (m : MacroDef) (n : Str) (hn : (m.name == n) = false) :
    (setMacro ms m).find? (·.name == n) = ms.find? (·.name == n) := by
  rw [PlainMacro.find_setMacro, hn]
  rfl

theorem bind_ok_inv {α β} (x : M α) (f : α → M β) (s s' : PState) (b : β)
    (h : (x >>= f) s = .ok (b, s')) : ∃ a s1, x s = .ok (a, s1) ∧ f a s1 = .ok (b, s') := by
  have h' : M.bind' x f s = .ok (b, s') := h
  unfold M.bind' at h'
  cases hx : x s with
  | ok r => obtain ⟨a, s1⟩ := r; rw [hx] at h'; exact ⟨a, s1, rfl, h'⟩
  | fatal m => rw [hx] at h'; cases h'
  | crash c => rw [hx] at h'; cases h'
  | outOfFuel => rw [hx] at h'; cases h'

/-- after `h_read_sed` the four reference macros are the closures over the tables of THIS file, whatever
    the macro table held before (an earlier sed file, a `\renewcommand{\cref}`, the warning macros of the
    package) -/
theorem readSedText_macros (T : PTables) (sed : Str) (st st' : PState)
    (h : readSedText T sed st = .ok ((), st')) :
    ∀ m ∈ crefMacros (sedLines sed), lookupMacro st' m.name = some m := by
  simp only [readSedText] at h
  have hb : ∃ s1 : PState, st' = { s1 with macros := (crefMacros (sedLines sed)).foldl setMacro s1.macros } := by
    obtain ⟨u, s1, -, h2⟩ := bind_ok_inv _ _ _ _ _ h
    simp only [M.modify, Outcome.ok.injEq, Prod.mk.injEq] at h2
    exact ⟨s1, h2.2.symm⟩
  obtain ⟨s1, rfl⟩ := hb
  intro m hm
  simp only [crefMacros, List.mem_cons, List.not_mem_nil, or_false] at hm
  simp only [lookupMacro, crefMacros, List.foldl_cons, List.foldl_nil]
  have n21 : (nameCrefU == nameCref) = false := by decide
  have n31 : (nameCrefrange == nameCref) = false := by decide
  have n41 : (nameCrefrangeU == nameCref) = false := by decide
  have n32 : (nameCrefrange == nameCrefU) = false := by decide
  have n42 : (nameCrefrangeU == nameCrefU) = false := by decide
  have n43 : (nameCrefrangeU == nameCrefrange) = false := by decide
  rcases hm with rfl | rfl | rfl | rfl
  · rw [find_setMacro_other _ _ _ n41, find_setMacro_other _ _ _ n31, find_setMacro_other _ _ _ n21]
    exact find_setMacro_same _ _
  · rw [find_setMacro_other _ _ _ n42, find_setMacro_other _ _ _ n32]
    exact find_setMacro_same _ _
  · rw [find_setMacro_other _ _ _ n43]
    exact find_setMacro_same _ _
  · exact find_setMacro_same _ _

end PlainCref
end Yalafi
