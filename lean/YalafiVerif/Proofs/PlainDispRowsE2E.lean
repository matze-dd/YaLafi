/-
  Proofs/PlainDispRowsE2E.lean — C11 for the row / section structure of displayed equations: the
  scanner on whole documents (`scans_disp`, `scans_env`, `scanAll_rows`), the end-to-end theorem
  `tex2txt_display_rows` and what its reference output says.
  (Documents, side conditions, reference output, header with all explanations:
  Proofs/PlainDispRows.lean; token level: Proofs/PlainDispRowsTok.lean.)
-/
import YalafiVerif.Proofs.PlainDispRows
namespace Yalafi
namespace PlainDispRows

open M
open PlainMath (rotN VisibleRepls placeholder placeholder_mem punctOf leadBlanks getTxtPos_action_cons)
open PlainDisplay (firstTokTxtD_begin sOpen sClose openAt closeAt CloseTok
  nextToken_open nextToken_close equEnvAt endSrc firstTokTxtD firstTokTxtD_of_text
  elemChar elemOff)
open PlainMacro (braceAt)
open PlainItem (begTok endTok nBegin nEnd nextToken_begin nextToken_end nameToks_of_bodyRun)

/-! ### the scanner on a well-formed source -/

structure ScanFacts (T : PTables) (st : PState) (ls : LangSettings) (d : Str) (repls : List Str)
    (rest : Str) (items : List Item) (steps : List ScanStep) : Prop where
  ok : ∀ s ∈ steps, s.diag = none ∧ s.extra = []
  pieces : ∃ ps, steps.map (·.tok) = flat ps ∧ PiecesOk T st ps ∧
    (∀ k, getTxtPos (outD T st.mathOperators ls.opText d (rotN k repls) ps)
        = ((refItems T st.mathOperators ls repls k items).map (·.1),
           (refItems T st.mathOperators ls repls k items).map (·.2))) ∧
    cost ps ≤ rest.length
  first : ∀ s ss, steps = s :: ss → s.tok.txt = firstTokTxtD rest
  len : steps.length ≤ rest.length

/-- the body has a section behind a `&` -/
def ampSrc (b : Rows) : Prop := b.1.2 ≠ [] ∨ ∃ r ∈ b.2, r.2 ≠ []

def Item.amp : Item → Prop
  | .chr _ _ => False
  | .eqn _ _ b => ampSrc b

def Seg.amp : Seg → Prop
  | .txt _ => False
  | .disp b => ampSrc b
  | .env _ b => ampSrc b

theorem not_amp_chrItems : ∀ (s : Str) (p : Nat), ∀ it ∈ chrItems p s, ¬ it.amp
  | [], _, _, h => nomatch h
  | _ :: cs, p, it, h => by
    rcases List.mem_cons.mp h with rfl | h
    · exact id
    · exact not_amp_chrItems cs (p + 1) it h

theorem amp_itemsOf : ∀ (segs : List Seg) (p : Nat), (∃ it ∈ itemsOf p segs, it.amp) → ∃ s ∈ segs, s.amp
  | [], _, ⟨_, h, _⟩ => nomatch h
  | .txt s :: rest, p, ⟨it, hit, h⟩ => by
    rcases List.mem_append.mp hit with hit | hit
    · exact absurd h (not_amp_chrItems s p it hit)
    · exact (amp_itemsOf rest _ ⟨it, hit, h⟩).imp fun _ h => ⟨List.mem_cons_of_mem _ h.1, h.2⟩
  | .disp b :: rest, p, ⟨it, hit, h⟩ => by
    rcases List.mem_cons.mp hit with rfl | hit
    · exact ⟨_, List.mem_cons_self, h⟩
    · exact (amp_itemsOf rest _ ⟨it, hit, h⟩).imp fun _ h => ⟨List.mem_cons_of_mem _ h.1, h.2⟩
  | .env n b :: rest, p, ⟨it, hit, h⟩ => by
    rcases List.mem_cons.mp hit with rfl | hit
    · exact ⟨_, List.mem_cons_self, h⟩
    · exact (amp_itemsOf rest _ ⟨it, hit, h⟩).imp fun _ h => ⟨List.mem_cons_of_mem _ h.1, h.2⟩

theorem MoreCorr.ne {T : PTables} {p : Nat} {more : List Str} {xs : List (Tok × List Tok)}
    (h : MoreCorr T p more xs) (hx : xs ≠ []) : more ≠ [] := by
  rintro rfl
  cases xs with
  | nil => exact hx rfl
  | cons _ _ => exact h

theorem moreRowsCorr_amp (T : PTables) :
    ∀ (m : List Row) (xs : List (Tok × RowT)) (p : Nat), MoreRowsCorr T p m xs →
      (∃ x ∈ xs, x.2.2 ≠ []) → ∃ r ∈ m, r.2 ≠ []
  | _, [], _, _, ⟨_, hx, _⟩ => nomatch hx
  | [], _ :: _, _, h, _ => h.elim
  | r :: m, x :: xs, _, h, ⟨y, hy, hne⟩ => by
    rcases List.mem_cons.mp hy with rfl | hy
    · exact ⟨r, by simp, h.2.1.2.ne hne⟩
    · obtain ⟨r', hr', h'⟩ := moreRowsCorr_amp T m xs _ h.2.2 ⟨y, hy, hne⟩
      exact ⟨r', by simp [hr'], h'⟩

theorem RowsCorr.amp {T : PTables} {p : Nat} {b : Rows} {tr : RowsT} (h : RowsCorr T p b tr)
    (ha : HasAmp tr) : ampSrc b :=
  ha.imp h.1.2.ne (moreRowsCorr_amp T b.2 tr.2 _ h.2)

/-- `ScanFacts`, and: pieces have a `&` only where the source has one -/
structure ScanFactsA (T : PTables) (st : PState) (ls : LangSettings) (d : Str) (repls : List Str)
    (rest : Str) (items : List Item) (steps : List ScanStep) : Prop where
  ok : ∀ s ∈ steps, s.diag = none ∧ s.extra = []
  pieces : ∃ ps, steps.map (·.tok) = flat ps ∧ PiecesOk T st ps ∧
    (∀ k, getTxtPos (outD T st.mathOperators ls.opText d (rotN k repls) ps)
        = ((refItems T st.mathOperators ls repls k items).map (·.1),
           (refItems T st.mathOperators ls repls k items).map (·.2))) ∧
    cost ps ≤ rest.length ∧ ((∃ p ∈ ps, p.amp) → ∃ it ∈ items, it.amp)
  first : ∀ s ss, steps = s :: ss → s.tok.txt = firstTokTxtD rest
  len : steps.length ≤ rest.length

structure EnvFacts (T : PTables) (st : PState) (name : Str) (b : Rows) (R : Str) : Prop where
  nea : noEmptyActive T st = true
  special : matchSpecial T.toTables ('\\' :: (nBegin ++ '{' :: (name ++ '}' :: (rowsSrc b ++ endSrc name R)))) = none
  noverb : startsWith ('{' :: (name ++ '}' :: (rowsSrc b ++ endSrc name R))) sVerbatimArg = false
  b1 : braceAt T '{' (name ++ '}' :: (rowsSrc b ++ endSrc name R)) = true
  ne : name ≠ []
  inert : ∀ c ∈ name, inertChar T st c = true
  b2 : braceAt T '}' (rowsSrc b ++ endSrc name R) = true
  env : equEnvAt st name = true
  rows : rowsOk T b ('\\' :: (nEnd ++ '{' :: (name ++ '}' :: R))) = true
  vis : eqnVis T st.mathOperators b = true
  special2 : matchSpecial T.toTables ('\\' :: (nEnd ++ '{' :: (name ++ '}' :: R))) = none
  b3 : braceAt T '{' (name ++ '}' :: R) = true
  b4 : braceAt T '}' R = true
  n1 : name ≠ "$".toList
  n2 : name ≠ "\\(".toList

theorem envFacts {T : PTables} {st : PState} {name : Str} {b : Rows} {R : Str}
    (h : envOk T st name b R = true) : EnvFacts T st name b R := by
  simp only [envOk, Bool.and_eq_true, Bool.not_eq_true', Option.isNone_iff_eq_none,
    List.all_eq_true] at h
  obtain ⟨⟨⟨⟨⟨⟨⟨⟨⟨⟨⟨⟨h0, h1⟩, h2⟩, h3⟩, h4⟩, h5⟩, h6⟩, h7⟩, h8⟩, h9⟩, h11⟩, h12⟩, h13⟩ := h
  have hne : name ≠ [] := by simpa using h4
  refine ⟨h0, h1, h2, h3, hne, h5, h6, h7, h8, h9, h11, h12, h13, ?_, ?_⟩
  · intro e
    have := h5 '$' (by rw [e]; simp)
    simp [inertChar, structuralChar, isSpace] at this
  · intro e
    have := h5 '\\' (by rw [e]; simp)
    simp [inertChar, structuralChar, isSpace] at this

theorem scanFacts_nil (T : PTables) (st : PState) (ls : LangSettings) (d : Str) (repls : List Str) :
    ScanFactsA T st ls d repls [] [] [] :=
  ⟨by simp, ⟨[], rfl, trivial, fun _ => rfl, Nat.le_refl _, fun ⟨_, h, _⟩ => nomatch h⟩, by simp,
    Nat.le_refl _⟩

theorem scans_disp (T : PTables) (src : Str) (pos : Nat) {b : Rows} {R : Str}
    (hopen : openAt T (rowsSrc b ++ '\\' :: ']' :: R) = true)
    (hrows : rowsOk T b ('\\' :: ']' :: R) = true) (hclose : closeAt T R = true) :
    ∃ d2 tr ss, CloseTok d2 ∧ RowsCorr T (pos + 2) b tr ∧ (∀ x ∈ tr.2, RowHeadOk x.2) ∧
      rowsCost tr ≤ (rowsSrc b).length + 1 ∧
      ss.map (·.tok) = (Piece.disp { kind := .special, pos := pos, txt := sOpen } tr d2).toks ∧
      Scans T.toTables src pos ('\\' :: '[' :: (rowsSrc b ++ '\\' :: ']' :: R)) ss
        (pos + ((rowsSrc b).length + 4)) R := by
  obtain ⟨k2, hk2, hn2⟩ := nextToken_close T src (pos + 2 + (rowsSrc b).length) R hclose
  obtain ⟨st2, tr, hcorr, htoks, hcost, hheads, r2⟩ := scans_rows T src (']' :: R) b (pos + 2) hrows
  have r1 := Scans.step (R := rowsSrc b ++ '\\' :: ']' :: R) (nextToken_open T src pos _ hopen) rfl
  have r3 := Scans.step (R := R) hn2 rfl
  exact ⟨{ kind := k2, pos := pos + 2 + (rowsSrc b).length, txt := sClose }, tr, _, ⟨hk2, rfl⟩, hcorr,
    hheads, hcost, by simp [Piece.toks, htoks],
    ((r1.append r2).append r3).to (by simp only []; omega)⟩

/-- of the positions of the tokens only that of `\begin` is used later -/
theorem scans_env (T : PTables) (src : Str) (pos : Nat) {st : PState} {name : Str} {b : Rows} {R : Str}
    (D : EnvFacts T st name b R) :
    ∃ q1 q2 p' q1' q2' s1 s2 tr ss, PlainMacro.BodyRun T st name s1 ∧ PlainMacro.BodyRun T st name s2 ∧
      RowsCorr T (pos + (name.length + 8)) b tr ∧ (∀ x ∈ tr.2, RowHeadOk x.2) ∧
      rowsCost tr ≤ (rowsSrc b).length + 1 ∧
      ss.map (·.tok) = (Piece.env pos q1 q2 (s1.map (·.tok)) tr p' q1' q2' (s2.map (·.tok))).toks ∧
      Scans T.toTables src pos ('\\' :: (nBegin ++ '{' :: (name ++ '}' :: (rowsSrc b ++ endSrc name R)))) ss
        (pos + (2 * name.length + (rowsSrc b).length + 14)) R := by
  obtain ⟨s1, B1, r1⟩ := PlainItem.scans_env T st src pos nBegin 6 (begTok pos) name
    (rowsSrc b ++ endSrc name R) rfl (nextToken_begin T src pos _ D.special D.noverb) D.b1 D.b2 D.inert
  obtain ⟨st2, tr, hcorr, htoks, hcost, hheads, r2⟩ := scans_rows T src (nEnd ++ '{' :: (name ++ '}' :: R)) b
    (pos + (name.length + 8)) D.rows
  obtain ⟨s2, B2, r3⟩ := PlainItem.scans_env T st src (pos + (name.length + 8) + (rowsSrc b).length) nEnd 4
    (endTok _) name R rfl (nextToken_end T src _ _ D.special2) D.b3 D.b4 D.inert
  exact ⟨pos + 6, pos + 6 + 1 + name.length, pos + (name.length + 8) + (rowsSrc b).length,
    pos + (name.length + 8) + (rowsSrc b).length + 4,
    pos + (name.length + 8) + (rowsSrc b).length + 4 + 1 + name.length, s1, s2, tr, _, B1, B2, hcorr,
    hheads, hcost, by simp [Piece.toks, htoks],
    ((r1.append r2).append r3).to (by omega)⟩

/-- a piece in front of a scanned rest: `ss` are the steps of the scanner through the tokens of the
    piece `pc` -/
theorem ScanFacts.cons {T : PTables} {st : PState} {ls : LangSettings} {d : Str} {repls : List Str}
    {src : Str} {pos p' : Nat} {W R : Str} {ss rs : List ScanStep} {items' items : List Item} (pc : Piece)
    {t0 : Tok} {ts0 : List Tok} (r : Scans T.toTables src pos W ss p' R)
    (I : ScanFactsA T st ls d repls R items' rs) (htoks : ss.map (·.tok) = pc.toks) (hhd : pc.toks = t0 :: ts0)
    (hpc : ∀ ps, rs.map (·.tok) = flat ps → PiecesOk T st ps → PiecesOk T st (pc :: ps))
    (hout : ∀ ps, (∀ k, getTxtPos (outD T st.mathOperators ls.opText d (rotN k repls) ps)
          = ((refItems T st.mathOperators ls repls k items').map (·.1),
             (refItems T st.mathOperators ls repls k items').map (·.2))) →
        ∀ k, getTxtPos (outD T st.mathOperators ls.opText d (rotN k repls) (pc :: ps))
          = ((refItems T st.mathOperators ls repls k items).map (·.1),
             (refItems T st.mathOperators ls repls k items).map (·.2)))
    (hcost : ∀ ps, cost (pc :: ps) + R.length ≤ cost ps + W.length)
    (hfirst : t0.txt = firstTokTxtD W)
    (hamp : (pc.amp ∨ ∃ it ∈ items', it.amp) → ∃ it ∈ items, it.amp) :
    ScanFactsA T st ls d repls W items (ss ++ rs) := by
  obtain ⟨ps, hflat, hpok, ho, hc, ha⟩ := I.pieces
  have hl := r.len
  have hl' := I.len
  have hA : (∃ p ∈ pc :: ps, p.amp) → ∃ it ∈ items, it.amp := fun ⟨q, hq, h⟩ => hamp <| by
    rcases List.mem_cons.mp hq with rfl | hq
    · exact .inl h
    · exact .inr (ha ⟨q, hq, h⟩)
  refine ⟨List.forall_mem_append.mpr ⟨r.clean, I.ok⟩, ⟨pc :: ps, ?_, hpc ps hflat hpok, hout ps ho, ?_, hA⟩,
    ?_, ?_⟩
  · rw [List.map_append, htoks, hflat]; rfl
  · have := hcost ps; omega
  · intro s ss' he
    rw [headTok_of_append htoks hhd he]; exact hfirst
  · rw [List.length_append]; omega

theorem scanAll_rows (T : PTables) (st : PState) (ls : LangSettings) (d : Str) (repls : List Str)
    (hd : ls.opDefault.getD [] = d) (hne : repls ≠ []) (src : Str) (pos : Nat) (rest : Str)
    (items : List Item) (h : OkSrc T st pos rest items) :
    ScanFactsA T st ls d repls rest items (scanAll T.toTables src pos rest).1 := by
  refine scanAll_okSrc T st firstTokTxtD src (ScanFactsA T st ls d repls) (fun _ _ h => h)
    (fun c cs h => firstTokTxtD_of_text c cs (h.imp id (·.1))) (Con.vis T st) (fun _ _ _ I => I.first)
    (by rintro _ rfl; exact scanFacts_nil T st ls d repls) ?_ ?_ pos rest items h
  · intro pos c cs s rs items' K I
    rw [chrs_chr]
    refine ScanFacts.cons (.tok s.tok) K.run I rfl rfl
      (fun ps hflat hpok => ⟨K.step.tok, hflat ▸ K.pass, K.tokShape, hpok⟩) (fun ps hout k => ?_)
      (fun ps => by have := K.len; simp only [cost, List.length_cons] at this ⊢; omega) K.first
      (Or.elim · False.elim fun ⟨it, hit, h⟩ => ⟨it, List.mem_append_right _ hit, h⟩)
    rw [refItems_chrItems]
    simp only [outD]
    rw [getTxtPos_cons_plain _ _ K.step.fix, hout k, K.step.pos, K.step.txt]
    simp only [List.map_append, posText_fst, posText_snd]
  intro pos _ _ _ R items' hc
  cases hc with
  | disp b _ _ hm =>
    simp only [dispOk, Bool.and_eq_true] at hm
    obtain ⟨⟨⟨⟨hdef, hopen⟩, hrows⟩, hvis⟩, hclose⟩ := hm
    obtain ⟨d2, tr, ss, hd2, hcorr, hheads, hcost, htoks, r⟩ := scans_disp T src pos hopen hrows hclose
    refine ⟨ss, (fun e => by rw [e] at htoks; cases htoks), r, fun rs _ I => ?_⟩
    refine ScanFacts.cons (.disp _ tr d2) r I htoks rfl
      (fun ps _ hpok => ⟨hdef, ⟨rfl, rfl⟩, hcorr.ok hheads, eqnVis_corr T _ _ b tr hcorr hvis, hd2, hpok⟩)
      ?_ ?_ (by simp [firstTokTxtD, sOpen, startsWith])
      (Or.elim · (fun h => ⟨_, List.mem_cons_self, hcorr.amp h⟩) fun ⟨it, hit, h⟩ => ⟨it, List.mem_cons_of_mem _ hit, h⟩)
    · intro ps hout k
      simp only [outD, refItems]
      obtain ⟨g1, g2⟩ := getTxtPos_eqnToks T st.mathOperators ls d repls hd hne k pos 2 b tr hcorr
        (outD T st.mathOperators ls.opText d
          (eqnNew T st.mathOperators ls.opText d (rotN k repls) pos tr).2.r ps)
      rw [g1, g2, hout]
      simp only [List.map_append]
    · intro ps
      simp only [cost, List.length_cons, List.length_append]
      omega
  | env name b _ _ hm =>
    have D := envFacts hm
    obtain ⟨q1, q2, p', q1', q2', s1, s2, tr, ss, B1, B2, hcorr, hheads, hcost, htoks, r⟩ :=
      scans_env T src pos D
    have hl1 := B1.len
    have hl2 := B2.len
    refine ⟨ss, (fun e => by rw [e] at htoks; cases htoks), r, fun rs _ I => ?_⟩
    refine ScanFacts.cons (.env pos q1 q2 (s1.map (·.tok)) tr p' q1' q2' (s2.map (·.tok))) r I htoks rfl
      (fun ps _ hpok => ⟨D.nea, nameToks_of_bodyRun B1 D.ne, nameToks_of_bodyRun B2 D.ne,
        by rw [B1.txt, B2.txt], by rw [B1.txt]; exact D.env, by rw [B1.txt]; exact D.n1,
        by rw [B1.txt]; exact D.n2, hcorr.ok hheads, eqnVis_corr T _ _ b tr hcorr D.vis, hpok⟩)
      ?_ ?_ (firstTokTxtD_begin pos _)
      (Or.elim · (fun h => ⟨_, List.mem_cons_self, hcorr.amp h⟩) fun ⟨it, hit, h⟩ => ⟨it, List.mem_cons_of_mem _ hit, h⟩)
    · intro ps hout k
      simp only [outD, refItems]
      obtain ⟨g1, g2⟩ := getTxtPos_eqnToks T st.mathOperators ls d repls hd hne k pos (name.length + 8)
        b tr hcorr
        (outD T st.mathOperators ls.opText d
          (eqnNew T st.mathOperators ls.opText d (rotN k repls) pos tr).2.r ps)
      rw [getTxtPos_action_cons, getTxtPos_action_cons, g1, g2, hout]
      simp only [List.map_append]
    · intro ps
      simp only [cost, endSrc, nBegin, nEnd, List.length_cons, List.length_append, List.length_map,
        List.length_nil]
      omega

theorem RowOk.noCom {T : PTables} {r : RowT} (h : RowOk T r) : NoCom (rowBuf r) :=
  .append (fun t ht => (h.1 t ht).dItem.notComment) fun t ht => by
    obtain ⟨x, hx, ht⟩ := List.mem_flatMap.mp ht
    rcases List.mem_cons.mp ht with rfl | ht
    · exact NoCom.of_kind (h.2 x hx).1.kind
    · exact ((h.2 x hx).2 t ht).dItem.notComment

theorem RowsOk.noCom {T : PTables} {tr : RowsT} (h : RowsOk T tr) : NoCom (rowsBuf tr) :=
  .append h.1.noCom fun t ht => by
    obtain ⟨x, hx, ht⟩ := List.mem_flatMap.mp ht
    rcases List.mem_cons.mp ht with rfl | ht
    · exact NoCom.of_kind (h.2 x hx).1.kind
    · exact (h.2 x hx).2.1.noCom t ht

theorem PiecesOk.noCom {T : PTables} {st : PState} : ∀ {ps : List Piece}, PiecesOk T st ps → NoCom (flat ps)
  | [], _ => .nil
  | .tok _ :: _, h => .cons h.1.notComment (noCom h.tail)
  | .disp .. :: _, h =>
    .append (.cons (NoCom.of_kind h.2.1.kind) (.append h.2.2.1.noCom (.cons h.2.2.2.2.1.notComment .nil)))
      (noCom h.tail)
  | .env .. :: _, h =>
    .append (.cons nofun (.cons nofun (.append h.2.1.notComment (.cons nofun
      (.append h.2.2.2.2.2.2.2.1.noCom (.cmdBraced nofun nofun nofun h.2.2.1.notComment))))))
      (noCom h.tail)

/-! ### the end-to-end theorem -/

def SegsOk (T : PTables) (st : PState) (segs : List Seg) : Prop :=
  st.displayedSimple = false ∧ segsOk T st segs = true

instance (T : PTables) (st : PState) (segs : List Seg) : Decidable (SegsOk T st segs) := by
  unfold SegsOk; infer_instance

/-- the operator words of the language are visible one-line texts, computable -/
def visWords (ls : LangSettings) : Bool :=
  match ls.opDefault with
  | some d => !hasNl d && !isBlank d && ls.opText.all (fun x => !hasNl x.2 && !isBlank x.2)
  | none => false

theorem visWords_iff (ls : LangSettings) (h : visWords ls = true) :
    ∃ d, ls.opDefault = some d ∧ VisWords ls.opText d := by
  unfold visWords at h
  cases hd : ls.opDefault with
  | none => rw [hd] at h; cases h
  | some d =>
    rw [hd] at h
    simp only [Bool.and_eq_true, Bool.not_eq_true', List.all_eq_true] at h
    exact ⟨d, rfl, ⟨h.1.1, h.1.2⟩, fun x hx => ⟨(h.2 x hx).1, (h.2 x hx).2⟩⟩

/-- **C11 end to end, rows and sections.**  The document is a sequence of inert text segments and
    displayed equations `\[body\]` / `\begin{name}body\end{name}` whose body consists of rows
    (separated by `\\`) of sections (separated by `&`) of simple maths material (`SegsOk`); `st1` is
    the state after `Parser.__init__`; no `--defs`, `--extr`, `--repl`, `--unkn`, `--seqs`;
    single-language mode; `repls` is the display collection of the current language, not empty,
    every entry a visible one-line text; `ls` are the language settings, with visible operator
    words (`visWords`).  With one unit of fuel per source character plus two, `tex2txt` succeeds and

    * output text and position map are `refOut T st1.mathOperators ls repls 0 0 segs` (positions
      reported 1-based);
    * nothing is reported as unknown and no diagnostic is added. -/
theorem tex2txt_display_rows' (T : PTables) (o : Options) (fs : FS) (thresh : Nat)
    (segs : List Seg) (fuel : Nat) (st1 : PState) (rot : Rot) (repls : List Str) (ls : LangSettings)
    (hdefs : o.defs = []) (hextr : o.extr = []) (hrepl : o.hasRepl = false) (hunkn : o.unkn = false)
    (hinit : initParser T fuel o (initialState T o false fs) = .ok ((), st1))
    (hok : SegsOk T st1 segs)
    (hrot : rotOf st1 (curSettings st1) = some rot) (hrepls : rot.disp = repls)
    (hne : repls ≠ []) (hvis : VisibleRepls repls)
    (hls : settingsOf T (curSettings st1) = some ls)
    (hw : (∃ s ∈ segs, s.amp) → visWords ls = true)
    (hf : (render segs).length + 2 ≤ fuel) :
    ∃ r, tex2txt T fuel (render segs) o false thresh fs = .ok r ∧
      r.txt = (refOut T st1.mathOperators ls repls 0 0 segs).map (·.1) ∧
      r.pos = (refOut T st1.mathOperators ls repls 0 0 segs).map (·.2 + 1) ∧
      r.unknowns = [] ∧ r.diags = st1.diags := by
  subst hrepls
  have R : PlainSetup T o fs fuel st1 := ⟨⟨hdefs, hextr, hinit⟩, hrepl, hunkn⟩
  have F := scanAll_rows T st1 ls _ rot.disp rfl hne (render segs) 0 _ _
    (OkSrc_of_segsOk T st1 segs 0 hok.2)
  obtain ⟨ps, hflat, hpok, hout, hcost, hamp⟩ := F.pieces
  -- the words of the language are wanted only if some section stands behind a `&`
  have hwords : (∃ p ∈ ps, p.amp) →
      ls.opDefault = some (ls.opDefault.getD []) ∧ VisWords ls.opText (ls.opDefault.getD []) := fun h => by
    obtain ⟨d, hd, hvw⟩ := visWords_iff ls (hw (amp_itemsOf segs 0 (hamp h)))
    rw [hd]
    exact ⟨rfl, hvw⟩
  let st' := startState st1 (render segs)
  obtain ⟨st2, hrun, hsim, _⟩ := seqRun_rows T none ls _ ps [] st' rot (Reads.startState st1 _).ext
    (fun h => (hwords h).1) hpok hrot hne hls hok.1
  have hs := hrun.finish (Nat.le_refl _) (fuel := fuel - 1) (by omega)
  rw [List.nil_append] at hs
  have h := R.of_lines thresh ((scan_of_scanAll F.ok).imp_right (·.trans hflat)) (hpok.noCom.noBegin _)
    (by omega) hs (removeLines_outD T st1 ls.opText _ ps (fun h => (hwords h).2) rot.disp hpok hvis hne)
  -- the final state differs from the start state in the rotation records only
  have hE : st2.extracted = [] ∧ st2.unknowns = [] ∧ st2.diags = st1.diags := by
    rw [hsim]; exact ⟨rfl, rfl, rfl⟩
  have htp : getTxtPos ((outD T st1.mathOperators ls.opText (ls.opDefault.getD []) rot.disp ps).filter keepOut
        ++ flowsToks st2.extracted)
      = ((refOut T st1.mathOperators ls rot.disp 0 0 segs).map (·.1),
         (refOut T st1.mathOperators ls rot.disp 0 0 segs).map (·.2)) := by
    rw [hE.1, show flowsToks [] = [] from rfl, List.append_nil, getTxtPos_filter_keepOut,
      ← refItems_itemsOf]
    exact hout 0
  refine ⟨_, h, ?_, ?_, hE.2.1, hE.2.2⟩
  · show (getTxtPos _).1 = _
    rw [htp]
  · show (getTxtPos _).2.map (· + 1) = _
    rw [htp, List.map_map]
    rfl

theorem tex2txt_display_rows (T : PTables) (o : Options) (fs : FS) (thresh : Nat)
    (segs : List Seg) (fuel : Nat) (st1 : PState) (rot : Rot) (repls : List Str) (ls : LangSettings)
    (hdefs : o.defs = []) (hextr : o.extr = []) (hrepl : o.hasRepl = false) (hunkn : o.unkn = false)
    (hinit : initParser T fuel o (initialState T o false fs) = .ok ((), st1))
    (hok : SegsOk T st1 segs)
    (hrot : rotOf st1 (curSettings st1) = some rot) (hrepls : rot.disp = repls)
    (hne : repls ≠ []) (hvis : VisibleRepls repls)
    (hls : settingsOf T (curSettings st1) = some ls) (hw : visWords ls = true)
    (hf : (render segs).length + 2 ≤ fuel) :
    ∃ r, tex2txt T fuel (render segs) o false thresh fs = .ok r ∧
      r.txt = (refOut T st1.mathOperators ls repls 0 0 segs).map (·.1) ∧
      r.pos = (refOut T st1.mathOperators ls repls 0 0 segs).map (·.2 + 1) ∧
      r.unknowns = [] ∧ r.diags = st1.diags :=
  tex2txt_display_rows' T o fs thresh segs fuel st1 rot repls ls hdefs hextr hrepl hunkn hinit hok hrot
    hrepls hne hvis hls (fun _ => hw) hf

/-! ### what the reference output says -/

def txtOf (pcs : List (Str × Nat)) : Str := (spread pcs).map (·.1)

theorem txtOf_nil : txtOf [] = [] := rfl

theorem txtOf_cons (x : Str × Nat) (l : List (Str × Nat)) : txtOf (x :: l) = x.1 ++ txtOf l := by
  simp [txtOf, spread, Function.comp_def]

theorem txtOf_append (a b : List (Str × Nat)) : txtOf (a ++ b) = txtOf a ++ txtOf b := by
  simp [txtOf, spread]

theorem eqnOut_txt (T : PTables) (ops : List Str) (ls : LangSettings) (repls : List Str) (k p o : Nat)
    (b : Rows) : (eqnOut T ops ls repls k p o b).map (·.1) = txtOf (eqnRef T ops ls repls k p o b).1 := rfl

/-- (structure) an equation is two blanks followed by its rows; the rows are joined by line break
    and indentation, the sections of a row by one blank -/
theorem eqnRef_eq (T : PTables) (ops : List Str) (ls : LangSettings) (repls : List Str) (k p o : Nat)
    (b : Rows) :
    (eqnRef T ops ls repls k p o b).1
      = ([' ', ' '], p) :: (rowsRef T ops ls repls { nr := true, k := k, last := p } (p + o) b).1 := rfl

theorem moreRowsRef_cons (T : PTables) (ops : List Str) (ls : LangSettings) (repls : List Str)
    (σ : RefSt) (q : Nat) (r : Row) (m : List Row) :
    (moreRowsRef T ops ls repls σ q (r :: m)).1
      = ([nl, ' ', ' '], σ.last) :: (rowRef T ops ls repls σ (q + 2) r).1
          ++ (moreRowsRef T ops ls repls (rowRef T ops ls repls σ (q + 2) r).2
                (q + 2 + (rowSrc r).length) m).1 := rfl

theorem moreRef_cons (T : PTables) (ops : List Str) (ls : LangSettings) (repls : List Str)
    (σ : RefSt) (q : Nat) (s : Str) (more : List Str) :
    (moreRef T ops ls repls σ q (s :: more)).1
      = ([' '], σ.last) :: (secRef T ops ls repls false σ (q + 1) s).1
          ++ (moreRef T ops ls repls (secRef T ops ls repls false σ (q + 1) s).2 (q + 1 + s.length) more).1 :=
  rfl

theorem count_nl_of_hasNl {s : Str} (h : hasNl s = false) : s.count nl = 0 := by
  rw [List.count_eq_zero]
  intro hm
  simp [hasNl, hm] at h

theorem punctOf_count_nl (T : PTables) (s : Str) : (punctOf T s).count nl = 0 := by
  rw [List.count_eq_zero]
  intro hm
  unfold punctOf at hm
  cases hp : PlainMath.punctChar T (s.filter (fun c => !isSpace c)) with
  | none => rw [hp] at hm; simp at hm
  | some c =>
    rw [hp] at hm
    simp only [Option.toList_some, List.mem_singleton] at hm
    have hc := PlainMath.punctChar_mem T _ c hp
    have := (List.mem_filter.mp hc).2
    rw [← hm] at this
    exact absurd this (by decide)

theorem placeholder_vis (repls : List Str) (hv : VisibleRepls repls) (hne : repls ≠ []) (k : Nat) :
    hasNl (placeholder repls k) = false :=
  (hv _ (placeholder_mem repls hne k)).1

theorem opW_vis (ls : LangSettings) (hw : visWords ls = true) (x : Str) : hasNl (opW ls x) = false := by
  obtain ⟨d, hd, hvw⟩ := visWords_iff ls hw
  unfold opW
  rw [hd]
  exact (opWord_vis hvw x).1

theorem secRef_nl (T : PTables) (ops : List Str) (ls : LangSettings) (repls : List Str)
    (hv : VisibleRepls repls) (hne : repls ≠ []) (hw : visWords ls = true)
    (fs : Bool) (σ : RefSt) (q : Nat) (s : Str) :
    (txtOf (secRef T ops ls repls fs σ q s).1).count nl = 0 := by
  unfold secRef
  split
  · rfl
  · have h1 := count_nl_of_hasNl (opW_vis ls hw (leadChar s).toList)
    have h2 := fun k => count_nl_of_hasNl (placeholder_vis repls hv hne k)
    have h3 := punctOf_count_nl T s
    have hb : ([' '] : Str).count nl = 0 := by decide
    have e1 : ∀ (c : Bool) (f : Nat), (txtOf (if c = true then
        [([' '], f), (opW ls (leadChar s).toList, f), ([' '], f)] else [])).count nl = 0 := by
      intro c f
      cases c
      · rfl
      · simp only [if_true, txtOf_cons, txtOf_nil, List.count_append, h1, hb, List.append_nil]
    have e2 : ∀ (c : Bool) (k f : Nat), (txtOf (if c = true then
        [(placeholder repls k, f)] else [])).count nl = 0 := by
      intro c k f
      cases c
      · rfl
      · simp only [if_true, txtOf_cons, txtOf_nil, List.append_nil, h2]
    have e3 : ∀ f : Nat, (txtOf (if (punctOf T s).isEmpty = true then [] else
        [(punctOf T s, f)])).count nl = 0 := by
      intro f
      split
      · rfl
      · simp only [txtOf_cons, txtOf_nil, List.append_nil, h3]
    simp only [txtOf_append, List.count_append, e1, e2, e3]

theorem moreRef_nl (T : PTables) (ops : List Str) (ls : LangSettings) (repls : List Str)
    (hv : VisibleRepls repls) (hne : repls ≠ []) (hw : visWords ls = true) :
    ∀ (more : List Str) (σ : RefSt) (q : Nat),
      (txtOf (moreRef T ops ls repls σ q more).1).count nl = 0
  | [], _, _ => rfl
  | s :: more, σ, q => by
    rw [moreRef_cons, List.cons_append, txtOf_cons, txtOf_append, List.count_append, List.count_append,
      secRef_nl T ops ls repls hv hne hw, moreRef_nl T ops ls repls hv hne hw more]
    show List.count nl [' '] + (0 + 0) = 0
    decide

theorem rowRef_nl (T : PTables) (ops : List Str) (ls : LangSettings) (repls : List Str)
    (hv : VisibleRepls repls) (hne : repls ≠ []) (hw : visWords ls = true) (σ : RefSt) (q : Nat) (r : Row) :
    (txtOf (rowRef T ops ls repls σ q r).1).count nl = 0 := by
  simp only [rowRef, txtOf_append, List.count_append, secRef_nl T ops ls repls hv hne hw,
    moreRef_nl T ops ls repls hv hne hw]

theorem moreRowsRef_nl (T : PTables) (ops : List Str) (ls : LangSettings) (repls : List Str)
    (hv : VisibleRepls repls) (hne : repls ≠ []) (hw : visWords ls = true) :
    ∀ (m : List Row) (σ : RefSt) (q : Nat),
      (txtOf (moreRowsRef T ops ls repls σ q m).1).count nl = m.length
  | [], _, _ => rfl
  | r :: m, σ, q => by
    rw [moreRowsRef_cons, List.cons_append, txtOf_cons, txtOf_append, List.count_append, List.count_append,
      rowRef_nl T ops ls repls hv hne hw, moreRowsRef_nl T ops ls repls hv hne hw m]
    simp only [List.length_cons]
    have : ([nl, ' ', ' '] : Str).count nl = 1 := by decide
    omega

/-- (a) **one output line per row**: the rendering of an equation contains exactly one line break
    per row but the first — `nRows b` lines -/
theorem eqnOut_lines (T : PTables) (ops : List Str) (ls : LangSettings) (repls : List Str)
    (hv : VisibleRepls repls) (hne : repls ≠ []) (hw : visWords ls = true) (k p o : Nat) (b : Rows) :
    countNl ((eqnOut T ops ls repls k p o b).map (·.1)) + 1 = nRows b := by
  rw [eqnOut_txt, eqnRef_eq, txtOf_cons]
  simp only [rowsRef, txtOf_append, countNl, List.count_append, rowRef_nl T ops ls repls hv hne hw,
    moreRowsRef_nl T ops ls repls hv hne hw, nRows]
  have : ([' ', ' '] : Str).count nl = 0 := by decide
  omega

/-! #### positions -/

/-- the position lies in the equation: on the `\` of the opening command (`p`) or on a character of
    the body (`[lo, hi)`) -/
def InEqn (p lo hi x : Nat) : Prop := x = p ∨ (lo ≤ x ∧ x < hi)

theorem InEqn.mono {p lo hi lo' hi' x : Nat} (h : InEqn p lo' hi' x) (h1 : lo ≤ lo') (h2 : hi' ≤ hi) :
    InEqn p lo hi x := by
  rcases h with h | h
  · exact Or.inl h
  · exact Or.inr ⟨by omega, by omega⟩

theorem lastP_mem (d : Nat) (pcs : List (Str × Nat)) :
    lastP d pcs = d ∨ ∃ pc ∈ pcs, lastP d pcs = pc.2 := by
  unfold lastP
  cases h : pcs.getLast? with
  | none => exact Or.inl rfl
  | some x => exact Or.inr ⟨x, List.mem_of_getLast? h, rfl⟩

theorem leadBlanks_lt_of_not_blank : ∀ s : Str, s.all isSpace = false → leadBlanks s < s.length
  | [], h => by simp at h
  | c :: cs, h => by
    by_cases hc : isSpace c = true
    · have h' : cs.all isSpace = false := by simpa [hc] using h
      have := leadBlanks_lt_of_not_blank cs h'
      simp only [leadBlanks, List.takeWhile_cons, hc, if_true, List.length_cons] at this ⊢
      omega
    · simp [leadBlanks, hc]

/-- a section maps into its own source span (or keeps the last position) -/
theorem secRef_span (T : PTables) (ops : List Str) (ls : LangSettings) (repls : List Str)
    (fs : Bool) (σ : RefSt) (q : Nat) (s : Str) :
    (∀ pc ∈ (secRef T ops ls repls fs σ q s).1, q ≤ pc.2 ∧ pc.2 < q + s.length) ∧
    ((secRef T ops ls repls fs σ q s).2.last = σ.last ∨
      (q ≤ (secRef T ops ls repls fs σ q s).2.last ∧ (secRef T ops ls repls fs σ q s).2.last < q + s.length)) := by
  unfold secRef
  by_cases hb : s.all isSpace = true
  · simp [hb]
  · have hb' : s.all isSpace = false := by simpa using hb
    have hf := leadBlanks_lt_of_not_blank s hb'
    simp only [hb', Bool.false_eq_true, if_false]
    have hall : ∀ pc ∈ ((if (leadOp ops s && !fs) = true then
          [([' '], q + leadBlanks s), (opW ls (leadChar s).toList, q + leadBlanks s), ([' '], q + leadBlanks s)]
          else []) ++
        (if s.any (elemChar T ops) = true then
          [(placeholder repls (if ((σ.nr || leadOp ops s && !fs) && s.any (elemChar T ops)) = true
              then σ.k + 1 else σ.k), q + elemOff T ops s)] else []) ++
        (if (punctOf T s).isEmpty = true then [] else [(punctOf T s, q + leadBlanks s)])),
        q ≤ pc.2 ∧ pc.2 < q + s.length := by
      intro pc hpc
      simp only [List.mem_append] at hpc
      rcases hpc with (hpc | hpc) | hpc
      · split at hpc
        · simp only [List.mem_cons, List.not_mem_nil, or_false] at hpc
          rcases hpc with rfl | rfl | rfl <;> exact ⟨by simp, by simp; omega⟩
        · simp at hpc
      · split at hpc
        · rename_i hel
          simp only [List.mem_singleton] at hpc
          subst hpc
          have := PlainDisplay.elemOff_lt T ops s hel
          exact ⟨by simp, by simp; omega⟩
        · simp at hpc
      · split at hpc
        · simp at hpc
        · simp only [List.mem_singleton] at hpc
          subst hpc
          exact ⟨by simp, by simp; omega⟩
    refine ⟨hall, ?_⟩
    rcases lastP_mem σ.last _ with h | ⟨pc, hpc, h⟩
    · exact Or.inl h
    · right
      rw [h]
      exact hall pc hpc

theorem moreRef_span (T : PTables) (ops : List Str) (ls : LangSettings) (repls : List Str) (p lo hi : Nat) :
    ∀ (more : List Str) (σ : RefSt) (q : Nat), lo ≤ q → q + (moreSrc more).length ≤ hi →
      InEqn p lo hi σ.last →
      (∀ pc ∈ (moreRef T ops ls repls σ q more).1, InEqn p lo hi pc.2) ∧
      InEqn p lo hi (moreRef T ops ls repls σ q more).2.last
  | [], σ, q, _, _, h => ⟨by simp [moreRef], h⟩
  | s :: more, σ, q, h1, h2, h => by
    rw [moreSrc_cons_length] at h2
    obtain ⟨g1, g2⟩ := secRef_span T ops ls repls false σ (q + 1) s
    have hlast : InEqn p lo hi (secRef T ops ls repls false σ (q + 1) s).2.last := by
      rcases g2 with g | g
      · rw [g]; exact h
      · exact Or.inr ⟨by omega, by omega⟩
    obtain ⟨i1, i2⟩ := moreRef_span T ops ls repls p lo hi more _ (q + 1 + s.length) (by omega) (by omega)
      hlast
    refine ⟨?_, i2⟩
    intro pc hpc
    rw [moreRef_cons] at hpc
    simp only [List.cons_append, List.mem_cons, List.mem_append] at hpc
    rcases hpc with rfl | hpc | hpc
    · exact h
    · have := g1 pc hpc
      exact Or.inr ⟨by omega, by omega⟩
    · exact i1 pc hpc

theorem rowRef_span (T : PTables) (ops : List Str) (ls : LangSettings) (repls : List Str) (p lo hi : Nat)
    (σ : RefSt) (q : Nat) (r : Row) (h1 : lo ≤ q) (h2 : q + (rowSrc r).length ≤ hi)
    (h : InEqn p lo hi σ.last) :
    (∀ pc ∈ (rowRef T ops ls repls σ q r).1, InEqn p lo hi pc.2) ∧
    InEqn p lo hi (rowRef T ops ls repls σ q r).2.last := by
  simp only [rowSrc, List.length_append] at h2
  obtain ⟨g1, g2⟩ := secRef_span T ops ls repls true σ q r.1
  have hlast : InEqn p lo hi (secRef T ops ls repls true σ q r.1).2.last := by
    rcases g2 with g | g
    · rw [g]; exact h
    · exact Or.inr ⟨by omega, by omega⟩
  obtain ⟨i1, i2⟩ := moreRef_span T ops ls repls p lo hi r.2 _ (q + r.1.length) (by omega) (by omega) hlast
  refine ⟨?_, i2⟩
  intro pc hpc
  simp only [rowRef, List.mem_append] at hpc
  rcases hpc with hpc | hpc
  · have := g1 pc hpc
    exact Or.inr ⟨by omega, by omega⟩
  · exact i1 pc hpc

theorem moreRowsRef_span (T : PTables) (ops : List Str) (ls : LangSettings) (repls : List Str)
    (p lo hi : Nat) :
    ∀ (m : List Row) (σ : RefSt) (q : Nat), lo ≤ q → q + (moreRowsSrc m).length ≤ hi →
      InEqn p lo hi σ.last →
      (∀ pc ∈ (moreRowsRef T ops ls repls σ q m).1, InEqn p lo hi pc.2) ∧
      InEqn p lo hi (moreRowsRef T ops ls repls σ q m).2.last
  | [], σ, q, _, _, h => ⟨by simp [moreRowsRef], h⟩
  | r :: m, σ, q, h1, h2, h => by
    rw [moreRowsSrc_cons_length] at h2
    obtain ⟨g1, g2⟩ := rowRef_span T ops ls repls p lo hi σ (q + 2) r (by omega) (by omega) h
    obtain ⟨i1, i2⟩ := moreRowsRef_span T ops ls repls p lo hi m _ (q + 2 + (rowSrc r).length) (by omega)
      (by omega) g2
    refine ⟨?_, i2⟩
    intro pc hpc
    rw [moreRowsRef_cons] at hpc
    simp only [List.cons_append, List.mem_cons, List.mem_append] at hpc
    rcases hpc with rfl | hpc | hpc
    · exact h
    · exact g1 pc hpc
    · exact i1 pc hpc

/-- (b) **every position generated for an equation lies in the equation**: it is the position `p`
    of the `\` of the opening command, or the position of a character of the body (which occupies
    `[p + o, p + o + |body|)`) -/
theorem eqnOut_span (T : PTables) (ops : List Str) (ls : LangSettings) (repls : List Str) (k p o : Nat)
    (b : Rows) :
    ∀ cq ∈ eqnOut T ops ls repls k p o b,
      cq.2 = p ∨ (p + o ≤ cq.2 ∧ cq.2 < p + o + (rowsSrc b).length) := by
  have hrows : ∀ pc ∈ (eqnRef T ops ls repls k p o b).1, InEqn p (p + o) (p + o + (rowsSrc b).length) pc.2 := by
    intro pc hpc
    rw [eqnRef_eq] at hpc
    simp only [List.mem_cons] at hpc
    rcases hpc with rfl | hpc
    · exact Or.inl rfl
    · have hl : (rowsSrc b).length = (rowSrc b.1).length + (moreRowsSrc b.2).length := by
        simp [rowsSrc]
      obtain ⟨g1, g2⟩ := rowRef_span T ops ls repls p (p + o) (p + o + (rowsSrc b).length)
        { nr := true, k := k, last := p } (p + o) b.1 (Nat.le_refl _) (by omega) (Or.inl rfl)
      obtain ⟨i1, _⟩ := moreRowsRef_span T ops ls repls p (p + o) (p + o + (rowsSrc b).length) b.2 _
        (p + o + (rowSrc b.1).length) (by omega) (by omega) g2
      simp only [rowsRef, List.mem_append] at hpc
      rcases hpc with hpc | hpc
      · exact g1 pc hpc
      · exact i1 pc hpc
  intro cq hcq
  simp only [eqnOut, spread, List.mem_flatMap, List.mem_map] at hcq
  obtain ⟨pc, hpc, c, _, rfl⟩ := hcq
  exact hrows pc hpc

/-! #### punctuation, operator words, no source text -/

theorem not_blank_of_elem (T : PTables) (ops : List Str) (s : Str) (h : s.any (elemChar T ops) = true) :
    s.all isSpace = false := by
  obtain ⟨c, hc, hcs⟩ := List.any_eq_true.mp h
  simp only [elemChar, Bool.and_eq_true, Bool.not_eq_true'] at hcs
  rw [List.all_eq_false]
  exact ⟨c, hc, by simp [hcs.1.1]⟩

theorem not_blank_of_leadOp (ops : List Str) (s : Str) (h : leadOp ops s = true) : s.all isSpace = false := by
  cases hb : s.all isSpace with
  | false => rfl
  | true =>
    have h3 : s.dropWhile isSpace = [] := by
      clear h
      induction s with
      | nil => rfl
      | cons c cs ih =>
        simp only [List.all_cons, Bool.and_eq_true] at hb
        simp only [List.dropWhile_cons, hb.1, if_true]
        exact ih hb.2
    simp [leadOp, leadChar, h3] at h

/-- (c) **punctuation is kept directly behind its placeholder**: a section with an element character
    whose last character that is no white space is a punctuation mark ends with its placeholder
    (mapped to the first element character) followed by this mark (mapped to the first character
    that is no white space) -/
theorem secRef_punct (T : PTables) (ops : List Str) (ls : LangSettings) (repls : List Str) (fs : Bool)
    (σ : RefSt) (q : Nat) (s : Str) (hel : s.any (elemChar T ops) = true) (hp : punctOf T s ≠ []) :
    ∃ pre, (secRef T ops ls repls fs σ q s).1
      = pre ++ [(placeholder repls (secRef T ops ls repls fs σ q s).2.k, q + elemOff T ops s),
                (punctOf T s, q + leadBlanks s)] := by
  have hb := not_blank_of_elem T ops s hel
  have hpe : (punctOf T s).isEmpty = false := by
    cases h : punctOf T s with
    | nil => exact absurd h hp
    | cons => rfl
  unfold secRef
  simp only [hb, Bool.false_eq_true, if_false, hel, if_true, hpe, Bool.and_true, List.append_assoc,
    List.singleton_append]
  exact ⟨_, rfl⟩

/-- (d) **a relation or operator that leads a section which is not the first of its row becomes the
    language's word for it**, between two blanks, all mapped to the operator -/
theorem secRef_opword (T : PTables) (ops : List Str) (ls : LangSettings) (repls : List Str)
    (σ : RefSt) (q : Nat) (s : Str) (hop : leadOp ops s = true) :
    ∃ rest, (secRef T ops ls repls false σ q s).1
      = ([' '], q + leadBlanks s) :: (opW ls (leadChar s).toList, q + leadBlanks s)
          :: ([' '], q + leadBlanks s) :: rest := by
  have hb := not_blank_of_leadOp ops s hop
  unfold secRef
  simp only [hb, Bool.false_eq_true, if_false, hop, Bool.not_false, Bool.and_true, if_true,
    List.cons_append, List.nil_append]
  exact ⟨_, rfl⟩

/-- … and in the first section of a row no word is written -/
theorem secRef_first_noword (T : PTables) (ops : List Str) (ls : LangSettings) (repls : List Str)
    (σ : RefSt) (q : Nat) (s : Str) :
    ∀ pc ∈ (secRef T ops ls repls true σ q s).1,
      pc.1 = placeholder repls (secRef T ops ls repls true σ q s).2.k ∨ pc.1 = punctOf T s := by
  unfold secRef
  split
  · simp
  · intro pc hpc
    simp only [Bool.not_true, Bool.and_false, Bool.false_eq_true, if_false, List.nil_append,
      Bool.or_false, List.mem_append] at hpc ⊢
    rcases hpc with hpc | hpc
    · split at hpc
      · simp only [List.mem_singleton] at hpc; subst hpc; exact Or.inl rfl
      · simp at hpc
    · split at hpc
      · simp at hpc
      · simp only [List.mem_singleton] at hpc; subst hpc; exact Or.inr rfl

/-- what a piece of output text can be: indentation, separator, an operator word, a placeholder, or
    a closing punctuation mark -/
def PieceKind (T : PTables) (ls : LangSettings) (repls : List Str) (t : Str) : Prop :=
  t = [' ', ' '] ∨ t = [' '] ∨ t = [nl, ' ', ' '] ∨ (∃ x, t = opW ls x) ∨
    (∃ j, t = placeholder repls j) ∨ (∃ s, t = punctOf T s)

theorem secRef_kind (T : PTables) (ops : List Str) (ls : LangSettings) (repls : List Str) (fs : Bool)
    (σ : RefSt) (q : Nat) (s : Str) :
    ∀ pc ∈ (secRef T ops ls repls fs σ q s).1, PieceKind T ls repls pc.1 := by
  unfold secRef
  split
  · simp
  · intro pc hpc
    simp only [List.mem_append] at hpc
    rcases hpc with (hpc | hpc) | hpc
    · split at hpc
      · simp only [List.mem_cons, List.not_mem_nil, or_false] at hpc
        rcases hpc with rfl | rfl | rfl
        · exact Or.inr (Or.inl rfl)
        · exact Or.inr (Or.inr (Or.inr (Or.inl ⟨_, rfl⟩)))
        · exact Or.inr (Or.inl rfl)
      · simp at hpc
    · split at hpc
      · simp only [List.mem_singleton] at hpc; subst hpc
        exact Or.inr (Or.inr (Or.inr (Or.inr (Or.inl ⟨_, rfl⟩))))
      · simp at hpc
    · split at hpc
      · simp at hpc
      · simp only [List.mem_singleton] at hpc; subst hpc
        exact Or.inr (Or.inr (Or.inr (Or.inr (Or.inr ⟨_, rfl⟩))))

theorem moreRef_kind (T : PTables) (ops : List Str) (ls : LangSettings) (repls : List Str) :
    ∀ (more : List Str) (σ : RefSt) (q : Nat),
      ∀ pc ∈ (moreRef T ops ls repls σ q more).1, PieceKind T ls repls pc.1
  | [], _, _ => by simp [moreRef]
  | s :: more, σ, q => by
    intro pc hpc
    rw [moreRef_cons] at hpc
    simp only [List.cons_append, List.mem_cons, List.mem_append] at hpc
    rcases hpc with rfl | hpc | hpc
    · exact Or.inr (Or.inl rfl)
    · exact secRef_kind T ops ls repls false σ (q + 1) s pc hpc
    · exact moreRef_kind T ops ls repls more _ _ pc hpc

theorem rowRef_kind (T : PTables) (ops : List Str) (ls : LangSettings) (repls : List Str)
    (σ : RefSt) (q : Nat) (r : Row) :
    ∀ pc ∈ (rowRef T ops ls repls σ q r).1, PieceKind T ls repls pc.1 := by
  intro pc hpc
  simp only [rowRef, List.mem_append] at hpc
  rcases hpc with hpc | hpc
  · exact secRef_kind T ops ls repls true σ q r.1 pc hpc
  · exact moreRef_kind T ops ls repls r.2 _ _ pc hpc

theorem moreRowsRef_kind (T : PTables) (ops : List Str) (ls : LangSettings) (repls : List Str) :
    ∀ (m : List Row) (σ : RefSt) (q : Nat),
      ∀ pc ∈ (moreRowsRef T ops ls repls σ q m).1, PieceKind T ls repls pc.1
  | [], _, _ => by simp [moreRowsRef]
  | r :: m, σ, q => by
    intro pc hpc
    rw [moreRowsRef_cons] at hpc
    simp only [List.cons_append, List.mem_cons, List.mem_append] at hpc
    rcases hpc with rfl | hpc | hpc
    · exact Or.inr (Or.inr (Or.inl rfl))
    · exact rowRef_kind T ops ls repls σ (q + 2) r pc hpc
    · exact moreRowsRef_kind T ops ls repls m _ _ pc hpc

/-- (e) **no maths source text appears in the output**: the rendering of an equation consists of the
    indentation, the separators (blank; line break and indentation), operator words of the language,
    placeholders of the display collection and closing punctuation marks — nothing else of the body -/
theorem eqnRef_kind (T : PTables) (ops : List Str) (ls : LangSettings) (repls : List Str) (k p o : Nat)
    (b : Rows) : ∀ pc ∈ (eqnRef T ops ls repls k p o b).1, PieceKind T ls repls pc.1 := by
  intro pc hpc
  rw [eqnRef_eq] at hpc
  simp only [List.mem_cons, rowsRef, List.mem_append] at hpc
  rcases hpc with rfl | hpc | hpc
  · exact Or.inl rfl
  · exact rowRef_kind T ops ls repls _ _ b.1 pc hpc
  · exact moreRowsRef_kind T ops ls repls b.2 _ _ pc hpc

/-- (f) **the placeholders advance exactly at the documented points**: a section that is only white
    space changes nothing; any other section advances the rotation count iff it holds an element
    character and either `next_repl` is set or it writes an operator word; behind it `next_repl` is
    set iff it ends with a punctuation mark, or starts with an operator and holds no element -/
theorem secRef_state (T : PTables) (ops : List Str) (ls : LangSettings) (repls : List Str) (fs : Bool)
    (σ : RefSt) (q : Nat) (s : Str) :
    (s.all isSpace = true → secRef T ops ls repls fs σ q s = ([], σ)) ∧
    (s.all isSpace = false →
      (secRef T ops ls repls fs σ q s).2.k
        = (if (σ.nr || (leadOp ops s && !fs)) && s.any (elemChar T ops) then σ.k + 1 else σ.k) ∧
      (secRef T ops ls repls fs σ q s).2.nr
        = (!(punctOf T s).isEmpty || (leadOp ops s && !s.any (elemChar T ops)))) := by
  unfold secRef
  refine ⟨fun h => by simp [h], fun h => by simp [h]⟩

end PlainDispRows
end Yalafi
