/-
  Proofs/NoEmptyStepArgs.lean — step lemmas of the NoEmpty bundle for `expandArguments`, `expandItem`,
  `expandAccent`.
-/
import YalafiVerif.Proofs.NoEmptyBase1
import YalafiVerif.Proofs.NoEmptyBase2
namespace Yalafi
namespace NoEmpty
open M
set_option linter.unusedVariables false

variable {T : PTables}

private theorem Skip_space (p : Nat) : Skip (mkFix Kind.space p [' ']) := by
  simp [Skip, mkFix, isSpaceTok]

private theorem isLangK_noCall (t : Tok) (h : isLangK t = true) (hc : ctlEmpty t = true) : noCall t = true := by
  unfold isLangK at h; unfold noCall; rw [hc]; split at h <;> simp_all

private theorem noCall_shorten (k : Kind) (p : Nat) (c : Char) (cs : Str) (f : Bool)
    (h : noCall { kind := k, pos := p, txt := c :: cs, fix := f } = true) :
    noCall { kind := k, pos := p, txt := cs, fix := f } = true := by
  cases k <;> simp_all [noCall, ctlEmpty]

private theorem argsTail_spec (fuel : Nat) (IH : AllSpecs T fuel) (st s : PState) (mac : MacroDef)
    (r : Args × Buf) (start : Nat) (hs : Fr T st s) (hmac : MacOk T mac)
    (ha : ∀ a ∈ r.1.args, ANE T st.latex.length a) (hr : ANE T st.latex.length r.2)
    (hst : start < st.latex.length) (hlg : ANE T st.latex.length r.1.langs)
    (hlk : ∀ t ∈ r.1.langs, isLangK t = true) :
    Post' (argsTail T fuel mac r start s) (fun r' st' =>
      Fr T st st' ∧ Pre T st.latex.length r'.1 ∧ ANE T st.latex.length r'.2 ∧
      (isFront mac.handler = false → ANE T st.latex.length r'.1) ∧
      (mac.handler = .none → mac.repl = [] → ANC r'.1)) := by
  have hl : s.latex.length = st.latex.length := hs.len
  have hact := NE_mkAction (T := T) _ _ hst
  simp only [argsTail]
  by_cases hc : (mac.handler != Handler.none) = true
  · rw [if_pos hc]
    refine Post'_bind _ _ _ (fun a s' => Fr T s s' ∧ HRes T st.latex.length mac.handler a) _ ?_ ?_
    · have := IH.handler mac.handler r.2 mac r.1.args start s hs.1 (by rw [hl]; exact ha) (by rw [hl]; exact hst)
      rw [hl] at this
      exact this
    · intro a s' h'
      apply Post'_pure
      refine ⟨hs.trans h'.1, ?_, hr, ?_, ?_⟩
      · refine Pre_cons_skip hact.1 (Skip_mkAction _) ?_
        cases a with
        | nil => exact Pre_of_ANE hlg
        | cons t ts =>
          have h2 := h'.2.2
          exact Pre_cons_any h2.1 ((ANE_append _ _ _).2 ⟨h2.2, hlg⟩)
      · intro hf
        exact (ANE_cons _ _ _).2 ⟨hact, (ANE_append _ _ _).2 ⟨h'.2.1 hf, hlg⟩⟩
      · intro hn
        rw [hn] at hc
        simp at hc
  · rw [if_neg hc]
    cases hg : generateReplacements r.1.args mac.repl start with
    | none => exact Post'_crash _ _ _ (by simp [site])
    | some g =>
      apply Post'_pure
      have hgb : ANE T st.latex.length g := generateReplacements_ANE _ _ _ _ _ ha hmac.repl hst hg
      have hall : ANE T st.latex.length (mkAction start :: g ++ r.1.langs) :=
        (ANE_cons _ _ _).2 ⟨hact, (ANE_append _ _ _).2 ⟨hgb, hlg⟩⟩
      refine ⟨hs, Pre_of_ANE hall, hr, fun _ => hall, ?_⟩
      intro _ hrep
      rw [hrep, generateReplacements_nil] at hg
      cases hg
      refine (ANC_cons _ _).2 ⟨by simp [noCall, ctlEmpty, mkAction], ?_⟩
      intro t ht
      have htm : t ∈ r.1.langs := by simpa using ht
      exact isLangK_noCall t (hlk t htm) (hlg t htm).1.2.2.2

theorem args_step (hne : tblOkB T = true) (hw : T.WFInv) (fuel : Nat) (IH : AllSpecs T fuel) :
    SpecArgs T (fuel + 1) := by
  intro buf mac start st hg hb hmac hst
  simp only [expandArguments]
  refine Post'_bind _ _ _ (fun r s => Fr T st s ∧ ArgsOk T st.latex.length r.1 ∧ ANE T st.latex.length r.2) _
    (collectArgs_spec mac hmac.defaults mac.args 0 buf start {} st hg hb hst (ArgsOk_empty _)) ?_
  intro r s ⟨hfr, hao, hr2⟩
  obtain ⟨hargs, hextr, hlg, hlk⟩ := hao
  have hl : s.latex.length = st.latex.length := hfr.len
  by_cases hc : (!mac.extract.isEmpty) = true
  · rw [if_pos hc]
    apply Post'_get_bind
    cases hgen : generateReplacements r.1.extr mac.extract start with
    | none =>
      dsimp only
      exact Post'_bind _ _ _ (fun _ _ => False) _ (Post'_crash _ _ _ (by simp [site])) (fun _ _ h => h.elim)
    | some g =>
      dsimp only
      have hgb : ANE T st.latex.length g := generateReplacements_ANE _ _ _ _ _ hextr hmac.extract hst hgen
      refine Post'_bind _ _ _ (fun (_ : List Tok × Buf) s' => Fr T s s') _ ?_ ?_
      · refine Post'_mono _ _ _ (IH.seq (mkLang start (curLang s) false true true :: g) none [] s hfr.1
          (Buf3_of_ANE ((ANE_cons _ _ _).2 ⟨NE_mkLang _ _ _ _ _ _ (by rw [hl]; exact hst), by rw [hl]; exact hgb⟩))
          ANC_nil) ?_
        intro e s' he
        exact he.1
      · intro e s' he
        refine Post'_bind _ _ _ (fun _ s'' => Fr T st s'') _ ?_ ?_
        · apply Post'_modify
          exact hfr.trans (he.trans ⟨StOk_congr he.1 rfl rfl rfl, rfl⟩)
        · intro _ s'' hs''
          exact argsTail_spec fuel IH st s'' mac r start hs'' hmac hargs hr2 hst hlg hlk
  · rw [if_neg hc]
    exact argsTail_spec fuel IH st s mac r start hfr hmac hargs hr2 hst hlg hlk

private theorem item_wrap (n start : Nat) (X : List Tok) (hX : ANE T n X) (hs : start < n) :
    ANE T n (mkFix Kind.space start [' '] ::
      (X ++ [mkFix Kind.space ((Option.map (fun x => x.pos) X.getLast?).getD start) [' ']])) := by
  rw [ANE_cons, ANE_append, ANE_cons]
  exact ⟨NE_mkFix_space _ _ _ hs, hX, NE_mkFix_space _ _ _ (lastPos_lt hX hs), ANE_nil _⟩

theorem item_step (hne : tblOkB T = true) (hw : T.WFInv) (fuel : Nat) (IH : AllSpecs T fuel) :
    SpecItem T (fuel + 1) := by
  intro buf tok outSoFar st hg hb ht
  simp only [expandItem]
  refine Post'_bind _ _ _ (fun r s => Fr T st s ∧ ANE T st.latex.length r.1 ∧ ANE T st.latex.length r.2) _ ?_ ?_
  · refine Post'_mono _ _ _ (IH.args buf _ tok.pos st hg hb
      ⟨by simp [NE0, MB, ctlEmpty], by simp, by simp⟩ ht) ?_
    intro r s h
    exact ⟨h.1, h.2.2.2.1 rfl, h.2.2.1⟩
  · intro r s h
    by_cases hc : (r.1.all (fun t => t.kind == .action || isLangK t)) = true
    · rw [if_pos hc]
      apply Post'_get_bind
      cases his : s.itemStack with
      | nil => exact Post'_crash _ _ _ (by simp [site])
      | cons g gs =>
        dsimp only
        cases hlab : itemLabel T.itemDefaultLabel g with
        | none => exact Post'_crash _ _ _ (by simp [site])
        | some lab =>
          dsimp only
          refine Post'_bind _ _ _ (fun _ s' => Fr T st s') _ ?_ ?_
          · apply Post'_modify
            exact h.1.trans ⟨StOk_congr h.1.1 rfl rfl rfl, rfl⟩
          · intro _ s' hs'
            apply Post'_pure
            refine ⟨hs', ?_, h.2.2⟩
            refine Pre_skips_append ?_ ?_
            · intro t htm
              have hk := List.all_eq_true.1 hc t htm
              have hwt := (h.2.1 t htm).1
              refine ⟨W_skip_ctl hwt ?_, hwt⟩
              simpa using hk
            · exact Pre_cons_skip (NE_mkFix_space _ _ _ ht).1 (Skip_space _)
                (Pre_cons_any (W_mkFix_text _ _ _ ht) ((ANE_cons _ _ _).2 ⟨NE_mkFix_space _ _ _ ht, ANE_nil _⟩))
    · rw [if_neg hc]
      apply Post'_pure
      refine ⟨h.1, Pre_of_ANE ?_, h.2.2⟩
      apply item_wrap _ _ _ ?_ ht
      split
      · split
        · split
          · rw [ANE_append, ANE_cons]
            exact ⟨h.2.1, NE_mkFix_text _ _ _ (lastPos_lt h.2.1 ht) (by simp), ANE_nil _⟩
          · exact h.2.1
        · exact h.2.1
      · exact h.2.1

private theorem accent_err (st s : PState) (err : Str) (pos : Nat) (a2 : Buf)
    (hs : Fr T st s) (ha2 : ANE T st.latex.length a2) :
    Post' ((latexError T.toTables err pos >>= fun er => (pure (er, a2) : M (List Tok × Buf))) s) (fun r st' =>
      Fr T st st' ∧ ANC r.1 ∧ ANE T st.latex.length r.2) := by
  refine Post'_bind _ _ _ (fun er s' => Fr T st s' ∧ ANC er) _ ?_ ?_
  · refine Post'_mono _ _ _ (latexError_spec err pos s hs.1) ?_
    intro er s' h
    exact ⟨hs.trans h.1, h.2.1⟩
  · intro er s' h
    exact Post'_pure _ _ _ ⟨h.1, h.2, ha2⟩

private theorem accentEmit_spec (st s : PState) (tok : Tok) (a2 : Buf)
    (rest : List Tok) (nm : Str) (hs : Fr T st s) (ha2 : ANE T st.latex.length a2) (hrest : ANC rest) :
    Post' (accentEmit T tok a2 rest nm s) (fun r st' =>
      Fr T st st' ∧ ANC r.1 ∧ ANE T st.latex.length r.2) := by
  simp only [accentEmit]
  cases hu : List.find? (fun x => x.1 == nm) T.unicodeNames with
  | some u =>
    refine Post'_pure _ _ _ ⟨hs, ?_, ha2⟩
    exact (ANC_cons _ _).2 ⟨by simp [noCall, ctlEmpty], hrest⟩
  | none => exact accent_err st s _ _ a2 hs ha2

private theorem accentTail_spec (st s : PState) (tok : Tok) (a2 : Buf) (names : List Str)
    (c : Option Char) (rest : List Tok) (hs : Fr T st s) (ha2 : ANE T st.latex.length a2) (hrest : ANC rest) :
    Post' (accentTail T tok a2 names c rest s) (fun r st' =>
      Fr T st st' ∧ ANC r.1 ∧ ANE T st.latex.length r.2) := by
  have hE := fun nm => accentEmit_spec st s tok a2 rest nm hs ha2 hrest
  cases c with
  | none =>
    simp only [accentTail]
    exact hE _
  | some ch =>
    simp only [accentTail]
    by_cases hb : isSpace ch = true
    · rw [if_pos hb]; exact hE _
    · rw [if_neg hb]
      by_cases hl : (!isAsciiLetter ch) = true
      · rw [if_pos hl]
        exact accent_err st s _ _ a2 hs ha2
      · rw [if_neg hl]
        cases hn : names.head? with
        | none => exact Post'_crash _ _ _ (by simp [site])
        | some n0 => exact hE _

theorem accent_step (hne : tblOkB T = true) (hw : T.WFInv) (fuel : Nat) (IH : AllSpecs T fuel) :
    SpecAccent T (fuel + 1) := by
  intro buf tok st hg hb ht
  simp only [expandAccent]
  refine Post'_bind _ _ _ (fun a s => Fr T st s ∧ ANE T st.latex.length a.1 ∧ ANE T st.latex.length a.2) _ ?_ ?_
  · refine Post'_mono _ _ _ (argBuffer_spec buf tok.pos true st hg) ?_
    intro a s h
    exact ⟨h.1, h.2.1 hb ht⟩
  · intro a s ha
    have hl : s.latex.length = st.latex.length := ha.1.len
    refine Post'_bind _ _ _ (fun e s' => Fr T st s' ∧ ANC e.1) _ ?_ ?_
    · refine Post'_mono _ _ _ (IH.seq a.1 none [] s ha.1.1 (Buf3_of_ANE (by rw [hl]; exact ha.2.1)) ANC_nil) ?_
      intro e s' he
      exact ⟨ha.1.trans he.1, he.2.2.1 rfl⟩
    · intro e s' he
      cases hacc : T.accents.find? (·.1 == tok.txt) with
      | none =>
        simp only [Option.map_none]
        exact Post'_crash _ _ _ (by simp [site])
      | some ac =>
        simp only [Option.map_some]
        cases he1 : e.1 with
        | nil =>
          exact accentTail_spec st s' tok a.2 ac.2 none [] he.1 ha.2.2 ANC_nil
        | cons t ts =>
          have hts : ANC (t :: ts) := he1 ▸ he.2
          have hts' := (ANC_cons _ _).1 hts
          obtain ⟨k, p, x, f⟩ := t
          dsimp only
          cases x with
          | nil =>
            exact accentTail_spec st s' tok a.2 ac.2 none _ he.1 ha.2.2 hts
          | cons c cs =>
            cases cs with
            | nil =>
              exact accentTail_spec st s' tok a.2 ac.2 (some c) ts he.1 ha.2.2 hts'.2
            | cons c' cs' =>
              exact accentTail_spec st s' tok a.2 ac.2 (some c) _ he.1 ha.2.2
                ((ANC_cons _ _).2 ⟨noCall_shorten _ _ _ _ _ hts'.1, hts'.2⟩)

end NoEmpty
end Yalafi
