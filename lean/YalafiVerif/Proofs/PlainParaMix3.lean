/-
  Proofs/PlainParaMix3.lean — C05 "text flow is preserved": the PARAGRAPH RELATION between two words
  of a document of the THIRD union grammar (`PlainMix3.Seg`, twenty-two kinds, Proofs/PlainMix3E2E.lean:
  the fourteen kinds of `PlainMix2` plus accent calls, rich inline formulas in both delimiters,
  `\newcommand` with parameters and uses, `\[…\]` and equation environments, list environments with
  `\item`), a corollary layer over `PlainMix3.tex2txt_mix3` and the mark-level facts of
  Proofs/PlainPara.lean.  The lift of Proofs/PlainParaSrc.lean.

  Setting (as there).  The document is

        docAB A u a Mid b v B = A ++ .txt (u ++ [a]) :: (Mid ++ .txt (b :: v) :: B)

  with two VISIBLE text characters `a` (0-based source position `posA A u`) and `b` (`posB A u Mid`);
  the source between them is `render Mid`.  The reference of `Mid` depends on what stands in front:
  `midMarks` = the marks of `Mid` with the definitions in force behind `A` (`envAfter`), the label
  generators behind `A` (`stkAfter`), the numbers of formulas and displayed equations of `A`.

  `ref_docAB`: the reference output is `pre front ++ a :: (between ++ b :: post back)`,
  `between = PlainPara.sep (midMarks …)` = the output characters strictly between `a` and `b`.

  The source side is read through `srcView Mid : List Cls` as in Proofs/PlainParaSrc.lean: text by
  the class of its characters, comments dropped, EVERY OTHER CONSTRUCT ONE INK BLOB — also a
  definition, a use with its arguments, an accent call, a displayed equation from `\[` to `\]` resp.
  `\begin{equation}` to `\end{equation}`, `\begin{itemize}`, `\item` WITH the white space behind it,
  `\end{itemize}`.

  WHAT THE MODEL DOES WITH THESE KINDS.  In the model a simple
  displayed equation does NOT generate a line break: it leaves `mark, two blanks, placeholder,
  punctuation, mark` IN THE LINE where it stands (`a \[x.\] b` gives `a   V-V-V. b`); the line breaks
  around a display in the output are those of the source.  `\item` leaves `mark, blank, label,
  blank`, no line break.  `\begin{name}` / `\end{name}` of a list environment leave a text-less mark —
  unless the environment is declared with `add_pars`, then TWO LINE BREAKS (`PlainItem.envMarks`): a
  blank line that the source does not have.  On the tables of the current /repo no list environment
  has `add_pars` (`enumerate`, `itemize`: `false`), so this cannot happen there.  Hence:

    (i)+(ii)  `between_blank`: `hasBlank (S classes) = hasBlank (srcView Mid)` — the "iff" HOLDS on the
              22-kind grammar, displayed equations and list environments included, under the
              computable condition `viewOk … Mid`: for every construct of `Mid` other than text and
              comments, the classes of ITS marks (in its context) read as ONE INK BLOB whatever
              stands around it (`blobOk`: no blank line inside, no leading `white space* line
              break`, the last character that is no blank exists and is visible — this is exact:
              a construct that violates it reads differently from one ink in some context).
              READABLE SUFFICIENT CONDITION `outNoNl` (`viewOk_of_outNoNl`): no construct of `Mid`
              OUTPUTS a line break (`PlainMix3.plain` of the construct: special value, `\verb`
              content, placeholders, punctuation, note, title, expansion of a use, label, the two
              line breaks of `add_pars`), and the value of an accent call holds a visible character.
              The EXACT EXCEPTIONS (what makes `viewOk` false): `\begin` / `\end` of a list
              environment with `add_pars` (generates a blank line: direction "no invented break"
              fails — none on the real tables); an accent call whose table value is empty or white
              space (none on the real tables); a construct whose output holds a blank line or
              starts / ends with a line break — e.g. a use whose argument holds a blank line
              (`\p{x⏎⏎y}`: the source view has ONE blob, the output has the blank line; the raw
              source has it too); a single line break inside an argument (`\p{x⏎y}`) is fine.
              `viewOk_of_gap`: vanishing constructs never violate it.
              `between_blank_marks`: WITHOUT any condition `S` holds a blank line iff the MARKS of
              `Mid` do (a text-less mark counts as ink).
    (i) raw   `between_blank_raw`: under `viewOk`, if `render Mid` with the comments cut out holds no
              blank line, `S` holds none.
    (iii)     `between_space`: white space in the view gives white space in `S`.
    `between_sublist`: `S` is a subsequence of `PlainMix3.plain … Mid`.
    gaps      `gap st Mid`: white space, comments, undeclared control words, vanishing calls, braces,
              footnotes, DEFINITIONS, and `\begin` / `\end` of list environments without `add_pars`:
              then `S` is white space only (`between_gap`) and `viewOk` holds.

  NOT covered (in contrast to Proofs/PlainParaSrc.lean): the position bound `between_pos` (the
  positions in `S` lie between those of `a` and `b`) for arbitrary `Mid` (for gaps:
  `between_gap_pos`) — for a
  displayed equation `\[= a.\]` the punctuation is pinned in front of the placeholder, for a use the
  body characters carry the position of the use or of an argument; both stay inside the construct,
  but this is not proved here.  End points `a`, `b` outside `txt` segments.
-/
import YalafiVerif.Proofs.PlainParaSrc
import YalafiVerif.Proofs.SystemWordMix3
namespace Yalafi
namespace PlainMix3
namespace Para

open PlainMacro (Mark delLines)
open PlainPara
open SystemWord (envAfter stkAfter marks_append3' marks_append3 render_append3)

/-! ### one segment in its context -/

def segMarks (T : PTables) (st : PState) (repls drepls : List Str) (env : Env) (stk : List ItemGen)
    (k k2 p : Nat) (s : Seg) : List Mark :=
  marks T st repls drepls env stk k k2 p [s]

theorem marks_cons3 (T : PTables) (st : PState) (repls drepls : List Str) (env : Env)
    (stk : List ItemGen) (k k2 p : Nat) (s : Seg) (rest : List Seg) :
    marks T st repls drepls env stk k k2 p (s :: rest)
      = segMarks T st repls drepls env stk k k2 p s
        ++ marks T st repls drepls (envAfter env [s]) (stkAfter st stk [s]) (k + nFormulas [s])
            (k2 + nDisplays [s]) (p + s.len) rest := by
  have := marks_append3' T st repls drepls rest [s] env stk k k2 p _ _ (p + s.len) rfl rfl
    (by simp [render, Seg.len])
  simpa [segMarks] using this

/-! ### the source view -/

/-- **the layout of the source as TeX sees it**: text by the class of its characters, comments
    dropped, every other construct one ink blob -/
def srcView : List Seg → List Cls
  | [] => []
  | .txt s :: rest => s.map clsC ++ srcView rest
  | .com _ :: rest => srcView rest
  | _ :: rest => .ink :: srcView rest

/-- the state of the blank-line scanner `blankGo` behind `x`: "a line break has been seen, and
    nothing but white space since" -/
def finGo : Bool → List Cls → Bool
  | s, [] => s
  | _, .nl :: r => finGo true r
  | s, .ws :: r => finGo s r
  | _, .ink :: r => finGo false r

/-- a list of classes that reads as ONE ink blob, whatever stands in front of it and behind it:
    it holds no blank line, does not start with white space and a line break, and its last
    character that is no white space (other than a line break) exists and is ink.  (Sufficient:
    no line break and at least one ink, `inkBlob`.) -/
def blobOk (x : List Cls) : Bool := !blankGo true x && !finGo true x

def inkBlob (x : List Cls) : Bool := !x.contains .nl && x.contains .ink

/-- **what the constructs between `a` and `b` must satisfy for the "iff"**: the marks of every
    construct other than text and comments, in its context, read as one ink blob -/
def viewOk (T : PTables) (st : PState) (repls drepls : List Str) :
    Env → List ItemGen → Nat → Nat → Nat → List Seg → Bool
  | _, _, _, _, _, [] => true
  | env, stk, k, k2, p, .txt s :: rest => viewOk T st repls drepls env stk k k2 (p + s.length) rest
  | env, stk, k, k2, p, .com body :: rest =>
    viewOk T st repls drepls env stk k k2 (p + (Seg.com body).len) rest
  | env, stk, k, k2, p, s :: rest =>
    blobOk ((segMarks T st repls drepls env stk k k2 p s).map clsM) &&
      viewOk T st repls drepls (envAfter env [s]) (stkAfter st stk [s]) (k + nFormulas [s])
        (k2 + nDisplays [s]) (p + s.len) rest

theorem blankGo_append : ∀ (x : List Cls) (s : Bool) (r : List Cls),
    blankGo s (x ++ r) = (blankGo s x || blankGo (finGo s x) r)
  | [], s, r => by simp [blankGo, finGo]
  | .nl :: x, s, r => by
    simp only [List.cons_append, blankGo, finGo, blankGo_append x true r, Bool.or_assoc]
  | .ws :: x, s, r => by
    simp only [List.cons_append, blankGo, finGo, blankGo_append x s r]
  | .ink :: x, s, r => by
    simp only [List.cons_append, blankGo, finGo, blankGo_append x false r]

theorem finGo_mono : ∀ (x : List Cls) (s : Bool), finGo true x = false → finGo s x = false
  | [], s, h => by simp [finGo] at h
  | .nl :: x, s, h => by simpa [finGo] using h
  | .ws :: x, s, h => by
    simp only [finGo] at h ⊢
    exact finGo_mono x s h
  | .ink :: x, s, h => by simpa [finGo] using h

theorem blankGo_blob3 (x : List Cls) (s : Bool) (r : List Cls) (h : blobOk x = true) :
    blankGo s (x ++ r) = blankGo false r := by
  simp only [blobOk, Bool.and_eq_true, Bool.not_eq_true'] at h
  rw [blankGo_append, finGo_mono x s h.2]
  cases hb : blankGo s x with
  | false => rfl
  | true =>
    cases s with
    | true => rw [h.1] at hb; cases hb
    | false => rw [blankGo_mono x true hb] at h; exact absurd h.1 (by simp)

theorem blankGo_nonl : ∀ (x : List Cls) (s : Bool), x.contains .nl = false → blankGo s x = false
  | [], _, _ => rfl
  | c :: x, s, h => by
    simp only [List.contains_cons, Bool.or_eq_false_iff] at h
    cases c with
    | nl => simp at h
    | ws => simp only [blankGo]; exact blankGo_nonl x s h.2
    | ink => simp only [blankGo]; exact blankGo_nonl x false h.2

theorem finGo_nonl_false : ∀ (x : List Cls), x.contains .nl = false → finGo false x = false
  | [], _ => rfl
  | c :: x, h => by
    simp only [List.contains_cons, Bool.or_eq_false_iff] at h
    cases c with
    | nl => simp at h
    | ws => simp only [finGo]; exact finGo_nonl_false x h.2
    | ink => simp only [finGo]; exact finGo_nonl_false x h.2

theorem finGo_inkBlob : ∀ (x : List Cls) (s : Bool), inkBlob x = true → finGo s x = false
  | [], _, h => by simp [inkBlob] at h
  | c :: x, s, h => by
    simp only [inkBlob, List.contains_cons, Bool.and_eq_true, Bool.not_eq_true',
      Bool.or_eq_false_iff, Bool.or_eq_true] at h
    cases c with
    | nl => simp at h
    | ws =>
      simp only [finGo]
      refine finGo_inkBlob x s ?_
      simp only [inkBlob, Bool.and_eq_true, Bool.not_eq_true']
      refine ⟨h.1.2, ?_⟩
      rcases h.2 with h2 | h2
      · simp at h2
      · exact h2
    | ink => simp only [finGo]; exact finGo_nonl_false x h.1.2

theorem blobOk_of_inkBlob (x : List Cls) (h : inkBlob x = true) : blobOk x = true := by
  have h1 : x.contains .nl = false := by
    simp only [inkBlob, Bool.and_eq_true, Bool.not_eq_true'] at h
    exact h.1
  simp [blobOk, blankGo_nonl x true h1, finGo_inkBlob x true h]

theorem marks_view (T : PTables) (st : PState) (repls drepls : List Str) :
    ∀ (Mid : List Seg) (env : Env) (stk : List ItemGen) (k k2 p : Nat) (s : Bool),
      viewOk T st repls drepls env stk k k2 p Mid = true →
      blankGo s ((marks T st repls drepls env stk k k2 p Mid).map clsM) = blankGo s (srcView Mid) := by
  intro Mid
  induction Mid with
  | nil => intros; rfl
  | cons x rest ih =>
    intro env stk k k2 p s h
    cases x
    case txt t =>
      simp only [viewOk] at h
      simp only [marks, srcView, List.map_append, clsM_posText]
      exact blankGo_prefix_eq _ _ _ s (fun s' => ih env stk k k2 _ s' h)
    case com body =>
      simp only [viewOk] at h
      simp only [marks, fixOf, List.nil_append, srcView]
      exact ih env stk k k2 _ s h
    all_goals
      simp only [viewOk, Bool.and_eq_true] at h
      rw [marks_cons3, List.map_append, blankGo_blob3 _ s _ h.1]
      simp only [srcView, blankGo]
      exact ih _ _ _ _ _ false h.2

/-! ### white space -/

theorem view_space (T : PTables) (st : PState) (repls drepls : List Str) :
    ∀ (Mid : List Seg) (env : Env) (stk : List ItemGen) (k k2 p : Nat),
      (srcView Mid).any (fun c => c != .ink) = true →
      (marks T st repls drepls env stk k k2 p Mid).any spaceMark = true := by
  intro Mid
  induction Mid with
  | nil => intro env stk k k2 p h; simp [srcView] at h
  | cons x rest ih =>
    intro env stk k k2 p h
    cases x
    case txt t =>
      simp only [srcView, List.any_append, any_nonink_str, Bool.or_eq_true] at h
      simp only [marks, List.any_append, any_space_posText, Bool.or_eq_true]
      rcases h with h | h
      · exact Or.inl h
      · exact Or.inr (ih env stk k k2 _ h)
    case com body =>
      simp only [srcView] at h
      simp only [marks, fixOf, List.nil_append]
      exact ih env stk k k2 _ h
    all_goals
      simp only [srcView, List.any_cons, bne_self_eq_false, Bool.false_or] at h
      rw [marks_cons3, List.any_append, Bool.or_eq_true]
      exact Or.inr (ih _ _ _ _ _ h)

/-! ### two characters of a document -/

/-- the (0-based) source position of `a` in `A ++ .txt (u ++ [a]) :: …` -/
def posA (A : List Seg) (u : Str) : Nat := (render A).length + u.length

/-- the (0-based) source position of `b` in `A ++ .txt (u ++ [a]) :: (Mid ++ .txt (b :: v) :: B)` -/
def posB (A : List Seg) (u : Str) (Mid : List Seg) : Nat := posA A u + 1 + (render Mid).length

def docAB (A : List Seg) (u : Str) (a : Char) (Mid : List Seg) (b : Char) (v : Str) (B : List Seg) :
    List Seg :=
  A ++ .txt (u ++ [a]) :: (Mid ++ .txt (b :: v) :: B)

/-- the marks of `Mid` in its place: the definitions in force, the label generators and the numbers
    of formulas and displayed equations are those behind `A` -/
def midMarks (T : PTables) (st : PState) (repls drepls : List Str) (A : List Seg) (u : Str)
    (Mid : List Seg) : List Mark :=
  marks T st repls drepls (envAfter [] A) (stkAfter st st.itemStack A) (nFormulas A) (nDisplays A)
    (posA A u + 1) Mid

def midViewOk (T : PTables) (st : PState) (repls drepls : List Str) (A : List Seg) (u : Str)
    (Mid : List Seg) : Bool :=
  viewOk T st repls drepls (envAfter [] A) (stkAfter st st.itemStack A) (nFormulas A) (nDisplays A)
    (posA A u + 1) Mid

/-- **the output characters strictly between `a` and `b`**, with 0-based positions -/
def between (T : PTables) (st : PState) (repls drepls : List Str) (A : List Seg) (u : Str)
    (Mid : List Seg) : List (Char × Nat) :=
  sep (midMarks T st repls drepls A u Mid)

def frontMarks (T : PTables) (st : PState) (repls drepls : List Str) (A : List Seg) (u : Str) :
    List Mark :=
  marks T st repls drepls [] st.itemStack 0 0 0 A ++ (posText (render A).length u).map some

def backMarks (T : PTables) (st : PState) (repls drepls : List Str) (A : List Seg) (u : Str)
    (Mid : List Seg) (v : Str) (B : List Seg) : List Mark :=
  (posText (posB A u Mid + 1) v).map some
    ++ marks T st repls drepls (envAfter (envAfter [] A) Mid) (stkAfter st (stkAfter st st.itemStack A) Mid)
        (nFormulas A + nFormulas Mid) (nDisplays A + nDisplays Mid) (posB A u Mid + 1 + v.length) B

theorem marks_docAB (T : PTables) (st : PState) (repls drepls : List Str) (A : List Seg) (u : Str)
    (a : Char) (Mid : List Seg) (b : Char) (v : Str) (B : List Seg) :
    marks T st repls drepls [] st.itemStack 0 0 0 (docAB A u a Mid b v B)
      = frontMarks T st repls drepls A u ++ some (a, posA A u)
          :: (midMarks T st repls drepls A u Mid ++ some (b, posB A u Mid)
            :: backMarks T st repls drepls A u Mid v B) := by
  unfold docAB frontMarks midMarks backMarks posB posA
  rw [marks_append3]
  simp only [marks]
  rw [marks_append3' T st repls drepls _ Mid _ _ _ _ _ (nFormulas A + nFormulas Mid)
    (nDisplays A + nDisplays Mid) ((render A).length + u.length + 1 + (render Mid).length) rfl rfl
    (by simp; omega)]
  simp only [marks, posText_append, List.map_append, posText, List.map_cons, List.map_nil,
    List.append_assoc, List.cons_append, List.length_append,
    List.length_cons, List.length_nil, List.nil_append]
  have e1 : (render A).length + (u.length + (0 + 1)) = (render A).length + u.length + 1 := by omega
  have e2 : (render A).length + u.length + 1 + (render Mid).length + (v.length + 1)
      = (render A).length + u.length + 1 + (render Mid).length + 1 + v.length := by omega
  rw [e1, e2]

theorem ref_docAB (T : PTables) (st : PState) (repls drepls : List Str) (A : List Seg) (u : Str)
    (a : Char) (Mid : List Seg) (b : Char) (v : Str) (B : List Seg)
    (ha : isSpace a = false) (hb : isSpace b = false) :
    delLines (marks T st repls drepls [] st.itemStack 0 0 0 (docAB A u a Mid b v B))
      = pre (frontMarks T st repls drepls A u) ++ (a, posA A u)
          :: (between T st repls drepls A u Mid ++ (b, posB A u Mid)
            :: post (backMarks T st repls drepls A u Mid v B)) := by
  rw [marks_docAB]
  exact delLines_between (frontMarks T st repls drepls A u) (midMarks T st repls drepls A u Mid)
    (backMarks T st repls drepls A u Mid v B) (a, posA A u) (b, posB A u Mid) ha hb

/-- (i) + (ii) on the document level -/
theorem between_blank (T : PTables) (st : PState) (repls drepls : List Str) (A : List Seg) (u : Str)
    (Mid : List Seg) (h : midViewOk T st repls drepls A u Mid = true) :
    hasBlank ((between T st repls drepls A u Mid).map clsP) = hasBlank (srcView Mid) := by
  unfold between
  rw [sep_blank]
  exact marks_view T st repls drepls Mid _ _ _ _ _ false h

/-- (i) + (ii) without any condition, on the level of marks: the output between `a` and `b` holds a
    blank line iff the MARKS of `Mid` do (a text-less mark counts as ink) -/
theorem between_blank_marks (T : PTables) (st : PState) (repls drepls : List Str) (A : List Seg)
    (u : Str) (Mid : List Seg) :
    hasBlank ((between T st repls drepls A u Mid).map clsP)
      = hasBlank ((midMarks T st repls drepls A u Mid).map clsM) := by
  unfold between
  exact sep_blank _

/-- (iii) on the document level -/
theorem between_space (T : PTables) (st : PState) (repls drepls : List Str) (A : List Seg) (u : Str)
    (Mid : List Seg) (h : (srcView Mid).any (fun c => c != .ink) = true) :
    (between T st repls drepls A u Mid).any (fun cp => isSpace cp.1) = true := by
  unfold between
  rw [sep_space]
  exact view_space T st repls drepls Mid _ _ _ _ _ h

theorem between_sublist (T : PTables) (st : PState) (repls drepls : List Str) (A : List Seg) (u : Str)
    (Mid : List Seg) :
    List.Sublist (between T st repls drepls A u Mid)
      (plain T st repls drepls (envAfter [] A) (stkAfter st st.itemStack A) (nFormulas A) (nDisplays A)
        (posA A u + 1) Mid) := by
  have := sep_sublist (midMarks T st repls drepls A u Mid)
  unfold midMarks at this
  rw [marks_chars] at this
  exact this

/-! ### gaps -/

/-- `Mid` consists of white space, comments and vanishing constructs only: undeclared control
    words, vanishing calls, braces, footnotes, definitions, `\begin` / `\end` of list environments
    that are declared without `add_pars` -/
def gap (st : PState) : List Seg → Bool
  | [] => true
  | .txt s :: rest => s.all isSpace && gap st rest
  | .opn :: rest => gap st rest
  | .cls :: rest => gap st rest
  | .cw _ _ :: rest => gap st rest
  | .van _ _ :: rest => gap st rest
  | .com _ :: rest => gap st rest
  | .foot _ :: rest => gap st rest
  | .defn _ _ _ :: rest => gap st rest
  | .beg name :: rest => !(PlainItem.envOf st name).addPars && gap st rest
  | .en name :: rest => !(PlainItem.envOf st name).addPars && gap st rest
  | _ :: _ => false

theorem viewOk_of_gap (T : PTables) (st : PState) (repls drepls : List Str) :
    ∀ (Mid : List Seg) (env : Env) (stk : List ItemGen) (k k2 p : Nat), gap st Mid = true →
      viewOk T st repls drepls env stk k k2 p Mid = true := by
  intro Mid
  induction Mid with
  | nil => intros; rfl
  | cons x rest ih =>
    intro env stk k k2 p h
    cases x
    case txt t =>
      simp only [gap, Bool.and_eq_true] at h
      simp only [viewOk]
      exact ih _ _ _ _ _ h.2
    case com body =>
      simp only [gap] at h
      simp only [viewOk]
      exact ih _ _ _ _ _ h
    case beg name | en name =>
      simp only [gap, Bool.and_eq_true, Bool.not_eq_true'] at h
      simp only [viewOk, Bool.and_eq_true]
      refine ⟨?_, ih _ _ _ _ _ h.2⟩
      simp [segMarks, marks, PlainItem.envMarks, h.1, clsM, blobOk, blankGo, finGo]
    case opn | cls | cw | van | foot | defn =>
      simp only [gap] at h
      simp only [viewOk, Bool.and_eq_true]
      refine ⟨?_, ih _ _ _ _ _ h⟩
      simp [segMarks, marks, fixOf, clsM, blobOk, blankGo, finGo]
    all_goals simp [gap] at h

theorem marks_gap (T : PTables) (st : PState) (repls drepls : List Str) :
    ∀ (Mid : List Seg) (env : Env) (stk : List ItemGen) (k k2 p : Nat), gap st Mid = true →
      ∀ cp ∈ (marks T st repls drepls env stk k k2 p Mid).filterMap id,
        isSpace cp.1 = true ∧ p ≤ cp.2 ∧ cp.2 < p + (render Mid).length := by
  intro Mid
  induction Mid with
  | nil => intro env stk k k2 p _ cp hcp; simp [marks] at hcp
  | cons x rest ih =>
    intro env stk k k2 p h cp hcp
    have hlen : (render (x :: rest)).length = x.len + (render rest).length := by
      simp [render, Seg.len]
    rw [hlen]
    cases x
    case txt t =>
      simp only [gap, Bool.and_eq_true] at h
      simp only [marks, List.filterMap_append, PlainMacro.filterMap_map_some, List.mem_append] at hcp
      have hl : (Seg.txt t).len = t.length := rfl
      rw [hl]
      rcases hcp with hcp | hcp
      · have := mem_posText hcp
        exact ⟨posText_space t p h.1 cp hcp, by omega⟩
      · have := ih _ _ _ _ _ h.2 cp hcp
        exact ⟨this.1, PlainMix2.Para.pos_tail this.2⟩
    case com body =>
      simp only [gap] at h
      simp only [marks, fixOf, List.nil_append] at hcp
      have := ih _ _ _ _ _ h cp hcp
      exact ⟨this.1, PlainMix2.Para.pos_tail this.2⟩
    case beg name | en name =>
      simp only [gap, Bool.and_eq_true, Bool.not_eq_true'] at h
      simp only [marks, PlainItem.envMarks, h.1, Bool.false_eq_true, if_false, List.cons_append,
        List.nil_append, List.filterMap_cons, id] at hcp
      have := ih _ _ _ _ _ h.2 cp hcp
      exact ⟨this.1, PlainMix2.Para.pos_tail this.2⟩
    case opn | cls | cw | van | foot | defn =>
      simp only [gap] at h
      simp only [marks, fixOf, List.cons_append, List.nil_append, List.filterMap_cons, id] at hcp
      have := ih _ _ _ _ _ h cp hcp
      exact ⟨this.1, PlainMix2.Para.pos_tail this.2⟩
    all_goals simp [gap] at h

theorem between_gap (T : PTables) (st : PState) (repls drepls : List Str) (A : List Seg) (u : Str)
    (Mid : List Seg) (h : gap st Mid = true) :
    ∀ cp ∈ between T st repls drepls A u Mid, isSpace cp.1 = true := fun cp hcp =>
  (marks_gap T st repls drepls Mid _ _ _ _ _ h cp ((sep_sublist (midMarks T st repls drepls A u Mid)).subset hcp)).1

theorem between_gap_pos (T : PTables) (st : PState) (repls drepls : List Str) (A : List Seg) (u : Str)
    (Mid : List Seg) (h : gap st Mid = true) :
    ∀ cp ∈ between T st repls drepls A u Mid, posA A u < cp.2 ∧ cp.2 < posB A u Mid := by
  intro cp hcp
  have hs := sep_sublist (midMarks T st repls drepls A u Mid)
  have := (marks_gap T st repls drepls Mid _ _ _ _ _ h cp (hs.subset hcp)).2
  unfold posB
  omega

/-! ### the view and the raw source -/

def stripCom : List Seg → List Seg
  | [] => []
  | .com _ :: rest => stripCom rest
  | s :: rest => s :: stripCom rest

def spcVis : List Seg → Bool
  | [] => true
  | .spc key :: rest => key.head?.any (fun c => !isSpace c) && spcVis rest
  | _ :: rest => spcVis rest

theorem spcVis_of_segsOk (T : PTables) (st : PState) (R : List Seg) : ∀ (Mid : List Seg),
    segsOk T st (Mid ++ R) = true → spcVis Mid = true
  | [], _ => rfl
  | s :: Mid, h => by
    cases s
    case spc key =>
      simp only [List.cons_append, segsOk, Bool.and_eq_true] at h
      cases key with
      | nil => exact absurd rfl (PlainMix.spcOk_ne h.1)
      | cons c tl => simp [spcVis, (PlainMix.spcOk_head h.1).1, spcVis_of_segsOk T st R Mid h.2]
    all_goals
      simp only [List.cons_append, segsOk, Bool.and_eq_true] at h
      simp only [spcVis]
      exact spcVis_of_segsOk T st R Mid h.2

theorem view_raw : ∀ (Mid : List Seg) (s : Bool), spcVis Mid = true →
    blankGo s (srcView Mid) = true → blankGo s ((render (stripCom Mid)).map clsC) = true := by
  intro Mid
  induction Mid with
  | nil => intro s _ h; exact h
  | cons x rest ih =>
    intro s hv h
    cases x
    case txt t =>
      simp only [spcVis] at hv
      simp only [srcView] at h
      simp only [stripCom, render, Seg.render, List.map_append]
      exact blankGo_prefix _ _ _ s (fun s' => ih s' hv) h
    case com body =>
      simp only [spcVis] at hv
      simp only [srcView] at h
      simp only [stripCom]
      exact ih s hv h
    case spc key =>
      simp only [spcVis, Bool.and_eq_true] at hv
      cases key with
      | nil => simp at hv
      | cons c tl =>
        have hc : isSpace c = false := by simpa using hv.1
        simp only [srcView] at h
        simp only [stripCom, render, Seg.render, List.map_append]
        exact blankGo_blob c tl _ _ s hc (fun s' => ih s' hv.2) h
    case opn =>
      simp only [spcVis] at hv
      simp only [srcView] at h
      simp only [stripCom, render, Seg.render, List.map_append]
      exact blankGo_blob '{' [] _ _ s (by decide) (fun s' => ih s' hv) h
    case cls =>
      simp only [spcVis] at hv
      simp only [srcView] at h
      simp only [stripCom, render, Seg.render, List.map_append]
      exact blankGo_blob '}' [] _ _ s (by decide) (fun s' => ih s' hv) h
    case math par body =>
      simp only [spcVis] at hv
      simp only [srcView] at h
      cases par
      · simp only [stripCom, render, Seg.render, PlainMathRich.opn, Bool.false_eq_true, if_false,
          List.cons_append, List.nil_append]
        have e := blankGo_blob '$' (PlainUnkn2.renderM body ++ PlainMathRich.cls false) _ _ s (by decide)
          (fun s' => ih s' hv) h
        rw [← List.map_append, List.cons_append] at e
        exact e
      · simp only [stripCom, render, Seg.render, PlainMathRich.opn, if_true,
          List.cons_append, List.nil_append]
        have e := blankGo_blob '\\' ('(' :: (PlainUnkn2.renderM body ++ PlainMathRich.cls true)) _ _ s
          (by decide) (fun s' => ih s' hv) h
        rw [← List.map_append, List.cons_append, List.cons_append] at e
        exact e
    all_goals
      simp only [spcVis] at hv
      simp only [srcView] at h
      simp only [stripCom, render, Seg.render, List.map_append]
      exact blankGo_blob '\\' _ _ _ s (by decide) (fun s' => ih s' hv) h

/-- (i), raw source -/
theorem between_blank_raw (T : PTables) (st : PState) (repls drepls : List Str) (A : List Seg) (u : Str)
    (Mid : List Seg) (h : midViewOk T st repls drepls A u Mid = true) (hv : spcVis Mid = true)
    (hraw : hasBlankLine (render (stripCom Mid)) = false) :
    hasBlank ((between T st repls drepls A u Mid).map clsP) = false := by
  rw [between_blank T st repls drepls A u Mid h]
  cases hb : hasBlank (srcView Mid) with
  | false => rfl
  | true =>
    have := view_raw Mid false hv hb
    unfold hasBlankLine hasBlank at hraw
    rw [this] at hraw
    exact absurd hraw (by simp)

theorem spcVis_mid (T : PTables) (st : PState) (A : List Seg) (u : Str) (a : Char) (Mid : List Seg)
    (b : Char) (v : Str) (B : List Seg) (h : segsOk T st (docAB A u a Mid b v B) = true) :
    spcVis Mid = true := by
  unfold docAB at h
  have h1 := SystemWord.segsOk_drop3 T st _ A h
  simp only [segsOk, Bool.and_eq_true] at h1
  exact spcVis_of_segsOk T st _ Mid h1.2

/-! ### a readable sufficient condition: no construct between `a` and `b` OUTPUTS a line break -/

def segOut (T : PTables) (st : PState) (repls drepls : List Str) (env : Env) (stk : List ItemGen)
    (k k2 p : Nat) (s : Seg) : Str :=
  (plain T st repls drepls env stk k k2 p [s]).map (·.1)

/-- **no construct of `Mid` outputs a line break** (and the value of an accent call holds a visible
    character): the special values, `\verb` contents, placeholders and punctuation of formulas and
    displayed equations, reference placeholders, notes, titles, the EXPANSIONS of the uses (body and
    arguments), the labels of the items, the marks of `\begin` / `\end` of list environments (no
    `add_pars`) -/
def outNoNl (T : PTables) (st : PState) (repls drepls : List Str) :
    Env → List ItemGen → Nat → Nat → Nat → List Seg → Bool
  | _, _, _, _, _, [] => true
  | env, stk, k, k2, p, .txt s :: rest => outNoNl T st repls drepls env stk k k2 (p + s.length) rest
  | env, stk, k, k2, p, .com body :: rest =>
    outNoNl T st repls drepls env stk k k2 (p + (Seg.com body).len) rest
  | env, stk, k, k2, p, .acc name ws bo l :: rest =>
    (!hasNl (PlainAccent.accVal T name l) && (PlainAccent.accVal T name l).any (fun c => !isSpace c)) &&
      outNoNl T st repls drepls env stk k k2 (p + (Seg.acc name ws bo l).len) rest
  | env, stk, k, k2, p, s :: rest =>
    !hasNl (segOut T st repls drepls env stk k k2 p s) &&
      outNoNl T st repls drepls (envAfter env [s]) (stkAfter st stk [s]) (k + nFormulas [s])
        (k2 + nDisplays [s]) (p + s.len) rest

theorem clsC_eq_nl (c : Char) : (clsC c == Cls.nl) = (c == nl) := by
  unfold clsC
  by_cases h1 : (c == nl) = true
  · simp [h1]
  · by_cases h2 : isSpace c = true <;> simp [h1, h2]

theorem clsM_contains_nl : ∀ (M : List Mark),
    (M.map clsM).contains .nl = hasNl ((M.filterMap id).map (·.1))
  | [] => rfl
  | none :: M => by
    have := clsM_contains_nl M
    simp only [List.map_cons, List.contains_cons, clsM, List.filterMap_cons, id]
    rw [show (Cls.nl == Cls.ink) = false from rfl, Bool.false_or]
    exact this
  | some cp :: M => by
    have := clsM_contains_nl M
    simp only [hasNl] at this ⊢
    simp only [List.map_cons, List.contains_cons, clsM, List.filterMap_cons, id, this]
    have e : (Cls.nl == clsC cp.1) = (nl == cp.1) := by
      rw [Bool.beq_comm, clsC_eq_nl, Bool.beq_comm]
    rw [e]

theorem ink_of_none (M : List Mark) (h : none ∈ M) : (M.map clsM).contains .ink = true := by
  rw [List.contains_iff_mem]
  exact List.mem_map.mpr ⟨none, h, rfl⟩

theorem blob_of_none (M : List Mark) (h : none ∈ M)
    (hn : hasNl ((M.filterMap id).map (·.1)) = false) : blobOk (M.map clsM) = true := by
  apply blobOk_of_inkBlob
  unfold inkBlob
  rw [clsM_contains_nl, hn, ink_of_none M h]
  rfl

theorem segOut_eq (T : PTables) (st : PState) (repls drepls : List Str) (env : Env) (stk : List ItemGen)
    (k k2 p : Nat) (s : Seg) :
    ((segMarks T st repls drepls env stk k k2 p s).filterMap id).map (·.1)
      = segOut T st repls drepls env stk k k2 p s := by
  unfold segMarks segOut
  rw [marks_chars]

theorem viewOk_of_outNoNl (T : PTables) (st : PState) (repls drepls : List Str) :
    ∀ (Mid : List Seg) (env : Env) (stk : List ItemGen) (k k2 p : Nat),
      outNoNl T st repls drepls env stk k k2 p Mid = true →
      viewOk T st repls drepls env stk k k2 p Mid = true := by
  intro Mid
  induction Mid with
  | nil => intros; rfl
  | cons x rest ih =>
    intro env stk k k2 p h
    cases x
    case txt t =>
      simp only [outNoNl] at h
      simp only [viewOk]
      exact ih _ _ _ _ _ h
    case com body =>
      simp only [outNoNl] at h
      simp only [viewOk]
      exact ih _ _ _ _ _ h
    case acc name ws bo l =>
      simp only [outNoNl, Bool.and_eq_true, Bool.not_eq_true', List.any_eq_true] at h
      obtain ⟨⟨h1, c, hc, hv⟩, h2⟩ := h
      simp only [viewOk, Bool.and_eq_true]
      refine ⟨?_, ?_⟩
      · apply blobOk_of_inkBlob
        have hnl : ((segMarks T st repls drepls env stk k k2 p (.acc name ws bo l)).map clsM).contains .nl
            = false := by
          rw [clsM_contains_nl, segOut_eq]
          simp only [segOut, plain, List.append_nil, List.map_map, Function.comp_def, List.map_id']
          exact h1
        have hink : ((segMarks T st repls drepls env stk k k2 p (.acc name ws bo l)).map clsM).contains .ink
            = true := by
          rw [List.contains_iff_mem]
          simp only [segMarks, marks, fixOf, List.append_nil, List.map_map, List.mem_map,
            Function.comp_def, clsM]
          refine ⟨c, hc, ?_⟩
          have hv' : isSpace c = false := by simpa using hv
          simp [clsC, nl_of_vis hv', hv']
        unfold inkBlob
        rw [hnl, hink]
        rfl
      · have := ih _ _ _ _ _ h2
        simpa [envAfter, stkAfter, nFormulas, nDisplays] using this
    case en name =>
      simp only [outNoNl, Bool.and_eq_true, Bool.not_eq_true'] at h
      simp only [viewOk, Bool.and_eq_true]
      refine ⟨?_, ih _ _ _ _ _ h.2⟩
      have h1 := h.1
      cases hp : (PlainItem.envOf st name).addPars with
      | true =>
        simp [segOut, plain, PlainItem.envMarks, hp, hasNl] at h1
      | false =>
        simp [segMarks, marks, PlainItem.envMarks, hp, clsM, blobOk, blankGo, finGo]
    all_goals
      simp only [outNoNl, Bool.and_eq_true, Bool.not_eq_true'] at h
      simp only [viewOk, Bool.and_eq_true]
      refine ⟨blob_of_none _ ?_ (by rw [segOut_eq]; exact h.1), ih _ _ _ _ _ h.2⟩
      simp [segMarks, marks, fixOf, mathMarksR, dispMarks, itemMarks]

def midOutNoNl (T : PTables) (st : PState) (repls drepls : List Str) (A : List Seg) (u : Str)
    (Mid : List Seg) : Bool :=
  outNoNl T st repls drepls (envAfter [] A) (stkAfter st st.itemStack A) (nFormulas A) (nDisplays A)
    (posA A u + 1) Mid

end Para
end PlainMix3
end Yalafi
