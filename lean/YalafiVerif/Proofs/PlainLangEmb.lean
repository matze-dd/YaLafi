/-
  Proofs/PlainLangEmb.lean — documents of text and hard switches `\selectlanguage` are documents of
  the mixed grammar (Proofs/PlainLangMixSrc.lean): source, marks and side conditions are the same, so
  `tex2txt` on them is `PlainLangMix.tex2txt_mix_toks` at the embedded document, followed by this class's
  reading of `get_txt_pos_ml` (`getTxtPosML_hard`).  The language stack of the state may be empty here: a
  document of hard switches never pops it.
-/
import YalafiVerif.Proofs.PlainLangMixE2E
import YalafiVerif.Proofs.PlainLangCor
namespace Yalafi
namespace PlainLang

open LinesLang (itemsOf delLines)

def emb : Seg → PlainLangMix.Seg
  | .txt s => .txt s
  | .sel n => .sel n

theorem render_emb : ∀ segs : List Seg, PlainLangMix.render (segs.map emb) = render segs
  | [] => rfl
  | .txt _ :: rest => by simp only [List.map, emb, PlainLangMix.render, render, render_emb rest]; rfl
  | .sel _ :: rest => by simp only [List.map, emb, PlainLangMix.render, render, render_emb rest]; rfl

theorem segMarks_emb (T : PTables) : ∀ (segs : List Seg) (p : Nat),
    PlainLangMix.segMarks T p (segs.map emb) = segMarks T p segs
  | [], _ => rfl
  | .txt _ :: rest, p => by simp only [List.map, emb, PlainLangMix.segMarks, segMarks, segMarks_emb T rest]
  | .sel _ :: rest, p => by simp only [List.map, emb, PlainLangMix.segMarks, segMarks, segMarks_emb T rest]

theorem segsOk_emb (T : PTables) : ∀ (segs : List Seg) (st : PState),
    PlainLangMix.segsOk T st (segs.map emb) = segsOk T st segs
  | [], _ => rfl
  | .txt _ :: rest, st => by
    simp only [List.map, emb, PlainLangMix.segsOk, segsOk, render_emb, segsOk_emb T rest]
  | .sel _ :: rest, st => by
    simp only [List.map, emb, PlainLangMix.segsOk, segsOk, render_emb, segsOk_emb T rest]

theorem segMarks_hard (T : PTables) (segs : List Seg) (p : Nat) (t : Tok)
    (h : some (Sum.inr t) ∈ segMarks T p segs) : HardTok t ∧ langBrk t = T.selectBrk := by
  have : Sum.inr t ∈ segItems T p segs := List.mem_filterMap.mpr ⟨_, h, rfl⟩
  exact segItems_hard T segs p t this

/-- **C12 for `\selectlanguage`, end to end.**  The document is a sequence of inert text segments
    and hard language switches `\selectlanguage{name}` (`segsOk`); package babel is loaded, `st1`
    is the parser state after `Parser.__init__` in multi-language mode; no `--defs`, `--extr`,
    `--repl`; `lang_change_break['selectlanguage']` is set.  With one unit of fuel per source
    character plus two, `tex2txt` succeeds; the parts are `refParts`, nothing is reported as
    unknown and no diagnostic is added. -/
theorem tex2txt_selectlanguage (T : PTables) (o : Options) (fs : FS) (thresh : Nat) (segs : List Seg)
    (fuel : Nat) (st1 : PState)
    (hdefs : o.defs = []) (hextr : o.extr = []) (hrepl : o.hasRepl = false)
    (hbrk : T.selectBrk = true)
    (hinit : initParser T fuel o (initialState T o true fs) = .ok ((), st1))
    (hml : st1.multiLanguage = true) (hok : segsOk T st1 segs = true)
    (hf : (render segs).length + 2 ≤ fuel) :
    ∃ r, tex2txt T fuel (render segs) o true thresh fs = .ok r ∧
      r.parts = refParts T o.lang segs ∧ r.unknowns = [] ∧ r.diags = st1.diags ∧
      r.foreign = false := by
  obtain ⟨r, ls, hitems, ht⟩ := PlainLangMix.tex2txt_mix_toks ⟨hdefs, hextr, hinit⟩ thresh (segs.map emb)
    (by rw [render_emb]; exact hf) hml
    (Or.inr fun t ht => (segMarks_hard T segs 0 t (by rw [← segMarks_emb]; exact ht)).1)
    ((segsOk_emb T segs st1).trans hok)
  rw [render_emb] at ht
  rw [segMarks_emb] at hitems
  have hml' := getTxtPosML_hard r o.lang thresh (st1.rots.map (fun r => (r.code, r.chg))) (by
    intro t ht
    rw [hitems] at ht
    have := segItems_hard T segs 0 t ((refItems_sublist T segs).subset ht)
    exact ⟨this.1, by rw [this.2, hbrk]⟩)
  exact ⟨_, ht.trans (finishT2T_multi hrepl hml'), by rw [hitems]; rfl, rfl, rfl, rfl⟩

end PlainLang
end Yalafi
