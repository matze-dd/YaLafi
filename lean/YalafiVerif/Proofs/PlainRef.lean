/-
  Proofs/PlainRef.lean (with Proofs/PlainRefBase.lean) — C04 "every output character that is not a
  copy of body text maps to an offset inside the source span of the construct that produced it" and
  C03 "nothing from labels, keys … appears", end to end on the model, for documents that consist of
  inert text (as in Proofs/PlainUnknown.lean) and
    * REFERENCES `\name{key}`: `\name` any macro declared like `\ref` / `\pageref` in the tables of
      /repo — one mandatory argument, no Python handler, no extraction, a replacement text of one
      or two visible text tokens (`\newcommand{\ref}[1]{0}` in `macro_defs_latex`: the placeholder
      is the text token `0`);
    * CITATIONS `\name{key}` and `\name[note]{key}`: `\name` any macro declared like `\cite`
      (`Macro(self, '\\cite', args='OA', repl=hs.h_cite)`).
  `\eqref` is NOT declared by the default tables (it comes with the package module `amsmath`); in the
  default configuration it is an unknown macro, `\eqref{eq:1}` yields the TEXT `eq:1` and the entry
  `\eqref` in the unknowns list (`#eval`; Proofs/PlainUnknown.lean is about that) — not covered here.

  What the model does with such a call
    `\ref{key}`        `expand_macro` collects `{key}`, throws it away (the replacement has no `#1`)
                       and returns an Action token and the replacement tokens, re-stamped at the
                       backslash and pinned (`fix`); the loop copies them.
    `\cite{key}`       `collectArgs` stores `[]` for the missing optional argument; `h_cite` returns
                       the pinned text token `[0]` and an Action token at the backslash;
                       `expand_arguments` puts an Action token in front.
    `\cite[note]{key}` `arg_buffer` collects the note tokens up to the first `]`; `h_cite` returns
                       pinned `[0,` and a pinned blank at the backslash, THE NOTE TOKENS THEMSELVES
                       (position counting, with their own positions), a position-counting text token
                       `]` and an Action token at the position of the LAST NOTE TOKEN.  The tokens are
                       pushed back and expanded again by the loop (they are copied).
  At the end `remove_pure_action_lines` runs; every Action token stands next to a visible generated
  character (`0`, `[`, `]`) on the same line, so no line is deleted (`marks_safe`, `delLines_marks`).

  Structure
    PlainRefBase.lean      declarations, expander level, loop, documents, scanner pieces
    `ScanFacts`, `scanAll_ref`   the scanner on a well-formed source: one macro token,
                           `[` note tokens `]` as text tokens, `{` key tokens `}`; what the token
                           buffer means (`marksOf (outP …) = marks`, all tokens `Simple`, cost)
    `refOut`, `marks_chars`, `tex2txt_ref_cite`   the reference output and THE END-TO-END STATEMENT
                           (scanner, loop `seqRun_ref`, `PlainSetup.of_run`)

  The end-to-end statement `tex2txt_ref_cite`.  `tex2txt` succeeds; text and (1-based) positions
  are `refOut st1 0 segs`:
    text               every character with its own position
    `\ref{key}`        the placeholder `phOf st1 name` (real tables: `0`), every character at the
                       position of the BACKSLASH
    `\cite{key}`       `[0]`, every character at the position of the backslash
    `\cite[note]{key}` `[0, ` at the position of the backslash, the note at its OWN positions, `]` at
                       the start of the last scanner token of the note (`PlainFootnote.lastTokOff`:
                       its last character, or the start of the run of white space it ends with)
    nothing of a key appears (`refOut_no_key`: no output position lies inside `{key}`);
    `unknowns = []`, no diagnostic is added.
  `refOut_span`: every output character is a text character at its own position, or its position
  lies in the span [backslash, closing brace of the key] of a call.

  Side conditions (all in `SegsOk T st1 segs`, decidable; `st1` = state after `Parser.__init__`)
    `stateOk T st1`     the empty string, the blank and `]` are no "active characters" of the language
                        settings (else the Action tokens, the blank of `[0, ` and the closing `]`
                        would go to `expand_short_macro`); real tables: yes
    text segments       `textOk` of Proofs/PlainUnknown.lean: inert in their right context
    calls               * `\name` is scanned as one macro token (`nameOk` = `cwOk` of
                          Proofs/PlainUnknown.lean without "undeclared": a non-empty string of
                          ASCII letters / `@`, no special sequence of the tables matches at the
                          backslash, none of `\begin \end \item \verb \def`, no accent macro);
                        * it is declared in `st1` with `refDeclOk` (arguments `A`, no handler, no
                          extraction; the replacement: one or two text tokens that are visible — no
                          white space —, never "active" and none of `$ \( $$ \[ \\ { }`; "at most
                          two" keeps the fuel bound free of the tables) resp. `citeDeclOk`
                          (arguments `OA`, handler `h_cite`, no extraction, no default values);
                        * `{` stands directly behind the name resp. behind `]`, the braces are
                          scanned as `{` / `}`; the key is `PlainVanish.keyOk`: every character is
                          white space, or none of `% # \ { }` and a special sequence of the tables
                          that matches there is not empty and contains no `}` — so `eq:1`,
                          `sec:a_1-b`, `a,b`, `knuth84` are fine;
                        * a note: `[` directly behind the name, `[` and `]` are scanned as text (no
                          special sequence matches there), the note is not empty, contains no `]`
                          (the first `]` ends the optional argument) and is inert in front of `]`
                          (`PlainFootnote.textOk`: no "active character", white space or none of
                          `% # \ $ { }` with no special sequence matching; line breaks allowed).
    options             no --defs, --extr, --repl, --unkn; single-language mode
    fuel                `(render segs).length + 2 ≤ fuel`

  Model behaviour worth knowing (seen with `#eval`; not covered by the theorem)
    * `\cite[]{k}` yields `[0, ]`, the `]` at the position of `[` (the empty argument is a void token);
    * `\cite[see [1]]{k}` yields `[0, see [1]k`: the first `]` ends the note, the second one becomes the
      mandatory argument, and THE KEY IS COPIED AS TEXT (LaTeX would also end the optional argument
      at the first `]`); likewise `\cite[x][y]{k}` (two optional arguments belong to natbib / biblatex)
      yields `[0, x]y]k` with the default tables;
    * white space between the name and `{` / `[`, also a line break, is accepted and skipped.
  NOT covered: keys with macros, braces, `%` or `#`; `\cite` with two optional arguments; the biblatex
  / natbib variants of the package modules (`\citep`, `\textcite`, `\footcite`, … : handlers
  `bibCite`, `footcite`), `\eqref` (amsmath), `\autoref` (hyperref), cleveref; white space between the name
  and the brace or bracket; empty notes and notes with `]`, macros, braces or maths; multi-language mode.
-/
import YalafiVerif.Proofs.PlainRefBase
import YalafiVerif.Proofs.SegFold
namespace Yalafi
namespace PlainRef

open M
open PlainMacro
open PlainFootnote (CopyTok lastTokOff)

/-- what the scanner loop yields on a well-formed source, and what the token buffer means -/
structure ScanFacts (T : PTables) (st : PState) (rest : Str) (ms : List Mark)
    (steps : List ScanStep) : Prop where
  ok : ∀ s ∈ steps, s.diag = none ∧ s.extra = []
  pieces : ∃ ps, steps.map (·.tok) = flat ps ∧ PiecesOk T st ps ∧ marksOf (outP st ps) = ms ∧
    (∀ t ∈ outP st ps, Simple t) ∧ cost st ps ≤ rest.length
  first : ∀ s ss, steps = s :: ss → s.tok.txt = firstTokTxtM rest

theorem ScanFacts_nil (T : PTables) (st : PState) : ScanFacts T st [] [] [] :=
  ⟨by simp, ⟨[], rfl, trivial, rfl, by simp [outP], by simp [cost]⟩, by simp⟩

theorem firstTok_cw (name X : Str) (h : (name ++ X).takeWhile macroChar = name) :
    firstTokTxtM ('\\' :: (name ++ X)) = '\\' :: name := by
  simp [firstTokTxtM, h, show isSpace '\\' = false by decide]

/-! ### the scanner, by runs -/

/-- a piece in front of a scanned rest: `ss` are the steps of the scanner through the tokens of the
    piece `pc`, which emits `h` -/
theorem ScanFacts.cons {T : PTables} {st : PState} {W R : Str} {ss rs : List ScanStep}
    {ms' ms : List Mark} (pc : Piece) (h : List Tok) {t0 : Tok} {ts0 : List Tok}
    (hclean : ∀ s ∈ ss, s.diag = none ∧ s.extra = []) (I : ScanFacts T st R ms' rs)
    (htoks : ss.map (·.tok) = pc.toks) (hhd : pc.toks = t0 :: ts0)
    (hpc : ∀ ps, rs.map (·.tok) = flat ps → PiecesOk T st ps → PiecesOk T st (pc :: ps))
    (hout : ∀ ps, outP st (pc :: ps) = h ++ outP st ps) (hm : marksOf h ++ ms' = ms)
    (hs : ∀ t ∈ h, Simple t)
    (hcost : ∀ ps, cost st (pc :: ps) + R.length ≤ cost st ps + W.length)
    (hfirst : t0.txt = firstTokTxtM W) : ScanFacts T st W ms (ss ++ rs) := by
  obtain ⟨ps, hflat, hpok, hmarks, hsimple, hc⟩ := I.pieces
  refine ⟨List.forall_mem_append.mpr ⟨hclean, I.ok⟩, ⟨pc :: ps, ?_, hpc ps hflat hpok, ?_, ?_, ?_⟩, ?_⟩
  · rw [List.map_append, htoks, hflat]; rfl
  · rw [hout, marksOf_append, hmarks, hm]
  · rw [hout]; exact List.forall_mem_append.mpr ⟨hs, hsimple⟩
  · have := hcost ps; omega
  · intro s ss' he
    rw [headTok_of_append htoks hhd he]; exact hfirst

theorem scanAll_ref (T : PTables) (st : PState) (src : Str) (pos : Nat) (rest : Str) (ms : List Mark)
    (h : OkSrc T st pos rest ms) :
      ScanFacts T st rest ms (scanAll T.toTables src pos rest).1 := by
  refine scanAll_okSrc T st firstTokTxtM src (ScanFacts T st) (fun _ _ h => h) (fun c cs h => firstTokTxtM_of_text c cs (h.imp id (·.1)))
    (Con.vis T st) (fun _ _ _ I => I.first) (by rintro _ rfl; exact ScanFacts_nil T st) ?_ ?_ pos rest ms h
  · intro pos c cs s rs ms' K I
    exact ScanFacts.cons (.tok s.tok) [s.tok] K.run.clean I rfl rfl
      (fun ps hflat hpok => ⟨K.step.tok, hflat ▸ K.pass, hpok⟩) (fun _ => rfl) (by rw [K.marks, chrs_cons]) K.simple
      (fun ps => by have := K.len; simp only [cost, List.length_cons] at this ⊢; omega) K.first
  intro pos _ _ _ R ms' hc
  cases hc with
  | ref name key _ _ hd =>
    have V := refFacts hd
    have hname := List.length_pos_iff.mpr V.cw.ne
    have r1 := Scans.step (R := '{' :: (key ++ '}' :: R)) (nextToken_cw T _ src pos name _ V.cw) (by simp)
    obtain ⟨ks, B, hBl, r2⟩ := PlainVanish.scans_braced T src (pos + (name.length + 1)) V.br.b1 V.br.key V.br.b2
    have r := (r1.append r2).to (q := pos + callLen name key) (by simp only [callLen]; omega)
    obtain ⟨hph, hrne, hrlen⟩ := V.rn.repl
    refine ⟨_, by simp, r, fun rs _ I => ?_⟩
    refine ScanFacts.cons
      (.ref pos (pos + (name.length + 1)) (pos + (name.length + 1) + 1 + key.length) name (ks.map fun x : ScanStep => x.tok))
      (mkAction pos :: (replOf st name).map (restamp pos)) r.clean I (by simp [Piece.toks]) rfl
      (fun ps _ hpok => ⟨V.rn, B, hpok⟩) (fun _ => rfl) ?_ ?_ ?_ (firstTok_cw name _ V.cw.tw).symm
    · rw [marksOf_cons, tokMarks_mkAction, marksOf_restamp _ _ (fun t ht => (hph t ht).plain)]
      rfl
    · intro x hx
      rcases List.mem_cons.mp hx with rfl | hx
      · exact simple_mkAction pos
      · obtain ⟨u, hu, rfl⟩ := List.mem_map.mp hx
        exact simple_restamp pos (hph u hu)
    · intro ps
      simp only [cost, List.length_cons, List.length_append]
      omega
  | cite name key _ _ hd =>
    have V := citeFacts hd
    have hname := List.length_pos_iff.mpr V.cw.ne
    have r1 := Scans.step (R := '{' :: (key ++ '}' :: R)) (nextToken_cw T _ src pos name _ V.cw) (by simp)
    obtain ⟨ks, B, hBl, r2⟩ := PlainVanish.scans_braced T src (pos + (name.length + 1)) V.br.b1 V.br.key V.br.b2
    have r := (r1.append r2).to (q := pos + callLen name key) (by simp only [callLen]; omega)
    refine ⟨_, by simp, r, fun rs _ I => ?_⟩
    refine ScanFacts.cons
      (.cite pos (pos + (name.length + 1)) (pos + (name.length + 1) + 1 + key.length) name (ks.map fun x : ScanStep => x.tok))
      (mkAction pos :: citeToks pos) r.clean I (by simp [Piece.toks]) rfl
      (fun ps _ hpok => ⟨V.cn, B, hpok⟩) (fun _ => rfl) ?_ ?_ ?_ (firstTok_cw name _ V.cw.tw).symm
    · rw [marksOf_cons, tokMarks_mkAction, marksOf_citeToks]
      simp
    · intro x hx
      simp only [citeToks, List.mem_cons, List.not_mem_nil, or_false] at hx
      rcases hx with rfl | rfl | rfl
      · exact simple_mkAction pos
      · exact simple_vis _ rfl (by simp [mkFix]; decide)
      · exact simple_mkAction pos
    · intro ps
      simp only [cost, List.length_cons, List.length_append]
      omega
  | citeN name note key _ _ hd =>
    have V := citeNFacts hd
    have hname := List.length_pos_iff.mpr V.cw.ne
    have r1 := Scans.step (R := '[' :: (note ++ ']' :: '{' :: (key ++ '}' :: R)))
      (nextToken_cw T _ src pos name _ V.cw) (by simp)
    obtain ⟨ns, N, r2⟩ := scans_note T st src (pos + (name.length + 1)) V.lb V.txt V.rb
    obtain ⟨ks, B, hBl, r3⟩ := PlainVanish.scans_braced T src (pos + (name.length + 1) + (note.length + 2))
      V.br.b1 V.br.key V.br.b2
    have r := ((r1.append r2).append r3).to (q := pos + callNLen name note key)
      (by simp only [callNLen]; omega)
    have hNl := N.len
    obtain ⟨hnne, hnote, hlast⟩ := note_toks N V.ne V.nrb
    refine ⟨_, by simp, r, fun rs _ I => ?_⟩
    refine ScanFacts.cons
      (.citeN pos (pos + (name.length + 1)) (pos + (name.length + 1) + 1 + note.length)
        (pos + (name.length + 1) + (note.length + 2))
        (pos + (name.length + 1) + (note.length + 2) + 1 + key.length) name
        (ns.map (·.tok)) (ks.map fun x : ScanStep => x.tok))
      (mkAction pos :: citeNToks pos (ns.map (·.tok))) r.clean I (by simp [Piece.toks]) rfl
      (fun ps _ hpok => ⟨V.cn, hnne, hnote, B, hpok⟩) (fun _ => rfl) ?_ ?_ ?_
      (firstTok_cw name _ V.cw.tw).symm
    · rw [marksOf_cons, tokMarks_mkAction, marksOf_citeNToks pos _ _ note _ (marksOf_textrun N) hlast]
      have e : pos + (name.length + 1) + 1 = pos + name.length + 2 := by omega
      simp [e]
    · intro x hx
      simp only [citeNToks, List.mem_cons, List.mem_append, List.not_mem_nil, or_false] at hx
      rcases hx with rfl | rfl | rfl | hx | rfl | rfl
      · exact simple_mkAction pos
      · exact simple_vis _ rfl (by simp [mkFix]; decide)
      · exact ⟨fun ha => by simp [isAction, mkFix] at ha, rfl, fun _ => by simp [mkFix]; decide⟩
      · exact simple_of_copy (hnote x hx).1
      · exact simple_vis _ rfl (by simp [mkTok]; decide)
      · exact simple_mkAction _
    · intro ps
      simp only [cost, List.length_cons, List.length_append, List.length_map]
      omega

/-! ### no line is deleted -/

/-- every continuation from a state that is not "blank and marked" keeps all lines -/
def Safe (X : List Mark) : Prop := ∀ b a, (b && a) = false → linesKept b a X = true

theorem Safe_nil : Safe [] := by
  intro b a h; simp [linesKept, h]

theorem Safe_chr (cp : Char × Nat) {X : List Mark} (hX : Safe X) : Safe (some cp :: X) := by
  intro b a h
  simp only [linesKept]
  split
  · simp [h, hX true false rfl]
  · refine hX _ a ?_
    cases b <;> cases a <;> simp_all

theorem Safe_chars {X : List Mark} (hX : Safe X) : ∀ (l : List (Char × Nat)), Safe (l.map some ++ X)
  | [] => hX
  | cp :: l => Safe_chr cp (Safe_chars hX l)

theorem Safe_mark_vis (cp : Char × Nat) (hv : isSpace cp.1 = false) {X : List Mark} (hX : Safe X) :
    Safe (none :: some cp :: X) := by
  intro b a _
  have hn : (cp.1 == nl) = false := by
    cases hb : cp.1 == nl with
    | false => rfl
    | true => rw [beq_iff_eq] at hb; rw [hb] at hv; exact absurd hv (by decide)
  simp only [linesKept, hn, Bool.false_eq_true, if_false, hv, Bool.and_false]
  exact hX false true rfl

theorem Safe_vis_mark (cp : Char × Nat) (hv : isSpace cp.1 = false) {X : List Mark} (hX : Safe X) :
    Safe (some cp :: none :: X) := by
  intro b a _
  have hn : (cp.1 == nl) = false := by
    cases hb : cp.1 == nl with
    | false => rfl
    | true => rw [beq_iff_eq] at hb; rw [hb] at hv; exact absurd hv (by decide)
  simp only [linesKept, hn, Bool.false_eq_true, if_false, hv, Bool.and_false]
  exact hX false true rfl

theorem fixMarks_eq (p : Nat) (s : Str) : fixMarks p s = (s.map (fun c => (c, p))).map some := by
  simp [fixMarks]

def PhVisible (st : PState) (name : Str) : Prop :=
  ∃ c cs, phOf st name = c :: cs ∧ isSpace c = false

theorem RefName.visible {T : PTables} {st : PState} {name : Str} (h : RefName T st name) :
    PhVisible st name := by
  obtain ⟨hph, hne, _⟩ := h.repl
  unfold PhVisible phOf
  cases hr : replOf st name with
  | nil => exact absurd hr hne
  | cons t ts =>
    have P := hph t (by rw [hr]; simp)
    cases ht : t.txt with
    | nil => exact absurd ht P.ne
    | cons c cs =>
      exact ⟨c, cs ++ bodyTxt ts, by simp [bodyTxt, ht], P.vis c (by rw [ht]; simp)⟩

def RefsVisible (st : PState) : List Seg → Prop
  | [] => True
  | .ref name _ :: rest => PhVisible st name ∧ RefsVisible st rest
  | _ :: rest => RefsVisible st rest

theorem refsVisible_of_segsOk (T : PTables) (st : PState) : ∀ (segs : List Seg),
    segsOk T st segs = true → RefsVisible st segs
  | [], _ => trivial
  | .txt s :: rest, h => by
    simp only [segsOk, Bool.and_eq_true] at h
    exact refsVisible_of_segsOk T st rest h.2
  | .ref name key :: rest, h => by
    simp only [segsOk, Bool.and_eq_true] at h
    exact ⟨(refFacts h.1).rn.visible, refsVisible_of_segsOk T st rest h.2⟩
  | .cite name none key :: rest, h => by
    simp only [segsOk, Bool.and_eq_true] at h
    exact refsVisible_of_segsOk T st rest h.2
  | .cite name (some note) key :: rest, h => by
    simp only [segsOk, Bool.and_eq_true] at h
    exact refsVisible_of_segsOk T st rest h.2

/-- every call leaves a visible character next to each of its Action marks: no line is deleted -/
theorem marks_safe (st : PState) : ∀ (segs : List Seg) (p : Nat), RefsVisible st segs →
    Safe (marks st p segs)
  | [], _, _ => Safe_nil
  | .txt s :: rest, p, h => by
    simp only [marks]
    exact Safe_chars (marks_safe st rest _ h) _
  | .ref name key :: rest, p, h => by
    obtain ⟨⟨c, cs, hc, hv⟩, hr⟩ := h
    simp only [marks, hc, fixMarks, List.map_cons, List.cons_append]
    refine Safe_mark_vis (c, p) hv ?_
    have := Safe_chars (marks_safe st rest (p + callLen name key) hr) (cs.map (fun c => (c, p)))
    rw [List.map_map] at this
    exact this
  | .cite name none key :: rest, p, h => by
    have hr : RefsVisible st rest := h
    have h1 := marks_safe st rest (p + callLen name key) hr
    show Safe (none :: some ('[', p) :: some ('0', p) :: some (']', p) :: none :: _)
    exact Safe_mark_vis ('[', p) (show isSpace '[' = false by decide) (Safe_chr _ (Safe_vis_mark (']', p) (show isSpace ']' = false by decide) h1))
  | .cite name (some note) key :: rest, p, h => by
    have hr : RefsVisible st rest := h
    have h1 := marks_safe st rest (p + callNLen name note key) hr
    have h2 := Safe_vis_mark (']', p + name.length + 2 + lastTokOff note)
      (show isSpace ']' = false by decide) h1
    have h3 := Safe_chars h2 (posText (p + name.length + 2) note)
    show Safe (none :: some ('[', p) :: some ('0', p) :: some (',', p) :: some (' ', p) :: _)
    exact Safe_mark_vis ('[', p) (show isSpace '[' = false by decide) (Safe_chr _ (Safe_chr _ (Safe_chr _ h3)))

/-! ### the reference output -/

def fixChars (p : Nat) (s : Str) : List (Char × Nat) := s.map (fun c => (c, p))

/-- **the reference output** of a document that starts at position `p`: characters with their
    (0-based) source positions —
    * a text character is copied with its own position;
    * `\ref{key}` is replaced by the placeholder text of the declaration (`phOf`; real tables: `0`),
      every character of it at the position of the backslash;
    * `\cite{key}` is replaced by `[0]`, every character at the position of the backslash;
    * `\cite[note]{key}` is replaced by `[0, note]`: `[0, ` at the position of the backslash, the
      note at its own positions (it starts `|name| + 2` characters behind the backslash), the
      closing `]` at the start of the last token of the note (`lastTokOff`: its last character,
      or the start of the run of white space the note ends with);
    * nothing of a key appears. -/
def refOut (st : PState) : Nat → List Seg → List (Char × Nat)
  | _, [] => []
  | p, .txt s :: rest => posText p s ++ refOut st (p + s.length) rest
  | p, .ref name key :: rest => fixChars p (phOf st name) ++ refOut st (p + callLen name key) rest
  | p, .cite name none key :: rest =>
    fixChars p "[0]".toList ++ refOut st (p + callLen name key) rest
  | p, .cite name (some note) key :: rest =>
    fixChars p "[0, ".toList ++ (posText (p + name.length + 2) note ++
      (']', p + name.length + 2 + lastTokOff note) :: refOut st (p + callNLen name note key) rest)

theorem filterMap_fixMarks (p : Nat) (s : Str) : (fixMarks p s).filterMap id = fixChars p s := by
  simp only [fixMarks_eq, filterMap_map_some, fixChars]

theorem marks_chars (st : PState) : ∀ (segs : List Seg) (p : Nat),
    (marks st p segs).filterMap id = refOut st p segs
  | [], _ => rfl
  | s :: rest, p => by
    rcases s with _ | _ | ⟨_, _ | _, _⟩ <;>
      simp only [marks, refOut, List.filterMap_cons, id, List.filterMap_append, filterMap_fixMarks,
        filterMap_map_some, marks_chars st rest]

/-- no line is deleted: the blank-line removal only drops the Action marks -/
theorem delLines_marks (T : PTables) (st : PState) (segs : List Seg)
    (h : segsOk T st segs = true) : delLines (marks st 0 segs) = refOut st 0 segs := by
  rw [delLines_kept _ (marks_safe st segs 0 (refsVisible_of_segsOk T st segs h) true false rfl),
    marks_chars]

/-- **C04 / C03 end to end, references and citations.**  The document consists of inert text,
    references `\name{key}` and citations `\name{key}`, `\name[note]{key}` (`SegsOk`: all side
    conditions); `st1` is the state after `Parser.__init__`; no `--defs`, `--extr`, `--repl`,
    `--unkn`; single-language mode.  With one unit of fuel per source character and two more,
    `tex2txt` succeeds, the output text with its (1-based) positions is `refOut st1 0 segs`,
    there are no unknowns and no diagnostic is added. -/
theorem tex2txt_ref_cite (T : PTables) (o : Options) (fs : FS) (thresh : Nat) (segs : List Seg)
    (fuel : Nat) (st1 : PState)
    (hdefs : o.defs = []) (hextr : o.extr = []) (hrepl : o.hasRepl = false) (hunkn : o.unkn = false)
    (hinit : initParser T fuel o (initialState T o false fs) = .ok ((), st1))
    (hok : SegsOk T st1 segs) (hf : (render segs).length + 2 ≤ fuel) :
    ∃ r, tex2txt T fuel (render segs) o false thresh fs = .ok r ∧
      r.txt = (refOut st1 0 segs).map (·.1) ∧
      r.pos = (refOut st1 0 segs).map (·.2 + 1) ∧
      r.unknowns = [] ∧ r.diags = st1.diags ∧ r.parts = [] := by
  have R : PlainSetup T o fs fuel st1 := ⟨⟨hdefs, hextr, hinit⟩, hrepl, hunkn⟩
  obtain ⟨hst, hsegs⟩ := hok
  have F := scanAll_ref T st1 (render segs) 0 _ _ (OkSrc_of_segsOk T st1 segs 0 hsegs)
  obtain ⟨ps, hflat, hpok, hmarks, hsimple, hcost⟩ := F.pieces
  obtain ⟨r, h, ht, hp, hpa, hu, hd, _⟩ := R.of_run thresh F.ok hflat (hpok.noCom.noBegin _)
    (seqRun_ref T none (Reads.startState st1 _).ext (stateFacts hst) ps [] hpok) (Nat.le_refl _) (by omega) hsimple
  rw [hmarks, show charsOf (flowsToks (startState st1 (render segs)).extracted) = [] from rfl, List.append_nil,
    delLines_marks T st1 segs hsegs] at ht hp
  exact ⟨r, h, ht, hp, hu, hd, hpa⟩

/-! ### readings of the reference -/

/-- the spans `(start, length)` of the calls: from the backslash through the closing brace of the key -/
def spans : Nat → List Seg → List (Nat × Nat)
  | _, [] => []
  | p, .txt s :: rest => spans (p + s.length) rest
  | p, .ref name key :: rest => (p, callLen name key) :: spans (p + callLen name key) rest
  | p, .cite name none key :: rest => (p, callLen name key) :: spans (p + callLen name key) rest
  | p, .cite name (some note) key :: rest =>
    (p, callNLen name note key) :: spans (p + callNLen name note key) rest

/-- the spans `(start, length)` of the keys with their braces: `{key}` -/
def keySpans : Nat → List Seg → List (Nat × Nat)
  | _, [] => []
  | p, .txt s :: rest => keySpans (p + s.length) rest
  | p, .ref name key :: rest =>
    (p + name.length + 1, key.length + 2) :: keySpans (p + callLen name key) rest
  | p, .cite name none key :: rest =>
    (p + name.length + 1, key.length + 2) :: keySpans (p + callLen name key) rest
  | p, .cite name (some note) key :: rest =>
    (p + name.length + note.length + 3, key.length + 2) :: keySpans (p + callNLen name note key) rest

def textChars : Nat → List Seg → List (Char × Nat)
  | _, [] => []
  | p, .txt s :: rest => posText p s ++ textChars (p + s.length) rest
  | p, s :: rest => textChars (p + s.len) rest

theorem lastTokOff_le (s : Str) : lastTokOff s ≤ s.length := by
  unfold lastTokOff; omega

theorem mem_fixChars {cp : Char × Nat} {p : Nat} {s : Str} (h : cp ∈ fixChars p s) : cp.2 = p := by
  simp only [fixChars, List.mem_map] at h
  obtain ⟨c, _, rfl⟩ := h
  rfl


theorem fold_refOut (st : PState) : SegFold (fun p (s : Seg) => p + s.len) (refOut st) :=
  ⟨fun _ => rfl, fun p s rest => by rcases s with _ | _ | ⟨_, _ | _, _⟩ <;> simp [refOut, Seg.len]⟩

theorem fold_keySpans : SegFold (fun p (s : Seg) => p + s.len) keySpans :=
  ⟨fun _ => rfl, fun p s rest => by rcases s with _ | _ | ⟨_, _ | _, _⟩ <;> simp [keySpans, Seg.len]⟩

theorem fold_spans : SegFold (fun p (s : Seg) => p + s.len) spans :=
  ⟨fun _ => rfl, fun p s rest => by rcases s with _ | _ | ⟨_, _ | _, _⟩ <;> simp [spans, Seg.len]⟩

theorem fold_textChars : SegFold (fun p (s : Seg) => p + s.len) textChars :=
  ⟨fun _ => rfl, fun p s rest => by rcases s with _ | _ | ⟨_, _ | _, _⟩ <;> simp [textChars, Seg.len]⟩

/-- where the output of one segment stands: a text character at its own position; a placeholder at
    the backslash; a note at its own positions and `]` inside the note or at its bracket -/
theorem seg_refOut (st : PState) {cp : Char × Nat} {p : Nat} {s : Seg} (h : cp ∈ refOut st p [s]) :
    (∃ t, s = .txt t ∧ cp ∈ posText p t) ∨ (∀ t, s ≠ .txt t) ∧ (cp.2 = p ∨
      ∃ name note key, s = .cite name (some note) key ∧
        p + name.length + 2 ≤ cp.2 ∧ cp.2 ≤ p + name.length + 2 + note.length) := by
  rcases s with t | ⟨n, k⟩ | ⟨n, _ | note, k⟩
  · exact Or.inl ⟨t, rfl, by simpa [refOut] using h⟩
  · exact Or.inr ⟨fun _ e => Seg.noConfusion e, Or.inl (mem_fixChars (by simpa [refOut] using h))⟩
  · exact Or.inr ⟨fun _ e => Seg.noConfusion e, Or.inl (mem_fixChars (by simpa [refOut] using h))⟩
  · refine Or.inr ⟨fun _ e => Seg.noConfusion e, ?_⟩
    simp only [refOut, List.mem_append, List.mem_cons, List.not_mem_nil, or_false] at h
    have := lastTokOff_le note
    rcases h with h | h | rfl
    · exact Or.inl (mem_fixChars h)
    · have := mem_posText h
      exact Or.inr ⟨n, note, k, rfl, by omega, by omega⟩
    · exact Or.inr ⟨n, note, k, rfl, by simp only []; omega, by simp only []; omega⟩

theorem inSpan_refOut (st : PState) :
    SegFold.InSpan id Seg.len (fun _ _ => True) (fun cp => some (cp.2, 1)) (refOut st) := by
  intro p s cp i _ hx hi
  cases hi
  rcases seg_refOut st hx with ⟨t, rfl, h⟩ | ⟨hs, rfl | ⟨n, note, k, rfl, h1, h2⟩⟩
  · have := mem_posText h
    simp only [id, Seg.len]; omega
  · rcases s with t | ⟨n, k⟩ | ⟨n, _ | note, k⟩
    · exact absurd rfl (hs t)
    all_goals simp only [id, Seg.len, callLen, callNLen]; omega
  · simp only [id, Seg.len, callNLen]; omega

theorem inSpan_keySpans : SegFold.InSpan id Seg.len (fun _ _ => True) some keySpans := by
  intro p s q i _ hq hi
  cases hi
  rcases s with t | ⟨n, k⟩ | ⟨n, _ | note, k⟩ <;>
    simp only [keySpans, List.mem_singleton, List.not_mem_nil] at hq <;> subst hq <;>
    simp only [id, Seg.len, callLen, callNLen] <;> omega

/-- **no output position lies inside the braces of a key** -/
theorem refOut_no_key (st : PState) {cp : Char × Nat} {q : Nat × Nat} {segs : List Seg} {p : Nat}
    (h : cp ∈ refOut st p segs) (hq : q ∈ keySpans p segs) : cp.2 < q.1 ∨ q.1 + q.2 ≤ cp.2 := by
  have := SegFold.disjoint (fold_refOut st) fold_keySpans (pos := id) (fun _ _ => rfl) (inSpan_refOut st)
    inSpan_keySpans
    (fun p s x q i j _ hx hq hi hj => by
      cases hi; cases hj
      rcases seg_refOut st hx with ⟨t, rfl, _⟩ | ⟨_, e | ⟨n, note, k, rfl, _, h2⟩⟩
      · simp [keySpans] at hq
      · rcases s with t | ⟨n, k⟩ | ⟨n, _ | note, k⟩ <;>
          simp only [keySpans, List.mem_singleton, List.not_mem_nil] at hq <;> subst hq <;>
          left <;> simp only [] <;> omega
      · simp only [keySpans, List.mem_singleton] at hq
        subst hq; left; simp only []; omega)
    (x := cp) (q := q) rfl rfl (fun _ _ _ _ => trivial) h hq
  simpa [Nat.lt_iff_add_one_le] using this

/-- **every output character is a text character at its own position, or its position lies in the
    span of a call** (from the backslash through the closing brace of the key) -/
theorem refOut_span (st : PState) {cp : Char × Nat} {segs : List Seg} {p : Nat}
    (h : cp ∈ refOut st p segs) :
    cp ∈ textChars p segs ∨ ∃ q ∈ spans p segs, q.1 ≤ cp.2 ∧ cp.2 < q.1 + q.2 := by
  obtain ⟨A, s, B, rfl, hs⟩ := (fold_refOut st).mem h
  have hb := inSpan_refOut st _ s cp _ trivial hs rfl
  rcases s with t | ⟨n, k⟩ | ⟨n, _ | note, k⟩
  · exact Or.inl (fold_textChars.mem_of A _ B p (by simpa [refOut, textChars] using hs))
  all_goals
    exact Or.inr ⟨_, fold_spans.mem_of A _ B p (List.mem_singleton.mpr rfl), hb.1,
      Nat.lt_of_succ_le hb.2⟩

end PlainRef
end Yalafi
