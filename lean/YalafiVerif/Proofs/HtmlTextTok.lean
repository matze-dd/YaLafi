/-
  Proofs/HtmlTextTok.lean — a tokenizer for the tags of a page (`scan`, `tagsOf`), the placement discipline of
  pieces (`flow`: `esc` in text, `escTitle`/`escAttr`/`raw` inside a double-quoted attribute value), and the
  theorem that the tags of well-placed pieces depend on their shapes only (`scan_render`, `tagsOf_shape`,
  `tagsOf_blank`).  The tokenizer is conservative: every `<` in text opens a tag (HTML needs a letter, `/`, `!`
  or `?` behind it), a tag ends at the first `>` outside quotes, attribute values are left out of the token.
  Then the tag of a match: what `begin_match` returns when it returns (`beginMatch_ok`), that its pieces are well
  placed (`Flows`: composition of pieces with the tokenizer state in between; `flows_spanOpen`, `flows_linkOpen`, `flows_linkClose`) and let the search for `<br>\n` through (`TagOk`,
  `beginMatch_tagOk`, `matchTags_tagOk`), for style strings without `"` and `<` (`VarsOk`).
-/
import YalafiVerif.Proofs.HtmlTextEsc
namespace Yalafi
namespace HtmlText
open Html

/-- where the tokenizer is: in text, inside a tag (outside attribute values), inside a double-quoted or a
    single-quoted attribute value; `acc` = the tag read so far, attribute values left out -/
inductive TokSt where
  | text
  | tag (acc : Str)
  | dq (acc : Str)
  | sq (acc : Str)
deriving Repr, DecidableEq, Inhabited

/-- one character: the new state and the tag that is completed by it, if any.  Conservative: EVERY `<` in
    text opens a tag; a tag ends at the first `>` outside quotes. -/
def step : TokSt → Char → TokSt × List Str
  | .text, c => if c == '<' then (.tag ['<'], []) else (.text, [])
  | .tag a, c =>
    if c == '>' then (.text, [a ++ ['>']])
    else if c == '"' then (.dq (a ++ ['"']), [])
    else if c == '\'' then (.sq (a ++ ['\'']), [])
    else (.tag (a ++ [c]), [])
  | .dq a, c => if c == '"' then (.tag (a ++ ['"']), []) else (.dq a, [])
  | .sq a, c => if c == '\'' then (.tag (a ++ ['\'']), []) else (.sq a, [])

def scan : TokSt → Str → TokSt × List Str
  | st, [] => (st, [])
  | st, c :: cs => ((scan (step st c).1 cs).1, (step st c).2 ++ (scan (step st c).1 cs).2)

/-- the tags of a page in order, each as it is written but with the attribute values left out
    (`<span style="" title="">`, `<br>`, `</span>`) -/
def tagsOf (s : Str) : List Str := (scan .text s).2

theorem scan_append (st : TokSt) (a b : Str) :
    scan st (a ++ b) = ((scan (scan st a).1 b).1, (scan st a).2 ++ (scan (scan st a).1 b).2) := by
  induction a generalizing st with
  | nil => simp [scan]
  | cons c cs ih => simp [scan, ih]

theorem scan_text_noLt (s : Str) (h : ∀ c ∈ s, c ≠ '<') : scan .text s = (.text, []) := by
  induction s with
  | nil => rfl
  | cons c cs ih =>
    have hc : (c == '<') = false := by simp [h c (by simp)]
    simp [scan, step, hc, ih (fun d hd => h d (by simp [hd]))]

theorem scan_dq_noQuote (a : Str) (s : Str) (h : ∀ c ∈ s, c ≠ '"') : scan (.dq a) s = (.dq a, []) := by
  induction s with
  | nil => rfl
  | cons c cs ih =>
    have hc : (c == '"') = false := by simp [h c (by simp)]
    simp [scan, step, hc, ih (fun d hd => h d (by simp [hd]))]

theorem scan_text_br : scan .text br = (.text, ["<br>".toList]) := by decide

theorem scan_text_protectHtml (s : Str) :
    scan .text (protectHtml s) = (.text, List.replicate (s.count '\n') "<br>".toList) := by
  rw [protectHtml_eq]
  induction s with
  | nil => rfl
  | cons c cs ih =>
    rw [List.flatMap_cons, scan_append]
    by_cases hc : c = '\n'
    · subst hc
      rw [phStep_nl, scan_text_br, ih]
      simp [List.replicate_succ]
    · rw [scan_text_noLt _ (phStep_noLt c hc), ih]
      have : (c == '\n') = false := by simp [hc]
      simp [List.count_cons, this]

/-- a piece without the content of its data: literals as they are, an `esc` piece by the number of its
    line breaks, attribute data by nothing at all -/
inductive Shape where
  | lit (s : Str)
  | raw (s : Str)
  | esc (nl : Nat)
  | escTitle
  | escAttr
deriving Repr, DecidableEq, Inhabited

def TPiece.shape : TPiece → Shape
  | .lit s => .lit s
  | .raw s => .raw s
  | .esc s => .esc (s.count '\n')
  | .escTitle _ => .escTitle
  | .escAttr _ => .escAttr

/-- the placement discipline: running the tokenizer over the LITERALS only, every `esc` piece must stand
    in text, every `escTitle`/`escAttr` piece inside a double-quoted attribute value, a `raw` piece inside
    a double-quoted value and be free of double quotes.  Result: the state behind the pieces. -/
def flowS : TokSt → List Shape → Option TokSt
  | st, [] => some st
  | st, .lit s :: ps => flowS (scan st s).1 ps
  | st, .esc _ :: ps => match st with
    | .text => flowS .text ps
    | _ => none
  | st, .escTitle :: ps => match st with
    | .dq a => flowS (.dq a) ps
    | _ => none
  | st, .escAttr :: ps => match st with
    | .dq a => flowS (.dq a) ps
    | _ => none
  | st, .raw s :: ps => match st with
    | .dq a => if s.all (· != '"') then flowS (.dq a) ps else none
    | _ => none

/-- the tags, computed from the literals and the numbers of line breaks alone -/
def skelS : TokSt → List Shape → List Str
  | _, [] => []
  | st, .lit s :: ps => (scan st s).2 ++ skelS (scan st s).1 ps
  | st, .esc n :: ps => List.replicate n "<br>".toList ++ skelS st ps
  | st, _ :: ps => skelS st ps

def flow (st : TokSt) (ps : List TPiece) : Option TokSt := flowS st (ps.map TPiece.shape)
def skel (st : TokSt) (ps : List TPiece) : List Str := skelS st (ps.map TPiece.shape)

theorem flowS_append (st : TokSt) (ps qs : List Shape) :
    flowS st (ps ++ qs) = (flowS st ps).bind (fun st' => flowS st' qs) := by
  induction ps generalizing st with
  | nil => simp [flowS]
  | cons p ps ih =>
    cases p <;> cases st <;> simp [flowS, ih]
    split <;> simp

theorem flow_append (st : TokSt) (ps qs : List TPiece) :
    flow st (ps ++ qs) = (flow st ps).bind (fun st' => flow st' qs) := by
  simp [flow, flowS_append]

theorem flow_append_of (st st' st'' : TokSt) (ps qs : List TPiece) (h1 : flow st ps = some st')
    (h2 : flow st' qs = some st'') : flow st (ps ++ qs) = some st'' := by
  rw [flow_append, h1]; exact h2

/-- the tokenizer over the rendered pieces, if they are placed well -/
theorem scan_render (ps : List TPiece) (st st' : TokSt) (h : flow st ps = some st') :
    scan st (renderPieces ps) = (st', skel st ps) := by
  induction ps generalizing st with
  | nil => simp [flow, flowS] at h; subst h; rfl
  | cons p ps ih =>
    have happ : renderPieces (p :: ps) = p.render ++ renderPieces ps := by simp [renderPieces]
    rw [happ, scan_append]
    cases p with
    | lit s =>
      have h' : flow (scan st s).1 ps = some st' := by simpa [flow, flowS, TPiece.shape] using h
      simp [TPiece.render, ih _ h', skel, skelS, TPiece.shape]
    | raw s =>
      cases st <;> simp [flow, flowS, TPiece.shape] at h
      rename_i a
      have hq : ∀ c ∈ s, c ≠ '"' := by
        intro c hc; have := h.1 c hc; simpa using this
      have h' : flow (.dq a) ps = some st' := h.2
      simp [TPiece.render, scan_dq_noQuote a s hq, ih _ h', skel, skelS, TPiece.shape]
    | esc s =>
      cases st <;> simp [flow, flowS, TPiece.shape] at h
      have h' : flow .text ps = some st' := h
      simp [TPiece.render, scan_text_protectHtml, ih _ h', skel, skelS, TPiece.shape]
    | escTitle s =>
      cases st <;> simp [flow, flowS, TPiece.shape] at h
      rename_i a
      have h' : flow (.dq a) ps = some st' := h
      have hq : ∀ c ∈ protectTitle s, c ≠ '"' := fun c hc => (protectTitle_safe s c hc).1
      simp [TPiece.render, scan_dq_noQuote a _ hq, ih _ h', skel, skelS, TPiece.shape]
    | escAttr s =>
      cases st <;> simp [flow, flowS, TPiece.shape] at h
      rename_i a
      have h' : flow (.dq a) ps = some st' := h
      have hq : ∀ c ∈ htmlEscape s, c ≠ '"' := fun c hc => (htmlEscape_safe s c hc).1
      simp [TPiece.render, scan_dq_noQuote a _ hq, ih _ h', skel, skelS, TPiece.shape]

/-- **the tags depend on the shapes only**: two well-placed piece lists with the same literals, the
    same numbers of line breaks in corresponding `esc` pieces and ANY data otherwise have the same tags -/
theorem tagsOf_shape (ps qs : List TPiece) (st' : TokSt) (h : flow .text ps = some st')
    (hs : qs.map TPiece.shape = ps.map TPiece.shape) :
    tagsOf (renderPieces qs) = tagsOf (renderPieces ps) := by
  have hq : flow .text qs = some st' := by simpa [flow, hs] using h
  simp [tagsOf, scan_render _ _ _ h, scan_render _ _ _ hq, skel, hs]

def blankStr (s : Str) : Str := s.map (fun c => if c == '\n' then '\n' else 'x')

def TPiece.blank : TPiece → TPiece
  | .lit s => .lit s
  | .raw s => .raw s
  | .esc s => .esc (blankStr s)
  | .escTitle s => .escTitle (blankStr s)
  | .escAttr s => .escAttr (blankStr s)

theorem count_blankStr (s : Str) : (blankStr s).count '\n' = s.count '\n' := by
  induction s with
  | nil => rfl
  | cons c cs ih =>
    simp only [blankStr, List.map_cons, List.count_cons] at ih ⊢
    rw [ih]
    by_cases hc : c = '\n' <;> simp [hc]

theorem shape_blank (p : TPiece) : p.blank.shape = p.shape := by
  cases p <;> simp [TPiece.blank, TPiece.shape, count_blankStr]

theorem tagsOf_blank (ps : List TPiece) (st' : TokSt) (h : flow .text ps = some st') :
    tagsOf (renderPieces (ps.map TPiece.blank)) = tagsOf (renderPieces ps) := by
  apply tagsOf_shape ps _ st' h
  simp [List.map_map, Function.comp_def, shape_blank]

theorem beginMatch_ok (V : Vars) (m : Json) (lin : Int) (unsure : Bool) (t : Tag)
    (h : beginMatch V m lin unsure = .ok t) :
    ∃ d style url, matchData m = .ok d ∧
      (if unsure then V.highlightStyleUnsure else some V.highlightStyle) = some style ∧
      ruleUrl V.link m = .ok url ∧
      t = (spanOpen style (titlePieces d lin unsure) ++ linkOpen url, linkClose url) := by
  unfold beginMatch at h
  split at h
  · rename_i d hd
    split at h
    · cases h
    · rename_i style hs
      split at h
      · rename_i url hu
        cases h
        exact ⟨d, style, url, hd, hs, hu, rfl⟩
      · cases h
      · cases h
  · cases h
  · cases h

/-- a piece that leaves the tokenizer inside a double-quoted attribute value -/
def dqStay : TPiece → Bool
  | .lit s => s.all (· != '"')
  | .raw s => s.all (· != '"')
  | .esc _ => false
  | .escTitle _ => true
  | .escAttr _ => true

theorem flow_dq_cons (a : Str) (p : TPiece) (rest : List TPiece) (h : dqStay p = true) :
    flow (.dq a) (p :: rest) = flow (.dq a) rest := by
  cases p with
  | lit s =>
    have hq : ∀ c ∈ s, c ≠ '"' := by simpa [dqStay] using h
    simp only [flow, List.map_cons, TPiece.shape, flowS, scan_dq_noQuote a s hq]
  | raw s =>
    have hq : s.all (· != '"') = true := h
    simp only [flow, List.map_cons, TPiece.shape, flowS, hq, if_true]
  | esc s => simp [dqStay] at h
  | escTitle s => rfl
  | escAttr s => rfl

theorem flow_dqStay (a : Str) (ps rest : List TPiece) (h : ps.all dqStay = true) :
    flow (.dq a) (ps ++ rest) = flow (.dq a) rest := by
  induction ps with
  | nil => rfl
  | cons p ps ih =>
    simp only [List.all_cons, Bool.and_eq_true] at h
    rw [List.cons_append, flow_dq_cons a p _ h.1, ih h.2]

theorem titlePieces_dqStay (d : MatchData) (lin : Int) (unsure : Bool) : (titlePieces d lin unsure).all dqStay = true := by
  simp [titlePieces, dqStay, L]

def styleOk (s : Str) : Bool := s.all (fun c => c != '"' && c != '<')

structure VarsOk (V : Vars) : Prop where
  hs : styleOk V.highlightStyle = true
  hsu : ∀ s, V.highlightStyleUnsure = some s → styleOk s = true
  ns : styleOk V.numberStyle = true

theorem styleOk_noQuote (s : Str) (h : styleOk s = true) : s.all (· != '"') = true := by
  simp only [styleOk, List.all_eq_true, Bool.and_eq_true] at h ⊢
  exact fun c hc => (h c hc).1

theorem styleOk_noLt (s : Str) (h : styleOk s = true) : ∀ c ∈ s, c ≠ '<' := by
  simp only [styleOk, List.all_eq_true, Bool.and_eq_true] at h
  intro c hc; simpa using (h c hc).2

theorem flow_cons_L (st : TokSt) (s : String) (ps : List TPiece) :
    flow st (L s :: ps) = flow (scan st s.toList).1 ps := rfl

def Flows (st : TokSt) (ps : List TPiece) (st' : TokSt) : Prop := ∀ rest, flow st (ps ++ rest) = flow st' rest

theorem Flows.nil (st : TokSt) : Flows st [] st := fun _ => rfl

theorem Flows.append {a b c : TokSt} {ps qs : List TPiece} (h1 : Flows a ps b) (h2 : Flows b qs c) :
    Flows a (ps ++ qs) c := fun rest => by rw [List.append_assoc, h1, h2]

theorem Flows.cons {a b c : TokSt} {p : TPiece} {qs : List TPiece} (h1 : Flows a [p] b) (h2 : Flows b qs c) :
    Flows a (p :: qs) c := h1.append h2

/-- a literal: the state behind it is found by running the tokenizer when the next step is unified with it -/
theorem Flows.L (st : TokSt) (s : String) : Flows st [L s] (scan st s.toList).1 := fun _ => rfl

theorem Flows.L' {st st' : TokSt} {s : String} (h : (scan st s.toList).1 = st') : Flows st [HtmlText.L s] st' :=
  h ▸ Flows.L st s

theorem Flows.dq (a : Str) (p : TPiece) (h : dqStay p = true) : Flows (.dq a) [p] (.dq a) :=
  fun rest => flow_dq_cons a p rest h

theorem Flows.esc (s : Str) : Flows .text [.esc s] .text := fun _ => rfl

theorem flows_spanOpen (style : Str) (title : List TPiece) (hs : styleOk style = true) (ht : title.all dqStay = true) :
    Flows .text (spanOpen style title) .text :=
  Flows.append (Flows.append (.cons (.L _ _) (.cons (.dq _ (.lit style) (styleOk_noQuote style hs)) (.L _ _)))
    (fun rest => flow_dqStay _ title rest ht)) (.L _ _)

theorem flows_linkOpen (url : Option Str) : Flows .text (linkOpen url) .text := by
  cases url with
  | none => exact .nil _
  | some u => exact .cons (.L _ _) (.cons (.dq _ (.escAttr u) rfl) (.L _ _))

theorem flows_linkClose (url : Option Str) : Flows .text (linkClose url ++ endMatch) .text := by
  cases url with
  | none => exact .L _ _
  | some u => exact .cons (.L _ _) (.L _ _)


def brOkP : TPiece → Bool
  | .lit s => brFreeB s
  | .raw s => brFreeB s
  | .esc s => !s.contains '\n'
  | .escTitle _ => true
  | .escAttr _ => true

theorem protectHtml_noLt (s : Str) (h : '\n' ∉ s) : ∀ c ∈ protectHtml s, c ≠ '<' :=
  fun c hc => (protectHtml_plain s h c hc).1

theorem brOkP_sound (p : TPiece) (h : brOkP p = true) : BrFree p.render := by
  cases p with
  | lit s => exact BrFree.ofB h
  | raw s => exact BrFree.ofB h
  | esc s =>
    apply BrFree.noLt
    apply protectHtml_noLt
    simpa [brOkP] using h
  | escTitle s => exact BrFree.noLt (fun c hc => (protectTitle_safe s c hc).2.1)
  | escAttr s => exact BrFree.noLt (fun c hc => (htmlEscape_safe s c hc).2.1)

theorem renderPieces_append (a b : List TPiece) : renderPieces (a ++ b) = renderPieces a ++ renderPieces b := by
  simp [renderPieces]

theorem renderPieces_cons (p : TPiece) (ps : List TPiece) : renderPieces (p :: ps) = p.render ++ renderPieces ps := by
  simp [renderPieces]

theorem brFree_pieces (ps : List TPiece) (h : ps.all brOkP = true) : BrFree (renderPieces ps) := by
  induction ps with
  | nil => exact BrFree.nil
  | cons p ps ih =>
    simp only [List.all_cons, Bool.and_eq_true] at h
    rw [renderPieces_cons]
    exact (brOkP_sound p h.1).append (ih h.2)

theorem brFreeB_of_noLt (s : Str) (h : ∀ c ∈ s, c ≠ '<') : brFreeB s = true := by
  induction s with
  | nil => rfl
  | cons c cs ih =>
    have hc : (c == '<') = false := by simp [h c (by simp)]
    simp only [brFreeB, hc, Bool.false_eq_true, ↓reduceIte]
    exact ih (fun d hd => h d (by simp [hd]))

structure TagOk (t : Tag) : Prop where
  flowPre : ∀ rest, flow .text (t.1 ++ rest) = flow .text rest
  flowPost : ∀ rest, flow .text (t.2 ++ endMatch ++ rest) = flow .text rest
  brPre : BrFree t.pre
  brPost : BrFree t.post

theorem tagOk_default : TagOk ([], []) := by
  refine ⟨fun _ => rfl, ?_, BrFree.nil, ?_⟩
  · exact flows_linkClose none
  · exact brFree_pieces _ (by decide)

theorem titlePieces_brOk (d : MatchData) (lin : Int) (unsure : Bool) : (titlePieces d lin unsure).all brOkP = true := by
  simp [titlePieces, brOkP, L]
  decide

theorem beginMatch_tagOk (V : Vars) (hV : VarsOk V) (m : Json) (lin : Int) (unsure : Bool) (t : Tag)
    (h : beginMatch V m lin unsure = .ok t) : TagOk t := by
  obtain ⟨d, style, url, _, hs, _, rfl⟩ := beginMatch_ok V m lin unsure t h
  have hst : styleOk style = true := by
    cases unsure with
    | true => exact hV.hsu style (by simpa using hs)
    | false =>
      simp only [Bool.false_eq_true, ↓reduceIte, Option.some.injEq] at hs
      rw [← hs]; exact hV.hs
  refine ⟨?_, ?_, ?_, ?_⟩
  · exact (flows_spanOpen style _ hst (titlePieces_dqStay d lin unsure)).append (flows_linkOpen url)
  · exact flows_linkClose url
  · apply brFree_pieces
    have h1 := titlePieces_brOk d lin unsure
    have h2 : brFreeB style = true := brFreeB_of_noLt style (styleOk_noLt style hst)
    cases url with
    | none =>
      simp only [spanOpen, linkOpen, List.append_nil, List.all_append, List.all_cons, List.all_nil, Bool.and_true,
        Bool.and_eq_true, h1, brOkP, L, h2]
      decide
    | some u =>
      simp only [spanOpen, linkOpen, List.all_append, List.all_cons, List.all_nil, Bool.and_true,
        Bool.and_eq_true, h1, brOkP, L, h2]
      decide
  · apply brFree_pieces
    cases url with
    | none => show (linkClose none ++ endMatch).all brOkP = true; decide
    | some u => show (linkClose (some u) ++ endMatch).all brOkP = true; simp only [linkClose]; decide

theorem matchTags_forall (V : Vars) (P : Tag → Prop)
    (hP : ∀ m lin unsure t, beginMatch V m lin unsure = .ok t → P t) (ms : List Json) (hs : List HData)
    (tags : List Tag) (h : matchTags V ms hs = .ok tags) : ∀ t ∈ tags, P t := by
  induction hs generalizing tags with
  | nil => simp [matchTags] at h; subst h; simp
  | cons hd hs ih =>
    unfold matchTags at h
    split at h
    · rename_i t ht
      split at h
      · rename_i ts hts
        cases h
        intro t' ht'
        rcases List.mem_cons.mp ht' with e | e
        · subst e; exact hP _ _ _ _ ht
        · exact ih ts hts t' e
      · cases h
      · cases h
    · cases h
    · cases h

/-- a match without tag (index out of range) gets the empty tag pair -/
theorem forall_getD (P : Tag → Prop) (h0 : P ([], [])) (tags : List Tag) (h : ∀ t ∈ tags, P t) (idx : Nat) :
    P (tags.getD idx ([], [])) := by
  rw [List.getD_eq_getElem?_getD]
  cases hg : tags[idx]? with
  | none => exact h0
  | some t => exact h t (List.mem_of_getElem? hg)

theorem matchTags_tagOk (V : Vars) (hV : VarsOk V) (ms : List Json) (hs : List HData) (tags : List Tag)
    (h : matchTags V ms hs = .ok tags) : ∀ t ∈ tags, TagOk t :=
  matchTags_forall V TagOk (beginMatch_tagOk V hV) ms hs tags h

theorem tagOk_getD (tags : List Tag) (h : ∀ t ∈ tags, TagOk t) (idx : Nat) : TagOk (tags.getD idx ([], [])) :=
  forall_getD TagOk tagOk_default tags h idx

end HtmlText
end Yalafi
