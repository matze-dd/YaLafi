/-
  Proofs/PlainSkip.lean — C03 "nothing from … LT-SKIP regions … appears", end to end on the model,
  SOURCE LEVEL: sources that consist of inert text, ordinary `%` comments (as in
  Proofs/PlainComment.lean) and SKIPPED REGIONS — from a comment token whose text starts with
  `st.skipBegin` (`%%% LT-SKIP-BEGIN`) to the next comment token whose text starts with `st.skipEnd`
  (`%%% LT-SKIP-END`).  The document level (segments, the readable condition `hiddenOk` on the hidden
  text, the explicit reference output) is Proofs/PlainSkipSeg.lean.

  What the model does (checked against `yalafi/parser.py`, `parser_work`): the WHOLE source is
  scanned first — the hidden text, too, so a scanner error inside a region is reported although the
  region is skipped —, then the pre-pass `skipPass` walks over the token list: everything from a
  BEGIN comment token up to and including the next END comment token is deleted (a nested BEGIN
  marker is just one of the deleted tokens; an END marker without BEGIN is an ordinary comment); a
  BEGIN without END is a LaTeX error and nothing is deleted.  Only the kept tokens reach
  `expand_sequence`: no macro inside a region is expanded, recorded as unknown or able to consume
  text behind the region; no Action token is left, so `remove_pure_action_lines` is the identity.

    `regionEnd`, `regionLen`          the length of a region, by running the scanner (`next_token`, as
                                      a function of the remaining text: `nextToken_indep` of
                                      Proofs/PlainSkipScan.lean) from the opening comment to the closing one
    `scans_region`                    the scanner on a region: tokens that are no END comment, then
                                      the END comment; no diagnostic
    `skipPass_pieces`                 the skip pre-pass deletes exactly the regions
    `stripS`, `stripSkip`             the reference output: the source without regions and comments,
                                      every remaining character with its position
    `scanAll_skip`                    the scanner on a source of the class: the kept tokens form a buffer
                                      that `Comment.seqRun_com` handles and spell the reference
    `tex2txt_skip_text`               the lift through `parserWork_of_seq_diags` (unchanged state)

  Side conditions of `tex2txt_skip_text`
    options / fuel           no --defs, --extr, --repl, --unkn; single-language mode; `src.length + 2 ≤ fuel`
    `skipText T st1 src`     at every offset outside comments and regions:
      * an inert character (`okAtS`): `okAtC` of Proofs/PlainComment.lean (white space, or no
        structural character `% # \ $ { }` and no special sequence matches; not an active character
        of the language settings, or one that forms no short macro with the token behind it), and —
        if it IS an active character — no region starts directly behind it (the token behind it in
        the expander's buffer is then the first one behind the region; not analysed);
      * or a `%` whose comment token is an ordinary comment (`comTokOk`);
      * or a `%` whose comment token starts with the BEGIN marker and `regionLen` is `some n`: the
        scanner, run on the real rest of the source, reports no error (every `\verb` in the hidden
        text is closed on its line, every `\begin{verbatim}` has its `\end{verbatim}`) and reaches a
        comment token that starts with the END marker.  This is exact: outside it the model either
        reports a scanner diagnostic for hidden text, or does not find the END marker (LaTeX error
        "cannot find closing LaTeX comment", and the hidden text is NOT skipped).
  NOT covered: regions in multi-language mode, in `--defs` text, in files read by `\LTinput`; text
  around the regions that is more than inert text and comments.
-/
import YalafiVerif.Proofs.PlainSkipScan
namespace Yalafi
namespace Skip

open M
open Comment (commentSpan comTxt firstTokTxtC okAtC comTokOk posText notCom ComTok CSeq
  commentSpan_bounds nextToken_percent)
open PlainMacro (passTok_text)

/-- the comment token opens / closes a skipped region (`parser_work`) -/
def isBegTok (st : PState) (t : Tok) : Bool := t.kind == .comment && startsWith t.txt st.skipBegin
def isEndTok (st : PState) (t : Tok) : Bool := t.kind == .comment && startsWith t.txt st.skipEnd

/-- a comment that opens a skipped region starts at the head of the text -/
def begAt (st : PState) : Str → Bool
  | [] => false
  | c :: cs => c == '%' && startsWith (comTxt (c :: cs)) st.skipBegin

/-- `regionEnd T st fuel rest`: run the scanner on `rest` (the text behind the opening comment) up
    to and including the first comment token whose text starts with the END marker; the result is
    the number of characters passed.  `none`: a scanner error (`\verb` without closing delimiter on
    its line, `\begin{verbatim}` without `\end{verbatim}`) or no closing comment. -/
def regionEnd (T : Tables) (st : PState) : Nat → Str → Option Nat
  | 0, _ => none
  | _ + 1, [] => none
  | f + 1, c :: cs =>
    if (nextToken T [] 0 (c :: cs)).diag.isSome || (nextToken T [] 0 (c :: cs)).len == 0 then none
    else if isEndTok st (nextToken T [] 0 (c :: cs)).tok then some (nextToken T [] 0 (c :: cs)).len
    else (regionEnd T st f ((c :: cs).drop (nextToken T [] 0 (c :: cs)).len)).map
      ((nextToken T [] 0 (c :: cs)).len + ·)

/-- the number of characters of the skipped region that starts at the head of `rest` (the `%` of
    its opening comment): the opening comment token, then `regionEnd` -/
def regionLen (T : Tables) (st : PState) (rest : Str) : Option Nat :=
  (regionEnd T st (rest.drop (commentSpan rest)).length (rest.drop (commentSpan rest))).map
    (commentSpan rest + ·)

theorem isEndTok_congr (st : PState) {t t' : Tok} (hk : t.kind = t'.kind) (ht : t.txt = t'.txt) :
    isEndTok st t = isEndTok st t' := by
  simp only [isEndTok, hk, ht]

theorem isBegTok_ext {st st' : PState} (h : Ext st st') (t : Tok) : isBegTok st' t = isBegTok st t := by
  simp only [isBegTok, h.skipB]

theorem isEndTok_ext {st st' : PState} (h : Ext st st') (t : Tok) : isEndTok st' t = isEndTok st t := by
  simp only [isEndTok, h.skipE]

theorem scans_region (T : Tables) (st : PState) (src : Str) :
    ∀ (f : Nat) (rest : Str) (n pos : Nat), regionEnd T st f rest = some n →
      ∃ (mid : List ScanStep) (e : ScanStep), Scans T src pos rest (mid ++ [e]) (pos + n) (rest.drop n) ∧
        (∀ s ∈ mid, isEndTok st s.tok = false) ∧ isEndTok st e.tok = true := by
  intro f
  induction f with
  | zero => intro rest n pos h; simp [regionEnd] at h
  | succ f ih =>
    intro rest n pos h
    cases rest with
    | nil => simp [regionEnd] at h
    | cons c cs =>
      have I := nextToken_indep T src pos (c :: cs)
      generalize hs' : nextToken T src pos (c :: cs) = s' at I
      generalize hs : nextToken T [] 0 (c :: cs) = s at I h
      simp only [regionEnd, hs, ← I.len] at h
      split at h
      · cases h
      · rename_i h0
        simp only [Bool.or_eq_true, Option.isSome_iff_ne_none, ne_eq, beq_iff_eq, not_or,
          Decidable.not_not] at h0
        obtain ⟨hd, hl⟩ := h0
        obtain ⟨he1, _, hk, ht⟩ := I.ok hd
        have hd' : s'.diag = none := by
          have := I.diag
          rw [hd] at this
          cases hx : s'.diag with
          | none => rfl
          | some _ => rw [hx] at this; cases this
        have r1 := Scans.step hs' rfl (Nat.pos_of_ne_zero hl) hd' he1
        have hend : isEndTok st s'.tok = isEndTok st s.tok := isEndTok_congr st hk ht
        split at h
        · rename_i hE
          cases h
          exact ⟨[], s', r1, by simp, hend.trans hE⟩
        · rename_i hE
          obtain ⟨n', hr, rfl⟩ := Option.map_eq_some_iff.mp h
          obtain ⟨mid, e, r2, h2, h3⟩ := ih _ n' (pos + s'.len) hr
          have r := (r1.append r2).to (Nat.add_assoc ..)
          rw [List.drop_drop] at r
          refine ⟨s' :: mid, e, r, ?_, h3⟩
          intro x hx
          rcases List.mem_cons.mp hx with rfl | hx
          · rw [hend]; simpa using hE
          · exact h2 x hx

/-! ### the token buffers and the skip pre-pass -/

/-- the pieces of a token buffer: a token, or a region `b mid e` (opening comment, tokens that do
    not close it, closing comment) -/
inductive Piece where
  | one (t : Tok)
  | reg (b : Tok) (mid : List Tok) (e : Tok)

def Piece.toks : Piece → List Tok
  | .one t => [t]
  | .reg b mid e => b :: (mid ++ [e])

def flat : List Piece → List Tok
  | [] => []
  | p :: ps => p.toks ++ flat ps

def kept : List Piece → List Tok
  | [] => []
  | .one t :: ps => t :: kept ps
  | .reg _ _ _ :: ps => kept ps

def nReg : List Piece → Nat
  | [] => 0
  | .one _ :: ps => nReg ps
  | .reg _ _ _ :: ps => nReg ps + 1

/-- the markers are where the pieces say -/
def MarkOk (st : PState) : List Piece → Prop
  | [] => True
  | .one t :: ps => isBegTok st t = false ∧ MarkOk st ps
  | .reg b mid e :: ps =>
    isBegTok st b = true ∧ (∀ t ∈ mid, isEndTok st t = false) ∧ isEndTok st e = true ∧ MarkOk st ps

theorem skipPass_one (st : PState) (fuel : Nat) (t : Tok) (toks out : List Tok)
    (h : isBegTok st t = false) :
    skipPass st (fuel + 1) (t :: toks) out = skipPass st (fuel + 1) toks (out ++ [t]) := by
  have h' : (t.kind == .comment && startsWith t.txt st.skipBegin) = false := h
  simp only [skipPass, List.takeWhile_cons, h', Bool.not_false, if_true, List.length_cons,
    List.drop_succ_cons, List.append_assoc, List.singleton_append]

theorem skipPass_reg (st : PState) (fuel : Nat) (b e : Tok) (mid toks out : List Tok)
    (hb : isBegTok st b = true) (hm : ∀ t ∈ mid, isEndTok st t = false) (he : isEndTok st e = true) :
    skipPass st (fuel + 1) (b :: (mid ++ e :: toks)) out = skipPass st fuel toks out := by
  have hb' : (b.kind == .comment && startsWith b.txt st.skipBegin) = true := hb
  have hmid : (mid ++ e :: toks).takeWhile
      (fun t => !(t.kind == .comment && startsWith t.txt st.skipEnd)) = mid := by
    rw [List.takeWhile_append_of_pos (by
      intro t ht
      have := hm t ht
      simp only [isEndTok] at this
      simp [this])]
    have he' : (e.kind == .comment && startsWith e.txt st.skipEnd) = true := he
    rw [List.takeWhile_cons, he']
    simp
  simp only [skipPass, List.takeWhile_cons, hb', Bool.not_true, Bool.false_eq_true, if_false,
    List.length_nil, List.drop_zero, hmid, List.drop_left, List.append_nil]

/-- **the skip pre-pass of `parser_work`** deletes the regions and nothing else -/
theorem skipPass_pieces {st0 st : PState} (hr : Ext st0 st) : ∀ (ps : List Piece) (fuel : Nat) (out : List Tok),
    nReg ps + 1 ≤ fuel → MarkOk st0 ps → skipPass st fuel (flat ps) out = (out ++ kept ps, none, [])
  | [], fuel, out, hf, _ => by
    obtain ⟨f, rfl⟩ : ∃ f, fuel = f + 1 := ⟨fuel - 1, by simp [nReg] at hf; omega⟩
    simp [flat, kept, skipPass]
  | .one t :: ps, fuel, out, hf, h => by
    obtain ⟨f, rfl⟩ : ∃ f, fuel = f + 1 := ⟨fuel - 1, by simp [nReg] at hf; omega⟩
    simp only [flat, Piece.toks, List.singleton_append, kept]
    rw [skipPass_one st f t _ out ((isBegTok_ext hr t).trans h.1),
      skipPass_pieces hr ps (f + 1) _ (by simpa [nReg] using hf) h.2]
    simp
  | .reg b mid e :: ps, fuel, out, hf, h => by
    obtain ⟨f, rfl⟩ : ∃ f, fuel = f + 1 := ⟨fuel - 1, by simp [nReg] at hf; omega⟩
    have hflat : flat (.reg b mid e :: ps) = b :: (mid ++ e :: flat ps) := by
      simp [flat, Piece.toks]
    rw [hflat, skipPass_reg st f b e mid _ out ((isBegTok_ext hr b).trans h.1)
        (fun t ht => (isEndTok_ext hr t).trans (h.2.1 t ht)) ((isEndTok_ext hr e).trans h.2.2.1),
      skipPass_pieces hr ps f out (by simp only [nReg] at hf; omega) h.2.2.2]
    rfl

theorem nReg_le_flat : ∀ ps : List Piece, nReg ps ≤ (flat ps).length
  | [] => by simp [nReg]
  | .one t :: ps => by have := nReg_le_flat ps; simp [nReg, flat, Piece.toks]; omega
  | .reg b mid e :: ps => by have := nReg_le_flat ps; simp [nReg, flat, Piece.toks]; omega

theorem kept_le_flat : ∀ ps : List Piece, (kept ps).length ≤ (flat ps).length
  | [] => by simp [kept]
  | .one t :: ps => by have := kept_le_flat ps; simp [kept, flat, Piece.toks]; omega
  | .reg b mid e :: ps => by have := kept_le_flat ps; simp [kept, flat, Piece.toks]; omega

/-! ### the class of sources and the reference output -/

/-- the text character `c`, followed by `cs` (the whole rest of the source), is inert (`okAtC` of
    Proofs/PlainComment.lean), and if it is an active character of the language settings then no
    skipped region starts directly behind it (the token that follows it in the expander's buffer
    would be the first one behind the region) -/
def okAtS (T : PTables) (st : PState) (c : Char) (cs : Str) : Bool :=
  okAtC T st c cs && (!(activeChars T st).contains [c] || !begAt st cs)

/-- the class of texts: at every offset that is not inside a comment or a skipped region there is
    * a `%` that opens a skipped region (the text of its comment token starts with
      `st.skipBegin`) whose end the scanner finds (`regionLen`), or
    * a `%` that starts an ordinary comment (`comTokOk`), or
    * an inert character (`okAtS`) -/
def skipTextA (T : PTables) (st : PState) : Nat → Str → Bool
  | _, [] => true
  | skip + 1, _ :: cs => skipTextA T st skip cs
  | 0, c :: cs =>
    if c == '%' then
      if startsWith (comTxt (c :: cs)) st.skipBegin then
        match regionLen T.toTables st (c :: cs) with
        | some n => skipTextA T st (n - 1) cs
        | none => false
      else comTokOk T st (comTxt (c :: cs)) && skipTextA T st (commentSpan (c :: cs) - 1) cs
    else okAtS T st c cs && skipTextA T st 0 cs

def skipText (T : PTables) (st : PState) (s : Str) : Bool := skipTextA T st 0 s

/-- reference: delete the skipped regions and the comments; every other character is kept with its
    own position -/
def stripS (T : Tables) (st : PState) : Nat → Str → Nat → List (Char × Nat)
  | _, [], _ => []
  | skip + 1, _ :: cs, i => stripS T st skip cs (i + 1)
  | 0, c :: cs, i =>
    if c == '%' then
      if startsWith (comTxt (c :: cs)) st.skipBegin then
        match regionLen T st (c :: cs) with
        | some n => stripS T st (n - 1) cs (i + 1)
        | none => []
      else stripS T st (commentSpan (c :: cs) - 1) cs (i + 1)
    else (c, i) :: stripS T st 0 cs (i + 1)

theorem stripS_nil (T : Tables) (st : PState) (n i : Nat) : stripS T st n [] i = [] := by
  cases n <;> rfl

theorem stripS_skip (T : Tables) (st : PState) : ∀ (n : Nat) (s : Str) (i : Nat),
    stripS T st n s i = stripS T st 0 (s.drop n) (i + n)
  | 0, s, i => by simp
  | n + 1, [], i => by simp [stripS_nil]
  | n + 1, c :: cs, i => by
    rw [stripS, stripS_skip T st n cs (i + 1)]
    simp [Nat.add_assoc, Nat.add_comm 1 n]

theorem skipTextA_nil (T : PTables) (st : PState) (n : Nat) : skipTextA T st n [] = true := by
  cases n <;> rfl

theorem skipTextA_skip (T : PTables) (st : PState) : ∀ (n : Nat) (s : Str),
    skipTextA T st n s = skipTextA T st 0 (s.drop n)
  | 0, s => by simp
  | n + 1, [] => by simp [skipTextA_nil]
  | n + 1, c :: cs => by
    rw [skipTextA, skipTextA_skip T st n cs]
    simp

theorem regionLen_pos {T : Tables} {st : PState} {c : Char} {cs : Str} {n : Nat}
    (h : regionLen T st (c :: cs) = some n) : 1 ≤ n := by
  unfold regionLen at h
  cases hr : regionEnd T st ((c :: cs).drop (commentSpan (c :: cs))).length
      ((c :: cs).drop (commentSpan (c :: cs))) with
  | none => rw [hr] at h; cases h
  | some k =>
    rw [hr] at h
    simp only [Option.map_some, Option.some.injEq] at h
    have := (commentSpan_bounds c cs).1
    omega

theorem strip_char (T : Tables) (st : PState) (c : Char) (cs : Str) (i : Nat) (h : c ≠ '%') :
    stripS T st 0 (c :: cs) i = (c, i) :: stripS T st 0 cs (i + 1) := by
  simp [stripS, h]

theorem strip_com (T : Tables) (st : PState) (cs : Str) (i : Nat)
    (h : startsWith (comTxt ('%' :: cs)) st.skipBegin = false) :
    stripS T st 0 ('%' :: cs) i
      = stripS T st 0 (('%' :: cs).drop (commentSpan ('%' :: cs))) (i + commentSpan ('%' :: cs)) := by
  obtain ⟨k, hk⟩ : ∃ k, commentSpan ('%' :: cs) = k + 1 :=
    ⟨commentSpan ('%' :: cs) - 1, by have := (commentSpan_bounds '%' cs).1; omega⟩
  simp only [stripS, beq_self_eq_true, if_true, h, Bool.false_eq_true, if_false]
  rw [stripS_skip, hk]
  simp [Nat.add_assoc, Nat.add_comm 1 k]

theorem strip_reg (T : Tables) (st : PState) (cs : Str) (i n : Nat)
    (h : startsWith (comTxt ('%' :: cs)) st.skipBegin = true)
    (hn : regionLen T st ('%' :: cs) = some n) :
    stripS T st 0 ('%' :: cs) i = stripS T st 0 (('%' :: cs).drop n) (i + n) := by
  obtain ⟨k, hk⟩ : ∃ k, n = k + 1 := ⟨n - 1, by have := regionLen_pos hn; omega⟩
  simp only [stripS, beq_self_eq_true, if_true, h, hn]
  rw [stripS_skip, hk]
  simp [Nat.add_assoc, Nat.add_comm 1 k]

theorem skipText_char (T : PTables) (st : PState) (c : Char) (cs : Str) (hc : c ≠ '%')
    (h : skipTextA T st 0 (c :: cs) = true) :
    okAtS T st c cs = true ∧ skipTextA T st 0 cs = true := by
  simpa [skipTextA, hc] using h

theorem skipText_com (T : PTables) (st : PState) (cs : Str)
    (hb : startsWith (comTxt ('%' :: cs)) st.skipBegin = false)
    (h : skipTextA T st 0 ('%' :: cs) = true) :
    comTokOk T st (comTxt ('%' :: cs)) = true ∧
    skipTextA T st 0 (('%' :: cs).drop (commentSpan ('%' :: cs))) = true := by
  obtain ⟨k, hk⟩ : ∃ k, commentSpan ('%' :: cs) = k + 1 :=
    ⟨commentSpan ('%' :: cs) - 1, by have := (commentSpan_bounds '%' cs).1; omega⟩
  simp only [skipTextA, beq_self_eq_true, if_true, hb, Bool.false_eq_true, if_false,
    Bool.and_eq_true] at h
  rw [skipTextA_skip, hk] at h
  rw [hk]
  simpa using h

theorem skipText_reg (T : PTables) (st : PState) (cs : Str)
    (hb : startsWith (comTxt ('%' :: cs)) st.skipBegin = true)
    (h : skipTextA T st 0 ('%' :: cs) = true) :
    ∃ n, regionLen T.toTables st ('%' :: cs) = some n ∧
      skipTextA T st 0 (('%' :: cs).drop n) = true := by
  simp only [skipTextA, beq_self_eq_true, if_true, hb] at h
  cases hr : regionLen T.toTables st ('%' :: cs) with
  | none => rw [hr] at h; cases h
  | some n =>
    rw [hr] at h
    simp only [] at h
    obtain ⟨k, hk⟩ : ∃ k, n = k + 1 := ⟨n - 1, by have := regionLen_pos hr; omega⟩
    rw [skipTextA_skip, hk] at h
    exact ⟨n, rfl, by rw [hk]; simpa using h⟩

theorem okAtS_okAtC {T : PTables} {st : PState} {c : Char} {cs : Str} (h : okAtS T st c cs = true) :
    okAtC T st c cs = true := by
  simp only [okAtS, Bool.and_eq_true] at h
  exact h.1

theorem drop_text (T : PTables) (st : PState) : ∀ (k : Nat) (s : Str),
    (∀ x ∈ s.take k, x ≠ '%') →
    (skipTextA T st 0 s = true → skipTextA T st 0 (s.drop k) = true) ∧
    (∀ i, stripS T.toTables st 0 s i = posText i (s.take k) ++ stripS T.toTables st 0 (s.drop k) (i + k))
  | 0, s, _ => by simp [posText]
  | k + 1, [], _ => by simp [posText, stripS]
  | k + 1, c :: cs, hx => by
    have hc : c ≠ '%' := hx c (by simp)
    obtain ⟨i1, i2⟩ := drop_text T st k cs (fun x hx' => hx x (by simp [hx']))
    refine ⟨fun h => ?_, fun i => ?_⟩
    · simpa using i1 (skipText_char T st c cs hc h).2
    · rw [strip_char _ _ c cs i hc, i2 (i + 1)]
      simp [posText, Nat.add_assoc, Nat.add_comm 1 k]

theorem begAt_percent (st : PState) (cs : Str) :
    begAt st ('%' :: cs) = startsWith (comTxt ('%' :: cs)) st.skipBegin := by
  simp [begAt]

theorem begAt_char (st : PState) (c : Char) (cs : Str) (h : c ≠ '%') : begAt st (c :: cs) = false := by
  simp [begAt, h]

/-- what the scanner loop yields on a text of the class -/
structure ScanFacts (T : PTables) (st : PState) (pos : Nat) (rest : Str) (steps : List ScanStep) :
    Prop where
  ok : ∀ s ∈ steps, s.diag = none ∧ s.extra = []
  pieces : ∃ ps, steps.map (·.tok) = flat ps ∧ MarkOk st ps ∧ CSeq T st (kept ps) ∧
    (∀ t ∈ kept ps, t.txt ≠ [] ∧ t.fix = false) ∧
    getTxtPos ((kept ps).filter notCom)
      = ((stripS T.toTables st 0 rest pos).map (·.1), (stripS T.toTables st 0 rest pos).map (·.2)) ∧
    (∀ t ts, kept ps = t :: ts → begAt st rest = false → t.txt = firstTokTxtC rest) ∧
    (kept ps).length ≤ rest.length

theorem ScanFacts_nil (T : PTables) (st : PState) (pos : Nat) : ScanFacts T st pos [] [] :=
  ⟨by simp, ⟨[], rfl, trivial, trivial, by simp [kept], by simp [kept, getTxtPos, stripS],
    by simp [kept], by simp [kept]⟩⟩

/-- the scanner loop on a text of the class: no diagnostics (not even inside the skipped
    regions); the token buffer consists of tokens outside regions — plain tokens and ordinary
    comments, a buffer `Comment.seqRun_com` handles — and regions; the kept tokens that are no comments
    spell the reference output, with the source positions -/
theorem scanAll_skip (T : PTables) (st : PState) (src : Str) (pos : Nat) (rest : Str)
    (h : skipTextA T st 0 rest = true) :
      ScanFacts T st pos rest (scanAll T.toTables src pos rest).1 := by
  refine scanAll_of_runs T.toTables src (fun p W a => a = p ∧ skipTextA T st 0 W = true)
    (fun W a ss => ScanFacts T st a W ss) (fun _ a _ => ScanFacts_nil T st a) ?_ pos rest pos ⟨rfl, h⟩
  rintro _ c cs pos ⟨rfl, hin⟩
  by_cases hpc : c = '%'
  · subst hpc
    obtain ⟨b1, b2⟩ := commentSpan_bounds '%' cs
    have hne : comTxt ('%' :: cs) ≠ [] := by
      intro h0
      have := congrArg List.length h0
      simp only [comTxt, List.length_take, List.length_nil] at this
      omega
    have r1 := Scans.step (nextToken_percent T src pos cs) rfl b1
    cases hb : startsWith (comTxt ('%' :: cs)) st.skipBegin with
    | true =>
      -- a skipped region
      obtain ⟨m, hm, hsub⟩ := skipText_reg T st cs hb hin
      obtain ⟨k, hr, rfl⟩ := Option.map_eq_some_iff.mp hm
      obtain ⟨mid, e, r2, h2, h5⟩ := scans_region T.toTables st src _ _ k (pos + commentSpan ('%' :: cs)) hr
      have r := (r1.append r2).to (Nat.add_assoc ..)
      rw [List.drop_drop] at r
      refine ⟨_, _, _, _, by simp, r, ⟨rfl, hsub⟩, fun rs _ I => ?_⟩
      obtain ⟨ps', p1, p2, p3, p4, p5, p6, p7⟩ := I.pieces
      refine ⟨fun x hx => (List.mem_append.mp hx).elim (r.clean x) (I.ok x),
        .reg { kind := .comment, pos := pos, txt := comTxt ('%' :: cs) } (mid.map (·.tok)) e.tok :: ps',
        by simp [flat, Piece.toks, p1], ⟨by simp [isBegTok, hb], ?_, h5, p2⟩, p3, p4, ?_, ?_, ?_⟩
      · intro t ht
        obtain ⟨x, hx, rfl⟩ := List.mem_map.mp ht
        exact h2 x hx
      · simp only [kept]
        rw [p5, strip_reg T.toTables st cs pos _ hb hm]
      · intro t ts _ hbeg
        rw [begAt_percent, hb] at hbeg
        cases hbeg
      · simp only [kept, List.length_drop, List.length_cons] at p7 ⊢
        omega
    | false =>
      -- an ordinary comment
      obtain ⟨hck, hsub⟩ := skipText_com T st cs hb hin
      refine ⟨_, _, _, _, by simp, r1, ⟨rfl, hsub⟩, fun rs _ I => ?_⟩
      obtain ⟨ps', p1, p2, p3, p4, p5, p6, p7⟩ := I.pieces
      simp only [comTokOk, Bool.and_eq_true, Bool.not_eq_true'] at hck
      have hct : ComTok T st { kind := .comment, pos := pos, txt := comTxt ('%' :: cs) } := by
        obtain ⟨k, hk⟩ : ∃ k, commentSpan ('%' :: cs) = k + 1 := ⟨commentSpan ('%' :: cs) - 1, by omega⟩
        exact ⟨rfl, ⟨cs.take k, by simp [comTxt, hk]⟩, hck.1, hck.2⟩
      refine ⟨fun x hx => (List.mem_append.mp hx).elim (r1.clean x) (I.ok x),
        .one { kind := .comment, pos := pos, txt := comTxt ('%' :: cs) } :: ps',
        by simp [flat, Piece.toks, p1], ⟨by simp [isBegTok, hb], p2⟩, ⟨Or.inr hct, p3⟩, ?_, ?_, ?_, ?_⟩
      · intro t ht
        simp only [kept, List.mem_cons] at ht
        rcases ht with rfl | ht
        · exact ⟨hne, rfl⟩
        · exact p4 t ht
      · simp only [kept, List.filter_cons, hct.notCom, Bool.false_eq_true, if_false]
        rw [p5, strip_com T.toTables st cs pos hb]
      · intro t ts he _
        simp only [kept, List.cons.injEq] at he
        rw [← he.1]
        simp [firstTokTxtC, show isSpace '%' = false by decide]
      · simp only [kept, List.length_cons, List.length_drop] at p7 b2 ⊢
        omega
  · -- a text character
    obtain ⟨hatS, _⟩ := skipText_char T st c cs hpc hin
    have hat := okAtS_okAtC hatS
    obtain ⟨s, hp, hone, X, r⟩ := scans_text T src pos c cs (textChar_cases (Bool.and_eq_true_iff.mp hat).2)
    have h1 := hp.len_pos
    have h2 := hp.len_le
    have hnp : ∀ x ∈ (c :: cs).take s.len, x ≠ '%' := by
      intro x hx
      by_cases hsp : isSpace c = true
      · exact Comment.isSpace_ne_percent (X.blank hsp x hx)
      · rw [(hone (by simpa using hsp)).1] at hx
        simp only [List.take_succ_cons, List.take_zero, List.mem_singleton] at hx
        rw [hx]; exact hpc
    obtain ⟨d1, d2⟩ := drop_text T st s.len (c :: cs) hnp
    refine ⟨_, _, _, _, by simp, r, ⟨rfl, d1 hin⟩, fun rs _ I => ?_⟩
    obtain ⟨ps', p1, p2, p3, p4, p5, p6, p7⟩ := I.pieces
    refine ⟨fun x hx => (List.mem_append.mp hx).elim (r.clean x) (I.ok x), .one s.tok :: ps',
      by simp [flat, Piece.toks, p1], ⟨by simp [isBegTok, hp.tok.notComment], p2⟩,
      ⟨Or.inl ⟨hp.tok, ?_⟩, p3⟩, ?_, ?_, ?_, ?_⟩
    · -- the short-macro branch: behind an active character no region starts, so the next
      -- kept token is the next scanner token
      simp only [okAtS, okAtC, Bool.and_eq_true, Bool.or_eq_true, Bool.not_eq_true'] at hatS
      obtain ⟨⟨hact, _⟩, hbeg⟩ := hatS
      rcases hbeg with hna | hbeg
      · exact passTok_text T st X (fun h => (hone h).1) _ (Or.inl hna)
      · refine passTok_text T st X (fun h => (hone h).1) _
          (hact.imp id (fun ⟨hns, hk⟩ => ⟨hns, fun t2 ts hr => ?_⟩))
        rw [(hone hns).1] at p6 p7
        rw [p6 t2 ts hr hbeg]
        rcases hk with hk | hk
        · rw [List.isEmpty_iff.mp hk, hr] at p7
          simp at p7
        · exact hk
    · intro t ht
      simp only [kept, List.mem_cons] at ht
      rcases ht with rfl | ht
      · exact ⟨X.ne, hp.fix⟩
      · exact p4 t ht
    · simp only [kept, List.filter_cons, Comment.notCom_plain hp.tok, if_true]
      rw [getTxtPos_cons_plain _ _ hp.fix, p5, hp.pos, hp.txt, d2 pos, Comment.unzip_posText_append]
    · intro t ts he _
      simp only [kept, List.cons.injEq] at he
      rw [← he.1, hp.first]
      exact (Comment.firstTokTxtC_of_text c cs hpc).symm
    · simp only [kept, List.length_cons, List.length_drop] at p7 h2 ⊢
      omega

/-- the reference output: the characters of `src` outside skipped regions and comments, each with
    its (0-based) source position -/
def stripSkip (T : Tables) (st : PState) (src : Str) : List (Char × Nat) := stripS T st 0 src 0

/-- **Skipped regions on `tex2txt`, complete result record (source form).**  `st1` is the state
    after `Parser.__init__`; no `--defs`, `--extr`, `--repl`, `--unkn`; single-language mode.  The
    pre-pass deletes the regions (`skipPass_pieces`), the loop drops the comments among the kept
    tokens (`Comment.seq_com_id`) and leaves the state as it is: no diagnostic, no unknown — the
    tokens inside the regions never reach the expander. -/
theorem tex2txt_skip_text (T : PTables) (o : Options) (fs : FS) (thresh : Nat) (src : Str)
    (fuel : Nat) (st1 : PState)
    (hdefs : o.defs = []) (hextr : o.extr = []) (hrepl : o.hasRepl = false)
    (hunkn : o.unkn = false)
    (hinit : initParser T fuel o (initialState T o false fs) = .ok ((), st1))
    (h : skipText T st1 src = true) (hf : src.length + 2 ≤ fuel) :
    ∃ toks, tex2txt T fuel src o false thresh fs
      = .ok { toks := toks, txt := (stripSkip T.toTables st1 src).map (·.1),
              pos := (stripSkip T.toTables st1 src).map (·.2 + 1), parts := [], unknowns := [],
              diags := st1.diags, foreign := false } := by
  obtain ⟨f, rfl⟩ : ∃ f, fuel = f + 1 := ⟨fuel - 1, by omega⟩
  have F := scanAll_skip T st1 src 0 src h
  obtain ⟨hd, ht⟩ := scan_of_scanAll F.ok
  obtain ⟨ps, p1, hmark, hseq, hne, htp, _, hlen⟩ := F.pieces
  let st' := workState (rootState st1) src (scan T.toTables src).diags
  have hr : Ext st1 st' := Reads.ext ⟨rfl, rfl⟩
  have hsp := skipPass_pieces hr ps ((flat ps).length + 1) [] (by have := nReg_le_flat ps; omega) hmark
  rw [← p1, ← ht, List.nil_append] at hsp
  have hw := parserWork_of_seq_diags hsp (Comment.seq_com_id T hr none _ f (by omega) hseq
    (fun t ht' => (hne t ht').1))
  refine ⟨(kept ps).filter notCom,
    (tex2txt_of_parse thresh hdefs hextr hrepl hunkn hinit (parse_of_parserWork hw)).trans ?_⟩
  simp [st', workState, rootState, flowsToks, htp, hd, stripSkip]

end Skip
end Yalafi
