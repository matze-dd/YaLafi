/-
  Properties/SystemMLMixStmt.lean — SYSTEM-LEVEL statements for MULTI-LANGUAGE mode on documents that
  MIX the language constructs of package babel (`\selectlanguage`, `\foreignlanguage{..}{..}`, the
  `otherlanguage[*]` environments, nested to any depth): the filter theorem `C12_mixed_languages_e2e`
  (`r.parts = refParts …`, pieces with PLACEHOLDERS for short inclusions) COMPOSED with the shell's
  assembly of the submitted pieces and its report pipeline (Properties/SystemMLStmt.lean:
  `C14_assemble_run`, `C14_ml_run_reported`, `C14_ml_runs_sorted`, which are grammar-free).

    `C14_flagged_word_mlmix_e2e`   a word of a text segment or of the text of an insertion is a run
                                that spells the word in a request of the shell; that request is
                                submitted under the language code in force at the word (`langAt`, the
                                stack discipline on the document); whatever the proofreader answers
                                for the requests, a match on a run with the map entries of the word
                                is reported at the word's line, column and length in the LaTeX file,
                                in all formats
    `C14_flagged_word_mlmix_unique`, `C14_flagged_word_mlmix_exactly_one`   EXACTLY ONE request and one
                                offset have the map entries of the word, if the word has at least two
                                characters or its first character is not the first visible character
                                of a short inclusion (`phFree`); `C14_mlmix_single_char_not_unique`:
                                for a one-character word that IS the first visible character of a
                                short inclusion uniqueness fails (its map entry is repeated under the
                                placeholder in the surrounding request)
    `C14_sorted_mlmix_e2e`      two flagged words, possibly in pieces of different languages, are
                                reported in file order
  Instances on the tables of the current /repo with package babel (`_current`), and the whole
  pipeline on a document with a short insertion (placeholder), a long insertion (piece of its own)
  and an `otherlanguage` environment (the shell's part evaluated by the kernel on the reference parts).

  Vocabulary: `Sub`, `submit`, `shiftOf`, `shiftMatch`, `Req`, `shellPieces`, `withAnswers`, `RunAt`,
  `WordReported`, `HtmlWord` as in Properties/SystemMLStmt.lean;
    `hostOff sg = some d`, `hostText sg`   the segment `sg` holds text: a text segment (`d = 0`, its
                      text) or an insertion `\foreignlanguage{n}{text}` (`d = |\foreignlanguage{n}{|`);
    the flagged word: `segs = pre ++ sg :: post`, `hostText sg = a ++ w ++ b`, file offset
                      `q = |render pre| + d + |a|`.
    `phFree plan q`   (computable) no non-blank inclusion that the plan `refPlan` represents by a
                      placeholder has its first visible character (`phPos`) at file offset `q`.
  Proofs and side conditions: headers of Proofs/SystemMLMix.lean, Proofs/SystemMLMixUniq.lean; the side
  conditions are those of `C12_mixed_languages_e2e` plus `wordEnds w` (first and last character of the
  flagged stretch no white space).
  NOT covered: flagged stretches that are not inside ONE text segment / ONE insertion text (a match
  that covers a placeholder or crosses an insertion: on the example below the five map entries
  under the placeholder `L-L-L` of the English request all are `34`, the entry of the `u` of the
  French insertion at file offset 33 — `C14_flagged_word_mlmix_example_eval`,
  `C14_mlmix_single_char_not_unique` —, so a match on the placeholder points to that one character;
  what the shell reports for it is not evaluated); the white space behind `\end{otherlanguage[*]}`; flagged stretches with
  white space at their ends; the rule options of a request (`--ml-disable…` for pieces of at most
  `--ml-rule-threshold` words); the matches the shell creates itself; the texts of the reports other
  than the numbers; everything `C12_mixed_languages_e2e` does not cover (optional argument of
  `\foreignlanguage`, markup inside an insertion, macros / maths / comments in the text).
-/
import YalafiVerif.Proofs.SystemMLMixUniq
import YalafiVerif.Properties.PlainLangMixStmt
import YalafiVerif.Properties.SystemMLStmt
import YalafiVerif.Generated.Init
namespace Yalafi
namespace PlainLangMix
open SystemML SystemWord Reports Html
open Sys
open PlainForeign (lcOf)

/-- **a flagged word in multi-language mode, end to end through filter and shell** (the documents and
    hypotheses of `C12_mixed_languages_e2e`: inert text, `\selectlanguage`, `\foreignlanguage`,
    `otherlanguage[*]` environments, package babel, `multi = true`; NO hypothesis on the `…_break`
    flags or on `thresh`).  Let `w` be a stretch of a text segment or of the text of an insertion
    (`segs = pre ++ sg :: post`, `hostOff sg = some d`, `hostText sg = a ++ w ++ b`) whose first and
    last characters are no white space, `q = |render pre| + d + |a|`, `l = |w|`.  Then
    * `w` stands at offset `q` of the LaTeX file;
    * `tex2txt` succeeds; every request of the shell (`shellPieces r.parts`) has a map as long as its
      text — also the pieces with placeholders — and is not blank;
    * THERE IS a request number `i` and an offset `off` such that the `l` map entries of that request
      from `off` are `q+1, …, q+l`, its text there is `w`, and the request is submitted under the
      language code in force at the word: `langAt T [o.lang] 0 segs q` (initial language;
      `\selectlanguage` replaces the top of the stack; inside the text of `\foreignlanguage{n}{…}` the
      language of `n`; `\begin{otherlanguage}` pushes, `\end{otherlanguage}` pops);
    * for EVERY request number `i` and offset `off` with these map entries, whatever the proofreader
      answers for the requests (`subs`: the requests with ANY lists of matches): every match `m` of
      the answer for request `i` is in `matches_tot` with the offset `m.offset + shiftOf (requests
      before i)`; at the shifted offset of the TOTAL map `map_match_position` yields offset `q` and
      length `l`; the text report, JSON, XML, XML-b name the line and column of `w` in the file
      (`WordReported`); the HTML report accepts the match and highlights `src[q : q+l] = w`
      (`HtmlWord`).
    Uniqueness of the request: `C14_flagged_word_mlmix_unique` below. -/
theorem C14_flagged_word_mlmix_e2e (T : PTables) (o : Options) (fs : FS) (thresh : Nat) (segs : List Seg)
    (fuel : Nat) (st1 : PState)
    (hdefs : o.defs = []) (hextr : o.extr = []) (hrepl : o.hasRepl = false)
    (hinit : initParser T fuel o (initialState T o true fs) = .ok ((), st1))
    (hml : st1.multiLanguage = true) (hstk : st1.langStack ≠ [])
    (hlc : lcOk (lcOf st1) = true)
    (hok : segsOk T st1 segs = true)
    (hf : (render segs).length + 2 ≤ fuel)
    (pre post : List Seg) (sg : Seg) (d : Nat) (a w b : Str) (hsegs : segs = pre ++ sg :: post)
    (hd : hostOff sg = some d) (ht : hostText sg = a ++ (w ++ b)) (hw : wordEnds w = true) :
    ((render segs).drop ((render pre).length + d + a.length)).take w.length = w ∧
    (render pre).length + d + a.length + w.length ≤ (render segs).length ∧
    ∃ r, tex2txt T fuel (render segs) o true thresh fs = .ok r ∧
      (∀ pc ∈ shellPieces r.parts, pc.2.1.length = pc.2.2.length ∧ isBlank pc.2.1 = false) ∧
      (∃ (i : Nat) (pc : Req) (off : Nat), (shellPieces r.parts)[i]? = some pc ∧
        off + w.length ≤ pc.2.1.length ∧
        RunAt pc.2.2 off w.length ((render pre).length + d + a.length + 1) ∧
        (pc.2.1.drop off).take w.length = w ∧
        pc.1 = langAt T [o.lang] 0 segs ((render pre).length + d + a.length)) ∧
      ∀ (i : Nat) (pc : Req) (off : Nat), (shellPieces r.parts)[i]? = some pc →
        RunAt pc.2.2 off w.length ((render pre).length + d + a.length + 1) →
        ∀ (subs : List Sub), subs.map (·.1) = (shellPieces r.parts).map (·.2) →
          ∃ x, subs[i]? = some x ∧ x.1 = pc.2 ∧
            (∀ m ∈ x.2, shiftMatch (shiftOf (subs.take i)) m ∈ (submit subs).hits) ∧
            off + shiftOf (subs.take i) + w.length < (submit subs).charmapTot.length ∧
            mapMatch (submit subs).charmapTot (render segs) ((off + shiftOf (subs.take i) : Nat) : Int)
                (some (.int w.length))
              = .ok ((((render pre).length + d + a.length : Nat) : Int), (w.length : Int)) ∧
            reportAll (submit subs).charmapTot (render segs) ((off + shiftOf (subs.take i) : Nat) : Int)
                (some (.int w.length))
              = .ok (locate (render segs) (((render pre).length + d + a.length : Nat) : Int) (w.length : Int)) ∧
            WordReported (render segs) ((render pre).length + d + a.length) w.length
              (locate (render segs) (((render pre).length + d + a.length : Nat) : Int) (w.length : Int)) ∧
            HtmlWord (render segs) (submit subs).charmapTot (off + shiftOf (subs.take i)) w.length
              ((render pre).length + d + a.length) := by
  obtain ⟨⟨c, cs, hwc, _⟩, _⟩ := wordEnds_facts hw
  obtain ⟨L, R, hsrc, hL⟩ := word_source segs pre post sg d a w b hsegs hd ht
  have hword : ((render segs).drop ((render pre).length + d + a.length)).take w.length = w := by
    rw [hsrc, List.drop_left' hL, List.take_left]
  obtain ⟨hl, hin, hbs⟩ := word_in_file hwc
    (host_not_backslash T st1 pre post sg d a (cs ++ b) c (by rw [← hsegs]; exact hok) hd
      (by rw [hwc] at ht; simpa using ht)) hword
  obtain ⟨r, h1, h2, _⟩ := tex2txt_mix T o fs thresh segs fuel st1 hdefs hextr hrepl
    hinit hml hstk hlc hok hf
  have hlen := shellPieces_lengths (refParts_lengths T o.lang thresh (lcOf st1) segs)
  rw [← h2] at hlen
  refine ⟨hword, hin, r, h1, hlen, ?_, ?_⟩
  · obtain ⟨pc, hpc, off, g1, g2, g3, g4⟩ := word_in_piece T o.lang thresh (lcOf st1) segs pre post sg d a w b
      hsegs hd ht hw
    obtain ⟨i, hi⟩ := List.getElem?_of_mem hpc
    rw [h2]
    exact ⟨i, pc, off, hi, g1, g2, g3, g4⟩
  · intro i pc off hi hrun
    exact piece_run_reported (render segs) _ (fun pc hpc => (hlen pc hpc).1) i pc off w.length _ hi hl hrun
      hin hbs

/-- **exactly one request, exactly one offset.**  Same documents and word.  If `w` has at least two
    characters, OR if its first character is not the first visible character of a non-blank
    inclusion that is represented by a placeholder (`phFree`, computable from the plan `refPlan` of
    `C12_mix_word_once`): two requests of the shell and two offsets whose `l` map entries are
    `q+1, …, q+l` are the same request and the same offset.
    (A short inclusion is a piece of its own AND a placeholder in the surrounding piece; all map
    entries of the placeholder repeat ONE position, that of the first visible character of the
    inclusion — so a run of two entries `q+1, q+2` cannot lie on it, but the single entry `q+1` can:
    `C14_mlmix_single_char_not_unique`.) -/
theorem C14_flagged_word_mlmix_unique (T : PTables) (o : Options) (fs : FS) (thresh : Nat) (segs : List Seg)
    (fuel : Nat) (st1 : PState)
    (hdefs : o.defs = []) (hextr : o.extr = []) (hrepl : o.hasRepl = false)
    (hinit : initParser T fuel o (initialState T o true fs) = .ok ((), st1))
    (hml : st1.multiLanguage = true) (hstk : st1.langStack ≠ [])
    (hlc : lcOk (lcOf st1) = true)
    (hok : segsOk T st1 segs = true)
    (hf : (render segs).length + 2 ≤ fuel)
    (pre post : List Seg) (sg : Seg) (d : Nat) (a w b : Str) (hsegs : segs = pre ++ sg :: post)
    (hd : hostOff sg = some d) (ht : hostText sg = a ++ (w ++ b)) (hw : wordEnds w = true)
    (hfree : 2 ≤ w.length ∨
      phFree (refPlan T o.lang thresh segs) ((render pre).length + d + a.length) = true) :
    ∃ r, tex2txt T fuel (render segs) o true thresh fs = .ok r ∧
      ∀ (i j : Nat) (pc pc' : Req) (off off' : Nat),
        (shellPieces r.parts)[i]? = some pc → (shellPieces r.parts)[j]? = some pc' →
        RunAt pc.2.2 off w.length ((render pre).length + d + a.length + 1) →
        RunAt pc'.2.2 off' w.length ((render pre).length + d + a.length + 1) → i = j ∧ off = off' :=
  Sys.flagged_word_mlmix_unique T o fs thresh segs fuel st1 hdefs hextr hrepl hinit hml hstk hlc hok hf
    pre post sg d a w b hsegs hd ht hw hfree

/-- **exactly one piece** (the form of `C14_flagged_word_ml_e2e`): under the hypotheses of
    `C14_flagged_word_mlmix_unique` there are a request number `i` and an offset `off` with the map
    entries `q+1, …, q+l`; the text there is `w`; the request is submitted under the language code
    in force at the word; and NO OTHER request, and no other offset, has these map entries. -/
theorem C14_flagged_word_mlmix_exactly_one (T : PTables) (o : Options) (fs : FS) (thresh : Nat)
    (segs : List Seg) (fuel : Nat) (st1 : PState)
    (hdefs : o.defs = []) (hextr : o.extr = []) (hrepl : o.hasRepl = false)
    (hinit : initParser T fuel o (initialState T o true fs) = .ok ((), st1))
    (hml : st1.multiLanguage = true) (hstk : st1.langStack ≠ [])
    (hlc : lcOk (lcOf st1) = true)
    (hok : segsOk T st1 segs = true)
    (hf : (render segs).length + 2 ≤ fuel)
    (pre post : List Seg) (sg : Seg) (d : Nat) (a w b : Str) (hsegs : segs = pre ++ sg :: post)
    (hd : hostOff sg = some d) (ht : hostText sg = a ++ (w ++ b)) (hw : wordEnds w = true)
    (hfree : 2 ≤ w.length ∨
      phFree (refPlan T o.lang thresh segs) ((render pre).length + d + a.length) = true) :
    ∃ r, tex2txt T fuel (render segs) o true thresh fs = .ok r ∧
      ∃ (i : Nat) (pc : Req) (off : Nat), (shellPieces r.parts)[i]? = some pc ∧
        off + w.length ≤ pc.2.1.length ∧
        RunAt pc.2.2 off w.length ((render pre).length + d + a.length + 1) ∧
        (pc.2.1.drop off).take w.length = w ∧
        pc.1 = langAt T [o.lang] 0 segs ((render pre).length + d + a.length) ∧
        ∀ (j : Nat) (pc' : Req) (off' : Nat), (shellPieces r.parts)[j]? = some pc' →
          RunAt pc'.2.2 off' w.length ((render pre).length + d + a.length + 1) → j = i ∧ off' = off := by
  obtain ⟨_, _, r, h1, _, ⟨i, pc, off, e1, e2, e3, e4, e5⟩, _⟩ := C14_flagged_word_mlmix_e2e T o fs thresh segs
    fuel st1 hdefs hextr hrepl hinit hml hstk hlc hok hf pre post sg d a w b hsegs hd ht hw
  obtain ⟨r', h1', hu⟩ := C14_flagged_word_mlmix_unique T o fs thresh segs fuel st1 hdefs hextr hrepl hinit
    hml hstk hlc hok hf pre post sg d a w b hsegs hd ht hw hfree
  rw [h1] at h1'
  cases h1'
  exact ⟨r, h1, i, pc, off, e1, e2, e3, e4, e5, fun j pc' off' hj hr' => hu j i pc' pc off' off hj e1 hr' e3⟩

/-- **two flagged words are reported in the order of the file, across language parts** (the same
    documents).  Two words of text segments or insertions, the first one standing first in the file:
    each is a run in a request of the shell; and whenever the proofreader flags them — matches `m1`,
    `m2` anywhere in its answers for the requests number `i1`, `i2` (the same request, or requests of
    different languages in any order), offsets with the map entries of the words — the shell's sort
    of `matches_tot` puts the (shifted) `m1` in front of the (shifted) `m2`. -/
theorem C14_sorted_mlmix_e2e (T : PTables) (o : Options) (fs : FS) (thresh : Nat) (segs : List Seg)
    (fuel : Nat) (st1 : PState)
    (hdefs : o.defs = []) (hextr : o.extr = []) (hrepl : o.hasRepl = false)
    (hinit : initParser T fuel o (initialState T o true fs) = .ok ((), st1))
    (hml : st1.multiLanguage = true) (hstk : st1.langStack ≠ [])
    (hlc : lcOk (lcOf st1) = true)
    (hok : segsOk T st1 segs = true)
    (hf : (render segs).length + 2 ≤ fuel)
    (pre1 post1 : List Seg) (sg1 : Seg) (d1 : Nat) (a1 w1 b1 : Str) (hsegs1 : segs = pre1 ++ sg1 :: post1)
    (hd1 : hostOff sg1 = some d1) (ht1 : hostText sg1 = a1 ++ (w1 ++ b1))
    (pre2 post2 : List Seg) (sg2 : Seg) (d2 : Nat) (a2 w2 b2 : Str) (hsegs2 : segs = pre2 ++ sg2 :: post2)
    (hd2 : hostOff sg2 = some d2) (ht2 : hostText sg2 = a2 ++ (w2 ++ b2))
    (hw1 : wordEnds w1 = true) (hw2 : wordEnds w2 = true)
    (hlt : (render pre1).length + d1 + a1.length < (render pre2).length + d2 + a2.length) :
    ∃ r, tex2txt T fuel (render segs) o true thresh fs = .ok r ∧
      (∃ (i1 : Nat) (pc1 : Req) (off1 i2 : Nat) (pc2 : Req) (off2 : Nat),
        (shellPieces r.parts)[i1]? = some pc1 ∧ (shellPieces r.parts)[i2]? = some pc2 ∧
        RunAt pc1.2.2 off1 w1.length ((render pre1).length + d1 + a1.length + 1) ∧
        RunAt pc2.2.2 off2 w2.length ((render pre2).length + d2 + a2.length + 1)) ∧
      ∀ (subs : List Sub) (i1 i2 : Nat) (x1 x2 : Sub) (m1 m2 : RawMatch) (off1 off2 : Nat) (out : List RawMatch),
        subs.map (·.1) = (shellPieces r.parts).map (·.2) →
        subs[i1]? = some x1 → subs[i2]? = some x2 → m1 ∈ x1.2 → m2 ∈ x2.2 →
        m1.offset = (off1 : Int) → m2.offset = (off2 : Int) →
        RunAt x1.1.2 off1 w1.length ((render pre1).length + d1 + a1.length + 1) →
        RunAt x2.1.2 off2 w2.length ((render pre2).length + d2 + a2.length + 1) →
        sortMatches (submit subs).charmapTot (submit subs).hits = .ok out →
        ∃ X Y Z, out = X ++ shiftMatch (shiftOf (subs.take i1)) m1
          :: (Y ++ shiftMatch (shiftOf (subs.take i2)) m2 :: Z) := by
  obtain ⟨r, h1, h2, _⟩ := tex2txt_mix T o fs thresh segs fuel st1 hdefs hextr hrepl
    hinit hml hstk hlc hok hf
  refine ⟨r, h1, ?_, ?_⟩
  · obtain ⟨pc1, hpc1, off1, _, g1, _⟩ := word_in_piece T o.lang thresh (lcOf st1) segs pre1 post1 sg1 d1
      a1 w1 b1 hsegs1 hd1 ht1 hw1
    obtain ⟨pc2, hpc2, off2, _, g2, _⟩ := word_in_piece T o.lang thresh (lcOf st1) segs pre2 post2 sg2 d2
      a2 w2 b2 hsegs2 hd2 ht2 hw2
    obtain ⟨i1, e1⟩ := List.getElem?_of_mem hpc1
    obtain ⟨i2, e2⟩ := List.getElem?_of_mem hpc2
    rw [h2]
    exact ⟨i1, pc1, off1, i2, pc2, off2, e1, e2, g1, g2⟩
  · intro subs i1 i2 x1 x2 m1 m2 off1 off2 out hsub hx1 hx2 hm1 hm2 ho1 ho2 hr1 hr2 hs
    rw [h2] at hsub
    exact piece_runs_sorted _
      (fun pc hpc => (shellPieces_lengths (refParts_lengths T o.lang thresh (lcOf st1) segs) pc hpc).1)
      subs hsub i1 i2 x1 x2 hx1 hx2 m1 m2 hm1 hm2 off1 w1.length _ off2 w2.length _ ho1 ho2
      (wordEnds_pos hw1) (wordEnds_pos hw2) hr1 hr2 hlt out hs

/-! ## instances on the tables of the current /repo (package babel, `--lang en-GB`) -/

open Generated

/-- `C14_flagged_word_mlmix_e2e` for the CURRENT code: tables translated from /repo, `--pack babel
    --lang en-GB`, multi-language mode, parser initialisation evaluated by the kernel
    (`initParser_babel`), any `ml_continue_thresh` -/
theorem C14_flagged_word_mlmix_e2e_current (segs : List Seg) (thresh : Nat)
    (hok : segsOk theTables stBabel segs = true)
    (hf : (render segs).length + 2 ≤ bigFuel)
    (pre post : List Seg) (sg : Seg) (d : Nat) (a w b : Str) (hsegs : segs = pre ++ sg :: post)
    (hd : hostOff sg = some d) (ht : hostText sg = a ++ (w ++ b)) (hw : wordEnds w = true) :
    ((render segs).drop ((render pre).length + d + a.length)).take w.length = w ∧
    ∃ r, tex2txt theTables bigFuel (render segs) babelOptions true thresh [] = .ok r ∧
      (∃ (i : Nat) (pc : Req) (off : Nat), (shellPieces r.parts)[i]? = some pc ∧
        RunAt pc.2.2 off w.length ((render pre).length + d + a.length + 1) ∧
        (pc.2.1.drop off).take w.length = w ∧
        pc.1 = langAt theTables [babelOptions.lang] 0 segs ((render pre).length + d + a.length)) ∧
      ∀ (i : Nat) (pc : Req) (off : Nat), (shellPieces r.parts)[i]? = some pc →
        RunAt pc.2.2 off w.length ((render pre).length + d + a.length + 1) →
        ∀ (subs : List Sub), subs.map (·.1) = (shellPieces r.parts).map (·.2) →
          ∃ x, subs[i]? = some x ∧ x.1 = pc.2 ∧
            (∀ m ∈ x.2, shiftMatch (shiftOf (subs.take i)) m ∈ (submit subs).hits) ∧
            reportAll (submit subs).charmapTot (render segs) ((off + shiftOf (subs.take i) : Nat) : Int)
                (some (.int w.length))
              = .ok (locate (render segs) (((render pre).length + d + a.length : Nat) : Int) (w.length : Int)) ∧
            WordReported (render segs) ((render pre).length + d + a.length) w.length
              (locate (render segs) (((render pre).length + d + a.length : Nat) : Int) (w.length : Int)) ∧
            HtmlWord (render segs) (submit subs).charmapTot (off + shiftOf (subs.take i)) w.length
              ((render pre).length + d + a.length) := by
  obtain ⟨h1, _, r, h3, _, ⟨i, pc, off, e1, _, e3, e4, e5⟩, h6⟩ := C14_flagged_word_mlmix_e2e theTables
    babelOptions [] thresh segs bigFuel stBabel rfl rfl rfl initParser_babel PlainLang.stBabel_multi
    PlainForeign.stBabel_stack stBabel_lcOk hok hf pre post sg d a w b hsegs hd ht hw
  refine ⟨h1, r, h3, ⟨i, pc, off, e1, e3, e4, e5⟩, ?_⟩
  intro i pc off hi hrun subs hsub
  obtain ⟨x, k1, k2, k3, _, _, k6, k7, k8⟩ := h6 i pc off hi hrun subs hsub
  exact ⟨x, k1, k2, k3, k6, k7, k8⟩

/-- `C14_flagged_word_mlmix_exactly_one` for the CURRENT code -/
theorem C14_flagged_word_mlmix_exactly_one_current (segs : List Seg) (thresh : Nat)
    (hok : segsOk theTables stBabel segs = true)
    (hf : (render segs).length + 2 ≤ bigFuel)
    (pre post : List Seg) (sg : Seg) (d : Nat) (a w b : Str) (hsegs : segs = pre ++ sg :: post)
    (hd : hostOff sg = some d) (ht : hostText sg = a ++ (w ++ b)) (hw : wordEnds w = true)
    (hfree : 2 ≤ w.length ∨
      phFree (refPlan theTables babelOptions.lang thresh segs) ((render pre).length + d + a.length) = true) :
    ∃ r, tex2txt theTables bigFuel (render segs) babelOptions true thresh [] = .ok r ∧
      ∃ (i : Nat) (pc : Req) (off : Nat), (shellPieces r.parts)[i]? = some pc ∧
        off + w.length ≤ pc.2.1.length ∧
        RunAt pc.2.2 off w.length ((render pre).length + d + a.length + 1) ∧
        (pc.2.1.drop off).take w.length = w ∧
        pc.1 = langAt theTables [babelOptions.lang] 0 segs ((render pre).length + d + a.length) ∧
        ∀ (j : Nat) (pc' : Req) (off' : Nat), (shellPieces r.parts)[j]? = some pc' →
          RunAt pc'.2.2 off' w.length ((render pre).length + d + a.length + 1) → j = i ∧ off' = off :=
  C14_flagged_word_mlmix_exactly_one theTables babelOptions [] thresh segs bigFuel stBabel rfl rfl rfl
    initParser_babel PlainLang.stBabel_multi PlainForeign.stBabel_stack stBabel_lcOk hok hf
    pre post sg d a w b hsegs hd ht hw hfree

/-- a document with a SHORT insertion (two words: a placeholder in the English piece AND a piece of
    its own), a LONG insertion (a piece of its own that cuts the English text) and an `otherlanguage`
    environment on lines of its own:

        This is \foreignlanguage{french}{un mot} and \foreignlanguage{german}{ein langer deutscher Satz} here.
        \begin{otherlanguage}{russian}
        Привет, мир и люди.
        \end{otherlanguage}
        The end.

    The Python code gives the parts of `C14_flagged_word_mlmix_example_eval` on this document
    (`tex2txt.tex2txt(doc, Options(pack='babel', lang='en-GB'), multi_language=True,
    modify_parms=… ml_continue_thresh = 2)`). -/
def mixSegs : List Seg :=
  [.txt "This is ".toList, .frn "french".toList "un mot".toList, .txt " and ".toList,
   .frn "german".toList "ein langer deutscher Satz".toList, .txt " here.\n".toList,
   .beg false "russian".toList, .txt "\nПривет, мир и люди.\n".toList, .fin false "\n".toList,
   .txt "The end.".toList]

theorem mixSegs_render : render mixSegs =
    "This is \\foreignlanguage{french}{un mot} and \\foreignlanguage{german}{ein langer deutscher Satz} here.\n\\begin{otherlanguage}{russian}\nПривет, мир и люди.\n\\end{otherlanguage}\nThe end.".toList := by
  unfold mixSegs; (repeat rw [String.toList_ofList]); decide +kernel

/-- the side conditions hold for this document; the words `mot` (in the short insertion, file offset
    36), `deutscher` (in the long insertion, offset 81), `мир` (in the environment, offset 142: line
    3, column 9) and `end` (offset 178: line 5, column 5) are stretches of host segments with visible
    ends, and the language codes in force there are `fr`, `de-DE`, `ru-RU`, `en-GB` -/
theorem C14_flagged_word_mlmix_example_current :
    segsOk theTables stBabel mixSegs = true ∧
    (mixSegs = mixSegs.take 1 ++ .frn "french".toList "un mot".toList :: mixSegs.drop 2 ∧
      hostOff (.frn "french".toList "un mot".toList) = some 25 ∧
      hostText (.frn "french".toList "un mot".toList) = "un ".toList ++ ("mot".toList ++ []) ∧
      wordEnds "mot".toList = true ∧
      (render (mixSegs.take 1)).length + 25 + "un ".toList.length = 36 ∧
      langAt theTables [babelOptions.lang] 0 mixSegs 36 = "fr".toList) ∧
    (mixSegs = mixSegs.take 3 ++ .frn "german".toList "ein langer deutscher Satz".toList :: mixSegs.drop 4 ∧
      hostOff (.frn "german".toList "ein langer deutscher Satz".toList) = some 25 ∧
      hostText (.frn "german".toList "ein langer deutscher Satz".toList)
        = "ein langer ".toList ++ ("deutscher".toList ++ " Satz".toList) ∧
      wordEnds "deutscher".toList = true ∧
      (render (mixSegs.take 3)).length + 25 + "ein langer ".toList.length = 81 ∧
      langAt theTables [babelOptions.lang] 0 mixSegs 81 = "de-DE".toList) ∧
    (mixSegs = mixSegs.take 6 ++ .txt "\nПривет, мир и люди.\n".toList :: mixSegs.drop 7 ∧
      hostText (.txt "\nПривет, мир и люди.\n".toList)
        = "\nПривет, ".toList ++ ("мир".toList ++ " и люди.\n".toList) ∧
      wordEnds "мир".toList = true ∧
      (render (mixSegs.take 6)).length + 0 + "\nПривет, ".toList.length = 142 ∧
      langAt theTables [babelOptions.lang] 0 mixSegs 142 = "ru-RU".toList) ∧
    (mixSegs = mixSegs.take 8 ++ .txt "The end.".toList :: mixSegs.drop 9 ∧
      hostText (.txt "The end.".toList) = "The ".toList ++ ("end".toList ++ ".".toList) ∧
      wordEnds "end".toList = true ∧
      (render (mixSegs.take 8)).length + 0 + "The ".toList.length = 178 ∧
      langAt theTables [babelOptions.lang] 0 mixSegs 178 = "en-GB".toList) := by
  rw [stBabel_eq]; unfold mixSegs; (repeat rw [String.toList_ofList]); decide +kernel

/-- `C12_mixed_languages_e2e` applies to this document: its parts are those of the reference -/
theorem mixSegs_parts :
    ∃ r, tex2txt theTables bigFuel (render mixSegs) babelOptions true 2 [] = .ok r ∧
      r.parts = refParts theTables babelOptions.lang 2 (lcOf stBabel) mixSegs := by
  obtain ⟨r, h1, h2, _⟩ := C12_mixed_languages_e2e theTables babelOptions [] 2 mixSegs bigFuel stBabel
    rfl rfl rfl initParser_babel PlainLang.stBabel_multi PlainForeign.stBabel_stack stBabel_lcOk
    C14_flagged_word_mlmix_example_current.1 (by decide +kernel)
  exact ⟨r, h1, h2⟩

/-- … so the theorem says about the word `mot` of the SHORT insertion (no evaluation of the filter or
    of the shell's assembly, only of `locate` on the source): there is a request with the map entries
    `37, 38, 39` that spells `mot`, submitted under `fr` — although the insertion is ALSO represented
    by the placeholder `L-L-L` in the English request —; and whatever the proofreader answers for the
    requests, a match on a run with these map entries is reported at line 1, column 37, length 3 in
    all formats -/
theorem C14_flagged_word_mlmix_example :
    ∃ r, tex2txt theTables bigFuel (render mixSegs) babelOptions true 2 [] = .ok r ∧
      (∃ (i : Nat) (pc : Req) (off : Nat), (shellPieces r.parts)[i]? = some pc ∧ RunAt pc.2.2 off 3 37 ∧
        (pc.2.1.drop off).take 3 = "mot".toList ∧ pc.1 = "fr".toList) ∧
      ∀ (i : Nat) (pc : Req) (off : Nat), (shellPieces r.parts)[i]? = some pc → RunAt pc.2.2 off 3 37 →
        ∀ (subs : List Sub), subs.map (·.1) = (shellPieces r.parts).map (·.2) →
          ∃ x, subs[i]? = some x ∧ x.1 = pc.2 ∧
            (∀ m ∈ x.2, shiftMatch (shiftOf (subs.take i)) m ∈ (submit subs).hits) ∧
            reportAll (submit subs).charmapTot (render mixSegs)
                ((off + shiftOf (subs.take i) : Nat) : Int) (some (.int 3))
              = .ok { offset := 36, length := 3, lin := 1, col := 37, json := ⟨0, 36, 0, 39⟩,
                      xml := ⟨0, 36, 0, 39⟩, xmlb := ⟨0, 36, 0, 39⟩ } := by
  obtain ⟨hok, ⟨hsegs, hd, ht, hw, hp, hlang⟩, _, _, _⟩ := C14_flagged_word_mlmix_example_current
  obtain ⟨_, r, h1, h2, h3⟩ := C14_flagged_word_mlmix_e2e_current mixSegs 2 hok (by decide +kernel)
    _ _ _ _ _ _ _ hsegs hd ht hw
  rw [hp] at h2 h3
  rw [hlang] at h2
  have hl : "mot".toList.length = 3 := rfl
  rw [hl] at h2 h3
  have hloc : locate (render mixSegs) ((36 : Nat) : Int) ((3 : Nat) : Int)
      = { offset := 36, length := 3, lin := 1, col := 37, json := ⟨0, 36, 0, 39⟩,
          xml := ⟨0, 36, 0, 39⟩, xmlb := ⟨0, 36, 0, 39⟩ } := by decide +kernel
  refine ⟨r, h1, h2, ?_⟩
  intro i pc off hi hrun subs hsub
  obtain ⟨x, k1, k2, k3, k4, _, _⟩ := h3 i pc off hi hrun subs hsub
  rw [hloc] at k4
  exact ⟨x, k1, k2, k3, k4⟩

/-- … and the whole pipeline (`ml_continue_thresh = 2`): `tex2txt` in multi-language mode (its parts
    are those of the reference, `mixSegs_parts`); behind it, evaluated by the kernel: the shell's requests
        `fr`    `un mot`                       (the short insertion, a piece of its own)
        `en-GB` `This is L-L-L and `           (the placeholder: five map entries `34`)
        `en-GB` ` here.⏎`
        `en-GB` `The end.`
        `de-DE` `ein langer deutscher Satz`    (the long insertion cuts the English text)
        `ru-RU` `Привет, мир и люди.⏎`         (the lines of `\begin…` and `\end…` are gone);
    the proofreader's answers "offset 3" (`mot`) for request 0, "offset 4" (`end`) for request 3,
    "offset 11" (`deutscher`) for request 4, "offset 8" (`мир`) for request 5; the assembly (shifts
    0, 8, 28, 37, 47, 74; offsets 3, 41, 58, 82); `map_match_position` on the total map, the
    generators, the HTML highlight, the sort:
    `mot` is reported at line 1, column 37, length 3 (file offset 36); `deutscher` at line 1, column
    82 (offset 81); `мир` at line 3, column 9 (offset 142; byte column 14); `end` at line 5, column 5
    (offset 178); the sort puts them in file order `mot`, `deutscher`, `мир`, `end` although `end`
    was submitted before `deutscher`. -/
theorem C14_flagged_word_mlmix_example_eval :
    (match tex2txt theTables bigFuel (render mixSegs) babelOptions true 2 [] with
     | .ok r =>
       (shellPieces r.parts).map (·.1)
         == ["fr".toList, "en-GB".toList, "en-GB".toList, "en-GB".toList, "de-DE".toList, "ru-RU".toList] &&
       (shellPieces r.parts)[1]? == some ("en-GB".toList, ("This is L-L-L and ".toList,
          [1, 2, 3, 4, 5, 6, 7, 8, 34, 34, 34, 34, 34, 41, 42, 43, 44, 45])) &&
       (let subs := withAnswers (shellPieces r.parts)
          [[{ offset := 3, rest := .null }], [], [], [{ offset := 4, rest := .null }],
           [{ offset := 11, rest := .null }], [{ offset := 8, rest := .null }]]
        let asm := submit subs
        asm.plainTot == "un mot\n\nThis is L-L-L and \n\n here.\n\n\nThe end.\n\nein langer deutscher Satz\n\nПривет, мир и люди.\n\n\n".toList &&
        asm.hits.map (·.offset) == [3, 41, 58, 82] &&
        (List.range 6).map (fun i => shiftOf (subs.take i)) == [0, 8, 28, 37, 47, 74] &&
        (asm.plainTot.drop 3).take 3 == "mot".toList &&
        (asm.plainTot.drop 58).take 9 == "deutscher".toList &&
        (asm.plainTot.drop 82).take 3 == "мир".toList &&
        (asm.plainTot.drop 41).take 3 == "end".toList &&
        (match reportAll asm.charmapTot (render mixSegs) 3 (some (.int 3)),
               reportAll asm.charmapTot (render mixSegs) 58 (some (.int 9)),
               reportAll asm.charmapTot (render mixSegs) 82 (some (.int 3)),
               reportAll asm.charmapTot (render mixSegs) 41 (some (.int 3)),
               computeH theTables.toTables (render mixSegs) asm.charmapTot 0 3 3,
               sortMatches asm.charmapTot asm.hits with
         | .ok L1, .ok L2, .ok L3, .ok L4, .ok h, .ok out =>
           L1 == { offset := 36, length := 3, lin := 1, col := 37, json := ⟨0, 36, 0, 39⟩,
                   xml := ⟨0, 36, 0, 39⟩, xmlb := ⟨0, 36, 0, 39⟩ } &&
           L2 == { offset := 81, length := 9, lin := 1, col := 82, json := ⟨0, 81, 0, 90⟩,
                   xml := ⟨0, 81, 0, 90⟩, xmlb := ⟨0, 81, 0, 90⟩ } &&
           L3 == { offset := 142, length := 3, lin := 3, col := 9, json := ⟨2, 8, 2, 11⟩,
                   xml := ⟨2, 8, 2, 11⟩, xmlb := ⟨2, 14, 2, 20⟩ } &&
           L4 == { offset := 178, length := 3, lin := 5, col := 5, json := ⟨4, 4, 4, 7⟩,
                   xml := ⟨4, 4, 4, 7⟩, xmlb := ⟨4, 4, 4, 7⟩ } &&
           h == { idx := 0, unsure := false, beg := 36, fin := 39, beglin := 0, endlin := 1, lin := 0 } &&
           slice (render mixSegs) 36 39 == "mot".toList &&
           out.map (·.offset) == [3, 58, 82, 41]
         | _, _, _, _, _, _ => false))
     | _ => false) = true := by
  obtain ⟨r, h1, h2⟩ := mixSegs_parts
  rw [h1]; simp only [h2, stBabel_eq]
  rw [String.toList_ofList, String.toList_ofList, String.toList_ofList, String.toList_ofList, String.toList_ofList,
    String.toList_ofList]
  decide +kernel

/-- **uniqueness and its failure on the example** (`ml_continue_thresh = 2`).  The word `un` (two
    characters, file offset 33) starts at the first visible character of the SHORT insertion `un mot`:
    `phFree` is false there, but `2 ≤ |w|`, so `C14_flagged_word_mlmix_exactly_one_current` applies —
    the entries `34, 35` stand in the request `fr: un mot` only.  The ONE-character stretch `u` (offset
    33) is not unique: its entry `34` stands at offset 0 of request 0 (`fr: un mot`) AND at the offsets
    8 … 12 of request 1 (`en-GB: This is L-L-L and `, under the placeholder `L-L-L`); a match of the
    proofreader on one character of `L-L-L` in the ENGLISH request is therefore reported at the `u` of
    the French insertion (line 1, column 34).  For the one-character stretch `m` (offset 36) `phFree`
    holds: exactly one request. -/
theorem C14_mlmix_single_char_not_unique :
    wordEnds "u".toList = true ∧ wordEnds "un".toList = true ∧
    phFree (refPlan theTables babelOptions.lang 2 mixSegs) 33 = false ∧
    phFree (refPlan theTables babelOptions.lang 2 mixSegs) 36 = true ∧
    (match tex2txt theTables bigFuel (render mixSegs) babelOptions true 2 [] with
     | .ok r =>
       (match (shellPieces r.parts)[0]?, (shellPieces r.parts)[1]? with
        | some pc0, some pc1 =>
          decide (RunAt pc0.2.2 0 1 34 ∧ RunAt pc1.2.2 8 1 34 ∧ RunAt pc1.2.2 12 1 34 ∧
            RunAt pc0.2.2 0 2 34 ∧ ¬ RunAt pc1.2.2 8 2 34 ∧ ¬ RunAt pc1.2.2 12 2 34)
        | _, _ => false)
     | _ => false) = true := by
  obtain ⟨r, h1, h2⟩ := mixSegs_parts
  rw [h1]; simp only [h2, stBabel_eq]; unfold mixSegs; (repeat rw [String.toList_ofList]); decide +kernel

end PlainLangMix
end Yalafi
