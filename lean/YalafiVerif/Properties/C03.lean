/-
  Properties/C03.lean — prose is conserved; hidden text never leaks; no markup left.

  All inputs (corollary of the bundle, Proofs/Inv): `C03_kinds` — no control-sequence,
  \begin/\end/\item, special, accent, verbatim-class or maths-class token is in the result of
  `parser_work`; control sequences, grouping braces and `$` can therefore appear in the plain text
  only as the *text* of a text token (from `\{ \} \$`, verbatim material, error marks).
  `C03_removeLines_kinds` — blank-line removal emits only non-empty text and language tokens.
  On grammars, end to end: `C03_comments_dropped` (text and `%` comments: the output is the source
  without the comment spans, `C03_comment_positions_outside`), `C03_footnote_detached` (the body
  once, behind the main text).  Conservation of words — every visible character once, in order,
  detached flows last — is a theorem on the grammars of the imported statement files
  (`C03_mix_words` … `C03_mix4_words`, `C03_flows_order`, `C03_flows_complete`,
  `C03_unknown_args_text`); outside these grammars it is checked against a reference
  TeX-substitution semantics of generated documents.
  Known finding (recorded, see known_findings.json): a heading argument is expanded twice.
-/
import YalafiVerif.Proofs.Inv.Main
import YalafiVerif.Proofs.Lines
import YalafiVerif.Proofs.PlainComment
import YalafiVerif.Generated.Init
import YalafiVerif.Proofs.PlainFootnote
import YalafiVerif.Properties.PlainVanishStmt
import YalafiVerif.Properties.PlainGroupStmt
import YalafiVerif.Properties.PlainMixStmt
import YalafiVerif.Properties.PlainMix2Stmt
import YalafiVerif.Properties.PlainMix3Stmt
import YalafiVerif.Properties.PlainMix4Stmt
import YalafiVerif.Properties.PlainFlowsStmt
import YalafiVerif.Properties.PlainSkipStmt
namespace Yalafi

/-- tokens returned by `parser_work` (the main flow) are of output classes, whatever the text -/
theorem C03_kinds (T : PTables) (hw : T.WFInv) (nroot fuel : Nat) (latex : Str) (st : PState)
    (hg : G0 T nroot st) (h0 : st.nest = 0 → latex.length = nroot) (h1 : st.nest = 1 → st.latex.length = nroot) :
    Post (parserWork T fuel latex st) (fun r _ => ∀ t ∈ r, outKind t = true) := by
  have h := (allSpecs T hw nroot fuel).work latex st hg h0 h1
  exact Post_mono _ _ _ h (fun r _ hr t ht => (hr.2.2 t ht).2)

theorem C03_removeLines_kinds (ts out : List Tok) (hr : removeLines ts = some out) :
    ∀ t ∈ out, t.txt ≠ [] ∨ isLang t = true :=
  removeLines_kinds ts out hr

/-- **the text of a comment never leaks**, end to end on the filter model: for documents made of
    inert text and `%` comments (trailing comments, comment-only lines, several in a row, a comment
    at the very end of the source; a comment must not start with the skip marker — `segsOk`), the
    output is the source with every comment span deleted — from `%` to what the scanner's comment
    token takes: the line break and the indentation of the next line too, unless a blank line
    follows (then the paragraph break survives) — and every remaining character keeps its own
    source position; no unknowns, no diagnostic beyond those of the initialisation.
    `Comment.strip_avoids_comments`: no output position lies inside a comment. -/
theorem C03_comments_dropped (T : PTables) (o : Options) (fs : FS) (thresh : Nat)
    (segs : List Comment.Seg) (fuel : Nat) (st1 : PState)
    (hdefs : o.defs = []) (hextr : o.extr = []) (hrepl : o.hasRepl = false)
    (hunkn : o.unkn = false)
    (hinit : initParser T fuel o (initialState T o false fs) = .ok ((), st1))
    (hok : Comment.segsOk T st1 segs = true) (hf : (Comment.render segs).length + 2 ≤ fuel) :
    ∃ r, tex2txt T fuel (Comment.render segs) o false thresh fs = .ok r ∧
      r.txt = (Comment.stripComments (Comment.render segs)).map (·.1) ∧
      r.pos = (Comment.stripComments (Comment.render segs)).map (·.2 + 1) ∧
      r.unknowns = [] ∧ r.diags = st1.diags := by
  obtain ⟨r, h1, h2, h3, h4, h5, _⟩ :=
    Comment.tex2txt_comments T o fs thresh segs fuel st1 hdefs hextr hrepl hunkn hinit hok hf
  exact ⟨r, h1, h2, h3, h4, h5⟩

theorem C03_comment_positions_outside (src : Str) (cp : Char × Nat) (q : Nat × Nat)
    (h : cp ∈ Comment.stripComments src) (hq : q ∈ Comment.comments src) : cp.2 < q.1 ∨ q.1 + q.2 ≤ cp.2 :=
  Comment.strip_avoids_comments src cp q h hq

/-- comments never leak, for the CURRENT code (tables translated from /repo, default options,
    parser initialisation evaluated by the kernel) -/
theorem C03_comments_dropped_current (segs : List Comment.Seg) (thresh : Nat)
    (hok : Comment.segsOk Generated.theTables Generated.stDefault segs = true)
    (hf : (Comment.render segs).length + 2 ≤ Generated.bigFuel) :
    ∃ r, tex2txt Generated.theTables Generated.bigFuel (Comment.render segs) Generated.defaultOptions false thresh [] = .ok r ∧
      r.txt = (Comment.stripComments (Comment.render segs)).map (·.1) ∧
      r.pos = (Comment.stripComments (Comment.render segs)).map (·.2 + 1) ∧
      r.unknowns = [] ∧ r.diags = Generated.stDefault.diags :=
  C03_comments_dropped Generated.theTables Generated.defaultOptions [] thresh segs Generated.bigFuel
    Generated.stDefault rfl rfl rfl rfl Generated.initParser_default hok hf

/-- a concrete document with a trailing comment, a comment-only line and a comment at the end of
    the text satisfies the side conditions on the real tables -/
theorem C03_comments_example_current :
    Comment.segsOk Generated.theTables Generated.stDefault
      [.txt "Alpha ".toList, .com " note \\secret{x} $".toList, .txt "  beta gamma\n".toList, .com "only".toList,
       .txt "\nDelta. ".toList, .comEof " the end".toList] = true := by
  rw [Generated.stDefault_eq]; (repeat rw [String.toList_ofList]); decide +kernel

/-- **footnote text is detached and appears exactly once, after the main text**, end to end on the
    filter model: for documents of inert text and `\\footnote{body}` (inert non-empty body with
    visible text on its first and last line; no main-text line of white space and footnotes only;
    `stateOk`: `\\footnote` declared as in the real tables, single-language mode), the output is
    the main text with every `\\footnote{…}` deleted, followed for each footnote in order by
    `"\\n\\n\\n" ++ body ++ "\\n"`; main-text and body characters map to their own source positions,
    the separator to the first character of the body and the final line break to its last token;
    no unknowns, no diagnostic beyond those of the initialisation, no foreign flow -/
theorem C03_footnote_detached (T : PTables) (o : Options) (fs : FS) (thresh : Nat)
    (segs : List PlainFootnote.Seg) (fuel : Nat) (st1 : PState)
    (hdefs : o.defs = []) (hextr : o.extr = []) (hrepl : o.hasRepl = false) (hunkn : o.unkn = false)
    (hinit : initParser T fuel o (initialState T o false fs) = .ok ((), st1))
    (hst : PlainFootnote.stateOk T st1 = true) (hok : PlainFootnote.segsOk T st1 segs = true)
    (hlines : PlainFootnote.linesOK segs = true)
    (hf : (PlainFootnote.render segs).length + 2 ≤ fuel) :
    ∃ r, tex2txt T fuel (PlainFootnote.render segs) o false thresh fs = .ok r ∧
      r.txt = PlainFootnote.mainText segs ++ PlainFootnote.flowsText segs ∧
      r.txt = (PlainFootnote.refOut segs).map (·.1) ∧
      r.pos = (PlainFootnote.refOut segs).map (fun cp => cp.2 + 1) ∧
      r.unknowns = [] ∧ r.diags = st1.diags ∧ r.foreign = false :=
  PlainFootnote.tex2txt_footnote T o fs thresh segs fuel st1 hdefs hextr hrepl hunkn hinit hst hok hlines hf

/-- the state hypothesis holds for the parser initialised from the tables of the current /repo, and
    a concrete document satisfies the side conditions -/
theorem C03_footnote_current :
    PlainFootnote.stateOk Generated.theTables Generated.stDefault = true ∧
    PlainFootnote.segsOk Generated.theTables Generated.stDefault
      [.txt "Alpha".toList, .foot "first note".toList, .txt " beta gamma".toList, .foot "second".toList, .txt ".\n".toList] = true := by
  rw [Generated.stDefault_eq]; (repeat rw [String.toList_ofList]); decide +kernel

end Yalafi
