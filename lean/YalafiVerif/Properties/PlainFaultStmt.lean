/-
  Properties/PlainFaultStmt.lean — C08 "LaTeX problems yield the full error mark at the right place",
  end to end on the filter model, for the fault kinds other than unterminated `\verb` and
  unterminated inline maths (those: Properties/C08.lean, Properties/PlainMathOpenStmt.lean).
  Proofs: Proofs/PlainFault*.lean (common frame: Proofs/PlainFaultBase.lean).

  Every theorem is about a document `pre ++ F ++ post`: inert text, ONE faulty construct, inert text
  (`PlainFootnote.textOk`), default-like options (no --defs, --extr, --repl, --unkn; single-language
  mode), `st1` = parser state after `Parser.__init__`.  It gives the complete result record:
  `r.txt`, `r.pos` (1-based), `r.unknowns = []`, `r.diags = st1.diags ++ [d]` with message, line and
  column of `d`.  The mark is `errMark` = `" " ++ T.mark ++ " "` (+ `"(" ++ message ++ ") "` in
  verbose mode); its positions are `markPos1 … n p`: `min |mark| (n - p)` characters at the problem
  (1-based `p + 1`), the others — only if the mark is longer than the rest of the source — at the
  last position, as `utils.latex_error` does (`C08_mark_shape`).

    (1) `C08_accent_nonletter`       `\'1`, `\"{2}`, `\c{?}`            problem = backslash of the accent
    (2) `C08_arg_open`               `\label{…` (vanishing macros)      problem = the `{`
        `C08_arg_open_footnote`      `\footnote{…`                      problem = the `{`
    (3) `C08_verbatim_unterminated`  `\begin{verbatim}` without end     problem = backslash of `\begin`
    (4) `C08_skip_unclosed`          `%%% LT-SKIP-BEGIN` without end     problem = the `%`
    (5) `C08_input_unreadable`       `\LTinput{file}`, file missing     problem = backslash of `\LTinput`
  each with `…_current`: the side conditions hold on the tables translated from /repo for a concrete
  document (`decide +kernel`), the theorem is applied, and text / positions / diagnostics are
  computed; `…_eval_current`: kernel evaluations of `tex2txt` on further documents.

  Behaviour of the model (= the Python code) that the theorems follow and that one may not expect
    * (2) `\footnote{` never closed: the mark appears TWICE — in the main text at the `{`, and as the
      "footnote" (the recovery of `arg_buffer` returns the short mark as the argument) in a text flow
      of its own behind the main text; the would-be footnote text stays in the main text.
      `\section{` never closed: `" MARK . MARK body"` (the heading handler adds a full stop) — only
      evaluated (`C08_arg_open_eval_current`), no theorem.
    * (3) the mark replaces the token `\begin` only; `{verbatim}` and the would-be verbatim text are
      read as ordinary LaTeX: the word `verbatim` shows up in the plain text.
    * (4) the opening comment token includes the line break and the indentation of the next line
      (unless a blank line follows): they are replaced by the mark together with the comment.
    * with a mark longer than the rest of the source the position list is not monotone.

  NOT covered by a theorem: unterminated DISPLAYED maths (`$$`, `\[`, equation environments); an open
  OPTIONAL argument (`\footnote[1`, message `cannot find closing "]"`); open arguments of macros with
  a handler (`\section{`), of macros with several arguments, of environments (`\begin{itemize`);
  white space between a macro name and its `{`; the other `latex_error` sites (`\def` and
  `\newcommand` problems, accent without Unicode character, `\gls` without label); several faults in
  one document; a fault inside a macro argument, a group or a formula; text around the fault that
  contains macros, comments, maths or special sequences; multi-language mode; --defs, --extr, --repl,
  --unkn.  In (5) "unreadable" is a condition on `st1.fs` (the file system of the initialised parser,
  which `initialState` sets to the argument `fs` and no function of the model changes — the latter is not
  proved here for arbitrary options; for the
  `_current` instance it is evaluated).
-/
import YalafiVerif.Proofs.PlainFaultAccent
import YalafiVerif.Proofs.PlainFaultArg
import YalafiVerif.Proofs.PlainFaultVerbatim
import YalafiVerif.Proofs.PlainFaultSkip
import YalafiVerif.Proofs.PlainFaultInput
import YalafiVerif.Generated.Init
namespace Yalafi

open PlainFault

/-- **(1) a text-mode accent on a non-letter** (`\'1`, `\"{2}`, `\c{?}`) yields exactly one
    diagnostic "text-mode accent for non-letter" at the line and column of the backslash of the
    accent macro and the complete error mark at that position; the text behind the argument is kept.
    `src = pre ++ \name ws arg ++ post`, `arg` = `c` or `{c}` with `c` no ASCII letter; `pre`, `post`
    inert text (all side conditions: `accFaultOk`, computable).  With `P = |pre|`:

    * text: `pre`, the complete mark `errMark` = `" " ++ T.mark ++ " "` (plus the message in verbose
      mode), `post`;
    * positions (1-based): `pre` and `post` at their own positions; the first
      `mx = min |mark| (|src| - P)` characters of the mark at `P + 1` (the backslash), the others —
      only if the mark is longer than the rest of the source — at the last position (`markPos1`);
    * diagnostics: exactly one more; line = line breaks in `pre` + 1, column = characters behind the
      last line break of `pre` + 1; nothing is reported as unknown. -/
theorem C08_accent_nonletter (T : PTables) (o : Options) (fs : FS) (thresh : Nat)
    (pre name ws : Str) (br : Bool) (c : Char) (post : Str) (fuel : Nat) (st1 : PState)
    (hdefs : o.defs = []) (hextr : o.extr = []) (hrepl : o.hasRepl = false) (hunkn : o.unkn = false)
    (hinit : initParser T fuel o (initialState T o false fs) = .ok ((), st1))
    (hok : accFaultOk T st1 pre name ws br c post = true)
    (hf : (pre ++ (accSrc name ws br c ++ post)).length + 6 ≤ fuel) :
    let src := pre ++ (accSrc name ws br c ++ post)
    let P := pre.length
    let d := latexErrorDiag errAccent P src
    ∃ r, tex2txt T fuel src o false thresh fs = .ok r ∧
      r.txt = pre ++ (errMark T.toTables errAccent ++ post) ∧
      r.pos = List.range' 1 pre.length ++ (markPos1 T.toTables errAccent src.length P
        ++ List.range' (P + (accSrc name ws br c).length + 1) post.length) ∧
      r.unknowns = [] ∧ r.diags = st1.diags ++ [d] ∧
      d.msg = errAccent ∧ d.line = countNl pre + 1 ∧ d.col = (afterLastNl pre).length + 1 :=
  tex2txt_accent_nonletter T o fs thresh pre name ws br c post fuel st1 hdefs hextr hrepl hunkn hinit hok hf

/-- the mark in the output is complete and its first character is mapped to the problem -/
theorem C08_mark_shape (T : Tables) (err : Str) (n p : Nat) (hp : p < n) :
    (∃ v, errMark T err = ' ' :: (T.mark ++ ' ' :: v)) ∧
    (markPos1 T err n p).length = (errMark T err).length ∧
    (markPos1 T err n p).head? = some (p + 1) :=
  ⟨⟨if T.markVerbose then ['('] ++ err ++ [')', ' '] else [], by simp [errMark]⟩, markPos1_length T err n p, markPos1_head T err n p hp⟩

/-- **(2a) `\name{` of a vanishing macro (`\label`, `\index`, …) whose `{` is never closed** yields
    exactly one diagnostic `cannot find closing "}"` at the line and column of the `{` and the
    complete error mark at that position — ONCE —; the text behind the `{` is kept in the main text
    with its own positions (the recovery of "issue 23": `arg_buffer` pushes back the `{`, the mark
    and everything it had collected).  `src = pre ++ \name{ ++ post`, side conditions `argOpenVanOk`.
    `Q = |pre| + |\name|` is the 0-based offset of the `{`. -/
theorem C08_arg_open (T : PTables) (o : Options) (fs : FS) (thresh : Nat)
    (pre name post : Str) (fuel : Nat) (st1 : PState)
    (hdefs : o.defs = []) (hextr : o.extr = []) (hrepl : o.hasRepl = false) (hunkn : o.unkn = false)
    (hinit : initParser T fuel o (initialState T o false fs) = .ok ((), st1))
    (hok : argOpenVanOk T st1 pre name post = true)
    (hf : (pre ++ (openSrc name ++ post)).length + 9 ≤ fuel) :
    let src := pre ++ (openSrc name ++ post)
    let Q := pre.length + (name.length + 1)
    let d := latexErrorDiag errBrace Q src
    ∃ r, tex2txt T fuel src o false thresh fs = .ok r ∧
      r.txt = pre ++ (errMark T.toTables errBrace ++ post) ∧
      r.pos = List.range' 1 pre.length ++ (markPos1 T.toTables errBrace src.length Q
        ++ List.range' (Q + 2) post.length) ∧
      r.unknowns = [] ∧ r.diags = st1.diags ++ [d] ∧
      d.msg = errBrace ∧ d.line = countNl (pre ++ '\\' :: name) + 1 ∧
      d.col = (afterLastNl (pre ++ '\\' :: name)).length + 1 :=
  tex2txt_arg_open_van T o fs thresh pre name post fuel st1 hdefs hextr hrepl hunkn hinit hok hf

/-- **(2b) `\footnote{` whose `{` is never closed**: one diagnostic at the `{`, the complete mark at
    that position, the "footnote text" `post` STAYS in the main text at its own positions — and the
    argument that `arg_buffer` returns in its recovery, the short mark `" " ++ T.mark ++ " "`, is
    extracted as the footnote: it appears A SECOND TIME, as a separate text flow behind the main
    text (`footFlowTxt`: three line breaks, short mark, line break), all characters mapped to the
    `{`.  `src = pre ++ \footnote{ ++ post`, side conditions `argOpenFootOk`. -/
theorem C08_arg_open_footnote (T : PTables) (o : Options) (fs : FS) (thresh : Nat)
    (pre post : Str) (fuel : Nat) (st1 : PState)
    (hdefs : o.defs = []) (hextr : o.extr = []) (hrepl : o.hasRepl = false) (hunkn : o.unkn = false)
    (hinit : initParser T fuel o (initialState T o false fs) = .ok ((), st1))
    (hok : argOpenFootOk T st1 pre post = true)
    (hf : (pre ++ (openSrc footName ++ post)).length + 12 ≤ fuel) :
    let src := pre ++ (openSrc footName ++ post)
    let Q := pre.length + 9
    let d := latexErrorDiag errBrace Q src
    ∃ r, tex2txt T fuel src o false thresh fs = .ok r ∧
      r.txt = pre ++ (errMark T.toTables errBrace ++ (post ++ footFlowTxt T.toTables)) ∧
      r.pos = List.range' 1 pre.length ++ (markPos1 T.toTables errBrace src.length Q
        ++ (List.range' (Q + 2) post.length
        ++ List.replicate (footFlowTxt T.toTables).length (Q + 1))) ∧
      r.unknowns = [] ∧ r.diags = st1.diags ++ [d] ∧
      d.msg = errBrace ∧ d.line = countNl (pre ++ PlainFootnote.sFootnote) + 1 ∧
      d.col = (afterLastNl (pre ++ PlainFootnote.sFootnote)).length + 1 :=
  tex2txt_arg_open_foot T o fs thresh pre post fuel st1 hdefs hextr hrepl hunkn hinit hok hf

/-- **(3) an unterminated `verbatim` environment** yields exactly one diagnostic "missing end of
    verbatim" at the line and column of the backslash of `\begin` and the complete error mark at that
    position; the text behind the construct is kept with its own positions.  As in the Python code the
    mark replaces the token `\begin` only: `{verbatim}` is then read as ordinary text, so the WORD
    `verbatim` appears in the plain text (the braces vanish).
    `src = pre ++ \begin{verbatim} ++ post`, side conditions `verbatimFaultOk` (among them: no
    `\end{verbatim}` in `post`). -/
theorem C08_verbatim_unterminated (T : PTables) (o : Options) (fs : FS) (thresh : Nat)
    (pre post : Str) (fuel : Nat) (st1 : PState)
    (hdefs : o.defs = []) (hextr : o.extr = []) (hrepl : o.hasRepl = false) (hunkn : o.unkn = false)
    (hinit : initParser T fuel o (initialState T o false fs) = .ok ((), st1))
    (hok : verbatimFaultOk T st1 pre post = true)
    (hf : (pre ++ (verbatimSrc ++ post)).length + 14 ≤ fuel) :
    let src := pre ++ (verbatimSrc ++ post)
    let P := pre.length
    let d := latexErrorDiag errMissingEndVerbatim P src
    ∃ r, tex2txt T fuel src o false thresh fs = .ok r ∧
      r.txt = pre ++ (errMark T.toTables errMissingEndVerbatim ++ (sVerbWord ++ post)) ∧
      r.pos = List.range' 1 pre.length ++ (markPos1 T.toTables errMissingEndVerbatim src.length P
        ++ (List.range' (P + 8) 8 ++ List.range' (P + 17) post.length)) ∧
      r.unknowns = [] ∧ r.diags = st1.diags ++ [d] ∧
      d.msg = errMissingEndVerbatim ∧ d.line = countNl pre + 1 ∧
      d.col = (afterLastNl pre).length + 1 :=
  tex2txt_verbatim_unterminated T o fs thresh pre post fuel st1 hdefs hextr hrepl hunkn hinit hok hf

/-- **(4) `%%% LT-SKIP-BEGIN` without `%%% LT-SKIP-END`** yields exactly one diagnostic
    `cannot find closing LaTeX comment '<closing marker>'` at the line and column of the `%` of the
    opening comment and the complete error mark at that position; nothing behind the comment is
    skipped: `post` is kept with its own positions.  `src = pre ++ %body ++ post`, where `%body` is the
    whole comment token (`commentLen`) and starts with the opening marker `st1.skipBegin`; side
    conditions `skipFaultOk`. -/
theorem C08_skip_unclosed (T : PTables) (o : Options) (fs : FS) (thresh : Nat)
    (pre body post : Str) (fuel : Nat) (st1 : PState)
    (hdefs : o.defs = []) (hextr : o.extr = []) (hrepl : o.hasRepl = false) (hunkn : o.unkn = false)
    (hinit : initParser T fuel o (initialState T o false fs) = .ok ((), st1))
    (hok : skipFaultOk T st1 pre body post = true)
    (hf : (pre ++ ('%' :: body ++ post)).length + 4 ≤ fuel) :
    let src := pre ++ ('%' :: body ++ post)
    let P := pre.length
    let d := latexErrorDiag (errSkip st1) P src
    ∃ r, tex2txt T fuel src o false thresh fs = .ok r ∧
      r.txt = pre ++ (errMark T.toTables (errSkip st1) ++ post) ∧
      r.pos = List.range' 1 pre.length ++ (markPos1 T.toTables (errSkip st1) src.length P
        ++ List.range' (P + body.length + 2) post.length) ∧
      r.unknowns = [] ∧ r.diags = st1.diags ++ [d] ∧
      d.msg = errSkip st1 ∧ d.line = countNl pre + 1 ∧ d.col = (afterLastNl pre).length + 1 :=
  tex2txt_skip_unclosed T o fs thresh pre body post fuel st1 hdefs hextr hrepl hunkn hinit hok hf

/-- **(5) `\LTinput{file}` with a file that cannot be read** (`st1.fs` — the file system handed to
    `tex2txt`, as the initialised parser sees it — has no entry `file`) yields exactly one diagnostic
    `could not read file '<file>'` at the line and column of the backslash of `\LTinput` and the
    complete error mark at that position; the text behind the call is kept with its own positions.
    `src = pre ++ \name{file} ++ post` with `\name` declared with the handler `h_load_defs`; side
    conditions `inputFaultOk`. -/
theorem C08_input_unreadable (T : PTables) (o : Options) (fs : FS) (thresh : Nat)
    (pre name file post : Str) (fuel : Nat) (st1 : PState)
    (hdefs : o.defs = []) (hextr : o.extr = []) (hrepl : o.hasRepl = false) (hunkn : o.unkn = false)
    (hinit : initParser T fuel o (initialState T o false fs) = .ok ((), st1))
    (hok : inputFaultOk T st1 pre name file post = true)
    (hf : (pre ++ (inputSrc name file ++ post)).length + file.length + 8 ≤ fuel) :
    let src := pre ++ (inputSrc name file ++ post)
    let P := pre.length
    let d := latexErrorDiag (errRead file) P src
    ∃ r, tex2txt T fuel src o false thresh fs = .ok r ∧
      r.txt = pre ++ (errMark T.toTables (errRead file) ++ post) ∧
      r.pos = List.range' 1 pre.length ++ (markPos1 T.toTables (errRead file) src.length P
        ++ List.range' (P + (inputSrc name file).length + 1) post.length) ∧
      r.unknowns = [] ∧ r.diags = st1.diags ++ [d] ∧
      d.msg = errRead file ∧ d.line = countNl pre + 1 ∧ d.col = (afterLastNl pre).length + 1 :=
  tex2txt_input_unreadable T o fs thresh pre name file post fuel st1 hdefs hextr hrepl hunkn hinit hok hf

/-- the side conditions of (1) hold on the tables translated from /repo for the documents
    `"ab\nxy \'1 cd"`, `"ab \"{2} cd"`, `"ab \c{?} cd"` and `"ab \' 3"` -/
theorem C08_accent_current_facts :
    accFaultOk Generated.theTables Generated.stDefault "ab\nxy ".toList "'".toList [] false '1' " cd".toList = true ∧
    accFaultOk Generated.theTables Generated.stDefault "ab ".toList "\"".toList [] true '2' " cd".toList = true ∧
    accFaultOk Generated.theTables Generated.stDefault "ab ".toList "c".toList [] true '?' " cd".toList = true ∧
    accFaultOk Generated.theTables Generated.stDefault "ab ".toList "'".toList " ".toList false '3' [] = true := by
  rw [Generated.stDefault_eq]; decide +kernel

/-- **(1) applies to the current code**: for `"ab\nxy \'1 cd"` the filter returns
    `"ab\nxy  LATEXXXERROR  cd"`, the mark at position 7 = line 2, column 4 (the source has only 6
    characters from there on: the last 8 characters of the mark are mapped to the last position 12),
    exactly one diagnostic -/
theorem C08_accent_nonletter_current (thresh : Nat) :
    ∃ r, tex2txt Generated.theTables Generated.bigFuel "ab\nxy \\'1 cd".toList
        Generated.defaultOptions false thresh [] = .ok r ∧
      r.txt = "ab\nxy  LATEXXXERROR  cd".toList ∧
      r.pos = [1, 2, 3, 4, 5, 6, 7, 7, 7, 7, 7, 7, 12, 12, 12, 12, 12, 12, 12, 12, 10, 11, 12] ∧
      r.unknowns = [] ∧
      r.diags = Generated.stDefault.diags
        ++ [{ line := 2, col := 4, msg := "text-mode accent for non-letter".toList }] := by
  obtain ⟨r, h, h1, h2, h3, h4, _⟩ := C08_accent_nonletter Generated.theTables Generated.defaultOptions []
    thresh "ab\nxy ".toList "'".toList [] false '1' " cd".toList Generated.bigFuel Generated.stDefault
    rfl rfl rfl rfl Generated.initParser_default C08_accent_current_facts.1 (by decide +kernel)
  refine ⟨r, h, ?_, ?_, h3, ?_⟩
  · rw [h1]; conv => rhs; rw [String.toList_ofList]
    decide +kernel
  · rw [h2]; decide +kernel
  · rw [h4, Generated.stDefault_eq]; conv => rhs; rw [String.toList_ofList]
    decide +kernel

/-- the same by kernel evaluation of the model, braced form: `"ab \"{2} cd"` -/
theorem C08_accent_eval_current :
    (match tex2txt Generated.theTables Generated.bigFuel "ab \\\"{2} cd".toList
        Generated.defaultOptions false 0 [] with
     | .ok r => r.txt == "ab  LATEXXXERROR  cd".toList &&
                r.pos == [1, 2, 3, 4, 4, 4, 4, 4, 4, 4, 4, 11, 11, 11, 11, 11, 11, 9, 10, 11] &&
                r.diags == Generated.stDefault.diags
                  ++ [{ line := 1, col := 4, msg := "text-mode accent for non-letter".toList }] &&
                r.unknowns == []
     | _ => false) = true := by
  rw [Generated.stDefault_eq, Generated.tex2txt_default]; decide +kernel

/-- the side conditions of (2) hold on the tables translated from /repo: `"ab \label{body cd"`,
    `"ab\n\index{x y"`, `"ab \footnote{body cd"` -/
theorem C08_arg_open_current_facts :
    argOpenVanOk Generated.theTables Generated.stDefault "ab ".toList "label".toList "body cd".toList = true ∧
    argOpenVanOk Generated.theTables Generated.stDefault "ab\n".toList "index".toList "x y".toList = true ∧
    argOpenFootOk Generated.theTables Generated.stDefault "ab ".toList "body cd".toList = true := by
  rw [Generated.stDefault_eq]; (repeat rw [String.toList_ofList]); decide +kernel

/-- **(2a) applies to the current code**: `"ab \label{body cd"` gives `"ab  LATEXXXERROR body cd"`, the
    mark at position 10 = the `{` (line 1, column 10; 8 characters fit, the other 6 go to the last
    position 17), the text behind the `{` at its own positions -/
theorem C08_arg_open_current (thresh : Nat) :
    ∃ r, tex2txt Generated.theTables Generated.bigFuel "ab \\label{body cd".toList
        Generated.defaultOptions false thresh [] = .ok r ∧
      r.txt = "ab  LATEXXXERROR body cd".toList ∧
      r.pos = [1, 2, 3, 10, 10, 10, 10, 10, 10, 10, 10, 17, 17, 17, 17, 17, 17, 11, 12, 13, 14, 15, 16, 17] ∧
      r.unknowns = [] ∧
      r.diags = Generated.stDefault.diags
        ++ [{ line := 1, col := 10, msg := "cannot find closing \"}\"".toList }] := by
  obtain ⟨r, h, h1, h2, h3, h4, _⟩ := C08_arg_open Generated.theTables Generated.defaultOptions []
    thresh "ab ".toList "label".toList "body cd".toList Generated.bigFuel Generated.stDefault
    rfl rfl rfl rfl Generated.initParser_default C08_arg_open_current_facts.1 (by decide +kernel)
  refine ⟨r, h, ?_, ?_, h3, ?_⟩
  · rw [h1]; conv => rhs; rw [String.toList_ofList]
    decide +kernel
  · rw [h2]; decide +kernel
  · rw [h4, Generated.stDefault_eq]; conv => rhs; rw [String.toList_ofList]
    decide +kernel

/-- **(2b) applies to the current code**: `"ab \footnote{body cd"` gives
    `"ab  LATEXXXERROR body cd\n\n\n LATEXXXERROR \n"` -/
theorem C08_arg_open_footnote_current (thresh : Nat) :
    ∃ r, tex2txt Generated.theTables Generated.bigFuel "ab \\footnote{body cd".toList
        Generated.defaultOptions false thresh [] = .ok r ∧
      r.txt = "ab  LATEXXXERROR body cd\n\n\n LATEXXXERROR \n".toList ∧
      r.pos = [1, 2, 3, 13, 13, 13, 13, 13, 13, 13, 13, 20, 20, 20, 20, 20, 20, 14, 15, 16, 17, 18, 19, 20,
               13, 13, 13, 13, 13, 13, 13, 13, 13, 13, 13, 13, 13, 13, 13, 13, 13, 13] ∧
      r.unknowns = [] ∧
      r.diags = Generated.stDefault.diags
        ++ [{ line := 1, col := 13, msg := "cannot find closing \"}\"".toList }] := by
  obtain ⟨r, h, h1, h2, h3, h4, _⟩ := C08_arg_open_footnote Generated.theTables Generated.defaultOptions []
    thresh "ab ".toList "body cd".toList Generated.bigFuel Generated.stDefault
    rfl rfl rfl rfl Generated.initParser_default C08_arg_open_current_facts.2.2 (by decide +kernel)
  refine ⟨r, h, ?_, ?_, h3, ?_⟩
  · rw [h1]; conv => rhs; rw [String.toList_ofList]
    decide +kernel
  · rw [h2]; decide +kernel
  · rw [h4, Generated.stDefault_eq]; conv => rhs; rw [String.toList_ofList]
    decide +kernel

/-- kernel evaluation of the model: `"ab\n\index{x y"` (the mark in line 2, column 7), and — not
    covered by a theorem — `"ab \section{body cd"`, where the heading handler copies the short mark
    and adds a full stop in front of the pushed-back mark -/
theorem C08_arg_open_eval_current :
    (match tex2txt Generated.theTables Generated.bigFuel "ab\n\\index{x y".toList
        Generated.defaultOptions false 0 [] with
     | .ok r => r.txt == "ab\n LATEXXXERROR x y".toList &&
                r.diags == Generated.stDefault.diags
                  ++ [{ line := 2, col := 7, msg := "cannot find closing \"}\"".toList }] &&
                r.unknowns == []
     | _ => false) = true ∧
    (match tex2txt Generated.theTables Generated.bigFuel "ab \\section{body cd".toList
        Generated.defaultOptions false 0 [] with
     | .ok r => r.txt == "ab  LATEXXXERROR . LATEXXXERROR body cd".toList &&
                r.diags == Generated.stDefault.diags
                  ++ [{ line := 1, col := 12, msg := "cannot find closing \"}\"".toList }]
     | _ => false) = true := by
  rw [Generated.stDefault_eq, Generated.tex2txt_default, Generated.tex2txt_default]
  rw (occs := .pos [3, 4]) [String.toList_ofList]; rw (occs := .pos [2]) [String.toList_ofList]
  decide +kernel

/-- the side conditions of (3), (4), (5) hold on the tables translated from /repo -/
theorem C08_fault_current_facts :
    verbatimFaultOk Generated.theTables Generated.stDefault "ab ".toList " body cd".toList = true ∧
    verbatimFaultOk Generated.theTables Generated.stDefault "ab\n".toList "\nx = 1\n".toList = true ∧
    skipFaultOk Generated.theTables Generated.stDefault "ab\n".toList "%% LT-SKIP-BEGIN\n ".toList
      "body cd".toList = true ∧
    skipFaultOk Generated.theTables Generated.stDefault "ab ".toList "%% LT-SKIP-BEGIN xyz".toList [] = true ∧
    inputFaultOk Generated.theTables Generated.stDefault "ab ".toList "LTinput".toList "file".toList
      " body cd".toList = true := by
  rw [Generated.stDefault_eq]; (repeat rw [String.toList_ofList]); decide +kernel

/-- **(3) applies to the current code**: `"ab \begin{verbatim} body cd"` gives
    `"ab  LATEXXXERROR verbatim body cd"`, the mark at position 4 (line 1, column 4) -/
theorem C08_verbatim_unterminated_current (thresh : Nat) :
    ∃ r, tex2txt Generated.theTables Generated.bigFuel "ab \\begin{verbatim} body cd".toList
        Generated.defaultOptions false thresh [] = .ok r ∧
      r.txt = "ab  LATEXXXERROR verbatim body cd".toList ∧
      r.pos = [1, 2, 3, 4, 4, 4, 4, 4, 4, 4, 4, 4, 4, 4, 4, 4, 4, 11, 12, 13, 14, 15, 16, 17, 18,
               20, 21, 22, 23, 24, 25, 26, 27] ∧
      r.unknowns = [] ∧
      r.diags = Generated.stDefault.diags
        ++ [{ line := 1, col := 4, msg := "missing end of verbatim".toList }] := by
  obtain ⟨r, h, h1, h2, h3, h4, _⟩ := C08_verbatim_unterminated Generated.theTables
    Generated.defaultOptions [] thresh "ab ".toList " body cd".toList Generated.bigFuel Generated.stDefault
    rfl rfl rfl rfl Generated.initParser_default C08_fault_current_facts.1 (by decide +kernel)
  have e : "ab ".toList ++ (verbatimSrc ++ " body cd".toList) = "ab \\begin{verbatim} body cd".toList := by
    decide +kernel
  rw [e] at h
  refine ⟨r, h, ?_, ?_, h3, ?_⟩
  · rw [h1]; conv => rhs; rw [String.toList_ofList]
    decide +kernel
  · rw [h2]; decide +kernel
  · rw [h4, Generated.stDefault_eq]; conv => rhs; rw [String.toList_ofList]
    decide +kernel

/-- **(4) applies to the current code**: `"ab\n%%% LT-SKIP-BEGIN\n body cd"` gives
    `"ab\n LATEXXXERROR body cd"`, the mark at position 4 (line 2, column 1) -/
theorem C08_skip_unclosed_current (thresh : Nat) :
    ∃ r, tex2txt Generated.theTables Generated.bigFuel "ab\n%%% LT-SKIP-BEGIN\n body cd".toList
        Generated.defaultOptions false thresh [] = .ok r ∧
      r.txt = "ab\n LATEXXXERROR body cd".toList ∧
      r.pos = [1, 2, 3, 4, 4, 4, 4, 4, 4, 4, 4, 4, 4, 4, 4, 4, 4, 23, 24, 25, 26, 27, 28, 29] ∧
      r.unknowns = [] ∧
      r.diags = Generated.stDefault.diags
        ++ [{ line := 2, col := 1, msg := "cannot find closing LaTeX comment '%%% LT-SKIP-END'".toList }] := by
  obtain ⟨r, h, h1, h2, h3, h4, _⟩ := C08_skip_unclosed Generated.theTables
    Generated.defaultOptions [] thresh "ab\n".toList "%% LT-SKIP-BEGIN\n ".toList "body cd".toList
    Generated.bigFuel Generated.stDefault
    rfl rfl rfl rfl Generated.initParser_default C08_fault_current_facts.2.2.1 (by decide +kernel)
  refine ⟨r, h, ?_, ?_, h3, ?_⟩
  · rw [h1, Generated.stDefault_eq]; conv => rhs; rw [String.toList_ofList]
    decide +kernel
  · rw [h2, Generated.stDefault_eq]; decide +kernel
  · rw [h4, Generated.stDefault_eq]; conv => rhs; rw [String.toList_ofList]
    decide +kernel

/-- **(5) applies to the current code**: `"ab \LTinput{file} body cd"` with an empty file system gives
    `"ab  LATEXXXERROR  body cd"`, the mark at position 4 (line 1, column 4) -/
theorem C08_input_unreadable_current (thresh : Nat) :
    ∃ r, tex2txt Generated.theTables Generated.bigFuel "ab \\LTinput{file} body cd".toList
        Generated.defaultOptions false thresh [] = .ok r ∧
      r.txt = "ab  LATEXXXERROR  body cd".toList ∧
      r.pos = [1, 2, 3, 4, 4, 4, 4, 4, 4, 4, 4, 4, 4, 4, 4, 4, 4, 18, 19, 20, 21, 22, 23, 24, 25] ∧
      r.unknowns = [] ∧
      r.diags = Generated.stDefault.diags
        ++ [{ line := 1, col := 4, msg := "could not read file 'file'".toList }] := by
  obtain ⟨r, h, h1, h2, h3, h4, _⟩ := C08_input_unreadable Generated.theTables
    Generated.defaultOptions [] thresh "ab ".toList "LTinput".toList "file".toList " body cd".toList
    Generated.bigFuel Generated.stDefault
    rfl rfl rfl rfl Generated.initParser_default C08_fault_current_facts.2.2.2.2 (by decide +kernel)
  refine ⟨r, h, ?_, ?_, h3, ?_⟩
  · rw [h1]; conv => rhs; rw [String.toList_ofList]
    decide +kernel
  · rw [h2]; decide +kernel
  · rw [h4, Generated.stDefault_eq]; conv => rhs; rw [String.toList_ofList]
    decide +kernel

/-- kernel evaluation of the model on further documents: a `verbatim` environment opened in line 2
    whose would-be content spans lines; a skip comment at the very end of the text; `\LTinput` of a
    file that IS readable (no diagnostic beyond those of the initialisation: the fault of (5)
    is the missing file) -/
theorem C08_fault_eval_current :
    (match tex2txt Generated.theTables Generated.bigFuel "ab\n\\begin{verbatim}\nx = 1\n".toList
        Generated.defaultOptions false 0 [] with
     | .ok r => r.txt == "ab\n LATEXXXERROR verbatim\nx = 1\n".toList &&
                r.diags == Generated.stDefault.diags
                  ++ [{ line := 2, col := 1, msg := "missing end of verbatim".toList }] &&
                r.unknowns == []
     | _ => false) = true ∧
    (match tex2txt Generated.theTables Generated.bigFuel "ab %%% LT-SKIP-BEGIN xyz".toList
        Generated.defaultOptions false 0 [] with
     | .ok r => r.txt == "ab  LATEXXXERROR ".toList &&
                r.diags == Generated.stDefault.diags
                  ++ [{ line := 1, col := 4,
                        msg := "cannot find closing LaTeX comment '%%% LT-SKIP-END'".toList }]
     | _ => false) = true ∧
    (match tex2txt Generated.theTables Generated.bigFuel "ab \\LTinput{file} cd".toList
        Generated.defaultOptions false 0 [("file".toList, "\\newcommand{\\x}{y}".toList)] with
     | .ok r => r.txt == "ab  cd".toList && r.diags == Generated.stDefault.diags
     | _ => false) = true := by
  rw [Generated.stDefault_eq, Generated.tex2txt_default, Generated.tex2txt_default]
  rw (occs := .pos [6]) [String.toList_ofList]; rw (occs := .pos [5]) [String.toList_ofList]
  rw (occs := .pos [3]) [String.toList_ofList]; rw (occs := .pos [2]) [String.toList_ofList]
  decide +kernel

end Yalafi
