/-
  Properties/C02.lean — text copied from the document maps to exactly the offset where it stands.

  Proved for all inputs: every position-counting scanner token is the literal slice of the
  source at its own offset (for `\verb`/`verbatim` the offset of the first content character,
  issue 126); a position-counting token contributes `(txt[i], pos+i)` to the result;
  blank-line removal never changes a visible character or its position (a shortened
  position-counting token advances by exactly the removed prefix).
  End to end (imported): accents and shorthands (Properties/PlainAccentStmt.lean), arguments of
  undeclared macros (Properties/PlainGroupStmt.lean), `\verb` (`C02_verb_literal` below).  Not a
  theorem (`Lit` of the design): that EVERY position-counting token emitted by the expander is such a
  slice or a table replacement — checked on the implementation's final token list and, word by
  word, against the offsets recorded by the document generator.
-/
import YalafiVerif.Proofs.Scanner
import YalafiVerif.Proofs.Utils
import YalafiVerif.Proofs.Lines
import YalafiVerif.Proofs.PlainVerb
import YalafiVerif.Generated.Init
import YalafiVerif.Properties.PlainAccentStmt
import YalafiVerif.Properties.PlainGroupStmt
namespace Yalafi

theorem C02_scan_slice (T : Tables) (h : T.WFScan) (src : Str) :
    ∀ t ∈ (scan T src).toks, t.fix = false → (src.drop t.pos).take t.txt.length = t.txt :=
  scan_slice T h src

theorem C02_getTxtPos_single (t : Tok) :
    getTxtPos [t] = (t.txt, if t.fix then List.replicate t.txt.length t.pos
                             else (List.range t.txt.length).map (t.pos + ·)) :=
  getTxtPos_single t

/-- the class invariant of defs.py (Action/Language tokens carry no text) is the only hypothesis -/
theorem C02_removeLines_nonblank (ts out : List Tok)
    (hc : ∀ t ∈ ts, (isAction t = true ∨ isLang t = true) → t.txt = [])
    (hr : removeLines ts = some out) :
    nonBlankPairs (getTxtPos out) = nonBlankPairs (getTxtPos ts) :=
  removeLines_nonblank ts out hc hr

/-- **verbatim material is copied literally**, end to end on the filter model: for documents of
    inert text and complete `\\verb d … d` (any delimiter that is no letter/`@`, any content without
    the delimiter and without line break — `$`, `{`, `%`, `\\` included; no line of white space and
    blank-content `\\verb`s only), the output is the source with every `\\verb d s d` replaced by
    `s`, and every output character — text and verbatim content alike — stands in the source at
    exactly the position it is mapped to; no unknowns,
    no diagnostic beyond those of the initialisation -/
theorem C02_verb_literal (T : PTables) (o : Options) (fs : FS) (thresh : Nat) (segs : List VSeg)
    (fuel : Nat) (st1 : PState)
    (hdefs : o.defs = []) (hextr : o.extr = []) (hrepl : o.hasRepl = false) (hunkn : o.unkn = false)
    (hinit : initParser T fuel o (initialState T o false fs) = .ok ((), st1))
    (hok : vsegsOk T st1 segs = true) (hlines : vlinesOK segs = true) (hwf : verbOnly segs = true)
    (hf : (renderV segs).length + 2 ≤ fuel) :
    ∃ r, tex2txt T fuel (renderV segs) o false thresh fs = .ok r ∧
      r.txt = contentText segs ∧ r.txt = (outW 0 segs).map (·.1) ∧ r.pos = (outW 0 segs).map (·.2 + 1) ∧
      (∀ cp ∈ outW 0 segs, (renderV segs)[cp.2]? = some cp.1) ∧
      r.unknowns = [] ∧ r.diags = st1.diags :=
  tex2txt_verb_wellformed T o fs thresh segs fuel st1 hdefs hextr hrepl hunkn hinit hwf hok hlines hf

/-- a concrete document satisfies the premises on the tables translated from the current /repo -/
theorem C02_verb_example_current :
    vsegsOk Generated.theTables Generated.stDefault
      [.txt "Use ".toList, .verb '|' "a$b{%\\x".toList, .txt " and ".toList, .verb '+' "x|y".toList, .txt " here.".toList] = true := by
  rw [Generated.stDefault_eq]; (repeat rw [String.toList_ofList]); decide +kernel

end Yalafi
