/-
  Properties/SystemIncludeStmt.lean — C18, second half, as a statement about the SYSTEM (filter
  composed with the `--include` loop of the shell):
  "Built on this, --include checks exactly the files reachable from the given ones through
  \input/\include (adding .tex where missing), each once, in discovery order, without files
  matching --skip, and terminates on cyclic inclusion."
  Proofs: Proofs/SystemInclude.lean (the concrete inclusion function `includesOf` of the shell on
  the model of the filter, document class, side conditions, what is not covered: see its header),
  Proofs/SystemIncludeLoop.lean (the loop for an abstract inclusion function: termination,
  exactness, discovery order).
-/
import YalafiVerif.Proofs.SystemInclude
import YalafiVerif.Generated.Init
namespace Yalafi

open SystemInclude IncludeLoop

/-- **C18 (inclusion): termination of the work-list loop, cyclic inclusion or not.**  For an
    arbitrary inclusion function and skip predicate: if every included name that is not skipped
    lies in a finite list `U` (the names that occur in `\input`/`\include` calls of a finite file
    system, say), the loop of shell.py ends after at most `|todo| + |U|` iterations.  (The
    theorems `C18_include_nodup/_closed/_reachable` of Properties/C18.lean are conditional on
    `includeLoop … = some out`; this theorem supplies that premise.) -/
theorem C18_include_terminates (includes : Str → List Str) (skip : Str → Bool) (U : List Str)
    (hU : ∀ f g, g ∈ includes f → skip g = false → g ∈ U) (fuel : Nat) (todo done : List Str)
    (hf : todo.length + U.length ≤ fuel) :
    ∃ out, includeLoop includes skip fuel todo done = some out :=
  includeLoop_terminates includes skip U hU fuel todo done hf

/-- **C18 (inclusion): the work list for an abstract inclusion function.**  Under the premise of
    `C18_include_terminates` the run from `done = []` ends, and the list of checked files
    * has no duplicates,
    * consists exactly of the files reachable from a root that is not skipped through inclusion
      by files that are not skipped (`ReachNS`),
    * is in breadth-first discovery order: it is the list of first occurrences of the non-skipped
      names in "the roots, then what out[0] includes, then what out[1] includes, …" (`firstNew`),
      and every member is a root or is included by an earlier member (`Causal`). -/
theorem C18_include_bfs (includes : Str → List Str) (skip : Str → Bool) (U roots : List Str)
    (hU : ∀ f g, g ∈ includes f → skip g = false → g ∈ U) (fuel : Nat)
    (hf : roots.length + U.length ≤ fuel) :
    ∃ out, includeLoop includes skip fuel roots [] = some out ∧
      out.Nodup ∧
      (∀ f, f ∈ out ↔ ReachNS includes skip roots f) ∧
      out = firstNew skip [] (roots ++ out.flatMap includes) ∧
      Causal includes roots out :=
  includeLoop_bfs includes skip U roots hU fuel hf

/-- **the order properties determine the work list**: a list that is the list of first
    occurrences of its own discovery sequence, and in which every member is a root or is included
    by an earlier member, is unique — so `C18_include_bfs` specifies the result completely. -/
theorem C18_include_order_unique (includes : Str → List Str) (skip : Str → Bool) (roots X Y : List Str)
    (hX : X = firstNew skip [] (roots ++ X.flatMap includes)) (cX : Causal includes roots X)
    (hY : Y = firstNew skip [] (roots ++ Y.flatMap includes)) (cY : Causal includes roots Y) :
    X = Y :=
  bfs_unique includes skip roots X Y hX cX hY cY

/-- **C18 (inclusion): what the shell takes from one file.**  `includesOf? T fuel o fs f` is the
    computation of shell.py for one file on the model: read `f` from the file system `fs`, run
    the filter with the options of the command line and `extr='include,input'`, split the plain
    text at white space, add `.tex` where missing (`none` = fatal exit).  If `f` contains a
    document `render segs` of the class of `C18_extract_e2e` — inert text, calls `\input{…}` /
    `\include{…}` (`.call`), calls of other declared macros (`.skip`), comment lines with
    arbitrary text (`.com`) — and no `--define`/`--replace` is given, the result is

        `inclNames segs = ((bodies segs).flatMap splitWs).map addTex`:

    the arguments of the `\input`/`\include` calls in source order, `.tex` added where missing —
    nothing from the text, from other macros (`\label{x}`) or from comments (`% \input{hidden}`).
    If no argument contains white space (`namesOk`) this is `(bodies segs).map addTex`, one name
    per call; an argument with white space is taken for several files, as `plain.split()` does. -/
theorem C18_includes_of_document (T : PTables) (o : Options) (fs : FS) (f : Str)
    (segs : List PlainExtract.Seg) (fuel : Nat) (st1 : PState)
    (hfile : readFile fs f = some (PlainExtract.render segs))
    (hdefs : o.defs = []) (hrepl : o.hasRepl = false)
    (hinit : initParser T fuel (inclOpts o) (initialState T (inclOpts o) false fs) = .ok ((), st1))
    (hst : PlainExtract.stateOk T (initExtractions T st1 inclList) = true)
    (hok : PlainExtract.segsOk T (initExtractions T st1 inclList) segs = true)
    (hf : (PlainExtract.render segs).length + 4 ≤ fuel) :
    includesOf? T fuel o fs f = some (inclNames segs) ∧
    includesOf T fuel o fs f = inclNames segs ∧
    (namesOk segs = true → inclNames segs = (PlainExtract.bodies segs).map addTex) := by
  have h := includesOf?_document T o fs f segs fuel st1 hfile hdefs hrepl hinit hst hok hf
  exact ⟨h, by simp [includesOf, h], inclNames_of_namesOk T _ segs hok⟩

theorem C18_inclList : inclList = ["\\include".toList, "\\input".toList] := inclList_eq

/-- **C18 (inclusion), the system.**  `docs` is a finite file system of documents of the class
    above (`docsOk`; `fsOf docs` is what the filter and the shell read), `roots` the files of the
    command line, `skip` the `--skip` predicate; every root and every name in an `\input` /
    `\include` call that is not skipped is a file (`closedOk`: `myopen` does not exit).  The work
    list is computed by the loop of shell.py with the CONCRETE inclusion function `includesOf`
    (the filter of the model with `extr='include,input'`, `split()`, `.tex` added).  With
    `n ≥ |roots| + |docs|` iterations the loop TERMINATES, whether the inclusions are cyclic or
    not, and the list `out` of checked files satisfies:

    (0) every member is a file of `docs` and its scan succeeded (no fatal exit on the way);
    (i) every root that is not skipped is checked;
    (ii) if `f` is checked and contains `\input{g}` (`g' ∈ docIncludes docs f`: `g'` is `g`, or
        `g.tex` if `g` does not end in `.tex`) and `g'` is not skipped, `g'` is checked;
    (iii) exactly: `f` is checked iff it is reachable from a root through such calls, no file on
        the way (both ends included) being skipped (`ReachNS`);
    (iv) each file once, no skipped file; in breadth-first discovery order:
        `out = firstNew skip [] (roots ++ out.flatMap (docIncludes docs))`, and every member is a
        root or is included by an earlier member;
    (v) the same result for every larger number of iterations. -/
theorem C18_include_system (T : PTables) (o : Options) (docs : Docs) (roots : List Str)
    (skip : Str → Bool) (fuel n : Nat) (st1 : PState)
    (hdefs : o.defs = []) (hrepl : o.hasRepl = false)
    (hinit : initParser T fuel (inclOpts o) (initialState T (inclOpts o) false (fsOf docs)) = .ok ((), st1))
    (hst : PlainExtract.stateOk T (initExtractions T st1 inclList) = true)
    (hdocs : docsOk T (initExtractions T st1 inclList) fuel docs = true)
    (hclosed : closedOk skip docs roots = true)
    (hn : roots.length + docs.length ≤ n) :
    ∃ out, includeLoop (includesOf T fuel o (fsOf docs)) skip n roots [] = some out ∧
      (∀ f ∈ out, ∃ segs, docOf docs f = some segs ∧
        includesOf? T fuel o (fsOf docs) f = some (inclNames segs)) ∧
      (∀ r ∈ roots, skip r = false → r ∈ out) ∧
      (∀ f ∈ out, ∀ g ∈ docIncludes docs f, skip g = false → g ∈ out) ∧
      (∀ f, f ∈ out ↔ ReachNS (docIncludes docs) skip roots f) ∧
      out.Nodup ∧ (∀ f ∈ out, skip f = false) ∧
      out = firstNew skip [] (roots ++ out.flatMap (docIncludes docs)) ∧
      Causal (docIncludes docs) roots out ∧
      (∀ n', n ≤ n' → includeLoop (includesOf T fuel o (fsOf docs)) skip n' roots [] = some out) := by
  obtain ⟨out, h, h0, hnd, hsk, hreach, hord, hcaus⟩ :=
    include_system T o docs roots skip fuel n st1 hdefs hrepl hinit hst hdocs hclosed hn
  refine ⟨out, h, h0, ?_, ?_, hreach, hnd, hsk, hord, hcaus, ?_⟩
  · exact fun r hr hs => (hreach r).mpr (.root r hr hs)
  · exact fun f hf g hg hs => (hreach g).mpr (.step f g ((hreach f).mp hf) hg hs)
  · exact fun n' hn' => includeLoop_fuel_mono _ skip n n' roots [] out hn' h

/-! ### the current tables: a three-file system with a cycle -/

namespace IncludeCurrent
open Generated

/-- `main.tex`: `"Intro text \input{a} and \input{b.tex}\nEnd.\n"` -/
def segsMain : List PlainExtract.Seg :=
  [.txt "Intro text ".toList, .call "input".toList "a".toList, .txt " and ".toList,
   .call "input".toList "b.tex".toList, .txt "\nEnd.\n".toList]

/-- `a.tex`: `"Part A \include{main}\n"` — the cycle -/
def segsA : List PlainExtract.Seg :=
  [.txt "Part A ".toList, .call "include".toList "main".toList, .txt "\n".toList]

/-- `b.tex`: `"Part B\label{x}\n% \input{c}\nrest\n"` — a commented-out `\input{c}` (there is no
    file `c.tex`) and a `\label` -/
def segsB : List PlainExtract.Seg :=
  [.txt "Part B".toList, .skip "label".toList "x".toList, .txt "\n".toList,
   .com " \\input{c}".toList, .txt "rest\n".toList]

def docs3 : Docs :=
  [("main.tex".toList, segsMain), ("a.tex".toList, segsA), ("b.tex".toList, segsB)]

/-- the options of the command line: defaults -/
def oCmd : Options := {}

def noSkip : Str → Bool := fun _ => false
/-- `--skip b.tex` -/
def skipB : Str → Bool := fun f => f == "b.tex".toList

def initIncl : Outcome (Unit × PState) :=
  initParser theTables bigFuel (inclOpts oCmd) (initialState theTables (inclOpts oCmd) false (fsOf docs3))

/-- the parser state after `Parser.__init__` with the three files in the file system -/
def stIncl : PState :=
  match initIncl with
  | .ok (_, s) => s
  | _ => stDefault

def stInclNF : PState := withBuiltins (initialState theTables (inclOpts oCmd) false (fsOf docs3))

theorem initIncl_eq : initIncl = .ok ((), stInclNF) :=
  initParser_builtins (f := 999997) rfl rfl (by decide +kernel)

theorem stIncl_eq : stIncl = stInclNF := by
  rw [stIncl.eq_1, initIncl_eq]

theorem initParser_incl :
    initParser theTables bigFuel (inclOpts oCmd) (initialState theTables (inclOpts oCmd) false (fsOf docs3))
      = .ok ((), stIncl) := by
  rw [stIncl_eq]; exact initIncl_eq

end IncludeCurrent

open Generated IncludeCurrent in
/-- the file system as the filter and the shell see it -/
theorem C18_include_files_current :
    (fsOf docs3).map (fun p => (String.ofList p.1, String.ofList p.2)) =
      [("main.tex", "Intro text \\input{a} and \\input{b.tex}\nEnd.\n"),
       ("a.tex", "Part A \\include{main}\n"),
       ("b.tex", "Part B\\label{x}\n% \\input{c}\nrest\n")] := by
  decide +kernel

open Generated IncludeCurrent in
/-- the hypotheses of `C18_include_system` hold on the tables of the current /repo for the
    three-file system (with and without `--skip b.tex`; `docsOk` contains that after
    `init_extractions` the first mandatory argument of `\include` and of `\input` is extracted
    and that of `\label` is not: `callDeclOk`, `skipDeclOk`); the names the documents contribute (`\input{a}` gives `a.tex`, `\input{b.tex}` stays, the commented-out
    `\input{c}` and the `\label{x}` give nothing) -/
theorem C18_include_system_current :
    initParser theTables bigFuel (inclOpts oCmd) (initialState theTables (inclOpts oCmd) false (fsOf docs3))
      = .ok ((), stIncl) ∧
    PlainExtract.stateOk theTables (initExtractions theTables stIncl inclList) = true ∧
    docsOk theTables (initExtractions theTables stIncl inclList) bigFuel docs3 = true ∧
    closedOk noSkip docs3 ["main.tex".toList] = true ∧
    closedOk skipB docs3 ["main.tex".toList] = true ∧
    docs3.all (fun d => namesOk d.2) = true ∧
    docs3.map (fun d => (String.ofList d.1, (inclNames d.2).map String.ofList)) =
      [("main.tex", ["a.tex", "b.tex"]), ("a.tex", ["main.tex"]), ("b.tex", [])] := by
  have h : (PlainExtract.stateOk theTables (initExtractions theTables stIncl inclList) &&
      docsOk theTables (initExtractions theTables stIncl inclList) bigFuel docs3) = true := by
    rw [stIncl_eq]; decide +kernel
  rw [Bool.and_eq_true] at h
  exact ⟨initParser_incl, h.1, h.2, by decide +kernel, by decide +kernel, by decide +kernel,
    by decide +kernel⟩

open Generated IncludeCurrent in
/-- on the three-file system the filter of the model (real tables) contributes for every file what
    `docIncludes` reads off the documents: `includesOf_docs` with `C18_include_system_current` -/
theorem C18_includesOf_current : includesOf theTables bigFuel oCmd (fsOf docs3) = docIncludes docs3 := by
  obtain ⟨h1, h2, h3, _⟩ := C18_include_system_current
  exact funext fun f => (includesOf_docs theTables oCmd docs3 bigFuel stIncl rfl rfl h1 h2 h3 f).2

open Generated IncludeCurrent in
/-- **the whole loop** on the model of the filter with the real tables:
    `main.tex` inputs `a` and `b.tex`, `a.tex` includes `main` (a cycle), `b.tex` has a
    commented-out `\input{c}` and a `\label{x}`.  The work list is `main.tex, a.tex, b.tex`
    (by `C18_includesOf_current` the three runs of the filter give what the documents say; the loop
    on that is evaluated). -/
theorem C18_include_example_current :
    includeLoop (includesOf theTables bigFuel oCmd (fsOf docs3)) noSkip 4 ["main.tex".toList] []
      = some ["main.tex".toList, "a.tex".toList, "b.tex".toList] := by
  rw [C18_includesOf_current]; decide +kernel

open Generated IncludeCurrent in
/-- the same with `--skip b.tex`; and there is no file `c.tex` (opening it would be fatal) -/
theorem C18_include_skip_example_current :
    includeLoop (includesOf theTables bigFuel oCmd (fsOf docs3)) skipB 4 ["main.tex".toList] []
      = some ["main.tex".toList, "a.tex".toList] ∧
    includesOf? theTables bigFuel oCmd (fsOf docs3) "c.tex".toList = none :=
  ⟨by rw [C18_includesOf_current]; unfold docs3 skipB; rw [String.toList_ofList, String.toList_ofList, String.toList_ofList]
      decide +kernel,
    by unfold docs3; (repeat rw [String.toList_ofList]); decide +kernel⟩

open Generated IncludeCurrent in
/-- an argument with white space: the document `"See \input{my file}.\n"` is in the class (on the
    current tables, empty file system), and the shell takes it for the TWO files `my.tex` and
    `file.tex` (`plain.split()`) -/
theorem C18_include_blank_current :
    initParser theTables bigFuel (inclOpts oCmd) (initialState theTables (inclOpts oCmd) false [])
      = .ok ((), stDefault) ∧
    PlainExtract.segsOk theTables (initExtractions theTables stDefault inclList)
      [.txt "See ".toList, .call "input".toList "my file".toList, .txt ".\n".toList] = true ∧
    inclNames [.txt "See ".toList, .call "input".toList "my file".toList, .txt ".\n".toList]
      = ["my.tex".toList, "file.tex".toList] ∧
    includesOf? theTables bigFuel oCmd [("x.tex".toList, "See \\input{my file}.\n".toList)] "x.tex".toList
      = some ["my.tex".toList, "file.tex".toList] :=
  ⟨initParser_default,
    by rw [stDefault_eq]; (repeat rw [String.toList_ofList]); decide +kernel,
    by (repeat rw [String.toList_ofList]); decide +kernel,
    by rw [String.toList_ofList, String.toList_ofList, String.toList_ofList, String.toList_ofList]; decide +kernel⟩

open Generated IncludeCurrent in
/-- the system theorem applied to the three-file system on the current tables: the list
    `main.tex, a.tex, b.tex` the kernel computes is the set of files reachable from `main.tex`,
    without duplicates, in discovery order; any larger number of iterations gives the same -/
theorem C18_include_system_example_current :
    let out := ["main.tex".toList, "a.tex".toList, "b.tex".toList]
    out.Nodup ∧
    (∀ f, f ∈ out ↔ ReachNS (docIncludes docs3) noSkip ["main.tex".toList] f) ∧
    out = firstNew noSkip [] (["main.tex".toList] ++ out.flatMap (docIncludes docs3)) ∧
    Causal (docIncludes docs3) ["main.tex".toList] out ∧
    (∀ n, 4 ≤ n → includeLoop (includesOf theTables bigFuel oCmd (fsOf docs3)) noSkip n
        ["main.tex".toList] [] = some out) := by
  obtain ⟨h1, h2, h3, h4, _⟩ := C18_include_system_current
  obtain ⟨out, h, _, _, _, hreach, hnd, _, hord, hcaus, hfuel⟩ := C18_include_system theTables oCmd docs3
    ["main.tex".toList] noSkip bigFuel 4 stIncl rfl rfl h1 h2 h3 h4 (by decide)
  have e := C18_include_example_current
  rw [h] at e
  simp only [Option.some.injEq] at e
  subst e
  exact ⟨hnd, hreach, hord, hcaus, hfuel⟩

end Yalafi
