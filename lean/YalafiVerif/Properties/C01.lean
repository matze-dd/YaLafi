/-
  Properties/C01.lean — every output character has exactly one source position,
  inside the source.

  Proved here (all inputs): the text/position builder, the scanner, the error mark,
  blank-line removal, the multi-language splitter and phrase replacement each
  keep lengths equal and positions inside `[0, n)` (the `+1` of tex2txt.py gives
  `1 ≤ p ≤ n`), and — `C01_tex2txt` — so does the whole filter model including the
  macro expander (induction on fuel over the mutual block, Proofs/Inv/*).
-/
import YalafiVerif.Proofs.Scanner
import YalafiVerif.Proofs.Utils
import YalafiVerif.Proofs.Lines
import YalafiVerif.Proofs.Replace
import YalafiVerif.Proofs.Inv.Tex2txt
import YalafiVerif.Generated.WF
import YalafiVerif.Proofs.Reports
namespace Yalafi

theorem C01_getTxtPos_length (ts : List Tok) : (getTxtPos ts).1.length = (getTxtPos ts).2.length :=
  getTxtPos_length ts

theorem C01_getTxtPos_range (n : Nat) (ts : List Tok) (h : ∀ t ∈ ts, t.txt ≠ [] → TokInRange n t) :
    ∀ p ∈ (getTxtPos ts).2, p < n :=
  getTxtPos_range n ts h

theorem C01_scan_inRange (T : Tables) (h : T.WFScan) (src : Str) :
    ∀ t ∈ (scan T src).toks, TokInRange src.length t :=
  scan_inRange T h src

/-- an error mark is in range wherever the error is (also at the last character, also when the
    mark is longer than the rest of the text) -/
theorem C01_latexError_inRange (T : Tables) (hm : T.mark ≠ []) (err : Str) (pos n : Nat) (hp : pos < n) :
    (∀ t ∈ latexErrorToks T err pos n, t.fix = true ∧ t.kind = .text ∧ t.pos < n) ∧
    (latexErrorToks T err pos n).head?.map (·.pos) = some pos ∧
    ∀ p ∈ (getTxtPos (latexErrorToks T err pos n)).2, p < n :=
  latexErrorToks_inv T hm err pos n hp

theorem C01_removeLines_inRange (n : Nat) (ts out : List Tok)
    (h : ∀ t ∈ ts, t.txt ≠ [] → TokInRange n t) (hr : removeLines ts = some out) :
    ∀ t ∈ out, t.txt ≠ [] → TokInRange n t :=
  removeLines_inRange n ts out h hr

theorem C01_ml_parts (toks : List Tok) (main : Str) (thresh : Nat) (lc lc' : LangChange) (parts : Parts)
    (h : getTxtPosML toks main thresh lc = some (parts, lc')) :
    ∀ tp ∈ allParts parts, tp.1.length = tp.2.length ∧
      ∀ p ∈ tp.2, p ∈ (getTxtPos (toks.filter (fun t => !isLangTok t))).2 :=
  getTxtPosML_parts toks main thresh lc lc' parts h

theorem C01_substitute_positions (T : Tables) (txt : Str) (pos : List Nat) (lines : List Str)
    (hlen : txt.length = pos.length) :
    (replacePhrases T txt pos lines).1.length = (replacePhrases T txt pos lines).2.length ∧
    ∀ p ∈ (replacePhrases T txt pos lines).2, p ∈ pos :=
  replacePhrases_ok T txt pos lines hlen

/-- The tail of the pipeline, composed: whatever token list the expander delivers, if its
    tokens are in range then text and map of the single-language result — after phrase
    replacement — have equal length and every position is `< n`.
    (`_partial`: the hypothesis on the expander's tokens is what `C01_tex2txt` below establishes
    for the whole filter model.) -/
theorem C01_pipeline_partial (T : Tables) (n : Nat) (toks : List Tok) (lines : List Str)
    (h : ∀ t ∈ toks, t.txt ≠ [] → TokInRange n t) :
    let r := replacePhrases T (getTxtPos toks).1 (getTxtPos toks).2 lines
    r.1.length = r.2.length ∧ ∀ p ∈ r.2, p < n := by
  intro r
  have hl := getTxtPos_length toks
  have h1 := replacePhrases_ok T _ _ lines hl
  exact ⟨h1.1, fun p hp => getTxtPos_range n toks h p (h1.2 p hp)⟩

/-- **C01 for the whole filter model** (scanner, macro expander with all handlers and
    bundled packages, maths parser, blank-line removal, detached flows, phrase replacement,
    multi-language splitter): for every source text, option record, file system and fuel,
    whenever `tex2txt` returns, text and position list have equal length and — unless `--unkn`
    replaced the map — every position lies in `1 … len(source)`, for the single text and for
    every language part.  Hypotheses: the decidable table facts `T.WFInv`, and the ghost flag
    `foreign` of the run is false (a text flow extracted while a package's own LaTeX
    definitions were parsed in the middle of the document; impossible with the bundled
    modules, reported per run by the harness). -/
theorem C01_tex2txt (T : PTables) (hw : T.WFInv) (fuel : Nat) (latex : Str) (o : Options) (multi : Bool)
    (thresh : Nat) (fs : FS) :
    match tex2txt T fuel latex o multi thresh fs with
    | .ok r =>
      r.txt.length = r.pos.length ∧
      (r.foreign = false → o.unkn = false → PartOk latex.length (r.txt, r.pos)) ∧
      (r.foreign = false → ∀ tp ∈ allParts r.parts, PartOk latex.length tp)
    | _ => True :=
  tex2txt_inRange T hw fuel latex o multi thresh fs

/-- the same for the tables translated from /repo on this run (`Generated/WF.lean` decides
    `WFInv` with the kernel) -/
theorem C01_tex2txt_current (fuel : Nat) (latex : Str) (o : Options) (multi : Bool) (thresh : Nat) (fs : FS) :
    match tex2txt Generated.theTables fuel latex o multi thresh fs with
    | .ok r =>
      r.txt.length = r.pos.length ∧
      (r.foreign = false → o.unkn = false → PartOk latex.length (r.txt, r.pos)) ∧
      (r.foreign = false → ∀ tp ∈ allParts r.parts, PartOk latex.length tp)
    | _ => True :=
  C01_tex2txt Generated.theTables Generated.wfInv fuel latex o multi thresh fs

/- non-vacuity of `C01_tex2txt_current` is not shown here: the compiled model is run on thousands of
   documents by the correspondence check; the evidence file reports how many returned `ok` with
   `foreign = false`. -/

/-- `TokInRange` can hold: one hand-written token -/
example : TokInRange 3 { kind := .text, pos := 2, txt := ['a'] } := by
  simp [TokInRange]

end Yalafi

/-
  The command line (`tex2txt.write_output`, Model/Reports.lean; tied to the code by
  harness/corr_reports.py): the `--nums` file has one line per number.
-/
namespace Yalafi
open Reports

/-- the lines of the `--nums` file: one per number, the decimal `|n|` followed by `+` iff
    `n < 0`; no line is empty or holds a line break, so the file (every line followed by a line
    break) has exactly `len(nums)` lines; the line determines the number -/
theorem C01_nums_lines (nums : List Int) :
    (writeNums nums).length = nums.length ∧
    (∀ i : Nat, (writeNums nums)[i]? = (nums[i]?).map (fun (n : Int) => natToStr n.natAbs ++ (if n < 0 then ['+'] else []))) ∧
    (∀ l ∈ writeNums nums, '\n' ∉ l ∧ l ≠ []) ∧
    numsFile nums = (writeNums nums).flatMap (· ++ ['\n']) ∧
    (numsFile nums).count '\n' = nums.length ∧
    (∀ a b, numLine a = numLine b → a = b) :=
  nums_lines nums

/-- `write_output(text, ft, fn)`: the text is written unchanged, and if text and numbers have
    equal length (`C01_tex2txt`) the `--nums` file has exactly one line per character written -/
theorem C01_write_output (text : Str × List Int) (h : (textGetTxt text).length = (textGetNum text).length) :
    (writeOutput text).1 = textGetTxt text ∧
    (writeOutput text).2 = numsFile (textGetNum text) ∧
    (writeOutput text).2.count '\n' = (writeOutput text).1.length :=
  writeOutput_lines text h

example : writeOutput ("aä\n".toList, [1, -12, 3]) = ("aä\n".toList, "1\n12+\n3\n".toList) := by
  rw [String.toList_ofList, String.toList_ofList]; decide

end Yalafi
