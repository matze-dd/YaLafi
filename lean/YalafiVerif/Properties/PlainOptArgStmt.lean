/-
  Properties/PlainOptArgStmt.lean — C09 "`\renewcommand` (with parameter count and optional default)", C04
  "generated text maps into the construct": the end-to-end theorem for definitions with an optional
  first parameter and a default value (Proofs/PlainOptArg.lean, PlainOptArgExp.lean, PlainOptArgE2E.lean).
-/
import YalafiVerif.Proofs.PlainOptArgE2E
import YalafiVerif.Generated.Init
namespace Yalafi

/-- **a definition with an optional first parameter expands by substitution, the default value is
    pinned to the call**, end to end on the filter model.

    Documents: `orender segs` over inert text, definitions `\kw{\name}[n][dflt]{body}` (`kw` a keyword
    declared like `\newcommand`: on the real tables `newcommand` and `renewcommand`; `1 ≤ n ≤ 9`; `dflt`
    non-empty inert text without `]`; body = pieces `lit s` | `par k` (`#k`, `1 ≤ k ≤ n`)) and uses
    `\name[a1]{a2}…{am}` (`opt = some a1`) / `\name{a2}…{am}` (`opt = none`) with at least `n - 1` groups.

    Claim: `tex2txt` succeeds and text / 1-based positions are `delLines (osegMarks [] 0 segs)`:
    * text keeps its own positions; a definition leaves no text and is in force BEHIND it — a
      redefinition (`\renewcommand`, or `\newcommand` again: the model does not distinguish) with
      another parameter count, default and body affects LATER uses only;
    * a use `\name[a1]{a2}…`: `#1` is the text of `a1`, every character with its own source position;
    * a use `\name{a2}…`: `#1` is the default `dflt` of the definition in force, EVERY CHARACTER AT THE
      POSITION OF THE BACKSLASH OF THE USE;
    * `#k` (`k ≥ 2`) is the text of the (k-1)-th group with its own positions; literal body characters
      are placed as in `C09_newcommand_args_e2e` (start of the argument referenced last / last token of
      the argument substituted before; for the default both are the backslash of the use);
    * groups beyond the (n-1)-th are copied; a use (without `[…]`) of an undefined name: groups copied,
      name listed in `unknowns`;
    * then `remove_pure_action_lines` (`delLines`); no diagnostic is added. -/
theorem C09_renewcommand_default_e2e (T : PTables) (o : Options) (fs : FS) (thresh : Nat)
    (segs : List PlainOptArg.OSeg) (fuel : Nat) (st1 : PState)
    (hdefs : o.defs = []) (hextr : o.extr = []) (hrepl : o.hasRepl = false) (hunkn : o.unkn = false)
    (hinit : initParser T fuel o (initialState T o false fs) = .ok ((), st1))
    (hok : PlainOptArg.OSegsOk T st1 segs)
    (hf : (PlainOptArg.orender segs).length + PlainOptArg.osegInserted [] 0 segs + 6 ≤ fuel) :
    ∃ r, tex2txt T fuel (PlainOptArg.orender segs) o false thresh fs = .ok r ∧
      r.txt = (PlainMacro.delLines (PlainOptArg.osegMarks [] 0 segs)).map (·.1) ∧
      r.pos = (PlainMacro.delLines (PlainOptArg.osegMarks [] 0 segs)).map (·.2 + 1) ∧
      r.unknowns = (PlainOptArg.osegUnknowns [] segs).eraseDups ∧
      r.diags = st1.diags ∧ r.parts = [] :=
  PlainOptArg.tex2txt_renewcommand_default T o fs thresh segs fuel st1 hdefs hextr hrepl hunkn hinit hok hf

/-- the document of the `_current` instance:
    `\newcommand{\pp}[2][dd]{a#2b#1c}` / `X \pp[uu]{vv} Y \pp{w} Z` /
    `\renewcommand{\pp}[1][e f]{<#1>}` / `U \pp{k} V \pp[o].` -/
def optArgExample : List PlainOptArg.OSeg :=
  [.defn "newcommand".toList "pp".toList 2 "dd".toList
     [.lit "a".toList, .par 2, .lit "b".toList, .par 1, .lit "c".toList],
   .txt "\nX ".toList, .use "pp".toList (some "uu".toList) ["vv".toList], .txt " Y ".toList,
   .use "pp".toList none ["w".toList], .txt " Z\n".toList,
   .defn "renewcommand".toList "pp".toList 1 "e f".toList [.lit "<".toList, .par 1, .lit ">".toList],
   .txt "\nU ".toList, .use "pp".toList none ["k".toList], .txt " V ".toList,
   .use "pp".toList (some "o".toList) [], .txt ".\n".toList]

theorem optArgExample_render :
    PlainOptArg.orender optArgExample
      = ("\\newcommand{\\pp}[2][dd]{a#2b#1c}\nX \\pp[uu]{vv} Y \\pp{w} Z\n" ++
         "\\renewcommand{\\pp}[1][e f]{<#1>}\nU \\pp{k} V \\pp[o].\n").toList := by
  rw [String.toList_append, String.toList_ofList, String.toList_ofList]; decide +kernel

/-- the document (a two-parameter macro with default used with and without `[…]`, then redefined with
    `\renewcommand` as a one-parameter macro with another default and used again) satisfies all side
    conditions for the parser initialised from the tables of the current /repo -/
theorem C09_renewcommand_default_current :
    PlainOptArg.OSegsOk Generated.theTables Generated.stDefault optArgExample := by
  rw [Generated.stDefault_eq]; decide +kernel

/-- the reference output for that document, evaluated: text `X avvbuuc Y awbddc Z` / `U <e f>k V <o>.`;
    the default `dd` of the first definition maps to position 50 = the backslash of `\pp{w}`, the
    default `e f` of the redefinition to position 94 = the backslash of `\pp{k}` -/
theorem C09_renewcommand_default_current_ref :
    (PlainMacro.delLines (PlainOptArg.osegMarks [] 0 optArgExample)).map (·.1)
        = "X avvbuuc Y awbddc Z\nU <e f>k V <o>.\n".toList ∧
    (PlainMacro.delLines (PlainOptArg.osegMarks [] 0 optArgExample)).map (·.2 + 1)
        = [34, 35, 40, 44, 45, 45, 40, 41, 41, 47, 48, 49, 50, 54, 54, 50, 50, 50, 56, 57, 58, 92, 93, 94, 94,
           94, 94, 94, 98, 100, 101, 102, 107, 107, 107, 109, 110] ∧
    (PlainOptArg.osegUnknowns [] optArgExample).eraseDups = [] := by
  rw [String.toList_ofList]; decide +kernel

/-- … and so `tex2txt` on the real tables yields exactly that (instance of the theorem) -/
theorem C09_renewcommand_default_current_e2e :
    ∃ r, tex2txt Generated.theTables Generated.bigFuel
        ("\\newcommand{\\pp}[2][dd]{a#2b#1c}\nX \\pp[uu]{vv} Y \\pp{w} Z\n" ++
         "\\renewcommand{\\pp}[1][e f]{<#1>}\nU \\pp{k} V \\pp[o].\n").toList
        Generated.defaultOptions false 0 [] = .ok r ∧
      r.txt = "X avvbuuc Y awbddc Z\nU <e f>k V <o>.\n".toList ∧
      r.pos = [34, 35, 40, 44, 45, 45, 40, 41, 41, 47, 48, 49, 50, 54, 54, 50, 50, 50, 56, 57, 58, 92, 93, 94,
               94, 94, 94, 94, 98, 100, 101, 102, 107, 107, 107, 109, 110] ∧
      r.unknowns = [] ∧ r.diags = Generated.stDefault.diags := by
  obtain ⟨r, h1, h2, h3, h4, h5, _⟩ := C09_renewcommand_default_e2e Generated.theTables
    Generated.defaultOptions [] 0 optArgExample Generated.bigFuel Generated.stDefault rfl rfl rfl rfl
    Generated.initParser_default C09_renewcommand_default_current (by decide +kernel)
  obtain ⟨e1, e2, e3⟩ := C09_renewcommand_default_current_ref
  rw [optArgExample_render] at h1
  exact ⟨r, h1, h2.trans e1, h3.trans e2, h4.trans e3, h5⟩

/-- the same run as an evaluation of the model: what the `match` on its outcome yields (by the instance
    above) -/
theorem C09_renewcommand_default_current_eval :
    (match tex2txt Generated.theTables Generated.bigFuel
        ("\\newcommand{\\pp}[2][dd]{a#2b#1c}\nX \\pp[uu]{vv} Y \\pp{w} Z\n" ++
         "\\renewcommand{\\pp}[1][e f]{<#1>}\nU \\pp{k} V \\pp[o].\n").toList
        Generated.defaultOptions false 0 [] with
     | .ok r =>
       r.txt == "X avvbuuc Y awbddc Z\nU <e f>k V <o>.\n".toList &&
       r.pos == [34, 35, 40, 44, 45, 45, 40, 41, 41, 47, 48, 49, 50, 54, 54, 50, 50, 50, 56, 57, 58, 92, 93,
                 94, 94, 94, 94, 94, 98, 100, 101, 102, 107, 107, 107, 109, 110] &&
       r.unknowns.isEmpty
     | _ => false) = true := by
  obtain ⟨r, h1, h2, h3, h4, _⟩ := C09_renewcommand_default_current_e2e
  rw [h1]
  simp only [h2, h3, h4, beq_self_eq_true, Bool.and_self, List.isEmpty_nil]

end Yalafi
