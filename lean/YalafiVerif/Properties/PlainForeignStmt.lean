/-
  Properties/PlainForeignStmt.lean — C12 "… A foreign insertion of at most the configured number of
  words inside a sentence is represented in the surrounding part by one placeholder of the
  language-change collection and the sentence continues in the same part; a longer insertion …
  ends the part", end to end on the model, for documents of inert text and insertions
  `\foreignlanguage{name}{text}` (package babel loaded, multi-language mode).
  Proofs: Proofs/PlainForeignML.lean (`get_txt_pos_ml`), Proofs/PlainForeign.lean (expander, end to
  end; its header lists all side conditions), Proofs/PlainForeignCor.lean (corollaries).
-/
import YalafiVerif.Proofs.PlainForeignCor
import YalafiVerif.Proofs.PlainForeignEmb
import YalafiVerif.Properties.PlainLangStmt
import YalafiVerif.Generated.Init
namespace Yalafi
namespace PlainForeign
open Generated

/-- **C12 for `\foreignlanguage`, end to end** (`Proofs/PlainForeignEmb.lean`,
    `tex2txt_foreignlanguage`).  The source is `render segs`: inert text segments `txt s` and
    insertions `frn name body` = `\foreignlanguage{name}{body}`.
    Hypotheses: no `--defs`, `--extr`, `--repl`; `foreignlang_break` is not set (`T.foreignBrk`);
    `st1` is the parser state after `Parser.__init__` in MULTI-LANGUAGE mode, its multi-language flag
    is set, its language stack is not empty, and the settings of the main language `o.lang` have a
    non-empty language-change collection (`mainRepl (lcOf st1) o.lang` = `lang_change_repl` of
    `check_parser_lang(o.lang)`); `segsOk T st1 o.lang segs` (computable; header of
    `Proofs/PlainForeign.lean`: babel's `\foreignlanguage` is declared; `{` directly behind the macro
    name and between the arguments; the name is inert, is translated to a language code that DIFFERS
    from `o.lang`; the text is inert for the settings of the foreign language and has a visible
    character on its first line — it may contain further lines; behind an insertion the document
    ends or a non-empty text follows); one unit of fuel per source character plus two.
    Then `tex2txt` succeeds, nothing is reported as unknown, no diagnostic is added, and
    `r.parts = refParts T o.lang thresh repl segs`, i.e. (`refOut`, `Proofs/PlainForeignML.lean`):

    * every text character keeps its own source position (reported 1-based) and goes to the current
      piece of the main language `o.lang`;
    * the text of every insertion is a piece of its own under the language code of its name, every
      character at its own position;
    * SHORT insertion — `(splitWs body).length ≤ thresh`, the exact test of `ml_check_lang_section`
      (`len(txt.split()) <= ml_continue_thresh`: "at most", not "less than") — behind a non-empty
      piece of main-language text: the collection is ROTATED BY ONE FIRST and its new head is
      appended to the current piece as the placeholder (so the k-th short insertion, k = 1, 2, …, gets
      entry `k mod length` of the initial collection, indices from 0); every character of the
      placeholder is mapped to the position of the FIRST VISIBLE character of the insertion; if the
      insertion starts / ends with white space, that one character is copied in front of / behind
      the placeholder with its own position (issue 117); the current piece CONTINUES behind the
      insertion (the text in front of and behind it are in one piece);
    * LONG insertion (more than `thresh` words), or an insertion with no main-language text in front
      of it (at the beginning of the document): the current piece ends, a new one starts behind the
      insertion;
    * the pieces are grouped by language code, codes in the order of their first piece (the piece of
      a short insertion is produced BEFORE the surrounding piece is finished). -/
theorem C12_foreignlanguage_e2e (T : PTables) (o : Options) (fs : FS) (thresh : Nat) (segs : List Seg)
    (fuel : Nat) (st1 : PState)
    (hdefs : o.defs = []) (hextr : o.extr = []) (hrepl : o.hasRepl = false)
    (hfb : T.foreignBrk = false)
    (hinit : initParser T fuel o (initialState T o true fs) = .ok ((), st1))
    (hml : st1.multiLanguage = true) (hstk : st1.langStack ≠ [])
    (hlc : mainRepl (lcOf st1) o.lang ≠ [])
    (hok : segsOk T st1 o.lang segs = true)
    (hf : (render segs).length + 2 ≤ fuel) :
    ∃ r, tex2txt T fuel (render segs) o true thresh fs = .ok r ∧
      r.parts = refParts T o.lang thresh (mainRepl (lcOf st1) o.lang) segs ∧ r.unknowns = [] ∧
      r.diags = st1.diags := by
  obtain ⟨r, h1, h2, h3, h4, _⟩ := tex2txt_foreignlanguage T o fs thresh segs fuel st1 hdefs hextr hrepl
    hfb hinit hml hstk hlc hok hf
  exact ⟨r, h1, h2, h3, h4⟩

/-- **one placeholder per short insertion, none for a long one; the sentence continues.**  Under
    the hypotheses of `C12_foreignlanguage_e2e` the pieces of text filed under the main language
    (`partOf r.parts o.lang` = `parts[o.lang]`) are EXACTLY `mainPieces` (positions 1-based): text is
    appended to the current piece; an insertion of at most `thresh` words behind a non-empty piece
    appends exactly one placeholder — the head of the main language's collection after one more
    rotation (`placeholder`) — and the SAME piece continues; every other insertion contributes
    nothing and ends the piece. -/
theorem C12_short_insertion_one_placeholder (T : PTables) (o : Options) (fs : FS) (thresh : Nat)
    (segs : List Seg) (fuel : Nat) (st1 : PState)
    (hdefs : o.defs = []) (hextr : o.extr = []) (hrepl : o.hasRepl = false)
    (hfb : T.foreignBrk = false)
    (hinit : initParser T fuel o (initialState T o true fs) = .ok ((), st1))
    (hml : st1.multiLanguage = true) (hstk : st1.langStack ≠ [])
    (hlc : mainRepl (lcOf st1) o.lang ≠ [])
    (hok : segsOk T st1 o.lang segs = true)
    (hf : (render segs).length + 2 ≤ fuel) :
    ∃ r, tex2txt T fuel (render segs) o true thresh fs = .ok r ∧
      partOf r.parts o.lang
        = (mainPieces thresh 0 (mainRepl (lcOf st1) o.lang) [] segs).map pieceTp := by
  obtain ⟨r, h1, h2, _⟩ := tex2txt_foreignlanguage T o fs thresh segs fuel st1 hdefs hextr hrepl
    hfb hinit hml hstk hlc hok hf
  refine ⟨r, h1, ?_⟩
  rw [h2]
  exact refParts_main T o.lang thresh _ segs (segsOk_sep T st1 o.lang segs hok).2.1

/-- **the words of an insertion are filed under its language, and only there.**  Under the
    hypotheses of `C12_foreignlanguage_e2e`, for every language code `k` other than the main
    language: the pieces of text under `k` are EXACTLY the texts of the insertions whose name is
    translated to `k` (`frnList 0 segs`: 0-based position `q` of the first character of the text,
    name, text), in document order, one piece per insertion, every character at its own (1-based)
    source position `q + 1, q + 2, …` — whether the insertion is short or long.  (So every character
    of every insertion occurs exactly once under a foreign code; by
    `C12_short_insertion_one_placeholder` it does not occur under the main code, except for one
    leading / trailing blank of a short insertion.) -/
theorem C12_foreign_words_own_part (T : PTables) (o : Options) (fs : FS) (thresh : Nat)
    (segs : List Seg) (fuel : Nat) (st1 : PState)
    (hdefs : o.defs = []) (hextr : o.extr = []) (hrepl : o.hasRepl = false)
    (hfb : T.foreignBrk = false)
    (hinit : initParser T fuel o (initialState T o true fs) = .ok ((), st1))
    (hml : st1.multiLanguage = true) (hstk : st1.langStack ≠ [])
    (hlc : mainRepl (lcOf st1) o.lang ≠ [])
    (hok : segsOk T st1 o.lang segs = true)
    (hf : (render segs).length + 2 ≤ fuel) :
    ∃ r, tex2txt T fuel (render segs) o true thresh fs = .ok r ∧
      ∀ k, k ≠ o.lang →
        partOf r.parts k
          = ((frnList 0 segs).filter (fun x => PlainLang.codeOfName T x.2.1 == k)).map
              (fun x => (x.2.2, List.range' (x.1 + 1) x.2.2.length)) := by
  obtain ⟨r, h1, h2, _⟩ := tex2txt_foreignlanguage T o fs thresh segs fuel st1 hdefs hextr hrepl
    hfb hinit hml hstk hlc hok hf
  refine ⟨r, h1, ?_⟩
  intro k hk
  rw [h2]
  exact refParts_foreign T o.lang thresh _ segs k hk

/-- the insertions of `frnList` are those of the source: `(q, name, body) ∈ frnList 0 segs` implies
    that the source has the text `body` at 0-based position `q` -/
theorem C12_frnList_source (segs : List Seg) (x : Nat × Str × Str) (h : x ∈ frnList 0 segs) :
    ((render segs).drop x.1).take x.2.2.length = x.2.2 :=
  (frnList_render segs 0 x h).2

/-- **the words of the main text are filed under the main language.**  Under the hypotheses of
    `C12_foreignlanguage_e2e`: the characters of the pieces under the main language, read in order
    (`tpChars` pairs every character with its reported position), are `mainStream` with 1-based
    positions: every character of every text segment at its own position, plus one placeholder for
    each short insertion that has main text in front of it; in particular every text character
    `(c, p)` (`textChars 0 segs`, 0-based, cf. `C12_textChars_source`) occurs there at position
    `p + 1`. -/
theorem C12_main_words_main_part (T : PTables) (o : Options) (fs : FS) (thresh : Nat)
    (segs : List Seg) (fuel : Nat) (st1 : PState)
    (hdefs : o.defs = []) (hextr : o.extr = []) (hrepl : o.hasRepl = false)
    (hfb : T.foreignBrk = false)
    (hinit : initParser T fuel o (initialState T o true fs) = .ok ((), st1))
    (hml : st1.multiLanguage = true) (hstk : st1.langStack ≠ [])
    (hlc : mainRepl (lcOf st1) o.lang ≠ [])
    (hok : segsOk T st1 o.lang segs = true)
    (hf : (render segs).length + 2 ≤ fuel) :
    ∃ r, tex2txt T fuel (render segs) o true thresh fs = .ok r ∧
      (partOf r.parts o.lang).flatMap tpChars
        = (mainStream thresh 0 (mainRepl (lcOf st1) o.lang) false segs).map (fun cp => (cp.1, cp.2 + 1)) ∧
      ∀ c p, (c, p) ∈ textChars 0 segs → (c, p + 1) ∈ (partOf r.parts o.lang).flatMap tpChars := by
  obtain ⟨r, h1, h2⟩ := C12_short_insertion_one_placeholder T o fs thresh segs fuel st1 hdefs hextr
    hrepl hfb hinit hml hstk hlc hok hf
  have h3 := main_chars thresh (mainRepl (lcOf st1) o.lang) segs
  refine ⟨r, h1, by rw [h2, h3], ?_⟩
  intro c p hm
  rw [h2, h3]
  exact List.mem_map.mpr ⟨(c, p),
    (textChars_sublist thresh segs 0 _ false).subset hm, rfl⟩

theorem C12_textChars_source (segs : List Seg) (c : Char) (p : Nat) (h : (c, p) ∈ textChars 0 segs) :
    (render segs)[p]? = some c :=
  (textChars_render segs 0 (c, p) h).2

/-- `"This is a \foreignlanguage{german}{kurzer Satz} in the text and
    \foreignlanguage{german}{ein wirklich langer deutscher Satz hier} too.\n"`:
    one short insertion (two words, `thresh = 2`) and one long one -/
def exSegs : List Seg :=
  [.txt "This is a ".toList, .frn "german".toList "kurzer Satz".toList, .txt " in the text and ".toList,
   .frn "german".toList "ein wirklich langer deutscher Satz hier".toList, .txt " too.\n".toList]

theorem exSegs_render : render exSegs =
    "This is a \\foreignlanguage{german}{kurzer Satz} in the text and \\foreignlanguage{german}{ein wirklich langer deutscher Satz hier} too.\n".toList := by
  unfold exSegs; (repeat rw [String.toList_ofList]); decide +kernel

theorem exSegs_ok : segsOk theTables stBabel babelOptions.lang exSegs = true := by
  rw [stBabel_eq]; unfold exSegs; (repeat rw [String.toList_ofList]); decide +kernel

theorem stBabel_stack : stBabel.langStack ≠ [] := by rw [stBabel_eq]; exact List.cons_ne_nil _ _

theorem stBabel_repl :
    mainRepl (lcOf stBabel) babelOptions.lang
      = ["K-K-K".toList, "L-L-L".toList, "M-M-M".toList, "N-N-N".toList] := by
  rw [stBabel_eq, String.toList_ofList, String.toList_ofList, String.toList_ofList, String.toList_ofList]; decide +kernel

theorem stBabel_repl_ne : mainRepl (lcOf stBabel) babelOptions.lang ≠ [] := by
  rw [stBabel_repl]; simp

/-- the expected parts: the short insertion leaves the placeholder `L-L-L` (the SECOND entry of the
    collection), mapped to position 36 = the `k` of `kurzer`, and the sentence continues in the same
    piece; the long insertion cuts the English text; both German texts are pieces of their own.  The
    code `de-DE` comes first: the piece of the short insertion is complete before the surrounding
    English piece is. -/
def exParts : Parts :=
  [("de-DE".toList,
      [("kurzer Satz".toList, List.range' 36 11),
       ("ein wirklich langer deutscher Satz hier".toList, List.range' 90 39)]),
   ("en-GB".toList,
      [("This is a L-L-L in the text and ".toList,
          List.range' 1 10 ++ [36, 36, 36, 36, 36] ++ List.range' 48 17),
       (" too.\n".toList, List.range' 130 6)])]

theorem exSegs_ref :
    refParts theTables babelOptions.lang 2 (mainRepl (lcOf stBabel) babelOptions.lang) exSegs = exParts := by
  rw [stBabel_repl]; unfold exSegs exParts; (repeat rw [String.toList_ofList]); decide +kernel

/-- **the end-to-end theorem applies to the current code** (tables translated from /repo, package
    babel loaded, `--lang en-GB`, multi-language mode, `ml_continue_thresh = 2`): a document with
    one short and one long insertion -/
theorem C12_foreignlanguage_e2e_current :
    ∃ r, tex2txt theTables bigFuel (render exSegs) babelOptions true 2 [] = .ok r ∧
      r.parts = exParts ∧ r.unknowns = [] ∧ r.diags = [] := by
  obtain ⟨r, h1, h2, h3, h4⟩ := C12_foreignlanguage_e2e theTables babelOptions [] 2 exSegs bigFuel
    stBabel rfl rfl rfl (by decide +kernel) initParser_babel PlainLang.stBabel_multi stBabel_stack
    stBabel_repl_ne exSegs_ok (by decide +kernel)
  exact ⟨r, h1, by rw [h2, exSegs_ref], h3, by rw [h4, PlainLang.stBabel_diags]⟩

/-- the same as a test on the output of the model (so that one SEES the output that is claimed):
    a corollary of the theorem -/
example : (match tex2txt theTables bigFuel (render exSegs) babelOptions true 2 [] with
    | .ok r => decide (r.parts = exParts ∧ r.unknowns = [] ∧ r.diags = [])
    | _ => false) = true := by
  obtain ⟨r, h1, h2, h3, h4⟩ := C12_foreignlanguage_e2e_current
  rw [h1]; simp [h2, h3, h4]

/-- with `ml_continue_thresh = 1` both insertions are long: three English pieces, no placeholder,
    and `en-GB` comes first -/
example : refParts theTables babelOptions.lang 1 (mainRepl (lcOf stBabel) babelOptions.lang) exSegs =
    [("en-GB".toList,
        [("This is a ".toList, List.range' 1 10), (" in the text and ".toList, List.range' 48 17),
         (" too.\n".toList, List.range' 130 6)]),
     ("de-DE".toList,
        [("kurzer Satz".toList, List.range' 36 11),
         ("ein wirklich langer deutscher Satz hier".toList, List.range' 90 39)])] := by
  rw [stBabel_repl]; unfold exSegs; (repeat rw [String.toList_ofList]); decide +kernel

/-- the side conditions accept: an insertion at the very beginning, line breaks and blanks in the
    text of an insertion (behind a visible character on its first line), a name with blanks, three
    foreign languages, an insertion at the end; the reference for it equals what the model computes
    (a short insertion at the beginning is NOT replaced; the collection wraps around) -/
def exSegs2 : List Seg :=
  [.frn "german".toList "x \n ".toList, .txt "\nB ".toList, .frn " french ".toList " y z".toList,
   .txt " ".toList, .frn "russian".toList "мир".toList, .txt "!".toList, .frn "german".toList "a".toList,
   .txt ".".toList, .frn "german".toList "a".toList, .txt ".".toList, .frn "german".toList "a".toList]

theorem exSegs2_ok : segsOk theTables stBabel babelOptions.lang exSegs2 = true := by
  rw [stBabel_eq]; unfold exSegs2; (repeat rw [String.toList_ofList]); decide +kernel

example : segsOk theTables stBabel babelOptions.lang exSegs2 = true := exSegs2_ok

example : (match tex2txt theTables bigFuel (render exSegs2) babelOptions true 2 [] with
    | .ok r => decide (r.parts
        = refParts theTables babelOptions.lang 2 (mainRepl (lcOf stBabel) babelOptions.lang) exSegs2 ∧
        partOf r.parts "en-GB".toList
          = [("\nB  L-L-L M-M-M!N-N-N.K-K-K.L-L-L".toList,
              [31, 32, 33, 61, 62, 62, 62, 62, 62, 66, 93, 93, 93, 93, 93, 97, 123, 123, 123, 123, 123,
               125, 151, 151, 151, 151, 151, 153, 179, 179, 179, 179, 179])])
    | _ => false) = true := by
  obtain ⟨r, h1, h2, _⟩ := C12_foreignlanguage_e2e theTables babelOptions [] 2 exSegs2 bigFuel
    stBabel rfl rfl rfl (by decide +kernel) initParser_babel PlainLang.stBabel_multi stBabel_stack
    stBabel_repl_ne exSegs2_ok (by decide +kernel)
  rw [h1]; simp only [h2, true_and, decide_eq_true_eq]
  rw [stBabel_repl, String.toList_ofList]; decide +kernel

/-- the side conditions reject: babel not loaded; a name whose code is the main language; two
    adjacent insertions; a text without visible character on its first line; the active character
    `"` in German text -/
example : segsOk theTables stDefault babelOptions.lang [.frn "german".toList "a".toList] = false := by
  rw [stDefault_eq]; decide +kernel
example : segsOk theTables stBabel babelOptions.lang [.frn "english".toList "a".toList] = false := by
  rw [stBabel_eq]; decide +kernel
example : segsOk theTables stBabel babelOptions.lang
    [.frn "german".toList "a".toList, .frn "german".toList "a".toList] = false := by
  rw [stBabel_eq]; decide +kernel
example : segsOk theTables stBabel babelOptions.lang [.frn "german".toList " \na".toList] = false := by
  rw [stBabel_eq]; decide +kernel
example : segsOk theTables stBabel babelOptions.lang [.frn "german".toList "sagt \"a".toList] = false := by
  rw [stBabel_eq, String.toList_ofList, String.toList_ofList]; decide +kernel

end PlainForeign
end Yalafi
