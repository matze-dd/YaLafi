/-
  Properties/C10.lean — inline maths: one rotating placeholder plus its punctuation.

  Proved here (all inputs): `detect_math_parts` groups consecutive maths tokens into one
  part and copies the others; the rotation used by `replace_section` is a left rotation by
  one that keeps length and elements; the shape theorem `C10_inline_shape`.  End to end: simple
  formulas below, the full body class in Properties/PlainMathRichStmt.lean; on the implementation the
  rendering of every formula is checked against the counting reference (k-th formula in expansion
  order gets entry k mod len).
-/
import YalafiVerif.Model.Expander
import YalafiVerif.Proofs.InlineShape
import YalafiVerif.Proofs.PlainMathOpen
import YalafiVerif.Generated.Init
import YalafiVerif.Properties.PlainMathRichStmt
namespace Yalafi

theorem C10_rot_length (l : List Str) : (rotL l).length = l.length := by
  simp [rotL]; omega

theorem C10_rot_perm (l : List Str) (x : Str) : x ∈ rotL l ↔ x ∈ l := by
  simp only [rotL, List.mem_append]
  constructor
  · rintro (h | h)
    · exact List.mem_of_mem_drop h
    · exact List.mem_of_mem_take h
  · intro h
    have := List.take_append_drop 1 l
    rw [← this] at h
    rcases List.mem_append.mp h with h | h
    · exact Or.inr h
    · exact Or.inl h

/-- the head after one rotation is the second entry: successive formulas get successive entries -/
theorem C10_rot_head (a b : Str) (l : List Str) : (rotL (a :: b :: l)).head? = some b := by
  simp [rotL]

/-- maths tokens never survive `detect_math_parts` as single tokens -/
theorem C10_detectParts_tok (ts cur : List Tok) :
    ∀ it ∈ detectMathParts ts cur, ∀ t, it = .tok t → isMathTok t = false := by
  induction ts generalizing cur with
  | nil => intro it hit t ht; simp only [detectMathParts] at hit; split at hit <;> simp_all
  | cons x xs ih =>
    intro it hit t ht
    simp only [detectMathParts] at hit
    split at hit
    · exact ih _ it hit t ht
    · rename_i hx
      simp only [List.mem_append, List.mem_cons] at hit
      rcases hit with hit | hit | hit
      · split at hit <;> simp_all
      · subst hit; injection ht with ht; subst ht; simpa using hx
      · exact ih _ it hit t ht

/-- the rendering of an inline formula: for every non-empty list of maths tokens that is not only
    maths space, every placeholder collection `repls ≠ []` and every other parameter, the section
    is rendered as  [blank] placeholder [punctuation] [blank]  — blank iff the formula starts / ends
    with a maths space, placeholder = the next one of the collection (which is rotated by exactly
    one), punctuation = the last non-blank character if it is a punctuation mark — all tokens
    position-fixed at the first token of the formula (`inlineShape_fix_pos`); nothing else -/
theorem C10_inline_shape (T : PTables) (opText : List (Str × Str)) (opDefault : Option Str) (toks : List Tok)
    (firstSection nextRepl : Bool) (repls : List Str)
    (hm : ∀ t ∈ toks, isMathTok t = true) (hts : toks ≠ [])
    (hns : ¬ ∀ t ∈ toks, t.kind = .mathSpace) (hrepls : repls ≠ []) :
    ∃ rs, replaceSection T opText opDefault true (detectMathParts toks []) firstSection nextRepl repls = some rs ∧
      rs.repls = rotL repls ∧ rs.firstPart = !firstSection ∧
      rs.out = inlineShape T toks (toks.head hts) (toks.getLast hts) ((rotL repls).head (rotL_ne_nil repls hrepls)) :=
  replaceSection_inline_mathToks T opText opDefault toks firstSection nextRepl repls hm hts hns hrepls

theorem C10_inline_shape_tokens (T : PTables) (ts : List Tok) (t0 tl : Tok) (r0 : Str) :
    (∀ t ∈ inlineShape T ts t0 tl r0, t.fix = true ∧ t.pos = t0.pos) ∧
    (inlineShape T ts t0 tl r0).map (fun t => (t.kind, t.txt)) =
      (if t0.kind = .mathSpace then [(Kind.space, [' '])] else []) ++ [(Kind.text, r0)]
      ++ (match partPunct T ts with | some c => [(Kind.text, [c])] | none => [])
      ++ (if tl.kind = .mathSpace then [(Kind.space, [' '])] else []) :=
  ⟨inlineShape_fix_pos T ts t0 tl r0, inlineShape_kinds T ts t0 tl r0⟩

/-- **inline formulas become rotating placeholders**, end to end on the filter model: for documents
    of inert text and simple inline formulas `$body$` (body characters that the maths parser turns
    into maths tokens one by one; blanks inside the formula allowed; formulas do not touch), the
    k-th formula (k = 1, 2, …) is replaced by the placeholder at 0-based index `k mod length` of the
    language's inline collection (the first formula gets the second entry) followed by the formula's closing punctuation mark; every character of the
    replacement maps to the first non-blank character of the formula body, every text character to
    its own position; no unknowns, no diagnostic beyond those of the initialisation.  (`VisibleRepls`: no placeholder is blank —
    otherwise blank-line removal could delete a line.) -/
theorem C10_inline_math_e2e (T : PTables) (o : Options) (fs : FS) (thresh : Nat)
    (segs : List PlainMath.Seg) (fuel : Nat) (st1 : PState) (rot : Rot) (repls : List Str)
    (hdefs : o.defs = []) (hextr : o.extr = []) (hrepl : o.hasRepl = false) (hunkn : o.unkn = false)
    (hinit : initParser T fuel o (initialState T o false fs) = .ok ((), st1))
    (hok : PlainMath.SegsOk T st1 segs)
    (hrot : rotOf st1 (curSettings st1) = some rot) (hrepls : rot.inl = repls)
    (hne : repls ≠ []) (hvis : PlainMath.VisibleRepls repls)
    (hls : (settingsOf T (curSettings st1)).isSome = true)
    (hf : (PlainMath.render segs).length + 2 ≤ fuel) :
    ∃ r, tex2txt T fuel (PlainMath.render segs) o false thresh fs = .ok r ∧
      r.txt = (PlainMath.refMath T repls 0 0 segs).1 ∧
      r.pos = (PlainMath.refMath T repls 0 0 segs).2.map (· + 1) ∧
      r.unknowns = [] ∧ r.diags = st1.diags :=
  PlainMath.tex2txt_inline_math T o fs thresh segs fuel st1 rot repls hdefs hextr hrepl hunkn hinit hok hrot hrepls
    hne hvis hls hf

/-- the inline collection of the default language after initialisation of the CURRENT code -/
def C10_replsCurrent : List Str :=
  ((rotOf Generated.stDefault (curSettings Generated.stDefault)).map (·.inl)).getD []

/-- the hypotheses about the initialised parser hold for the tables translated from /repo -/
theorem C10_current_facts :
    (rotOf Generated.stDefault (curSettings Generated.stDefault)).isSome = true ∧
    C10_replsCurrent ≠ [] ∧ C10_replsCurrent.length = 6 ∧
    (settingsOf Generated.theTables (curSettings Generated.stDefault)).isSome = true := by
  unfold C10_replsCurrent; rw [Generated.stDefault_eq]; decide +kernel

/-- a concrete document satisfies the side conditions on the real tables -/
theorem C10_example_current :
    PlainMath.segsOk Generated.theTables Generated.stDefault
      [.txt "Let ".toList, .math "x + 1".toList, .txt " and ".toList, .math " y, ".toList, .txt " be ".toList, .math "z".toList, .txt ".".toList] = true := by
  rw [Generated.stDefault_eq]; (repeat rw [String.toList_ofList]); decide +kernel

end Yalafi
