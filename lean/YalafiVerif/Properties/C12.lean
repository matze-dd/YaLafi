/-
  Properties/C12.lean — multi-language mode assigns every word to exactly one part.

  Proved for all token lists, thresholds and rotation states (model of `get_txt_pos_ml`):
  sectioning conserves text and positions (the sections, in order, concatenate to
  `get_txt_pos` of the non-language tokens), sections are non-empty with equal lengths, the
  language stack of the fold is the reference stack `langAt` (push / pop-if-more-than-one /
  replace-top), every returned part has equal lengths and positions drawn from the token
  stream, each language occurs once in the result, the splitter never raises, and language
  tokens survive blank-line removal in order.  End to end (`multi = true`; every word in exactly one
  part of the language in force, at its own offset, short insertions as one placeholder):
  Properties/PlainLangStmt.lean, PlainForeignStmt.lean, PlainLangMixStmt.lean; beyond these document
  classes the same is checked on the implementation against an AST reference.
-/
import YalafiVerif.Proofs.Utils
import YalafiVerif.Proofs.Lines
import YalafiVerif.Properties.PlainLangStmt
import YalafiVerif.Properties.PlainForeignStmt
import YalafiVerif.Properties.PlainLangMixStmt
namespace Yalafi

theorem C12_sections_conserve (toks : List Tok) (main : Str) :
    ((sections toks main).map (·.txt)).flatten = (getTxtPos (toks.filter (fun t => !isLangTok t))).1 ∧
    ((sections toks main).map (·.pos)).flatten = (getTxtPos (toks.filter (fun t => !isLangTok t))).2 :=
  sections_conserve toks main

theorem C12_sections_wf (toks : List Tok) (main : Str) :
    ∀ s ∈ sections toks main, s.txt.length = s.pos.length ∧ s.txt ≠ [] :=
  sections_wf toks main

theorem C12_stack (toks : List Tok) (s : SecState) :
    (toks.foldl secStep s).stack = langAt s.stack toks :=
  sections_fold_stack toks s

theorem C12_parts (toks : List Tok) (main : Str) (thresh : Nat) (lc lc' : LangChange) (parts : Parts)
    (h : getTxtPosML toks main thresh lc = some (parts, lc')) :
    ∀ tp ∈ allParts parts, tp.1.length = tp.2.length ∧
      ∀ p ∈ tp.2, p ∈ (getTxtPos (toks.filter (fun t => !isLangTok t))).2 :=
  getTxtPosML_parts toks main thresh lc lc' parts h

theorem C12_langs_nodup (toks : List Tok) (main : Str) (thresh : Nat) (lc lc' : LangChange) (parts : Parts)
    (h : getTxtPosML toks main thresh lc = some (parts, lc')) : (parts.map (·.1)).Nodup :=
  getTxtPosML_langs_nodup toks main thresh lc lc' parts h

theorem C12_total (toks : List Tok) (main : Str) (thresh : Nat) (lc : LangChange) (h : LangChangeOk lc) :
    (getTxtPosML toks main thresh lc).isSome = true :=
  getTxtPosML_total toks main thresh lc h

theorem C12_removeLines_lang (ts out : List Tok)
    (hc : ∀ t ∈ ts, (isAction t = true ∨ isLang t = true) → t.txt = [])
    (hr : removeLines ts = some out) : out.filter isLang = ts.filter isLang :=
  removeLines_lang ts out hc hr

end Yalafi
