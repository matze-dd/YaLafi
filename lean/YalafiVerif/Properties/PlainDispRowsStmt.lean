/-
  Properties/PlainDispRowsStmt.lean — C11 "displayed equations follow the documented scheme and keep
  their punctuation" for the ROW / SECTION STRUCTURE of displayed equations: the end-to-end theorem
  for `\[ body \]` and `\begin{name} body \end{name}` with `body ::= row (\\ row)*`,
  `row ::= section (& section)*`, its corollaries, and the instances on the tables translated from
  /repo.  Proofs: Proofs/PlainDispRows.lean (documents, side conditions with their reasons, reference
  output, what is not covered), Proofs/PlainDispRowsTok.lean (token level),
  Proofs/PlainDispRowsE2E.lean (scanner, lifts, corollaries).
-/
import YalafiVerif.Proofs.PlainDispRowsE2E
import YalafiVerif.Generated.Init
namespace Yalafi

open PlainDispRows (Row Rows rowsOf refOut eqnOut eqnRef eqnK secRef RefSt nRows rowsSrc
  leadOp leadChar opW visWords PieceKind)

/-- **displayed equations with rows and sections**, end to end on the filter model.  For documents of
    inert text and displayed equations `\[body\]` / `\begin{name}body\end{name}` (`name` declared as
    equation environment without arguments) whose body is `row (\\ row)*`, `row ::= section (& section)*`,
    every section a possibly empty run of simple maths characters — in particular
    `[leading operator] simple maths [. , ; :]` and operator-only sections as in `a &=& b`
    (`PlainDispRows.SegsOk`; the first and the last row of an equation must generate some text) —,
    with `repls` the display collection and `ls` the settings of the language after `Parser.__init__`:

    `tex2txt` succeeds, and text and position map are those of `PlainDispRows.refOut`:
    * text segments are copied, every character with its own position;
    * an equation is `PlainDispRows.eqnRef`: two blanks (mapped to the `\` of `\[` / `\begin`), then its
      rows joined by line break + two blanks, the sections of a row joined by one blank (separators are
      mapped to the position of the last piece generated before);
    * a section (`PlainDispRows.secRef`) that is not only white space is, with `f` the position of its
      first character that is no white space:
        [blank · `opW ls op` · blank, all at `f` — iff it is not the first section of its row and starts
         with an operator `op` of `math_operators`]
        [the placeholder `placeholder repls k'` at the first element character — iff there is one; the
         rotation count advances (`k' = k + 1`) iff `next_repl` is set or the operator word was written]
        [the closing punctuation mark `punctOf T s` at `f` — iff the last character that is no white
         space is one of `math_punctuation`];
      `next_repl` is set at the start of each equation, behind a punctuation mark, and behind a section
      that starts with an operator and has no element; it is cleared by any other non-blank section;
      the rotation count runs through the whole document;
    * no unknowns, no new diagnostics.
    (`VisibleRepls`, `visWords`: no placeholder / operator word is blank or contains a line break.) -/
theorem C11_display_rows_e2e (T : PTables) (o : Options) (fs : FS) (thresh : Nat)
    (segs : List PlainDispRows.Seg) (fuel : Nat) (st1 : PState) (rot : Rot) (repls : List Str) (ls : LangSettings)
    (hdefs : o.defs = []) (hextr : o.extr = []) (hrepl : o.hasRepl = false) (hunkn : o.unkn = false)
    (hinit : initParser T fuel o (initialState T o false fs) = .ok ((), st1))
    (hok : PlainDispRows.SegsOk T st1 segs)
    (hrot : rotOf st1 (curSettings st1) = some rot) (hrepls : rot.disp = repls)
    (hne : repls ≠ []) (hvis : PlainMath.VisibleRepls repls)
    (hls : settingsOf T (curSettings st1) = some ls) (hw : visWords ls = true)
    (hf : (PlainDispRows.render segs).length + 2 ≤ fuel) :
    ∃ r, tex2txt T fuel (PlainDispRows.render segs) o false thresh fs = .ok r ∧
      r.txt = (refOut T st1.mathOperators ls repls 0 0 segs).map (·.1) ∧
      r.pos = (refOut T st1.mathOperators ls repls 0 0 segs).map (·.2 + 1) ∧
      r.unknowns = [] ∧ r.diags = st1.diags :=
  PlainDispRows.tex2txt_display_rows T o fs thresh segs fuel st1 rot repls ls hdefs hextr hrepl hunkn hinit
    hok hrot hrepls hne hvis hls hw hf

/-! ### corollaries about the reference output -/

/-- (a) **one output line per `\\`-separated row**: the rendering of an equation contains exactly one
    line break per row but the first, i.e. it has `nRows b` lines -/
theorem C11_rows_one_line_per_row (T : PTables) (ops : List Str) (ls : LangSettings) (repls : List Str)
    (hv : PlainMath.VisibleRepls repls) (hne : repls ≠ []) (hw : visWords ls = true) (k p o : Nat)
    (b : Rows) :
    countNl ((eqnOut T ops ls repls k p o b).map (·.1)) + 1 = nRows b :=
  PlainDispRows.eqnOut_lines T ops ls repls hv hne hw k p o b

/-- (b) **every position generated for an equation lies inside the equation**: it is the position `p`
    of the `\` of the opening command, or the position of a character of the body, which occupies
    `[p + o, p + o + |body|)` -/
theorem C11_rows_span (T : PTables) (ops : List Str) (ls : LangSettings) (repls : List Str) (k p o : Nat)
    (b : Rows) :
    ∀ cq ∈ eqnOut T ops ls repls k p o b,
      cq.2 = p ∨ (p + o ≤ cq.2 ∧ cq.2 < p + o + (rowsSrc b).length) :=
  PlainDispRows.eqnOut_span T ops ls repls k p o b

/-- (c) **no maths source text appears in the output**: every piece of the rendering of an equation is
    the indentation, a separator, an operator word of the language, a placeholder of the display
    collection, or a closing punctuation mark `punctOf T s` -/
theorem C11_rows_no_source (T : PTables) (ops : List Str) (ls : LangSettings) (repls : List Str)
    (k p o : Nat) (b : Rows) :
    ∀ pc ∈ (eqnRef T ops ls repls k p o b).1, PieceKind T ls repls pc.1 :=
  PlainDispRows.eqnRef_kind T ops ls repls k p o b

/-- (d) **a closing `. , ; :` is kept directly after its placeholder**: a section with an element
    character that ends (up to white space) with a punctuation mark is rendered as
    `… placeholder · mark` -/
theorem C11_rows_punct (T : PTables) (ops : List Str) (ls : LangSettings) (repls : List Str) (fs : Bool)
    (σ : RefSt) (q : Nat) (s : Str) (hel : s.any (PlainDisplay.elemChar T ops) = true)
    (hp : PlainMath.punctOf T s ≠ []) :
    ∃ pre, (secRef T ops ls repls fs σ q s).1
      = pre ++ [(PlainMath.placeholder repls (secRef T ops ls repls fs σ q s).2.k,
                  q + PlainDisplay.elemOff T ops s),
                (PlainMath.punctOf T s, q + PlainMath.leadBlanks s)] :=
  PlainDispRows.secRef_punct T ops ls repls fs σ q s hel hp

/-- (e) **a relation or operator leading an aligned section becomes the language's word for it**: a
    section that is not the first of its row and starts with an operator is rendered as
    blank · word · blank · …, all three mapped to the operator; the first section of a row never
    gets a word -/
theorem C11_rows_opword (T : PTables) (ops : List Str) (ls : LangSettings) (repls : List Str)
    (σ : RefSt) (q : Nat) (s : Str) (hop : leadOp ops s = true) :
    ∃ rest, (secRef T ops ls repls false σ q s).1
      = ([' '], q + PlainMath.leadBlanks s) :: (opW ls (leadChar s).toList, q + PlainMath.leadBlanks s)
          :: ([' '], q + PlainMath.leadBlanks s) :: rest :=
  PlainDispRows.secRef_opword T ops ls repls σ q s hop

theorem C11_rows_first_noword (T : PTables) (ops : List Str) (ls : LangSettings) (repls : List Str)
    (σ : RefSt) (q : Nat) (s : Str) :
    ∀ pc ∈ (secRef T ops ls repls true σ q s).1,
      pc.1 = PlainMath.placeholder repls (secRef T ops ls repls true σ q s).2.k ∨
      pc.1 = PlainMath.punctOf T s :=
  PlainDispRows.secRef_first_noword T ops ls repls σ q s

/-- (f) **placeholders advance exactly at the documented points** (`k` = rotation count, `nr` =
    `next_repl`) -/
theorem C11_rows_advance (T : PTables) (ops : List Str) (ls : LangSettings) (repls : List Str) (fs : Bool)
    (σ : RefSt) (q : Nat) (s : Str) :
    (s.all isSpace = true → secRef T ops ls repls fs σ q s = ([], σ)) ∧
    (s.all isSpace = false →
      (secRef T ops ls repls fs σ q s).2.k
        = (if (σ.nr || (leadOp ops s && !fs)) && s.any (PlainDisplay.elemChar T ops) then σ.k + 1 else σ.k) ∧
      (secRef T ops ls repls fs σ q s).2.nr
        = (!(PlainMath.punctOf T s).isEmpty || (leadOp ops s && !s.any (PlainDisplay.elemChar T ops)))) :=
  PlainDispRows.secRef_state T ops ls repls fs σ q s

/-- the display collection of the default language after initialisation of the CURRENT code -/
def C11_rows_dispCurrent : List Str :=
  ((rotOf Generated.stDefault (curSettings Generated.stDefault)).map (·.disp)).getD []

/-- the language settings of the default language of the CURRENT code -/
def C11_rows_lsCurrent : LangSettings :=
  (settingsOf Generated.theTables (curSettings Generated.stDefault)).getD default

/-- the hypotheses about the initialised parser hold for the tables translated from /repo -/
theorem C11_rows_current_facts :
    (rotOf Generated.stDefault (curSettings Generated.stDefault)).isSome = true ∧
    C11_rows_dispCurrent ≠ [] ∧ C11_rows_dispCurrent.length = 6 ∧
    PlainDisplay.visibleRepls C11_rows_dispCurrent = true ∧
    (settingsOf Generated.theTables (curSettings Generated.stDefault)).isSome = true ∧
    visWords C11_rows_lsCurrent = true ∧
    C11_rows_lsCurrent.opDefault = some "equal".toList ∧
    C11_rows_lsCurrent.opText.map (·.2) = ["plus".toList, "minus".toList, "times".toList, "times".toList,
      "over".toList] := by
  unfold C11_rows_dispCurrent C11_rows_lsCurrent
  rw [Generated.stDefault_eq]; (repeat rw [String.toList_ofList]); decide +kernel

/-- `A⏎\begin{eqnarray} a &=& b + c, \\ &=& d. \end{eqnarray}⏎B \begin{equation} x = y \end{equation} C
    \[ a & = b & +c \\ = d & e \]`: an `eqnarray` with two rows of three sections (the middle ones
    consist of the operator alone, the first section of the second row is empty), an `equation` with
    one section, and a `\[ … \]` with leading operators in aligned sections -/
def C11_rows_exampleSegs : List PlainDispRows.Seg :=
  [.txt "A\n".toList,
   .env "eqnarray".toList
     (rowsOf [[" a ".toList, "=".toList, " b + c, ".toList], [" ".toList, "=".toList, " d. ".toList]]),
   .txt "\nB ".toList,
   .env "equation".toList (rowsOf [[" x = y ".toList]]),
   .txt " C ".toList,
   .disp (rowsOf [[" a ".toList, " = b ".toList, " +c ".toList], [" = d ".toList, " e ".toList]])]

theorem C11_rows_example_src :
    PlainDispRows.render C11_rows_exampleSegs
      = ("A\n\\begin{eqnarray} a &=& b + c, \\\\ &=& d. \\end{eqnarray}\nB " ++
         "\\begin{equation} x = y \\end{equation} C \\[ a & = b & +c \\\\ = d & e \\]").toList := by
  rw [String.toList_append, String.toList_ofList, String.toList_ofList]; decide +kernel

/-- the concrete document satisfies the side conditions on the real tables -/
theorem C11_display_rows_example_current :
    PlainDispRows.SegsOk Generated.theTables Generated.stDefault C11_rows_exampleSegs := by
  rw [Generated.stDefault_eq]; unfold C11_rows_exampleSegs; (repeat rw [String.toList_ofList]); decide +kernel

/-- the expected output text of the example:
    `A⏎  V-V-V  equal  W-W-W,⏎    equal  X-X-X.⏎B   Y-Y-Y C   Z-Z-Z  equal U-U-U  plus V-V-V⏎  V-V-V V-V-V` -/
def C11_rows_exampleTxt : Str :=
  ("A\n  V-V-V  equal  W-W-W,\n    equal  X-X-X.\nB   Y-Y-Y C   Z-Z-Z  equal U-U-U  plus V-V-V\n" ++
   "  V-V-V V-V-V").toList

/-- the expected position map of the example (1-based): e.g. the two blanks of the `eqnarray` at its
    `\begin` (3), `V-V-V` at `a` (20), ` equal ` at the first `=` (23) with the section separator before
    it at `a` (20), `W-W-W` at `b` (26) and the comma at `b` (26), the line break at `b` (26),
    ` equal ` at the second `=` (37), `X-X-X.` at `d` (40) -/
def C11_rows_examplePos : List Nat :=
      [1, 2, 3, 3, 20, 20, 20, 20, 20, 20, 23, 23, 23, 23, 23, 23, 23, 23, 26, 26, 26, 26, 26, 26, 26, 26, 26, 26, 37, 37,
       37, 37, 37, 37, 37, 37, 40, 40, 40, 40, 40, 40, 57, 58, 59, 60, 60, 77, 77, 77, 77, 77, 97, 98, 99, 100, 100, 103,
       103, 103, 103, 103, 103, 107, 107, 107, 107, 107, 107, 107, 109, 109, 109, 109, 109, 109, 113, 113, 113, 113, 113,
       113, 114, 114, 114, 114, 114, 114, 114, 114, 121, 121, 121, 121, 121, 121, 125, 125, 125, 125, 125]

theorem C11_display_rows_ref_current :
    (refOut Generated.theTables Generated.stDefault.mathOperators C11_rows_lsCurrent C11_rows_dispCurrent 0 0
        C11_rows_exampleSegs).map (·.1) = C11_rows_exampleTxt ∧
    (refOut Generated.theTables Generated.stDefault.mathOperators C11_rows_lsCurrent C11_rows_dispCurrent 0 0
        C11_rows_exampleSegs).map (·.2 + 1) = C11_rows_examplePos := by
  unfold C11_rows_dispCurrent C11_rows_lsCurrent
  rw [Generated.stDefault_eq]; unfold C11_rows_exampleSegs C11_rows_exampleTxt
  (repeat rw [String.toList_ofList]); decide +kernel

/-- **the end-to-end theorem applied to the current code**: the filter (default options) maps the
    example document to the text and positions above -/
theorem C11_display_rows_e2e_current (thresh : Nat) :
    ∃ r, tex2txt Generated.theTables Generated.bigFuel (PlainDispRows.render C11_rows_exampleSegs)
          Generated.defaultOptions false thresh [] = .ok r ∧
      r.txt = C11_rows_exampleTxt ∧ r.pos = C11_rows_examplePos ∧
      r.unknowns = [] ∧ r.diags = Generated.stDefault.diags := by
  have F := C11_rows_current_facts
  obtain ⟨rot, hrot⟩ := Option.isSome_iff_exists.mp F.1
  obtain ⟨ls, hls⟩ := Option.isSome_iff_exists.mp F.2.2.2.2.1
  have hd : rot.disp = C11_rows_dispCurrent := by
    simp [C11_rows_dispCurrent, hrot]
  have hl : C11_rows_lsCurrent = ls := by
    simp [C11_rows_lsCurrent, hls]
  obtain ⟨r, h1, h2, h3, h4, h5⟩ := C11_display_rows_e2e Generated.theTables Generated.defaultOptions []
    thresh C11_rows_exampleSegs Generated.bigFuel Generated.stDefault rot C11_rows_dispCurrent
    C11_rows_lsCurrent rfl rfl rfl rfl
    Generated.initParser_default C11_display_rows_example_current hrot hd F.2.1
    (PlainDisplay.visibleRepls_iff _ F.2.2.2.1) (by rw [hl]; exact hls) F.2.2.2.2.2.1 (by decide +kernel)
  exact ⟨r, h1, h2.trans C11_display_rows_ref_current.1, h3.trans C11_display_rows_ref_current.2, h4, h5⟩

/-- **the filter model on the example document**, as an equation between values: the same text and
    positions (a corollary of `C11_display_rows_e2e_current`) -/
theorem C11_display_rows_eval_current :
    (match tex2txt Generated.theTables Generated.bigFuel (PlainDispRows.render C11_rows_exampleSegs)
          Generated.defaultOptions false 0 [] with
     | .ok r => some (r.txt, r.pos)
     | _ => none) = some (C11_rows_exampleTxt, C11_rows_examplePos) := by
  obtain ⟨r, h1, h2, h3, _⟩ := C11_display_rows_e2e_current 0
  simp only [h1, h2, h3]

/-- `\begin{eqnarray} a &=& b + c, \\ &=& d. \end{eqnarray}` -/
def C11_rows_eqnarraySegs : List PlainDispRows.Seg :=
  [.env "eqnarray".toList
     (rowsOf [[" a ".toList, "=".toList, " b + c, ".toList], [" ".toList, "=".toList, " d. ".toList]])]

/-- `\begin{equation} x = y \end{equation}` -/
def C11_rows_equationSegs : List PlainDispRows.Seg :=
  [.env "equation".toList (rowsOf [[" x = y ".toList]])]

theorem C11_rows_eqnarray_current (thresh : Nat) :
    PlainDispRows.render C11_rows_eqnarraySegs
      = "\\begin{eqnarray} a &=& b + c, \\\\ &=& d. \\end{eqnarray}".toList ∧
    ∃ r, tex2txt Generated.theTables Generated.bigFuel (PlainDispRows.render C11_rows_eqnarraySegs)
          Generated.defaultOptions false thresh [] = .ok r ∧
      r.txt = "  V-V-V  equal  W-W-W,\n    equal  X-X-X.".toList ∧
      r.pos = [1, 1, 18, 18, 18, 18, 18, 18, 21, 21, 21, 21, 21, 21, 21, 21, 24, 24, 24, 24, 24, 24, 24, 24,
               24, 24, 35, 35, 35, 35, 35, 35, 35, 35, 38, 38, 38, 38, 38, 38] ∧
      r.unknowns = [] ∧ r.diags = Generated.stDefault.diags := by
  refine ⟨by unfold C11_rows_eqnarraySegs; (repeat rw [String.toList_ofList]); decide +kernel, ?_⟩
  have F := C11_rows_current_facts
  obtain ⟨rot, hrot⟩ := Option.isSome_iff_exists.mp F.1
  obtain ⟨ls, hls⟩ := Option.isSome_iff_exists.mp F.2.2.2.2.1
  have hd : rot.disp = C11_rows_dispCurrent := by
    simp [C11_rows_dispCurrent, hrot]
  have hl : C11_rows_lsCurrent = ls := by
    simp [C11_rows_lsCurrent, hls]
  obtain ⟨r, h1, h2, h3, h4, h5⟩ := C11_display_rows_e2e Generated.theTables Generated.defaultOptions []
    thresh C11_rows_eqnarraySegs Generated.bigFuel Generated.stDefault rot C11_rows_dispCurrent
    C11_rows_lsCurrent rfl rfl rfl rfl
    Generated.initParser_default
    (by rw [Generated.stDefault_eq]; unfold C11_rows_eqnarraySegs; (repeat rw [String.toList_ofList]); decide +kernel)
    hrot hd F.2.1
    (PlainDisplay.visibleRepls_iff _ F.2.2.2.1) (by rw [hl]; exact hls) F.2.2.2.2.2.1 (by decide +kernel)
  unfold C11_rows_dispCurrent C11_rows_lsCurrent at h2 h3
  rw [Generated.stDefault_eq] at h2 h3
  exact ⟨r, h1, h2.trans (by rw [String.toList_ofList]; decide +kernel), h3.trans (by decide +kernel), h4, h5⟩

theorem C11_rows_equation_current (thresh : Nat) :
    PlainDispRows.render C11_rows_equationSegs = "\\begin{equation} x = y \\end{equation}".toList ∧
    ∃ r, tex2txt Generated.theTables Generated.bigFuel (PlainDispRows.render C11_rows_equationSegs)
          Generated.defaultOptions false thresh [] = .ok r ∧
      r.txt = "  V-V-V".toList ∧ r.pos = [1, 1, 18, 18, 18, 18, 18] ∧
      r.unknowns = [] ∧ r.diags = Generated.stDefault.diags := by
  refine ⟨by unfold C11_rows_equationSegs; rw [String.toList_ofList, String.toList_ofList, String.toList_ofList]
             decide +kernel, ?_⟩
  have F := C11_rows_current_facts
  obtain ⟨rot, hrot⟩ := Option.isSome_iff_exists.mp F.1
  obtain ⟨ls, hls⟩ := Option.isSome_iff_exists.mp F.2.2.2.2.1
  have hd : rot.disp = C11_rows_dispCurrent := by
    simp [C11_rows_dispCurrent, hrot]
  have hl : C11_rows_lsCurrent = ls := by
    simp [C11_rows_lsCurrent, hls]
  obtain ⟨r, h1, h2, h3, h4, h5⟩ := C11_display_rows_e2e Generated.theTables Generated.defaultOptions []
    thresh C11_rows_equationSegs Generated.bigFuel Generated.stDefault rot C11_rows_dispCurrent
    C11_rows_lsCurrent rfl rfl rfl rfl
    Generated.initParser_default
    (by rw [Generated.stDefault_eq]; unfold C11_rows_equationSegs; rw [String.toList_ofList, String.toList_ofList]
        decide +kernel)
    hrot hd F.2.1
    (PlainDisplay.visibleRepls_iff _ F.2.2.2.1) (by rw [hl]; exact hls) F.2.2.2.2.2.1 (by decide +kernel)
  unfold C11_rows_dispCurrent C11_rows_lsCurrent at h2 h3
  rw [Generated.stDefault_eq] at h2 h3
  exact ⟨r, h1, h2.trans (by rw [String.toList_ofList]; decide +kernel), h3.trans (by decide +kernel), h4, h5⟩

/-- the filter model on the two documents, written out (corollaries of `C11_rows_eqnarray_current` and
    `C11_rows_equation_current`) -/
theorem C11_rows_eqnarray_eval_current :
    (match tex2txt Generated.theTables Generated.bigFuel
          "\\begin{eqnarray} a &=& b + c, \\\\ &=& d. \\end{eqnarray}".toList
          Generated.defaultOptions false 0 [] with
     | .ok r => some r.txt
     | _ => none) = some "  V-V-V  equal  W-W-W,\n    equal  X-X-X.".toList ∧
    (match tex2txt Generated.theTables Generated.bigFuel "\\begin{equation} x = y \\end{equation}".toList
          Generated.defaultOptions false 0 [] with
     | .ok r => some r.txt
     | _ => none) = some "  V-V-V".toList := by
  obtain ⟨e, r, h1, h2, _⟩ := C11_rows_eqnarray_current 0
  obtain ⟨e', r', h1', h2', _⟩ := C11_rows_equation_current 0
  rw [e] at h1; rw [e'] at h1'
  rw [h1, h1']
  exact ⟨congrArg some h2, congrArg some h2'⟩

end Yalafi
