/-
  Properties/C16.lean — HTML report: faithful source, each match once, content cannot break the markup.

  Proved for ALL texts, position maps, match lists and contexts (no bound):

  1. Escaping (all strings): `protect_html` leaves no double quote, and `<`/`>` occur exactly once
     per line break of the input (the `<br>` the report uses for line ends) — so neither source
     text nor messages nor suggestions can open a tag or close an attribute; escaping
     distributes over concatenation (the report is assembled piecewise).

  2. Structure of the report (`Html.generateHtml`, Model/Html.lean = `generate_html` with every
     highlight tag abstracted to an opaque piece `hi i text`; tied to the Python function by the
     differential test harness/corr_html.py, driver operation HTML):
     * `C16_region_text` — the cells of a region, plain and highlighted in order, are exactly the
       source slice `tex[starts[beglin] : starts[endlin]]` = the lines `beglin … endlin-1`; no
       character lost, none shown twice, whatever overlaps there are (an overlapping match
       contributes no piece).  Needs: the text ends in a line break (`EndsNl`; `proofreader.py`
       appends one before the report is made).  NOT needed: sorted matches, a sane position map.
       `C16_region_text_needs_final_newline` shows by evaluation that the claim fails for a text
       without final line break (its last line has no line start behind it and is cut off after
       the match).
     * `C16_line_numbers` — the numbers of a region are `beglin, …, endlin-1` and the separator
       `-1`, one per table row (rows = tagged characters of the pieces split at the line breaks,
       as `protect_html`/`generate_highlight`/`add_line_numbers` do with `<br>\n`).
     * `C16_rows` — cut at the line breaks the cells of a region are the source lines
       `beglin … endlin-1` in this order plus one empty row for the separator: row `j` shows line
       `beglin + j` beside the number `beglin + j`.  `C16_no_problems`: without a match the report
       shows the first `context` lines, numbered from 0.
     * `C16_each_match_once` — every index `i < len(matches)` occurs exactly once in the
       highlights in place of all regions together with the list of overlapping messages (so:
       in exactly one region or in the list, never both, never twice), no other index occurs;
       `C16_highlight_text` / `C16_overlap_text` — the highlighted text is `tex[h.beg:h.end]`
       for the data `h` the first loop computes from match `i`, an overlapping message carries the
       line `h.lin + 1`.  `C16_no_overlaps` — matches that do not overlap (mapped spans in file
       order, `h.end ≤ h'.beg`) are all highlighted in place: the list of overlapping messages
       is used only for real overlaps or matches out of order.
     * `C16_regions_ordered` — a region ends before or where the next one begins (lines), by
       construction of the grouping; no hypothesis (in particular no sortedness: `shell.py` hands
       over matches sorted by position, but the grouping compares every new match with the complete
       last region).  `C16_regions_disjoint` — if the position map has no entry 0 (the filter's
       positions are 1-based; Python would read `tex[-1]` for one) every region has
       `beglin ≤ endlin` and any two regions are disjoint: no source line is shown twice.
     * `C16_whole_file`, `C16_whole_file_negative` — with a context of at least as many lines as
       the file has (what `shell.py` makes of a negative `--context`: 10^8) and at least one
       match there is ONE region, lines `0 … N-1`, whose cells are the whole file.
     Only results `.ok` are spoken of: the function ends in the shell's error exit (`fatal`) for an
     offset/length outside the plain text, and raises IndexError (`crash`) if the position map
     points behind the end of the file — both are outcomes of the model, compared with Python.

  3. The text of the report (`HtmlText.generateHtmlText`, Model/HtmlText.lean = the strings that
     `begin_match`, `generate_highlight`, `add_line_numbers` and `generate_html` really build, regular
     expression included; tied to the Python functions by the differential test
     harness/corr_htmltext.py, driver operations BEGINMATCH, HIGHLIGHT, ADDLINES, HTMLTEXT, BRMATCHES,
     ESCAPES; the structure of item 2 is what it is composed with).  Data = source text, proofreader
     message, rule id/subId, suggestions, context text, rule URL.
     * `C16_title_safe` — the `title="…"` value of the tag of a match is a concatenation of
       `protect_title` images and of the program's literals `\n`, `Suggestion: `, `Context: `; it
       contains no `"`, `<`, `>`, and exactly three line breaks — the program's own: no line break of
       the data survives (`&#10;`), so the page is never split inside a tag by `add_line_numbers`.
       `C16_href_safe` — the `href` value of `--link` is an `html.escape` image: no `"`, `'`, `<`, `>`.
     * `C16_tags_from_templates` — for style strings of `vars` without `"` and `<` (`VarsOk`; the real
       ones: `C16ex.varsOk`) and a file name without `"` (the ONLY data written unescaped:
       `<a id="FILE">`, `<a href="#FILE-@@@">`; `C16ex.file_name_becomes_markup` shows what a hostile
       file name does): the page text of one file is `renderPieces (reportPieces …)`, an explicit list
       of pieces in which every literal is one of the 27 string constants of `genhtml.py`, a style
       string or a decimal number (`AllOk`), every `protect_html` image stands in text and every
       `protect_title`/`html.escape` image inside a double-quoted attribute value (`flow`); the page
       ends in text (no tag or attribute left open).  Hence the tags of the page (`tagsOf`: a
       conservative tokenizer — every `<` in text opens a tag, attribute values are left out) are a
       function of the literals and of the NUMBER of line breaks of each text piece (`skel`): any other
       data of the same shape, e.g. all data characters except line breaks replaced by `x`
       (`TPiece.blank`), gives the same tags.  No `<`, `>`, `&`, `"` of source, messages or suggestions
       becomes markup.
     * `C16_text_roundtrip` — reading the entities back (`unprotect`: `&amp; &quot; &lt; &gt; &ensp;`
       and `<br>` + line break) gives the text with every tab replaced by eight blanks; exactly the text
       if it has no tab (`C16_text_roundtrip_no_tab`).  Not invertible: a tab and eight blanks have the
       same image (`C16_tab_not_invertible`).  With `C16_rows`: the cells show the source lines.
     * `C16_highlight_pieces` — `generate_highlight` (its regular expression modelled on arbitrary
       strings, `brMatches`) puts one tag pair around every line piece of the protected text — the
       lines of the text, the rest behind the last line break only if not empty —, what stands between
       a tag pair has no line break and no `<`, `>`, `"`, and without the tags the result is
       `protect_html(text)`.
     A defect of /repo the model records (not part of C16's claim): `begin_match` reads the global
     `highlight_style_unsure`, which `genhtml.init` never sets — a match at an unsure position
     (negative map entry) would end the HTML report with NameError (`Vars.highlightStyleUnsure = none`
     in the model: `crash`; `C16ex.unsure_crashes`).  Latent: the filter's position map has natural
     numbers only (`T2TResult.pos : List Nat` in Model/Tex2txt.lean), the shell never hands over a
     negative entry.

  Not proved here, checked on real reports parsed with `html.parser` (harness/props/C16.py): the
  page frame and the index of several files (`generate_html_report`; the index writes the file name
  unescaped into `href`).
-/
import YalafiVerif.Proofs.Shell
import YalafiVerif.Proofs.Html
import YalafiVerif.Proofs.HtmlText
import YalafiVerif.Generated.Tables
namespace Yalafi
open Html

theorem C16_protect_no_quote (s : Str) : '"' ∉ protectHtml s := protectHtml_no_quote s

theorem C16_protect_lt_count (s : Str) :
    (protectHtml s).count '<' = s.count '\n' ∧ (protectHtml s).count '>' = s.count '\n' :=
  protectHtml_lt_count s

theorem C16_protect_append (a b : Str) : protectHtml (a ++ b) = protectHtml a ++ protectHtml b :=
  protectHtml_append a b

/-- (a) For a text that ends in a line break: the concatenated texts of the pieces of every region
    are the source slice from the begin of line `beglin` to the begin of line `endlin`. -/
theorem C16_region_text (T : Tables) (tex : Str) (charmap : List Int) (ms : List (Int × Int)) (context : Nat)
    (rep : Report) (hnl : EndsNl tex) (hok : generateHtml T tex charmap ms context = .ok rep) :
    ∀ r ∈ rep.regions,
      r.text = slice tex ((getLineStarts tex).getD r.beglin 0) ((getLineStarts tex).getD r.endlin 0) :=
  region_text T tex charmap ms context rep hnl hok

/-- (b) line numbers `beglin … endlin-1`, then the separator; as many numbers as table rows -/
theorem C16_line_numbers (T : Tables) (tex : Str) (charmap : List Int) (ms : List (Int × Int)) (context : Nat)
    (rep : Report) (hnl : EndsNl tex) (hok : generateHtml T tex charmap ms context = .ok rep) :
    ∀ r ∈ rep.regions,
      r.lineNumbers = (List.range' r.beglin (r.endlin - r.beglin)).map Int.ofNat ++ [-1] ∧
      r.rows.length = r.lineNumbers.length :=
  region_line_numbers T tex charmap ms context rep hnl hok

/-- (b') the rows of a region show the source lines `beglin … endlin-1` in this order (each without its
    line break), then one empty row — the separator that carries the number `-1` -/
theorem C16_rows (T : Tables) (tex : Str) (charmap : List Int) (ms : List (Int × Int)) (context : Nat)
    (rep : Report) (hnl : EndsNl tex) (hok : generateHtml T tex charmap ms context = .ok rep) :
    ∀ r ∈ rep.regions,
      r.rowTexts = (List.range' r.beglin (r.endlin - r.beglin)).map (Html.lineOf tex) ++ [[]] :=
  region_rows T tex charmap ms context rep hnl hok

/-- no match: the first `context` lines, numbered from 0, one row per line (any text) -/
theorem C16_no_problems (T : Tables) (tex : Str) (charmap : List Int) (context : Nat) :
    ∃ txt, generateHtml T tex charmap [] context
        = .ok (Report.mk [] [] (some (txt, (List.range (min context (tex.count '\n'))).map Int.ofNat))) ∧
      firstRows txt = (List.range (min context (tex.count '\n'))).map (Html.lineOf tex) :=
  no_problems T tex charmap context

/-- (c) every match exactly once, in place or in the list of overlapping messages -/
theorem C16_each_match_once (T : Tables) (tex : Str) (charmap : List Int) (ms : List (Int × Int)) (context : Nat)
    (rep : Report) (hok : generateHtml T tex charmap ms context = .ok rep) (i : Nat) :
    (rep.hiIdx ++ rep.ovIdx).count i = if i < ms.length then 1 else 0 :=
  each_match_once T tex charmap ms context rep hok i

/-- (c) the highlighted text is the source span of the match -/
theorem C16_highlight_text (T : Tables) (tex : Str) (charmap : List Int) (ms : List (Int × Int)) (context : Nat)
    (rep : Report) (hok : generateHtml T tex charmap ms context = .ok rep) :
    ∀ r ∈ rep.regions, ∀ i s, Piece.hi i s ∈ r.pieces →
      ∃ m h, ms[i]? = some m ∧ computeH T tex charmap i m.1 m.2 = .ok h ∧ 0 ≤ h.beg ∧
        s = slice tex h.beg.toNat h.fin :=
  hi_text T tex charmap ms context rep hok

theorem C16_overlap_text (T : Tables) (tex : Str) (charmap : List Int) (ms : List (Int × Int)) (context : Nat)
    (rep : Report) (hok : generateHtml T tex charmap ms context = .ok rep) :
    ∀ o ∈ rep.overlaps,
      ∃ m h, ms[o.idx]? = some m ∧ computeH T tex charmap o.idx m.1 m.2 = .ok h ∧
        o.lin = h.lin + 1 ∧ o.text = sliceI tex h.beg h.fin :=
  overlap_text T tex charmap ms context rep hok

/-- (c') matches that follow each other in the file without overlapping (`h.end ≤ h'.beg` for the mapped
    data of consecutive matches; map without entry 0) are all highlighted in place, in the order
    of the matches; the list of overlapping messages is empty -/
theorem C16_no_overlaps (T : Tables) (tex : Str) (charmap : List Int) (ms : List (Int × Int)) (context : Nat)
    (rep : Report) (hcm : ∀ c ∈ charmap, c ≠ 0) (hok : generateHtml T tex charmap ms context = .ok rep)
    (hd : Html.Disjoint rep.hdata) :
    rep.overlaps = [] ∧ rep.hiIdx = List.range ms.length :=
  no_overlaps T tex charmap ms context rep hcm hok hd

/-- (d) the regions follow each other without overlapping in lines -/
theorem C16_regions_ordered (T : Tables) (tex : Str) (charmap : List Int) (ms : List (Int × Int)) (context : Nat)
    (rep : Report) (hok : generateHtml T tex charmap ms context = .ok rep) (k : Nat)
    (hk : k + 1 < rep.regions.length) :
    rep.regions[k].endlin ≤ rep.regions[k + 1].beglin :=
  regions_ordered T tex charmap ms context rep hok k hk

/-- (d') for a position map without the entry 0 (positions are 1-based) every region begins in front
    of its end and ANY two regions are disjoint in lines: no source line is shown twice -/
theorem C16_regions_disjoint (T : Tables) (tex : Str) (charmap : List Int) (ms : List (Int × Int)) (context : Nat)
    (rep : Report) (hcm : ∀ c ∈ charmap, c ≠ 0) (hok : generateHtml T tex charmap ms context = .ok rep) :
    (∀ r ∈ rep.regions, r.beglin ≤ r.endlin) ∧
    rep.regions.Pairwise (fun r r' => r.endlin ≤ r'.beglin) :=
  regions_disjoint T tex charmap ms context rep hcm hok

/-- (e) a context of at least the number of lines of the file: one region = the whole file -/
theorem C16_whole_file (T : Tables) (tex : Str) (charmap : List Int) (ms : List (Int × Int)) (context : Nat)
    (rep : Report) (hnl : EndsNl tex) (hctx : tex.count '\n' ≤ context) (hms : ms ≠ [])
    (hok : generateHtml T tex charmap ms context = .ok rep) :
    ∃ r, rep.regions = [r] ∧ r.beglin = 0 ∧ r.endlin = tex.count '\n' ∧ r.text = tex ∧
      r.lineNumbers = (List.range (tex.count '\n')).map Int.ofNat ++ [-1] ∧ rep.first = none :=
  whole_file T tex charmap ms context rep hnl hctx hms hok

/-- (e) `--context -1` as `shell.py` normalises it, for files of at most 10^8 lines -/
theorem C16_whole_file_negative (T : Tables) (tex : Str) (charmap : List Int) (ms : List (Int × Int)) (c : Int)
    (rep : Report) (hc : c < 0) (hnl : EndsNl tex) (hsize : tex.count '\n' ≤ 100000000) (hms : ms ≠ [])
    (hok : generateHtml T tex charmap ms (normContext c) = .ok rep) :
    ∃ r, rep.regions = [r] ∧ r.beglin = 0 ∧ r.endlin = tex.count '\n' ∧ r.text = tex ∧
      r.lineNumbers = (List.range (tex.count '\n')).map Int.ofNat ++ [-1] ∧ rep.first = none :=
  whole_file_negative T tex charmap ms c rep hc hnl hsize hms hok

/-! ### non-vacuity on the real tables: a file of four lines, three matches, the second overlaps the first -/

namespace C16ex
def T : Tables := Generated.theTables.toTables
def tex : Str := "ab \\emph{x}\ncd <e>\n\nlast \"line\"\n".toList
/-- the identity map `1 … len`, padded as the shell pads a part -/
def charmap : List Int := (List.range (tex.length + 2)).map (fun i => ((min (i + 1) tex.length : Nat) : Int))
def ms : List (Int × Int) := [(0, 2), (1, 4), (20, 4)]

def report0 : Report :=
  { hdata := [{ idx := 0, unsure := false, beg := 0, fin := 2, beglin := 0, endlin := 1, lin := 0 },
              { idx := 1, unsure := false, beg := 1, fin := 5, beglin := 0, endlin := 1, lin := 0 },
              { idx := 2, unsure := false, beg := 20, fin := 24, beglin := 3, endlin := 4, lin := 3 }],
    regions := [{ beglin := 0, endlin := 1,
                  pieces := [.plain [], .hi 0 "ab".toList, .plain " \\emph{x}\n".toList],
                  lineNumbers := [0, -1],
                  overlaps := [{ idx := 1, lin := 1, text := "b \\e".toList }] },
                { beglin := 3, endlin := 4,
                  pieces := [.plain [], .hi 2 "last".toList, .plain " \"line\"\n".toList],
                  lineNumbers := [3, -1],
                  overlaps := [] }],
    first := none }

theorem ends : EndsNl tex := by unfold tex; rw [String.toList_ofList]; decide
/-- context 0: two regions, match 1 in the list of overlapping messages -/
theorem run0 : generateHtml T tex charmap ms 0 = .ok report0 := by
  unfold tex report0; (repeat rw [String.toList_ofList]); decide +kernel

example : report0.hiIdx = [0, 2] ∧ report0.ovIdx = [1] := by decide
example : (report0.regions.map Region.text) = ["ab \\emph{x}\n".toList, "last \"line\"\n".toList] := by
  unfold report0; (repeat rw [String.toList_ofList]); decide
example : (report0.regions.map (fun r => r.rows.length)) = [2, 2] := by
  unfold report0; (repeat rw [String.toList_ofList]); decide
example : (report0.regions.map Region.rowTexts) = [["ab \\emph{x}".toList, []], ["last \"line\"".toList, []]] := by
  unfold report0; (repeat rw [String.toList_ofList]); decide
example : Html.lineOf tex 3 = "last \"line\"".toList ∧ Html.lineOf tex 2 = [] := by
  unfold tex; rw [String.toList_ofList, String.toList_ofList]; decide

/-- the theorems apply to it -/
example : ∀ i, (report0.hiIdx ++ report0.ovIdx).count i = if i < 3 then 1 else 0 :=
  fun i => C16_each_match_once T tex charmap ms 0 report0 run0 i
example := C16_region_text T tex charmap ms 0 report0 ends run0
example := C16_line_numbers T tex charmap ms 0 report0 ends run0

/-- `C16_no_overlaps` is not vacuous: report0 has the two disjoint matches 0 and 2 … -/
example : Html.Disjoint [report0.hdata[0], report0.hdata[2]] := ⟨by decide, trivial⟩
/-- … and match 1 overlaps match 0 -/
example : ¬ Html.Disjoint report0.hdata := fun h => absurd h.1 (by decide)
example : (generateHtml T tex charmap [(0, 2), (20, 4)] 0).bind (fun r => .ok (r.hiIdx, r.ovIdx, r.regions.length))
    = .ok ([0, 1], [], 2) := by decide +kernel

/-- negative context: one region with all four lines -/
theorem runNeg : (generateHtml T tex charmap ms (normContext (-1))).bind
      (fun r => .ok (r.regions.map (fun g => (g.beglin, g.endlin, g.lineNumbers, decide (g.text = tex)))))
    = .ok [(0, 4, [0, 1, 2, 3, -1], true)] := by decide +kernel

/-- unsure positions (negative map entries): one character, extended to the end of the word
    for a letter (`last`), a single character otherwise -/
example : (generateHtml T tex (charmap.map (fun x => -x)) ms 0).bind
      (fun r => .ok (r.hdata.map (fun h => (h.unsure, h.beg, h.fin))))
    = .ok [(true, 0, 2), (true, 1, 2), (true, 20, 24)] := by unfold tex; rw [String.toList_ofList]; decide +kernel

/-- offsets outside the plain text: the shell's error exit; a map that points behind the file: IndexError -/
example : generateHtml T tex charmap [(40, 1)] 0 = .fatal := by decide +kernel
example : generateHtml T tex [99, 99, 99] [(0, 1)] 0 = .crash "genhtml.py:generate_html" := by
  unfold tex; rw [String.toList_ofList]; decide +kernel
end C16ex

/-! ### the text of the report -/
section Text
open HtmlText

/-- a `protect_title` image: no double quote, no `<`, no `>`, no line break -/
theorem C16_protect_title_chars (s : Str) :
    ∀ c ∈ protectTitle s, c ≠ '"' ∧ c ≠ '<' ∧ c ≠ '>' ∧ c ≠ '\n' := protectTitle_safe s

/-- (a) whatever message, rule, suggestions and context the proofreader sends: the tag `begin_match` builds
    is `<span style="STYLE" title="` + title + `">` (+ the link tag), the title consists of `protect_title`
    images and the three literals; its value has no `"`, `<`, `>` and exactly the program's three line breaks -/
theorem C16_title_safe (V : Vars) (m : Json) (lin : Int) (unsure : Bool) (t : Tag)
    (h : beginMatch V m lin unsure = .ok t) :
    ∃ d style url, matchData m = .ok d ∧
      t.1 = spanOpen style (titlePieces d lin unsure) ++ linkOpen url ∧ t.2 = linkClose url ∧
      (∀ p ∈ titlePieces d lin unsure,
          (∃ s, p = .escTitle s) ∨ p = L "\n" ∨ p = L "Suggestion: " ∨ p = L "Context: ") ∧
      (∀ c ∈ renderPieces (titlePieces d lin unsure), c ≠ '"' ∧ c ≠ '<' ∧ c ≠ '>') ∧
      (renderPieces (titlePieces d lin unsure)).count '\n' = 3 :=
  title_safe V m lin unsure t h

/-- (a) the link tag of `--link`: the URL goes through `html.escape`, whose image has no quote of either
    kind, no `<`, no `>` -/
theorem C16_href_safe (u : Str) :
    linkOpen (some u) = [L "<a href=\"", .escAttr u, L "\" target=\"_blank\">"] ∧
    ∀ c ∈ htmlEscape u, c ≠ '"' ∧ c ≠ '<' ∧ c ≠ '>' ∧ c ≠ '\'' :=
  href_safe u

/-- (b) the page text of one file: pieces whose literals are the program's templates, all data escaped and
    placed in text resp. inside a double-quoted attribute value; the tags of the page are determined by the
    literals and the numbers of line breaks — independent of the content of source, messages, suggestions -/
theorem C16_tags_from_templates (T : Tables) (V : Vars) (tex : Str) (charmap : List Int) (ms : List Json) (file : Str)
    (context : Nat) (r : FileReport) (hV : VarsOk V) (hf : file.all (· != '"') = true)
    (h : generateHtmlText T V tex charmap ms file context = .ok r) :
    ∃ rep tags, generateHtml T tex charmap (olPrefix ms) context = .ok rep ∧ matchTags V ms rep.hdata = .ok tags ∧
      r.body = renderPieces (reportPieces V file ms.length rep tags) ∧
      AllOk V file (reportPieces V file ms.length rep tags) ∧
      flow .text (reportPieces V file ms.length rep tags) = some .text ∧
      HtmlText.scan TokSt.text r.body = (TokSt.text, skel TokSt.text (reportPieces V file ms.length rep tags)) ∧
      (∀ qs, qs.map TPiece.shape = (reportPieces V file ms.length rep tags).map TPiece.shape →
        tagsOf (renderPieces qs) = tagsOf r.body) ∧
      tagsOf (renderPieces ((reportPieces V file ms.length rep tags).map TPiece.blank)) = tagsOf r.body :=
  tags_from_templates T V tex charmap ms file context r hV hf h

/-- (b) the general fact behind it: well-placed pieces of the same shape have the same tags -/
theorem C16_tags_shape (ps qs : List TPiece) (st' : TokSt) (h : flow .text ps = some st')
    (hs : qs.map TPiece.shape = ps.map TPiece.shape) : tagsOf (renderPieces qs) = tagsOf (renderPieces ps) :=
  tagsOf_shape ps qs st' h hs

/-- (c) reading the entities back gives the text, tabs as eight blanks -/
theorem C16_text_roundtrip (s : Str) : unprotect (protectHtml s) = untab s := unprotect_protectHtml s

theorem C16_text_roundtrip_no_tab (s : Str) (h : '\t' ∉ s) : unprotect (protectHtml s) = s := by
  rw [unprotect_protectHtml, untab_id s h]

/-- (c) what is lost: a tab and eight blanks are shown alike -/
theorem C16_tab_not_invertible : protectHtml ['\t'] = protectHtml (List.replicate 8 ' ') := by decide

/-- (d) `generate_highlight` -/
theorem C16_highlight_pieces (pre post s : Str) :
    highlightWith pre post s = (hlLines s).flatMap (fun l => pre ++ protectHtml l.1 ++ post ++ brGroup2 l.2) ∧
    (∀ l ∈ hlLines s, '\n' ∉ l.1 ∧ ∀ c ∈ protectHtml l.1, c ≠ '<' ∧ c ≠ '>' ∧ c ≠ '\n' ∧ c ≠ '"') ∧
    joinLines (hlLines s) = s ∧
    ((hlLines s).filter (·.2)).length = s.count '\n' ∧
    (∃ (ls : List Str) (last : Str),
        hlLines s = ls.map (fun l => (l, true)) ++ (if last.isEmpty then [] else [(last, false)])) ∧
    highlightWith [] [] s = protectHtml s :=
  highlight_pieces pre post s

/-- (d) the function with its tag: `pre` = the rendered tag of `begin_match`, `post` = `</a>`? + `</span>` -/
theorem C16_generate_highlight (V : Vars) (m : Json) (s : Str) (lin : Int) (unsure : Bool) (out : Str)
    (h : generateHighlight V m s lin unsure = .ok out) :
    ∃ t, beginMatch V m lin unsure = .ok t ∧ out = highlightWith (Tag.pre t) (Tag.post t) s :=
  generateHighlight_ok V m s lin unsure out h

/-- (d) the regular expression on a protected text finds its lines -/
theorem C16_regex_on_protected (s : Str) :
    brMatches (protectHtml s) = (hlLines s).map (fun l => (protectHtml l.1, l.2)) := brMatches_protectHtml s

/-- the regular expression on the three kinds of string: nothing for the empty string, no empty match behind
    a final `<br>\n`, one match for a string without `<br>\n`; a lone `<br` or `<br>` is text -/
example : brMatches [] = [] := by decide
example : brMatches "a<br>\n".toList = [("a".toList, true)] := by rw [String.toList_ofList]; decide
example : brMatches "ab".toList = [("ab".toList, false)] := by decide
example : brMatches "<br>\n<br>\nx<br<br>y".toList = [([], true), ([], true), ("x<br<br>y".toList, false)] := by
  rw [String.toList_ofList, String.toList_ofList]; decide

end Text

namespace C16ex
open HtmlText

/-- written by hand for the examples: the style strings of `shell.py` (and `--link`), with the unsure
    style SET — in /repo `genhtml.init` does not hand it over, which is `highlightStyleUnsure := none`
    (`unsure_crashes`) -/
def V : Vars :=
  { highlightStyle := "background: orange; border: solid thin black".toList,
    highlightStyleUnsure := some "background: yellow; border: solid thin black".toList,
    numberStyle := "color: grey".toList, link := true }

theorem varsOk : VarsOk V :=
  ⟨by unfold V; rw [String.toList_ofList, String.toList_ofList, String.toList_ofList]; decide, fun s h => by
      have h' : some "background: yellow; border: solid thin black".toList = some s := h
      cases h'; rw [String.toList_ofList]; decide,
    by unfold V; rw [String.toList_ofList, String.toList_ofList, String.toList_ofList]; decide⟩

def hostile : Str := "x\"><script>alert(1)</script>".toList

/-- a proofreader message whose every text field is hostile -/
def mrec (offset length : Int) : Json :=
  .obj [("offset".toList, .int offset), ("length".toList, .int length), ("message".toList, .str hostile),
        ("context".toList, .obj [("text".toList, .str "ab <e> \"q\"\n".toList), ("offset".toList, .int 3),
                                 ("length".toList, .int 3)]),
        ("rule".toList, .obj [("id".toList, .str "R<1>".toList), ("subId".toList, .str "\"2".toList),
                              ("urls".toList, .arr [.obj [("value".toList, .str "http://x/?a=1&b=\"'><script>".toList)]])]),
        ("replacements".toList, .arr [.obj [("value".toList, .str "</span>".toList)],
                                      .obj [("value".toList, .str "a\nb".toList)]])]

theorem hostile_title : protectTitle hostile = "x&quot;&gt;&lt;script&gt;alert(1)&lt;/script&gt;".toList := by
  unfold hostile; rw [String.toList_ofList, String.toList_ofList]; decide

/-- the tag of the hostile message.  As it is written (`#eval`):
    `<span style="background: orange; border: solid thin black" title="x&quot;&gt;&lt;script&gt;alert(1)&lt;/script&gt;⏎`
    `Line&ensp;1:&ensp;&gt;&gt;&gt;&lt;e&gt;&lt;&lt;&lt;&ensp;&ensp;&ensp;&ensp;(Rule&ensp;ID:&ensp;R&lt;1&gt;[&quot;2])⏎`
    `Suggestion: &lt;/span&gt;;&ensp;a&#10;b⏎Context: ab&ensp;&gt;&gt;&gt;&lt;e&gt;&lt;&lt;&lt;&ensp;&quot;q&quot;&#10;">`
    `<a href="http://x/?a=1&amp;b=&quot;&#x27;&gt;&lt;script&gt;" target="_blank">`.
    Checked here: its only `<`, `>`, `"` are those of the two templates (2, 2, 8), its line breaks the three of the
    title, its tokens one `span` and one `a`; the closing part is `</a>`. -/
theorem hostile_tag :
    (beginMatch V (mrec 0 2) 1 false).bind (fun t => .ok
      [(renderPieces t.1).count '<', (renderPieces t.1).count '>', (renderPieces t.1).count '"',
       (renderPieces t.1).count '\n'])
    = .ok [2, 2, 8, 3] := by
  unfold mrec hostile V; (repeat rw [String.toList_ofList]); decide +kernel

theorem hostile_tag_tokens :
    (beginMatch V (mrec 0 2) 1 false).bind (fun t => .ok (tagsOf (renderPieces t.1) ++ [renderPieces t.2]))
    = .ok ["<span style=\"\" title=\"\">".toList, "<a href=\"\" target=\"\">".toList, "</a>".toList] := by
  unfold mrec hostile V; (repeat rw [String.toList_ofList]); decide +kernel

def strs (l : List String) : List Str := l.map String.toList

def rowTags : List String :=
  ["<tr>", "<td style=\"\" align=\"\" valign=\"\">", "</td>", "<td>", "<span style=\"\" title=\"\">",
   "<a href=\"\" target=\"\">", "</a>", "</span>", "</td>", "</tr>"]
def emptyRowTags : List String := ["<tr>", "<td style=\"\" align=\"\" valign=\"\">", "</td>", "<td>", "</td>", "</tr>"]

/-- the report of the file of `run0` with three hostile messages (the second one overlapping): its tags are the
    templates' — anchor, title, link to the overlapping messages, a table of four rows (two with a highlight),
    the table of overlapping messages with one row -/
theorem hostile_report :
    (generateHtmlText T V tex charmap [mrec 0 2, mrec 1 4, mrec 20 4] "d.tex".toList 0).bind
      (fun r => .ok (tagsOf r.body))
    = .ok (strs (["<a id=\"\">", "</a>", "<H3>", "</H3>", "<a href=\"\">", "<H3>", "</H3>", "</a>", "<table cellspacing=\"\">"]
           ++ rowTags ++ emptyRowTags ++ rowTags ++ emptyRowTags ++
           ["</table>", "<a id=\"\">", "</a>", "<H3>", "</H3>", "<table cellspacing=\"\">",
            "<tr>", "<td style=\"\" align=\"\" valign=\"\">", "</td>", "<td>", "<span style=\"\" title=\"\">",
            "<a href=\"\" target=\"\">", "</a>", "</span>", "</td>", "</tr>", "</table>"])) := by
  unfold mrec hostile V
  simp only [strs, rowTags, emptyRowTags, List.cons_append, List.nil_append, List.map_cons, List.map_nil]
  (repeat rw [String.toList_ofList]); decide +kernel

/-- the theorem applies: the side conditions hold for the real style strings and this file name -/
example (r : FileReport) (h : generateHtmlText T V tex charmap [mrec 0 2, mrec 1 4, mrec 20 4] "d.tex".toList 0 = .ok r) :=
  C16_tags_from_templates T V tex charmap _ _ 0 r varsOk (by rw [String.toList_ofList]; decide) h

/-- the side condition on the file name is needed: the file name is written as it is -/
theorem file_name_becomes_markup :
    (generateHtmlText T V tex charmap [] "a\"><script>".toList 0).bind
      (fun r => .ok (tagsOf r.body))
    = .ok (strs ["<a id=\"\">", "<script>", "</a>", "<H3>", "</H3>"]) := by
  simp only [strs, List.map_cons, List.map_nil]; unfold tex V; (repeat rw [String.toList_ofList]); decide +kernel

/-- /repo as it is: the style of an unsure match is an undefined name -/
theorem unsure_crashes :
    beginMatch { V with highlightStyleUnsure := none } (mrec 0 2) 1 true
      = .crash "genhtml.py:begin_match:highlight_style_unsure" := by decide +kernel

end C16ex

/-- `C16_region_text` needs the final line break: in `a⏎bc` with a match on `b` the region shows `b`
    alone — the slice of its lines is empty (there is no line start behind the last line), the `c`
    is not shown at all.  (`proofreader.py` never hands over such a text.) -/
theorem C16_region_text_needs_final_newline :
    ¬ EndsNl "a\nbc".toList ∧
    (generateHtml C16ex.T "a\nbc".toList [1, 2, 3, 4, 4, 4] [(2, 1)] 0).bind
      (fun r => .ok (r.regions.map (fun g => (g.text, slice "a\nbc".toList
          ((getLineStarts "a\nbc".toList).getD g.beglin 0) ((getLineStarts "a\nbc".toList).getD g.endlin 0)))))
      = .ok [("b".toList, [])] := by
  constructor
  · rw [String.toList_ofList]; decide
  · rw [String.toList_ofList, String.toList_ofList]; decide +kernel

end Yalafi
