/-
  Properties/PlainMix3Stmt.lean — C03 "hidden material never leaks" and C05 "text flow is preserved",
  end to end on the filter model, for documents that MIX twenty-two kinds of constructs, among them
  the STATEFUL ones: inert text, special sequences, braces / groups and undeclared control words with
  braced arguments at any depth, vanishing calls, `%` comments, `\verb`, inline formulas of the RICH
  class (`$x^2+\alpha$`, `\(\,y_1.\)`), `\ref` / `\pageref`, `\cite` / `\cite[note]`, `\footnote`,
  headings, ACCENT calls (`\'e`, `\"{o}`), USER DEFINITIONS `\newcommand{\name}[n]{body}` and their
  USES `\name{a1}…{am}` (the definition in force at that point; before it: an unknown control word),
  simple DISPLAYED EQUATIONS `\[ … \]` and `\begin{equation} … \end{equation}` (second rotating
  placeholder collection), LIST ENVIRONMENTS `\begin{enumerate}`, `\item`, `\end{enumerate}` at any
  nesting (the stack of label generators)
  — in any order (`PlainMix3.Seg`).
  Side conditions and what is not covered: Proofs/PlainMix3E2E.lean (header); documents and reference:
  Proofs/PlainMix3Src.lean; the proof: Proofs/PlainMix3Emb.lean (the grammar is embedded in the fourth
  union grammar, whose theorem is proved through Proofs/PlainMix4*.lean); readings: Proofs/PlainMix3Read.lean.
-/
import YalafiVerif.Proofs.PlainMix3Read
import YalafiVerif.Generated.Init
namespace Yalafi

/-- **mixed documents with the stateful kinds, end to end.**
    For every document `render segs` (`PlainMix3.SegsOk`: all side conditions, computable; `repls` /
    `drepls` = the inline / display placeholder collections of the language, only looked at if
    there is a formula / a displayed equation), `st1` the state after `Parser.__init__`, no `--defs
    --extr --repl --unkn`, single-language mode, fuel = source length + the number of tokens the
    uses insert (`PlainMix3.inserted`) + 6: `tex2txt` succeeds; the output text with its (1-based)
    positions is `delLines (marks …) ++ flows …`:

    * `marks` (main flow; `PlainMix3.marks`, threading the definitions in force, the label
      generators `itemStack` and the numbers of formulas and displayed equations in front): a text
      character with its own position; special sequences, braces, control words, vanishing calls,
      comments, `\verb`, references, citations, footnotes, headings as in `C03_mix2_e2e`; a formula = a mark, `[blank] placeholder
      [punctuation] [blank]` pinned to the first maths token, a mark; an accent call = the
      character(s) of the accent table at the backslash, no mark; a definition = a text-less mark;
      a use = a mark, the body of the definition in force with `#k` replaced by the `k`-th argument
      at its own positions, the surplus groups; a use of an undefined name = a mark and its groups;
      a displayed equation = a mark, two blanks at the backslash, the display placeholder at the
      first element of the body, the closing punctuation at the first body character, a mark
      (`\begin{equation}`: two more marks in front); `\begin{name}` of a list environment = the marks
      of `add_pars` and a mark, `\item` = a mark, a blank, the next label of the innermost label
      generator, a blank (all at the backslash), `\end{name}` = the marks of `add_pars`;
    * `delLines`: every line of the main flow that consists of white space and at least one
      text-less mark is deleted with its line break (`remove_pure_action_lines`); nothing else;
    * `flows`: for every footnote, in order, behind the main text: three line breaks, the body at
      its own positions, a line break;
    * the unknowns are the undeclared control words and the uses of names that are not (yet)
      defined, each once, in order of first use;
      no diagnostic beyond those of the initialisation. -/
theorem C03_mix3_e2e (T : PTables) (o : Options) (fs : FS) (thresh : Nat)
    (segs : List PlainMix3.Seg) (fuel : Nat) (st1 : PState) (repls drepls : List Str)
    (hdefs : o.defs = []) (hextr : o.extr = []) (hrepl : o.hasRepl = false) (hunkn : o.unkn = false)
    (hinit : initParser T fuel o (initialState T o false fs) = .ok ((), st1))
    (hok : PlainMix3.SegsOk T st1 repls drepls segs)
    (hf : (PlainMix3.render segs).length + PlainMix3.inserted [] 0 segs + 6 ≤ fuel) :
    ∃ r, tex2txt T fuel (PlainMix3.render segs) o false thresh fs = .ok r ∧
      r.txt = (PlainMacro.delLines (PlainMix3.marks T st1 repls drepls [] st1.itemStack 0 0 0 segs)
                ++ PlainMix3.flows 0 segs).map (·.1) ∧
      r.pos = (PlainMacro.delLines (PlainMix3.marks T st1 repls drepls [] st1.itemStack 0 0 0 segs)
                ++ PlainMix3.flows 0 segs).map (·.2 + 1) ∧
      r.unknowns = (PlainMix3.unkNames [] segs).eraseDups ∧ r.diags = st1.diags := by
  obtain ⟨r, h1, h2, h3, h4, h5, _⟩ :=
    PlainMix3.tex2txt_mix3 T o fs thresh segs fuel st1 repls drepls hdefs hextr hrepl hunkn hinit hok hf
  exact ⟨r, h1, h2, h3, h4, h5⟩

/-- **nothing hidden leaks, nothing visible is lost.**  The output characters that are no white
    space, with their positions, are exactly those of `PlainMix3.plain` (text, special values,
    `\verb` contents, placeholders, notes, titles and their full stops, accent values, the expansions
    of the uses, the two blanks and placeholders of the displayed equations, the labels of the
    items) followed by those of the footnote bodies (`PlainMix3.footBodies`), in this order — no character of a key, a label, a comment, a control-word name, a formula or
    equation body (but its closing punctuation) or a definition, and every footnote body exactly
    once. -/
theorem C03_mix3_words (T : PTables) (o : Options) (fs : FS) (thresh : Nat)
    (segs : List PlainMix3.Seg) (fuel : Nat) (st1 : PState) (repls drepls : List Str)
    (hdefs : o.defs = []) (hextr : o.extr = []) (hrepl : o.hasRepl = false) (hunkn : o.unkn = false)
    (hinit : initParser T fuel o (initialState T o false fs) = .ok ((), st1))
    (hok : PlainMix3.SegsOk T st1 repls drepls segs)
    (hf : (PlainMix3.render segs).length + PlainMix3.inserted [] 0 segs + 6 ≤ fuel) :
    ∃ r, tex2txt T fuel (PlainMix3.render segs) o false thresh fs = .ok r ∧
      (r.txt.zip r.pos).filter (fun cp => !isSpace cp.1)
        = ((PlainMix3.plain T st1 repls drepls [] st1.itemStack 0 0 0 segs ++ PlainMix3.footBodies 0 segs).filter
            (fun cp => !isSpace cp.1)).map (fun cp => (cp.1, cp.2 + 1)) := by
  obtain ⟨r, h1, h2, h3, _⟩ :=
    C03_mix3_e2e T o fs thresh segs fuel st1 repls drepls hdefs hextr hrepl hunkn hinit hok hf
  refine ⟨r, h1, ?_⟩
  rw [h2, h3, List.zip_map', List.filter_map]
  have hw := PlainMix.delLines_words (PlainMix3.marks T st1 repls drepls [] st1.itemStack 0 0 0 segs)
  rw [PlainMix3.marks_chars] at hw
  have hfl := PlainMix3.flows_vis segs 0
  show List.map _ (List.filter PlainMix.vis _) = List.map _ (List.filter PlainMix.vis _)
  rw [List.filter_append, List.filter_append, hw, hfl]

/-- **blank-line removal adds nothing to the main flow**: the main part of the output is a
    subsequence of `PlainMix3.plain`, the output characters of the main flow before that pass (what
    the constructs generate, line breaks included is in it), and it is followed by exactly the flows. -/
theorem C05_mix3_nothing_added (T : PTables) (o : Options) (fs : FS) (thresh : Nat)
    (segs : List PlainMix3.Seg) (fuel : Nat) (st1 : PState) (repls drepls : List Str)
    (hdefs : o.defs = []) (hextr : o.extr = []) (hrepl : o.hasRepl = false) (hunkn : o.unkn = false)
    (hinit : initParser T fuel o (initialState T o false fs) = .ok ((), st1))
    (hok : PlainMix3.SegsOk T st1 repls drepls segs)
    (hf : (PlainMix3.render segs).length + PlainMix3.inserted [] 0 segs + 6 ≤ fuel) :
    ∃ r, tex2txt T fuel (PlainMix3.render segs) o false thresh fs = .ok r ∧
      ∃ main, r.txt.zip r.pos
          = (main ++ PlainMix3.flows 0 segs).map (fun cp => (cp.1, cp.2 + 1)) ∧
        List.Sublist main (PlainMix3.plain T st1 repls drepls [] st1.itemStack 0 0 0 segs) := by
  obtain ⟨r, h1, h2, h3, _⟩ :=
    C03_mix3_e2e T o fs thresh segs fuel st1 repls drepls hdefs hextr hrepl hunkn hinit hok hf
  refine ⟨r, h1, PlainMacro.delLines (PlainMix3.marks T st1 repls drepls [] st1.itemStack 0 0 0 segs), ?_, ?_⟩
  · rw [h2, h3, List.zip_map']
  · have := PlainMix.delLines_sublist (PlainMix3.marks T st1 repls drepls [] st1.itemStack 0 0 0 segs)
    rw [PlainMix3.marks_chars] at this
    exact this

/-- **a line of the main flow is deleted iff it is pure.**  Split the marks of the document at a
    line: `A` (empty or ending with a line break), the line `L` (no line break), its line break
    `nlp`, the rest `B`.  Then the output is the output of `A`, followed by nothing if `L` is *pure*
    (`PlainMix.pureLine`: white space only and at least one text-less mark — the line and its line
    break are deleted) and by the characters of `L` and the line break otherwise, followed by the
    output of `B` and the flows. -/
theorem C05_mix3_lines (T : PTables) (o : Options) (fs : FS) (thresh : Nat)
    (segs : List PlainMix3.Seg) (fuel : Nat) (st1 : PState) (repls drepls : List Str)
    (hdefs : o.defs = []) (hextr : o.extr = []) (hrepl : o.hasRepl = false) (hunkn : o.unkn = false)
    (hinit : initParser T fuel o (initialState T o false fs) = .ok ((), st1))
    (hok : PlainMix3.SegsOk T st1 repls drepls segs)
    (hf : (PlainMix3.render segs).length + PlainMix3.inserted [] 0 segs + 6 ≤ fuel)
    (A L B : List PlainMacro.Mark) (nlp : Char × Nat)
    (hsplit : PlainMix3.marks T st1 repls drepls [] st1.itemStack 0 0 0 segs = A ++ (L ++ some nlp :: B))
    (hA : A = [] ∨ ∃ A' q, A = A' ++ [some q] ∧ (q.1 == nl) = true)
    (hL : L.any PlainMix.isNlMark = false) (hn : (nlp.1 == nl) = true) :
    ∃ r, tex2txt T fuel (PlainMix3.render segs) o false thresh fs = .ok r ∧
      r.txt = ((PlainMacro.delLines A ++ ((if PlainMix.pureLine L then [] else L.filterMap id ++ [nlp])
                ++ PlainMacro.delLines B)) ++ PlainMix3.flows 0 segs).map (·.1) ∧
      r.pos = ((PlainMacro.delLines A ++ ((if PlainMix.pureLine L then [] else L.filterMap id ++ [nlp])
                ++ PlainMacro.delLines B)) ++ PlainMix3.flows 0 segs).map (·.2 + 1) := by
  obtain ⟨r, h1, h2, h3, _⟩ :=
    C03_mix3_e2e T o fs thresh segs fuel st1 repls drepls hdefs hextr hrepl hunkn hinit hok hf
  rw [hsplit, PlainMix.delLines_mid A L B nlp hA hL hn] at h2 h3
  exact ⟨r, h1, h2, h3⟩

/-- … and the last line of the main flow (no line break behind it) -/
theorem C05_mix3_last_line (T : PTables) (o : Options) (fs : FS) (thresh : Nat)
    (segs : List PlainMix3.Seg) (fuel : Nat) (st1 : PState) (repls drepls : List Str)
    (hdefs : o.defs = []) (hextr : o.extr = []) (hrepl : o.hasRepl = false) (hunkn : o.unkn = false)
    (hinit : initParser T fuel o (initialState T o false fs) = .ok ((), st1))
    (hok : PlainMix3.SegsOk T st1 repls drepls segs)
    (hf : (PlainMix3.render segs).length + PlainMix3.inserted [] 0 segs + 6 ≤ fuel)
    (A L : List PlainMacro.Mark)
    (hsplit : PlainMix3.marks T st1 repls drepls [] st1.itemStack 0 0 0 segs = A ++ L)
    (hA : A = [] ∨ ∃ A' q, A = A' ++ [some q] ∧ (q.1 == nl) = true)
    (hL : L.any PlainMix.isNlMark = false) :
    ∃ r, tex2txt T fuel (PlainMix3.render segs) o false thresh fs = .ok r ∧
      r.txt = ((PlainMacro.delLines A ++ (if PlainMix.pureLine L then [] else L.filterMap id))
                ++ PlainMix3.flows 0 segs).map (·.1) ∧
      r.pos = ((PlainMacro.delLines A ++ (if PlainMix.pureLine L then [] else L.filterMap id))
                ++ PlainMix3.flows 0 segs).map (·.2 + 1) := by
  obtain ⟨r, h1, h2, h3, _⟩ :=
    C03_mix3_e2e T o fs thresh segs fuel st1 repls drepls hdefs hextr hrepl hunkn hinit hok hf
  rw [hsplit, PlainMix.delLines_end A L hA hL] at h2 h3
  exact ⟨r, h1, h2, h3⟩

/-- … when no line of the main flow is pure (`linesKept`, decidable): the output is
    `PlainMix3.plain` — the document with every definition removed and every use expanded —
    followed by the flows; nothing else added or removed -/
theorem C05_mix3_kept (T : PTables) (o : Options) (fs : FS) (thresh : Nat)
    (segs : List PlainMix3.Seg) (fuel : Nat) (st1 : PState) (repls drepls : List Str)
    (hdefs : o.defs = []) (hextr : o.extr = []) (hrepl : o.hasRepl = false) (hunkn : o.unkn = false)
    (hinit : initParser T fuel o (initialState T o false fs) = .ok ((), st1))
    (hok : PlainMix3.SegsOk T st1 repls drepls segs)
    (hf : (PlainMix3.render segs).length + PlainMix3.inserted [] 0 segs + 6 ≤ fuel)
    (hk : PlainMacro.linesKept true false (PlainMix3.marks T st1 repls drepls [] st1.itemStack 0 0 0 segs) = true) :
    ∃ r, tex2txt T fuel (PlainMix3.render segs) o false thresh fs = .ok r ∧
      r.txt = (PlainMix3.plain T st1 repls drepls [] st1.itemStack 0 0 0 segs ++ PlainMix3.flows 0 segs).map (·.1) ∧
      r.pos = (PlainMix3.plain T st1 repls drepls [] st1.itemStack 0 0 0 segs ++ PlainMix3.flows 0 segs).map (·.2 + 1) := by
  obtain ⟨r, h1, h2, h3, _⟩ :=
    C03_mix3_e2e T o fs thresh segs fuel st1 repls drepls hdefs hextr hrepl hunkn hinit hok hf
  rw [PlainMacro.delLines_kept _ hk, PlainMix3.marks_chars] at h2 h3
  exact ⟨r, h1, h2, h3⟩

/-- the end-to-end theorem for the CURRENT code (tables translated from /repo, default options,
    parser initialisation evaluated by the kernel) -/
theorem C03_mix3_e2e_current (segs : List PlainMix3.Seg) (repls drepls : List Str) (thresh : Nat)
    (hok : PlainMix3.SegsOk Generated.theTables Generated.stDefault repls drepls segs)
    (hf : (PlainMix3.render segs).length + PlainMix3.inserted [] 0 segs + 6 ≤ Generated.bigFuel) :
    ∃ r, tex2txt Generated.theTables Generated.bigFuel (PlainMix3.render segs) Generated.defaultOptions
          false thresh [] = .ok r ∧
      r.txt = (PlainMacro.delLines
                  (PlainMix3.marks Generated.theTables Generated.stDefault repls drepls []
                    Generated.stDefault.itemStack 0 0 0 segs)
                ++ PlainMix3.flows 0 segs).map (·.1) ∧
      r.pos = (PlainMacro.delLines
                  (PlainMix3.marks Generated.theTables Generated.stDefault repls drepls []
                    Generated.stDefault.itemStack 0 0 0 segs)
                ++ PlainMix3.flows 0 segs).map (·.2 + 1) ∧
      r.unknowns = (PlainMix3.unkNames [] segs).eraseDups ∧ r.diags = Generated.stDefault.diags :=
  C03_mix3_e2e Generated.theTables Generated.defaultOptions [] thresh segs Generated.bigFuel
    Generated.stDefault repls drepls rfl rfl rfl rfl Generated.initParser_default hok hf

/-- the inline placeholder collection of the current /repo for English -/
def C03_mix3_repls : List Str :=
  ["B-B-B", "C-C-C", "D-D-D", "E-E-E", "F-F-F", "G-G-G"].map String.toList

/-- the display placeholder collection of the current /repo for English -/
def C03_mix3_drepls : List Str :=
  ["U-U-U", "V-V-V", "W-W-W", "X-X-X", "Y-Y-Y", "Z-Z-Z"].map String.toList

/-- a document that uses every kind of segment.  Source:

        \pair{u} first
        \newcommand{\pair}[2]{(#1, #2)}
        \section{Intro}
        Alpha--beta \textbf{bold \emph{and $x^2+\alpha$ nested}} gamma\label{sec:a} see \ref{sec:a} and \cite{knuth84}, \cite[p. 3]{lamport}.\footnote{A note.} 100\% sure. % hidden
          Next {\foo a~b} caf\'e G\"{o}del \pair{a}{bc} and \pair{x}{y}{z} with \(\,y_1.\)
        \[ a+b = c. \]
        more \begin{equation}= z,\end{equation}
        \begin{enumerate}
        \item one \pair{p}{q}
        \begin{itemize}
        \item inner
        \end{itemize}
        \item two $z$
        \end{enumerate}
        \bar % again
        \verb|x_$%| end.
        % last
-/
def C03_mix3_doc : List PlainMix3.Seg :=
  [.use "pair".toList ["u".toList], .txt " first\n".toList,
   .defn "pair".toList 2 [.lit "(".toList, .par 1, .lit ", ".toList, .par 2, .lit ")".toList],
   .txt "\n".toList, .head "section".toList "Intro".toList, .txt "\nAlpha".toList, .spc "--".toList,
   .txt "beta ".toList]
  ++ PlainMix3.mac "textbf".toList
      [[.txt "bold ".toList] ++ PlainMix3.mac "emph".toList
        [[.txt "and ".toList,
          .math false [.chars "x".toList, .spec "^".toList, .chars "2+".toList, .cw "alpha".toList],
          .txt " nested".toList]]]
  ++ [.txt " gamma".toList, .van "label".toList "sec:a".toList, .txt " see ".toList,
      .ref "ref".toList "sec:a".toList, .txt " and ".toList, .cite "cite".toList "knuth84".toList,
      .txt ", ".toList, .citeN "cite".toList "p. 3".toList "lamport".toList, .txt ".".toList,
      .foot "A note.".toList, .txt " 100".toList, .spc "\\%".toList, .txt " sure. ".toList,
      .com " hidden\n  ".toList, .txt "Next ".toList]
  ++ PlainMix3.grp [.cw "foo".toList " ".toList, .txt "a".toList, .spc "~".toList, .txt "b".toList]
  ++ [.txt " caf".toList, .acc "'".toList [] false 'e', .txt " G".toList, .acc "\"".toList [] true 'o',
      .txt "del ".toList, .use "pair".toList ["a".toList, "bc".toList], .txt " and ".toList,
      .use "pair".toList ["x".toList, "y".toList, "z".toList], .txt " with ".toList,
      .math true [.spec "\\,".toList, .chars "y".toList, .spec "_".toList, .chars "1.".toList],
      .txt "\n".toList, .disp " a+b = c. ".toList, .txt "\nmore ".toList,
      .denv "equation".toList "= z,".toList, .txt "\n".toList,
      .beg "enumerate".toList, .txt "\n".toList, .item " ".toList, .txt "one ".toList,
      .use "pair".toList ["p".toList, "q".toList], .txt "\n".toList,
      .beg "itemize".toList, .txt "\n".toList, .item " ".toList, .txt "inner\n".toList,
      .en "itemize".toList, .txt "\n".toList, .item " ".toList, .txt "two ".toList,
      .math false [.chars "z".toList], .txt "\n".toList, .en "enumerate".toList, .txt "\n".toList,
      .cw "bar".toList " ".toList, .com " again\n".toList,
      .verb '|' "x_$%".toList, .txt " end.\n".toList, .com " last".toList]

/-- the side conditions hold for it on the real tables -/
theorem C03_mix3_example_current :
    PlainMix3.SegsOk Generated.theTables Generated.stDefault C03_mix3_repls C03_mix3_drepls
      C03_mix3_doc := by
  rw [Generated.stDefault_eq]; decide +kernel

/-- … with the fuel of the instance -/
theorem C03_mix3_example_fuel :
    (PlainMix3.render C03_mix3_doc).length + PlainMix3.inserted [] 0 C03_mix3_doc + 6
      ≤ Generated.bigFuel := by
  decide +kernel

/-- … and this is what the theorem says about it: the reference output, text and positions.
    (The first `\pair{u}` precedes the definition: it is reported as unknown and its group is read as
    a plain group; the line with the `\newcommand` is pure and disappears; the heading gets its full
    stop; the first formula gives the second inline placeholder `C-C-C`; `\ref` gives `0`, the
    citations `[0]` and `[0, p. 3]`; `~` gives U+00A0; the accent calls give `é` and `ö`;
    `\pair{a}{bc}` gives `(a, bc)` — the arguments at their own positions; the third group of
    `\pair{x}{y}{z}` stays; the second formula starts with maths space and ends with a full stop:
    ` D-D-D.`; the displayed equations give two blanks, the display placeholders `V-V-V`, `W-W-W`
    and the closing punctuation; the `\begin` / `\end` lines of the lists are pure and disappear;
    the items of `enumerate` get ` 1. ` and ` 2. `, the item of the nested `itemize` the empty
    label between two blanks; the use and the formula inside the items work as elsewhere (third
    inline placeholder `E-E-E`); the line `\bar % again` is pure and disappears; the footnote body
    comes last, behind three line breaks.) -/
theorem C03_mix3_example_ref :
    (PlainMacro.delLines (PlainMix3.marks Generated.theTables Generated.stDefault C03_mix3_repls C03_mix3_drepls []
        Generated.stDefault.itemStack 0 0 0 C03_mix3_doc) ++ PlainMix3.flows 0 C03_mix3_doc).map (·.1)
      = "u first\nIntro.\nAlpha\u2013beta bold and C-C-C nested gamma see 0 and [0], [0, p. 3]. 100% sure. Next a\u00a0b caf\u00e9 G\u00f6del (a, bc) and (x, y)z with  D-D-D.\n  V-V-V.\nmore   W-W-W,\n 1. one (p, q)\n  inner\n 2. two E-E-E\nx_$% end.\n\n\n\nA note.\n".toList ∧
    (PlainMacro.delLines (PlainMix3.marks Generated.theTables Generated.stDefault C03_mix3_repls C03_mix3_drepls []
        Generated.stDefault.itemStack 0 0 0 C03_mix3_doc) ++ PlainMix3.flows 0 C03_mix3_doc).map (·.2 + 1)
      = [7, 9, 10, 11, 12, 13, 14, 15, 57, 58, 59, 60, 61, 61, 63, 64, 65, 66, 67, 68, 69, 71, 72,
         73, 74, 75, 84, 85, 86, 87, 88, 95, 96, 97, 98, 100, 100, 100, 100, 100, 111, 112, 113,
         114, 115, 116, 117, 120, 121, 122, 123, 124, 125, 139, 140, 141, 142, 143, 144, 155, 156,
         157, 158, 159, 160, 160, 160, 174, 175, 176, 176, 176, 176, 182, 183, 184, 185, 185, 196,
         215, 216, 217, 218, 219, 221, 222, 223, 224, 225, 226, 227, 239, 240, 241, 242, 243, 250,
         251, 252, 254, 255, 256, 257, 258, 261, 262, 263, 268, 269, 270, 271, 281, 278, 278, 278,
         281, 282, 282, 284, 285, 286, 287, 288, 298, 295, 295, 295, 298, 298, 301, 303, 304, 305,
         306, 307, 308, 311, 311, 311, 311, 311, 311, 311, 319, 320, 320, 323, 323, 323, 323, 323,
         323, 334, 335, 336, 337, 338, 339, 340, 340, 358, 358, 358, 358, 358, 356, 374, 393, 393,
         393, 393, 399, 400, 401, 402, 412, 409, 409, 409, 412, 412, 414, 431, 431, 437, 438, 439,
         440, 441, 442, 457, 457, 457, 457, 463, 464, 465, 466, 468, 468, 468, 468, 468, 470, 506,
         507, 508, 509, 511, 512, 513, 514, 515, 516, 207, 207, 207, 207, 208, 209, 210, 211, 212,
         213, 213] ∧
    (PlainMix3.unkNames [] C03_mix3_doc).eraseDups
      = ["\\pair".toList, "\\textbf".toList, "\\emph".toList, "\\foo".toList, "\\bar".toList] := by
  rw [Generated.stDefault_eq, String.toList_ofList]; decide +kernel

/-- … which is therefore what the model computes (`C03_mix3_e2e_current` applied to the three facts
    above): text, positions, unknowns -/
theorem C03_mix3_example_eval :
    (match tex2txt Generated.theTables Generated.bigFuel (PlainMix3.render C03_mix3_doc)
        Generated.defaultOptions false 0 [] with
     | .ok r =>
       r.txt == "u first\nIntro.\nAlpha\u2013beta bold and C-C-C nested gamma see 0 and [0], [0, p. 3]. 100% sure. Next a\u00a0b caf\u00e9 G\u00f6del (a, bc) and (x, y)z with  D-D-D.\n  V-V-V.\nmore   W-W-W,\n 1. one (p, q)\n  inner\n 2. two E-E-E\nx_$% end.\n\n\n\nA note.\n".toList &&
       r.pos == [7, 9, 10, 11, 12, 13, 14, 15, 57, 58, 59, 60, 61, 61, 63, 64, 65, 66, 67, 68, 69, 71, 72,
         73, 74, 75, 84, 85, 86, 87, 88, 95, 96, 97, 98, 100, 100, 100, 100, 100, 111, 112, 113,
         114, 115, 116, 117, 120, 121, 122, 123, 124, 125, 139, 140, 141, 142, 143, 144, 155, 156,
         157, 158, 159, 160, 160, 160, 174, 175, 176, 176, 176, 176, 182, 183, 184, 185, 185, 196,
         215, 216, 217, 218, 219, 221, 222, 223, 224, 225, 226, 227, 239, 240, 241, 242, 243, 250,
         251, 252, 254, 255, 256, 257, 258, 261, 262, 263, 268, 269, 270, 271, 281, 278, 278, 278,
         281, 282, 282, 284, 285, 286, 287, 288, 298, 295, 295, 295, 298, 298, 301, 303, 304, 305,
         306, 307, 308, 311, 311, 311, 311, 311, 311, 311, 319, 320, 320, 323, 323, 323, 323, 323,
         323, 334, 335, 336, 337, 338, 339, 340, 340, 358, 358, 358, 358, 358, 356, 374, 393, 393,
         393, 393, 399, 400, 401, 402, 412, 409, 409, 409, 412, 412, 414, 431, 431, 437, 438, 439,
         440, 441, 442, 457, 457, 457, 457, 463, 464, 465, 466, 468, 468, 468, 468, 468, 470, 506,
         507, 508, 509, 511, 512, 513, 514, 515, 516, 207, 207, 207, 207, 208, 209, 210, 211, 212,
         213, 213] &&
       r.unknowns == ["\\pair".toList, "\\textbf".toList, "\\emph".toList, "\\foo".toList, "\\bar".toList]
     | _ => false) = true := by
  obtain ⟨r, h1, h2, h3, h4, _⟩ := C03_mix3_e2e_current C03_mix3_doc C03_mix3_repls C03_mix3_drepls 0
    C03_mix3_example_current C03_mix3_example_fuel
  obtain ⟨e1, e2, e3⟩ := C03_mix3_example_ref
  rw [h1]
  show (r.txt == _ && r.pos == _ && r.unknowns == _) = true
  rw [Bool.and_eq_true, Bool.and_eq_true, beq_iff_eq, beq_iff_eq, beq_iff_eq]
  exact ⟨⟨h2.trans e1, h3.trans e2⟩, h4.trans e3⟩

end Yalafi
