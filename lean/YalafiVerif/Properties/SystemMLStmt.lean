/-
  Properties/SystemMLStmt.lean — SYSTEM-LEVEL statements for MULTI-LANGUAGE mode: the multi-language
  filter theorem (C12, `tex2txt … multi := true`, `r.parts`) COMPOSED with the shell's assembly of the
  submitted pieces (`run_proofreader_options`: `plain_tot`, `charmap_tot`, `matches_tot`, the
  delimiter `'\n\n'`; C14 `C14_assemble_shift`) and with `map_match_position`, the report generators,
  the HTML highlight and the sort of the matches (`C14_run_reported`, `C14_sorted`).

  C14 "… This holds when the text was split into several parts (multi-language mode): offsets are
  shifted per part, each part is submitted under its own language code …":
    `C14_assemble_run`          (1) EVERY list of pieces: a run of the map of piece number `i` is a run of
                                the total map at the offset shifted by the length of the texts (plus
                                delimiters) in front (`C14_shift_is_text_length`)
    `C14_ml_run_reported`       (2) EVERY list of pieces, every source: the shifted match is in
                                `matches_tot`, and `map_match_position` on the TOTAL map, the text / JSON
                                / XML / XML-b reports and the HTML highlight are those of the source
                                word `src[q … q+l)`
    `C14_ml_runs_sorted`        (4) EVERY list of pieces: of two flagged runs — in the same or in
                                different pieces — the one that stands first in the file is reported
                                first
    `C14_flagged_word_ml_e2e`   (3) documents of `C12_selectlanguage_e2e` (inert text, `\selectlanguage`):
                                a word of a text segment is a run in EXACTLY ONE request of the shell,
                                at exactly one offset; that request is submitted under the language
                                code in force at the word (`langAt`); whatever the proofreader answers
                                for the requests, the flagged word is reported at its line, column and
                                length in the LaTeX file, in all formats
    `C14_sorted_ml_e2e`         (4) the same documents: two flagged words, possibly in pieces of
                                different languages, are reported in file order
  Instances on the tables of the current /repo with package babel (`_current`), and the whole
  pipeline on the three-language document of `C12_selectlanguage_e2e_current` (the shell's part
  evaluated by the kernel on the parts that theorem gives).

  Vocabulary (Proofs/SystemML.lean, Proofs/SystemMLLang.lean; `RunAt`, `WordReported`, `HtmlWord`,
  `natMap` as in Properties/SystemStmt.lean):
    `Sub` = `((txt, pos), matches)`   one request of the shell with the proofreader's answer;
    `submit subs`     what `run_proofreader_options` assembles (`plainTot`, `charmapTot`, `hits`);
    `shiftOf A`       `len(plain_tot)` after the requests `A`;  `shiftMatch s m` = `m` with `offset + s`;
    `totMap`          the total map as natural numbers;
    `Req` = `(code, (txt, pos))`, `shellPieces r.parts`   the requests in the order of the shell's loops
                      (`for lang in plain_map: for plain, charmap in plain_map[lang]`), blank pieces
                      skipped (`if not plain.strip(): continue`), each with its language code;
    `withAnswers`     requests and answers zipped.
  Proofs and side conditions: headers of Proofs/SystemML.lean and Proofs/SystemMLLang.lean.
  NOT covered here: `\foreignlanguage` and the `otherlanguage` environments — they are the subject of
  Properties/SystemMLMixStmt.lean (`C12_mixed_languages_e2e`: there a piece may hold PLACEHOLDERS whose
  map entries repeat the position of an inclusion, so "no position twice" fails and the word-level
  statement uses the plan of `C12_mix_word_once`; the grammar-free theorems (1), (2), (4) apply to
  those parts as they are).  NOT covered: the rule options of a request
  (`--ml-disable`, `--ml-disablecategories` for pieces of at most `--ml-rule-threshold` words: not
  part of the model); the matches the shell creates itself (single letters, equation punctuation);
  flagged stretches with white space at their ends; the texts of the reports other than the numbers.
-/
import YalafiVerif.Proofs.SystemMLLang
import YalafiVerif.Properties.PlainLangStmt
import YalafiVerif.Generated.Init
namespace Yalafi
open SystemML SystemWord Reports Html PlainLang

/-! ## grammar-free: every list of pieces, every answer of the proofreader -/

/-- the shift of the offsets of a piece: the lengths of the texts submitted before it, two
    characters of delimiter each -/
theorem C14_shift_is_text_length (A : List Sub) :
    shiftOf A = (A.map (fun y => y.1.1.length + 2)).sum :=
  shiftOf_eq A

/-- what `run_proofreader_options` assembles from `A ++ x :: B`: the text of `x` (and its delimiter)
    behind the text of `A`, its map behind the map of `A`, its matches — offsets shifted by the
    length of the text of `A` — behind the matches of `A` (`C14_assemble_shift`, iterated) -/
theorem C14_submit_split (A B : List Sub) (x : Sub) :
    ∃ P C H, submit (A ++ x :: B) =
      { plainTot := (submit A).plainTot ++ (x.1.1 ++ ['\n', '\n'] ++ P),
        charmapTot := (submit A).charmapTot ++ natMap x.1.2 ++ C,
        hits := (submit A).hits ++ x.2.map (shiftMatch (shiftOf A)) ++ H } :=
  submit_split A B x

/-- **(1) a run of a piece is a run of the total map, at the shifted offset.**  The piece `x` is
    submitted behind the pieces `A` (whose maps are as long as their texts): if the `l` map entries
    of `x` from offset `o` are `q, q+1, …`, then so are the `l` entries of the total map from offset
    `o + shiftOf A`; an entry follows them (the delimiter); the total map of the model is
    `natMap (totMap …)`. -/
theorem C14_assemble_run (A B : List Sub) (x : Sub) (o l q : Nat)
    (hlen : ∀ y ∈ A, y.1.1.length = y.1.2.length) (hrun : RunAt x.1.2 o l q) :
    (submit (A ++ x :: B)).charmapTot = natMap (totMap ((A ++ x :: B).map (·.1.2))) ∧
    RunAt (totMap ((A ++ x :: B).map (·.1.2))) (o + shiftOf A) l q ∧
    (1 ≤ l → o + shiftOf A + l < (totMap ((A ++ x :: B).map (·.1.2))).length) :=
  ⟨charmapTot_natMap _, assemble_run A B x o l q hlen hrun⟩

/-- **(2) every source, every list of pieces**: the proofreader flags in the piece `x` (submitted
    behind `A`) the `l ≥ 1` characters from offset `o`, whose map entries are `q+1, …, q+l`, a stretch
    of the file that is not one single backslash.  Then every match `m` of the answer for `x` is in
    `matches_tot` with the offset `m.offset + shiftOf A`; an entry of the total map follows the
    shifted stretch; `map_match_position` on the TOTAL map yields offset `q`, length `l`; all reports
    are those of the source word `src[q … q+l)` (`WordReported`: line, column, length in the LaTeX
    file, text report, JSON, XML, XML-b), the HTML report accepts the match and highlights that word
    (`HtmlWord`). -/
theorem C14_ml_run_reported (src : Str) (A B : List Sub) (x : Sub) (o l q : Nat) (hl : 1 ≤ l)
    (hlen : ∀ y ∈ A, y.1.1.length = y.1.2.length)
    (hrun : RunAt x.1.2 o l (q + 1)) (hin : q + l ≤ src.length)
    (hbs : ¬ (l = 1 ∧ src[q]? = some '\\')) :
    (∀ m ∈ x.2, shiftMatch (shiftOf A) m ∈ (submit (A ++ x :: B)).hits) ∧
    o + shiftOf A + l < (submit (A ++ x :: B)).charmapTot.length ∧
    mapMatch (submit (A ++ x :: B)).charmapTot src ((o + shiftOf A : Nat) : Int) (some (.int l))
      = .ok ((q : Int), (l : Int)) ∧
    reportAll (submit (A ++ x :: B)).charmapTot src ((o + shiftOf A : Nat) : Int) (some (.int l))
      = .ok (locate src q l) ∧
    WordReported src q l (locate src q l) ∧
    HtmlWord src (submit (A ++ x :: B)).charmapTot (o + shiftOf A) l q := by
  obtain ⟨h1, _, _, h4, h5, h6, h7, h8⟩ := ml_run_reported src A B x o l q hl hlen hrun hin hbs
  exact ⟨h1, h4, h5, h6, h7, h8⟩

/-- **(4) every list of pieces**: two flagged runs, in the pieces `x1` (behind `A1`) and `x2` (behind
    `A2`) of the same list of requests — the same piece or different ones, in any order —: after the
    shell's sort of `matches_tot` (`C14_sorted`, key: the total map at the shifted offset) the match
    whose word stands first in the LaTeX file comes first. -/
theorem C14_ml_runs_sorted (subs A1 B1 A2 B2 : List Sub) (x1 x2 : Sub)
    (h1 : subs = A1 ++ x1 :: B1) (h2 : subs = A2 ++ x2 :: B2)
    (hlen1 : ∀ y ∈ A1, y.1.1.length = y.1.2.length) (hlen2 : ∀ y ∈ A2, y.1.1.length = y.1.2.length)
    (m1 m2 : RawMatch) (hm1 : m1 ∈ x1.2) (hm2 : m2 ∈ x2.2) (o1 l1 q1 o2 l2 q2 : Nat)
    (ho1 : m1.offset = (o1 : Int)) (ho2 : m2.offset = (o2 : Int)) (hl1 : 1 ≤ l1) (hl2 : 1 ≤ l2)
    (hr1 : RunAt x1.1.2 o1 l1 (q1 + 1)) (hr2 : RunAt x2.1.2 o2 l2 (q2 + 1)) (hlt : q1 < q2)
    (out : List RawMatch) (hs : sortMatches (submit subs).charmapTot (submit subs).hits = .ok out) :
    ∃ X Y Z, out = X ++ shiftMatch (shiftOf A1) m1 :: (Y ++ shiftMatch (shiftOf A2) m2 :: Z) :=
  ml_runs_sorted subs A1 B1 A2 B2 x1 x2 h1 h2 hlen1 hlen2 m1 m2 hm1 hm2 o1 l1 q1 o2 l2 q2 ho1 ho2 hl1 hl2
    hr1 hr2 hlt out hs

/-! ## (3) documents with `\selectlanguage`, end to end -/

/-- **a flagged word in multi-language mode, end to end through filter and shell** (the documents and
    hypotheses of `C12_selectlanguage_e2e`: inert text and hard switches `\selectlanguage{name}`,
    package babel, `multi = true`).  Let `w` be a stretch of a text segment
    (`segs = pre ++ .txt (a ++ w ++ b) :: post`) whose first and last characters are no white space,
    `q = |render pre| + |a|`, `l = |w|`.  Then
    * `w` stands at offset `q` of the LaTeX file;
    * `tex2txt` succeeds; every request of the shell (`shellPieces r.parts`) has a map as long as its
      text and is not blank;
    * EXACTLY ONE PIECE: there are a request number `i` and an offset `off` such that the `l` map
      entries of that request from `off` are `q+1, …, q+l` and its text there is `w`; and no other
      request, and no other offset, has these map entries;
    * for EVERY request number `i` and offset `off` with these map entries (the proofreader flags this
      occurrence):
      - the request is submitted under the language code in force at the word: the code of the last
        `\selectlanguage` in front of it, `o.lang` if there is none (`langAt`);
      - whatever the proofreader answers for the requests (`subs`: the requests with ANY lists of
        matches): every match `m` of the answer for request `i` is in `matches_tot` with the offset
        `m.offset + shiftOf (requests before i)`; at the shifted offset `off + shiftOf …` of the
        TOTAL map `map_match_position` yields offset `q` and length `l`; the text report prints the
        line and column of the first character of `w` in the file; JSON `offset` / `length` are `q` /
        `l`; JSON `priv`, XML, XML-b name that line and column and those of the last character (all
        in `WordReported`); the HTML report accepts the match and highlights `src[q : q+l] = w`
        (`HtmlWord`) — exactly as in single-language mode (`C14_flagged_word_e2e`). -/
theorem C14_flagged_word_ml_e2e (T : PTables) (o : Options) (fs : FS) (thresh : Nat)
    (segs : List PlainLang.Seg) (fuel : Nat) (st1 : PState)
    (hdefs : o.defs = []) (hextr : o.extr = []) (hrepl : o.hasRepl = false)
    (hbrk : T.selectBrk = true)
    (hinit : initParser T fuel o (initialState T o true fs) = .ok ((), st1))
    (hml : st1.multiLanguage = true) (hok : PlainLang.segsOk T st1 segs = true)
    (hf : (PlainLang.render segs).length + 2 ≤ fuel)
    (pre post : List PlainLang.Seg) (a w b : Str) (hsegs : segs = pre ++ .txt (a ++ (w ++ b)) :: post)
    (hw : wordEnds w = true) :
    ((PlainLang.render segs).drop ((PlainLang.render pre).length + a.length)).take w.length = w ∧
    (PlainLang.render pre).length + a.length + w.length ≤ (PlainLang.render segs).length ∧
    ∃ r, tex2txt T fuel (PlainLang.render segs) o true thresh fs = .ok r ∧
      (∀ pc ∈ shellPieces r.parts, pc.2.1.length = pc.2.2.length ∧ isBlank pc.2.1 = false) ∧
      (∃ (i : Nat) (pc : Req) (off : Nat), (shellPieces r.parts)[i]? = some pc ∧
        off + w.length ≤ pc.2.1.length ∧
        RunAt pc.2.2 off w.length ((PlainLang.render pre).length + a.length + 1) ∧
        (pc.2.1.drop off).take w.length = w ∧
        ∀ (j : Nat) (pc' : Req) (off' : Nat), (shellPieces r.parts)[j]? = some pc' →
          RunAt pc'.2.2 off' w.length ((PlainLang.render pre).length + a.length + 1) → j = i ∧ off' = off) ∧
      ∀ (i : Nat) (pc : Req) (off : Nat), (shellPieces r.parts)[i]? = some pc →
        RunAt pc.2.2 off w.length ((PlainLang.render pre).length + a.length + 1) →
        pc.1 = PlainLang.langAt T o.lang 0 segs ((PlainLang.render pre).length + a.length) ∧
        ∀ (subs : List Sub), subs.map (·.1) = (shellPieces r.parts).map (·.2) →
          ∃ x, subs[i]? = some x ∧ x.1 = pc.2 ∧
            (∀ m ∈ x.2, shiftMatch (shiftOf (subs.take i)) m ∈ (submit subs).hits) ∧
            off + shiftOf (subs.take i) + w.length < (submit subs).charmapTot.length ∧
            mapMatch (submit subs).charmapTot (PlainLang.render segs)
                ((off + shiftOf (subs.take i) : Nat) : Int) (some (.int w.length))
              = .ok ((((PlainLang.render pre).length + a.length : Nat) : Int), (w.length : Int)) ∧
            reportAll (submit subs).charmapTot (PlainLang.render segs)
                ((off + shiftOf (subs.take i) : Nat) : Int) (some (.int w.length))
              = .ok (locate (PlainLang.render segs) (((PlainLang.render pre).length + a.length : Nat) : Int)
                  (w.length : Int)) ∧
            WordReported (PlainLang.render segs) ((PlainLang.render pre).length + a.length) w.length
              (locate (PlainLang.render segs) (((PlainLang.render pre).length + a.length : Nat) : Int)
                (w.length : Int)) ∧
            HtmlWord (PlainLang.render segs) (submit subs).charmapTot (off + shiftOf (subs.take i)) w.length
              ((PlainLang.render pre).length + a.length) := by
  obtain ⟨⟨c, cs, hwc, _⟩, _⟩ := wordEnds_facts hw
  have hsrc : PlainLang.render segs = (PlainLang.render pre ++ a) ++ (w ++ (b ++ PlainLang.render post)) := by
    rw [hsegs, render_append]; simp [PlainLang.render, PlainLang.Seg.render]
  have hword : ((PlainLang.render segs).drop ((PlainLang.render pre).length + a.length)).take w.length = w := by
    rw [hsrc, List.drop_left' (by simp), List.take_left]
  obtain ⟨hl, hin, hbs⟩ := word_in_file hwc
    (txt_not_backslash T st1 pre post a (cs ++ b) c (by rw [hsegs, hwc] at hok; simpa using hok)) hword
  obtain ⟨r, h1, h2, _⟩ := tex2txt_selectlanguage T o fs thresh segs fuel st1 hdefs hextr hrepl
    hbrk hinit hml hok hf
  have hlen := shellPieces_lengths (refParts_lengths T o.lang segs)
  rw [← h2] at hlen
  refine ⟨hword, hin, r, h1, hlen, ?_, ?_⟩
  · obtain ⟨pc, hpc, off, g1, g2, g3⟩ := word_in_piece T o.lang segs pre post a w b hsegs hw
    obtain ⟨i, hi⟩ := List.getElem?_of_mem hpc
    rw [h2]
    refine ⟨i, pc, off, hi, g1, g2, g3, ?_⟩
    intro j pc' off' hj hrun'
    have m1 : (PlainLang.render pre).length + a.length + 1 ∈ pc.2.2 :=
      List.mem_of_getElem? (by simpa using g2.get 0 (by omega))
    have m2 : (PlainLang.render pre).length + a.length + 1 ∈ pc'.2.2 :=
      List.mem_of_getElem? (by simpa using hrun'.get 0 (by omega))
    have hji := piece_unique T o.lang segs j i pc' pc _ hj hi m2 m1
    subst hji
    rw [hi] at hj
    cases hj
    exact ⟨rfl, runAt_unique _ (piece_nodup T o.lang segs pc hpc) _ _ _ _ hl hrun' g2⟩
  · intro i pc off hi hrun
    have hpc : pc ∈ shellPieces (refParts T o.lang segs) := by rw [← h2]; exact List.mem_of_getElem? hi
    have m1 : (PlainLang.render pre).length + a.length + 1 ∈ pc.2.2 :=
      List.mem_of_getElem? (by simpa using hrun.get 0 (by omega))
    exact ⟨piece_language T o.lang segs pc hpc _ m1, piece_run_reported (PlainLang.render segs) _
      (fun pc hpc => (hlen pc hpc).1) i pc off w.length _ hi hl hrun hin hbs⟩

/-- **(4) two flagged words are reported in the order of the file, across language parts** (the same
    documents).  Two words of text segments, the first one standing first in the file: each is a run
    in a request of the shell; and whenever the proofreader flags them — matches `m1`, `m2` anywhere
    in its answers for the requests number `i1`, `i2` (the same request, or requests of different
    languages in any order), offsets with the map entries of the words — the shell's sort of
    `matches_tot` puts the (shifted) `m1` in front of the (shifted) `m2`. -/
theorem C14_sorted_ml_e2e (T : PTables) (o : Options) (fs : FS) (thresh : Nat)
    (segs : List PlainLang.Seg) (fuel : Nat) (st1 : PState)
    (hdefs : o.defs = []) (hextr : o.extr = []) (hrepl : o.hasRepl = false)
    (hbrk : T.selectBrk = true)
    (hinit : initParser T fuel o (initialState T o true fs) = .ok ((), st1))
    (hml : st1.multiLanguage = true) (hok : PlainLang.segsOk T st1 segs = true)
    (hf : (PlainLang.render segs).length + 2 ≤ fuel)
    (pre1 post1 : List PlainLang.Seg) (a1 w1 b1 : Str)
    (hsegs1 : segs = pre1 ++ .txt (a1 ++ (w1 ++ b1)) :: post1)
    (pre2 post2 : List PlainLang.Seg) (a2 w2 b2 : Str)
    (hsegs2 : segs = pre2 ++ .txt (a2 ++ (w2 ++ b2)) :: post2)
    (hw1 : wordEnds w1 = true) (hw2 : wordEnds w2 = true)
    (hlt : (PlainLang.render pre1).length + a1.length < (PlainLang.render pre2).length + a2.length) :
    ∃ r, tex2txt T fuel (PlainLang.render segs) o true thresh fs = .ok r ∧
      (∃ (i1 : Nat) (pc1 : Req) (off1 i2 : Nat) (pc2 : Req) (off2 : Nat),
        (shellPieces r.parts)[i1]? = some pc1 ∧ (shellPieces r.parts)[i2]? = some pc2 ∧
        RunAt pc1.2.2 off1 w1.length ((PlainLang.render pre1).length + a1.length + 1) ∧
        RunAt pc2.2.2 off2 w2.length ((PlainLang.render pre2).length + a2.length + 1)) ∧
      ∀ (subs : List Sub) (i1 i2 : Nat) (x1 x2 : Sub) (m1 m2 : RawMatch) (off1 off2 : Nat) (out : List RawMatch),
        subs.map (·.1) = (shellPieces r.parts).map (·.2) →
        subs[i1]? = some x1 → subs[i2]? = some x2 → m1 ∈ x1.2 → m2 ∈ x2.2 →
        m1.offset = (off1 : Int) → m2.offset = (off2 : Int) →
        RunAt x1.1.2 off1 w1.length ((PlainLang.render pre1).length + a1.length + 1) →
        RunAt x2.1.2 off2 w2.length ((PlainLang.render pre2).length + a2.length + 1) →
        sortMatches (submit subs).charmapTot (submit subs).hits = .ok out →
        ∃ X Y Z, out = X ++ shiftMatch (shiftOf (subs.take i1)) m1
          :: (Y ++ shiftMatch (shiftOf (subs.take i2)) m2 :: Z) := by
  obtain ⟨r, h1, h2, _⟩ := tex2txt_selectlanguage T o fs thresh segs fuel st1 hdefs hextr hrepl
    hbrk hinit hml hok hf
  refine ⟨r, h1, ?_, ?_⟩
  · obtain ⟨pc1, hpc1, off1, _, g1, _⟩ := word_in_piece T o.lang segs pre1 post1 a1 w1 b1 hsegs1 hw1
    obtain ⟨pc2, hpc2, off2, _, g2, _⟩ := word_in_piece T o.lang segs pre2 post2 a2 w2 b2 hsegs2 hw2
    obtain ⟨i1, e1⟩ := List.getElem?_of_mem hpc1
    obtain ⟨i2, e2⟩ := List.getElem?_of_mem hpc2
    rw [h2]
    exact ⟨i1, pc1, off1, i2, pc2, off2, e1, e2, g1, g2⟩
  · intro subs i1 i2 x1 x2 m1 m2 off1 off2 out hsub hx1 hx2 hm1 hm2 ho1 ho2 hr1 hr2 hs
    rw [h2] at hsub
    exact piece_runs_sorted _ (fun pc hpc => (shellPieces_lengths (refParts_lengths T o.lang segs) pc hpc).1)
      subs hsub i1 i2 x1 x2 hx1 hx2 m1 m2 hm1 hm2 off1 w1.length _ off2 w2.length _ ho1 ho2
      (wordEnds_pos hw1) (wordEnds_pos hw2) hr1 hr2 hlt out hs

/-- requests zipped with one list of matches each are "the requests with answers" of the theorems -/
theorem C14_withAnswers (pieces : List Req) (answers : List (List RawMatch))
    (h : answers.length = pieces.length) : (withAnswers pieces answers).map (·.1) = pieces.map (·.2) :=
  withAnswers_pieces pieces answers h

/-! ## instances on the tables of the current /repo (package babel, `--lang en-GB`) -/

open Generated

/-- `C14_flagged_word_ml_e2e` for the CURRENT code: tables translated from /repo, `--pack babel
    --lang en-GB`, multi-language mode, parser initialisation evaluated by the kernel
    (`initParser_babel`); `selectlang_break` is set in `babel.py` -/
theorem C14_flagged_word_ml_e2e_current (segs : List PlainLang.Seg) (thresh : Nat)
    (hok : PlainLang.segsOk theTables stBabel segs = true)
    (hf : (PlainLang.render segs).length + 2 ≤ bigFuel)
    (pre post : List PlainLang.Seg) (a w b : Str) (hsegs : segs = pre ++ .txt (a ++ (w ++ b)) :: post)
    (hw : wordEnds w = true) :
    ((PlainLang.render segs).drop ((PlainLang.render pre).length + a.length)).take w.length = w ∧
    ∃ r, tex2txt theTables bigFuel (PlainLang.render segs) babelOptions true thresh [] = .ok r ∧
      (∃ (i : Nat) (pc : Req) (off : Nat), (shellPieces r.parts)[i]? = some pc ∧
        RunAt pc.2.2 off w.length ((PlainLang.render pre).length + a.length + 1) ∧
        (pc.2.1.drop off).take w.length = w ∧
        ∀ (j : Nat) (pc' : Req) (off' : Nat), (shellPieces r.parts)[j]? = some pc' →
          RunAt pc'.2.2 off' w.length ((PlainLang.render pre).length + a.length + 1) → j = i ∧ off' = off) ∧
      ∀ (i : Nat) (pc : Req) (off : Nat), (shellPieces r.parts)[i]? = some pc →
        RunAt pc.2.2 off w.length ((PlainLang.render pre).length + a.length + 1) →
        pc.1 = PlainLang.langAt theTables babelOptions.lang 0 segs ((PlainLang.render pre).length + a.length) ∧
        ∀ (subs : List Sub), subs.map (·.1) = (shellPieces r.parts).map (·.2) →
          ∃ x, subs[i]? = some x ∧ x.1 = pc.2 ∧
            (∀ m ∈ x.2, shiftMatch (shiftOf (subs.take i)) m ∈ (submit subs).hits) ∧
            reportAll (submit subs).charmapTot (PlainLang.render segs)
                ((off + shiftOf (subs.take i) : Nat) : Int) (some (.int w.length))
              = .ok (locate (PlainLang.render segs) (((PlainLang.render pre).length + a.length : Nat) : Int)
                  (w.length : Int)) ∧
            WordReported (PlainLang.render segs) ((PlainLang.render pre).length + a.length) w.length
              (locate (PlainLang.render segs) (((PlainLang.render pre).length + a.length : Nat) : Int)
                (w.length : Int)) ∧
            HtmlWord (PlainLang.render segs) (submit subs).charmapTot (off + shiftOf (subs.take i)) w.length
              ((PlainLang.render pre).length + a.length) := by
  obtain ⟨h1, _, r, h3, _, ⟨i, pc, off, e1, _, e3, e4, e5⟩, h6⟩ := C14_flagged_word_ml_e2e theTables babelOptions []
    thresh segs bigFuel stBabel rfl rfl rfl (by decide +kernel) initParser_babel PlainLang.stBabel_multi hok hf
    pre post a w b hsegs hw
  refine ⟨h1, r, h3, ⟨i, pc, off, e1, e3, e4, e5⟩, ?_⟩
  intro i pc off hi hrun
  obtain ⟨g1, g2⟩ := h6 i pc off hi hrun
  refine ⟨g1, ?_⟩
  intro subs hsub
  obtain ⟨x, k1, k2, k3, _, _, k6, k7, k8⟩ := g2 subs hsub
  exact ⟨x, k1, k2, k3, k6, k7, k8⟩

/-- the three-language document of `C12_selectlanguage_e2e_current`

        Hello world.
        \selectlanguage{german}
        Hallo Welt.
        \selectlanguage{russian}
        Привет, мир.
        \selectlanguage{english}
        Bye.

    and the words `Welt` (file offset 43: line 3, column 7), `мир` (offset 82: line 5, column 9) and
    `Bye` (offset 112: line 7, column 1): the side conditions of the theorem hold, and the language
    codes in force at the words are `de-DE`, `ru-RU`, `en-GB` -/
theorem C14_flagged_word_ml_example_current :
    PlainLang.segsOk theTables stBabel PlainLang.exSegs = true ∧
    (PlainLang.exSegs = PlainLang.exSegs.take 2
        ++ .txt ("\nHallo ".toList ++ ("Welt".toList ++ ".\n".toList)) :: PlainLang.exSegs.drop 3 ∧
      wordEnds "Welt".toList = true ∧
      (PlainLang.render (PlainLang.exSegs.take 2)).length + "\nHallo ".toList.length = 43 ∧
      PlainLang.langAt theTables babelOptions.lang 0 PlainLang.exSegs 43 = "de-DE".toList) ∧
    (PlainLang.exSegs = PlainLang.exSegs.take 4
        ++ .txt ("\nПривет, ".toList ++ ("мир".toList ++ ".\n".toList)) :: PlainLang.exSegs.drop 5 ∧
      wordEnds "мир".toList = true ∧
      (PlainLang.render (PlainLang.exSegs.take 4)).length + "\nПривет, ".toList.length = 82 ∧
      PlainLang.langAt theTables babelOptions.lang 0 PlainLang.exSegs 82 = "ru-RU".toList) ∧
    (PlainLang.exSegs = PlainLang.exSegs.take 6
        ++ .txt ("\n".toList ++ ("Bye".toList ++ ".".toList)) :: PlainLang.exSegs.drop 7 ∧
      wordEnds "Bye".toList = true ∧
      (PlainLang.render (PlainLang.exSegs.take 6)).length + "\n".toList.length = 112 ∧
      PlainLang.langAt theTables babelOptions.lang 0 PlainLang.exSegs 112 = "en-GB".toList) := by
  refine ⟨PlainLang.exSegs_ok, ?_⟩
  unfold PlainLang.exSegs; (repeat rw [String.toList_ofList]); decide +kernel

/-- … so the theorem says about the word `Welt` (no evaluation of the filter or of the shell's
    assembly, only of `locate` on the source): it is a run (map entries `44 … 47`) in exactly one
    request; that request is submitted under `de-DE`; and whatever the proofreader answers for the
    requests, the match at the shifted offset is reported at line 3, column 7, length 4 in all
    formats -/
theorem C14_flagged_word_ml_example :
    ∃ r, tex2txt theTables bigFuel (PlainLang.render PlainLang.exSegs) babelOptions true 2 [] = .ok r ∧
      (∃ (i : Nat) (pc : Req) (off : Nat), (shellPieces r.parts)[i]? = some pc ∧ RunAt pc.2.2 off 4 44 ∧
        (pc.2.1.drop off).take 4 = "Welt".toList ∧
        ∀ (j : Nat) (pc' : Req) (off' : Nat), (shellPieces r.parts)[j]? = some pc' →
          RunAt pc'.2.2 off' 4 44 → j = i ∧ off' = off) ∧
      ∀ (i : Nat) (pc : Req) (off : Nat), (shellPieces r.parts)[i]? = some pc → RunAt pc.2.2 off 4 44 →
        pc.1 = "de-DE".toList ∧
        ∀ (subs : List Sub), subs.map (·.1) = (shellPieces r.parts).map (·.2) →
          ∃ x, subs[i]? = some x ∧ x.1 = pc.2 ∧
            (∀ m ∈ x.2, shiftMatch (shiftOf (subs.take i)) m ∈ (submit subs).hits) ∧
            reportAll (submit subs).charmapTot (PlainLang.render PlainLang.exSegs)
                ((off + shiftOf (subs.take i) : Nat) : Int) (some (.int 4))
              = .ok { offset := 43, length := 4, lin := 3, col := 7, json := ⟨2, 6, 2, 10⟩,
                      xml := ⟨2, 6, 2, 10⟩, xmlb := ⟨2, 6, 2, 10⟩ } := by
  obtain ⟨hok, ⟨hsegs, hw, hp, hlang⟩, _, _⟩ := C14_flagged_word_ml_example_current
  obtain ⟨_, r, h1, h2, h3⟩ := C14_flagged_word_ml_e2e_current PlainLang.exSegs 2 hok (by decide +kernel)
    _ _ _ _ _ hsegs hw
  rw [hp, hlang] at h3
  rw [hp] at h2
  have hl : "Welt".toList.length = 4 := rfl
  rw [hl] at h2 h3
  have hloc : locate (PlainLang.render PlainLang.exSegs) ((43 : Nat) : Int) ((4 : Nat) : Int)
      = { offset := 43, length := 4, lin := 3, col := 7, json := ⟨2, 6, 2, 10⟩,
          xml := ⟨2, 6, 2, 10⟩, xmlb := ⟨2, 6, 2, 10⟩ } := by decide +kernel
  refine ⟨r, h1, h2, ?_⟩
  intro i pc off hi hrun
  obtain ⟨g1, g2⟩ := h3 i pc off hi hrun
  refine ⟨g1, ?_⟩
  intro subs hsub
  obtain ⟨x, k1, k2, k3, k4, _, _⟩ := g2 subs hsub
  rw [hloc] at k4
  exact ⟨x, k1, k2, k3, k4⟩

/-- … and the whole pipeline: `tex2txt` in multi-language mode (its parts are those of
    `C12_selectlanguage_e2e_current`), behind it evaluated by the kernel the shell's
    requests (language codes `en-GB`, `en-GB`, `de-DE`, `ru-RU`: the two English pieces first), the
    proofreader's answers "offset 0, length 3" for the second request (`Bye`), "offset 6, length 4"
    for the third (`Welt`), "offset 8, length 3" for the fourth (`мир`), the assembly (`plain_tot`
    = `Hello world.⏎⏎⏎Bye.⏎⏎Hallo Welt.⏎⏎⏎Привет, мир.⏎⏎⏎`; the offsets become 15, 27, 43 — the shifts
    are 15, 21, 35), `map_match_position` on the total map, the generators, the HTML highlight, the
    sort:
    `Welt` is reported at line 3, column 7, length 4 (file offset 43); `мир` at line 5, column 9,
    length 3 (offset 82; byte column 14: six two-byte letters in front); `Bye` at line 7, column 1,
    length 3 (offset 112); the sort puts them in file order `Welt`, `мир`, `Bye` although `Bye` was
    submitted and answered first. -/
theorem C14_flagged_word_ml_example_eval :
    (match tex2txt theTables bigFuel (PlainLang.render PlainLang.exSegs) babelOptions true 2 [] with
     | .ok r =>
       (shellPieces r.parts).map (·.1)
         == ["en-GB".toList, "en-GB".toList, "de-DE".toList, "ru-RU".toList] &&
       (let subs := withAnswers (shellPieces r.parts)
          [[], [{ offset := 0, rest := .null }], [{ offset := 6, rest := .null }],
           [{ offset := 8, rest := .null }]]
        let asm := submit subs
        asm.plainTot == "Hello world.\n\n\nBye.\n\nHallo Welt.\n\n\nПривет, мир.\n\n\n".toList &&
        asm.hits.map (·.offset) == [15, 27, 43] &&
        [shiftOf (subs.take 1), shiftOf (subs.take 2), shiftOf (subs.take 3)] == [15, 21, 35] &&
        (asm.plainTot.drop 27).take 4 == "Welt".toList &&
        (asm.plainTot.drop 43).take 3 == "мир".toList &&
        (asm.plainTot.drop 15).take 3 == "Bye".toList &&
        (match reportAll asm.charmapTot (PlainLang.render PlainLang.exSegs) 27 (some (.int 4)),
               reportAll asm.charmapTot (PlainLang.render PlainLang.exSegs) 43 (some (.int 3)),
               reportAll asm.charmapTot (PlainLang.render PlainLang.exSegs) 15 (some (.int 3)),
               computeH theTables.toTables (PlainLang.render PlainLang.exSegs) asm.charmapTot 0 27 4,
               sortMatches asm.charmapTot asm.hits with
         | .ok L1, .ok L2, .ok L3, .ok h, .ok out =>
           L1 == { offset := 43, length := 4, lin := 3, col := 7, json := ⟨2, 6, 2, 10⟩,
                   xml := ⟨2, 6, 2, 10⟩, xmlb := ⟨2, 6, 2, 10⟩ } &&
           L2 == { offset := 82, length := 3, lin := 5, col := 9, json := ⟨4, 8, 4, 11⟩,
                   xml := ⟨4, 8, 4, 11⟩, xmlb := ⟨4, 14, 4, 20⟩ } &&
           L3 == { offset := 112, length := 3, lin := 7, col := 1, json := ⟨6, 0, 6, 3⟩,
                   xml := ⟨6, 0, 6, 3⟩, xmlb := ⟨6, 0, 6, 3⟩ } &&
           h == { idx := 0, unsure := false, beg := 43, fin := 47, beglin := 2, endlin := 3, lin := 2 } &&
           slice (PlainLang.render PlainLang.exSegs) 43 47 == "Welt".toList &&
           out.map (·.offset) == [27, 43, 15]
         | _, _, _, _, _ => false))
     | _ => false) = true := by
  obtain ⟨r, h1, h2, _⟩ := PlainLang.C12_selectlanguage_e2e_current
  rw [h1]; simp only [h2]; rw [String.toList_ofList, String.toList_ofList, String.toList_ofList, String.toList_ofList]
  decide +kernel

/-- the loop of the shell over ALL pieces of a filter result (`assemble`, which skips blank pieces as
    `if not plain.strip(): continue` does) is the assembly `submit` of the non-blank ones: what the theorems above say
    about `submit` of the requests really sent is what the loop computes -/
theorem C14_shell_loop_is_submit (subs : List SystemML.Sub) :
    assemble (subs.map SystemML.toPart) = SystemML.submit (subs.filter (fun x => !isBlank x.1.1)) := by
  rw [assemble_eq_filter, SystemML.submit, List.filter_map]
  rfl

end Yalafi
