/-
  Properties/PlainMix2Stmt.lean — C03 "hidden material never leaks" and C05 "text flow is preserved",
  end to end on the filter model, for documents that MIX fourteen kinds of constructs: inert text,
  special sequences, BRACES / GROUPS and undeclared control words with braced arguments at any depth
  (`\textbf{…}`, `\emph{…}`, `{…}`), vanishing calls (`\label{…}`, `\index{…}`), `%` comments, `\verb`,
  simple inline formulas, `\ref{…}` / `\pageref{…}`, `\cite{…}` / `\cite[note]{…}`, `\footnote{…}`,
  headings `\section{…}` — in any order and nesting of the braces (`PlainMix2.Seg`).
  Proofs, side conditions and what is not covered: Proofs/PlainMix2E2E.lean (header),
  Proofs/PlainMix2.lean (one loop lemma), Proofs/PlainMix2Scan.lean (one scanner lemma),
  Proofs/PlainMix2Src.lean (documents, reference), Proofs/PlainMix2Read.lean (readings).
-/
import YalafiVerif.Proofs.PlainMix2Read
import YalafiVerif.Generated.Init
namespace Yalafi

/-- **mixed documents with groups, references, citations, footnotes and headings, end to end.**
    For every document `render segs` (`PlainMix2.SegsOk`: all side conditions, computable; `repls` =
    the inline placeholder collection of the language, only looked at if there is a formula), `st1`
    the state after `Parser.__init__`, no `--defs --extr --repl --unkn`, single-language mode, fuel =
    source length + 4: `tex2txt` succeeds; the output text with its (1-based) positions is
    `delLines (marks …) ++ flows …`:

    * `marks` (main flow): a text character with its own position; a special sequence = a text-less
      mark and its table value; a brace, a control word, a vanishing call, a footnote = a text-less
      mark; a comment = nothing; `\verb d s d` = a mark and `s`; a formula = a mark, placeholder and
      punctuation, a mark; a reference = a mark and the placeholder text of its declaration (`PlainRef.phOf`;
      tables of /repo: `0`) at the backslash; a citation = a mark, `[0]` (or `[0, note]`, the note at
      its own positions), a mark; a heading = a mark, the title at its own positions and, unless the
      title ends with a mark of `heading_punct` (`PlainHeading.needsDot`), a full stop;
    * `delLines`: every line of the main flow that consists of white space and at least one
      text-less mark is deleted with its line break (`remove_pure_action_lines`); nothing else;
    * `flows`: for every footnote, in order, behind the main text: three line breaks, the body at
      its own positions, a line break;
    * the unknowns are the undeclared control words, each once, in order of first use;
      no diagnostic beyond those of the initialisation. -/
theorem C03_mix2_e2e (T : PTables) (o : Options) (fs : FS) (thresh : Nat)
    (segs : List PlainMix2.Seg) (fuel : Nat) (st1 : PState) (repls : List Str)
    (hdefs : o.defs = []) (hextr : o.extr = []) (hrepl : o.hasRepl = false) (hunkn : o.unkn = false)
    (hinit : initParser T fuel o (initialState T o false fs) = .ok ((), st1))
    (hok : PlainMix2.SegsOk T st1 repls segs) (hf : (PlainMix2.render segs).length + 4 ≤ fuel) :
    ∃ r, tex2txt T fuel (PlainMix2.render segs) o false thresh fs = .ok r ∧
      r.txt = (PlainMacro.delLines (PlainMix2.marks T st1 repls 0 0 segs)
                ++ PlainMix2.flows 0 segs).map (·.1) ∧
      r.pos = (PlainMacro.delLines (PlainMix2.marks T st1 repls 0 0 segs)
                ++ PlainMix2.flows 0 segs).map (·.2 + 1) ∧
      r.unknowns = (PlainMix2.cwNames segs).eraseDups ∧ r.diags = st1.diags := by
  obtain ⟨r, h1, h2, h3, h4, h5, _⟩ :=
    PlainMix2.tex2txt_mix2 T o fs thresh segs fuel st1 repls hdefs hextr hrepl hunkn hinit hok hf
  exact ⟨r, h1, h2, h3, h4, h5⟩

/-- **nothing hidden leaks, nothing visible is lost.**  The output characters that are no white
    space, with their positions, are exactly those of `PlainMix2.plain` (text, special values,
    `\verb` contents, placeholders, notes, titles and their full stops) followed by those of the
    footnote bodies (`PlainMix2.footBodies`), in this order — no character of a key, a label, a
    comment, a control-word name or a formula body, and every footnote body exactly once. -/
theorem C03_mix2_words (T : PTables) (o : Options) (fs : FS) (thresh : Nat)
    (segs : List PlainMix2.Seg) (fuel : Nat) (st1 : PState) (repls : List Str)
    (hdefs : o.defs = []) (hextr : o.extr = []) (hrepl : o.hasRepl = false) (hunkn : o.unkn = false)
    (hinit : initParser T fuel o (initialState T o false fs) = .ok ((), st1))
    (hok : PlainMix2.SegsOk T st1 repls segs) (hf : (PlainMix2.render segs).length + 4 ≤ fuel) :
    ∃ r, tex2txt T fuel (PlainMix2.render segs) o false thresh fs = .ok r ∧
      (r.txt.zip r.pos).filter (fun cp => !isSpace cp.1)
        = ((PlainMix2.plain T st1 repls 0 0 segs ++ PlainMix2.footBodies 0 segs).filter
            (fun cp => !isSpace cp.1)).map (fun cp => (cp.1, cp.2 + 1)) := by
  obtain ⟨r, h1, h2, h3, _⟩ :=
    C03_mix2_e2e T o fs thresh segs fuel st1 repls hdefs hextr hrepl hunkn hinit hok hf
  refine ⟨r, h1, ?_⟩
  rw [h2, h3, List.zip_map', List.filter_map]
  have hw := PlainMix.delLines_words (PlainMix2.marks T st1 repls 0 0 segs)
  rw [PlainMix2.marks_chars] at hw
  have hfl := PlainMix2.flows_vis segs 0
  show List.map _ (List.filter PlainMix.vis _) = List.map _ (List.filter PlainMix.vis _)
  rw [List.filter_append, List.filter_append, hw, hfl]

/-- **blank-line removal adds nothing to the main flow**: the main part of the output is a
    subsequence of `PlainMix2.plain`, the output characters of the main flow before that pass (what
    the constructs generate is in it), and it is followed by exactly the flows. -/
theorem C05_mix2_nothing_added (T : PTables) (o : Options) (fs : FS) (thresh : Nat)
    (segs : List PlainMix2.Seg) (fuel : Nat) (st1 : PState) (repls : List Str)
    (hdefs : o.defs = []) (hextr : o.extr = []) (hrepl : o.hasRepl = false) (hunkn : o.unkn = false)
    (hinit : initParser T fuel o (initialState T o false fs) = .ok ((), st1))
    (hok : PlainMix2.SegsOk T st1 repls segs) (hf : (PlainMix2.render segs).length + 4 ≤ fuel) :
    ∃ r, tex2txt T fuel (PlainMix2.render segs) o false thresh fs = .ok r ∧
      ∃ main, r.txt.zip r.pos
          = (main ++ PlainMix2.flows 0 segs).map (fun cp => (cp.1, cp.2 + 1)) ∧
        List.Sublist main (PlainMix2.plain T st1 repls 0 0 segs) := by
  obtain ⟨r, h1, h2, h3, _⟩ :=
    C03_mix2_e2e T o fs thresh segs fuel st1 repls hdefs hextr hrepl hunkn hinit hok hf
  refine ⟨r, h1, PlainMacro.delLines (PlainMix2.marks T st1 repls 0 0 segs), ?_, ?_⟩
  · rw [h2, h3, List.zip_map']
  · have := PlainMix.delLines_sublist (PlainMix2.marks T st1 repls 0 0 segs)
    rw [PlainMix2.marks_chars] at this
    exact this

/-- **a line of the main flow is deleted iff it is pure.**  Split the marks of the document at a
    line: `A` (empty or ending with a line break), the line `L` (no line break), its line break
    `nlp`, the rest `B`.  Then the output is the output of `A`, followed by nothing if `L` is *pure*
    (`PlainMix.pureLine`: white space only and at least one text-less mark — the line and its line
    break are deleted) and by the characters of `L` and the line break otherwise, followed by the
    output of `B` and the flows. -/
theorem C05_mix2_lines (T : PTables) (o : Options) (fs : FS) (thresh : Nat)
    (segs : List PlainMix2.Seg) (fuel : Nat) (st1 : PState) (repls : List Str)
    (hdefs : o.defs = []) (hextr : o.extr = []) (hrepl : o.hasRepl = false) (hunkn : o.unkn = false)
    (hinit : initParser T fuel o (initialState T o false fs) = .ok ((), st1))
    (hok : PlainMix2.SegsOk T st1 repls segs) (hf : (PlainMix2.render segs).length + 4 ≤ fuel)
    (A L B : List PlainMacro.Mark) (nlp : Char × Nat)
    (hsplit : PlainMix2.marks T st1 repls 0 0 segs = A ++ (L ++ some nlp :: B))
    (hA : A = [] ∨ ∃ A' q, A = A' ++ [some q] ∧ (q.1 == nl) = true)
    (hL : L.any PlainMix.isNlMark = false) (hn : (nlp.1 == nl) = true) :
    ∃ r, tex2txt T fuel (PlainMix2.render segs) o false thresh fs = .ok r ∧
      r.txt = ((PlainMacro.delLines A ++ ((if PlainMix.pureLine L then [] else L.filterMap id ++ [nlp])
                ++ PlainMacro.delLines B)) ++ PlainMix2.flows 0 segs).map (·.1) ∧
      r.pos = ((PlainMacro.delLines A ++ ((if PlainMix.pureLine L then [] else L.filterMap id ++ [nlp])
                ++ PlainMacro.delLines B)) ++ PlainMix2.flows 0 segs).map (·.2 + 1) := by
  obtain ⟨r, h1, h2, h3, _⟩ :=
    C03_mix2_e2e T o fs thresh segs fuel st1 repls hdefs hextr hrepl hunkn hinit hok hf
  rw [hsplit, PlainMix.delLines_mid A L B nlp hA hL hn] at h2 h3
  exact ⟨r, h1, h2, h3⟩

/-- … and the last line of the main flow (no line break behind it) -/
theorem C05_mix2_last_line (T : PTables) (o : Options) (fs : FS) (thresh : Nat)
    (segs : List PlainMix2.Seg) (fuel : Nat) (st1 : PState) (repls : List Str)
    (hdefs : o.defs = []) (hextr : o.extr = []) (hrepl : o.hasRepl = false) (hunkn : o.unkn = false)
    (hinit : initParser T fuel o (initialState T o false fs) = .ok ((), st1))
    (hok : PlainMix2.SegsOk T st1 repls segs) (hf : (PlainMix2.render segs).length + 4 ≤ fuel)
    (A L : List PlainMacro.Mark)
    (hsplit : PlainMix2.marks T st1 repls 0 0 segs = A ++ L)
    (hA : A = [] ∨ ∃ A' q, A = A' ++ [some q] ∧ (q.1 == nl) = true)
    (hL : L.any PlainMix.isNlMark = false) :
    ∃ r, tex2txt T fuel (PlainMix2.render segs) o false thresh fs = .ok r ∧
      r.txt = ((PlainMacro.delLines A ++ (if PlainMix.pureLine L then [] else L.filterMap id))
                ++ PlainMix2.flows 0 segs).map (·.1) ∧
      r.pos = ((PlainMacro.delLines A ++ (if PlainMix.pureLine L then [] else L.filterMap id))
                ++ PlainMix2.flows 0 segs).map (·.2 + 1) := by
  obtain ⟨r, h1, h2, h3, _⟩ :=
    C03_mix2_e2e T o fs thresh segs fuel st1 repls hdefs hextr hrepl hunkn hinit hok hf
  rw [hsplit, PlainMix.delLines_end A L hA hL] at h2 h3
  exact ⟨r, h1, h2, h3⟩

/-- … when no line of the main flow is pure (`linesKept`, decidable): the output is
    `PlainMix2.plain` followed by the flows — nothing else added or removed -/
theorem C05_mix2_kept (T : PTables) (o : Options) (fs : FS) (thresh : Nat)
    (segs : List PlainMix2.Seg) (fuel : Nat) (st1 : PState) (repls : List Str)
    (hdefs : o.defs = []) (hextr : o.extr = []) (hrepl : o.hasRepl = false) (hunkn : o.unkn = false)
    (hinit : initParser T fuel o (initialState T o false fs) = .ok ((), st1))
    (hok : PlainMix2.SegsOk T st1 repls segs) (hf : (PlainMix2.render segs).length + 4 ≤ fuel)
    (hk : PlainMacro.linesKept true false (PlainMix2.marks T st1 repls 0 0 segs) = true) :
    ∃ r, tex2txt T fuel (PlainMix2.render segs) o false thresh fs = .ok r ∧
      r.txt = (PlainMix2.plain T st1 repls 0 0 segs ++ PlainMix2.flows 0 segs).map (·.1) ∧
      r.pos = (PlainMix2.plain T st1 repls 0 0 segs ++ PlainMix2.flows 0 segs).map (·.2 + 1) := by
  obtain ⟨r, h1, h2, h3, _⟩ :=
    C03_mix2_e2e T o fs thresh segs fuel st1 repls hdefs hextr hrepl hunkn hinit hok hf
  rw [PlainMacro.delLines_kept _ hk, PlainMix2.marks_chars] at h2 h3
  exact ⟨r, h1, h2, h3⟩

/-- the end-to-end theorem for the CURRENT code (tables translated from /repo, default options,
    parser initialisation evaluated by the kernel) -/
theorem C03_mix2_e2e_current (segs : List PlainMix2.Seg) (repls : List Str) (thresh : Nat)
    (hok : PlainMix2.SegsOk Generated.theTables Generated.stDefault repls segs)
    (hf : (PlainMix2.render segs).length + 4 ≤ Generated.bigFuel) :
    ∃ r, tex2txt Generated.theTables Generated.bigFuel (PlainMix2.render segs) Generated.defaultOptions
          false thresh [] = .ok r ∧
      r.txt = (PlainMacro.delLines (PlainMix2.marks Generated.theTables Generated.stDefault repls 0 0 segs)
                ++ PlainMix2.flows 0 segs).map (·.1) ∧
      r.pos = (PlainMacro.delLines (PlainMix2.marks Generated.theTables Generated.stDefault repls 0 0 segs)
                ++ PlainMix2.flows 0 segs).map (·.2 + 1) ∧
      r.unknowns = (PlainMix2.cwNames segs).eraseDups ∧ r.diags = Generated.stDefault.diags :=
  C03_mix2_e2e Generated.theTables Generated.defaultOptions [] thresh segs Generated.bigFuel
    Generated.stDefault repls rfl rfl rfl rfl Generated.initParser_default hok hf

/-- the inline placeholder collection of the current /repo for English -/
def C03_mix2_repls : List Str :=
  ["B-B-B", "C-C-C", "D-D-D", "E-E-E", "F-F-F", "G-G-G"].map String.toList

/-- a document that uses every kind of segment.  Source:

        \section{Intro}
        Alpha--beta \textbf{bold \emph{and $x$ nested}} gamma\label{sec:a} see \ref{sec:a} and \cite{knuth84}, \cite[p. 3]{lamport}.\footnote{A note.} 100\% sure. % hidden
          Next {\foo a~b}
        \bar % again
        \verb|x_$%| end.
        % last
-/
def C03_mix2_doc : List PlainMix2.Seg :=
  [.head "section".toList "Intro".toList, .txt "\nAlpha".toList, .spc "--".toList, .txt "beta ".toList]
  ++ PlainMix2.mac "textbf".toList
      [[.txt "bold ".toList] ++ PlainMix2.mac "emph".toList
        [[.txt "and ".toList, .math "x".toList, .txt " nested".toList]]]
  ++ [.txt " gamma".toList, .van "label".toList "sec:a".toList, .txt " see ".toList,
      .ref "ref".toList "sec:a".toList, .txt " and ".toList, .cite "cite".toList "knuth84".toList,
      .txt ", ".toList, .citeN "cite".toList "p. 3".toList "lamport".toList, .txt ".".toList,
      .foot "A note.".toList, .txt " 100".toList, .spc "\\%".toList, .txt " sure. ".toList,
      .com " hidden\n  ".toList, .txt "Next ".toList]
  ++ PlainMix2.grp [.cw "foo".toList " ".toList, .txt "a".toList, .spc "~".toList, .txt "b".toList]
  ++ [.txt "\n".toList, .cw "bar".toList " ".toList, .com " again\n".toList,
      .verb '|' "x_$%".toList, .txt " end.\n".toList, .com " last".toList]

/-- the side conditions hold for it on the real tables -/
theorem C03_mix2_example_current :
    PlainMix2.SegsOk Generated.theTables Generated.stDefault C03_mix2_repls C03_mix2_doc := by
  rw [Generated.stDefault_eq]; unfold C03_mix2_repls C03_mix2_doc; (repeat rw [String.toList_ofList]); decide +kernel

/-- … and this is what the theorem says about it: the reference output, text and positions.  (The
    heading gets its full stop; the braces and the control words `\textbf`, `\emph`, `\foo` leave
    nothing, the arguments stay in the flow at their own positions; `\ref` gives `0`, the citations
    `[0]` and `[0, p. 3]`; `~` gives U+00A0; the line `\bar % again` is pure and disappears; the footnote body comes
    last, behind three line breaks.) -/
theorem C03_mix2_example_ref :
    (PlainMacro.delLines (PlainMix2.marks Generated.theTables Generated.stDefault C03_mix2_repls 0 0
        C03_mix2_doc) ++ PlainMix2.flows 0 C03_mix2_doc).map (·.1)
      = "Intro.\nAlpha–beta bold and C-C-C nested gamma see 0 and [0], [0, p. 3]. 100% sure. Next a\u00a0b\nx_$% end.\n\n\n\nA note.\n".toList ∧
    (PlainMacro.delLines (PlainMix2.marks Generated.theTables Generated.stDefault C03_mix2_repls 0 0
        C03_mix2_doc) ++ PlainMix2.flows 0 C03_mix2_doc).map (·.2 + 1)
      = [10, 11, 12, 13, 14, 14, 16, 17, 18, 19, 20, 21, 22, 24, 25, 26, 27, 28, 37, 38, 39, 40, 41,
         48, 49, 50, 51, 53, 53, 53, 53, 53, 55, 56, 57, 58, 59, 60, 61, 64, 65, 66, 67, 68, 69, 83,
         84, 85, 86, 87, 88, 99, 100, 101, 102, 103, 104, 104, 104, 118, 119, 120, 120, 120, 120,
         126, 127, 128, 129, 129, 140, 159, 160, 161, 162, 163, 165, 166, 167, 168, 169, 170, 171,
         183, 184, 185, 186, 187, 194, 195, 196, 198, 218, 219, 220, 221, 223, 224, 225, 226, 227,
         228, 151, 151, 151, 151, 152, 153, 154, 155, 156, 157, 157] ∧
    (PlainMix2.cwNames C03_mix2_doc).eraseDups
      = ["\\textbf".toList, "\\emph".toList, "\\foo".toList, "\\bar".toList] := by
  rw [Generated.stDefault_eq, String.toList_ofList]; decide +kernel

/-- … which is what the model computes (by the theorem and the two evaluations above): text,
    positions, unknowns -/
theorem C03_mix2_example_eval :
    (match tex2txt Generated.theTables Generated.bigFuel (PlainMix2.render C03_mix2_doc)
        Generated.defaultOptions false 0 [] with
     | .ok r =>
       r.txt == "Intro.\nAlpha–beta bold and C-C-C nested gamma see 0 and [0], [0, p. 3]. 100% sure. Next a\u00a0b\nx_$% end.\n\n\n\nA note.\n".toList &&
       r.pos == [10, 11, 12, 13, 14, 14, 16, 17, 18, 19, 20, 21, 22, 24, 25, 26, 27, 28, 37, 38, 39,
         40, 41, 48, 49, 50, 51, 53, 53, 53, 53, 53, 55, 56, 57, 58, 59, 60, 61, 64, 65, 66, 67, 68,
         69, 83, 84, 85, 86, 87, 88, 99, 100, 101, 102, 103, 104, 104, 104, 118, 119, 120, 120, 120,
         120, 126, 127, 128, 129, 129, 140, 159, 160, 161, 162, 163, 165, 166, 167, 168, 169, 170,
         171, 183, 184, 185, 186, 187, 194, 195, 196, 198, 218, 219, 220, 221, 223, 224, 225, 226,
         227, 228, 151, 151, 151, 151, 152, 153, 154, 155, 156, 157, 157] &&
       r.unknowns == ["\\textbf".toList, "\\emph".toList, "\\foo".toList, "\\bar".toList]
     | _ => false) = true := by
  obtain ⟨r, h1, h2, h3, h4, _⟩ := C03_mix2_e2e_current C03_mix2_doc C03_mix2_repls 0
    C03_mix2_example_current (by decide +kernel)
  rw [h1]
  simp only [h2, h3, h4, C03_mix2_example_ref, beq_self_eq_true, Bool.and_self]

end Yalafi
