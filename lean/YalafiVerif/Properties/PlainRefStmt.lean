/-
  Properties/PlainRefStmt.lean — C04 "generated text maps into the construct that produced it" and
  C03 "keys never leak", end to end on the filter model, for documents of inert text, references
  `\ref{key}` / `\pageref{key}` and citations `\cite{key}` / `\cite[note]{key}` (first part), and
  for documents of inert text, definitions `\newtheorem{name}{title}` and theorem-like environments
  `\begin{name}` / `\begin{name}[note]` … `\end{name}` (second part).
  Proofs, side conditions and what is not covered: Proofs/PlainRef.lean (with PlainRefBase.lean),
  Proofs/PlainThm.lean (with PlainThmBase.lean).
-/
import YalafiVerif.Proofs.PlainRef
import YalafiVerif.Proofs.PlainThm
import YalafiVerif.Generated.Init
namespace Yalafi

/-- **references and citations are replaced by placeholders that map to the backslash of the
    call**, end to end on the filter model.  For every document `render segs` of inert text,
    references `\name{key}` (`\name` declared like `\ref`: one mandatory argument, a replacement of
    visible text tokens) and citations `\name{key}` / `\name[note]{key}` (`\name` declared like
    `\cite`: arguments `OA`, handler `h_cite`) — `PlainRef.SegsOk`: all side conditions, computable —,
    `st1` the state after `Parser.__init__`, no `--defs --extr --repl --unkn`, single-language mode,
    fuel = source length + 2: `tex2txt` succeeds; the output text with its (1-based) positions is
    `PlainRef.refOut st1 0 segs`:
    * every text character is copied with its own position;
    * `\ref{key}` becomes the placeholder of the declaration (`PlainRef.phOf st1`; current tables:
      `0`), every character of it at the position of the backslash;
    * `\cite{key}` becomes `[0]`, every character at the position of the backslash;
    * `\cite[note]{key}` becomes `[0, note]`: `[0, ` at the position of the backslash, the note
      at its own positions, the closing `]` at the start of the last token of the note;
    * nothing of a key appears; no line is deleted; no unknowns,
      no diagnostic beyond those of the initialisation. -/
theorem C04_ref_cite_e2e (T : PTables) (o : Options) (fs : FS) (thresh : Nat)
    (segs : List PlainRef.Seg) (fuel : Nat) (st1 : PState)
    (hdefs : o.defs = []) (hextr : o.extr = []) (hrepl : o.hasRepl = false) (hunkn : o.unkn = false)
    (hinit : initParser T fuel o (initialState T o false fs) = .ok ((), st1))
    (hok : PlainRef.SegsOk T st1 segs) (hf : (PlainRef.render segs).length + 2 ≤ fuel) :
    ∃ r, tex2txt T fuel (PlainRef.render segs) o false thresh fs = .ok r ∧
      r.txt = (PlainRef.refOut st1 0 segs).map (·.1) ∧
      r.pos = (PlainRef.refOut st1 0 segs).map (·.2 + 1) ∧
      r.unknowns = [] ∧ r.diags = st1.diags := by
  obtain ⟨r, h1, h2, h3, h4, h5, _⟩ :=
    PlainRef.tex2txt_ref_cite T o fs thresh segs fuel st1 hdefs hextr hrepl hunkn hinit hok hf
  exact ⟨r, h1, h2, h3, h4, h5⟩

/-- **every output position that is not the own position of a copied text character lies in the
    source span of a call** — from its backslash through the closing brace of its key
    (`PlainRef.spans 0 segs`: 0-based start and length; output positions are 1-based;
    `PlainRef.textChars 0 segs`: the characters of the text segments with their 0-based positions).
    The `k`-th output character with its position is a text character at its own position, or the
    position lies in the span of a call. -/
theorem C04_ref_span (T : PTables) (o : Options) (fs : FS) (thresh : Nat)
    (segs : List PlainRef.Seg) (fuel : Nat) (st1 : PState)
    (hdefs : o.defs = []) (hextr : o.extr = []) (hrepl : o.hasRepl = false) (hunkn : o.unkn = false)
    (hinit : initParser T fuel o (initialState T o false fs) = .ok ((), st1))
    (hok : PlainRef.SegsOk T st1 segs) (hf : (PlainRef.render segs).length + 2 ≤ fuel) :
    ∃ r, tex2txt T fuel (PlainRef.render segs) o false thresh fs = .ok r ∧
      ∀ cq ∈ r.txt.zip r.pos,
        (∃ cp ∈ PlainRef.textChars 0 segs, cq = (cp.1, cp.2 + 1)) ∨
        ∃ sp ∈ PlainRef.spans 0 segs, sp.1 < cq.2 ∧ cq.2 ≤ sp.1 + sp.2 := by
  obtain ⟨r, h1, h2, h3, _⟩ := C04_ref_cite_e2e T o fs thresh segs fuel st1 hdefs hextr hrepl hunkn hinit hok hf
  refine ⟨r, h1, ?_⟩
  intro cq hcq
  rw [h2, h3, List.zip_map'] at hcq
  obtain ⟨cp, hcp, rfl⟩ := List.mem_map.mp hcq
  rcases PlainRef.refOut_span st1 hcp with h | ⟨sp, hsp, h⟩
  · exact Or.inl ⟨cp, h, rfl⟩
  · exact Or.inr ⟨sp, hsp, by simp only []; omega, by simp only []; omega⟩

/-- **no key leaks**: no output position lies inside the braces `{key}` of a reference or a
    citation (`PlainRef.keySpans 0 segs`: 0-based start of `{` and length of `{key}`; output
    positions are 1-based).  With `C04_ref_cite_e2e`: the output consists of copied text, notes and
    the placeholders only. -/
theorem C03_ref_no_key (T : PTables) (o : Options) (fs : FS) (thresh : Nat)
    (segs : List PlainRef.Seg) (fuel : Nat) (st1 : PState)
    (hdefs : o.defs = []) (hextr : o.extr = []) (hrepl : o.hasRepl = false) (hunkn : o.unkn = false)
    (hinit : initParser T fuel o (initialState T o false fs) = .ok ((), st1))
    (hok : PlainRef.SegsOk T st1 segs) (hf : (PlainRef.render segs).length + 2 ≤ fuel) :
    ∃ r, tex2txt T fuel (PlainRef.render segs) o false thresh fs = .ok r ∧
      ∀ q ∈ r.pos, ∀ sp ∈ PlainRef.keySpans 0 segs, q ≤ sp.1 ∨ sp.1 + sp.2 < q := by
  obtain ⟨r, h1, _, h3, _⟩ := C04_ref_cite_e2e T o fs thresh segs fuel st1 hdefs hextr hrepl hunkn hinit hok hf
  refine ⟨r, h1, ?_⟩
  intro q hq sp hsp
  rw [h3] at hq
  obtain ⟨cp, hcp, rfl⟩ := List.mem_map.mp hq
  rcases PlainRef.refOut_no_key st1 hcp hsp with h | h
  · left; omega
  · right; omega

/-- the end-to-end theorem for the CURRENT code (tables translated from /repo, default options,
    parser initialisation evaluated by the kernel) -/
theorem C04_ref_cite_e2e_current (segs : List PlainRef.Seg) (thresh : Nat)
    (hok : PlainRef.SegsOk Generated.theTables Generated.stDefault segs)
    (hf : (PlainRef.render segs).length + 2 ≤ Generated.bigFuel) :
    ∃ r, tex2txt Generated.theTables Generated.bigFuel (PlainRef.render segs) Generated.defaultOptions
          false thresh [] = .ok r ∧
      r.txt = (PlainRef.refOut Generated.stDefault 0 segs).map (·.1) ∧
      r.pos = (PlainRef.refOut Generated.stDefault 0 segs).map (·.2 + 1) ∧
      r.unknowns = [] ∧ r.diags = Generated.stDefault.diags :=
  C04_ref_cite_e2e Generated.theTables Generated.defaultOptions [] thresh segs Generated.bigFuel
    Generated.stDefault rfl rfl rfl rfl Generated.initParser_default hok hf

/-- `See \ref{eq:1} and \cite[p. 3]{knuth84}, \cite{a,b}.` and a second line with `\pageref`, a
    key with `_ - :` and digits, a note with a line break — for the tables of the current /repo -/
def C04_ref_doc : List PlainRef.Seg :=
  [.txt "See ".toList, .ref "ref".toList "eq:1".toList, .txt " and ".toList,
   .cite "cite".toList (some "p. 3".toList) "knuth84".toList, .txt ", ".toList,
   .cite "cite".toList none "a,b".toList, .txt ".\n".toList,
   .ref "pageref".toList "sec:a_1-b".toList, .txt "\n".toList,
   .cite "cite".toList (some "see\nthere ".toList) "x".toList]

theorem C04_ref_doc_src : PlainRef.render C04_ref_doc
    = "See \\ref{eq:1} and \\cite[p. 3]{knuth84}, \\cite{a,b}.\n\\pageref{sec:a_1-b}\n\\cite[see\nthere ]{x}".toList := by
  unfold C04_ref_doc; (repeat rw [String.toList_ofList]); decide +kernel

/-- the side conditions hold for it on the real tables -/
theorem C04_ref_example_current :
    PlainRef.SegsOk Generated.theTables Generated.stDefault C04_ref_doc := by
  rw [Generated.stDefault_eq]; unfold C04_ref_doc; (repeat rw [String.toList_ofList]); decide +kernel

/-- the placeholder of `\ref` and `\pageref` in the current tables is `0` -/
theorem C04_ref_placeholder_current :
    PlainRef.phOf Generated.stDefault "ref".toList = "0".toList ∧
    PlainRef.phOf Generated.stDefault "pageref".toList = "0".toList := by
  rw [Generated.stDefault_eq]; decide +kernel

/-- … and this is what the theorem says about it: the reference output, text and 1-based positions -/
theorem C04_ref_example_ref :
    (PlainRef.refOut Generated.stDefault 0 C04_ref_doc).map (·.1)
      = "See 0 and [0, p. 3], [0].\n0\n[0, see\nthere ]".toList ∧
    (PlainRef.refOut Generated.stDefault 0 C04_ref_doc).map (·.2 + 1)
      = [1, 2, 3, 4, 5, 15, 16, 17, 18, 19, 20, 20, 20, 20, 26, 27, 28, 29, 29, 40, 41, 42, 42, 42, 52, 53,
         54, 73, 74, 74, 74, 74, 80, 81, 82, 83, 84, 85, 86, 87, 88, 89, 89] := by
  rw [Generated.stDefault_eq, String.toList_ofList]; decide +kernel

/-- … which is what the model computes (by `C04_ref_cite_e2e_current` and the two evaluations above) -/
theorem C04_ref_example_eval :
    (match tex2txt Generated.theTables Generated.bigFuel (PlainRef.render C04_ref_doc)
        Generated.defaultOptions false 0 [] with
     | .ok r => r.txt == "See 0 and [0, p. 3], [0].\n0\n[0, see\nthere ]".toList &&
        r.pos == [1, 2, 3, 4, 5, 15, 16, 17, 18, 19, 20, 20, 20, 20, 26, 27, 28, 29, 29, 40, 41, 42, 42,
          42, 52, 53, 54, 73, 74, 74, 74, 74, 80, 81, 82, 83, 84, 85, 86, 87, 88, 89, 89] &&
        r.unknowns.isEmpty && r.diags.isEmpty
     | _ => false) = true := by
  obtain ⟨r, h1, h2, h3, h4, h5⟩ := C04_ref_cite_e2e_current C04_ref_doc 0 C04_ref_example_current
    (by decide +kernel)
  rw [h1]
  simp only [h2, h3, h4, h5, C04_ref_example_ref.1, C04_ref_example_ref.2, beq_self_eq_true,
    List.isEmpty_nil, Bool.true_and]
  rw [Generated.stDefault_eq]; rfl

/-! ### theorem-like environments -/

/-- **a theorem-like environment starts with its title, which maps to the position of `\begin`**,
    end to end on the filter model.  For every document `render segs` of inert text, definitions
    `\newtheorem{name}{title}` and environments `\begin{name}` / `\begin{name}[note]` … `\end{name}`
    of names defined before (`PlainThm.SegsOk`: all side conditions, computable), `st1` the state
    after `Parser.__init__`, no `--defs --extr --repl --unkn`, single-language mode, fuel = source
    length + 2: `tex2txt` succeeds; the output text with its (1-based) positions is
    `delLines (PlainThm.marks [] 0 segs)`:
    * every text character is copied with its own position;
    * a definition leaves one Action mark and no text; the white space behind it (at most one
      line break) is skipped; it comes into force behind it (the latest definition of a name counts);
    * `\begin{name}` is replaced by a paragraph break (two line breaks), `Title.` and a line break,
      every character at the position of `\begin`; the white space behind it (at most one line
      break) is skipped;
    * `\begin{name}[note]` is replaced by a paragraph break and `Title (` at the position of
      `\begin`, the note at its own positions, `).` and a line break at the start of the last token
      of the note;
    * `\end{name}` is replaced by a paragraph break at the position of `\end`;
    * then every line is deleted, together with its line break, that consists only of white space
      and at least one definition (`PlainMacro.delLines`);
    * no unknowns, no diagnostic beyond those of the initialisation. -/
theorem C04_theorem_e2e (T : PTables) (o : Options) (fs : FS) (thresh : Nat)
    (segs : List PlainThm.Seg) (fuel : Nat) (st1 : PState)
    (hdefs : o.defs = []) (hextr : o.extr = []) (hrepl : o.hasRepl = false) (hunkn : o.unkn = false)
    (hinit : initParser T fuel o (initialState T o false fs) = .ok ((), st1))
    (hok : PlainThm.SegsOk T st1 segs) (hf : (PlainThm.render segs).length + 2 ≤ fuel) :
    ∃ r, tex2txt T fuel (PlainThm.render segs) o false thresh fs = .ok r ∧
      r.txt = (PlainMacro.delLines (PlainThm.marks [] 0 segs)).map (·.1) ∧
      r.pos = (PlainMacro.delLines (PlainThm.marks [] 0 segs)).map (·.2 + 1) ∧
      r.unknowns = [] ∧ r.diags = st1.diags := by
  obtain ⟨r, h1, h2, h3, h4, h5, _⟩ :=
    PlainThm.tex2txt_theorem T o fs thresh segs fuel st1 hdefs hextr hrepl hunkn hinit hok hf
  exact ⟨r, h1, h2, h3, h4, h5⟩

/-- … when no line consists of white space and definitions only (`linesKept`, decidable): the
    output is `PlainThm.thmOut [] 0 segs`, the explicit reference (nothing but the definitions and
    the skipped white space is removed) -/
theorem C04_theorem_kept (T : PTables) (o : Options) (fs : FS) (thresh : Nat)
    (segs : List PlainThm.Seg) (fuel : Nat) (st1 : PState)
    (hdefs : o.defs = []) (hextr : o.extr = []) (hrepl : o.hasRepl = false) (hunkn : o.unkn = false)
    (hinit : initParser T fuel o (initialState T o false fs) = .ok ((), st1))
    (hok : PlainThm.SegsOk T st1 segs) (hf : (PlainThm.render segs).length + 2 ≤ fuel)
    (hk : PlainMacro.linesKept true false (PlainThm.marks [] 0 segs) = true) :
    ∃ r, tex2txt T fuel (PlainThm.render segs) o false thresh fs = .ok r ∧
      r.txt = (PlainThm.thmOut [] 0 segs).map (·.1) ∧
      r.pos = (PlainThm.thmOut [] 0 segs).map (·.2 + 1) := by
  obtain ⟨r, h1, h2, h3, _⟩ :=
    PlainThm.tex2txt_theorem_kept T o fs thresh segs fuel st1 hdefs hextr hrepl hunkn hinit hok hf hk
  exact ⟨r, h1, h2, h3⟩

/-- **every output position that is not the own position of a copied text character lies in the
    source span of a `\begin{name}` / `\begin{name}[note]` / `\end{name}`** — from its backslash
    through its closing brace resp. the closing `]` of the note (`PlainThm.spans 0 segs`: 0-based
    start and length; output positions are 1-based; `PlainThm.textChars 0 segs`: the characters of
    the text segments with their 0-based positions) -/
theorem C04_theorem_span (T : PTables) (o : Options) (fs : FS) (thresh : Nat)
    (segs : List PlainThm.Seg) (fuel : Nat) (st1 : PState)
    (hdefs : o.defs = []) (hextr : o.extr = []) (hrepl : o.hasRepl = false) (hunkn : o.unkn = false)
    (hinit : initParser T fuel o (initialState T o false fs) = .ok ((), st1))
    (hok : PlainThm.SegsOk T st1 segs) (hf : (PlainThm.render segs).length + 2 ≤ fuel) :
    ∃ r, tex2txt T fuel (PlainThm.render segs) o false thresh fs = .ok r ∧
      ∀ cq ∈ r.txt.zip r.pos,
        (∃ cp ∈ PlainThm.textChars 0 segs, cq = (cp.1, cp.2 + 1)) ∨
        ∃ sp ∈ PlainThm.spans 0 segs, sp.1 < cq.2 ∧ cq.2 ≤ sp.1 + sp.2 := by
  obtain ⟨r, h1, h2, h3, _⟩ := C04_theorem_e2e T o fs thresh segs fuel st1 hdefs hextr hrepl hunkn hinit hok hf
  refine ⟨r, h1, ?_⟩
  intro cq hcq
  rw [h2, h3, List.zip_map'] at hcq
  obtain ⟨cp, hcp, rfl⟩ := List.mem_map.mp hcq
  rcases PlainThm.marks_span (PlainVanish.delLines_mem hcp) with h | ⟨sp, hsp, h⟩
  · exact Or.inl ⟨cp, h, rfl⟩
  · exact Or.inr ⟨sp, hsp, by simp only []; omega, by simp only []; omega⟩

/-- the end-to-end theorem for the CURRENT code (tables translated from /repo, default options,
    parser initialisation evaluated by the kernel) -/
theorem C04_theorem_e2e_current (segs : List PlainThm.Seg) (thresh : Nat)
    (hok : PlainThm.SegsOk Generated.theTables Generated.stDefault segs)
    (hf : (PlainThm.render segs).length + 2 ≤ Generated.bigFuel) :
    ∃ r, tex2txt Generated.theTables Generated.bigFuel (PlainThm.render segs) Generated.defaultOptions
          false thresh [] = .ok r ∧
      r.txt = (PlainMacro.delLines (PlainThm.marks [] 0 segs)).map (·.1) ∧
      r.pos = (PlainMacro.delLines (PlainThm.marks [] 0 segs)).map (·.2 + 1) ∧
      r.unknowns = [] ∧ r.diags = Generated.stDefault.diags :=
  C04_theorem_e2e Generated.theTables Generated.defaultOptions [] thresh segs Generated.bigFuel
    Generated.stDefault rfl rfl rfl rfl Generated.initParser_default hok hf

/-- two definitions in a preamble, a theorem without note on lines of its own, a lemma with a
    note inside a line — for the tables of the current /repo -/
def C04_theorem_doc : List PlainThm.Seg :=
  [.newthm "thm".toList "Theorem".toList "\n".toList,
   .newthm "lem".toList "Lemma".toList [],
   .txt "\n\nIntro.\n".toList,
   .beg "thm".toList "\n".toList, .txt "Every x is y.\n".toList, .en "thm".toList,
   .txt "\nMiddle\n".toList,
   .begN "lem".toList "Zorn, 1935".toList, .txt " A chain. ".toList, .en "lem".toList,
   .txt " End.".toList]

theorem C04_theorem_doc_src : PlainThm.render C04_theorem_doc
    = ("\\newtheorem{thm}{Theorem}\n\\newtheorem{lem}{Lemma}\n\nIntro.\n\\begin{thm}\nEvery x is y.\n" ++
       "\\end{thm}\nMiddle\n\\begin{lem}[Zorn, 1935] A chain. \\end{lem} End.").toList := by
  rw [String.toList_append]; unfold C04_theorem_doc; (repeat rw [String.toList_ofList]); decide +kernel

/-- the side conditions hold for it on the real tables -/
theorem C04_theorem_example_current :
    PlainThm.SegsOk Generated.theTables Generated.stDefault C04_theorem_doc := by
  rw [Generated.stDefault_eq]; unfold C04_theorem_doc; (repeat rw [String.toList_ofList]); decide +kernel

/-- … and this is what the theorem says about it: the reference output, text and 1-based positions
    (the line of the two definitions is deleted with its line break) -/
theorem C04_theorem_example_ref :
    (PlainMacro.delLines (PlainThm.marks [] 0 C04_theorem_doc)).map (·.1)
      = ("\nIntro.\n\n\nTheorem.\nEvery x is y.\n\n\n\nMiddle\n\n\nLemma (Zorn, 1935).\n A chain. \n\n End.").toList ∧
    (PlainMacro.delLines (PlainThm.marks [] 0 C04_theorem_doc)).map (·.2 + 1)
      = [51, 52, 53, 54, 55, 56, 57, 58, 59, 59, 59, 59, 59, 59, 59, 59, 59, 59, 59, 71, 72, 73, 74, 75,
         76, 77, 78, 79, 80, 81, 82, 83, 84, 85, 85, 94, 95, 96, 97, 98, 99, 100, 101, 102, 102, 102, 102,
         102, 102, 102, 102, 102, 114, 115, 116, 117, 118, 119, 120, 121, 122, 123, 123, 123, 123, 125,
         126, 127, 128, 129, 130, 131, 132, 133, 134, 135, 135, 144, 145, 146, 147, 148] := by
  unfold C04_theorem_doc; (repeat rw [String.toList_ofList]); decide +kernel

/-- … which is what the model computes (by `C04_theorem_e2e_current` and the two evaluations above) -/
theorem C04_theorem_example_eval :
    (match tex2txt Generated.theTables Generated.bigFuel (PlainThm.render C04_theorem_doc)
        Generated.defaultOptions false 0 [] with
     | .ok r =>
        r.txt == ("\nIntro.\n\n\nTheorem.\nEvery x is y.\n\n\n\nMiddle\n\n\nLemma (Zorn, 1935).\n A chain. \n\n End.").toList &&
        r.pos == [51, 52, 53, 54, 55, 56, 57, 58, 59, 59, 59, 59, 59, 59, 59, 59, 59, 59, 59, 71, 72, 73,
          74, 75, 76, 77, 78, 79, 80, 81, 82, 83, 84, 85, 85, 94, 95, 96, 97, 98, 99, 100, 101, 102, 102,
          102, 102, 102, 102, 102, 102, 102, 114, 115, 116, 117, 118, 119, 120, 121, 122, 123, 123, 123,
          123, 125, 126, 127, 128, 129, 130, 131, 132, 133, 134, 135, 135, 144, 145, 146, 147, 148] &&
        r.unknowns.isEmpty && r.diags.isEmpty
     | _ => false) = true := by
  obtain ⟨r, h1, h2, h3, h4, h5⟩ := C04_theorem_e2e_current C04_theorem_doc 0 C04_theorem_example_current
    (by decide +kernel)
  rw [h1]
  simp only [h2, h3, h4, h5, C04_theorem_example_ref.1, C04_theorem_example_ref.2, beq_self_eq_true,
    List.isEmpty_nil, Bool.true_and]
  rw [Generated.stDefault_eq]; rfl

end Yalafi
