/-
  Properties/PlainParEnvStmt.lean — C05 "two words separated by `\par` or a paragraph-forming
  environment are separated by a blank line in the output", end to end on the filter model, for
  documents of inert text, `\par` and environments `\begin{name}{arg}` … `\end{name}` declared with
  `add_pars` and one mandatory argument (`minipage`, `thebibliography` in the tables of /repo).
  Proofs, side conditions, what is not covered: Proofs/PlainParEnv.lean (header),
  Proofs/PlainParEnvBase.lean (expander level), Proofs/PlainParEnvRead.lean (paragraph level),
  Proofs/PlainPara.lean (marks).
-/
import YalafiVerif.Proofs.PlainParEnvRead
import YalafiVerif.Generated.Init
namespace Yalafi

/-- **`\par` and paragraph-forming environments, end to end.**  For every document `render segs`
    (`PlainParEnv.SegsOk`: all side conditions, computable), `st1` the state after `Parser.__init__`,
    no `--defs --extr --repl --unkn`, single-language mode, fuel = source length + 2: `tex2txt`
    succeeds; the output text with its (1-based) positions is `delLines (marks 0 segs)`:

    * `marks`: a text character with its own position; `\par ws` = a text-less mark and two line
      breaks at the position of the backslash (`ws`, the white space behind the name, is
      swallowed); `\begin{name}{arg}` = two line breaks at the position of `\begin` and a text-less
      mark; `\end{name}` = two line breaks at the position of `\end`;
    * `delLines`: every line that consists of white space and at least one text-less mark is
      deleted with its line break (`remove_pure_action_lines`); nothing else;
    * no unknowns, no diagnostic beyond those of the initialisation. -/
theorem C05_par_e2e (T : PTables) (o : Options) (fs : FS) (thresh : Nat)
    (segs : List PlainParEnv.Seg) (fuel : Nat) (st1 : PState)
    (hdefs : o.defs = []) (hextr : o.extr = []) (hrepl : o.hasRepl = false) (hunkn : o.unkn = false)
    (hinit : initParser T fuel o (initialState T o false fs) = .ok ((), st1))
    (hok : PlainParEnv.SegsOk T st1 segs) (hf : (PlainParEnv.render segs).length + 2 ≤ fuel) :
    ∃ r, tex2txt T fuel (PlainParEnv.render segs) o false thresh fs = .ok r ∧
      r.txt = (PlainMacro.delLines (PlainParEnv.marks 0 segs)).map (·.1) ∧
      r.pos = (PlainMacro.delLines (PlainParEnv.marks 0 segs)).map (·.2 + 1) ∧
      r.unknowns = [] ∧ r.diags = st1.diags := by
  obtain ⟨r, h1, h2, h3, h4, h5, _⟩ :=
    PlainParEnv.tex2txt_parenv T o fs thresh segs fuel st1 hdefs hextr hrepl hunkn hinit hok hf
  exact ⟨r, h1, h2, h3, h4, h5⟩

open PlainParEnv in
/-- **the paragraph relation.**  The document is `docAB A u a Mid b v B = A ++ .txt (u ++ [a]) ::
    (Mid ++ .txt (b :: v) :: B)` with two visible text characters `a` (0-based source position
    `posA A u`) and `b` (`posB A u Mid`).  `tex2txt` succeeds and its output, characters with
    (1-based) positions, is `U ++ (a, posA + 1) :: (S ++ (b, posB + 1) :: V)` with
    `S = between A u Mid` — the output characters strictly between `a` and `b`.

    * `S` holds a blank line (two line breaks with white space only between them) IFF
      `layout Mid` does (`layout`: text by character classes, `\par ws` = ink and two line breaks,
      `\begin{…}{…}` = two line breaks and ink, `\end{…}` = two line breaks);
    * BREAK: if a `\par`, a `\begin{name}{arg}` or an `\end{name}` stands between `a` and `b`
      (`hasBreak Mid`), `S` holds a blank line;
    * NO INVENTED / NO LOST BREAK: if only text stands between them, `S` holds a blank line iff
      that text does. -/
theorem C05_par_break (T : PTables) (o : Options) (fs : FS) (thresh : Nat)
    (A : List PlainParEnv.Seg) (u : Str) (a : Char) (Mid : List PlainParEnv.Seg) (b : Char) (v : Str)
    (B : List PlainParEnv.Seg) (fuel : Nat) (st1 : PState)
    (hdefs : o.defs = []) (hextr : o.extr = []) (hrepl : o.hasRepl = false) (hunkn : o.unkn = false)
    (hinit : initParser T fuel o (initialState T o false fs) = .ok ((), st1))
    (hok : PlainParEnv.SegsOk T st1 (docAB A u a Mid b v B))
    (hf : (PlainParEnv.render (docAB A u a Mid b v B)).length + 2 ≤ fuel)
    (ha : isSpace a = false) (hb : isSpace b = false) :
    ∃ r, tex2txt T fuel (PlainParEnv.render (docAB A u a Mid b v B)) o false thresh fs = .ok r ∧
      ∃ U V, r.txt = (U ++ (a, posA A u) :: (between A u Mid ++ (b, posB A u Mid) :: V)).map (·.1) ∧
        r.pos = (U ++ (a, posA A u) :: (between A u Mid ++ (b, posB A u Mid) :: V)).map (·.2 + 1) ∧
        U = PlainPara.pre (frontMarks A u) ∧ V = PlainPara.post (backMarks A u Mid v B) ∧
        PlainPara.hasBlank ((between A u Mid).map PlainPara.clsP) = PlainPara.hasBlank (layout Mid) ∧
        (hasBreak Mid = true →
          PlainPara.hasBlank ((between A u Mid).map PlainPara.clsP) = true) ∧
        (hasBreak Mid = false →
          PlainPara.hasBlank ((between A u Mid).map PlainPara.clsP)
            = PlainPara.hasBlankLine (PlainParEnv.textOf Mid)) := by
  obtain ⟨r, h1, h2, h3, _⟩ :=
    PlainParEnv.tex2txt_parenv T o fs thresh _ fuel st1 hdefs hextr hrepl hunkn hinit hok hf
  rw [ref_docAB A u a Mid b v B ha hb] at h2 h3
  exact ⟨r, h1, _, _, h2, h3, rfl, rfl, between_blank A u Mid, between_break A u Mid,
    between_text A u Mid⟩

open PlainParEnv in
/-- **the generated line breaks map inside their construct.**  Every output character, with its
    (1-based) position, is a text character of the document at its own position, or a line break
    whose position is that of the backslash of a `\par`, a `\begin` or an `\end` of the document
    (`starts`; `starts_backslash`: the source has a backslash there). -/
theorem C05_par_origin (T : PTables) (o : Options) (fs : FS) (thresh : Nat)
    (segs : List PlainParEnv.Seg) (fuel : Nat) (st1 : PState)
    (hdefs : o.defs = []) (hextr : o.extr = []) (hrepl : o.hasRepl = false) (hunkn : o.unkn = false)
    (hinit : initParser T fuel o (initialState T o false fs) = .ok ((), st1))
    (hok : PlainParEnv.SegsOk T st1 segs) (hf : (PlainParEnv.render segs).length + 2 ≤ fuel) :
    ∃ r, tex2txt T fuel (PlainParEnv.render segs) o false thresh fs = .ok r ∧
      ∀ cq ∈ r.txt.zip r.pos,
        (∃ q, cq = (cq.1, q + 1) ∧ (cq.1, q) ∈ textChars 0 segs) ∨
        (cq.1 = nl ∧ ∃ q ∈ starts 0 segs, cq.2 = q + 1 ∧ (PlainParEnv.render segs)[q]? = some '\\') := by
  obtain ⟨r, h1, h2, h3, _⟩ :=
    PlainParEnv.tex2txt_parenv T o fs thresh segs fuel st1 hdefs hextr hrepl hunkn hinit hok hf
  refine ⟨r, h1, ?_⟩
  intro cq hcq
  rw [h2, h3, List.zip_map'] at hcq
  obtain ⟨cp, hcp, rfl⟩ := List.mem_map.mp hcq
  rcases out_origin segs cp hcp with h | ⟨hn, hs⟩
  · exact Or.inl ⟨cp.2, rfl, h⟩
  · refine Or.inr ⟨hn, cp.2, hs, rfl, ?_⟩
    have := (starts_backslash segs 0 cp.2 hs).2
    simpa using this

/-! ### the current code -/

/-- the end-to-end theorem for the CURRENT code (tables translated from /repo, default options,
    parser initialisation evaluated by the kernel) -/
theorem C05_par_e2e_current (segs : List PlainParEnv.Seg) (thresh : Nat)
    (hok : PlainParEnv.SegsOk Generated.theTables Generated.stDefault segs)
    (hf : (PlainParEnv.render segs).length + 2 ≤ Generated.bigFuel) :
    ∃ r, tex2txt Generated.theTables Generated.bigFuel (PlainParEnv.render segs) Generated.defaultOptions
          false thresh [] = .ok r ∧
      r.txt = (PlainMacro.delLines (PlainParEnv.marks 0 segs)).map (·.1) ∧
      r.pos = (PlainMacro.delLines (PlainParEnv.marks 0 segs)).map (·.2 + 1) ∧
      r.unknowns = [] ∧ r.diags = Generated.stDefault.diags :=
  C05_par_e2e Generated.theTables Generated.defaultOptions [] thresh segs Generated.bigFuel
    Generated.stDefault rfl rfl rfl rfl Generated.initParser_default hok hf

open PlainParEnv in
/-- the paragraph relation for the CURRENT code: a `\par` or an environment boundary between two
    words gives a blank line between them -/
theorem C05_par_break_current (A : List PlainParEnv.Seg) (u : Str) (a : Char)
    (Mid : List PlainParEnv.Seg) (b : Char) (v : Str) (B : List PlainParEnv.Seg) (thresh : Nat)
    (hok : PlainParEnv.SegsOk Generated.theTables Generated.stDefault (docAB A u a Mid b v B))
    (hf : (PlainParEnv.render (docAB A u a Mid b v B)).length + 2 ≤ Generated.bigFuel)
    (ha : isSpace a = false) (hb : isSpace b = false) (hbr : hasBreak Mid = true) :
    ∃ r U V, tex2txt Generated.theTables Generated.bigFuel (PlainParEnv.render (docAB A u a Mid b v B))
        Generated.defaultOptions false thresh [] = .ok r ∧
      r.txt = (U ++ (a, posA A u) :: (between A u Mid ++ (b, posB A u Mid) :: V)).map (·.1) ∧
      r.pos = (U ++ (a, posA A u) :: (between A u Mid ++ (b, posB A u Mid) :: V)).map (·.2 + 1) ∧
      PlainPara.hasBlank ((between A u Mid).map PlainPara.clsP) = true := by
  obtain ⟨r, h1, U, V, h2, h3, _, _, _, h4, _⟩ :=
    C05_par_break Generated.theTables Generated.defaultOptions [] thresh A u a Mid b v B
      Generated.bigFuel Generated.stDefault rfl rfl rfl rfl Generated.initParser_default hok hf ha hb
  exact ⟨r, U, V, h1, h2, h3, h4 hbr⟩

/-- The example document

        One.

        Three \par four
        \begin{minipage}{5cm}
        five
        \end{minipage}
        six.
-/
def C05_par_doc : List PlainParEnv.Seg :=
  [.txt "One.\n\nThree ".toList, .par " ".toList, .txt "four\n".toList,
   .beg "minipage".toList "5cm".toList, .txt "\nfive\n".toList, .en "minipage".toList,
   .txt "\nsix.".toList]

/-- the side conditions hold for it on the real tables -/
theorem C05_par_example_current :
    PlainParEnv.SegsOk Generated.theTables Generated.stDefault C05_par_doc ∧
    PlainParEnv.render C05_par_doc
      = "One.\n\nThree \\par four\n\\begin{minipage}{5cm}\nfive\n\\end{minipage}\nsix.".toList := by
  rw [Generated.stDefault_eq]; unfold C05_par_doc; (repeat rw [String.toList_ofList]); decide +kernel

open PlainParEnv in
/-- … and this is what the theorems say about it: the reference output (text, positions: the
    paragraph break of `\par` sits at the backslash, source offset 12, the blank behind `\par` is
    swallowed; the line `\begin{minipage}{5cm}` leaves its two line breaks — the text-less mark of
    the argument and the line break behind `}` form a pure line, which is deleted; `\end{minipage}`
    leaves two line breaks and the line break behind it), the output between `Three` / `four`,
    `four` / `five`, `five` / `six` (each with a blank line), the positions of the constructs. -/
theorem C05_par_example_ref :
    (PlainMacro.delLines (marks 0 C05_par_doc)).map (·.1)
      = "One.\n\nThree \n\nfour\n\n\nfive\n\n\n\nsix.".toList ∧
    (PlainMacro.delLines (marks 0 C05_par_doc)).map (·.2 + 1)
      = [1, 2, 3, 4, 5, 6, 7, 8, 9, 10, 11, 12, 13, 13, 18, 19, 20, 21, 22, 23, 23, 45, 46, 47, 48,
         49, 50, 50, 64, 65, 66, 67, 68] ∧
    between [.txt "One.\n\n".toList] "Thre".toList [.txt " ".toList, .par " ".toList]
      = [(' ', 11), ('\n', 12), ('\n', 12)] ∧
    between [.txt "One.\n\nThree ".toList, .par " ".toList] "fou".toList
        [.txt "\n".toList, .beg "minipage".toList "5cm".toList, .txt "\n".toList]
      = [('\n', 21), ('\n', 22), ('\n', 22)] ∧
    between [.txt "One.\n\nThree ".toList, .par " ".toList, .txt "four\n".toList,
          .beg "minipage".toList "5cm".toList] "\nfiv".toList
        [.txt "\n".toList, .en "minipage".toList, .txt "\n".toList]
      = [('\n', 48), ('\n', 49), ('\n', 49), ('\n', 63)] ∧
    starts 0 C05_par_doc = [12, 22, 49] := by
  rw [String.toList_ofList]; decide +kernel

/-- … which is what the model computes (by the theorem and the two evaluations above) -/
theorem C05_par_example_eval :
    (match tex2txt Generated.theTables Generated.bigFuel (PlainParEnv.render C05_par_doc)
        Generated.defaultOptions false 0 [] with
     | .ok r =>
       r.txt == "One.\n\nThree \n\nfour\n\n\nfive\n\n\n\nsix.".toList &&
       r.pos == [1, 2, 3, 4, 5, 6, 7, 8, 9, 10, 11, 12, 13, 13, 18, 19, 20, 21, 22, 23, 23, 45, 46,
         47, 48, 49, 50, 50, 64, 65, 66, 67, 68] &&
       r.unknowns == []
     | _ => false) = true := by
  obtain ⟨r, h1, h2, h3, h4, _⟩ := C05_par_e2e_current C05_par_doc 0 C05_par_example_current.1
    (by decide +kernel)
  rw [h1]
  simp only [h2, h3, h4, C05_par_example_ref, beq_self_eq_true, Bool.and_self]

/-- MODEL BEHAVIOUR WORTH KNOWING (kernel evaluation on the real tables): `quote` — like `center`,
    `abstract`, `flushleft` … — is NOT declared in the tables, so `\begin{quote}` / `\end{quote}` are
    unknown environments: each leaves one text-less mark and NO paragraph break.  In

        One\label{a}
        \index{b}
        two.

        Three \par four
        \begin{quote}
        five
        \end{quote}
        six.

    the words `four`, `five`, `six` end up in ONE output paragraph (`four⏎five⏎six.`), although LaTeX
    sets the quotation as a paragraph of its own; `quote` is reported as unknown.  (`One` / `two`:
    same paragraph, the index line is gone; `two.` / `Three`: blank line kept; `Three` / `four`:
    blank line from `\par`.) -/
theorem C05_par_quote_eval :
    (match tex2txt Generated.theTables Generated.bigFuel
        "One\\label{a}\n\\index{b}\ntwo.\n\nThree \\par four\n\\begin{quote}\nfive\n\\end{quote}\nsix.".toList
        Generated.defaultOptions false 0 [] with
     | .ok r =>
       r.txt == "One\ntwo.\n\nThree \n\nfour\nfive\nsix.".toList &&
       r.pos == [1, 2, 3, 13, 24, 25, 26, 27, 28, 29, 30, 31, 32, 33, 34, 35, 36, 36, 41, 42, 43, 44,
         45, 60, 61, 62, 63, 64, 77, 78, 79, 80] &&
       r.unknowns == ["quote".toList]
     | _ => false) = true := by
  rw [Generated.tex2txt_default]; decide +kernel

end Yalafi
