/-
  Properties/PlainVanishStmt.lean — C05 "text flow is preserved" and C03 "labels and keys never
  leak", end to end on the filter model, for documents of inert text and calls `\name{key}` of
  vanishing macros (`\label`, `\index`, `\pagestyle`, `\bibliographystyle`, … : one mandatory
  argument, no handler, no extraction, the replacement is nothing but void tokens).
  Proofs, side conditions and what is not covered: Proofs/PlainVanish.lean.
-/
import YalafiVerif.Proofs.PlainVanish
import YalafiVerif.Generated.Init
namespace Yalafi

/-- **vanishing macros leave nothing and keep the text flow**, end to end on the filter model.
    For every document `render segs` of inert text and calls `\name{key}` of vanishing macros
    (`PlainVanish.SegsOk`: all side conditions, computable), `st1` the state after
    `Parser.__init__`, no `--defs --extr --repl --unkn`, single-language mode, fuel = source
    length + 2: `tex2txt` succeeds; the output text with its (1-based) positions is the source with
    every call deleted (`marks`: a call leaves one mark and no character), every remaining
    character at its own source position, and with every line deleted, together with its line
    break, that consists only of white space and at least one call (`PlainMacro.delLines`); every
    other line break and every blank line without a call survives.  No unknowns,
    no diagnostic beyond those of the initialisation. -/
theorem C05_vanish_e2e (T : PTables) (o : Options) (fs : FS) (thresh : Nat)
    (segs : List PlainVanish.Seg) (fuel : Nat) (st1 : PState)
    (hdefs : o.defs = []) (hextr : o.extr = []) (hrepl : o.hasRepl = false) (hunkn : o.unkn = false)
    (hinit : initParser T fuel o (initialState T o false fs) = .ok ((), st1))
    (hok : PlainVanish.SegsOk T st1 segs) (hf : (PlainVanish.render segs).length + 2 ≤ fuel) :
    ∃ r, tex2txt T fuel (PlainVanish.render segs) o false thresh fs = .ok r ∧
      r.txt = (PlainMacro.delLines (PlainVanish.marks 0 segs)).map (·.1) ∧
      r.pos = (PlainMacro.delLines (PlainVanish.marks 0 segs)).map (·.2 + 1) ∧
      r.unknowns = [] ∧ r.diags = st1.diags := by
  obtain ⟨r, h1, h2, h3, h4, h5, _⟩ :=
    PlainVanish.tex2txt_vanish T o fs thresh segs fuel st1 hdefs hextr hrepl hunkn hinit hok hf
  exact ⟨r, h1, h2, h3, h4, h5⟩

/-- … when no line consists of white space and calls only (`linesKept`, decidable): the output is
    the source with the calls cut out (`PlainVanish.plain`), nothing else is added or removed -/
theorem C05_vanish_kept (T : PTables) (o : Options) (fs : FS) (thresh : Nat)
    (segs : List PlainVanish.Seg) (fuel : Nat) (st1 : PState)
    (hdefs : o.defs = []) (hextr : o.extr = []) (hrepl : o.hasRepl = false) (hunkn : o.unkn = false)
    (hinit : initParser T fuel o (initialState T o false fs) = .ok ((), st1))
    (hok : PlainVanish.SegsOk T st1 segs) (hf : (PlainVanish.render segs).length + 2 ≤ fuel)
    (hk : PlainMacro.linesKept true false (PlainVanish.marks 0 segs) = true) :
    ∃ r, tex2txt T fuel (PlainVanish.render segs) o false thresh fs = .ok r ∧
      r.txt = (PlainVanish.plain 0 segs).map (·.1) ∧
      r.pos = (PlainVanish.plain 0 segs).map (·.2 + 1) := by
  obtain ⟨r, h1, h2, h3, _⟩ := C05_vanish_e2e T o fs thresh segs fuel st1 hdefs hextr hrepl hunkn hinit hok hf
  rw [PlainMacro.delLines_kept _ hk, PlainVanish.marks_chars] at h2 h3
  exact ⟨r, h1, h2, h3⟩

/-- **a call on a line with visible text in front is cut out; no line break is added or removed.**
    Document `a c \name{key} b` (`c` a visible character, `a`, `b` any inert text — `b` may start
    with a blank or a line break): the output text is `a c b`; `a c` keeps the positions
    `1 … |a|+1`, `b` the positions behind the closing brace. -/
theorem C05_vanish_same_line (T : PTables) (o : Options) (fs : FS) (thresh : Nat)
    (a b : Str) (c : Char) (n k : Str) (fuel : Nat) (st1 : PState)
    (hdefs : o.defs = []) (hextr : o.extr = []) (hrepl : o.hasRepl = false) (hunkn : o.unkn = false)
    (hinit : initParser T fuel o (initialState T o false fs) = .ok ((), st1))
    (hc : isSpace c = false)
    (hok : PlainVanish.SegsOk T st1 [.txt (a ++ [c]), .van n k, .txt b])
    (hf : (PlainVanish.render [.txt (a ++ [c]), .van n k, .txt b]).length + 2 ≤ fuel) :
    ∃ r, tex2txt T fuel (a ++ [c] ++ '\\' :: (n ++ '{' :: (k ++ ['}'])) ++ b) o false thresh fs = .ok r ∧
      r.txt = a ++ [c] ++ b ∧
      r.pos = List.range' 1 (a.length + 1)
                ++ List.range' (a.length + 1 + PlainVanish.vanLen n k + 1) b.length := by
  obtain ⟨r, h1, h2, h3, _⟩ := C05_vanish_e2e T o fs thresh _ fuel st1 hdefs hextr hrepl hunkn hinit hok hf
  rw [PlainVanish.marks_same_line a b c n k hc] at h2 h3
  refine ⟨r, ?_, ?_, ?_⟩
  · simpa [PlainVanish.render, PlainVanish.Seg.render] using h1
  · rw [h2, List.map_append, posText_fst, posText_fst]
  · rw [h3, List.map_append, PlainVanish.posText_pos1, PlainVanish.posText_pos1]
    simp

/-- **a call alone on its line does not invent a paragraph break.**  Document
    `a ⏎ \name{key} ⏎ b` (the call stands alone on a line between two text lines): the output
    text is `a ⏎ b` — the call disappears together with ONE line break, no blank line appears;
    `a ⏎` keeps the positions `1 … |a|+1`, `b` the positions behind the second line break. -/
theorem C05_vanish_no_par (T : PTables) (o : Options) (fs : FS) (thresh : Nat)
    (a b n k : Str) (fuel : Nat) (st1 : PState)
    (hdefs : o.defs = []) (hextr : o.extr = []) (hrepl : o.hasRepl = false) (hunkn : o.unkn = false)
    (hinit : initParser T fuel o (initialState T o false fs) = .ok ((), st1))
    (hok : PlainVanish.SegsOk T st1 [.txt (a ++ [nl]), .van n k, .txt (nl :: b)])
    (hf : (PlainVanish.render [.txt (a ++ [nl]), .van n k, .txt (nl :: b)]).length + 2 ≤ fuel) :
    ∃ r, tex2txt T fuel (a ++ [nl] ++ '\\' :: (n ++ '{' :: (k ++ ['}'])) ++ nl :: b) o false thresh fs = .ok r ∧
      r.txt = a ++ [nl] ++ b ∧
      r.pos = List.range' 1 (a.length + 1)
                ++ List.range' (a.length + 1 + PlainVanish.vanLen n k + 1 + 1) b.length := by
  obtain ⟨r, h1, h2, h3, _⟩ := C05_vanish_e2e T o fs thresh _ fuel st1 hdefs hextr hrepl hunkn hinit hok hf
  rw [PlainVanish.marks_own_line a b n k] at h2 h3
  refine ⟨r, ?_, ?_, ?_⟩
  · simpa [PlainVanish.render, PlainVanish.Seg.render] using h1
  · rw [h2, List.map_append, posText_fst, posText_fst]
  · rw [h3, List.map_append, PlainVanish.posText_pos1, PlainVanish.posText_pos1]
    simp

/-- **no label, no key leaks**: no output position lies inside a call `\name{key}` —
    `PlainVanish.spans 0 segs` lists the calls as (0-based start, length); output positions are
    1-based.  (With `C05_vanish_e2e`: every output character is the source character at its
    position, so no character of a name or a key appears in the output.) -/
theorem C03_vanish_no_key (T : PTables) (o : Options) (fs : FS) (thresh : Nat)
    (segs : List PlainVanish.Seg) (fuel : Nat) (st1 : PState)
    (hdefs : o.defs = []) (hextr : o.extr = []) (hrepl : o.hasRepl = false) (hunkn : o.unkn = false)
    (hinit : initParser T fuel o (initialState T o false fs) = .ok ((), st1))
    (hok : PlainVanish.SegsOk T st1 segs) (hf : (PlainVanish.render segs).length + 2 ≤ fuel) :
    ∃ r, tex2txt T fuel (PlainVanish.render segs) o false thresh fs = .ok r ∧
      ∀ q ∈ r.pos, ∀ sp ∈ PlainVanish.spans 0 segs, q ≤ sp.1 ∨ sp.1 + sp.2 < q := by
  obtain ⟨r, h1, _, h3, _⟩ := C05_vanish_e2e T o fs thresh segs fuel st1 hdefs hextr hrepl hunkn hinit hok hf
  refine ⟨r, h1, ?_⟩
  intro q hq sp hsp
  rw [h3] at hq
  obtain ⟨cp, hcp, rfl⟩ := List.mem_map.mp hq
  rcases PlainVanish.marks_pos_outside (PlainVanish.delLines_mem hcp) hsp with h | h
  · left; omega
  · right; omega

/-- the end-to-end theorem for the CURRENT code (tables translated from /repo, default options,
    parser initialisation evaluated by the kernel) -/
theorem C05_vanish_e2e_current (segs : List PlainVanish.Seg) (thresh : Nat)
    (hok : PlainVanish.SegsOk Generated.theTables Generated.stDefault segs)
    (hf : (PlainVanish.render segs).length + 2 ≤ Generated.bigFuel) :
    ∃ r, tex2txt Generated.theTables Generated.bigFuel (PlainVanish.render segs) Generated.defaultOptions
          false thresh [] = .ok r ∧
      r.txt = (PlainMacro.delLines (PlainVanish.marks 0 segs)).map (·.1) ∧
      r.pos = (PlainMacro.delLines (PlainVanish.marks 0 segs)).map (·.2 + 1) ∧
      r.unknowns = [] ∧ r.diags = Generated.stDefault.diags :=
  C05_vanish_e2e Generated.theTables Generated.defaultOptions [] thresh segs Generated.bigFuel
    Generated.stDefault rfl rfl rfl rfl Generated.initParser_default hok hf

/-- a document with `\label`, `\index`, `\pagestyle` and `\bibliographystyle` — calls inside a
    text line, alone on a line, two on one line with blanks, an empty key, keys with blanks and
    with `_ ^ ~ & $ --` — for the tables of the current /repo -/
def C05_vanish_doc : List PlainVanish.Seg :=
  [.txt "Alpha".toList, .van "label".toList "sec:a_1".toList, .txt " beta\n".toList,
   .van "index".toList "key!sub entry".toList, .txt "\nGamma\n\n  ".toList,
   .van "pagestyle".toList "".toList, .txt " ".toList, .van "label".toList "x--y~z^&$".toList,
   .txt "\nDelta.\n".toList, .van "bibliographystyle".toList "plain".toList]

/-- the side conditions hold for it on the real tables -/
theorem C05_vanish_example_current :
    PlainVanish.SegsOk Generated.theTables Generated.stDefault C05_vanish_doc := by
  rw [Generated.stDefault_eq]
  unfold C05_vanish_doc; (repeat rw [String.toList_ofList]); decide +kernel

/-- … and this is what the theorem says about it: the reference output -/
theorem C05_vanish_example_ref :
    (PlainMacro.delLines (PlainVanish.marks 0 C05_vanish_doc)).map (·.1) = "Alpha beta\nGamma\n\nDelta.\n".toList := by
  rw [String.toList_ofList]; decide +kernel

/-- … which is what the model computes (by the theorem and the two evaluations above) -/
theorem C05_vanish_example_eval :
    (match tex2txt Generated.theTables Generated.bigFuel (PlainVanish.render C05_vanish_doc)
        Generated.defaultOptions false 0 [] with
     | .ok r => r.txt == "Alpha beta\nGamma\n\nDelta.\n".toList && r.unknowns.isEmpty
     | _ => false) = true := by
  obtain ⟨r, h1, h2, _, h4, _⟩ := C05_vanish_e2e_current C05_vanish_doc 0
    C05_vanish_example_current (by decide +kernel)
  rw [h1]
  simp only [h2, h4, C05_vanish_example_ref, beq_self_eq_true, Bool.and_self, List.isEmpty_nil]

end Yalafi
