/-
  Properties/C09.lean — user macro definitions expand by TeX substitution.

  Proved here (all inputs): after a definition the table maps the name to the new entry
  and every other name to what it was (a redefinition affects later uses only, since the
  table is consulted at each use); an empty body expands to nothing; `#k` selects the k-th
  actual argument (`pyIndex`); `C09_genRepl_subst`.  End to end (imported): `\newcommand` with
  arguments, `--defs` against in-document definitions, optional arguments, `\def` and nested uses
  (Properties/PlainMacroArgsStmt.lean, PlainDefsStmt.lean, PlainOptArgStmt.lean, PlainDefTexStmt.lean);
  the `\LTinput` route is compared on the implementation against the AST reference.
-/
import YalafiVerif.Model.Expander
import YalafiVerif.Proofs.GenRepl
import YalafiVerif.Proofs.PlainMacro
import YalafiVerif.Generated.Init
import YalafiVerif.Properties.PlainMacroArgsStmt
import YalafiVerif.Properties.PlainDefsStmt
import YalafiVerif.Properties.PlainOptArgStmt
import YalafiVerif.Properties.PlainDefTexStmt
namespace Yalafi

theorem C09_genRepl_nil (arguments : List (List Tok)) (start : Nat) :
    generateReplacements arguments [] start = some [] := by
  simp [generateReplacements, initCurPos, genReplLoop]

/-- `the_macros[name] = m`: a later look-up of that name finds the new definition … -/
theorem C09_setMacro_lookup (ms : List MacroDef) (m : MacroDef) :
    (setMacro ms m).find? (·.name == m.name) = some m := by
  rw [PlainMacro.find_setMacro, if_pos (beq_self_eq_true _)]

/-- … and every other name keeps its definition -/
theorem C09_setMacro_other (ms : List MacroDef) (m : MacroDef) (name : Str) (hn : (m.name == name) = false) :
    (setMacro ms m).find? (·.name == name) = ms.find? (·.name == name) := by
  rw [PlainMacro.find_setMacro, hn]
  rfl

/-- `#k` is the k-th actual argument -/
theorem C09_pyIndex (args : List (List Tok)) (k : Nat) (hk : 1 ≤ k) : pyIndex args k = args[k - 1]? := by
  unfold pyIndex
  have : (k == 0) = false := by simp; omega
  simp [this]

/-- a user definition expands by substitution: up to the position markers (Action tokens), the
    expansion of a body is the body with every `#k` replaced by the tokens of the k-th argument
    (kinds and texts; where the tokens map to is C04's subject), for all argument lists and bodies -/
theorem C09_genRepl_subst (args : List (List Tok)) (repl : List Tok) (start : Nat) (out : List Tok)
    (h : generateReplacements args repl start = some out) :
    (noAction out).map (fun t => (t.kind, t.txt)) = (noAction (substRef args repl)).map (fun t => (t.kind, t.txt)) :=
  genRepl_subst args repl start out h

/-- **a user definition expands by substitution**, end to end on the filter model: for documents of
    inert text, definitions `\\newcommand{\\name}{body}` (no parameters, inert non-empty body, name not
    declared before) and uses `\\name` / `\\name{}`: every use of a defined name is replaced by the
    body of the LATEST earlier definition (redefinition allowed), every character of an inserted
    body maps to the backslash of the use (C04), text keeps its own positions, the definitions
    leave no text (a line that holds only a definition disappears: `delLines`), a use before the
    definition is an unknown macro and is listed;
    no diagnostic beyond those of the initialisation -/
theorem C09_newcommand_e2e (T : PTables) (o : Options) (fs : FS) (thresh : Nat)
    (segs : List PlainMacro.Seg) (fuel : Nat) (st1 : PState)
    (hdefs : o.defs = []) (hextr : o.extr = []) (hrepl : o.hasRepl = false) (hunkn : o.unkn = false)
    (hinit : initParser T fuel o (initialState T o false fs) = .ok ((), st1))
    (hok : PlainMacro.SegsOk T st1 segs)
    (hf : (PlainMacro.render segs).length + PlainMacro.segInserted [] segs + 5 ≤ fuel) :
    ∃ r, tex2txt T fuel (PlainMacro.render segs) o false thresh fs = .ok r ∧
      r.txt = (PlainMacro.delLines (PlainMacro.segMarks [] 0 segs)).map (·.1) ∧
      r.pos = (PlainMacro.delLines (PlainMacro.segMarks [] 0 segs)).map (·.2 + 1) ∧
      r.unknowns = (PlainMacro.segUnknowns [] segs).eraseDups ∧
      r.diags = st1.diags ∧ r.parts = [] :=
  PlainMacro.tex2txt_newcommand T o fs thresh segs fuel st1 hdefs hextr hrepl hunkn hinit hok hf

/-- a concrete document satisfies the side conditions for the parser initialised from the tables
    of the current /repo -/
theorem C09_newcommand_example_current :
    PlainMacro.segsOk Generated.theTables Generated.stDefault
      [.defn "xx".toList "lorem ipsum".toList, .txt "\nAlpha ".toList, .use "xx".toList true, .txt " beta ".toList,
       .use "xx".toList false, .txt ".\n".toList] = true ∧
    PlainMacro.ncOk Generated.stDefault = true ∧ noEmptyActive Generated.theTables Generated.stDefault = true := by
  rw [Generated.stDefault_eq]; (repeat rw [String.toList_ofList]); decide +kernel

end Yalafi
