/-
  Properties/PlainMix4Stmt.lean — C03 "hidden material never leaks" and C05 "text flow is preserved",
  end to end on the filter model, for documents that MIX THIRTY-FOUR kinds of constructs: the
  twenty-two of Properties/PlainMix3Stmt.lean and `\def\name#1#2{…}`, labelled items `\item[label]`,
  undeclared environments (`description`), detached flows with and without optional argument
  (`\footnote[n]{…}`, `\footnotetext{…}`, `\caption[opt]{…}`), floats (`\begin{figure}[ht]`, `table`),
  `\par` and paragraph-forming environments (`minipage`).  The kinds of the third grammar, among them
  the STATEFUL ones, are: inert text, special sequences, braces / groups and undeclared control words with
  braced arguments at any depth, vanishing calls, `%` comments, `\verb`, inline formulas of the RICH
  class (`$x^2+\alpha$`, `\(\,y_1.\)`), `\ref` / `\pageref`, `\cite` / `\cite[note]`, `\footnote`,
  headings, ACCENT calls (`\'e`, `\"{o}`), USER DEFINITIONS `\newcommand{\name}[n]{body}` and their
  USES `\name{a1}…{am}` (the definition in force at that point; before it: an unknown control word),
  simple DISPLAYED EQUATIONS `\[ … \]` and `\begin{equation} … \end{equation}` (second rotating
  placeholder collection), LIST ENVIRONMENTS `\begin{enumerate}`, `\item`, `\end{enumerate}` at any
  nesting (the stack of label generators).  All thirty-four in any order (`PlainMix4.Seg`).
  Proofs, side conditions and what is not covered: Proofs/PlainMix4E2E.lean (header),
  Proofs/PlainMix4.lean + Proofs/PlainMix4Loop.lean (one loop lemma), Proofs/PlainMix4Scan.lean (one
  scanner lemma), Proofs/PlainMix4Sem.lean (the meaning of the pieces along the changing macro
  table), Proofs/PlainMix4Src.lean (documents, reference), Proofs/PlainMix4Read.lean (readings).
-/
import YalafiVerif.Proofs.PlainMix4Read
import YalafiVerif.Generated.Init
namespace Yalafi

/-- **mixed documents with the stateful kinds, end to end.**
    For every document `render segs` (`PlainMix4.SegsOk`: all side conditions, computable; `repls` /
    `drepls` = the inline / display placeholder collections of the language, only looked at if
    there is a formula / a displayed equation), `st1` the state after `Parser.__init__`, no `--defs
    --extr --repl --unkn`, single-language mode, fuel = source length + the number of tokens the
    uses insert (`PlainMix4.inserted`) + 6: `tex2txt` succeeds; the output text with its (1-based)
    positions is `delLines (marks …) ++ flows …`:

    * `marks` (main flow; `PlainMix4.marks`, threading the definitions in force, the label
      generators `itemStack` and the numbers of formulas and displayed equations in front): a text
      character with its own position; special sequences, braces, control words, vanishing calls,
      comments, `\verb`, references, citations, footnotes, headings as in `C03_mix2_e2e`; a formula = a mark, `[blank] placeholder
      [punctuation] [blank]` pinned to the first maths token, a mark; an accent call = the
      character(s) of the accent table at the backslash, no mark; a definition = a text-less mark;
      a use = a mark, the body of the definition in force with `#k` replaced by the `k`-th argument
      at its own positions, the surplus groups; a use of an undefined name = a mark and its groups;
      a displayed equation = a mark, two blanks at the backslash, the display placeholder at the
      first element of the body, the closing punctuation at the first body character, a mark
      (`\begin{equation}`: two more marks in front); `\begin{name}` of a list environment = the marks
      of `add_pars` and a mark, `\item` = a mark, a blank, the next label of the innermost label
      generator, a blank (all at the backslash), `\end{name}` = the marks of `add_pars`;
    * the twelve further kinds (header of Proofs/PlainMix4E2E.lean): `\def` = a text-less mark, the
      definition is in force behind it exactly as one by `\newcommand`; `\item[label]` = a blank at
      the backslash, two marks, the label at its own positions, a mark, the REPEATED PUNCTUATION `pc`
      and a blank at the last token of the label (`pc` is declared in the segment; `SegsOk` contains
      `pvLive`: the last visible output character is known to the reference and `pc` is that
      character if it is in `item_punctuation`, else `none`); undeclared `\begin{name}` / `\end{name}`
      = a mark (the name is reported as unknown, without backslash); `\name{body}` /
      `\name[opt]{body}` of a flow macro = a mark, the body goes to `flows`; float `\begin` = two
      marks, `\end` = a mark; `\par` = a mark and two line breaks at the backslash; `\begin{minipage}{w}`
      = two line breaks at the backslash and a mark, its `\end` = two line breaks;
    * `delLines`: every line of the main flow that consists of white space and at least one
      text-less mark is deleted with its line break (`remove_pure_action_lines`); nothing else;
    * `flows`: for every footnote / `\footnotetext` / `\caption`, in order, behind the main text: three line breaks, the body at
      its own positions, a line break;
    * the unknowns are the undeclared control words and the uses of names that are not (yet)
      defined, each once, in order of first use;
      no diagnostic beyond those of the initialisation. -/
theorem C03_mix4_e2e (T : PTables) (o : Options) (fs : FS) (thresh : Nat)
    (segs : List PlainMix4.Seg) (fuel : Nat) (st1 : PState) (repls drepls : List Str)
    (hdefs : o.defs = []) (hextr : o.extr = []) (hrepl : o.hasRepl = false) (hunkn : o.unkn = false)
    (hinit : initParser T fuel o (initialState T o false fs) = .ok ((), st1))
    (hok : PlainMix4.SegsOk T st1 repls drepls segs)
    (hf : (PlainMix4.render segs).length + PlainMix4.inserted [] 0 segs + 6 ≤ fuel) :
    ∃ r, tex2txt T fuel (PlainMix4.render segs) o false thresh fs = .ok r ∧
      r.txt = (PlainMacro.delLines (PlainMix4.marks T st1 repls drepls [] st1.itemStack 0 0 0 segs)
                ++ PlainMix4.flows 0 segs).map (·.1) ∧
      r.pos = (PlainMacro.delLines (PlainMix4.marks T st1 repls drepls [] st1.itemStack 0 0 0 segs)
                ++ PlainMix4.flows 0 segs).map (·.2 + 1) ∧
      r.unknowns = (PlainMix4.unkNames [] segs).eraseDups ∧ r.diags = st1.diags := by
  obtain ⟨r, h1, h2, h3, h4, h5, _⟩ :=
    PlainMix4.tex2txt_mix4 T o fs thresh segs fuel st1 repls drepls hdefs hextr hrepl hunkn hinit hok hf
  exact ⟨r, h1, h2, h3, h4, h5⟩

/-- **nothing hidden leaks, nothing visible is lost.**  The output characters that are no white
    space, with their positions, are exactly those of `PlainMix4.plain` (text, special values,
    `\verb` contents, placeholders, notes, titles and their full stops, accent values, the expansions
    of the uses, the two blanks and placeholders of the displayed equations, the labels of the
    items) followed by those of the footnote bodies (`PlainMix4.footBodies`), in this order — no character of a key, a label, a comment, a control-word name, a formula or
    equation body (but its closing punctuation) or a definition, and every footnote body exactly
    once. -/
theorem C03_mix4_words (T : PTables) (o : Options) (fs : FS) (thresh : Nat)
    (segs : List PlainMix4.Seg) (fuel : Nat) (st1 : PState) (repls drepls : List Str)
    (hdefs : o.defs = []) (hextr : o.extr = []) (hrepl : o.hasRepl = false) (hunkn : o.unkn = false)
    (hinit : initParser T fuel o (initialState T o false fs) = .ok ((), st1))
    (hok : PlainMix4.SegsOk T st1 repls drepls segs)
    (hf : (PlainMix4.render segs).length + PlainMix4.inserted [] 0 segs + 6 ≤ fuel) :
    ∃ r, tex2txt T fuel (PlainMix4.render segs) o false thresh fs = .ok r ∧
      (r.txt.zip r.pos).filter (fun cp => !isSpace cp.1)
        = ((PlainMix4.plain T st1 repls drepls [] st1.itemStack 0 0 0 segs ++ PlainMix4.footBodies 0 segs).filter
            (fun cp => !isSpace cp.1)).map (fun cp => (cp.1, cp.2 + 1)) := by
  obtain ⟨r, h1, h2, h3, _⟩ :=
    C03_mix4_e2e T o fs thresh segs fuel st1 repls drepls hdefs hextr hrepl hunkn hinit hok hf
  refine ⟨r, h1, ?_⟩
  rw [h2, h3, List.zip_map', List.filter_map]
  have hw := PlainMix.delLines_words (PlainMix4.marks T st1 repls drepls [] st1.itemStack 0 0 0 segs)
  rw [PlainMix4.marks_chars] at hw
  have hfl := PlainMix4.flows_vis segs 0
  show List.map _ (List.filter PlainMix.vis _) = List.map _ (List.filter PlainMix.vis _)
  rw [List.filter_append, List.filter_append, hw, hfl]

/-- **blank-line removal adds nothing to the main flow**: the main part of the output is a
    subsequence of `PlainMix4.plain`, the output characters of the main flow before that pass (what
    the constructs generate, line breaks included is in it), and it is followed by exactly the flows. -/
theorem C05_mix4_nothing_added (T : PTables) (o : Options) (fs : FS) (thresh : Nat)
    (segs : List PlainMix4.Seg) (fuel : Nat) (st1 : PState) (repls drepls : List Str)
    (hdefs : o.defs = []) (hextr : o.extr = []) (hrepl : o.hasRepl = false) (hunkn : o.unkn = false)
    (hinit : initParser T fuel o (initialState T o false fs) = .ok ((), st1))
    (hok : PlainMix4.SegsOk T st1 repls drepls segs)
    (hf : (PlainMix4.render segs).length + PlainMix4.inserted [] 0 segs + 6 ≤ fuel) :
    ∃ r, tex2txt T fuel (PlainMix4.render segs) o false thresh fs = .ok r ∧
      ∃ main, r.txt.zip r.pos
          = (main ++ PlainMix4.flows 0 segs).map (fun cp => (cp.1, cp.2 + 1)) ∧
        List.Sublist main (PlainMix4.plain T st1 repls drepls [] st1.itemStack 0 0 0 segs) := by
  obtain ⟨r, h1, h2, h3, _⟩ :=
    C03_mix4_e2e T o fs thresh segs fuel st1 repls drepls hdefs hextr hrepl hunkn hinit hok hf
  refine ⟨r, h1, PlainMacro.delLines (PlainMix4.marks T st1 repls drepls [] st1.itemStack 0 0 0 segs), ?_, ?_⟩
  · rw [h2, h3, List.zip_map']
  · have := PlainMix.delLines_sublist (PlainMix4.marks T st1 repls drepls [] st1.itemStack 0 0 0 segs)
    rw [PlainMix4.marks_chars] at this
    exact this

/-- **a line of the main flow is deleted iff it is pure.**  Split the marks of the document at a
    line: `A` (empty or ending with a line break), the line `L` (no line break), its line break
    `nlp`, the rest `B`.  Then the output is the output of `A`, followed by nothing if `L` is *pure*
    (`PlainMix.pureLine`: white space only and at least one text-less mark — the line and its line
    break are deleted) and by the characters of `L` and the line break otherwise, followed by the
    output of `B` and the flows. -/
theorem C05_mix4_lines (T : PTables) (o : Options) (fs : FS) (thresh : Nat)
    (segs : List PlainMix4.Seg) (fuel : Nat) (st1 : PState) (repls drepls : List Str)
    (hdefs : o.defs = []) (hextr : o.extr = []) (hrepl : o.hasRepl = false) (hunkn : o.unkn = false)
    (hinit : initParser T fuel o (initialState T o false fs) = .ok ((), st1))
    (hok : PlainMix4.SegsOk T st1 repls drepls segs)
    (hf : (PlainMix4.render segs).length + PlainMix4.inserted [] 0 segs + 6 ≤ fuel)
    (A L B : List PlainMacro.Mark) (nlp : Char × Nat)
    (hsplit : PlainMix4.marks T st1 repls drepls [] st1.itemStack 0 0 0 segs = A ++ (L ++ some nlp :: B))
    (hA : A = [] ∨ ∃ A' q, A = A' ++ [some q] ∧ (q.1 == nl) = true)
    (hL : L.any PlainMix.isNlMark = false) (hn : (nlp.1 == nl) = true) :
    ∃ r, tex2txt T fuel (PlainMix4.render segs) o false thresh fs = .ok r ∧
      r.txt = ((PlainMacro.delLines A ++ ((if PlainMix.pureLine L then [] else L.filterMap id ++ [nlp])
                ++ PlainMacro.delLines B)) ++ PlainMix4.flows 0 segs).map (·.1) ∧
      r.pos = ((PlainMacro.delLines A ++ ((if PlainMix.pureLine L then [] else L.filterMap id ++ [nlp])
                ++ PlainMacro.delLines B)) ++ PlainMix4.flows 0 segs).map (·.2 + 1) := by
  obtain ⟨r, h1, h2, h3, _⟩ :=
    C03_mix4_e2e T o fs thresh segs fuel st1 repls drepls hdefs hextr hrepl hunkn hinit hok hf
  rw [hsplit, PlainMix.delLines_mid A L B nlp hA hL hn] at h2 h3
  exact ⟨r, h1, h2, h3⟩

/-- … and the last line of the main flow (no line break behind it) -/
theorem C05_mix4_last_line (T : PTables) (o : Options) (fs : FS) (thresh : Nat)
    (segs : List PlainMix4.Seg) (fuel : Nat) (st1 : PState) (repls drepls : List Str)
    (hdefs : o.defs = []) (hextr : o.extr = []) (hrepl : o.hasRepl = false) (hunkn : o.unkn = false)
    (hinit : initParser T fuel o (initialState T o false fs) = .ok ((), st1))
    (hok : PlainMix4.SegsOk T st1 repls drepls segs)
    (hf : (PlainMix4.render segs).length + PlainMix4.inserted [] 0 segs + 6 ≤ fuel)
    (A L : List PlainMacro.Mark)
    (hsplit : PlainMix4.marks T st1 repls drepls [] st1.itemStack 0 0 0 segs = A ++ L)
    (hA : A = [] ∨ ∃ A' q, A = A' ++ [some q] ∧ (q.1 == nl) = true)
    (hL : L.any PlainMix.isNlMark = false) :
    ∃ r, tex2txt T fuel (PlainMix4.render segs) o false thresh fs = .ok r ∧
      r.txt = ((PlainMacro.delLines A ++ (if PlainMix.pureLine L then [] else L.filterMap id))
                ++ PlainMix4.flows 0 segs).map (·.1) ∧
      r.pos = ((PlainMacro.delLines A ++ (if PlainMix.pureLine L then [] else L.filterMap id))
                ++ PlainMix4.flows 0 segs).map (·.2 + 1) := by
  obtain ⟨r, h1, h2, h3, _⟩ :=
    C03_mix4_e2e T o fs thresh segs fuel st1 repls drepls hdefs hextr hrepl hunkn hinit hok hf
  rw [hsplit, PlainMix.delLines_end A L hA hL] at h2 h3
  exact ⟨r, h1, h2, h3⟩

/-- … when no line of the main flow is pure (`linesKept`, decidable): the output is
    `PlainMix4.plain` — the document with every definition removed and every use expanded —
    followed by the flows; nothing else added or removed -/
theorem C05_mix4_kept (T : PTables) (o : Options) (fs : FS) (thresh : Nat)
    (segs : List PlainMix4.Seg) (fuel : Nat) (st1 : PState) (repls drepls : List Str)
    (hdefs : o.defs = []) (hextr : o.extr = []) (hrepl : o.hasRepl = false) (hunkn : o.unkn = false)
    (hinit : initParser T fuel o (initialState T o false fs) = .ok ((), st1))
    (hok : PlainMix4.SegsOk T st1 repls drepls segs)
    (hf : (PlainMix4.render segs).length + PlainMix4.inserted [] 0 segs + 6 ≤ fuel)
    (hk : PlainMacro.linesKept true false (PlainMix4.marks T st1 repls drepls [] st1.itemStack 0 0 0 segs) = true) :
    ∃ r, tex2txt T fuel (PlainMix4.render segs) o false thresh fs = .ok r ∧
      r.txt = (PlainMix4.plain T st1 repls drepls [] st1.itemStack 0 0 0 segs ++ PlainMix4.flows 0 segs).map (·.1) ∧
      r.pos = (PlainMix4.plain T st1 repls drepls [] st1.itemStack 0 0 0 segs ++ PlainMix4.flows 0 segs).map (·.2 + 1) := by
  obtain ⟨r, h1, h2, h3, _⟩ :=
    C03_mix4_e2e T o fs thresh segs fuel st1 repls drepls hdefs hextr hrepl hunkn hinit hok hf
  rw [PlainMacro.delLines_kept _ hk, PlainMix4.marks_chars] at h2 h3
  exact ⟨r, h1, h2, h3⟩

/-- the end-to-end theorem for the CURRENT code (tables translated from /repo, default options,
    parser initialisation evaluated by the kernel) -/
theorem C03_mix4_e2e_current (segs : List PlainMix4.Seg) (repls drepls : List Str) (thresh : Nat)
    (hok : PlainMix4.SegsOk Generated.theTables Generated.stDefault repls drepls segs)
    (hf : (PlainMix4.render segs).length + PlainMix4.inserted [] 0 segs + 6 ≤ Generated.bigFuel) :
    ∃ r, tex2txt Generated.theTables Generated.bigFuel (PlainMix4.render segs) Generated.defaultOptions
          false thresh [] = .ok r ∧
      r.txt = (PlainMacro.delLines
                  (PlainMix4.marks Generated.theTables Generated.stDefault repls drepls []
                    Generated.stDefault.itemStack 0 0 0 segs)
                ++ PlainMix4.flows 0 segs).map (·.1) ∧
      r.pos = (PlainMacro.delLines
                  (PlainMix4.marks Generated.theTables Generated.stDefault repls drepls []
                    Generated.stDefault.itemStack 0 0 0 segs)
                ++ PlainMix4.flows 0 segs).map (·.2 + 1) ∧
      r.unknowns = (PlainMix4.unkNames [] segs).eraseDups ∧ r.diags = Generated.stDefault.diags :=
  C03_mix4_e2e Generated.theTables Generated.defaultOptions [] thresh segs Generated.bigFuel
    Generated.stDefault repls drepls rfl rfl rfl rfl Generated.initParser_default hok hf

/-- the inline placeholder collection of the current /repo for English -/
def C03_mix4_repls : List Str :=
  ["B-B-B", "C-C-C", "D-D-D", "E-E-E", "F-F-F", "G-G-G"].map String.toList

/-- the display placeholder collection of the current /repo for English -/
def C03_mix4_drepls : List Str :=
  ["U-U-U", "V-V-V", "W-W-W", "X-X-X", "Y-Y-Y", "Z-Z-Z"].map String.toList

/-- a document that uses every kind of segment.  Source:

        \pair{u} first
        \newcommand{\pair}[2]{(#1, #2)}
        \section{Intro}
        Alpha--beta \textbf{bold \emph{and $x^2+\alpha$ nested}} gamma\label{sec:a} see \ref{sec:a} and \cite{knuth84}, \cite[p. 3]{lamport}.\footnote{A note.} 100\% sure. % hidden
          Next {\foo a~b} caf\'e G\"{o}del \pair{a}{bc} and \pair{x}{y}{z} with \(\,y_1.\)
        \[ a+b = c. \]
        more \begin{equation}= z,\end{equation}
        \begin{enumerate}
        \item one \pair{p}{q}
        \begin{itemize}
        \item inner
        \end{itemize}
        \item two $z$
        \end{enumerate}
        \def\sw#1#2{(#2,#1)}
        Terms:
        \begin{itemize}
        \item [a] one \sw{x}{y}.
        \item[b] two
        \end{itemize}
        \begin{description}
        \item[key] value\par
        \end{description}
        \begin{figure}[ht]
        pic \caption[short]{Long cap}
        \end{figure}
        \begin{table}
        \caption{Tab} cell
        \end{table}
        note\footnotetext{late} \begin{minipage}{5cm}box\end{minipage}
        \bar % again
        \verb|x_$%| end.
        % last
-/
def C03_mix4_doc : List PlainMix4.Seg :=
  [.use "pair".toList ["u".toList], .txt " first\n".toList,
   .defn "pair".toList 2 [.lit "(".toList, .par 1, .lit ", ".toList, .par 2, .lit ")".toList],
   .txt "\n".toList, .head "section".toList "Intro".toList, .txt "\nAlpha".toList, .spc "--".toList,
   .txt "beta ".toList]
  ++ PlainMix4.mac "textbf".toList
      [[.txt "bold ".toList] ++ PlainMix4.mac "emph".toList
        [[.txt "and ".toList,
          .math false [.chars "x".toList, .spec "^".toList, .chars "2+".toList, .cw "alpha".toList],
          .txt " nested".toList]]]
  ++ [.txt " gamma".toList, .van "label".toList "sec:a".toList, .txt " see ".toList,
      .ref "ref".toList "sec:a".toList, .txt " and ".toList, .cite "cite".toList "knuth84".toList,
      .txt ", ".toList, .citeN "cite".toList "p. 3".toList "lamport".toList, .txt ".".toList,
      .foot "A note.".toList, .txt " 100".toList, .spc "\\%".toList, .txt " sure. ".toList,
      .com " hidden\n  ".toList, .txt "Next ".toList]
  ++ PlainMix4.grp [.cw "foo".toList " ".toList, .txt "a".toList, .spc "~".toList, .txt "b".toList]
  ++ [.txt " caf".toList, .acc "'".toList [] false 'e', .txt " G".toList, .acc "\"".toList [] true 'o',
      .txt "del ".toList, .use "pair".toList ["a".toList, "bc".toList], .txt " and ".toList,
      .use "pair".toList ["x".toList, "y".toList, "z".toList], .txt " with ".toList,
      .math true [.spec "\\,".toList, .chars "y".toList, .spec "_".toList, .chars "1.".toList],
      .txt "\n".toList, .disp " a+b = c. ".toList, .txt "\nmore ".toList,
      .denv "equation".toList "= z,".toList, .txt "\n".toList,
      .beg "enumerate".toList, .txt "\n".toList, .item " ".toList, .txt "one ".toList,
      .use "pair".toList ["p".toList, "q".toList], .txt "\n".toList,
      .beg "itemize".toList, .txt "\n".toList, .item " ".toList, .txt "inner\n".toList,
      .en "itemize".toList, .txt "\n".toList, .item " ".toList, .txt "two ".toList,
      .math false [.chars "z".toList], .txt "\n".toList, .en "enumerate".toList, .txt "\n".toList,
      .ddef "sw".toList 2 [.lit "(".toList, .par 2, .lit ",".toList, .par 1, .lit ")".toList],
      .txt "\nTerms:\n".toList, .beg "itemize".toList, .txt "\n".toList,
      .itemL " ".toList "a".toList (some ':'), .txt " one ".toList,
      .use "sw".toList ["x".toList, "y".toList], .txt ".\n".toList,
      .itemL [] "b".toList (some '.'), .txt " two\n".toList, .en "itemize".toList, .txt "\n".toList,
      .ubeg "description".toList, .txt "\n".toList, .itemL [] "key".toList none, .txt " value".toList,
      .ppar "\n".toList, .uen "description".toList, .txt "\n".toList,
      .fbegN "figure".toList "ht".toList, .txt "\npic ".toList,
      .callO "caption".toList "short".toList "Long cap".toList, .txt "\n".toList, .fen "figure".toList,
      .txt "\n".toList, .fbeg "table".toList "\n".toList, .call "caption".toList "Tab".toList,
      .txt " cell\n".toList, .fen "table".toList, .txt "\nnote".toList,
      .call "footnotetext".toList "late".toList, .txt " ".toList, .pbeg "minipage".toList "5cm".toList,
      .txt "box".toList, .pen "minipage".toList, .txt "\n".toList,
      .cw "bar".toList " ".toList, .com " again\n".toList,
      .verb '|' "x_$%".toList, .txt " end.\n".toList, .com " last".toList]

/-- the side conditions hold for it on the real tables -/
theorem C03_mix4_example_current :
    PlainMix4.SegsOk Generated.theTables Generated.stDefault C03_mix4_repls C03_mix4_drepls
      C03_mix4_doc := by
  rw [Generated.stDefault_eq]; decide +kernel

/-- … with the fuel of the instance -/
theorem C03_mix4_example_fuel :
    (PlainMix4.render C03_mix4_doc).length + PlainMix4.inserted [] 0 C03_mix4_doc + 6
      ≤ Generated.bigFuel := by
  decide +kernel

/-- … and this is what the theorem says about it: the reference output, text and positions.
    (The first `\pair{u}` precedes the definition: it is reported as unknown and its group is read as
    a plain group; the line with the `\newcommand` is pure and disappears; the heading gets its full
    stop; the first formula gives the second inline placeholder `C-C-C`; `\ref` gives `0`, the
    citations `[0]` and `[0, p. 3]`; `~` gives U+00A0; the accent calls give `é` and `ö`;
    `\pair{a}{bc}` gives `(a, bc)` — the arguments at their own positions; the third group of
    `\pair{x}{y}{z}` stays; the second formula starts with maths space and ends with a full stop:
    ` D-D-D.`; the displayed equations give two blanks, the display placeholders `V-V-V`, `W-W-W`
    and the closing punctuation; the `\begin` / `\end` lines of the lists are pure and disappear;
    the items of `enumerate` get ` 1. ` and ` 2. `, the item of the nested `itemize` the empty
    label between two blanks; the use and the formula inside the items work as elsewhere (third
    inline placeholder `E-E-E`); the line `\bar % again` is pure and disappears; the footnote body
    comes behind the main text, behind three line breaks.  Further kinds: `\def\sw#1#2{(#2,#1)}` leaves a
    pure line; `\item [a]` behind `Terms:` repeats the colon: ` a:  one (y,x).`, `\item[b]` behind
    `(y,x).` the full stop: ` b.  two`; `\item[key]` behind `two` repeats nothing; `description` is
    reported as unknown; the lines with `\begin{description}`, `\end{description}`, `\begin{figure}[ht]`,
    `\end{figure}`, `\begin{table}`, `\end{table}` are pure and disappear, `\caption[short]{Long cap}`
    leaves `pic ` and its body among the flows (`short` is dropped), `\par` and the `minipage`
    commands leave paragraph breaks.) -/
theorem C03_mix4_example_ref :
    (PlainMacro.delLines (PlainMix4.marks Generated.theTables Generated.stDefault C03_mix4_repls C03_mix4_drepls []
        Generated.stDefault.itemStack 0 0 0 C03_mix4_doc) ++ PlainMix4.flows 0 C03_mix4_doc).map (·.1)
      = "u first\nIntro.\nAlpha–beta bold and C-C-C nested gamma see 0 and [0], [0, p. 3]. 100% sure. Next a b café Gödel (a, bc) and (x, y)z with  D-D-D.\n  V-V-V.\nmore   W-W-W,\n 1. one (p, q)\n  inner\n 2. two E-E-E\nTerms:\n a:  one (y,x).\n b.  two\n key  value\n\npic \n cell\nnote \n\nbox\n\n\nx_$% end.\n\n\n\nA note.\n\n\n\nLong cap\n\n\n\nTab\n\n\n\nlate\n".toList ∧
    (PlainMacro.delLines (PlainMix4.marks Generated.theTables Generated.stDefault C03_mix4_repls C03_mix4_drepls []
        Generated.stDefault.itemStack 0 0 0 C03_mix4_doc) ++ PlainMix4.flows 0 C03_mix4_doc).map (·.2 + 1)
      = [7, 9, 10, 11, 12, 13, 14, 15, 57, 58, 59, 60, 61, 61, 63, 64, 65, 66, 67, 68, 69, 71, 72,
         73, 74, 75, 84, 85, 86, 87, 88, 95, 96, 97, 98, 100, 100, 100, 100, 100, 111, 112, 113,
         114, 115, 116, 117, 120, 121, 122, 123, 124, 125, 139, 140, 141, 142, 143, 144, 155, 156,
         157, 158, 159, 160, 160, 160, 174, 175, 176, 176, 176, 176, 182, 183, 184, 185, 185, 196,
         215, 216, 217, 218, 219, 221, 222, 223, 224, 225, 226, 227, 239, 240, 241, 242, 243, 250,
         251, 252, 254, 255, 256, 257, 258, 261, 262, 263, 268, 269, 270, 271, 281, 278, 278, 278,
         281, 282, 282, 284, 285, 286, 287, 288, 298, 295, 295, 295, 298, 298, 301, 303, 304, 305,
         306, 307, 308, 311, 311, 311, 311, 311, 311, 311, 319, 320, 320, 323, 323, 323, 323, 323,
         323, 334, 335, 336, 337, 338, 339, 340, 340, 358, 358, 358, 358, 358, 356, 374, 393, 393,
         393, 393, 399, 400, 401, 402, 412, 409, 409, 409, 412, 412, 414, 431, 431, 437, 438, 439,
         440, 441, 442, 457, 457, 457, 457, 463, 464, 465, 466, 468, 468, 468, 468, 468, 470, 508,
         509, 510, 511, 512, 513, 514, 531, 538, 538, 538, 540, 541, 542, 543, 544, 549, 552, 552,
         549, 549, 554, 555, 556, 562, 562, 562, 564, 565, 566, 567, 568, 603, 609, 610, 611, 611,
         613, 614, 615, 616, 617, 618, 619, 619, 661, 662, 663, 664, 690, 731, 732, 733, 734, 735,
         736, 749, 750, 751, 752, 772, 773, 773, 794, 795, 796, 797, 797, 811, 831, 832, 833, 834,
         836, 837, 838, 839, 840, 841, 207, 207, 207, 207, 208, 209, 210, 211, 212, 213, 213, 681,
         681, 681, 681, 682, 683, 684, 685, 686, 687, 688, 688, 727, 727, 727, 727, 728, 729, 729,
         767, 767, 767, 767, 768, 769, 770, 770] ∧
    (PlainMix4.unkNames [] C03_mix4_doc).eraseDups
      = ["\\pair".toList, "\\textbf".toList, "\\emph".toList, "\\foo".toList, "description".toList, "\\bar".toList] := by
  rw [Generated.stDefault_eq, String.toList_ofList]; decide +kernel

/-- … which is therefore what the model computes (`C03_mix4_e2e_current` applied to the three facts
    above): text, positions, unknowns -/
theorem C03_mix4_example_eval :
    (match tex2txt Generated.theTables Generated.bigFuel (PlainMix4.render C03_mix4_doc)
        Generated.defaultOptions false 0 [] with
     | .ok r =>
       r.txt == "u first\nIntro.\nAlpha–beta bold and C-C-C nested gamma see 0 and [0], [0, p. 3]. 100% sure. Next a b café Gödel (a, bc) and (x, y)z with  D-D-D.\n  V-V-V.\nmore   W-W-W,\n 1. one (p, q)\n  inner\n 2. two E-E-E\nTerms:\n a:  one (y,x).\n b.  two\n key  value\n\npic \n cell\nnote \n\nbox\n\n\nx_$% end.\n\n\n\nA note.\n\n\n\nLong cap\n\n\n\nTab\n\n\n\nlate\n".toList &&
       r.pos == [7, 9, 10, 11, 12, 13, 14, 15, 57, 58, 59, 60, 61, 61, 63, 64, 65, 66, 67, 68, 69, 71, 72,
         73, 74, 75, 84, 85, 86, 87, 88, 95, 96, 97, 98, 100, 100, 100, 100, 100, 111, 112, 113,
         114, 115, 116, 117, 120, 121, 122, 123, 124, 125, 139, 140, 141, 142, 143, 144, 155, 156,
         157, 158, 159, 160, 160, 160, 174, 175, 176, 176, 176, 176, 182, 183, 184, 185, 185, 196,
         215, 216, 217, 218, 219, 221, 222, 223, 224, 225, 226, 227, 239, 240, 241, 242, 243, 250,
         251, 252, 254, 255, 256, 257, 258, 261, 262, 263, 268, 269, 270, 271, 281, 278, 278, 278,
         281, 282, 282, 284, 285, 286, 287, 288, 298, 295, 295, 295, 298, 298, 301, 303, 304, 305,
         306, 307, 308, 311, 311, 311, 311, 311, 311, 311, 319, 320, 320, 323, 323, 323, 323, 323,
         323, 334, 335, 336, 337, 338, 339, 340, 340, 358, 358, 358, 358, 358, 356, 374, 393, 393,
         393, 393, 399, 400, 401, 402, 412, 409, 409, 409, 412, 412, 414, 431, 431, 437, 438, 439,
         440, 441, 442, 457, 457, 457, 457, 463, 464, 465, 466, 468, 468, 468, 468, 468, 470, 508,
         509, 510, 511, 512, 513, 514, 531, 538, 538, 538, 540, 541, 542, 543, 544, 549, 552, 552,
         549, 549, 554, 555, 556, 562, 562, 562, 564, 565, 566, 567, 568, 603, 609, 610, 611, 611,
         613, 614, 615, 616, 617, 618, 619, 619, 661, 662, 663, 664, 690, 731, 732, 733, 734, 735,
         736, 749, 750, 751, 752, 772, 773, 773, 794, 795, 796, 797, 797, 811, 831, 832, 833, 834,
         836, 837, 838, 839, 840, 841, 207, 207, 207, 207, 208, 209, 210, 211, 212, 213, 213, 681,
         681, 681, 681, 682, 683, 684, 685, 686, 687, 688, 688, 727, 727, 727, 727, 728, 729, 729,
         767, 767, 767, 767, 768, 769, 770, 770] &&
       r.unknowns == ["\\pair".toList, "\\textbf".toList, "\\emph".toList, "\\foo".toList, "description".toList, "\\bar".toList]
     | _ => false) = true := by
  obtain ⟨r, h1, h2, h3, h4, _⟩ := C03_mix4_e2e_current C03_mix4_doc C03_mix4_repls C03_mix4_drepls 0
    C03_mix4_example_current C03_mix4_example_fuel
  obtain ⟨e1, e2, e3⟩ := C03_mix4_example_ref
  rw [h1]
  show (r.txt == _ && r.pos == _ && r.unknowns == _) = true
  rw [Bool.and_eq_true, Bool.and_eq_true, beq_iff_eq, beq_iff_eq, beq_iff_eq]
  exact ⟨⟨h2.trans e1, h3.trans e2⟩, h4.trans e3⟩

end Yalafi
