/-
  Properties/PlainGroupStmt.lean — C03 "every word in arguments of unknown or pass-through macros
  appears exactly once, in order; no markup (control sequences, grouping braces) is left" and C02
  "arguments of unknown or pass-through macros carry the offset of that very character", end to end
  on the filter model, for documents of inert text, undeclared control words and brace groups,
  nested arbitrarily (`\name{a1}…{an}` = the control word followed by `n` groups;
  `PlainGroup.mac name [a1, …, an]`).
  Proofs, side conditions and what is not covered: Proofs/PlainGroup.lean.
-/
import YalafiVerif.Proofs.PlainGroup
import YalafiVerif.Generated.Init
namespace Yalafi

/-- **arguments of unknown macros and groups stay in the text flow**, end to end on the filter
    model.  For every document `render doc` of inert text, undeclared control words `\name` and brace
    groups `{ … }` — nested to any depth, so in particular `\name{ … }…{ … }` with arguments that
    again hold such calls — (`PlainGroup.DocOk`: all side conditions, computable), `st1` the state
    after `Parser.__init__`, no `--defs --extr --repl --unkn`, single-language mode, fuel ≥ source
    length + 2: `tex2txt` succeeds; the output text with its (1-based) positions is
    `delLines (marks 0 doc)` where `marks` = every text character with its OWN source position, one
    text-less mark for every brace and every control word, the white space directly behind a control
    word dropped (a run with at most one line break: `skip_space`), and `delLines` = the exact model
    of `remove_pure_action_lines` (a line that consists only of white space and marks, at least one,
    disappears with its line break).  The unknowns list holds the control words, each once, in
    order of first occurrence; no diagnostic is added. -/
theorem C03_unknown_args_e2e (T : PTables) (o : Options) (fs : FS) (thresh : Nat)
    (doc : List PlainGroup.Item) (fuel : Nat) (st1 : PState)
    (hdefs : o.defs = []) (hextr : o.extr = []) (hrepl : o.hasRepl = false) (hunkn : o.unkn = false)
    (hinit : initParser T fuel o (initialState T o false fs) = .ok ((), st1))
    (hok : PlainGroup.DocOk T st1 doc) (hf : (PlainGroup.render doc).length + 2 ≤ fuel) :
    ∃ r, tex2txt T fuel (PlainGroup.render doc) o false thresh fs = .ok r ∧
      r.txt = (PlainMacro.delLines (PlainGroup.marks 0 doc)).map (·.1) ∧
      r.pos = (PlainMacro.delLines (PlainGroup.marks 0 doc)).map (·.2 + 1) ∧
      r.unknowns = (PlainGroup.names doc).eraseDups ∧ r.diags = st1.diags := by
  obtain ⟨r, h1, h2, h3, h4, h5, _⟩ :=
    PlainGroup.tex2txt_groups T o fs thresh doc fuel st1 hdefs hextr hrepl hunkn hinit hok hf
  exact ⟨r, h1, h2, h3, h4, h5⟩

/-- **C03, readable form: the text survives, the markup goes.**  When no line consists of white
    space and markup only (`linesKept`, decidable), the output is exactly `PlainGroup.plain 0 doc`:
    the marks without the text-less ones, i.e. the source with every `{`, `}` and `\name` (plus the
    blanks skipped behind a name) deleted, every character at its own position. -/
theorem C03_unknown_args_text (T : PTables) (o : Options) (fs : FS) (thresh : Nat)
    (doc : List PlainGroup.Item) (fuel : Nat) (st1 : PState)
    (hdefs : o.defs = []) (hextr : o.extr = []) (hrepl : o.hasRepl = false) (hunkn : o.unkn = false)
    (hinit : initParser T fuel o (initialState T o false fs) = .ok ((), st1))
    (hok : PlainGroup.DocOk T st1 doc) (hf : (PlainGroup.render doc).length + 2 ≤ fuel)
    (hk : PlainMacro.linesKept true false (PlainGroup.marks 0 doc) = true) :
    ∃ r, tex2txt T fuel (PlainGroup.render doc) o false thresh fs = .ok r ∧
      r.txt = (PlainGroup.plain 0 doc).map (·.1) ∧
      r.pos = (PlainGroup.plain 0 doc).map (·.2 + 1) := by
  obtain ⟨r, h1, h2, h3, _⟩ := C03_unknown_args_e2e T o fs thresh doc fuel st1 hdefs hextr hrepl hunkn hinit hok hf
  rw [PlainMacro.delLines_kept _ hk] at h2 h3
  exact ⟨r, h1, h2, h3⟩

/-- … and when, in addition, no control word is directly followed by white space
    (`PlainGroup.tight`): the output is `PlainGroup.textOf 0 doc`, all text characters of the
    document — at every depth — in source order with their source positions, nothing else. -/
theorem C03_unknown_args_text_tight (T : PTables) (o : Options) (fs : FS) (thresh : Nat)
    (doc : List PlainGroup.Item) (fuel : Nat) (st1 : PState)
    (hdefs : o.defs = []) (hextr : o.extr = []) (hrepl : o.hasRepl = false) (hunkn : o.unkn = false)
    (hinit : initParser T fuel o (initialState T o false fs) = .ok ((), st1))
    (hok : PlainGroup.DocOk T st1 doc) (hf : (PlainGroup.render doc).length + 2 ≤ fuel)
    (hk : PlainMacro.linesKept true false (PlainGroup.marks 0 doc) = true)
    (ht : PlainGroup.tight doc = true) :
    ∃ r, tex2txt T fuel (PlainGroup.render doc) o false thresh fs = .ok r ∧
      r.txt = (PlainGroup.textOf 0 doc).map (·.1) ∧
      r.pos = (PlainGroup.textOf 0 doc).map (·.2 + 1) := by
  obtain ⟨r, h1, h2, h3⟩ := C03_unknown_args_text T o fs thresh doc fuel st1 hdefs hextr hrepl hunkn hinit hok hf hk
  rw [PlainGroup.plain_tight doc 0 ht] at h2 h3
  exact ⟨r, h1, h2, h3⟩

/-- **C02: every output character carries the offset of that very character.**  The character at
    output index `i` is the source character at the (1-based) position `r.pos[i]`. -/
theorem C02_unknown_args_positions (T : PTables) (o : Options) (fs : FS) (thresh : Nat)
    (doc : List PlainGroup.Item) (fuel : Nat) (st1 : PState)
    (hdefs : o.defs = []) (hextr : o.extr = []) (hrepl : o.hasRepl = false) (hunkn : o.unkn = false)
    (hinit : initParser T fuel o (initialState T o false fs) = .ok ((), st1))
    (hok : PlainGroup.DocOk T st1 doc) (hf : (PlainGroup.render doc).length + 2 ≤ fuel) :
    ∃ r, tex2txt T fuel (PlainGroup.render doc) o false thresh fs = .ok r ∧
      r.pos.length = r.txt.length ∧
      ∀ (i : Nat) (h1 : i < r.txt.length) (h2 : i < r.pos.length),
        1 ≤ r.pos[i] ∧ (PlainGroup.render doc)[r.pos[i] - 1]? = some r.txt[i] := by
  obtain ⟨r, h1, h2, h3, _⟩ := C03_unknown_args_e2e T o fs thresh doc fuel st1 hdefs hextr hrepl hunkn hinit hok hf
  refine ⟨r, h1, by rw [h2, h3]; simp, ?_⟩
  intro i hi1 hi2
  have hi : i < (PlainMacro.delLines (PlainGroup.marks 0 doc)).length := by
    rw [h2] at hi1; simpa using hi1
  have e1 : r.txt[i] = ((PlainMacro.delLines (PlainGroup.marks 0 doc))[i]).1 := by
    simp only [h2, List.getElem_map]
  have e2 : r.pos[i] = ((PlainMacro.delLines (PlainGroup.marks 0 doc))[i]).2 + 1 := by
    simp only [h3, List.getElem_map]
  have hm := PlainVanish.delLines_mem (List.getElem_mem hi)
  obtain ⟨_, hsrc⟩ := PlainGroup.marksA_src (c := _) (q := _) hm
  rw [e1, e2, PlainGroup.render_eq]
  exact ⟨by omega, by simpa using hsrc⟩

/-- **C03: at most once, in order.**  The output positions are strictly increasing: no source
    character is used twice and the order of the source is kept.  (That every argument character
    stays is not claimed here: it is `C03_unknown_args_text`, under `linesKept`; with
    `C02_unknown_args_positions` the output is a subsequence of the source.) -/
theorem C03_unknown_args_once (T : PTables) (o : Options) (fs : FS) (thresh : Nat)
    (doc : List PlainGroup.Item) (fuel : Nat) (st1 : PState)
    (hdefs : o.defs = []) (hextr : o.extr = []) (hrepl : o.hasRepl = false) (hunkn : o.unkn = false)
    (hinit : initParser T fuel o (initialState T o false fs) = .ok ((), st1))
    (hok : PlainGroup.DocOk T st1 doc) (hf : (PlainGroup.render doc).length + 2 ≤ fuel) :
    ∃ r, tex2txt T fuel (PlainGroup.render doc) o false thresh fs = .ok r ∧
      r.pos.Pairwise (· < ·) := by
  obtain ⟨r, h1, _, h3, _⟩ := C03_unknown_args_e2e T o fs thresh doc fuel st1 hdefs hextr hrepl hunkn hinit hok hf
  refine ⟨r, h1, ?_⟩
  have := PlainGroup.delLines_sorted (PlainGroup.atoms doc) 0
  rw [h3, show (fun x : Char × Nat => x.2 + 1) = (· + 1) ∘ (·.2) from rfl, ← List.map_map]
  exact (List.pairwise_map.mpr (this.imp (by intro a b h; exact Nat.succ_lt_succ h)))

/-- **C03: no markup is left.**  The output contains no backslash and no brace. -/
theorem C03_no_markup (T : PTables) (o : Options) (fs : FS) (thresh : Nat)
    (doc : List PlainGroup.Item) (fuel : Nat) (st1 : PState)
    (hdefs : o.defs = []) (hextr : o.extr = []) (hrepl : o.hasRepl = false) (hunkn : o.unkn = false)
    (hinit : initParser T fuel o (initialState T o false fs) = .ok ((), st1))
    (hok : PlainGroup.DocOk T st1 doc) (hf : (PlainGroup.render doc).length + 2 ≤ fuel) :
    ∃ r, tex2txt T fuel (PlainGroup.render doc) o false thresh fs = .ok r ∧
      ∀ c ∈ r.txt, c ≠ '\\' ∧ c ≠ '{' ∧ c ≠ '}' := by
  obtain ⟨r, h1, h2, _⟩ := C03_unknown_args_e2e T o fs thresh doc fuel st1 hdefs hextr hrepl hunkn hinit hok hf
  refine ⟨r, h1, ?_⟩
  intro c hc
  rw [h2] at hc
  obtain ⟨cp, hcp, rfl⟩ := List.mem_map.mp hc
  have hm := PlainVanish.delLines_mem hcp
  exact PlainGroup.not_markup (PlainGroup.atomsOk_chr hok.2 (PlainGroup.marksA_text hm))

/-- the end-to-end theorem for the CURRENT code (tables translated from /repo, default options,
    parser initialisation evaluated by the kernel) -/
theorem C03_unknown_args_e2e_current (doc : List PlainGroup.Item) (thresh : Nat)
    (hok : PlainGroup.DocOk Generated.theTables Generated.stDefault doc)
    (hf : (PlainGroup.render doc).length + 2 ≤ Generated.bigFuel) :
    ∃ r, tex2txt Generated.theTables Generated.bigFuel (PlainGroup.render doc) Generated.defaultOptions
          false thresh [] = .ok r ∧
      r.txt = (PlainMacro.delLines (PlainGroup.marks 0 doc)).map (·.1) ∧
      r.pos = (PlainMacro.delLines (PlainGroup.marks 0 doc)).map (·.2 + 1) ∧
      r.unknowns = (PlainGroup.names doc).eraseDups ∧ r.diags = Generated.stDefault.diags :=
  C03_unknown_args_e2e Generated.theTables Generated.defaultOptions [] thresh doc Generated.bigFuel
    Generated.stDefault rfl rfl rfl rfl Generated.initParser_default hok hf

open PlainGroup in
/-- `Some \textbf{bold \emph{and nested}} text {grouped} \foo{a}{b}.` — nested calls of undeclared
    macros, a group, a call with two arguments — for the tables of the current /repo -/
def C03_unknown_args_doc : List PlainGroup.Item :=
  [.txt "Some ".toList] ++
  mac "textbf".toList [[.txt "bold ".toList] ++ mac "emph".toList [[.txt "and nested".toList]]] ++
  [.txt " text ".toList, .grp [.txt "grouped".toList], .txt " ".toList] ++
  mac "foo".toList [[.txt "a".toList], [.txt "b".toList]] ++ [.txt ".".toList]

theorem C03_unknown_args_doc_src :
    PlainGroup.render C03_unknown_args_doc
      = "Some \\textbf{bold \\emph{and nested}} text {grouped} \\foo{a}{b}.".toList := by
  unfold C03_unknown_args_doc; (repeat rw [String.toList_ofList]); decide +kernel

/-- the context-free conditions hold for it on the real tables (every text character inert by itself, the
    names good, no letter directly behind a name; the real tables scan braces as braces) -/
theorem C03_unknown_args_example_simple :
    PlainGroup.tablesOk Generated.theTables = true ∧
    PlainGroup.docOkSimple Generated.theTables Generated.stDefault C03_unknown_args_doc = true ∧
    PlainGroup.tight C03_unknown_args_doc = true ∧
    PlainMacro.linesKept true false (PlainGroup.marks 0 C03_unknown_args_doc) = true := by
  rw [Generated.stDefault_eq]; unfold C03_unknown_args_doc; (repeat rw [String.toList_ofList]); decide +kernel

/-- … and so do the side conditions of the theorem (`docOk_of_simple`) -/
theorem C03_unknown_args_example_current :
    PlainGroup.DocOk Generated.theTables Generated.stDefault C03_unknown_args_doc :=
  ⟨by rw [Generated.stDefault_eq]; decide +kernel,
    PlainGroup.docOk_of_simple _ _ C03_unknown_args_example_simple.1 _ C03_unknown_args_example_simple.2.1⟩

/-- … and this is what the theorem says about it: the reference output, text and positions -/
theorem C03_unknown_args_example_ref :
    (PlainMacro.delLines (PlainGroup.marks 0 C03_unknown_args_doc)).map (·.1)
        = "Some bold and nested text grouped ab.".toList ∧
    (PlainMacro.delLines (PlainGroup.marks 0 C03_unknown_args_doc)).map (·.2 + 1)
        = [1, 2, 3, 4, 5, 14, 15, 16, 17, 18, 25, 26, 27, 28, 29, 30, 31, 32, 33, 34, 37, 38, 39, 40,
           41, 42, 44, 45, 46, 47, 48, 49, 50, 52, 58, 61, 63] ∧
    (PlainGroup.names C03_unknown_args_doc).eraseDups
        = ["\\textbf".toList, "\\emph".toList, "\\foo".toList] := by
  rw [String.toList_ofList, String.toList_ofList, String.toList_ofList, String.toList_ofList]; decide +kernel

/-- … which is what the model computes (by the theorem and the two evaluations above) -/
theorem C03_unknown_args_example_eval :
    (match tex2txt Generated.theTables Generated.bigFuel (PlainGroup.render C03_unknown_args_doc)
        Generated.defaultOptions false 0 [] with
     | .ok r => r.txt == "Some bold and nested text grouped ab.".toList &&
                r.pos == [1, 2, 3, 4, 5, 14, 15, 16, 17, 18, 25, 26, 27, 28, 29, 30, 31, 32, 33, 34,
                          37, 38, 39, 40, 41, 42, 44, 45, 46, 47, 48, 49, 50, 52, 58, 61, 63] &&
                r.unknowns == ["\\textbf".toList, "\\emph".toList, "\\foo".toList] && r.diags.isEmpty
     | _ => false) = true := by
  obtain ⟨r, h1, h2, h3, h4, h5⟩ := C03_unknown_args_e2e_current C03_unknown_args_doc 0
    C03_unknown_args_example_current (by decide +kernel)
  have h5' : r.diags = [] := by rw [h5, Generated.stDefault_eq]; rfl
  rw [h1]
  simp only [h2, h3, h4, h5', C03_unknown_args_example_ref, beq_self_eq_true, Bool.and_self,
    List.isEmpty_nil]

open PlainGroup in
/-- a second document: white space behind a control word (dropped: `\foo {x}`, also with ONE line
    break; kept with a blank line in between), a line that holds only markup and disappears
    (`{\bar}`), three levels of nesting -/
def C03_unknown_args_doc2 : List PlainGroup.Item :=
  [.txt "A ".toList, .cw "foo".toList, .txt " ".toList, .grp [.txt "x".toList], .txt "\n".toList,
   .grp [.cw "bar".toList], .txt "\nB ".toList, .cw "baz".toList, .txt "\n\nC ".toList] ++
  mac "xa".toList [mac "xb".toList [mac "xc".toList [[.txt "deep".toList]]]] ++
  [.txt "\n".toList, .cw "foo".toList, .txt "\nD".toList]

theorem C03_unknown_args_example2_current :
    PlainGroup.DocOk Generated.theTables Generated.stDefault C03_unknown_args_doc2 := by
  rw [Generated.stDefault_eq]; unfold C03_unknown_args_doc2; (repeat rw [String.toList_ofList]); decide +kernel

theorem C03_unknown_args_example2_eval :
    PlainGroup.render C03_unknown_args_doc2
      = "A \\foo {x}\n{\\bar}\nB \\baz\n\nC \\xa{\\xb{\\xc{deep}}}\n\\foo\nD".toList ∧
    (PlainMacro.delLines (PlainGroup.marks 0 C03_unknown_args_doc2)).map (·.1)
      = "A x\nB \n\nC deep\nD".toList ∧
    (match tex2txt Generated.theTables Generated.bigFuel (PlainGroup.render C03_unknown_args_doc2)
        Generated.defaultOptions false 0 [] with
     | .ok r => r.txt == "A x\nB \n\nC deep\nD".toList &&
                r.unknowns == ["\\foo", "\\bar", "\\baz", "\\xa", "\\xb", "\\xc"].map String.toList
     | _ => false) = true := by
  refine ⟨by rw [String.toList_ofList]; decide +kernel, by rw [String.toList_ofList]; decide +kernel, ?_⟩
  obtain ⟨r, h1, h2, _, h4, _⟩ := C03_unknown_args_e2e_current C03_unknown_args_doc2 0
    C03_unknown_args_example2_current (by decide +kernel)
  rw [h1]
  simp only [h2, h4]
  rw [String.toList_ofList]; decide +kernel

end Yalafi
