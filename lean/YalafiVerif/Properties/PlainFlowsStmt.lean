/-
  Properties/PlainFlowsStmt.lean — C03 "detached flows (footnotes, captions) follow the main flow, each
  complete and in order of appearance", end to end on the filter model, for ALL macros of the tables
  that detach an argument (`\footnote`, `\footnotetext`, `\caption`: `C03_flow_macros_current`), with
  and without optional argument, inside and outside the float environments `figure` / `table`.
  Proofs, side conditions, what is not covered: Proofs/PlainFlows.lean (header),
  Proofs/PlainFlowsBase.lean (expander level), Proofs/PlainFlowsRead.lean (readings).
-/
import YalafiVerif.Proofs.PlainFlowsRead
import YalafiVerif.Generated.Init
namespace Yalafi

open PlainFlows in
/-- **detached flows, end to end.**  For every document `render segs` of inert text, calls
    `\name{body}` / `\name[opt]{body}` of macros declared like `\footnote` and float environments
    `\begin{name}` / `\begin{name}[placement]` … `\end{name}` declared like `figure`
    (`PlainFlows.SegsOk`: all side conditions, computable), `st1` the state after `Parser.__init__`,
    no `--defs --extr --repl --unkn`, single-language mode, fuel ≥ source length + 4: `tex2txt`
    succeeds; the output text with its (1-based) positions is
    `refOut segs = delLines (marks 0 segs) ++ flows 0 segs`:

    * `marks`: a text character with its own position; a call = ONE text-less mark at the call site
      (nothing of `opt` or `body` stays); `\begin{…}` = two text-less marks (the white space behind
      `\begin{name}` is swallowed), `\end{…}` = one;
    * `delLines`: every line that consists of white space and at least one text-less mark is
      deleted with its line break (`remove_pure_action_lines`); nothing else;
    * `flows`: behind ALL main text, for every call in source order, three line breaks pinned to the
      first body character, the body at its own positions, one line break pinned to the start of
      the last token of the body;
    * no unknowns, no diagnostic beyond those of the initialisation. -/
theorem C03_detached_flows_e2e (T : PTables) (o : Options) (fs : FS) (thresh : Nat)
    (segs : List PlainFlows.Seg) (fuel : Nat) (st1 : PState)
    (hdefs : o.defs = []) (hextr : o.extr = []) (hrepl : o.hasRepl = false) (hunkn : o.unkn = false)
    (hinit : initParser T fuel o (initialState T o false fs) = .ok ((), st1))
    (hok : PlainFlows.SegsOk T st1 segs) (hf : (PlainFlows.render segs).length + 4 ≤ fuel) :
    ∃ r, tex2txt T fuel (PlainFlows.render segs) o false thresh fs = .ok r ∧
      r.txt = (PlainFlows.refOut segs).map (·.1) ∧
      r.pos = (PlainFlows.refOut segs).map (·.2 + 1) ∧
      r.unknowns = [] ∧ r.diags = st1.diags := by
  obtain ⟨r, h1, h2, h3, h4, h5, _⟩ :=
    tex2txt_flows T o fs thresh segs fuel st1 hdefs hextr hrepl hunkn hinit hok hf
  exact ⟨r, h1, h2, h3, h4, h5⟩

open PlainFlows in
/-- **the flows appear in source order of their calls, after all main text.**  `bodies 0 segs` lists
    the calls of the document in source order (`b.1` = 0-based offset of the first body character,
    `b.2` = the body); the offsets increase and a body ends before the next one starts.  The output
    text is the main text (`delLines (marks 0 segs)`: text characters only) followed, for these calls
    IN THIS ORDER, by three line breaks, the body and one line break; with positions: `flowOut b.1 b.2`
    for each. -/
theorem C03_flows_order (T : PTables) (o : Options) (fs : FS) (thresh : Nat)
    (segs : List PlainFlows.Seg) (fuel : Nat) (st1 : PState)
    (hdefs : o.defs = []) (hextr : o.extr = []) (hrepl : o.hasRepl = false) (hunkn : o.unkn = false)
    (hinit : initParser T fuel o (initialState T o false fs) = .ok ((), st1))
    (hok : PlainFlows.SegsOk T st1 segs) (hf : (PlainFlows.render segs).length + 4 ≤ fuel) :
    ∃ r, tex2txt T fuel (PlainFlows.render segs) o false thresh fs = .ok r ∧
      r.txt = (PlainMacro.delLines (marks 0 segs)).map (·.1)
        ++ (bodies 0 segs).flatMap (fun b => [nl, nl, nl] ++ b.2 ++ [nl]) ∧
      r.pos = ((PlainMacro.delLines (marks 0 segs))
        ++ (bodies 0 segs).flatMap (fun b => PlainFootnote.flowOut b.1 b.2)).map (·.2 + 1) ∧
      (bodies 0 segs).Pairwise (fun a b => a.1 + a.2.length < b.1) ∧
      (∀ cp ∈ PlainMacro.delLines (marks 0 segs), cp ∈ textChars 0 segs) := by
  obtain ⟨r, h1, h2, h3, _⟩ :=
    tex2txt_flows T o fs thresh segs fuel st1 hdefs hextr hrepl hunkn hinit hok hf
  refine ⟨r, h1, ?_, ?_, bodies_sorted segs 0, fun cp h => main_sub_text h⟩
  · rw [h2, refOut, List.map_append, flows_text]
  · rw [h3, refOut, flows_eq_bodies]

open PlainFlows in
/-- **every flow is complete and appears exactly once.**  For every call of the document (`b ∈ bodies 0
    segs`): the source text has the body at offset `b.1`; the output (characters with 0-based
    positions, `refOut`) is `A ++ flowOut b.1 b.2 ++ B` — three line breaks, EVERY body character at
    its own position, one line break — and no other entry of the output (main flow or another flow)
    has a position in the span of the body. -/
theorem C03_flows_complete (T : PTables) (o : Options) (fs : FS) (thresh : Nat)
    (segs : List PlainFlows.Seg) (fuel : Nat) (st1 : PState)
    (hdefs : o.defs = []) (hextr : o.extr = []) (hrepl : o.hasRepl = false) (hunkn : o.unkn = false)
    (hinit : initParser T fuel o (initialState T o false fs) = .ok ((), st1))
    (hok : PlainFlows.SegsOk T st1 segs) (hf : (PlainFlows.render segs).length + 4 ≤ fuel) :
    ∃ r, tex2txt T fuel (PlainFlows.render segs) o false thresh fs = .ok r ∧
      r.txt = (refOut segs).map (·.1) ∧ r.pos = (refOut segs).map (·.2 + 1) ∧
      ∀ b ∈ bodies 0 segs,
        ((PlainFlows.render segs).drop b.1).take b.2.length = b.2 ∧
        ∃ A B, refOut segs = A ++ PlainFootnote.flowOut b.1 b.2 ++ B ∧
          (∀ cp ∈ A, cp.2 < b.1 ∨ b.1 + b.2.length < cp.2) ∧
          (∀ cp ∈ B, cp.2 < b.1 ∨ b.1 + b.2.length < cp.2) := by
  obtain ⟨r, h1, h2, h3, _⟩ :=
    tex2txt_flows T o fs thresh segs fuel st1 hdefs hextr hrepl hunkn hinit hok hf
  refine ⟨r, h1, h2, h3, fun b hb => ⟨?_, flow_block segs 0 b hb⟩⟩
  simpa using (bodies_in_source segs 0 b hb).2

open PlainFlows in
/-- **nothing of an optional argument appears.**  No output position — of the main flow or of a
    flow — lies inside the source span of an optional argument `[opt]` of a call or of a placement
    `[…]` of a float (`optSpans`: start and length, brackets included; positions 0-based here,
    `r.pos` is 1-based). -/
theorem C03_optional_hidden (T : PTables) (o : Options) (fs : FS) (thresh : Nat)
    (segs : List PlainFlows.Seg) (fuel : Nat) (st1 : PState)
    (hdefs : o.defs = []) (hextr : o.extr = []) (hrepl : o.hasRepl = false) (hunkn : o.unkn = false)
    (hinit : initParser T fuel o (initialState T o false fs) = .ok ((), st1))
    (hok : PlainFlows.SegsOk T st1 segs) (hf : (PlainFlows.render segs).length + 4 ≤ fuel) :
    ∃ r, tex2txt T fuel (PlainFlows.render segs) o false thresh fs = .ok r ∧
      ∀ q ∈ r.pos, ∀ x ∈ optSpans 0 segs, q < x.1 + 1 ∨ x.1 + x.2 + 1 ≤ q := by
  obtain ⟨r, h1, _, h3, _⟩ :=
    tex2txt_flows T o fs thresh segs fuel st1 hdefs hextr hrepl hunkn hinit hok hf
  refine ⟨r, h1, ?_⟩
  intro q hq x hx
  rw [h3] at hq
  obtain ⟨cp, hcp, rfl⟩ := List.mem_map.mp hq
  have := out_avoids_opt segs 0 cp x hcp hx
  omega

/-- the macros of the CURRENT tables (parser state after `Parser.__init__`, default options) that
    detach an argument are exactly `\caption`, `\footnote`, `\footnotetext`, and each is declared
    with `flowDeclOk` (argument codes `OA`, no handler, empty replacement, extraction `#2`); the float
    environments `figure` and `table` are declared with `figEnvOk`; `\footnotemark` (defined by `\newcommand{\footnotemark}[1][]{}`) detaches nothing -/
theorem C03_flow_macros_current :
    (Generated.stDefault.macros.filter (fun m => !m.extract.isEmpty)).map (·.name)
      = ["\\caption".toList, "\\footnote".toList, "\\footnotetext".toList] ∧
    (Generated.stDefault.macros.filter (fun m => !m.extract.isEmpty)).all PlainFlows.flowDeclOk = true ∧
    PlainFlows.figEnvAt Generated.stDefault "figure".toList = true ∧
    PlainFlows.figEnvAt Generated.stDefault "table".toList = true ∧
    ((lookupMacro Generated.stDefault "\\footnotemark".toList).map (fun m => (m.args, m.extract.isEmpty)))
      = some (['O'], true) := by
  rw [Generated.stDefault_eq]; (repeat rw [String.toList_ofList]); decide +kernel

/-- the end-to-end theorem for the CURRENT code (tables translated from /repo, default options,
    parser initialisation evaluated by the kernel) -/
theorem C03_detached_flows_current (segs : List PlainFlows.Seg) (thresh : Nat)
    (hok : PlainFlows.SegsOk Generated.theTables Generated.stDefault segs)
    (hf : (PlainFlows.render segs).length + 4 ≤ Generated.bigFuel) :
    ∃ r, tex2txt Generated.theTables Generated.bigFuel (PlainFlows.render segs) Generated.defaultOptions
          false thresh [] = .ok r ∧
      r.txt = (PlainFlows.refOut segs).map (·.1) ∧
      r.pos = (PlainFlows.refOut segs).map (·.2 + 1) ∧
      r.unknowns = [] ∧ r.diags = Generated.stDefault.diags :=
  C03_detached_flows_e2e Generated.theTables Generated.defaultOptions [] thresh segs Generated.bigFuel
    Generated.stDefault rfl rfl rfl rfl Generated.initParser_default hok hf

namespace PlainFlowsExample
open PlainFlows

/-- `Text\footnote[2]{first note} more \footnotetext{second} end.⏎\caption[short]{A long caption}` -/
def doc1 : List PlainFlows.Seg :=
  [.txt "Text".toList, .callO "footnote".toList "2".toList "first note".toList,
   .txt " more ".toList, .call "footnotetext".toList "second".toList, .txt " end.\n".toList,
   .callO "caption".toList "short".toList "A long caption".toList]

/-- `A⏎\begin{figure}⏎\caption{Cap text}⏎\end{figure}⏎B⏎` -/
def doc2 : List PlainFlows.Seg :=
  [.txt "A\n".toList, .beg "figure".toList "\n".toList, .call "caption".toList "Cap text".toList,
   .txt "\n".toList, .en "figure".toList, .txt "\nB\n".toList]

/-- `A⏎\begin{table}[ht]⏎body \caption[]{Cap⏎⏎ text}⏎\end{table}⏎B⏎` (empty optional argument, a
    blank line inside the body, text inside the float) -/
def doc3 : List PlainFlows.Seg :=
  [.txt "A\n".toList, .begN "table".toList "ht".toList, .txt "\nbody ".toList,
   .callO "caption".toList [] "Cap\n\n text".toList, .txt "\n".toList, .en "table".toList,
   .txt "\nB\n".toList]

theorem doc1_src : PlainFlows.render doc1
    = "Text\\footnote[2]{first note} more \\footnotetext{second} end.\n\\caption[short]{A long caption}".toList := by
  unfold doc1; (repeat rw [String.toList_ofList]); decide

theorem doc2_src : PlainFlows.render doc2 = "A\n\\begin{figure}\n\\caption{Cap text}\n\\end{figure}\nB\n".toList := by
  unfold doc2; (repeat rw [String.toList_ofList]); decide

theorem doc3_src : PlainFlows.render doc3
    = "A\n\\begin{table}[ht]\nbody \\caption[]{Cap\n\n text}\n\\end{table}\nB\n".toList := by
  unfold doc3; (repeat rw [String.toList_ofList]); decide

end PlainFlowsExample

open PlainFlowsExample in
/-- three concrete documents satisfy all side conditions on the real tables -/
theorem C03_detached_flows_example_current :
    PlainFlows.SegsOk Generated.theTables Generated.stDefault doc1 ∧
    PlainFlows.SegsOk Generated.theTables Generated.stDefault doc2 ∧
    PlainFlows.SegsOk Generated.theTables Generated.stDefault doc3 := by
  rw [Generated.stDefault_eq]; unfold doc1 doc2 doc3; (repeat rw [String.toList_ofList]); decide +kernel

/-- `Parser.__init__` with the fuel of the evaluations below -/
theorem PlainFlowsExample.initParser_200 :
    initParser Generated.theTables 200 Generated.defaultOptions
      (initialState Generated.theTables Generated.defaultOptions false []) = .ok ((), Generated.stDefaultNF) :=
  Generated.initParser_builtins (f := 197) rfl rfl (by decide +kernel)

open PlainFlowsExample in
/-- the reference output of the first document: the main text without the calls (the line of
    `\caption` has disappeared), then the three flows in source order; of `[2]` and `[short]`
    nothing appears (1-based positions) -/
theorem C03_detached_flows_doc1_ref :
    (PlainFlows.refOut doc1).map (·.1)
      = "Text more  end.\n\n\n\nfirst note\n\n\n\nsecond\n\n\n\nA long caption\n".toList ∧
    (PlainFlows.refOut doc1).map (·.2 + 1)
      = [1, 2, 3, 4, 29, 30, 31, 32, 33, 34, 56, 57, 58, 59, 60, 61,
         18, 18, 18, 18, 19, 20, 21, 22, 23, 24, 25, 26, 27, 27,
         49, 49, 49, 49, 50, 51, 52, 53, 54, 54,
         78, 78, 78, 78, 79, 80, 81, 82, 83, 84, 85, 86, 87, 88, 89, 90, 91, 91] := by
  unfold doc1; (repeat rw [String.toList_ofList]); decide +kernel

open PlainFlowsExample in
/-- the model on the first document with the real tables: the output is the reference output
    (`C03_detached_flows_e2e` with the side conditions and the reference evaluated above) -/
theorem C03_detached_flows_doc1_eval :
    (match tex2txt Generated.theTables 200 (PlainFlows.render doc1) Generated.defaultOptions false 0 [] with
     | .ok r => r.txt == "Text more  end.\n\n\n\nfirst note\n\n\n\nsecond\n\n\n\nA long caption\n".toList &&
        r.pos == (PlainFlows.refOut doc1).map (·.2 + 1) && r.unknowns.isEmpty
     | _ => false) = true := by
  obtain ⟨r, h1, ht, hp, hu, _⟩ := C03_detached_flows_e2e Generated.theTables Generated.defaultOptions [] 0 doc1
    200 Generated.stDefaultNF rfl rfl rfl rfl initParser_200
    (Generated.stDefault_eq ▸ C03_detached_flows_example_current.1) (by decide +kernel)
  simp [h1, ht, hp, hu, C03_detached_flows_doc1_ref.1]

open PlainFlowsExample in
/-- the caption inside a float: every line of the float is a pure Action line and disappears; the
    caption follows the main text (kernel evaluation of the reference; the model by
    `C03_detached_flows_e2e`) -/
theorem C03_detached_flows_doc2_eval :
    (PlainFlows.refOut doc2).map (·.1) = "A\nB\n\n\n\nCap text\n".toList ∧
    (PlainFlows.refOut doc2).map (·.2 + 1) = [1, 2, 50, 51, 27, 27, 27, 27, 28, 29, 30, 31, 32, 33, 34, 34] ∧
    (match tex2txt Generated.theTables 200 (PlainFlows.render doc2) Generated.defaultOptions false 0 [] with
     | .ok r => r.txt == (PlainFlows.refOut doc2).map (·.1) &&
        r.pos == (PlainFlows.refOut doc2).map (·.2 + 1) && r.unknowns.isEmpty
     | _ => false) = true := by
  obtain ⟨r, h1, ht, hp, hu, _⟩ := C03_detached_flows_e2e Generated.theTables Generated.defaultOptions [] 0 doc2
    200 Generated.stDefaultNF rfl rfl rfl rfl initParser_200
    (Generated.stDefault_eq ▸ C03_detached_flows_example_current.2.1) (by decide +kernel)
  exact ⟨by rw [String.toList_ofList]; decide +kernel, by decide +kernel, by simp [h1, ht, hp, hu]⟩

open PlainFlowsExample in
/-- text inside the float stays in the main flow, the placement `[ht]` and the empty `[]` vanish, the
    blank line inside the caption is kept -/
theorem C03_detached_flows_doc3_eval :
    (PlainFlows.refOut doc3).map (·.1) = "A\nbody \nB\n\n\n\nCap\n\n text\n".toList ∧
    (match tex2txt Generated.theTables 200 (PlainFlows.render doc3) Generated.defaultOptions false 0 [] with
     | .ok r => r.txt == (PlainFlows.refOut doc3).map (·.1) &&
        r.pos == (PlainFlows.refOut doc3).map (·.2 + 1) && r.unknowns.isEmpty
     | _ => false) = true := by
  obtain ⟨r, h1, ht, hp, hu, _⟩ := C03_detached_flows_e2e Generated.theTables Generated.defaultOptions [] 0 doc3
    200 Generated.stDefaultNF rfl rfl rfl rfl initParser_200
    (Generated.stDefault_eq ▸ C03_detached_flows_example_current.2.2) (by decide +kernel)
  exact ⟨by rw [String.toList_ofList]; decide +kernel, by simp [h1, ht, hp, hu]⟩

/-- `\footnotemark` and `\footnotemark[3]` vanish (declared with `O`, no extraction, an empty replacement):
    kernel evaluation of the model; OUTSIDE the document class of the theorems above -/
theorem C03_footnotemark_eval :
    (match tex2txt Generated.theTables 200 "A\\footnotemark B\\footnotemark[3] C\n".toList
        Generated.defaultOptions false 0 [] with
     | .ok r => r.txt == "AB C\n".toList && r.pos == [1, 16, 33, 34, 35] && r.unknowns.isEmpty
     | _ => false) = true := by
  rw [tex2txt_of_init PlainFlowsExample.initParser_200]; decide +kernel

end Yalafi
