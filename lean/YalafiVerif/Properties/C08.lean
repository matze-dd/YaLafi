/-
  Properties/C08.lean — LaTeX problems yield the full error mark at the right place.

  Proved for all inputs: the texts of the tokens `latex_error` returns concatenate to the
  complete mark ' ' ++ mark ++ ' ' (…), all tokens are fixed, the first one sits at the
  position of the problem and all are in range — also at the last character of the text and
  when the mark is longer than the rest; the diagnostic's (line, column) is the unique pair
  for that position; the scanner passes the complete mark on for unterminated \verb and
  verbatim (after the `fix:` commit 0650e30).  End to end, one theorem per kind of fault
  (diagnostic, mark position, text before and behind kept): Properties/PlainFaultStmt.lean,
  Properties/PlainMathOpenStmt.lean, `C08_verb_unterminated` below; beyond these document classes the
  same is checked by fault injection on the implementation, silence on well-formed generated documents.
-/
import YalafiVerif.Proofs.Scanner
import YalafiVerif.Proofs.LineCol
import YalafiVerif.Proofs.PlainVerb
import YalafiVerif.Generated.Init
import YalafiVerif.Properties.PlainMathOpenStmt
import YalafiVerif.Properties.PlainFaultStmt
namespace Yalafi

theorem C08_latexError_mark (T : Tables) (err : Str) (pos n : Nat) :
    (getTxtPos (latexErrorToks T err pos n)).1 = errMark T err :=
  latexErrorToks_text T err pos n

theorem C08_latexError_inRange (T : Tables) (hm : T.mark ≠ []) (err : Str) (pos n : Nat) (hp : pos < n) :
    (∀ t ∈ latexErrorToks T err pos n, t.fix = true ∧ t.kind = .text ∧ t.pos < n) ∧
    (latexErrorToks T err pos n).head?.map (·.pos) = some pos ∧
    ∀ p ∈ (getTxtPos (latexErrorToks T err pos n)).2, p < n :=
  latexErrorToks_inv T hm err pos n hp

theorem C08_lineCol (src : Str) (pos : Nat) (hp : pos ≤ src.length) :
    lineStart src pos ≤ pos ∧
    colOf src pos = pos - lineStart src pos + 1 ∧
    lineOf src pos = countNl (src.take pos) + 1 ∧
    countNl ((src.take pos).drop (lineStart src pos)) = 0 ∧
    (lineStart src pos = 0 ∨ src.getD (lineStart src pos - 1) ' ' = nl) :=
  lineCol_correct src pos hp

theorem C08_scanVerb_mark (T : Tables) (src : Str) (start : Nat) (rest : Str)
    (h : (scanVerb T src start rest).diag ≠ none) :
    (scanVerb T src start rest).tok :: (scanVerb T src start rest).extra = latexErrorToks T errBadVerb start src.length :=
  scanVerb_err_mark T src start rest h

theorem C08_scanVerbatim_mark (T : Tables) (src : Str) (start : Nat) (rest : Str)
    (h : (scanVerbatim T src start rest).diag ≠ none) :
    (scanVerbatim T src start rest).tok :: (scanVerbatim T src start rest).extra =
      latexErrorToks T errMissingEndVerbatim start src.length :=
  scanVerbatim_err_mark T src start rest h

/-- **an unterminated `\\verb` yields exactly one diagnostic at its line and column and the complete
    error mark at its position**, end to end on the filter model: for `pre ++ \\verb d content` with
    inert `pre` and `content` running to the end of the source (no `d`, no line break), the text
    before is unchanged, the complete mark follows, the content is dropped, and the diagnostics grow
    by exactly `bad \\verb argument` at (line, column) of the backslash.  The positions are not
    restated here (`tex2txt_verb_unterminated`, Proofs/PlainVerb.lean: the text before at its own
    positions, the characters of the mark at the backslash of `\\verb`, the part of a mark longer than
    the faulty construct at the last source position, as `latex_error` does; also `C08_verb_segments`) -/
theorem C08_verb_unterminated (T : PTables) (o : Options) (fs : FS) (thresh : Nat)
    (pre : Str) (d : Char) (content : Str) (fuel : Nat) (st1 : PState)
    (hdefs : o.defs = []) (hextr : o.extr = []) (hrepl : o.hasRepl = false) (hunkn : o.unkn = false)
    (hinit : initParser T fuel o (initialState T o false fs) = .ok ((), st1))
    (hok : vsegsOk T st1 [.txt pre, .bad d content] = true)
    (hf : (pre ++ (sVerb ++ d :: content)).length + 2 ≤ fuel) :
    ∃ r, tex2txt T fuel (pre ++ (sVerb ++ d :: content)) o false thresh fs = .ok r ∧
      r.txt = pre ++ errMark T.toTables errBadVerb ∧
      r.unknowns = [] ∧
      r.diags = st1.diags ++ [latexErrorDiag errBadVerb pre.length (pre ++ (sVerb ++ d :: content))] := by
  obtain ⟨r, h1, h2, _, h4, h5, _⟩ :=
    tex2txt_verb_unterminated T o fs thresh pre d content fuel st1 hdefs hextr hrepl hunkn hinit hok hf
  exact ⟨r, h1, h2, h4, h5⟩

/-- several unterminated `\\verb`s (each up to its line break) give one diagnostic each, in order -/
theorem C08_verb_segments (T : PTables) (o : Options) (fs : FS) (thresh : Nat) (segs : List VSeg)
    (fuel : Nat) (st1 : PState)
    (hdefs : o.defs = []) (hextr : o.extr = []) (hrepl : o.hasRepl = false) (hunkn : o.unkn = false)
    (hinit : initParser T fuel o (initialState T o false fs) = .ok ((), st1))
    (hok : vsegsOk T st1 segs = true) (hlines : vlinesOK segs = true)
    (hf : (renderV segs).length + 2 ≤ fuel) :
    ∃ r, tex2txt T fuel (renderV segs) o false thresh fs = .ok r ∧
      r.txt = (outV T.toTables (renderV segs).length 0 segs).map (·.1) ∧
      r.pos = (outV T.toTables (renderV segs).length 0 segs).map (·.2 + 1) ∧
      r.unknowns = [] ∧ r.diags = st1.diags ++ diagsV (renderV segs) 0 segs :=
  tex2txt_verb_segs T o fs thresh segs fuel st1 hdefs hextr hrepl hunkn hinit hok hlines hf

end Yalafi
