/-
  Properties/PlainDefsStmt.lean — C09, last sentence: "The text extracted from the rest of the document
  is the same, with positions shifted by a constant, whether the definitions stand in the document [or]
  in the file given with --defs": the `--defs` route end to end (Proofs/PlainDefs.lean) and the
  comparison of the two runs (Proofs/PlainDefsCmp.lean), for the document class of
  Proofs/PlainMacroArgs.lean.  (`\LTinput` is not covered.)
-/
import YalafiVerif.Proofs.PlainDefsCmp
import YalafiVerif.Generated.Init
namespace Yalafi

/-- **the `--defs` route**, end to end on the filter model.

    `D`, `X`: documents of the class of `C09_newcommand_args_e2e` (inert text, definitions
    `\newcommand{\name}[n]{body}`, uses `\name{a1}…{am}`); `render D` is given as `--defs`
    (`o.defs = render D`; the empty text = no `--defs`), `render X` is the document.

    Claim: `tex2txt` succeeds and
    * text / 1-based positions are `delLines (segMarks Σ_D 0 X)` with `Σ_D = envAfter [] D` the
      definitions of `D` in force (latest first): the output of `X` exactly as described in
      `C09_newcommand_args_e2e`, but with the definitions of `D` known from the start; positions are
      positions in `X`; NOTHING of `D` reaches the text (text and uses inside `D` are expanded and
      dropped: `parse` keeps only language tokens of the definitions run);
    * `unknowns` is the list of the run on `D ++ X`: a name used in `D` before its definition IS
      reported (`parse` clears the list before, not after, reading the definitions);
    * no diagnostic is added. -/
theorem C09_defs_route_e2e (T : PTables) (o : Options) (fs : FS) (thresh : Nat)
    (D X : List PlainMacroArgs.Seg) (fuel : Nat) (st1 : PState)
    (hdefs : o.defs = PlainMacroArgs.render D) (hextr : o.extr = []) (hrepl : o.hasRepl = false)
    (hunkn : o.unkn = false)
    (hinit : initParser T fuel o (initialState T o false fs) = .ok ((), st1))
    (hok : PlainMacroArgs.DefsOk T st1 D X)
    (hfD : (PlainMacroArgs.render D).length + PlainMacroArgs.segInserted [] 0 D + 6 ≤ fuel)
    (hfX : (PlainMacroArgs.render X).length
      + PlainMacroArgs.segInserted (PlainMacroArgs.envAfter [] D) 0 X + 6 ≤ fuel) :
    ∃ r, tex2txt T fuel (PlainMacroArgs.render X) o false thresh fs = .ok r ∧
      r.txt = (PlainMacro.delLines
        (PlainMacroArgs.segMarks (PlainMacroArgs.envAfter [] D) 0 X)).map (·.1) ∧
      r.pos = (PlainMacro.delLines
        (PlainMacroArgs.segMarks (PlainMacroArgs.envAfter [] D) 0 X)).map (·.2 + 1) ∧
      r.unknowns = (PlainMacroArgs.segUnknowns [] (D ++ X)).eraseDups ∧
      r.diags = st1.diags ∧ r.parts = [] :=
  PlainMacroArgs.tex2txt_defs_route T o fs thresh D X fuel st1 hdefs hextr hrepl hunkn hinit hok hfD hfX

/-- **definitions in the document versus `--defs`**: same text, positions shifted by a constant.

    `D = defLines ds`: the definitions `\newcommand{\name}[n]{body}`, each followed by a line break
    (every definition on a line of its own); `X`: a document of the class.
    `r0` = result for the source `D ++ X` without `--defs`; `r1` = result for the source `X` with
    `--defs D` (all other options equal).  Both runs succeed,
      `r0.txt = r1.txt`, `r0.pos = r1.pos.map (· + |D|)`, `r0.unknowns = r1.unknowns`,
      `r0.diags = r1.diags`,
    and `r1` is `delLines (segMarks ds.reverse 0 X)` (the definitions of `ds` in force, the last one
    first).  In the in-document run the lines of `D` are deleted by `remove_pure_action_lines`. -/
theorem C09_defs_vs_document (T : PTables) (o : Options) (fs : FS) (thresh : Nat)
    (ds : List (Str × Nat × List PlainMacroArgs.BP)) (X : List PlainMacroArgs.Seg) (fuel : Nat) (st1 : PState)
    (hdefs : o.defs = []) (hextr : o.extr = []) (hrepl : o.hasRepl = false) (hunkn : o.unkn = false)
    (hinit : initParser T fuel o (initialState T o false fs) = .ok ((), st1))
    (hok : PlainMacroArgs.CmpOk T st1 ds X)
    (hf : (PlainMacroArgs.render (PlainMacroArgs.defLines ds ++ X)).length
      + PlainMacroArgs.segInserted [] 0 (PlainMacroArgs.defLines ds ++ X) + 6 ≤ fuel) :
    ∃ r0 r1,
      tex2txt T fuel (PlainMacroArgs.render (PlainMacroArgs.defLines ds ++ X)) o false thresh fs = .ok r0 ∧
      tex2txt T fuel (PlainMacroArgs.render X)
        { o with defs := PlainMacroArgs.render (PlainMacroArgs.defLines ds) } false thresh fs = .ok r1 ∧
      r0.txt = r1.txt ∧
      r0.pos = r1.pos.map (· + (PlainMacroArgs.render (PlainMacroArgs.defLines ds)).length) ∧
      r0.unknowns = r1.unknowns ∧ r0.diags = r1.diags ∧
      r1.txt = (PlainMacro.delLines (PlainMacroArgs.segMarks ds.reverse 0 X)).map (·.1) ∧
      r1.pos = (PlainMacro.delLines (PlainMacroArgs.segMarks ds.reverse 0 X)).map (·.2 + 1) :=
  PlainMacroArgs.tex2txt_defs_vs_document T o fs thresh ds X fuel st1 hdefs hextr hrepl hunkn hinit hok hf

/-- `tex2txt` with `--defs d` and the default options otherwise is `parse` from the initialised state
    (`--defs` plays no part in `Parser.__init__`) -/
theorem tex2txt_default_defs (d latex : Str) (thresh : Nat) :
    tex2txt Generated.theTables Generated.bigFuel latex { Generated.defaultOptions with defs := d } false thresh []
      = finishT2T Generated.theTables { Generated.defaultOptions with defs := d } false thresh
          (parse Generated.theTables Generated.bigFuel latex d [] Generated.stDefaultNF) :=
  tex2txt_of_init (o := { Generated.defaultOptions with defs := d }) Generated.initResult_eq latex thresh

/-- the definitions of the instance: `\newcommand{\pp}[2]{a#2b#1c}⏎\newcommand{\qq}[0]{lorem}⏎`
    (56 characters) -/
def defsExampleD : List (Str × Nat × List PlainMacroArgs.BP) :=
  [("pp".toList, 2, [.lit "a".toList, .par 2, .lit "b".toList, .par 1, .lit "c".toList]),
   ("qq".toList, 0, [.lit "lorem".toList])]

/-- the document of the instance: `X \pp{uu}{vv} Y \qq{z} Z.⏎` -/
def defsExampleX : List PlainMacroArgs.Seg :=
  [.txt "X ".toList, .use "pp".toList ["uu".toList, "vv".toList], .txt " Y ".toList,
   .use "qq".toList ["z".toList], .txt " Z.\n".toList]

theorem defsExample_render :
    PlainMacroArgs.render (PlainMacroArgs.defLines defsExampleD)
      = "\\newcommand{\\pp}[2]{a#2b#1c}\n\\newcommand{\\qq}[0]{lorem}\n".toList ∧
    PlainMacroArgs.render defsExampleX = "X \\pp{uu}{vv} Y \\qq{z} Z.\n".toList := by
  rw [String.toList_ofList, String.toList_ofList]; decide +kernel

/-- the side conditions of both theorems hold for the parser initialised from the tables of the
    current /repo -/
theorem C09_defs_route_current :
    PlainMacroArgs.DefsOk Generated.theTables Generated.stDefault
      (PlainMacroArgs.defLines defsExampleD) defsExampleX := by
  rw [Generated.stDefault_eq]; decide +kernel

theorem C09_defs_vs_document_current :
    PlainMacroArgs.CmpOk Generated.theTables Generated.stDefault defsExampleD defsExampleX := by
  rw [Generated.stDefault_eq]; decide +kernel

/-- the reference output of the `--defs` run, evaluated: text `X avvbuuc Y loremz Z.` -/
theorem C09_defs_route_current_ref :
    (PlainMacro.delLines (PlainMacroArgs.segMarks defsExampleD.reverse 0 defsExampleX)).map (·.1)
        = "X avvbuuc Y loremz Z.\n".toList ∧
    (PlainMacro.delLines (PlainMacroArgs.segMarks defsExampleD.reverse 0 defsExampleX)).map (·.2 + 1)
        = [1, 2, 7, 11, 12, 12, 7, 8, 8, 14, 15, 16, 17, 17, 17, 17, 17, 21, 23, 24, 25, 26] ∧
    (PlainMacroArgs.segUnknowns [] (PlainMacroArgs.defLines defsExampleD ++ defsExampleX)).eraseDups = [] := by
  rw [String.toList_ofList]; decide +kernel

/-- … and so both runs of `tex2txt` on the real tables yield exactly that: equal texts, positions that
    differ by `|D| = 56` (instance of `C09_defs_vs_document`) -/
theorem C09_defs_vs_document_current_e2e :
    ∃ r0 r1,
      tex2txt Generated.theTables Generated.bigFuel
        "\\newcommand{\\pp}[2]{a#2b#1c}\n\\newcommand{\\qq}[0]{lorem}\nX \\pp{uu}{vv} Y \\qq{z} Z.\n".toList
        Generated.defaultOptions false 0 [] = .ok r0 ∧
      tex2txt Generated.theTables Generated.bigFuel "X \\pp{uu}{vv} Y \\qq{z} Z.\n".toList
        { Generated.defaultOptions with
          defs := "\\newcommand{\\pp}[2]{a#2b#1c}\n\\newcommand{\\qq}[0]{lorem}\n".toList } false 0 [] = .ok r1 ∧
      r0.txt = r1.txt ∧ r0.pos = r1.pos.map (· + 56) ∧
      r1.txt = "X avvbuuc Y loremz Z.\n".toList ∧
      r1.pos = [1, 2, 7, 11, 12, 12, 7, 8, 8, 14, 15, 16, 17, 17, 17, 17, 17, 21, 23, 24, 25, 26] ∧
      r0.unknowns = [] ∧ r1.unknowns = [] := by
  obtain ⟨r0, r1, h0, h1, t, p, u, _, t1, p1⟩ := C09_defs_vs_document Generated.theTables
    Generated.defaultOptions [] 0 defsExampleD defsExampleX Generated.bigFuel Generated.stDefault rfl rfl rfl
    rfl Generated.initParser_default C09_defs_vs_document_current (by decide +kernel)
  obtain ⟨hr1, hr2⟩ := defsExample_render
  obtain ⟨e1, e2, e3⟩ := C09_defs_route_current_ref
  obtain ⟨r1', h1', _, _, u1, _, _⟩ := C09_defs_route_e2e Generated.theTables
    { Generated.defaultOptions with defs := PlainMacroArgs.render (PlainMacroArgs.defLines defsExampleD) } [] 0
    (PlainMacroArgs.defLines defsExampleD) defsExampleX Generated.bigFuel Generated.stDefault rfl rfl rfl rfl
    Generated.initParser_default C09_defs_route_current (by decide +kernel) (by decide +kernel)
  have hu1 : r1.unknowns = [] := by
    rw [h1] at h1'
    cases h1'
    exact u1.trans e3
  have hlen : (PlainMacroArgs.render (PlainMacroArgs.defLines defsExampleD)).length = 56 := by
    decide +kernel
  -- the source as one literal: with `"…".toList ++ "…".toList` in its place, checking `h0` against the
  -- statement costs as much as evaluating the run
  have hr0 : PlainMacroArgs.render (PlainMacroArgs.defLines defsExampleD ++ defsExampleX)
      = "\\newcommand{\\pp}[2]{a#2b#1c}\n\\newcommand{\\qq}[0]{lorem}\nX \\pp{uu}{vv} Y \\qq{z} Z.\n".toList := by
    rw [String.toList_ofList]; decide +kernel
  rw [hr0] at h0
  rw [hr1, hr2] at h1
  rw [hlen] at p
  exact ⟨r0, r1, h0, h1, t, p, t1.trans e1, p1.trans e2, u.trans hu1, hu1⟩

/-- the same two runs as a Boolean test (it follows from the instance above) -/
theorem C09_defs_vs_document_current_eval :
    (match tex2txt Generated.theTables Generated.bigFuel
        "\\newcommand{\\pp}[2]{a#2b#1c}\n\\newcommand{\\qq}[0]{lorem}\nX \\pp{uu}{vv} Y \\qq{z} Z.\n".toList
        Generated.defaultOptions false 0 [],
      tex2txt Generated.theTables Generated.bigFuel "X \\pp{uu}{vv} Y \\qq{z} Z.\n".toList
        { Generated.defaultOptions with
          defs := "\\newcommand{\\pp}[2]{a#2b#1c}\n\\newcommand{\\qq}[0]{lorem}\n".toList } false 0 [] with
     | .ok r0, .ok r1 =>
       r0.txt == "X avvbuuc Y loremz Z.\n".toList && r1.txt == r0.txt &&
       r1.pos == [1, 2, 7, 11, 12, 12, 7, 8, 8, 14, 15, 16, 17, 17, 17, 17, 17, 21, 23, 24, 25, 26] &&
       r0.pos == r1.pos.map (· + 56) && r0.unknowns.isEmpty && r1.unknowns.isEmpty
     | _, _ => false) = true := by
  obtain ⟨r0, r1, h0, h1, t, p, t1, p1, u0, u1⟩ := C09_defs_vs_document_current_e2e
  rw [h0, h1]
  simp only [t, p, t1, p1, u0, u1, beq_self_eq_true, Bool.and_self, List.isEmpty_nil]

/-- … and a variant, `\newcommand{\qq}{lorem}` without `[n]` and the use
    `\qq{}` (these two forms belong to the class of `C09_newcommand_e2e`, not to the class of the
    theorems above; evaluation only): equal texts, positions that differ by `|D| = 53` -/
theorem C09_defs_vs_document_variant_eval :
    (match tex2txt Generated.theTables Generated.bigFuel
        "\\newcommand{\\pp}[2]{a#2b#1c}\n\\newcommand{\\qq}{lorem}\nX \\pp{uu}{vv} Y \\qq{} Z.\n".toList
        Generated.defaultOptions false 0 [],
      tex2txt Generated.theTables Generated.bigFuel "X \\pp{uu}{vv} Y \\qq{} Z.\n".toList
        { Generated.defaultOptions with
          defs := "\\newcommand{\\pp}[2]{a#2b#1c}\n\\newcommand{\\qq}{lorem}\n".toList } false 0 [] with
     | .ok r0, .ok r1 =>
       r0.txt == "X avvbuuc Y lorem Z.\n".toList && r1.txt == r0.txt &&
       r1.pos == [1, 2, 7, 11, 12, 12, 7, 8, 8, 14, 15, 16, 17, 17, 17, 17, 17, 22, 23, 24, 25] &&
       r0.pos == r1.pos.map (· + 53) && r0.unknowns.isEmpty && r1.unknowns.isEmpty
     | _, _ => false) = true := by
  rw [Generated.tex2txt_default, tex2txt_default_defs]
  decide +kernel

end Yalafi
