/-
  Properties/SystemStmt.lean — SYSTEM-LEVEL statements: theorems about the filter (`tex2txt`, C01 /
  C02 / C03) COMPOSED with theorems about the shell (`map_match_position`, the report generators, the
  HTML highlight, the sort of the matches; C14 / C15).

  C14 "When the proofreader flags a word of the plain text, the shell reports it at the 1-based line
  and column, with the length, of that very word in the LaTeX file — identically in the text report,
  the JSON and XML outputs (xml-b in bytes), the HTML highlight; the reports are ordered by the
  position in the file":
    `C14_run_reported`              every source: a flagged stretch whose map entries are consecutive
    `C14_flagged_word_group_e2e`    documents of text, groups, undeclared macros with arguments: EVERY
                                    flagged stretch with consecutive map entries
    `C14_copied_run_group`          … and every stretch of text with visible ends is one
    `C14_copied_run_contiguous`, `C14_copied_run_footnote`   the union grammar of fourteen kinds:
                                    every run of character marks of the reference is a run of the output
    `C14_flagged_word_e2e`          the union grammar: a word of a text segment, end to end
    `C14_sorted_e2e`                the union grammar: two flagged words are reported in file order
    `C14_shell_assembly`            what the shell appends to text and map (the `pad` of the theorems)
    `C14_line_column_unique`        "THE line and column"
  C01 + C15 "every location in the file":
    `C15_every_location_in_file_e2e`   EVERY source text, any offset and integer length
    `C15_shell_dichotomy_e2e`          … or the shell's own error exit, never an exception
  Instances on the tables of the current /repo (`_current`), evaluated by the kernel.

  Proofs, side conditions and what is not covered: Proofs/SystemWord.lean (grammar-free part, (B), (C)),
  Proofs/SystemWordRun.lean (a word survives blank-line removal), Proofs/SystemWordGroup.lean,
  Proofs/SystemWordMix2.lean.

  Vocabulary (Proofs/SystemWord.lean): `natMap r.pos` = the filter's position map as the shell
  receives it; `pad` = what the shell appends to it (`shellPad r.pos` = the last entry twice, for
  the delimiter `'\n\n'`; the theorems hold for ANY padding); `RunAt pos off l q` = the `l` map
  entries from plain offset `off` are `q, q+1, …, q+l-1`; `WordReported src p l L` = the numbers of
  the text report, JSON (offset, length, priv), XML and XML-b in `L` are those of the source word
  `src[p … p+l)`, its first character standing at line `lin`, column `col` in the sense of
  `IsLineCol` (line `lin` begins at `starts[lin-1]`, the character stands `col-1` characters behind
  that begin, no line break in between); `HtmlWord` = the HTML highlight is that word;
  `ReportInFile src L` = every location in `L` is a place of the file.
-/
import YalafiVerif.Proofs.SystemWordMix2
import YalafiVerif.Properties.PlainMix2Stmt
import YalafiVerif.Properties.PlainGroupStmt
import YalafiVerif.Generated.Init
import YalafiVerif.Generated.WF
namespace Yalafi
open SystemWord Reports Html

/-! ## (B) every location of every report lies in the file — for EVERY source text -/

/-- **C01 ∘ C15, end to end, for every source text.**  Let `r` be the result of the filter on ANY
    source text `src` (any options but `--unkn`, any file system and fuel; tables with the decidable
    well-formedness `WFInv`; the ghost flag `foreign` false, as for every run with the bundled
    modules), the plain text not empty (the shell does not send an empty text to the proofreader).
    Then for ANY offset and ANY integer length in the proofreader's answer — negative, zero, behind
    the end — and any padding of the map with entries of its own, `map_match_position` followed by
    the generators answers, and every location it prints is a place of the file (`ReportInFile`:
    first and last character of the reported match are characters of `src`; text report, JSON and
    XML name existing lines and columns on them or directly behind them; XML-b the same lines and
    byte columns within the UTF-8 length of the line). -/
theorem C15_every_location_in_file_e2e (T : PTables) (hw : T.WFInv) (fuel : Nat) (src : Str)
    (o : Options) (thresh : Nat) (fs : FS) (r : T2TResult)
    (hr : tex2txt T fuel src o false thresh fs = .ok r)
    (hfor : r.foreign = false) (hunkn : o.unkn = false) (pad : List Int)
    (hpad : ∀ c ∈ pad, c ∈ natMap r.pos) (hne : r.txt ≠ []) (offset len : Int) :
    ∃ L, reportAll (natMap r.pos ++ pad) src offset (some (.int len)) = .ok L ∧ ReportInFile src L :=
  every_location_in_file T hw fuel src o thresh fs r hr hfor hunkn pad hpad hne offset len

/-- **… or the shell's own error exit.**  The same with the offset check of the shell's sort key
    function in front (`shellOne`), the map padded as `run_proofreader_options` pads it: the shell
    stops with `tex2txt.fatal` exactly when the offset lies outside the padded plain text, otherwise
    every printed location is a place of the file; no third outcome (no Python exception). -/
theorem C15_shell_dichotomy_e2e (T : PTables) (hw : T.WFInv) (fuel : Nat) (src : Str) (o : Options)
    (thresh : Nat) (fs : FS) (r : T2TResult) (hr : tex2txt T fuel src o false thresh fs = .ok r)
    (hfor : r.foreign = false) (hunkn : o.unkn = false) (hne : r.txt ≠ []) (offset len : Int) :
    ((offset < 0 ∨ offset ≥ (r.txt.length : Int) + 2) ∧
      shellOne (natMap r.pos ++ shellPad r.pos) src offset len = .fatal) ∨
    ((0 ≤ offset ∧ offset < (r.txt.length : Int) + 2) ∧
      ∃ L, shellOne (natMap r.pos ++ shellPad r.pos) src offset len = .ok L ∧ ReportInFile src L) :=
  shell_dichotomy_tex2txt T hw fuel src o thresh fs r hr hfor hunkn hne offset len

/-- the same for the tables translated from /repo (`Generated/WF.lean` decides `WFInv`) -/
theorem C15_every_location_in_file_current (fuel : Nat) (src : Str) (o : Options) (thresh : Nat)
    (fs : FS) (r : T2TResult) (hr : tex2txt Generated.theTables fuel src o false thresh fs = .ok r)
    (hfor : r.foreign = false) (hunkn : o.unkn = false) (hne : r.txt ≠ []) (offset len : Int) :
    (∃ L, reportAll (natMap r.pos ++ shellPad r.pos) src offset (some (.int len)) = .ok L ∧
      ReportInFile src L) ∧
    (((offset < 0 ∨ offset ≥ (r.txt.length : Int) + 2) ∧
      shellOne (natMap r.pos ++ shellPad r.pos) src offset len = .fatal) ∨
    ((0 ≤ offset ∧ offset < (r.txt.length : Int) + 2) ∧
      ∃ L, shellOne (natMap r.pos ++ shellPad r.pos) src offset len = .ok L ∧ ReportInFile src L)) := by
  refine ⟨?_, shell_dichotomy_tex2txt _ Generated.wfInv fuel src o thresh fs r hr hfor hunkn hne offset len⟩
  apply every_location_in_file _ Generated.wfInv fuel src o thresh fs r hr hfor hunkn _ _ hne
  intro c hc
  have hp : r.pos ≠ [] := by
    have h := tex2txt_inRange Generated.theTables Generated.wfInv fuel src o false thresh fs
    rw [hr] at h
    obtain ⟨hlen, _, _⟩ := h
    intro he; rw [he] at hlen; exact hne (List.eq_nil_of_length_eq_zero hlen)
  exact (shellPad_mem r.pos hp c hc).1

/-! ## (A) a flagged word is reported at that very word -/

/-- what `run_proofreader_options` hands on in single-language mode: text and map padded by two
    entries (the delimiter `'\n\n'`, mapped to the last position), the offsets of the matches
    unchanged — `shellPad r.pos` is the `pad` of the theorems below -/
theorem C14_shell_assembly (txt : Str) (pos : List Nat) (ms : List RawMatch) :
    assembleNB [({ plain := txt, charmap := natMap pos }, ms)] =
      { plainTot := txt ++ ['\n', '\n'], charmapTot := natMap pos ++ shellPad pos, hits := ms } :=
  assemble_single txt pos ms

/-- a place of the file has exactly one (line, column): the pair the text report prints -/
theorem C14_line_column_unique (src : Str) (q lin col : Nat) (h : IsLineCol src q lin col) :
    (lin, col) = textLineCol src q :=
  isLineCol_unique src q lin col h

/-- **every source text**: if the `l ≥ 1` map entries of the flagged stretch are `p+1, …, p+l` (the
    1-based positions of the `l` consecutive source characters from offset `p`) and these lie in the
    file, then — unless the stretch is one single backslash, where the documented macro-name
    extension applies — `map_match_position` yields offset `p` and length `l`, and all reports are
    those of the source word `src[p … p+l)`. -/
theorem C14_run_reported (src : Str) (pos : List Nat) (pad : List Int) (off l p : Nat) (hl : 1 ≤ l)
    (hrun : RunAt pos off l (p + 1)) (hin : p + l ≤ src.length)
    (hbs : ¬ (l = 1 ∧ src[p]? = some '\\')) :
    mapMatch (natMap pos ++ pad) src (off : Int) (some (.int l)) = .ok ((p : Int), (l : Int)) ∧
    reportAll (natMap pos ++ pad) src (off : Int) (some (.int l)) = .ok (locate src p l) ∧
    WordReported src p l (locate src p l) ∧
    ((∀ c ∈ pad, 0 ≤ c) → HtmlWord src (natMap pos ++ pad) off l p) :=
  run_reported src pos pad off l p hl hrun hin hbs

/-- **text, groups, undeclared macros with arguments, end to end** (the documents of
    `C03_unknown_args_e2e`).  `tex2txt` succeeds, and for EVERY plain offset `off` and length
    `l ≥ 1` whose map entries are consecutive, `p+1, …, p+l` (no markup was removed inside the
    flagged stretch):
    * the stretch lies in the file and the flagged text IS the source text `src[p … p+l)`;
    * `map_match_position` yields offset `p`, length `l` (no side condition: a text character is no
      backslash);
    * text report, JSON, XML, XML-b are those of that source word (`WordReported`), the HTML
      highlight is that word (`HtmlWord`). -/
theorem C14_flagged_word_group_e2e (T : PTables) (o : Options) (fs : FS) (thresh : Nat)
    (doc : List PlainGroup.Item) (fuel : Nat) (st1 : PState)
    (hdefs : o.defs = []) (hextr : o.extr = []) (hrepl : o.hasRepl = false) (hunkn : o.unkn = false)
    (hinit : initParser T fuel o (initialState T o false fs) = .ok ((), st1))
    (hok : PlainGroup.DocOk T st1 doc) (hf : (PlainGroup.render doc).length + 2 ≤ fuel) :
    ∃ r, tex2txt T fuel (PlainGroup.render doc) o false thresh fs = .ok r ∧
      r.txt.length = r.pos.length ∧
      ∀ (off l p : Nat) (pad : List Int), 1 ≤ l → RunAt r.pos off l (p + 1) →
        p + l ≤ (PlainGroup.render doc).length ∧
        (r.txt.drop off).take l = ((PlainGroup.render doc).drop p).take l ∧
        mapMatch (natMap r.pos ++ pad) (PlainGroup.render doc) (off : Int) (some (.int l))
          = .ok ((p : Int), (l : Int)) ∧
        reportAll (natMap r.pos ++ pad) (PlainGroup.render doc) (off : Int) (some (.int l))
          = .ok (locate (PlainGroup.render doc) p l) ∧
        WordReported (PlainGroup.render doc) p l (locate (PlainGroup.render doc) p l) ∧
        ((∀ c ∈ pad, 0 ≤ c) → HtmlWord (PlainGroup.render doc) (natMap r.pos ++ pad) off l p) :=
  flagged_run_group T o fs thresh doc fuel st1 hdefs hextr hrepl hunkn hinit hok hf

/-- … and every stretch `w` of text characters of the flattened document (no brace or control word
    in between) whose first and last character are no white space is such a stretch: it stands at
    offset `|renderA A|` of the file, it appears in the plain text, and its map entries there are
    consecutive, beginning with its own position. -/
theorem C14_copied_run_group (T : PTables) (o : Options) (fs : FS) (thresh : Nat)
    (doc : List PlainGroup.Item) (fuel : Nat) (st1 : PState)
    (hdefs : o.defs = []) (hextr : o.extr = []) (hrepl : o.hasRepl = false) (hunkn : o.unkn = false)
    (hinit : initParser T fuel o (initialState T o false fs) = .ok ((), st1))
    (hok : PlainGroup.DocOk T st1 doc) (hf : (PlainGroup.render doc).length + 2 ≤ fuel)
    (A B : List PlainGroup.Atom) (w : Str) (hdoc : PlainGroup.atoms doc = A ++ (w.map .chr ++ B))
    (hw : wordEnds w = true) :
    ((PlainGroup.render doc).drop (PlainGroup.renderA A).length).take w.length = w ∧
    ∃ r, tex2txt T fuel (PlainGroup.render doc) o false thresh fs = .ok r ∧
      ∃ off, off + w.length ≤ r.txt.length ∧
        RunAt r.pos off w.length ((PlainGroup.renderA A).length + 1) ∧
        (r.txt.drop off).take w.length = w :=
  copied_run_group T o fs thresh doc fuel st1 hdefs hextr hrepl hunkn hinit hok hf A B w hdoc hw

/-- **a copied run is contiguous** (the union grammar of `C03_mix2_e2e`): every run of character marks
    `some (c₀, p), some (c₁, p+1), …` of the reference (`(posText p w).map some`: the text of a
    segment, the content of `\verb`, the note of a citation, the title of a heading) whose first and
    last characters are no white space appears in the plain text as one block, and the map entries
    there are `p+1, p+2, …`. -/
theorem C14_copied_run_contiguous (T : PTables) (o : Options) (fs : FS) (thresh : Nat)
    (segs : List PlainMix2.Seg) (fuel : Nat) (st1 : PState) (repls : List Str)
    (hdefs : o.defs = []) (hextr : o.extr = []) (hrepl : o.hasRepl = false) (hunkn : o.unkn = false)
    (hinit : initParser T fuel o (initialState T o false fs) = .ok ((), st1))
    (hok : PlainMix2.SegsOk T st1 repls segs) (hf : (PlainMix2.render segs).length + 4 ≤ fuel)
    (A B : List PlainMacro.Mark) (p : Nat) (w : Str)
    (hmarks : PlainMix2.marks T st1 repls 0 0 segs = A ++ ((posText p w).map some ++ B))
    (hw : wordEnds w = true) :
    ∃ r, tex2txt T fuel (PlainMix2.render segs) o false thresh fs = .ok r ∧
      r.txt.length = r.pos.length ∧
      ∃ off, off + w.length ≤ r.txt.length ∧ RunAt r.pos off w.length (p + 1) ∧
        (r.txt.drop off).take w.length = w := by
  obtain ⟨r, h1, h2, h3, _⟩ := PlainMix2.tex2txt_mix2 T o fs thresh segs fuel st1 repls hdefs hextr hrepl hunkn hinit hok hf
  exact ⟨r, h1, copied_run_marks h2 h3 A B p w hmarks hw⟩

/-- … and every stretch of the detached flows with consecutive positions (a stretch of a footnote
    body) -/
theorem C14_copied_run_footnote (T : PTables) (o : Options) (fs : FS) (thresh : Nat)
    (segs : List PlainMix2.Seg) (fuel : Nat) (st1 : PState) (repls : List Str)
    (hdefs : o.defs = []) (hextr : o.extr = []) (hrepl : o.hasRepl = false) (hunkn : o.unkn = false)
    (hinit : initParser T fuel o (initialState T o false fs) = .ok ((), st1))
    (hok : PlainMix2.SegsOk T st1 repls segs) (hf : (PlainMix2.render segs).length + 4 ≤ fuel)
    (F1 F2 : List (Char × Nat)) (p : Nat) (w : Str)
    (hflows : PlainMix2.flows 0 segs = F1 ++ (posText p w ++ F2)) :
    ∃ r, tex2txt T fuel (PlainMix2.render segs) o false thresh fs = .ok r ∧
      r.txt.length = r.pos.length ∧
      ∃ off, off + w.length ≤ r.txt.length ∧ RunAt r.pos off w.length (p + 1) ∧
        (r.txt.drop off).take w.length = w := by
  obtain ⟨r, h1, h2, h3, _⟩ := PlainMix2.tex2txt_mix2 T o fs thresh segs fuel st1 repls hdefs hextr hrepl hunkn hinit hok hf
  exact ⟨r, h1, run_of_output h2 h3 _ F2 p w (by rw [hflows, List.append_assoc])⟩

/-- **a flagged word, end to end through filter and shell** (the union grammar of fourteen construct
    kinds, hypotheses of `C03_mix2_e2e`).  Let `w` be a stretch of a text segment of the document
    (`segs = pre ++ .txt (a ++ w ++ b) :: post`) whose first and last character are no white space — a
    word or a phrase, at any depth of groups and macro arguments —, `p = |render pre| + |a|`,
    `l = |w|`.  Then
    * `w` stands at offset `p` of the LaTeX file: `src[p … p+l) = w`;
    * `tex2txt` succeeds and `w` appears in the plain text at an offset `off` whose `l` map entries
      are `p+1, …, p+l`;
    * for EVERY plain offset `off` with these map entries (the proofreader flags this occurrence)
      and any padding of the map: `map_match_position` yields offset `p` and length `l`;
      the text report prints the line and column of the first character of `w` in the file;
      JSON `offset` / `length` are `p` / `l`; JSON `priv` and XML name (0-based) that line and
      column and the line and column of the last character of `w`; XML-b the same lines and the
      UTF-8 byte lengths of the line prefixes (all in `WordReported`); the HTML highlight is
      `src[p : p+l] = w` on that line (`HtmlWord`). -/
theorem C14_flagged_word_e2e (T : PTables) (o : Options) (fs : FS) (thresh : Nat)
    (segs : List PlainMix2.Seg) (fuel : Nat) (st1 : PState) (repls : List Str)
    (hdefs : o.defs = []) (hextr : o.extr = []) (hrepl : o.hasRepl = false) (hunkn : o.unkn = false)
    (hinit : initParser T fuel o (initialState T o false fs) = .ok ((), st1))
    (hok : PlainMix2.SegsOk T st1 repls segs) (hf : (PlainMix2.render segs).length + 4 ≤ fuel)
    (pre post : List PlainMix2.Seg) (a w b : Str) (hsegs : segs = pre ++ .txt (a ++ (w ++ b)) :: post)
    (hw : wordEnds w = true) :
    ((PlainMix2.render segs).drop ((PlainMix2.render pre).length + a.length)).take w.length = w ∧
    (PlainMix2.render pre).length + a.length + w.length ≤ (PlainMix2.render segs).length ∧
    ∃ r, tex2txt T fuel (PlainMix2.render segs) o false thresh fs = .ok r ∧
      r.txt.length = r.pos.length ∧
      (∃ off, off + w.length ≤ r.txt.length ∧
        RunAt r.pos off w.length ((PlainMix2.render pre).length + a.length + 1) ∧
        (r.txt.drop off).take w.length = w) ∧
      ∀ (off : Nat) (pad : List Int),
        RunAt r.pos off w.length ((PlainMix2.render pre).length + a.length + 1) →
        mapMatch (natMap r.pos ++ pad) (PlainMix2.render segs) (off : Int) (some (.int w.length))
          = .ok ((((PlainMix2.render pre).length + a.length : Nat) : Int), (w.length : Int)) ∧
        reportAll (natMap r.pos ++ pad) (PlainMix2.render segs) (off : Int) (some (.int w.length))
          = .ok (locate (PlainMix2.render segs) (((PlainMix2.render pre).length + a.length : Nat) : Int) (w.length : Int)) ∧
        WordReported (PlainMix2.render segs) ((PlainMix2.render pre).length + a.length) w.length
          (locate (PlainMix2.render segs) (((PlainMix2.render pre).length + a.length : Nat) : Int) (w.length : Int)) ∧
        ((∀ c ∈ pad, 0 ≤ c) → HtmlWord (PlainMix2.render segs) (natMap r.pos ++ pad) off w.length
          ((PlainMix2.render pre).length + a.length)) :=
  flagged_word_mix2 T o fs thresh segs fuel st1 repls hdefs hextr hrepl hunkn hinit hok hf
    pre post a w b hsegs hw

/-! ## (C) the reports are ordered by the position in the file -/

/-- **two flagged words are reported in the order of the file** (the union grammar).  Two words of
    text segments, the first one standing first in the file: both appear in the plain text, and
    whenever the proofreader flags them (matches `m1`, `m2` anywhere in its answer `ms`, offsets with
    the map entries of the words), the shell's sort (`C14_sorted`) puts `m1` in front of `m2`. -/
theorem C14_sorted_e2e (T : PTables) (o : Options) (fs : FS) (thresh : Nat)
    (segs : List PlainMix2.Seg) (fuel : Nat) (st1 : PState) (repls : List Str)
    (hdefs : o.defs = []) (hextr : o.extr = []) (hrepl : o.hasRepl = false) (hunkn : o.unkn = false)
    (hinit : initParser T fuel o (initialState T o false fs) = .ok ((), st1))
    (hok : PlainMix2.SegsOk T st1 repls segs) (hf : (PlainMix2.render segs).length + 4 ≤ fuel)
    (pre1 post1 : List PlainMix2.Seg) (a1 w1 b1 : Str) (hsegs1 : segs = pre1 ++ .txt (a1 ++ (w1 ++ b1)) :: post1)
    (pre2 post2 : List PlainMix2.Seg) (a2 w2 b2 : Str) (hsegs2 : segs = pre2 ++ .txt (a2 ++ (w2 ++ b2)) :: post2)
    (hw1 : wordEnds w1 = true) (hw2 : wordEnds w2 = true)
    (hlt : (PlainMix2.render pre1).length + a1.length < (PlainMix2.render pre2).length + a2.length) :
    ∃ r, tex2txt T fuel (PlainMix2.render segs) o false thresh fs = .ok r ∧
      (∃ off1 off2, RunAt r.pos off1 w1.length ((PlainMix2.render pre1).length + a1.length + 1) ∧
        RunAt r.pos off2 w2.length ((PlainMix2.render pre2).length + a2.length + 1)) ∧
      ∀ (pad : List Int) (ms out : List RawMatch) (m1 m2 : RawMatch) (off1 off2 : Nat),
        sortMatches (natMap r.pos ++ pad) ms = .ok out → m1 ∈ ms → m2 ∈ ms →
        m1.offset = (off1 : Int) → m2.offset = (off2 : Int) →
        RunAt r.pos off1 w1.length ((PlainMix2.render pre1).length + a1.length + 1) →
        RunAt r.pos off2 w2.length ((PlainMix2.render pre2).length + a2.length + 1) →
        ∃ X Y Z, out = X ++ m1 :: (Y ++ m2 :: Z) :=
  sorted_of_flagged
    (flagged_word_mix2 T o fs thresh segs fuel st1 repls hdefs hextr hrepl hunkn hinit hok hf
      pre1 post1 a1 w1 b1 hsegs1 hw1)
    (flagged_word_mix2 T o fs thresh segs fuel st1 repls hdefs hextr hrepl hunkn hinit hok hf
      pre2 post2 a2 w2 b2 hsegs2 hw2)
    (wordEnds_pos hw1) (wordEnds_pos hw2) hlt

/-- the grammar-free core of (C): of two flagged stretches with consecutive map entries the one
    with the smaller source position comes first after the shell's sort -/
theorem C14_runs_sorted (pos : List Nat) (pad : List Int) (ms out : List RawMatch)
    (h : sortMatches (natMap pos ++ pad) ms = .ok out)
    (m1 m2 : RawMatch) (h1 : m1 ∈ ms) (h2 : m2 ∈ ms) (o1 l1 p1 o2 l2 p2 : Nat)
    (ho1 : m1.offset = (o1 : Int)) (ho2 : m2.offset = (o2 : Int)) (hl1 : 1 ≤ l1) (hl2 : 1 ≤ l2)
    (hr1 : RunAt pos o1 l1 (p1 + 1)) (hr2 : RunAt pos o2 l2 (p2 + 1)) (hlt : p1 < p2) :
    ∃ X Y Z, out = X ++ m1 :: (Y ++ m2 :: Z) :=
  runs_sorted pos pad ms out h m1 m2 h1 h2 o1 l1 p1 o2 l2 p2 ho1 ho2 hl1 hl2 hr1 hr2 hlt

/-! ## instances on the tables of the current /repo -/

/-- `C14_flagged_word_e2e` for the CURRENT code (tables translated from /repo, default options,
    parser initialisation evaluated by the kernel), the map padded as the shell pads it -/
theorem C14_flagged_word_e2e_current (segs : List PlainMix2.Seg) (repls : List Str) (thresh : Nat)
    (hok : PlainMix2.SegsOk Generated.theTables Generated.stDefault repls segs)
    (hf : (PlainMix2.render segs).length + 4 ≤ Generated.bigFuel)
    (pre post : List PlainMix2.Seg) (a w b : Str) (hsegs : segs = pre ++ .txt (a ++ (w ++ b)) :: post)
    (hw : wordEnds w = true) :
    ((PlainMix2.render segs).drop ((PlainMix2.render pre).length + a.length)).take w.length = w ∧
    ∃ r, tex2txt Generated.theTables Generated.bigFuel (PlainMix2.render segs) Generated.defaultOptions
          false thresh [] = .ok r ∧
      (∃ off, off + w.length ≤ r.txt.length ∧
        RunAt r.pos off w.length ((PlainMix2.render pre).length + a.length + 1) ∧
        (r.txt.drop off).take w.length = w) ∧
      ∀ (off : Nat), RunAt r.pos off w.length ((PlainMix2.render pre).length + a.length + 1) →
        reportAll (natMap r.pos ++ shellPad r.pos) (PlainMix2.render segs) (off : Int) (some (.int w.length))
          = .ok (locate (PlainMix2.render segs) (((PlainMix2.render pre).length + a.length : Nat) : Int) (w.length : Int)) ∧
        WordReported (PlainMix2.render segs) ((PlainMix2.render pre).length + a.length) w.length
          (locate (PlainMix2.render segs) (((PlainMix2.render pre).length + a.length : Nat) : Int) (w.length : Int)) ∧
        HtmlWord (PlainMix2.render segs) (natMap r.pos ++ shellPad r.pos) off w.length
          ((PlainMix2.render pre).length + a.length) := by
  exact FlaggedAt.shell (C14_flagged_word_e2e Generated.theTables Generated.defaultOptions []
    thresh segs Generated.bigFuel Generated.stDefault repls rfl rfl rfl rfl Generated.initParser_default
    hok hf pre post a w b hsegs hw)

/-- the document of `C03_mix2_example_current`, the word `nested` (inside `\textbf{… \emph{… }}`,
    behind a formula): the side conditions of the theorem hold — the document is
    `pre ++ .txt (" " ++ "nested" ++ "") :: post` with `|render pre| = 54` -/
theorem C14_flagged_word_example_current :
    PlainMix2.SegsOk Generated.theTables Generated.stDefault C03_mix2_repls C03_mix2_doc ∧
    C03_mix2_doc = C03_mix2_doc.take 11 ++ .txt (" ".toList ++ ("nested".toList ++ [])) :: C03_mix2_doc.drop 12 ∧
    wordEnds "nested".toList = true ∧
    (PlainMix2.render (C03_mix2_doc.take 11)).length + " ".toList.length = 55 :=
  ⟨C03_mix2_example_current, by rw [String.toList_ofList, String.toList_ofList]; decide +kernel,
    by rw [String.toList_ofList]; decide +kernel, by rw [String.toList_ofList]; decide +kernel⟩

/-- … so the theorem says about it (no evaluation of the filter, only of `locate` on the source):
    `nested` appears in the plain text, and wherever the proofreader flags six characters whose map
    entries are `56 … 61`, the shell reports line 2, column 40, length 6 in all formats -/
theorem C14_flagged_word_example :
    ∃ r, tex2txt Generated.theTables Generated.bigFuel (PlainMix2.render C03_mix2_doc)
          Generated.defaultOptions false 0 [] = .ok r ∧
      (∃ off, RunAt r.pos off 6 56 ∧ (r.txt.drop off).take 6 = "nested".toList) ∧
      ∀ (off : Nat), RunAt r.pos off 6 56 →
        reportAll (natMap r.pos ++ shellPad r.pos) (PlainMix2.render C03_mix2_doc) (off : Int) (some (.int 6))
          = .ok { offset := 55, length := 6, lin := 2, col := 40, json := ⟨1, 39, 1, 45⟩,
                  xml := ⟨1, 39, 1, 45⟩, xmlb := ⟨1, 39, 1, 45⟩ } := by
  obtain ⟨hok, hsegs, hw, hp⟩ := C14_flagged_word_example_current
  obtain ⟨_, r, h1, ⟨off, _, h2, h3⟩, h4⟩ := C14_flagged_word_e2e_current C03_mix2_doc C03_mix2_repls 0 hok
    (by decide +kernel) _ _ _ _ _ hsegs hw
  rw [hp] at h2 h4
  have hl : "nested".toList.length = 6 := rfl
  rw [hl] at h2 h3 h4
  have hloc : locate (PlainMix2.render C03_mix2_doc) ((55 : Nat) : Int) ((6 : Nat) : Int)
      = { offset := 55, length := 6, lin := 2, col := 40, json := ⟨1, 39, 1, 45⟩,
          xml := ⟨1, 39, 1, 45⟩, xmlb := ⟨1, 39, 1, 45⟩ } := by decide +kernel
  refine ⟨r, h1, ⟨off, h2, h3⟩, ?_⟩
  intro off' hrun
  have := (h4 off' hrun).1
  rw [hloc] at this
  exact this

/-- … and the whole pipeline: `tex2txt` (its output by `C03_mix2_e2e_current` and
    `C03_mix2_example_ref`), then, evaluated by the kernel, the shell's padding,
    `map_match_position`, the generators, for the proofreader's answer "offset 33, length 6" (the
    word `nested` in the plain text `Intro.\nAlpha–beta bold and C-C-C nested gamma …`) and
    "offset 40, length 5" (`gamma`).  Source line 2 is
    `Alpha--beta \textbf{bold \emph{and $x$ nested}} gamma\label{sec:a} see …`: `nested` stands at
    line 2, column 40 (offset 55), `gamma` at line 2, column 49 (offset 64); the HTML highlight is
    `src[55:61]` on line 2 (0-based 1). -/
theorem C14_flagged_word_example_eval :
    (match tex2txt Generated.theTables Generated.bigFuel (PlainMix2.render C03_mix2_doc)
        Generated.defaultOptions false 0 [] with
     | .ok r =>
       (r.txt.drop 33).take 6 == "nested".toList && decide (RunAt r.pos 33 6 56) &&
       (r.txt.drop 40).take 5 == "gamma".toList && decide (RunAt r.pos 40 5 65) &&
       (match reportAll (natMap r.pos ++ shellPad r.pos) (PlainMix2.render C03_mix2_doc) 33 (some (.int 6)),
              reportAll (natMap r.pos ++ shellPad r.pos) (PlainMix2.render C03_mix2_doc) 40 (some (.int 5)),
              computeH Generated.theTables.toTables (PlainMix2.render C03_mix2_doc)
                (natMap r.pos ++ shellPad r.pos) 0 33 6 with
        | .ok L1, .ok L2, .ok h =>
          L1 == { offset := 55, length := 6, lin := 2, col := 40, json := ⟨1, 39, 1, 45⟩,
                  xml := ⟨1, 39, 1, 45⟩, xmlb := ⟨1, 39, 1, 45⟩ } &&
          L2 == { offset := 64, length := 5, lin := 2, col := 49, json := ⟨1, 48, 1, 53⟩,
                  xml := ⟨1, 48, 1, 53⟩, xmlb := ⟨1, 48, 1, 53⟩ } &&
          h == { idx := 0, unsure := false, beg := 55, fin := 61, beglin := 1, endlin := 2, lin := 1 } &&
          slice (PlainMix2.render C03_mix2_doc) 55 61 == "nested".toList
        | _, _, _ => false)
     | _ => false) = true := by
  obtain ⟨r, h1, h2, h3, _⟩ := C03_mix2_e2e_current C03_mix2_doc C03_mix2_repls 0
    C03_mix2_example_current (by decide +kernel)
  rw [C03_mix2_example_ref.1] at h2
  rw [C03_mix2_example_ref.2.1] at h3
  rw [h1]
  simp only [h2, h3]
  rw [String.toList_ofList]; decide +kernel

/-- (C) on the same document: the proofreader answers `gamma` (plain offset 40) BEFORE `nested`
    (plain offset 33); the shell's sort reports `nested` (file offset 55) first -/
theorem C14_sorted_example_eval :
    (match tex2txt Generated.theTables Generated.bigFuel (PlainMix2.render C03_mix2_doc)
        Generated.defaultOptions false 0 [] with
     | .ok r =>
       (match sortMatches (natMap r.pos ++ shellPad r.pos)
                [{ offset := 40, rest := .null }, { offset := 33, rest := .null }] with
        | .ok out => out.map (·.offset) == [33, 40]
        | _ => false)
     | _ => false) = true := by
  obtain ⟨r, h1, _, h3, _⟩ := C03_mix2_e2e_current C03_mix2_doc C03_mix2_repls 0
    C03_mix2_example_current (by decide +kernel)
  rw [C03_mix2_example_ref.2.1] at h3
  rw [h1]
  simp only [h3]
  decide +kernel

/-- `C14_flagged_word_group_e2e` for the CURRENT code, the map padded as the shell pads it -/
theorem C14_flagged_word_group_e2e_current (doc : List PlainGroup.Item) (thresh : Nat)
    (hok : PlainGroup.DocOk Generated.theTables Generated.stDefault doc)
    (hf : (PlainGroup.render doc).length + 2 ≤ Generated.bigFuel) :
    ∃ r, tex2txt Generated.theTables Generated.bigFuel (PlainGroup.render doc) Generated.defaultOptions
          false thresh [] = .ok r ∧
      ∀ (off l p : Nat), 1 ≤ l → RunAt r.pos off l (p + 1) →
        (r.txt.drop off).take l = ((PlainGroup.render doc).drop p).take l ∧
        reportAll (natMap r.pos ++ shellPad r.pos) (PlainGroup.render doc) (off : Int) (some (.int l))
          = .ok (locate (PlainGroup.render doc) p l) ∧
        WordReported (PlainGroup.render doc) p l (locate (PlainGroup.render doc) p l) ∧
        HtmlWord (PlainGroup.render doc) (natMap r.pos ++ shellPad r.pos) off l p := by
  obtain ⟨r, h1, h2, h3⟩ := C14_flagged_word_group_e2e Generated.theTables Generated.defaultOptions []
    thresh doc Generated.bigFuel Generated.stDefault rfl rfl rfl rfl Generated.initParser_default hok hf
  refine ⟨r, h1, ?_⟩
  intro off l p hl hrun
  obtain ⟨_, b2, _, b4, b5, b6⟩ := h3 off l p (shellPad r.pos) hl hrun
  exact ⟨b2, b4, b5, b6 (shellPad_nonneg r.pos)⟩

open PlainGroup in
/-- a document of text, groups and undeclared macros with non-ASCII text on two lines:

        Ärger über \emph{süße Wörter}.
        Zeile \textbf{zwei – drei}
-/
def C14_group_doc : List PlainGroup.Item :=
  [.txt "Ärger über ".toList] ++ mac "emph".toList [[.txt "süße Wörter".toList]] ++
  [.txt ".\nZeile ".toList] ++ mac "textbf".toList [[.txt "zwei – drei".toList]] ++ [.txt "\n".toList]

/-- the side conditions of `C14_flagged_word_group_e2e` hold for it on the real tables -/
theorem C14_flagged_word_group_example_current :
    PlainGroup.DocOk Generated.theTables Generated.stDefault C14_group_doc := by
  rw [Generated.stDefault_eq]; unfold C14_group_doc; (repeat rw [String.toList_ofList]); decide +kernel

/-- … and the pipeline (the filter's output by `C03_unknown_args_e2e_current`; its reference and the
    shell evaluated by the kernel) for the answers "offset 16, length 6" (`Wörter`) and
    "offset 37, length 4" (`drei`) on the plain text `Ärger über süße Wörter.\nZeile zwei – drei\n`:
    `Wörter` is reported at line 1, column 23, length 6 (offset 22), byte column 26 (four two-byte
    letters in front); `drei` at line 2, column 22, length 4 (offset 52), byte column 23 (`–` takes
    three bytes). -/
theorem C14_flagged_word_group_example_eval :
    (match tex2txt Generated.theTables Generated.bigFuel (PlainGroup.render C14_group_doc)
        Generated.defaultOptions false 0 [] with
     | .ok r =>
       (r.txt.drop 16).take 6 == "Wörter".toList && decide (RunAt r.pos 16 6 23) &&
       (r.txt.drop 37).take 4 == "drei".toList && decide (RunAt r.pos 37 4 53) &&
       (match reportAll (natMap r.pos ++ shellPad r.pos) (PlainGroup.render C14_group_doc) 16 (some (.int 6)),
              reportAll (natMap r.pos ++ shellPad r.pos) (PlainGroup.render C14_group_doc) 37 (some (.int 4)) with
        | .ok L1, .ok L2 =>
          L1 == { offset := 22, length := 6, lin := 1, col := 23, json := ⟨0, 22, 0, 28⟩,
                  xml := ⟨0, 22, 0, 28⟩, xmlb := ⟨0, 26, 0, 33⟩ } &&
          L2 == { offset := 52, length := 4, lin := 2, col := 22, json := ⟨1, 21, 1, 25⟩,
                  xml := ⟨1, 21, 1, 25⟩, xmlb := ⟨1, 23, 1, 27⟩ }
        | _, _ => false)
     | _ => false) = true := by
  obtain ⟨r, h1, h2, h3, _⟩ := C03_unknown_args_e2e_current C14_group_doc 0
    C14_flagged_word_group_example_current (by decide +kernel)
  rw [h1]
  simp only [h2, h3]
  decide +kernel

end Yalafi
