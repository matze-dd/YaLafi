/-
  Properties/PlainMixStmt.lean — C03 "hidden material never leaks" and C05 "text flow is preserved",
  end to end on the filter model, for documents that MIX constructs: inert text, special sequences
  of the table, undeclared control words, calls of vanishing macros (`\label{…}`, `\index{…}`),
  `%` comments, `\verb` and simple inline formulas `$…$` — in any order (`PlainMix.Seg`).
  Proofs, side conditions and what is not covered: Proofs/PlainMixE2E.lean (header),
  Proofs/PlainMix.lean (one loop lemma), Proofs/PlainMixSrc.lean (documents, reference, one scanner
  lemma), Proofs/PlainMixRead.lean (readings of the reference).
-/
import YalafiVerif.Proofs.PlainMixRead
import YalafiVerif.Generated.Init
namespace Yalafi

/-- **mixed documents, end to end.**  For every document `render segs` whose segments are inert
    text, special sequences, undeclared control words (with the white space the filter skips
    behind them), calls of vanishing macros, comments, `\verb`s and simple inline formulas
    (`PlainMix.SegsOk`: all side conditions, computable; `repls` = the inline placeholder
    collection of the language, only looked at if there is a formula), `st1` the state after
    `Parser.__init__`, no `--defs --extr --repl --unkn`, single-language mode, fuel = source
    length + 2: `tex2txt` succeeds; the output text with its (1-based) positions is
    `delLines (marks …)`:

    * `marks`: a text character with its own position; a special sequence = a text-less mark and
      its table value from the position of its first character on; a control word, a vanishing
      call = a text-less mark; a comment = nothing; `\verb d s d` = a mark and `s` at its own
      positions; the `k`-th formula (`k` = 1, 2, …; the index into `repls` is 0-based: the first
      formula gets the second entry) = a mark, the placeholder `repls[k mod length]` and the closing
      punctuation of the body at the position of the first visible body character, a mark;
    * `delLines`: every line that consists of white space and at least one text-less mark is
      deleted with its line break (`remove_pure_action_lines`); nothing else changes;
    * the unknowns are the control words, each once, in order of first use;
      no diagnostic beyond those of the initialisation. -/
theorem C03_mix_e2e (T : PTables) (o : Options) (fs : FS) (thresh : Nat)
    (segs : List PlainMix.Seg) (fuel : Nat) (st1 : PState) (repls : List Str)
    (hdefs : o.defs = []) (hextr : o.extr = []) (hrepl : o.hasRepl = false) (hunkn : o.unkn = false)
    (hinit : initParser T fuel o (initialState T o false fs) = .ok ((), st1))
    (hok : PlainMix.SegsOk T st1 repls segs) (hf : (PlainMix.render segs).length + 2 ≤ fuel) :
    ∃ r, tex2txt T fuel (PlainMix.render segs) o false thresh fs = .ok r ∧
      r.txt = (PlainMacro.delLines (PlainMix.marks T repls 0 0 segs)).map (·.1) ∧
      r.pos = (PlainMacro.delLines (PlainMix.marks T repls 0 0 segs)).map (·.2 + 1) ∧
      r.unknowns = (PlainMix.cwNames segs).eraseDups ∧ r.diags = st1.diags := by
  obtain ⟨r, h1, h2, h3, h4, h5, _⟩ :=
    PlainMix.tex2txt_mix T o fs thresh segs fuel st1 repls hdefs hextr hrepl hunkn hinit hok hf
  exact ⟨r, h1, h2, h3, h4, h5⟩

/-- **nothing hidden leaks, nothing visible is lost.**  The output characters that are no white
    space, with their positions, are exactly those of `PlainMix.plain`, in source order: the text
    characters, the values of the special sequences, the contents of the `\verb`s, the placeholders
    and closing punctuation marks of the formulas — no character of a key, a comment, a
    control-word name or a formula body. -/
theorem C03_mix_words (T : PTables) (o : Options) (fs : FS) (thresh : Nat)
    (segs : List PlainMix.Seg) (fuel : Nat) (st1 : PState) (repls : List Str)
    (hdefs : o.defs = []) (hextr : o.extr = []) (hrepl : o.hasRepl = false) (hunkn : o.unkn = false)
    (hinit : initParser T fuel o (initialState T o false fs) = .ok ((), st1))
    (hok : PlainMix.SegsOk T st1 repls segs) (hf : (PlainMix.render segs).length + 2 ≤ fuel) :
    ∃ r, tex2txt T fuel (PlainMix.render segs) o false thresh fs = .ok r ∧
      (r.txt.zip r.pos).filter (fun cp => !isSpace cp.1)
        = ((PlainMix.plain T repls 0 0 segs).filter (fun cp => !isSpace cp.1)).map
            (fun cp => (cp.1, cp.2 + 1)) := by
  obtain ⟨r, h1, h2, h3, _⟩ :=
    C03_mix_e2e T o fs thresh segs fuel st1 repls hdefs hextr hrepl hunkn hinit hok hf
  refine ⟨r, h1, ?_⟩
  rw [h2, h3, List.zip_map', List.filter_map]
  have := PlainMix.delLines_words (PlainMix.marks T repls 0 0 segs)
  rw [PlainMix.marks_chars] at this
  show List.map _ (List.filter PlainMix.vis _) = List.map _ (List.filter PlainMix.vis _)
  rw [this]

/-- **blank-line removal adds nothing**: the output (characters with positions) is a subsequence
    of `PlainMix.plain`, the output characters before that pass (what the constructs generate is in
    it). -/
theorem C05_mix_nothing_added (T : PTables) (o : Options) (fs : FS) (thresh : Nat)
    (segs : List PlainMix.Seg) (fuel : Nat) (st1 : PState) (repls : List Str)
    (hdefs : o.defs = []) (hextr : o.extr = []) (hrepl : o.hasRepl = false) (hunkn : o.unkn = false)
    (hinit : initParser T fuel o (initialState T o false fs) = .ok ((), st1))
    (hok : PlainMix.SegsOk T st1 repls segs) (hf : (PlainMix.render segs).length + 2 ≤ fuel) :
    ∃ r, tex2txt T fuel (PlainMix.render segs) o false thresh fs = .ok r ∧
      List.Sublist (r.txt.zip r.pos)
        ((PlainMix.plain T repls 0 0 segs).map (fun cp => (cp.1, cp.2 + 1))) := by
  obtain ⟨r, h1, h2, h3, _⟩ :=
    C03_mix_e2e T o fs thresh segs fuel st1 repls hdefs hextr hrepl hunkn hinit hok hf
  refine ⟨r, h1, ?_⟩
  rw [h2, h3, List.zip_map']
  have := PlainMix.delLines_sublist (PlainMix.marks T repls 0 0 segs)
  rw [PlainMix.marks_chars] at this
  exact this.map _

/-- **a line is deleted iff it is pure.**  Split the marks of the document at a line: `A` (empty
    or ending with a line break), the line `L` (no line break), its line break `nlp`, the rest
    `B`.  Then the output is the output of `A`, followed by nothing if `L` is *pure*
    (`PlainMix.pureLine`: white space only and at least one text-less mark — the line and its line
    break are deleted) and by the characters of `L` and the line break otherwise, followed by the
    output of `B`. -/
theorem C05_mix_lines (T : PTables) (o : Options) (fs : FS) (thresh : Nat)
    (segs : List PlainMix.Seg) (fuel : Nat) (st1 : PState) (repls : List Str)
    (hdefs : o.defs = []) (hextr : o.extr = []) (hrepl : o.hasRepl = false) (hunkn : o.unkn = false)
    (hinit : initParser T fuel o (initialState T o false fs) = .ok ((), st1))
    (hok : PlainMix.SegsOk T st1 repls segs) (hf : (PlainMix.render segs).length + 2 ≤ fuel)
    (A L B : List PlainMacro.Mark) (nlp : Char × Nat)
    (hsplit : PlainMix.marks T repls 0 0 segs = A ++ (L ++ some nlp :: B))
    (hA : A = [] ∨ ∃ A' q, A = A' ++ [some q] ∧ (q.1 == nl) = true)
    (hL : L.any PlainMix.isNlMark = false) (hn : (nlp.1 == nl) = true) :
    ∃ r, tex2txt T fuel (PlainMix.render segs) o false thresh fs = .ok r ∧
      r.txt = (PlainMacro.delLines A ++ ((if PlainMix.pureLine L then [] else L.filterMap id ++ [nlp])
                ++ PlainMacro.delLines B)).map (·.1) ∧
      r.pos = (PlainMacro.delLines A ++ ((if PlainMix.pureLine L then [] else L.filterMap id ++ [nlp])
                ++ PlainMacro.delLines B)).map (·.2 + 1) := by
  obtain ⟨r, h1, h2, h3, _⟩ :=
    C03_mix_e2e T o fs thresh segs fuel st1 repls hdefs hextr hrepl hunkn hinit hok hf
  rw [hsplit, PlainMix.delLines_mid A L B nlp hA hL hn] at h2 h3
  exact ⟨r, h1, h2, h3⟩

/-- … and the last line (no line break behind it) -/
theorem C05_mix_last_line (T : PTables) (o : Options) (fs : FS) (thresh : Nat)
    (segs : List PlainMix.Seg) (fuel : Nat) (st1 : PState) (repls : List Str)
    (hdefs : o.defs = []) (hextr : o.extr = []) (hrepl : o.hasRepl = false) (hunkn : o.unkn = false)
    (hinit : initParser T fuel o (initialState T o false fs) = .ok ((), st1))
    (hok : PlainMix.SegsOk T st1 repls segs) (hf : (PlainMix.render segs).length + 2 ≤ fuel)
    (A L : List PlainMacro.Mark)
    (hsplit : PlainMix.marks T repls 0 0 segs = A ++ L)
    (hA : A = [] ∨ ∃ A' q, A = A' ++ [some q] ∧ (q.1 == nl) = true)
    (hL : L.any PlainMix.isNlMark = false) :
    ∃ r, tex2txt T fuel (PlainMix.render segs) o false thresh fs = .ok r ∧
      r.txt = (PlainMacro.delLines A ++ (if PlainMix.pureLine L then [] else L.filterMap id)).map (·.1) ∧
      r.pos = (PlainMacro.delLines A ++ (if PlainMix.pureLine L then [] else L.filterMap id)).map
                (·.2 + 1) := by
  obtain ⟨r, h1, h2, h3, _⟩ :=
    C03_mix_e2e T o fs thresh segs fuel st1 repls hdefs hextr hrepl hunkn hinit hok hf
  rw [hsplit, PlainMix.delLines_end A L hA hL] at h2 h3
  exact ⟨r, h1, h2, h3⟩

/-- … when no line is pure (`linesKept`, decidable): the output is `PlainMix.plain` — the source
    with the hidden material cut out and the replacements put in, nothing else added or removed -/
theorem C05_mix_kept (T : PTables) (o : Options) (fs : FS) (thresh : Nat)
    (segs : List PlainMix.Seg) (fuel : Nat) (st1 : PState) (repls : List Str)
    (hdefs : o.defs = []) (hextr : o.extr = []) (hrepl : o.hasRepl = false) (hunkn : o.unkn = false)
    (hinit : initParser T fuel o (initialState T o false fs) = .ok ((), st1))
    (hok : PlainMix.SegsOk T st1 repls segs) (hf : (PlainMix.render segs).length + 2 ≤ fuel)
    (hk : PlainMacro.linesKept true false (PlainMix.marks T repls 0 0 segs) = true) :
    ∃ r, tex2txt T fuel (PlainMix.render segs) o false thresh fs = .ok r ∧
      r.txt = (PlainMix.plain T repls 0 0 segs).map (·.1) ∧
      r.pos = (PlainMix.plain T repls 0 0 segs).map (·.2 + 1) := by
  obtain ⟨r, h1, h2, h3, _⟩ :=
    C03_mix_e2e T o fs thresh segs fuel st1 repls hdefs hextr hrepl hunkn hinit hok hf
  rw [PlainMacro.delLines_kept _ hk, PlainMix.marks_chars] at h2 h3
  exact ⟨r, h1, h2, h3⟩

/-- the end-to-end theorem for the CURRENT code (tables translated from /repo, default options,
    parser initialisation evaluated by the kernel) -/
theorem C03_mix_e2e_current (segs : List PlainMix.Seg) (repls : List Str) (thresh : Nat)
    (hok : PlainMix.SegsOk Generated.theTables Generated.stDefault repls segs)
    (hf : (PlainMix.render segs).length + 2 ≤ Generated.bigFuel) :
    ∃ r, tex2txt Generated.theTables Generated.bigFuel (PlainMix.render segs) Generated.defaultOptions
          false thresh [] = .ok r ∧
      r.txt = (PlainMacro.delLines (PlainMix.marks Generated.theTables repls 0 0 segs)).map (·.1) ∧
      r.pos = (PlainMacro.delLines (PlainMix.marks Generated.theTables repls 0 0 segs)).map (·.2 + 1) ∧
      r.unknowns = (PlainMix.cwNames segs).eraseDups ∧ r.diags = Generated.stDefault.diags :=
  C03_mix_e2e Generated.theTables Generated.defaultOptions [] thresh segs Generated.bigFuel
    Generated.stDefault repls rfl rfl rfl rfl Generated.initParser_default hok hf

/-- the inline placeholder collection of the current /repo for English -/
def C03_mix_repls : List Str :=
  ["B-B-B", "C-C-C", "D-D-D", "E-E-E", "F-F-F", "G-G-G"].map String.toList

/-- a document that uses every kind of segment: `--`, `\%`, `~`, ``` `` ```, `''`; `\foo` (twice) and
    `\bar`, with a blank / a line break behind them; `\label{…}` inside a line, `\index{…}` on a
    line with `~`; a comment that swallows the indentation of the next line, one directly behind
    a control word and one at the very end; `\verb|x_$%|`; two formulas, one with closing punctuation, one with blanks around its body.
    Source:

        Alpha--beta \foo gamma\label{sec:a} 100\% sure. % hidden
          Next $a+b,$ and
        \bar
        \index{key}~
        ``quoted'' \foo % again
        \verb|x_$%| end $ x $.
        % last
-/
def C03_mix_doc : List PlainMix.Seg :=
  [.txt "Alpha".toList, .spc "--".toList, .txt "beta ".toList, .cw "foo".toList " ".toList,
   .txt "gamma".toList, .van "label".toList "sec:a".toList, .txt " 100".toList, .spc "\\%".toList,
   .txt " sure. ".toList, .com " hidden\n  ".toList, .txt "Next ".toList, .math "a+b,".toList,
   .txt " and\n".toList, .cw "bar".toList "\n".toList, .van "index".toList "key".toList,
   .spc "~".toList, .txt "\n".toList, .spc "``".toList, .txt "quoted".toList, .spc "''".toList,
   .txt " ".toList, .cw "foo".toList " ".toList, .com " again\n".toList, .verb '|' "x_$%".toList, .txt " end ".toList,
   .math " x ".toList, .txt ".\n".toList, .com " last".toList]

/-- the side conditions hold for it on the real tables -/
theorem C03_mix_example_current :
    PlainMix.SegsOk Generated.theTables Generated.stDefault C03_mix_repls C03_mix_doc := by
  rw [Generated.stDefault_eq]; unfold C03_mix_repls C03_mix_doc; (repeat rw [String.toList_ofList]); decide +kernel

/-- … and this is what the theorem says about it: the reference output, text and positions.  (The
    lines `\bar` and `\index{key}~` are pure — `~` stands for U+00A0, which counts as white space —
    and disappear with their line breaks; the comment takes its line break and the indentation
    with it; the formulas get the second and third placeholder of the collection.) -/
theorem C03_mix_example_ref :
    (PlainMacro.delLines (PlainMix.marks Generated.theTables C03_mix_repls 0 0 C03_mix_doc)).map (·.1)
        = "Alpha–beta gamma 100% sure. Next C-C-C, and\n“quoted” x_$% end D-D-D.\n".toList ∧
    (PlainMacro.delLines (PlainMix.marks Generated.theTables C03_mix_repls 0 0 C03_mix_doc)).map (·.2 + 1)
        = [1, 2, 3, 4, 5, 6, 8, 9, 10, 11, 12, 18, 19, 20, 21, 22, 36, 37, 38, 39, 40, 42, 43, 44, 45,
           46, 47, 48, 60, 61, 62, 63, 64, 66, 66, 66, 66, 66, 66, 71, 72, 73, 74, 75, 94, 96, 97, 98,
           99, 100, 101, 102, 104, 124, 125, 126, 127, 129, 130, 131, 132, 133, 136, 136, 136, 136,
           136, 139, 140] ∧
    (PlainMix.cwNames C03_mix_doc).eraseDups = ["\\foo".toList, "\\bar".toList] := by
  rw [String.toList_ofList, String.toList_ofList, String.toList_ofList]; decide +kernel

/-- … which is what the model computes (by the theorem and the two evaluations above): text,
    positions, unknowns -/
theorem C03_mix_example_eval :
    (match tex2txt Generated.theTables Generated.bigFuel (PlainMix.render C03_mix_doc)
        Generated.defaultOptions false 0 [] with
     | .ok r =>
       r.txt == "Alpha–beta gamma 100% sure. Next C-C-C, and\n“quoted” x_$% end D-D-D.\n".toList &&
       r.pos == [1, 2, 3, 4, 5, 6, 8, 9, 10, 11, 12, 18, 19, 20, 21, 22, 36, 37, 38, 39, 40, 42, 43,
           44, 45, 46, 47, 48, 60, 61, 62, 63, 64, 66, 66, 66, 66, 66, 66, 71, 72, 73, 74, 75, 94, 96,
           97, 98, 99, 100, 101, 102, 104, 124, 125, 126, 127, 129, 130, 131, 132, 133, 136, 136,
           136, 136, 136, 139, 140] &&
       r.unknowns == ["\\foo".toList, "\\bar".toList]
     | _ => false) = true := by
  obtain ⟨r, h1, h2, h3, h4, _⟩ := C03_mix_e2e_current C03_mix_doc C03_mix_repls 0
    C03_mix_example_current (by decide +kernel)
  rw [h1]
  simp only [h2, h3, h4, C03_mix_example_ref, beq_self_eq_true, Bool.and_self]

end Yalafi
