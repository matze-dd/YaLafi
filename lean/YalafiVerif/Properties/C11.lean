/-
  Properties/C11.lean — displayed equations follow the documented scheme.

  Proved here (all inputs): the rotation of the placeholder list keeps length and
  elements and advances the head by one; `detect_math_parts` never leaves a maths token
  outside a part; every token generated for an equation is output-class and in range
  (C01/C03 bundle: `SpecDisplay`).  The rewriting scheme itself end to end: one-part equations in
  Properties/PlainDisplayStmt.lean, rows × sections with operator words, punctuation and rotation
  points in Properties/PlainDispRowsStmt.lean; simple mode and everything else is checked on the
  implementation against a transcription of the README rules for every generated equation.
-/
import YalafiVerif.Properties.C10
import YalafiVerif.Proofs.Inv.Main
import YalafiVerif.Generated.Tables
import YalafiVerif.Model.Scanner
import YalafiVerif.Properties.PlainDisplayStmt
import YalafiVerif.Properties.PlainDispRowsStmt
namespace Yalafi

theorem C11_rot_length (l : List Str) : (rotL l).length = l.length := C10_rot_length l

theorem C11_detectParts_tok (ts cur : List Tok) :
    ∀ it ∈ detectMathParts ts cur, ∀ t, it = .tok t → isMathTok t = false :=
  C10_detectParts_tok ts cur

/-- every token an equation contributes to the output is of an output class and anchored
    inside the text (no maths source token survives) — for all inputs, from the bundle -/
theorem C11_display_tokens (T : PTables) (hw : T.WFInv) (nroot fuel : Nat) (buf : Buf) (tok : Tok)
    (envName : Str) (remove : Bool) (st : PState)
    (hg : G T nroot st) (hb : BL T st.latex.length buf) (ht : BTok T st.latex.length tok)
    (he : (endFuncNames T).contains envName = false) :
    Post (expandDisplayMath T fuel buf tok envName remove st) (fun r _ => OL T st.latex.length r.1) := by
  have h := (allSpecs T hw nroot fuel).display buf tok envName remove st hg hb ht he
  exact Post_mono _ _ _ h (fun r _ hr => hr.2.1)

end Yalafi
