/-
  Properties/PlainItemLStmt.lean — C04 "every output character that is not a copy of body text — item
  labels … — maps to an offset inside the source span of the construct that produced it", end to end
  on the filter model, for list environments with LABELLED items `\item[label]` (and unlabelled ones,
  and undeclared environments such as `description`).
  Proofs, side conditions, what is not covered: Proofs/PlainItemL.lean (header),
  Proofs/PlainItemLBase.lean (expander level), Proofs/PlainItemLRead.lean (spans).
-/
import YalafiVerif.Proofs.PlainItemLRead
import YalafiVerif.Generated.Init
namespace Yalafi

/-- **labelled items, end to end.**  For every document `render segs` of inert text, `\begin{name}` /
    `\end{name}` of declared list environments, unlabelled items `\item`, LABELLED items
    `\item[label]` and `\begin{name}` / `\end{name}` of undeclared environments (`PlainItemL.SegsOk`: all
    side conditions, computable), `st1` the state after `Parser.__init__`, no `--defs --extr --repl
    --unkn`, single-language mode, fuel ≥ twice the source length + 4: `tex2txt` succeeds; the output
    text with its (1-based) positions is `delLines (marks T st1 none st1.itemStack 0 segs)`:

    * `marks` for `\item ws [label]` at `p`: a blank at `p`, two text-less marks, THE LABEL TEXT AT ITS
      OWN SOURCE POSITIONS (it replaces the default label; the counter of the list does not
      advance), a text-less mark, then — pinned at the start of the last token of the label (at `[`
      for `\item[]`) — the punctuation mark that ended the output so far (if it is one of
      `item_punctuation`: `x:⏎\item[a]` gives ` a: `) and a blank;
    * an unlabelled `\item`: a text-less mark, blank, default label, blank, all at its backslash;
      `\begin` / `\end` of a list: the marks of `add_pars`; of an undeclared environment: one
      text-less mark, and the name goes to `unknowns`;
    * `delLines`: every line that consists of white space and at least one text-less mark is
      deleted with its line break; nothing else;
      no diagnostic beyond those of the initialisation. -/
theorem C04_labelled_items_e2e (T : PTables) (o : Options) (fs : FS) (thresh : Nat)
    (segs : List PlainItemL.Seg) (fuel : Nat) (st1 : PState)
    (hdefs : o.defs = []) (hextr : o.extr = []) (hrepl : o.hasRepl = false) (hunkn : o.unkn = false)
    (hinit : initParser T fuel o (initialState T o false fs) = .ok ((), st1))
    (hok : PlainItemL.SegsOk T st1 segs) (hf : 2 * (PlainItemL.render segs).length + 4 ≤ fuel) :
    ∃ r, tex2txt T fuel (PlainItemL.render segs) o false thresh fs = .ok r ∧
      r.txt = (PlainMacro.delLines (PlainItemL.marks T st1 none st1.itemStack 0 segs)).map (·.1) ∧
      r.pos = (PlainMacro.delLines (PlainItemL.marks T st1 none st1.itemStack 0 segs)).map (·.2 + 1) ∧
      r.unknowns = (PlainItemL.unames segs).foldl addU [] ∧ r.diags = st1.diags ∧ r.parts = [] :=
  PlainItemL.tex2txt_items T o fs thresh segs fuel st1 hdefs hextr hrepl hunkn hinit hok hf

/-- **the generated characters map inside the construct that produced them.**  Every output
    character, with its (1-based) position `q + 1`, is
    * a COPY of a source character — of a text segment or of a label — at its own position (`srcChars`;
      the source has this character at offset `q`), or
    * generated by a list command (`\begin{name}`, `\item`, `\item[label]`, `\end{name}`) whose source
      span `[x.1, x.1 + x.2)` contains `q`: the blanks around a label, the repeated punctuation, the
      default label, the paragraph breaks. -/
theorem C04_labelled_items_origin (T : PTables) (o : Options) (fs : FS) (thresh : Nat)
    (segs : List PlainItemL.Seg) (fuel : Nat) (st1 : PState)
    (hdefs : o.defs = []) (hextr : o.extr = []) (hrepl : o.hasRepl = false) (hunkn : o.unkn = false)
    (hinit : initParser T fuel o (initialState T o false fs) = .ok ((), st1))
    (hok : PlainItemL.SegsOk T st1 segs) (hf : 2 * (PlainItemL.render segs).length + 4 ≤ fuel) :
    ∃ r, tex2txt T fuel (PlainItemL.render segs) o false thresh fs = .ok r ∧
      ∀ cq ∈ r.txt.zip r.pos, ∃ q, cq.2 = q + 1 ∧
        (((cq.1, q) ∈ PlainItemL.srcChars 0 segs ∧ (PlainItemL.render segs)[q]? = some cq.1) ∨
         (∃ x ∈ PlainItemL.spans 0 segs, x.1 ≤ q ∧ q < x.1 + x.2)) := by
  obtain ⟨r, h1, h2, h3, _⟩ :=
    PlainItemL.tex2txt_items T o fs thresh segs fuel st1 hdefs hextr hrepl hunkn hinit hok hf
  refine ⟨r, h1, ?_⟩
  intro cq hcq
  rw [h2, h3, List.zip_map'] at hcq
  obtain ⟨cp, hcp, rfl⟩ := List.mem_map.mp hcq
  refine ⟨cp.2, rfl, ?_⟩
  rcases PlainItemL.out_origin T st1 segs cp hcp with h | h
  · left
    refine ⟨h, ?_⟩
    have := (PlainItemL.srcChars_in_source segs 0 cp h).2
    simpa using this
  · exact Or.inr h

/-- the end-to-end theorem for the CURRENT code (tables translated from /repo, default options,
    parser initialisation evaluated by the kernel) -/
theorem C04_labelled_items_current (segs : List PlainItemL.Seg) (thresh : Nat)
    (hok : PlainItemL.SegsOk Generated.theTables Generated.stDefault segs)
    (hf : 2 * (PlainItemL.render segs).length + 4 ≤ Generated.bigFuel) :
    ∃ r, tex2txt Generated.theTables Generated.bigFuel (PlainItemL.render segs) Generated.defaultOptions
          false thresh [] = .ok r ∧
      r.txt = (PlainMacro.delLines (PlainItemL.marks Generated.theTables Generated.stDefault none
        Generated.stDefault.itemStack 0 segs)).map (·.1) ∧
      r.pos = (PlainMacro.delLines (PlainItemL.marks Generated.theTables Generated.stDefault none
        Generated.stDefault.itemStack 0 segs)).map (·.2 + 1) ∧
      r.unknowns = (PlainItemL.unames segs).foldl addU [] ∧ r.diags = Generated.stDefault.diags := by
  obtain ⟨r, h1, h2, h3, h4, h5, _⟩ :=
    C04_labelled_items_e2e Generated.theTables Generated.defaultOptions [] thresh segs Generated.bigFuel
      Generated.stDefault rfl rfl rfl rfl Generated.initParser_default hok hf
  exact ⟨r, h1, h2, h3, h4, h5⟩

namespace PlainItemLExample

/-- `\begin{description}⏎\item[Alpha] one⏎\item[Beta] two⏎\end{description}⏎` — `description` is not
    declared in the tables of /repo: an undeclared environment -/
def doc1 : List PlainItemL.Seg :=
  [.ubeg "description".toList, .txt "\n".toList, .itemL [] "Alpha".toList, .txt " one\n".toList,
   .itemL [] "Beta".toList, .txt " two\n".toList, .uen "description".toList, .txt "\n".toList]

/-- `x:⏎\begin{enumerate}⏎\item[Alpha] one.⏎\item two;⏎\item [a b]three⏎\item[] four⏎\item five⏎\end{enumerate}⏎` -/
def doc2 : List PlainItemL.Seg :=
  [.txt "x:\n".toList, .beg "enumerate".toList, .txt "\n".toList, .itemL [] "Alpha".toList,
   .txt " one.\n".toList, .item " ".toList, .txt "two;\n".toList, .itemL " ".toList "a b".toList,
   .txt "three\n".toList, .itemL [] [], .txt " four\n".toList, .item " ".toList, .txt "five\n".toList,
   .en "enumerate".toList, .txt "\n".toList]

theorem doc1_src : PlainItemL.render doc1
    = "\\begin{description}\n\\item[Alpha] one\n\\item[Beta] two\n\\end{description}\n".toList := by
  unfold doc1; (repeat rw [String.toList_ofList]); decide

theorem doc2_src : PlainItemL.render doc2
    = "x:\n\\begin{enumerate}\n\\item[Alpha] one.\n\\item two;\n\\item [a b]three\n\\item[] four\n\\item five\n\\end{enumerate}\n".toList := by
  unfold doc2; (repeat rw [String.toList_ofList]); decide

end PlainItemLExample

open PlainItemLExample in
/-- two concrete documents satisfy all side conditions on the real tables; `description` is not a
    declared environment there -/
theorem C04_labelled_items_example_current :
    PlainItemL.SegsOk Generated.theTables Generated.stDefault doc1 ∧
    PlainItemL.SegsOk Generated.theTables Generated.stDefault doc2 ∧
    (lookupEnv Generated.stDefault "description".toList).isNone = true := by
  rw [Generated.stDefault_eq]; unfold doc1 doc2; (repeat rw [String.toList_ofList]); decide +kernel

/-- the initialisation with the fuel of the two runs below reaches the same state -/
theorem initParser_default_400 :
    initParser Generated.theTables 400 Generated.defaultOptions
      (initialState Generated.theTables Generated.defaultOptions false []) = .ok ((), Generated.stDefault) := by
  rw [Generated.stDefault_eq]
  exact Generated.initParser_builtins (f := 397) rfl rfl (by decide +kernel)

open PlainItemLExample in
/-- the reference output of the `description` list (kernel evaluation): label, two blanks (the one
    pinned at the last letter of the label and the source blank), text; the `\begin` / `\end` lines
    have disappeared; the model yields it (by `C04_labelled_items_e2e`), and reports `description` as unknown -/
theorem C04_labelled_items_doc1_eval :
    (PlainMacro.delLines (PlainItemL.marks Generated.theTables Generated.stDefault none
        Generated.stDefault.itemStack 0 doc1)).map (·.1) = " Alpha  one\n Beta  two\n".toList ∧
    (PlainMacro.delLines (PlainItemL.marks Generated.theTables Generated.stDefault none
        Generated.stDefault.itemStack 0 doc1)).map (·.2 + 1)
      = [21, 27, 28, 29, 30, 31, 31, 33, 34, 35, 36, 37, 38, 44, 45, 46, 47, 47, 49, 50, 51, 52, 53] ∧
    (match tex2txt Generated.theTables 400 (PlainItemL.render doc1) Generated.defaultOptions false 0 [] with
     | .ok r => r.txt == " Alpha  one\n Beta  two\n".toList &&
        r.pos == [21, 27, 28, 29, 30, 31, 31, 33, 34, 35, 36, 37, 38, 44, 45, 46, 47, 47, 49, 50, 51, 52, 53] &&
        r.unknowns == ["description".toList]
     | _ => false) = true := by
  rw [← and_assoc]
  refine (and_iff_left_of_imp fun e => ?_).mpr (by rw [Generated.stDefault_eq, String.toList_ofList]; decide +kernel)
  obtain ⟨r, h1, h2, h3, h4, _⟩ := C04_labelled_items_e2e Generated.theTables Generated.defaultOptions [] 0 doc1
    400 Generated.stDefault rfl rfl rfl rfl initParser_default_400 C04_labelled_items_example_current.1
    (by decide +kernel)
  rw [h1]
  simp only [h2, h3, h4, e.1, e.2, beq_self_eq_true, Bool.and_self, Bool.true_and]
  rfl

open PlainItemLExample in
/-- labelled and unlabelled items mixed in `enumerate`: the labels `Alpha`, `a b`, the empty label; the
    repeated punctuation (`:` from `x:`, `;` from `two;`); the counter counts the unlabelled items only
    (`1.`, `2.`) — kernel evaluation of the reference; that the model yields it follows by
    `C04_labelled_items_e2e` -/
theorem C04_labelled_items_doc2_eval :
    (PlainMacro.delLines (PlainItemL.marks Generated.theTables Generated.stDefault none
        Generated.stDefault.itemStack 0 doc2)).map (·.1)
      = "x:\n Alpha:  one.\n 1. two;\n a b; three\n   four\n 2. five\n".toList ∧
    (match tex2txt Generated.theTables 400 (PlainItemL.render doc2) Generated.defaultOptions false 0 [] with
     | .ok r => r.txt == "x:\n Alpha:  one.\n 1. two;\n a b; three\n   four\n 2. five\n".toList &&
        r.pos == (PlainMacro.delLines (PlainItemL.marks Generated.theTables Generated.stDefault none
          Generated.stDefault.itemStack 0 doc2)).map (·.2 + 1) &&
        r.unknowns.isEmpty
     | _ => false) = true := by
  refine (and_iff_left_of_imp fun e => ?_).mpr (by rw [Generated.stDefault_eq, String.toList_ofList]; decide +kernel)
  obtain ⟨r, h1, h2, h3, h4, _⟩ := C04_labelled_items_e2e Generated.theTables Generated.defaultOptions [] 0 doc2
    400 Generated.stDefault rfl rfl rfl rfl initParser_default_400 C04_labelled_items_example_current.2.1
    (by decide +kernel)
  rw [h1]
  simp only [h2, h3, h4, e, beq_self_eq_true, Bool.and_self, Bool.true_and]
  rfl

end Yalafi
