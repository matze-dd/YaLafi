/-
  Properties/C18.lean — extraction and inclusion tracking.

  Proved (all inclusion relations, skip predicates and fuel; model of the work list of
  shell.py): the list of checked files has no duplicates and contains no skipped file
  (`C18_include_nodup`), contains every given non-skipped file and is closed under inclusion
  through non-skipped files (`C18_include_closed`), and contains only files reachable from the
  given ones (`C18_include_reachable`); `addTex` returns the name or the name with `.tex`
  appended, and the result ends in `.tex` (`C18_addTex`).  Termination, breadth-first discovery
  order and the work list on real `\input` documents: `C18_include_terminates`, `C18_include_bfs`,
  `C18_include_system` (SystemIncludeStmt.lean).  Extraction mode: the output consists of exactly
  the first mandatory arguments of the listed macros for the documents of `C18_extract_e2e` /
  `C18_extract_exact` (PlainExtractStmt.lean).  Both are also checked on generated documents and
  on generated inclusion graphs with cycles, self-inclusion, duplicates and skip patterns.
-/
import YalafiVerif.Proofs.SystemIncludeLoop
import YalafiVerif.Properties.PlainExtractStmt
import YalafiVerif.Properties.SystemIncludeStmt
namespace Yalafi

theorem C18_include_nodup (includes : Str → List Str) (skip : Str → Bool) (fuel : Nat) (todo out : List Str)
    (h : includeLoop includes skip fuel todo [] = some out) :
    out.Nodup ∧ ∀ f ∈ out, skip f = false := by
  have := includeLoop_nodup includes skip fuel todo [] out List.nodup_nil (by simp) h
  exact ⟨this.1, this.2.1⟩

theorem C18_include_closed (includes : Str → List Str) (skip : Str → Bool) (fuel : Nat) (todo out : List Str)
    (h : includeLoop includes skip fuel todo [] = some out) :
    (∀ f ∈ todo, skip f = false → f ∈ out) ∧
    (∀ f ∈ out, ∀ g ∈ includes f, skip g = false → g ∈ out) :=
  includeLoop_closed includes skip fuel todo [] out (by simp) h

theorem C18_include_reachable (includes : Str → List Str) (skip : Str → Bool) (fuel : Nat) (todo out : List Str)
    (R : Str → Prop) (hR : ∀ f, R f → ∀ g ∈ includes f, R g) (ht : ∀ f ∈ todo, R f)
    (h : includeLoop includes skip fuel todo [] = some out) : ∀ f ∈ out, R f :=
  includeLoop_reachable includes skip fuel todo [] out R hR ht (by simp) h

theorem C18_addTex (f : Str) : (addTex f).drop ((addTex f).length - 4) = ".tex".toList ∧
    (addTex f = f ∨ addTex f = f ++ ".tex".toList) :=
  addTex_suffix f

end Yalafi
