/-
  Properties/PlainParaStmt.lean — C05 "text flow is preserved", the PARAGRAPH-LEVEL reading: the
  relation between two words of a document of the enlarged union grammar (`PlainMix2.Seg`: inert
  text, special sequences, braces / groups / undeclared control words with arguments, vanishing
  calls, comments, `\verb`, inline formulas, references, citations, footnotes, headings).
  A corollary layer over `C03_mix2_e2e`.  Proofs, definitions, side conditions, what is not
  covered: Proofs/PlainPara.lean (marks), Proofs/PlainParaSrc.lean (documents).
-/
import YalafiVerif.Proofs.PlainParaSrc
import YalafiVerif.Generated.Init
namespace Yalafi

open PlainMix2.Para in
/-- **the paragraph relation between two text characters.**  The document is
    `docAB A u a Mid b v B = A ++ .txt (u ++ [a]) :: (Mid ++ .txt (b :: v) :: B)` — two visible text
    characters `a` (0-based source position `posA A u`) and `b` (`posB A u Mid`), the source between
    them is `render Mid`.  Under the side conditions of `C03_mix2_e2e` for the document, `tex2txt`
    succeeds and its output, characters with (1-based) positions, is

        U ++ (a, posA + 1) :: (S ++ (b, posB + 1) :: V),      S = `between … Mid`

    (`S` = the output characters strictly between `a` and `b` = `PlainPara.sep` of the marks of
    `Mid`: the rest of the line of `a` and the last line in front of `b` are copied, every line
    between is deleted with its line break iff it is white space with at least one vanished
    construct).  For `S` and the layout of the source between `a` and `b` as TeX reads it
    (`srcView Mid`: comments dropped, every construct — a control word WITH the white space it
    swallows, a call with its argument, … — one ink blob):

    * (i)+(ii) NO INVENTED, NO LOST BREAK (if the constructs in `Mid` that produce output produce no
      line break, `outNoNl`): `S` holds a blank line (two line breaks with white space only
      between them) IFF `srcView Mid` does;
    * (i) on the raw source: if `render Mid` with the comments cut out holds no blank line, `S`
      holds none;
    * (iii) NOT GLUED: if `srcView Mid` holds white space (a white-space character of a `txt`
      segment), `S` holds white space;
    * nothing is added: `S` is a subsequence of the output characters of `Mid`, and (if no special
      sequence in `Mid` has a value longer than itself, `spcShort`) every position in `S` lies
      strictly between the positions of `a` and `b`. -/
theorem C05_paragraph_relation (T : PTables) (o : Options) (fs : FS) (thresh : Nat)
    (A : List PlainMix2.Seg) (u : Str) (a : Char) (Mid : List PlainMix2.Seg) (b : Char) (v : Str)
    (B : List PlainMix2.Seg) (fuel : Nat) (st1 : PState) (repls : List Str)
    (hdefs : o.defs = []) (hextr : o.extr = []) (hrepl : o.hasRepl = false) (hunkn : o.unkn = false)
    (hinit : initParser T fuel o (initialState T o false fs) = .ok ((), st1))
    (hok : PlainMix2.SegsOk T st1 repls (docAB A u a Mid b v B))
    (hf : (PlainMix2.render (docAB A u a Mid b v B)).length + 4 ≤ fuel)
    (ha : isSpace a = false) (hb : isSpace b = false) :
    ∃ r, tex2txt T fuel (PlainMix2.render (docAB A u a Mid b v B)) o false thresh fs = .ok r ∧
      ∃ U V, r.txt = (U ++ (a, posA A u) :: (between T st1 repls A u Mid
                        ++ (b, posB A u Mid) :: V)).map (·.1) ∧
        r.pos = (U ++ (a, posA A u) :: (between T st1 repls A u Mid
                        ++ (b, posB A u Mid) :: V)).map (·.2 + 1) ∧
        U = PlainPara.pre (frontMarks T st1 repls A u) ∧
        V = PlainPara.post (backMarks T st1 repls A u Mid v B)
              ++ PlainMix2.flows 0 (docAB A u a Mid b v B) ∧
        (outNoNl T st1 repls Mid = true →
          PlainPara.hasBlank ((between T st1 repls A u Mid).map PlainPara.clsP)
            = PlainPara.hasBlank (srcView Mid)) ∧
        (outNoNl T st1 repls Mid = true →
          PlainPara.hasBlankLine (PlainMix2.render (stripCom Mid)) = false →
          PlainPara.hasBlank ((between T st1 repls A u Mid).map PlainPara.clsP) = false) ∧
        ((srcView Mid).any (fun c => c != .ink) = true →
          (between T st1 repls A u Mid).any (fun cp => isSpace cp.1) = true) ∧
        List.Sublist (between T st1 repls A u Mid)
          (PlainMix2.plain T st1 repls (PlainMix2.nFormulas A) (posA A u + 1) Mid) ∧
        (spcShort T Mid = true →
          ∀ cp ∈ between T st1 repls A u Mid, posA A u < cp.2 ∧ cp.2 < posB A u Mid) := by
  obtain ⟨r, h1, h2, h3, _⟩ :=
    PlainMix2.tex2txt_mix2 T o fs thresh _ fuel st1 repls hdefs hextr hrepl hunkn hinit hok hf
  rw [ref_docAB T st1 repls A u a Mid b v B ha hb] at h2 h3
  refine ⟨r, h1, _, _, ?_, ?_, rfl, rfl, ?_, ?_, ?_, ?_, between_pos T st1 repls A u Mid⟩
  · rw [h2]; simp only [List.append_assoc, List.cons_append]
  · rw [h3]; simp only [List.append_assoc, List.cons_append]
  · exact between_blank T st1 repls A u Mid
  · intro hn hraw
    exact between_blank_raw T st1 repls A u Mid hn (spcVis_mid T st1 A u a Mid b v B hok.2.1) hraw
  · exact between_space T st1 repls A u Mid
  · exact between_sublist T st1 repls A u Mid

open PlainMix2.Para in
/-- **two words separated only by white space, comments and vanishing constructs** (`gap Mid`:
    white space, `%` comments, unknown control words with the white space they swallow, vanishing
    calls `\label{…}` / `\index{…}`, braces, footnotes).  Then between `a` and `b` the output holds
    ONLY WHITE SPACE; it holds a blank line — `a` and `b` are in different output paragraphs — IFF
    the source between them holds a blank line outside comments and not counting the white space
    behind a control word (`srcView`); in particular a line that becomes blank only because its
    constructs vanished is no paragraph break, a line that is blank in the source is one; and if
    the source holds any white space between them (outside comments, not behind a control word)
    the words are not glued; every position in `S` lies strictly between those of `a` and `b`. -/
theorem C05_same_paragraph (T : PTables) (o : Options) (fs : FS) (thresh : Nat)
    (A : List PlainMix2.Seg) (u : Str) (a : Char) (Mid : List PlainMix2.Seg) (b : Char) (v : Str)
    (B : List PlainMix2.Seg) (fuel : Nat) (st1 : PState) (repls : List Str)
    (hdefs : o.defs = []) (hextr : o.extr = []) (hrepl : o.hasRepl = false) (hunkn : o.unkn = false)
    (hinit : initParser T fuel o (initialState T o false fs) = .ok ((), st1))
    (hok : PlainMix2.SegsOk T st1 repls (docAB A u a Mid b v B))
    (hf : (PlainMix2.render (docAB A u a Mid b v B)).length + 4 ≤ fuel)
    (ha : isSpace a = false) (hb : isSpace b = false) (hgap : gap Mid = true) :
    ∃ r U S V, tex2txt T fuel (PlainMix2.render (docAB A u a Mid b v B)) o false thresh fs = .ok r ∧
      r.txt = (U ++ (a, posA A u) :: (S ++ (b, posB A u Mid) :: V)).map (·.1) ∧
      r.pos = (U ++ (a, posA A u) :: (S ++ (b, posB A u Mid) :: V)).map (·.2 + 1) ∧
      (∀ cp ∈ S, isSpace cp.1 = true) ∧
      PlainPara.hasBlankLine (S.map (·.1)) = PlainPara.hasBlank (srcView Mid) ∧
      ((srcView Mid).any (fun c => c != .ink) = true → S ≠ []) ∧
      (∀ cp ∈ S, posA A u < cp.2 ∧ cp.2 < posB A u Mid) := by
  obtain ⟨r, h1, U, V, h2, h3, _, _, h4, _, h5, _, h6⟩ :=
    C05_paragraph_relation T o fs thresh A u a Mid b v B fuel st1 repls hdefs hextr hrepl hunkn hinit
      hok hf ha hb
  refine ⟨r, U, between T st1 repls A u Mid, V, h1, h2, h3, between_gap T st1 repls A u Mid hgap, ?_, ?_,
    h6 (gap_facts T Mid hgap).1⟩
  · have := h4 ((gap_facts T Mid hgap).2 st1 repls).1
    rw [← this]
    simp only [PlainPara.hasBlankLine, List.map_map, Function.comp_def]
    rfl
  · intro h hS
    have := h5 h
    rw [hS] at this
    simp at this

/-! ### the current code -/

open PlainMix2.Para in
/-- `C05_same_paragraph` (the pieces between the words are a gap) for the CURRENT code (tables
    translated from /repo, default options, parser initialisation evaluated by the kernel) -/
theorem C05_paragraph_relation_current (A : List PlainMix2.Seg) (u : Str) (a : Char)
    (Mid : List PlainMix2.Seg) (b : Char) (v : Str) (B : List PlainMix2.Seg) (repls : List Str)
    (thresh : Nat)
    (hok : PlainMix2.SegsOk Generated.theTables Generated.stDefault repls (docAB A u a Mid b v B))
    (hf : (PlainMix2.render (docAB A u a Mid b v B)).length + 4 ≤ Generated.bigFuel)
    (ha : isSpace a = false) (hb : isSpace b = false) (hgap : gap Mid = true) :
    ∃ r U S V, tex2txt Generated.theTables Generated.bigFuel (PlainMix2.render (docAB A u a Mid b v B))
        Generated.defaultOptions false thresh [] = .ok r ∧
      r.txt = (U ++ (a, posA A u) :: (S ++ (b, posB A u Mid) :: V)).map (·.1) ∧
      r.pos = (U ++ (a, posA A u) :: (S ++ (b, posB A u Mid) :: V)).map (·.2 + 1) ∧
      (∀ cp ∈ S, isSpace cp.1 = true) ∧
      PlainPara.hasBlankLine (S.map (·.1)) = PlainPara.hasBlank (srcView Mid) ∧
      ((srcView Mid).any (fun c => c != .ink) = true → S ≠ []) ∧
      (∀ cp ∈ S, posA A u < cp.2 ∧ cp.2 < posB A u Mid) :=
  C05_same_paragraph Generated.theTables Generated.defaultOptions [] thresh A u a Mid b v B
    Generated.bigFuel Generated.stDefault repls rfl rfl rfl rfl Generated.initParser_default hok hf
    ha hb hgap

/-- the tail of the example document: `% c⏎␣␣\foo four⏎` -/
def C05_para_tail : List PlainMix2.Seg :=
  [.com " c\n  ".toList, .cw "foo".toList " ".toList, .txt "four\n".toList]

/-- the front of the example document: `One\label{a}⏎\index{b}` -/
def C05_para_front : List PlainMix2.Seg :=
  [.txt "One".toList, .van "label".toList "a".toList, .txt "\n".toList,
   .van "index".toList "b".toList]

/-- The example document

        One\label{a}
        \index{b}
        two.

        Three % c
          \foo four

    cut at `One` / `two`: between them a label, a line break, a line that holds only an index
    entry, and its line break. -/
def C05_para_doc1 : List PlainMix2.Seg :=
  PlainMix2.Para.docAB [] "On".toList 'e'
    [.van "label".toList "a".toList, .txt "\n".toList, .van "index".toList "b".toList, .txt "\n".toList]
    't' "wo.\n\nThree ".toList C05_para_tail

/-- … cut at `two.` / `Three`: a blank line between them -/
def C05_para_doc2 : List PlainMix2.Seg :=
  PlainMix2.Para.docAB C05_para_front "\ntwo".toList '.' [.txt "\n\n".toList] 'T' "hree ".toList
    C05_para_tail

/-- … cut at `Three` / `four`: a blank, a comment with its line break and the indentation of the next
    line, an unknown control word with the blank behind it -/
def C05_para_doc3 : List PlainMix2.Seg :=
  PlainMix2.Para.docAB C05_para_front "\ntwo.\n\nThre".toList 'e'
    [.txt " ".toList, .com " c\n  ".toList, .cw "foo".toList " ".toList] 'f' "our\n".toList []

/-- the three cuts are the same source text; the side conditions hold for them on the real
    tables -/
theorem C05_para_example_current :
    PlainMix2.render C05_para_doc1 = "One\\label{a}\n\\index{b}\ntwo.\n\nThree % c\n  \\foo four\n".toList ∧
    PlainMix2.render C05_para_doc2 = PlainMix2.render C05_para_doc1 ∧
    PlainMix2.render C05_para_doc3 = PlainMix2.render C05_para_doc1 ∧
    PlainMix2.SegsOk Generated.theTables Generated.stDefault [] C05_para_doc1 ∧
    PlainMix2.SegsOk Generated.theTables Generated.stDefault [] C05_para_doc2 ∧
    PlainMix2.SegsOk Generated.theTables Generated.stDefault [] C05_para_doc3 := by
  rw [Generated.stDefault_eq, String.toList_ofList]; decide +kernel

open PlainMix2.Para PlainPara in
/-- … and this is what the theorem says about the three pairs of words (output between them with
    0-based positions; blank line in the source view):
    `One` / `two`: one line break (the one behind the label; the index line is gone with its line
    break), no blank line — same paragraph, not glued;
    `two.` / `Three`: the two line breaks — a blank line, in the source view too;
    `Three` / `four`: one blank — the comment took its line break and the indentation, `\foo` the
    blank behind it. -/
theorem C05_para_example_ref :
    between Generated.theTables Generated.stDefault [] [] "On".toList
        [.van "label".toList "a".toList, .txt "\n".toList, .van "index".toList "b".toList, .txt "\n".toList]
      = [('\n', 12)] ∧
    hasBlank (srcView [.van "label".toList "a".toList, .txt "\n".toList, .van "index".toList "b".toList,
        .txt "\n".toList]) = false ∧
    between Generated.theTables Generated.stDefault [] C05_para_front "\ntwo".toList [.txt "\n\n".toList]
      = [('\n', 27), ('\n', 28)] ∧
    hasBlank (srcView [.txt "\n\n".toList]) = true ∧
    between Generated.theTables Generated.stDefault [] C05_para_front "\ntwo.\n\nThre".toList
        [.txt " ".toList, .com " c\n  ".toList, .cw "foo".toList " ".toList]
      = [(' ', 34)] ∧
    hasBlank (srcView [.txt " ".toList, .com " c\n  ".toList, .cw "foo".toList " ".toList]) = false := by
  decide +kernel

/-- … which is what the model computes (evaluated by the kernel): text, positions, unknowns -/
theorem C05_para_example_eval :
    (match tex2txt Generated.theTables Generated.bigFuel (PlainMix2.render C05_para_doc1)
        Generated.defaultOptions false 0 [] with
     | .ok r =>
       r.txt == "One\ntwo.\n\nThree four\n".toList &&
       r.pos == [1, 2, 3, 13, 24, 25, 26, 27, 28, 29, 30, 31, 32, 33, 34, 35, 47, 48, 49, 50, 51] &&
       r.unknowns == ["\\foo".toList]
     | _ => false) = true := by
  rw [Generated.tex2txt_default]; decide +kernel

end Yalafi
