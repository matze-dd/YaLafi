/-
  Properties/PlainUnkn2Stmt.lean — C19, the unknowns list, END TO END for documents that mix all
  the kinds of use the property speaks about (Proofs/PlainUnkn2.lean, Proofs/PlainUnkn2Src.lean):

    inert text | `\name` undeclared | `\begin{name}` … `\end{name}` undeclared (any nesting) |
    `\name{key}` declared (`\label{x}`) | `$ … \alpha_1^{n} … $` | `% comment`

  "With --unkn / --list-unknown the output lists each macro and environment name that is used
  outside maths and is declared neither built-in, by a loaded package or class, nor by a
  definition that precedes the use — once each, in order of first use, one per line.  Names used
  only inside maths, in comments or in skipped regions are not listed, and declared names never
  are."

  Not covered here: definitions inside the document (`\newcommand` before / after the use:
  Proofs/PlainMacro.lean), skipped regions (`%%% LT-SKIP-BEGIN`), the output TEXT without `--unkn`
  (only the list and the diagnostics are claimed then), displayed formulas, `--defs`, `--extr`,
  `--repl`, multi-language mode.
-/
import YalafiVerif.Proofs.PlainUnkn2Src
import YalafiVerif.Generated.Init
namespace Yalafi


/-- **C19 end to end.**  `segs` is a document of the class (`PlainUnkn2.Seg`, `PlainUnkn2.render`);
    all side conditions are in the decidable `PlainUnkn2.SegsOk T st1 segs` (the constructs are
    scanned as what they look like; the `.cw` / `.env` names are not declared in the initialised
    parser `st1`, the `.decl` names are declared as vanishing macros; control words in formulas are
    not declared, no `\text`-like macros, not maths space, not ignored); `st1` is the state after
    `Parser.__init__`; no `--defs`, `--extr`, `--repl`; single-language mode.  With one unit of fuel
    per source character plus two, for BOTH settings of `--unkn`, `tex2txt` succeeds and

    * `r.unknowns = PlainUnkn2.refUnknowns segs`: the control words `\name` and the environment names `name`
      (the model lists environments WITHOUT backslash) used in text mode, each once, in order of
      first use; nothing from formulas, declared macros, comments;
    * no diagnostic is added;
    * with `--unkn`: the output text is the list, one name per line (each followed by a line
      break; for the empty list a single line break), all positions are 1;
    * without `--unkn`: text and positions are those of the result tokens (no explicit reference
      for the text is claimed here). -/
theorem C19_unknowns_e2e (T : PTables) (o : Options) (fs : FS) (thresh : Nat)
    (segs : List PlainUnkn2.Seg) (fuel : Nat) (st1 : PState)
    (hdefs : o.defs = []) (hextr : o.extr = []) (hrepl : o.hasRepl = false)
    (hinit : initParser T fuel o (initialState T o false fs) = .ok ((), st1))
    (hok : PlainUnkn2.SegsOk T st1 segs) (hf : (PlainUnkn2.render segs).length + 2 ≤ fuel) :
    ∃ r, tex2txt T fuel (PlainUnkn2.render segs) o false thresh fs = .ok r ∧
      r.unknowns = PlainUnkn2.refUnknowns segs ∧
      r.diags = st1.diags ∧
      (o.unkn = true → r.txt = strJoin [nl] (PlainUnkn2.refUnknowns segs) ++ [nl] ∧
        r.pos = List.replicate r.txt.length 1) ∧
      (o.unkn = false → r.txt = (getTxtPos r.toks).1 ∧ r.pos = (getTxtPos r.toks).2.map (· + 1)) := by
  obtain ⟨r, h1, h2, h3, _, h5, h6⟩ :=
    PlainUnkn2.tex2txt_unknowns_e2e T o fs thresh segs fuel st1 hdefs hextr hrepl hinit hok hf
  exact ⟨r, h1, h2, h3, h5, h6⟩

/-- **declared names never are listed**: every name of the list is a control word that is not
    declared as a macro in `st1`, or an environment name that is not declared as an environment;
    and the name of a `.decl` call of the document is not in the list. -/
theorem C19_declared_never_listed (T : PTables) (o : Options) (fs : FS) (thresh : Nat)
    (segs : List PlainUnkn2.Seg) (fuel : Nat) (st1 : PState)
    (hdefs : o.defs = []) (hextr : o.extr = []) (hrepl : o.hasRepl = false)
    (hinit : initParser T fuel o (initialState T o false fs) = .ok ((), st1))
    (hok : PlainUnkn2.SegsOk T st1 segs) (hf : (PlainUnkn2.render segs).length + 2 ≤ fuel) :
    ∃ r, tex2txt T fuel (PlainUnkn2.render segs) o false thresh fs = .ok r ∧
      (∀ n ∈ r.unknowns,
        (∃ name, n = '\\' :: name ∧ lookupMacro st1 n = none) ∨ lookupEnv st1 n = none) ∧
      (∀ name key, PlainUnkn2.Seg.decl name key ∈ segs → '\\' :: name ∉ r.unknowns) := by
  obtain ⟨r, h1, h2, _⟩ :=
    PlainUnkn2.tex2txt_unknowns_e2e T o fs thresh segs fuel st1 hdefs hextr hrepl hinit hok hf
  refine ⟨r, h1, ?_, ?_⟩
  · intro n hn
    rw [h2] at hn
    exact PlainUnkn2.refUnknowns_undeclared T st1 segs hok.2 n hn
  · intro name key hd
    rw [h2]
    exact PlainUnkn2.refUnknowns_decl T st1 segs hok.2 name key hd

/-- **names used only inside maths (or comments) are not listed**: if `\name` does not occur as a
    text-mode control word (`.cw name`) of the document, it is not in the list — however often it
    is used in the formulas and comments. -/
theorem C19_maths_not_listed (T : PTables) (o : Options) (fs : FS) (thresh : Nat)
    (segs : List PlainUnkn2.Seg) (fuel : Nat) (st1 : PState)
    (hdefs : o.defs = []) (hextr : o.extr = []) (hrepl : o.hasRepl = false)
    (hinit : initParser T fuel o (initialState T o false fs) = .ok ((), st1))
    (hok : PlainUnkn2.SegsOk T st1 segs) (hf : (PlainUnkn2.render segs).length + 2 ≤ fuel) :
    ∃ r, tex2txt T fuel (PlainUnkn2.render segs) o false thresh fs = .ok r ∧
      ∀ name, PlainUnkn2.Seg.cw name ∉ segs → '\\' :: name ∉ r.unknowns := by
  obtain ⟨r, h1, h2, _⟩ :=
    PlainUnkn2.tex2txt_unknowns_e2e T o fs thresh segs fuel st1 hdefs hextr hrepl hinit hok hf
  refine ⟨r, h1, ?_⟩
  intro name hd
  rw [h2]
  exact PlainUnkn2.refUnknowns_maths T st1 segs hok.2 name hd

/-- **once each, in order of first use**: the list has no duplicates, it holds exactly the names
    used in text mode (`usedNames`: `\name` for `.cw name`, `name` for `.env name _`), and a name
    stands directly behind the distinct names that are used before its first use. -/
theorem C19_each_once_in_order (T : PTables) (o : Options) (fs : FS) (thresh : Nat)
    (segs : List PlainUnkn2.Seg) (fuel : Nat) (st1 : PState)
    (hdefs : o.defs = []) (hextr : o.extr = []) (hrepl : o.hasRepl = false)
    (hinit : initParser T fuel o (initialState T o false fs) = .ok ((), st1))
    (hok : PlainUnkn2.SegsOk T st1 segs) (hf : (PlainUnkn2.render segs).length + 2 ≤ fuel) :
    ∃ r, tex2txt T fuel (PlainUnkn2.render segs) o false thresh fs = .ok r ∧
      r.unknowns.Nodup ∧
      (∀ n, n ∈ r.unknowns ↔ n ∈ PlainUnkn2.usedNames segs) ∧
      (∀ pre n post, PlainUnkn2.usedNames segs = pre ++ n :: post → n ∉ pre →
        ∃ X, r.unknowns = pre.eraseDups ++ n :: X) := by
  obtain ⟨r, h1, h2, _⟩ :=
    PlainUnkn2.tex2txt_unknowns_e2e T o fs thresh segs fuel st1 hdefs hextr hrepl hinit hok hf
  refine ⟨r, h1, ?_, ?_, ?_⟩
  · rw [h2]; exact PlainUnkn2.refUnknowns_nodup segs
  · intro n; rw [h2]; exact PlainUnkn2.mem_refUnknowns segs n
  · intro pre n post he hn
    rw [h2]; exact PlainUnkn2.refUnknowns_order segs pre post n he hn

/-! ### the current code -/

/-- `Parser.__init__` does not look at `--unkn` -/
theorem initParser_unkn (T : PTables) (fuel : Nat) (o : Options) (b : Bool) (fs : FS) :
    initParser T fuel { o with unkn := b } (initialState T { o with unkn := b } false fs)
      = initParser T fuel o (initialState T o false fs) := rfl

/-- C19 end to end for the CURRENT code (tables translated from /repo, parser initialisation
    evaluated by the kernel), with and without `--unkn` -/
theorem C19_unknowns_e2e_current (unkn : Bool) (segs : List PlainUnkn2.Seg) (thresh : Nat)
    (hok : PlainUnkn2.SegsOk Generated.theTables Generated.stDefault segs)
    (hf : (PlainUnkn2.render segs).length + 2 ≤ Generated.bigFuel) :
    ∃ r, tex2txt Generated.theTables Generated.bigFuel (PlainUnkn2.render segs)
        { Generated.defaultOptions with unkn := unkn } false thresh [] = .ok r ∧
      r.unknowns = PlainUnkn2.refUnknowns segs ∧ r.diags = Generated.stDefault.diags ∧
      (unkn = true → r.txt = strJoin [nl] (PlainUnkn2.refUnknowns segs) ++ [nl]) := by
  obtain ⟨r, h1, h2, h3, h4, _⟩ := C19_unknowns_e2e Generated.theTables
    { Generated.defaultOptions with unkn := unkn } [] thresh segs Generated.bigFuel Generated.stDefault
    rfl rfl rfl
    ((initParser_unkn Generated.theTables Generated.bigFuel Generated.defaultOptions unkn []).trans
      Generated.initParser_default) hok hf
  exact ⟨r, h1, h2, h3, fun hu => (h4 hu).1⟩

/-- `Text \foo and \begin{myenv} inner \end{myenv} with \label{x} and $\alpha_1 + \xi^{2n}$ and \foo again, \bar.`,
    a comment line `% \baz is a comment`, and
    `\begin{outer} \zap $\xi+1$ \end{outer} End.` (a control word and a formula inside an
    undeclared environment) -/
def C19_exampleDoc : List PlainUnkn2.Seg :=
  [.txt "Text ".toList, .cw "foo".toList, .txt " and ".toList, .env "myenv".toList " inner ".toList,
   .txt " with ".toList, .decl "label".toList "x".toList, .txt " and ".toList,
   .math [.cw "alpha".toList, .spec "_".toList, .chars "1 + ".toList, .cw "xi".toList,
          .spec "^".toList, .spec "{".toList, .chars "2n".toList, .spec "}".toList],
   .txt " and ".toList, .cw "foo".toList, .txt " again, ".toList, .cw "bar".toList, .txt ".\n".toList,
   .com " \\baz is a comment".toList, .txt "\n".toList,
   .beg "outer".toList, .txt " ".toList, .cw "zap".toList, .txt " ".toList,
   .math [.cw "xi".toList, .chars "+1".toList], .txt " ".toList, .en "outer".toList,
   .txt " End.".toList]

theorem C19_exampleDoc_src : PlainUnkn2.render C19_exampleDoc =
    ("Text \\foo and \\begin{myenv} inner \\end{myenv} with \\label{x} and $\\alpha_1 + \\xi^{2n}$ and " ++
     "\\foo again, \\bar.\n% \\baz is a comment\n\\begin{outer} \\zap $\\xi+1$ \\end{outer} End.").toList := by
  rw [String.toList_append, String.toList_ofList, String.toList_ofList]; decide +kernel

/-- the side conditions hold for the example on the real tables; the reference list is
    `\foo`, `myenv`, `\bar`, `outer`, `\zap` (not `\label`, `\alpha`, `\xi`, `\baz`) -/
theorem C19_e2e_example_current :
    PlainUnkn2.SegsOk Generated.theTables Generated.stDefault C19_exampleDoc ∧
    PlainUnkn2.refUnknowns C19_exampleDoc
      = ["\\foo".toList, "myenv".toList, "\\bar".toList, "outer".toList, "\\zap".toList] := by
  rw [Generated.stDefault_eq]; unfold C19_exampleDoc; (repeat rw [String.toList_ofList]); decide +kernel

/-- … so, for the current code, `--unkn` prints `\foo`, `myenv`, `\bar`, `outer`, `\zap`, one per
    line -/
theorem C19_e2e_example_output :
    ∃ r, tex2txt Generated.theTables Generated.bigFuel (PlainUnkn2.render C19_exampleDoc)
        { Generated.defaultOptions with unkn := true } false 0 [] = .ok r ∧
      r.unknowns = ["\\foo".toList, "myenv".toList, "\\bar".toList, "outer".toList, "\\zap".toList] ∧
      r.txt = "\\foo\nmyenv\n\\bar\nouter\n\\zap\n".toList ∧ r.diags = Generated.stDefault.diags := by
  obtain ⟨r, h1, h2, h3, h4⟩ := C19_unknowns_e2e_current true C19_exampleDoc 0
    C19_e2e_example_current.1 (by decide +kernel)
  refine ⟨r, h1, by rw [h2, C19_e2e_example_current.2], ?_, h3⟩
  rw [h4 rfl, C19_e2e_example_current.2]
  (repeat rw [String.toList_ofList]); decide +kernel

/-- the same as an evaluation of the whole filter on the real tables (a corollary of
    `C19_e2e_example_output`) -/
theorem C19_e2e_example_eval :
    (match tex2txt Generated.theTables Generated.bigFuel (PlainUnkn2.render C19_exampleDoc)
        { Generated.defaultOptions with unkn := true } false 0 [] with
     | .ok r => r.txt == "\\foo\nmyenv\n\\bar\nouter\n\\zap\n".toList &&
                r.unknowns == ["\\foo".toList, "myenv".toList, "\\bar".toList, "outer".toList,
                               "\\zap".toList]
     | _ => false) = true := by
  obtain ⟨r, h1, h2, h3, _⟩ := C19_e2e_example_output
  simp [h1, h2, h3]

/-- the side conditions reject what they should: a declared macro used as `.cw`, an undeclared one
    used as `.decl`, a declared environment used as `.env`, a declared control word (`\\quad`) and a `\\text`-like macro (`\\mbox`) in a formula -/
theorem C19_e2e_rejects_current :
    ¬ PlainUnkn2.SegsOk Generated.theTables Generated.stDefault ([.txt "Use ".toList, .cw "LaTeX".toList] : List PlainUnkn2.Seg) ∧
    ¬ PlainUnkn2.SegsOk Generated.theTables Generated.stDefault ([.decl "foo".toList "x".toList] : List PlainUnkn2.Seg) ∧
    ¬ PlainUnkn2.SegsOk Generated.theTables Generated.stDefault ([.env "itemize".toList " a ".toList] : List PlainUnkn2.Seg) ∧
    ¬ PlainUnkn2.SegsOk Generated.theTables Generated.stDefault ([.math [.cw "quad".toList]] : List PlainUnkn2.Seg) ∧
    ¬ PlainUnkn2.SegsOk Generated.theTables Generated.stDefault ([.math [.cw "mbox".toList]] : List PlainUnkn2.Seg) := by
  rw [Generated.stDefault_eq]; (repeat rw [String.toList_ofList]); decide +kernel

end Yalafi
