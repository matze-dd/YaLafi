/-
  Properties/PlainDisplayStmt.lean — C11 "displayed equations follow the documented scheme and keep
  their punctuation": the end-to-end theorem for simple displayed equations `\[ body \]` and
  `\begin{name} body \end{name}` (name an equation environment of the tables), its corollaries, and the
  instance on the tables translated from /repo.  Proofs: Proofs/PlainDisplay.lean (its header lists
  every side condition with its reason and what is not covered).
-/
import YalafiVerif.Proofs.PlainDisplayEmb
import YalafiVerif.Generated.Init
namespace Yalafi

/-- **displayed equations become an indented rotating placeholder plus their closing punctuation mark**,
    end to end on the filter model.  For documents of inert text and simple displayed equations
    `\[body\]` / `\begin{name}body\end{name}` (`name` declared as equation environment; body: characters
    the maths parser turns into maths tokens one by one, blanks and single line breaks allowed, no `&`,
    no `\\`, no macro, at least one element character — `PlainDisplay.SegsOk`), with `repls` the display
    collection of the language after `Parser.__init__`:

    `tex2txt` succeeds, and text and position map are those of `PlainDisplay.refOut`:
    * text segments are copied, every character with its own position;
    * the k-th equation of the document (k = 1, 2, …; both opening forms count together) is rendered as
      `PlainDisplay.eqnOut`:  two blanks · `placeholder repls k` = entry `k mod length` of the display
      collection · the closing punctuation mark `punctOf T body` (last character of the body that is no
      white space, if it is one of `math_punctuation`) — NO line break is generated;
    * the two blanks map to the `\` of `\[` / `\begin`; every character of the placeholder maps to the
      first element character of the body (no white space, no operator, no punctuation mark); the
      punctuation mark maps to the first character of the body that is no white space
      (`r.pos` is 1-based: `+ 1`);
    * no unknowns, no new diagnostics.
    (`VisibleRepls`: no placeholder is blank — otherwise blank-line removal could delete a line.) -/
theorem C11_display_e2e (T : PTables) (o : Options) (fs : FS) (thresh : Nat)
    (segs : List PlainDisplay.Seg) (fuel : Nat) (st1 : PState) (rot : Rot) (repls : List Str)
    (hdefs : o.defs = []) (hextr : o.extr = []) (hrepl : o.hasRepl = false) (hunkn : o.unkn = false)
    (hinit : initParser T fuel o (initialState T o false fs) = .ok ((), st1))
    (hok : PlainDisplay.SegsOk T st1 segs)
    (hrot : rotOf st1 (curSettings st1) = some rot) (hrepls : rot.disp = repls)
    (hne : repls ≠ []) (hvis : PlainMath.VisibleRepls repls)
    (hls : (settingsOf T (curSettings st1)).isSome = true)
    (hf : (PlainDisplay.render segs).length + 2 ≤ fuel) :
    ∃ r, tex2txt T fuel (PlainDisplay.render segs) o false thresh fs = .ok r ∧
      r.txt = (PlainDisplay.refOut T st1.mathOperators repls 0 0 segs).map (·.1) ∧
      r.pos = (PlainDisplay.refOut T st1.mathOperators repls 0 0 segs).map (·.2 + 1) ∧
      r.unknowns = [] ∧ r.diags = st1.diags :=
  PlainDisplay.tex2txt_display T o fs thresh segs fuel st1 rot repls hdefs hextr hrepl hunkn hinit hok
    hrot hrepls hne hvis hls hf

/-- the document `a \[ b \] c` with a single equation, output written out: the text `a` with its
    positions, then `eqnOut` for `k = 1` (two blanks at `|a|`, placeholder `repls[1 mod length]` at the
    first element character of `b`, closing punctuation at the first non-blank character of `b`), then
    the text `c` with its positions (it starts at `|a| + |b| + 4`) -/
theorem C11_display_single_e2e (T : PTables) (o : Options) (fs : FS) (thresh : Nat)
    (a b c : Str) (fuel : Nat) (st1 : PState) (rot : Rot) (repls : List Str)
    (hdefs : o.defs = []) (hextr : o.extr = []) (hrepl : o.hasRepl = false) (hunkn : o.unkn = false)
    (hinit : initParser T fuel o (initialState T o false fs) = .ok ((), st1))
    (hok : PlainDisplay.SegsOk T st1 [.txt a, .disp b, .txt c])
    (hrot : rotOf st1 (curSettings st1) = some rot) (hrepls : rot.disp = repls)
    (hne : repls ≠ []) (hvis : PlainMath.VisibleRepls repls)
    (hls : (settingsOf T (curSettings st1)).isSome = true)
    (hf : (a ++ '\\' :: '[' :: (b ++ ['\\', ']']) ++ c).length + 2 ≤ fuel) :
    ∃ r, tex2txt T fuel (a ++ '\\' :: '[' :: (b ++ ['\\', ']']) ++ c) o false thresh fs = .ok r ∧
      r.txt = a ++ [' ', ' '] ++ PlainMath.placeholder repls 1 ++ PlainMath.punctOf T b ++ c ∧
      r.pos = ((posText 0 a ++ PlainDisplay.eqnOut T st1.mathOperators repls 1 a.length 2 b
                ++ posText (a.length + (b.length + 4)) c).map (·.2 + 1)) ∧
      r.unknowns = [] ∧ r.diags = st1.diags := by
  have hren : PlainDisplay.render [.txt a, .disp b, .txt c]
      = a ++ '\\' :: '[' :: (b ++ ['\\', ']']) ++ c := by
    simp [PlainDisplay.render, PlainDisplay.Seg.render]
  obtain ⟨r, h1, h2, h3, h4, h5⟩ := C11_display_e2e T o fs thresh [.txt a, .disp b, .txt c] fuel st1 rot
    repls hdefs hextr hrepl hunkn hinit hok hrot hrepls hne hvis hls (by rw [hren]; exact hf)
  rw [hren] at h1
  refine ⟨r, h1, ?_, ?_, h4, h5⟩
  · rw [h2, PlainDisplay.refOut_txt]
    simp [PlainDisplay.outText]
  · rw [h3, PlainDisplay.refOut_single]

/-! ### corollaries about the reference output -/

/-- (a) **no maths source character appears in the output**: the output text of a document is
    `outText`, which is computed from the text segments, the placeholder collection and the closing
    punctuation marks `punctOf T body` alone — the equation bodies (and environment names) enter in no
    other way -/
theorem C11_display_text (T : PTables) (ops repls : List Str) (segs : List PlainDisplay.Seg) (k p : Nat) :
    (PlainDisplay.refOut T ops repls k p segs).map (·.1) = PlainDisplay.outText T repls k segs :=
  PlainDisplay.refOut_txt T ops repls segs k p

/-- (b) **every position generated for an equation lies in its source span**: it is the position of
    the `\` of the opening command (`p`; the two blanks), or the position of a character of the body
    (which occupies `[p + o, p + o + |body|)`) — for every body with an element character, as the side
    conditions demand -/
theorem C11_display_span (T : PTables) (ops repls : List Str) (k p o : Nat) (body : Str)
    (h : body.any (PlainDisplay.elemChar T ops) = true) :
    ∀ cq ∈ PlainDisplay.eqnOut T ops repls k p o body,
      cq.2 = p ∨ (p + o ≤ cq.2 ∧ cq.2 < p + o + body.length) :=
  PlainDisplay.eqnOut_span_lt T ops repls k p o body h

/-- (c) **punctuation is kept directly behind its placeholder**: the text of an equation is two blanks,
    the placeholder, the closing punctuation mark; and for a body `b ++ [c] ++ w` that ends with the
    punctuation mark `c` (followed by white space `w` only) this mark is `c` -/
theorem C11_display_punct (T : PTables) (ops repls : List Str) (k p o : Nat) (body : Str) :
    (PlainDisplay.eqnOut T ops repls k p o body).map (·.1)
      = [' ', ' '] ++ PlainMath.placeholder repls k ++ PlainMath.punctOf T body :=
  PlainDisplay.eqnOut_txt T ops repls k p o body

theorem C11_display_punct_kept (T : PTables) (b w : Str) (c : Char) (hc : isSpace c = false)
    (hp : T.mathPunctuation.contains [c] = true) (hw : ∀ d ∈ w, isSpace d = true) :
    PlainMath.punctOf T (b ++ c :: w) = [c] :=
  PlainDisplay.punctOf_snoc T b w c hc hp hw

theorem C11_display_punct_none (T : PTables) (b w : Str) (c : Char) (hc : isSpace c = false)
    (hp : T.mathPunctuation.contains [c] = false) (hw : ∀ d ∈ w, isSpace d = true) :
    PlainMath.punctOf T (b ++ c :: w) = [] :=
  PlainDisplay.punctOf_none T b w c hc hp hw

/-- the display collection of the default language after initialisation of the CURRENT code -/
def C11_dispCurrent : List Str :=
  ((rotOf Generated.stDefault (curSettings Generated.stDefault)).map (·.disp)).getD []

/-- the hypotheses about the initialised parser hold for the tables translated from /repo; all four
    equation environments of the tables are covered by the `\begin{name}` form -/
theorem C11_current_facts :
    (rotOf Generated.stDefault (curSettings Generated.stDefault)).isSome = true ∧
    C11_dispCurrent ≠ [] ∧ C11_dispCurrent.length = 6 ∧
    PlainDisplay.visibleRepls C11_dispCurrent = true ∧
    (settingsOf Generated.theTables (curSettings Generated.stDefault)).isSome = true ∧
    (Generated.stDefault.envs.filter (·.isEqu)).all PlainDisplay.equEnvOk = true ∧
    (Generated.stDefault.envs.filter (·.isEqu)).length = 4 := by
  unfold C11_dispCurrent
  rw [Generated.stDefault_eq]; decide +kernel

/-- `Text⏎\[ a + b = c. \]⏎more \begin{equation}x=y\end{equation} end`: two equations, one of each
    form, the first with a final full stop -/
def C11_exampleSegs : List PlainDisplay.Seg :=
  [.txt "Text\n".toList, .disp " a + b = c. ".toList, .txt "\nmore ".toList,
   .env "equation".toList "x=y".toList, .txt " end".toList]

/-- the concrete document satisfies the side conditions on the real tables -/
theorem C11_display_example_current :
    PlainDisplay.SegsOk Generated.theTables Generated.stDefault C11_exampleSegs := by
  rw [Generated.stDefault_eq]; unfold C11_exampleSegs; (repeat rw [String.toList_ofList]); decide +kernel

/-- … its reference output: `Text⏎  V-V-V.⏎more   W-W-W end`; the blanks of the first equation map to
    its `\[` (1-based 6), `V-V-V` and the full stop to `a` (9); the blanks of the second one to `\begin`
    (28), `W-W-W` to `x` (44) -/
theorem C11_display_ref_current :
    (PlainDisplay.refOut Generated.theTables Generated.stDefault.mathOperators C11_dispCurrent 0 0
        C11_exampleSegs).map (·.1) = "Text\n  V-V-V.\nmore   W-W-W end".toList ∧
    (PlainDisplay.refOut Generated.theTables Generated.stDefault.mathOperators C11_dispCurrent 0 0
        C11_exampleSegs).map (·.2 + 1) =
      [1, 2, 3, 4, 5, 6, 6, 9, 9, 9, 9, 9, 9, 22, 23, 24, 25, 26, 27, 28, 28, 44, 44, 44, 44, 44,
       61, 62, 63, 64] := by
  unfold C11_dispCurrent
  rw [Generated.stDefault_eq]; unfold C11_exampleSegs; (repeat rw [String.toList_ofList]); decide +kernel

/-- **the end-to-end theorem applied to the current code**: the filter (default options) maps the
    example document to `Text⏎  V-V-V.⏎more   W-W-W end` with the positions above -/
theorem C11_display_e2e_current (thresh : Nat) :
    ∃ r, tex2txt Generated.theTables Generated.bigFuel (PlainDisplay.render C11_exampleSegs)
          Generated.defaultOptions false thresh [] = .ok r ∧
      r.txt = "Text\n  V-V-V.\nmore   W-W-W end".toList ∧
      r.pos = [1, 2, 3, 4, 5, 6, 6, 9, 9, 9, 9, 9, 9, 22, 23, 24, 25, 26, 27, 28, 28, 44, 44, 44, 44, 44,
               61, 62, 63, 64] ∧
      r.unknowns = [] ∧ r.diags = Generated.stDefault.diags := by
  have F := C11_current_facts
  obtain ⟨rot, hrot⟩ := Option.isSome_iff_exists.mp F.1
  have hd : rot.disp = C11_dispCurrent := by
    simp [C11_dispCurrent, hrot]
  obtain ⟨r, h1, h2, h3, h4, h5⟩ := C11_display_e2e Generated.theTables Generated.defaultOptions []
    thresh C11_exampleSegs Generated.bigFuel Generated.stDefault rot C11_dispCurrent rfl rfl rfl rfl
    Generated.initParser_default C11_display_example_current hrot hd F.2.1
    (PlainDisplay.visibleRepls_iff _ F.2.2.2.1) F.2.2.2.2.1 (by decide +kernel)
  exact ⟨r, h1, h2.trans C11_display_ref_current.1, h3.trans C11_display_ref_current.2, h4, h5⟩

end Yalafi
