/-
  Properties/PlainLangStmt.lean — C12 "multi-language mode assigns every word to exactly one part of
  the right language", end to end on the model, for documents of inert text and hard language
  switches `\selectlanguage{name}` (package babel loaded).
-/
import YalafiVerif.Proofs.PlainLangCor
import YalafiVerif.Proofs.PlainLangEmb
import YalafiVerif.Generated.Init
namespace Yalafi
namespace Generated

/-- `--pack babel --lang en-GB` -/
def babelOptions : Options := { pack := "babel".toList, lang := "en-GB".toList }

def initResultBabel : Outcome (Unit × PState) :=
  initParser theTables bigFuel babelOptions (initialState theTables babelOptions true [])

/-- the parser state after `Parser.__init__` with package babel, multi-language mode -/
def stBabel : PState :=
  match initResultBabel with
  | .ok (_, s) => s
  | _ => initialState theTables babelOptions true []

/-- the normal form of `stBabel`: the built-in definitions, behind them those of the module `babel` -/
def stBabelNF : PState :=
  let m := (findModule theTables false "babel".toList).getD (emptyModule [])
  { stDefaultNF with
    langStack := [(checkLang theTables babelOptions.lang, babelOptions.lang)], multiLanguage := true,
    macros := stDefaultNF.macros ++ m.macros, envs := stDefaultNF.envs ++ m.envs,
    packages := [("babel".toList, [])] }

theorem initResultBabel_eq : initResultBabel = .ok ((), stBabelNF) := by
  rw [initResultBabel, show bigFuel = 999997 + 3 from rfl, initParser_modules (by decide +kernel)]
  exact eq_ok_of_endsIn (by decide +kernel)

theorem stBabel_eq : stBabel = stBabelNF := by
  rw [stBabel.eq_1, initResultBabel_eq]

theorem initParser_babel :
    initParser theTables bigFuel babelOptions (initialState theTables babelOptions true [])
      = .ok ((), stBabel) := by
  rw [stBabel_eq]; exact initResultBabel_eq

end Generated

namespace PlainLang
open Generated

/-- **C12 for `\selectlanguage`, end to end** (`Proofs/PlainLangEmb.lean`, `tex2txt_selectlanguage`).
    The source is `render segs`: inert text segments and hard switches `\selectlanguage{name}`.
    Hypotheses: no `--defs`, `--extr`, `--repl`; `selectlang_break` is set (`T.selectBrk`); `st1` is
    the parser state after `Parser.__init__` in MULTI-LANGUAGE mode (`multi = true`), in which
    babel's `\selectlanguage` is declared (part of `segsOk`) and the multi-language flag is set;
    `segsOk T st1 segs` (computable; see the header of `Proofs/PlainLang.lean`); one unit of fuel
    per source character plus two.  Then `tex2txt` succeeds and

    * `r.parts = refParts T o.lang segs`: take the text characters with their source positions
      and, for every switch, an Action mark and a language token (`segMarks`); delete every line
      (with its line break) that consists of white space and switches only and holds at least one
      switch, keeping the language tokens (`delLines`: a switch on a line of its own disappears
      with its line); cut the rest at every switch whose language code (`babel.language_map`,
      unknown names count as `english`) differs from the code in force (initially `o.lang`); a
      run without characters yields no part (`cutRuns`); group the runs by language code, codes
      in the order of their first run, the runs of one code in document order and NOT merged
      (`groupSecs`); report positions 1-based (`shiftParts`).  No run is ever joined to its
      neighbours, whatever `thresh` is, since `\selectlanguage` forces a break.
    * nothing is reported as unknown, no diagnostic is added. -/
theorem C12_selectlanguage_e2e (T : PTables) (o : Options) (fs : FS) (thresh : Nat) (segs : List Seg)
    (fuel : Nat) (st1 : PState)
    (hdefs : o.defs = []) (hextr : o.extr = []) (hrepl : o.hasRepl = false)
    (hbrk : T.selectBrk = true)
    (hinit : initParser T fuel o (initialState T o true fs) = .ok ((), st1))
    (hml : st1.multiLanguage = true) (hok : segsOk T st1 segs = true)
    (hf : (render segs).length + 2 ≤ fuel) :
    ∃ r, tex2txt T fuel (render segs) o true thresh fs = .ok r ∧
      r.parts = refParts T o.lang segs ∧ r.unknowns = [] ∧ r.diags = st1.diags := by
  obtain ⟨r, h1, h2, h3, h4, _⟩ := tex2txt_selectlanguage T o fs thresh segs fuel st1 hdefs hextr hrepl
    hbrk hinit hml hok hf
  exact ⟨r, h1, h2, h3, h4⟩

/-- **(a) every word in exactly one part.**  Under the hypotheses of `C12_selectlanguage_e2e`:
    no position occurs twice in the parts of all languages together, and every text character of
    the source that is no white space occurs in a part, with its own (1-based) source position.
    (`textChars 0 segs` = the characters of the text segments with their 0-based source positions,
    cf. `C12_textChars_source`; white space may be deleted: the line of a switch.) -/
theorem C12_word_one_part (T : PTables) (o : Options) (fs : FS) (thresh : Nat) (segs : List Seg)
    (fuel : Nat) (st1 : PState)
    (hdefs : o.defs = []) (hextr : o.extr = []) (hrepl : o.hasRepl = false)
    (hbrk : T.selectBrk = true)
    (hinit : initParser T fuel o (initialState T o true fs) = .ok ((), st1))
    (hml : st1.multiLanguage = true) (hok : segsOk T st1 segs = true)
    (hf : (render segs).length + 2 ≤ fuel) :
    ∃ r, tex2txt T fuel (render segs) o true thresh fs = .ok r ∧
      ((partChars r.parts).map (·.2)).Nodup ∧
      ∀ c p, (c, p) ∈ textChars 0 segs → isSpace c = false → (c, p + 1) ∈ partChars r.parts := by
  obtain ⟨r, h1, h2, _⟩ := tex2txt_selectlanguage T o fs thresh segs fuel st1 hdefs hextr hrepl
    hbrk hinit hml hok hf
  refine ⟨r, h1, ?_, ?_⟩
  · rw [h2]; exact refParts_nodup T o.lang segs
  · intro c p h hv
    rw [h2]; exact refParts_visible T o.lang segs c p h hv

/-- **(b) the part of the right language.**  Under the hypotheses of `C12_selectlanguage_e2e`: a
    character `c` reported at position `q` in a piece of text under the key `k` is the text
    character of the source at position `q` (1-based; `p = q - 1` 0-based), and `k` is the language
    code of the last `\selectlanguage` in front of it (`o.lang` if there is none): `langAt`. -/
theorem C12_part_language (T : PTables) (o : Options) (fs : FS) (thresh : Nat) (segs : List Seg)
    (fuel : Nat) (st1 : PState)
    (hdefs : o.defs = []) (hextr : o.extr = []) (hrepl : o.hasRepl = false)
    (hbrk : T.selectBrk = true)
    (hinit : initParser T fuel o (initialState T o true fs) = .ok ((), st1))
    (hml : st1.multiLanguage = true) (hok : segsOk T st1 segs = true)
    (hf : (render segs).length + 2 ≤ fuel) :
    ∃ r, tex2txt T fuel (render segs) o true thresh fs = .ok r ∧
      ∀ e ∈ r.parts, ∀ tp ∈ e.2, ∀ c q, (c, q) ∈ tp.1.zip tp.2 →
        ∃ p, q = p + 1 ∧ (c, p) ∈ textChars 0 segs ∧ e.1 = langAt T o.lang 0 segs p := by
  obtain ⟨r, h1, h2, _⟩ := tex2txt_selectlanguage T o fs thresh segs fuel st1 hdefs hextr hrepl
    hbrk hinit hml hok hf
  refine ⟨r, h1, ?_⟩
  rw [h2]
  exact refParts_language T o.lang segs

theorem C12_textChars_source (segs : List Seg) (c : Char) (p : Nat) (h : (c, p) ∈ textChars 0 segs) :
    (render segs)[p]? = some c :=
  (textChars_render segs 0 (c, p) h).2

/-- `"Hello world.\n\selectlanguage{german}\nHallo Welt.\n\selectlanguage{russian}\nПривет, мир.\n\selectlanguage{english}\nBye."`:
    three languages, every switch on a line of its own -/
def exSegs : List Seg :=
  [.txt "Hello world.\n".toList, .sel "german".toList, .txt "\nHallo Welt.\n".toList,
   .sel "russian".toList, .txt "\nПривет, мир.\n".toList, .sel "english".toList, .txt "\nBye.".toList]

theorem exSegs_render : render exSegs =
    "Hello world.\n\\selectlanguage{german}\nHallo Welt.\n\\selectlanguage{russian}\nПривет, мир.\n\\selectlanguage{english}\nBye.".toList := by
  unfold exSegs; (repeat rw [String.toList_ofList]); decide +kernel

theorem exSegs_ok : segsOk theTables stBabel exSegs = true := by
  rw [stBabel_eq]; unfold exSegs; (repeat rw [String.toList_ofList]); decide +kernel

theorem stBabel_multi : stBabel.multiLanguage = true := by rw [stBabel_eq]; rfl

theorem stBabel_diags : stBabel.diags = [] := by rw [stBabel_eq]; rfl

/-- the expected parts: the three lines, each under its code; the lines of the switches are gone
    (positions 14–37, 50–74, 88–112 do not occur) -/
def exParts : Parts :=
  [("en-GB".toList, [("Hello world.\n".toList, [1, 2, 3, 4, 5, 6, 7, 8, 9, 10, 11, 12, 13]),
                     ("Bye.".toList, [113, 114, 115, 116])]),
   ("de-DE".toList, [("Hallo Welt.\n".toList, [38, 39, 40, 41, 42, 43, 44, 45, 46, 47, 48, 49])]),
   ("ru-RU".toList, [("Привет, мир.\n".toList, [75, 76, 77, 78, 79, 80, 81, 82, 83, 84, 85, 86, 87])])]

theorem exSegs_ref : refParts theTables babelOptions.lang exSegs = exParts := by
  unfold exSegs exParts; (repeat rw [String.toList_ofList]); decide +kernel

/-- **the end-to-end theorem applies to the current code** (tables translated from /repo, package
    babel loaded, `--lang en-GB`, multi-language mode): a three-language document -/
theorem C12_selectlanguage_e2e_current :
    ∃ r, tex2txt theTables bigFuel (render exSegs) babelOptions true 2 [] = .ok r ∧
      r.parts = exParts ∧ r.unknowns = [] ∧ r.diags = [] := by
  obtain ⟨r, h1, h2, h3, h4⟩ := C12_selectlanguage_e2e theTables babelOptions [] 2 exSegs bigFuel stBabel
    rfl rfl rfl (by decide +kernel) initParser_babel stBabel_multi exSegs_ok (by decide +kernel)
  exact ⟨r, h1, by rw [h2, exSegs_ref], h3, by rw [h4, stBabel_diags]⟩

/-- the same as a test on the output of the model (so that one SEES the output that is claimed):
    a corollary of the theorem -/
example : (match tex2txt theTables bigFuel (render exSegs) babelOptions true 2 [] with
    | .ok r => decide (r.parts = exParts ∧ r.unknowns = [] ∧ r.diags = [])
    | _ => false) = true := by
  obtain ⟨r, h1, h2, h3, h4⟩ := C12_selectlanguage_e2e_current
  rw [h1]; simp [h2, h3, h4]

/-- the side conditions accept switches inside a line and a name with blanks; they reject an
    undeclared state (default options: babel not loaded) -/
example : segsOk theTables stBabel
    [.txt "A b c, d.  ".toList, .sel " ngerman ".toList, .txt " \n \n x".toList, .sel "german".toList,
     .txt "y\n".toList, .sel "foo".toList, .txt " ".toList, .sel "french".toList, .txt "\n".toList] = true := by
  rw [stBabel_eq]; (repeat rw [String.toList_ofList]); decide +kernel
example : segsOk theTables stDefault [.sel "german".toList] = false := by rw [stDefault_eq]; decide +kernel

end PlainLang
end Yalafi
