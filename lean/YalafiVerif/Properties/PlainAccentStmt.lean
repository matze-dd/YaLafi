/-
  Properties/PlainAccentStmt.lean — C02, second sentence: "a replaced sequence (dashes, quotes, ties,
  thin space, escaped specials, ACCENT MACROS, GERMAN "-SHORTHANDS) maps to the first character of the
  sequence it replaces", end to end on the filter model, for documents of inert text, accent calls
  `\acc{l}` / `\accl` / `\acc l` and short macros (`"a "o "u "A "O "U "s "` "' "= "-` with the German
  language settings).  The special sequences are `C06_specials_follow_table`.
  Proofs, side conditions and what is not covered: Proofs/PlainAccent.lean.
-/
import YalafiVerif.Proofs.PlainAccent
import YalafiVerif.Generated.Init
namespace Yalafi

/-- **accent macros and short macros are replaced by their table values, mapped to the first
    character of the replaced sequence**, end to end on the filter model.  For every document
    `render segs` of inert text, accent calls and shorthands (`PlainAccent.segsOk`: all side
    conditions, computable), `st1` the state after `Parser.__init__`, no `--defs --extr --repl
    --unkn`, single-language mode, fuel ≥ source length + 2: `tex2txt` succeeds; the output text
    with its (1-based) positions is `PlainAccent.refOut T st1 0 segs`:
    * a text character is copied with its own position;
    * an accent call `\name ws {l}` / `\name ws l` whose backslash stands at position `p` is
      replaced by `accentChar T \name l` — the value of `unicodedata.lookup` for
      `LATIN SMALL/CAPITAL LETTER L WITH <first name part of the accent>` — every character of the
      value at `p` (also for a value of two code points, letter + combining mark);
    * a shorthand `a c` at `p` whose two characters form a key of the short macros of the language
      settings in force is replaced by the value of the table (possibly empty), every character of
      it at `p`;
    * an active character that forms no key with the token behind it is text (`okAtX`).
    Nothing else is added or removed (no line is deleted), there are no unknowns and
    no diagnostic beyond those of the initialisation. -/
theorem C02_replaced_e2e (T : PTables) (o : Options) (fs : FS) (thresh : Nat)
    (segs : List PlainAccent.Seg) (fuel : Nat) (st1 : PState)
    (hdefs : o.defs = []) (hextr : o.extr = []) (hrepl : o.hasRepl = false) (hunkn : o.unkn = false)
    (hinit : initParser T fuel o (initialState T o false fs) = .ok ((), st1))
    (hok : PlainAccent.segsOk T st1 segs = true) (hf : (PlainAccent.render segs).length + 2 ≤ fuel) :
    ∃ r, tex2txt T fuel (PlainAccent.render segs) o false thresh fs = .ok r ∧
      r.txt = (PlainAccent.refOut T st1 0 segs).map (·.1) ∧
      r.pos = (PlainAccent.refOut T st1 0 segs).map (·.2 + 1) ∧
      r.unknowns = [] ∧ r.diags = st1.diags := by
  obtain ⟨r, h1, h2, h3, h4, h5, _⟩ :=
    PlainAccent.tex2txt_replaced T o fs thresh segs fuel st1 hdefs hextr hrepl hunkn hinit hok hf
  exact ⟨r, h1, h2, h3, h4, h5⟩

/-- **(A) accent macros**: documents of inert text and accent calls only (`noSh`).  The reference
    `PlainAccent.refAcc T 0 segs` does not depend on the parser state: text with its own
    positions, every call replaced by `accentChar T \name l` at the position of its backslash. -/
theorem C02_accent_e2e (T : PTables) (o : Options) (fs : FS) (thresh : Nat)
    (segs : List PlainAccent.Seg) (fuel : Nat) (st1 : PState)
    (hdefs : o.defs = []) (hextr : o.extr = []) (hrepl : o.hasRepl = false) (hunkn : o.unkn = false)
    (hinit : initParser T fuel o (initialState T o false fs) = .ok ((), st1))
    (hacc : PlainAccent.noSh segs = true)
    (hok : PlainAccent.segsOk T st1 segs = true) (hf : (PlainAccent.render segs).length + 2 ≤ fuel) :
    ∃ r, tex2txt T fuel (PlainAccent.render segs) o false thresh fs = .ok r ∧
      r.txt = (PlainAccent.refAcc T 0 segs).map (·.1) ∧
      r.pos = (PlainAccent.refAcc T 0 segs).map (·.2 + 1) ∧
      r.unknowns = [] ∧ r.diags = st1.diags := by
  obtain ⟨r, h1, h2, h3, h4, h5⟩ :=
    C02_replaced_e2e T o fs thresh segs fuel st1 hdefs hextr hrepl hunkn hinit hok hf
  rw [PlainAccent.refOut_noSh T st1 segs 0 hacc] at h2 h3
  exact ⟨r, h1, h2, h3, h4, h5⟩

/-- one braced accent call between two texts, table value ONE character `ch`: the output is
    `a ch b`; `a` keeps the positions `1 … |a|`, `ch` has the position of the backslash, `b` the
    positions behind the closing brace -/
theorem C02_accent_single (T : PTables) (o : Options) (fs : FS) (thresh : Nat)
    (a b name : Str) (l ch : Char) (fuel : Nat) (st1 : PState)
    (hdefs : o.defs = []) (hextr : o.extr = []) (hrepl : o.hasRepl = false) (hunkn : o.unkn = false)
    (hinit : initParser T fuel o (initialState T o false fs) = .ok ((), st1))
    (hch : PlainAccent.accentChar T ('\\' :: name) l = some [ch])
    (hok : PlainAccent.segsOk T st1 [.txt a, .acc name [] true l, .txt b] = true)
    (hf : (PlainAccent.render [.txt a, .acc name [] true l, .txt b]).length + 2 ≤ fuel) :
    ∃ r, tex2txt T fuel (a ++ '\\' :: (name ++ ['{', l, '}']) ++ b) o false thresh fs = .ok r ∧
      r.txt = a ++ ch :: b ∧
      r.pos = List.range' 1 a.length ++ (a.length + 1) ::
                List.range' (a.length + name.length + 5) b.length := by
  obtain ⟨r, h1, h2, h3, _⟩ :=
    C02_replaced_e2e T o fs thresh _ fuel st1 hdefs hextr hrepl hunkn hinit hok hf
  have href : PlainAccent.refOut T st1 0 [.txt a, .acc name [] true l, .txt b]
      = posText 0 a ++ (ch, a.length) :: posText (a.length + (name.length + 4)) b := by
    rw [PlainAccent.refOut_txt, PlainAccent.refOut_acc_single T st1 _ name [] true l ch _ hch,
      PlainAccent.refOut_txt]
    simp only [PlainAccent.refOut, PlainAccent.accLen, PlainAccent.argStr, if_true, List.length_nil,
      List.length_cons, List.append_nil, Nat.zero_add, Nat.add_zero]
    rw [show a.length + (1 + name.length + (0 + 1 + 1 + 1)) = a.length + (name.length + 4) by omega]
  rw [href] at h2 h3
  refine ⟨r, ?_, ?_, ?_⟩
  · simpa [PlainAccent.render, PlainAccent.Seg.render, PlainAccent.argStr] using h1
  · rw [h2]; simp [posText_fst]
  · rw [h3]
    simp only [List.map_append, List.map_cons, PlainVanish.posText_pos1]
    simp
    omega

/-- **(B) short macros** (the German `"`-shorthands when `st1` holds the German language
    settings): the general statement `C02_replaced_e2e` (the documents may contain accent calls,
    too); a shorthand at `p` contributes `shortVal T st1 [a, c]`, every character at `p` -/
theorem C02_shorthand_e2e (T : PTables) (o : Options) (fs : FS) (thresh : Nat)
    (segs : List PlainAccent.Seg) (fuel : Nat) (st1 : PState)
    (hdefs : o.defs = []) (hextr : o.extr = []) (hrepl : o.hasRepl = false) (hunkn : o.unkn = false)
    (hinit : initParser T fuel o (initialState T o false fs) = .ok ((), st1))
    (hok : PlainAccent.segsOk T st1 segs = true) (hf : (PlainAccent.render segs).length + 2 ≤ fuel) :
    ∃ r, tex2txt T fuel (PlainAccent.render segs) o false thresh fs = .ok r ∧
      r.txt = (PlainAccent.refOut T st1 0 segs).map (·.1) ∧
      r.pos = (PlainAccent.refOut T st1 0 segs).map (·.2 + 1) ∧
      r.unknowns = [] ∧ r.diags = st1.diags :=
  C02_replaced_e2e T o fs thresh segs fuel st1 hdefs hextr hrepl hunkn hinit hok hf

/-- **no output position lies inside a replaced sequence behind its first character**:
    `PlainAccent.spans 0 segs` lists the accent calls and shorthands as (0-based start, length);
    output positions are 1-based.  (Every character a call produces is mapped to the first
    character of the call, whatever the length of the table value.) -/
theorem C02_replaced_first_char (T : PTables) (o : Options) (fs : FS) (thresh : Nat)
    (segs : List PlainAccent.Seg) (fuel : Nat) (st1 : PState)
    (hdefs : o.defs = []) (hextr : o.extr = []) (hrepl : o.hasRepl = false) (hunkn : o.unkn = false)
    (hinit : initParser T fuel o (initialState T o false fs) = .ok ((), st1))
    (hok : PlainAccent.segsOk T st1 segs = true) (hf : (PlainAccent.render segs).length + 2 ≤ fuel) :
    ∃ r, tex2txt T fuel (PlainAccent.render segs) o false thresh fs = .ok r ∧
      ∀ q ∈ r.pos, ∀ sp ∈ PlainAccent.spans 0 segs, q ≤ sp.1 + 1 ∨ sp.1 + sp.2 < q := by
  obtain ⟨r, h1, _, h3, _⟩ :=
    C02_replaced_e2e T o fs thresh segs fuel st1 hdefs hextr hrepl hunkn hinit hok hf
  refine ⟨r, h1, ?_⟩
  intro q hq sp hsp
  rw [h3] at hq
  obtain ⟨cp, hcp, rfl⟩ := List.mem_map.mp hq
  rcases PlainAccent.refOut_pos_first T st1 hcp hsp with h | h
  · left; omega
  · right; omega

/-- (A) for the CURRENT code (tables translated from /repo, default options, parser
    initialisation evaluated by the kernel) -/
theorem C02_accent_e2e_current (segs : List PlainAccent.Seg) (thresh : Nat)
    (hacc : PlainAccent.noSh segs = true)
    (hok : PlainAccent.segsOk Generated.theTables Generated.stDefault segs = true)
    (hf : (PlainAccent.render segs).length + 2 ≤ Generated.bigFuel) :
    ∃ r, tex2txt Generated.theTables Generated.bigFuel (PlainAccent.render segs) Generated.defaultOptions
          false thresh [] = .ok r ∧
      r.txt = (PlainAccent.refAcc Generated.theTables 0 segs).map (·.1) ∧
      r.pos = (PlainAccent.refAcc Generated.theTables 0 segs).map (·.2 + 1) ∧
      r.unknowns = [] ∧ r.diags = Generated.stDefault.diags :=
  C02_accent_e2e Generated.theTables Generated.defaultOptions [] thresh segs Generated.bigFuel
    Generated.stDefault rfl rfl rfl rfl Generated.initParser_default hacc hok hf

/-- the accent table of the current /repo, on some letters -/
theorem C02_accentChar_current :
    PlainAccent.accentChar Generated.theTables "\\\"".toList 'a' = some "ä".toList ∧
    PlainAccent.accentChar Generated.theTables "\\'".toList 'e' = some "é".toList ∧
    PlainAccent.accentChar Generated.theTables "\\c".toList 'c' = some "ç".toList ∧
    PlainAccent.accentChar Generated.theTables "\\v".toList 'S' = some "Š".toList ∧
    PlainAccent.accentChar Generated.theTables "\\\"".toList 'q' = none ∧
    PlainAccent.accentChar Generated.theTables "\\\"".toList '1' = none := by
  decide +kernel

/-- every value of the Unicode-name table of the current /repo is ONE character, except the seven
    named sequences (letter + combining tilde) listed here -/
theorem C02_unicode_values_current :
    (Generated.theTables.unicodeNames.filter (fun e => e.2.length != 1)).map (·.1)
      = ["LATIN CAPITAL LETTER J WITH TILDE", "LATIN CAPITAL LETTER L WITH TILDE",
         "LATIN CAPITAL LETTER M WITH TILDE", "LATIN CAPITAL LETTER R WITH TILDE",
         "LATIN SMALL LETTER L WITH TILDE", "LATIN SMALL LETTER M WITH TILDE",
         "LATIN SMALL LETTER R WITH TILDE"].map String.toList := by
  simp only [List.map_cons, List.map_nil]; (repeat rw [String.toList_ofList]); decide +kernel

/-- a document with accent calls in all forms: braced (`\"{o}`, `\'{e}`, `\c{c}`, `\v{s}`), without
    braces behind a non-letter accent (`\"i`), with a blank behind a letter accent (`\c c`), with a
    line break and a blank in front of the group (`\H⏎ {O}`), and one whose value is a named
    sequence of two code points (`\~{l}`: both are mapped to the backslash, position 83) — for
    the tables of the current /repo:
    `Sch\"{o}ne Gr\"{u}e, caf\'{e}.⏎Fran\c{c}ais, \v{s}koda; na\"ive gar\c con \H⏎ {O} \~{l}!` -/
def C02_accent_doc : List PlainAccent.Seg :=
  [.txt "Sch".toList, .acc "\"".toList [] true 'o', .txt "ne Gr".toList, .acc "\"".toList [] true 'u',
   .txt "e, caf".toList, .acc "'".toList [] true 'e', .txt ".\nFran".toList, .acc "c".toList [] true 'c',
   .txt "ais, ".toList, .acc "v".toList [] true 's', .txt "koda; na".toList, .acc "\"".toList [] false 'i',
   .txt "ve gar".toList, .acc "c".toList " ".toList false 'c', .txt "on ".toList,
   .acc "H".toList "\n ".toList true 'O', .txt " ".toList, .acc "~".toList [] true 'l', .txt "!".toList]

/-- the side conditions hold for it on the real tables -/
theorem C02_accent_example_current :
    PlainAccent.noSh C02_accent_doc = true ∧
    PlainAccent.segsOk Generated.theTables Generated.stDefault C02_accent_doc = true := by
  rw [Generated.stDefault_eq]; unfold C02_accent_doc; (repeat rw [String.toList_ofList]); decide +kernel

/-- … and this is what the theorem says about it: the reference output, text and positions -/
theorem C02_accent_example_ref :
    (PlainAccent.refAcc Generated.theTables 0 C02_accent_doc).map (·.1)
        = "Schöne Grüe, café.\nFrançais, škoda; naïve garçon Ő l̃!".toList ∧
    (PlainAccent.refAcc Generated.theTables 0 C02_accent_doc).map (·.2 + 1)
        = [1, 2, 3, 4, 9, 10, 11, 12, 13, 14, 19, 20, 21, 22, 23, 24, 25, 30, 31, 32, 33, 34, 35, 36,
           41, 42, 43, 44, 45, 46, 51, 52, 53, 54, 55, 56, 57, 58, 59, 62, 63, 64, 65, 66, 67, 68, 72,
           73, 74, 75, 82, 83, 83, 88] := by
  rw [String.toList_ofList]; decide +kernel

/-- … which is what the model computes (by `C02_accent_e2e_current` and the two evaluations above) -/
theorem C02_accent_example_eval :
    (match tex2txt Generated.theTables Generated.bigFuel (PlainAccent.render C02_accent_doc)
        Generated.defaultOptions false 0 [] with
     | .ok r => r.txt == "Schöne Grüe, café.\nFrançais, škoda; naïve garçon Ő l̃!".toList &&
         r.pos == [1, 2, 3, 4, 9, 10, 11, 12, 13, 14, 19, 20, 21, 22, 23, 24, 25, 30, 31, 32, 33, 34, 35,
           36, 41, 42, 43, 44, 45, 46, 51, 52, 53, 54, 55, 56, 57, 58, 59, 62, 63, 64, 65, 66, 67, 68,
           72, 73, 74, 75, 82, 83, 83, 88] && r.unknowns.isEmpty
     | _ => false) = true := by
  obtain ⟨r, h1, h2, h3, h4, _⟩ := C02_accent_e2e_current C02_accent_doc 0
    C02_accent_example_current.1 C02_accent_example_current.2 (by decide +kernel)
  rw [h1]
  simp only [h2, h3, h4, C02_accent_example_ref.1, C02_accent_example_ref.2, beq_self_eq_true, Bool.and_self,
    List.isEmpty_nil]

namespace Generated

/-- `--lang de` -/
def deOptions : Options := { lang := "de".toList }

def initResultDe : Outcome (Unit × PState) :=
  initParser theTables bigFuel deOptions (initialState theTables deOptions false [])

/-- the parser state after `Parser.__init__` with `--lang de` -/
def stDe : PState :=
  match initResultDe with
  | .ok (_, s) => s
  | _ => initialState theTables deOptions false []

def stDeNF : PState := withBuiltins (initialState theTables deOptions false [])

theorem initResultDe_eq : initResultDe = .ok ((), stDeNF) :=
  initParser_builtins (f := 999997) rfl rfl (by decide +kernel)

theorem stDe_eq : stDe = stDeNF := by
  rw [stDe.eq_1, initResultDe_eq]

theorem initParser_de :
    initParser theTables bigFuel deOptions (initialState theTables deOptions false [])
      = .ok ((), stDe) := by
  rw [stDe_eq]; exact initResultDe_eq

end Generated

/-- with `--lang de` the German settings are in force after the initialisation, `"` is the only
    active character, and these are the short macros of the current /repo -/
theorem C02_shorthand_table_current :
    curSettings Generated.stDe = "de".toList ∧
    (activeChars Generated.theTables Generated.stDe).eraseDups = ["\"".toList] ∧
    ["\"-", "\"=", "\"`", "\"'", "\"A", "\"a", "\"O", "\"o", "\"U", "\"u", "\"s"].map
        (fun k => PlainAccent.shortVal Generated.theTables Generated.stDe k.toList)
      = ["", "-", "„", "“", "Ä", "ä", "Ö", "ö", "Ü", "ü", "ß"].map (fun v => some v.toList) ∧
    PlainAccent.shortVal Generated.theTables Generated.stDe "\"x".toList = none := by
  rw [Generated.stDe_eq]; decide +kernel

/-- (B) for the CURRENT code with `--lang de` -/
theorem C02_shorthand_e2e_current (segs : List PlainAccent.Seg) (thresh : Nat)
    (hok : PlainAccent.segsOk Generated.theTables Generated.stDe segs = true)
    (hf : (PlainAccent.render segs).length + 2 ≤ Generated.bigFuel) :
    ∃ r, tex2txt Generated.theTables Generated.bigFuel (PlainAccent.render segs) Generated.deOptions
          false thresh [] = .ok r ∧
      r.txt = (PlainAccent.refOut Generated.theTables Generated.stDe 0 segs).map (·.1) ∧
      r.pos = (PlainAccent.refOut Generated.theTables Generated.stDe 0 segs).map (·.2 + 1) ∧
      r.unknowns = [] ∧ r.diags = Generated.stDe.diags :=
  C02_shorthand_e2e Generated.theTables Generated.deOptions [] thresh segs Generated.bigFuel
    Generated.stDe rfl rfl rfl rfl Generated.initParser_de hok hf

/-- a German document with all eleven shorthands, a `"` that completes no shorthand (`"x`, `""`,
    `"` at the end) and a shorthand with an empty value (`"-`):
    ``Er sagte "`Hallo"' und "uber "a "- b, "x "" Stra"se "= "O"U"A"o "`` -/
def C02_shorthand_doc : List PlainAccent.Seg :=
  [.txt "Er sagte ".toList, .sh '"' '`', .txt "Hallo".toList, .sh '"' '\'', .txt " und ".toList,
   .sh '"' 'u', .txt "ber ".toList, .sh '"' 'a', .txt " ".toList, .sh '"' '-',
   .txt " b, \"x \"\" Stra".toList, .sh '"' 's', .txt "e ".toList, .sh '"' '=', .txt " ".toList,
   .sh '"' 'O', .sh '"' 'U', .sh '"' 'A', .sh '"' 'o', .txt " \"".toList]

/-- the side conditions hold for it on the real tables with `--lang de` -/
theorem C02_shorthand_example_current :
    PlainAccent.segsOk Generated.theTables Generated.stDe C02_shorthand_doc = true := by
  rw [Generated.stDe_eq]; unfold C02_shorthand_doc; (repeat rw [String.toList_ofList]); decide +kernel

/-- … and this is what the theorem says about it: the reference output, text and positions -/
theorem C02_shorthand_example_ref :
    (PlainAccent.refOut Generated.theTables Generated.stDe 0 C02_shorthand_doc).map (·.1)
        = "Er sagte „Hallo“ und über ä  b, \"x \"\" Straße - ÖÜÄö \"".toList ∧
    (PlainAccent.refOut Generated.theTables Generated.stDe 0 C02_shorthand_doc).map (·.2 + 1)
        = [1, 2, 3, 4, 5, 6, 7, 8, 9, 10, 12, 13, 14, 15, 16, 17, 19, 20, 21, 22, 23, 24, 26, 27, 28,
           29, 30, 32, 35, 36, 37, 38, 39, 40, 41, 42, 43, 44, 45, 46, 47, 48, 49, 51, 52, 53, 55, 56,
           58, 60, 62, 64, 65] := by
  rw [Generated.stDe_eq, String.toList_ofList]; decide +kernel

/-- … which is what the model computes (by `C02_shorthand_e2e_current` and the two evaluations above) -/
theorem C02_shorthand_example_eval :
    (match tex2txt Generated.theTables Generated.bigFuel (PlainAccent.render C02_shorthand_doc)
        Generated.deOptions false 0 [] with
     | .ok r => r.txt == "Er sagte „Hallo“ und über ä  b, \"x \"\" Straße - ÖÜÄö \"".toList &&
         r.pos == [1, 2, 3, 4, 5, 6, 7, 8, 9, 10, 12, 13, 14, 15, 16, 17, 19, 20, 21, 22, 23, 24, 26, 27,
           28, 29, 30, 32, 35, 36, 37, 38, 39, 40, 41, 42, 43, 44, 45, 46, 47, 48, 49, 51, 52, 53, 55,
           56, 58, 60, 62, 64, 65] && r.unknowns.isEmpty
     | _ => false) = true := by
  obtain ⟨r, h1, h2, h3, h4, _⟩ := C02_shorthand_e2e_current C02_shorthand_doc 0
    C02_shorthand_example_current (by decide +kernel)
  rw [h1]
  simp only [h2, h3, h4, C02_shorthand_example_ref.1, C02_shorthand_example_ref.2, beq_self_eq_true,
    Bool.and_self, List.isEmpty_nil]

/-- a German document that mixes shorthands and accent calls (and a `"` in front of `\"a`):
    `Gr"u"se, caf\'{e} "\"a` ↦ `Grüße, café "ä` -/
def C02_mixed_doc : List PlainAccent.Seg :=
  [.txt "Gr".toList, .sh '"' 'u', .sh '"' 's', .txt "e, caf".toList, .acc "'".toList [] true 'e',
   .txt " \"".toList, .acc "\"".toList [] false 'a']

theorem C02_mixed_example_current :
    PlainAccent.segsOk Generated.theTables Generated.stDe C02_mixed_doc = true ∧
    (PlainAccent.refOut Generated.theTables Generated.stDe 0 C02_mixed_doc).map (·.1)
        = "Grüße, café \"ä".toList ∧
    (PlainAccent.refOut Generated.theTables Generated.stDe 0 C02_mixed_doc).map (·.2 + 1)
        = [1, 2, 3, 5, 7, 8, 9, 10, 11, 12, 13, 18, 19, 20] := by
  rw [Generated.stDe_eq, String.toList_ofList]; decide +kernel

end Yalafi
