/-
  Properties/C17.lean — results do not depend on what was processed before.

  The model `tex2txt` is a function of (tables, source, options, files): there is no state
  outside its arguments, so independence from the history is by construction *of the model*;
  the tie to the code is (a) `C17_globals_accounted`: every module-level mutable object and
  `global` declaration found by the AST scan of the working tree (Generated.moduleGlobals)
  is on the examined list — decided by the kernel on every run, so a new cache or
  module-level table breaks this obligation; (b) every document starts from the same parser
  state (`C17_initialState_fresh`), with the glossary inside it;
  (c) the correspondence check, whose implementation side runs hundreds of documents one
  after the other in the same interpreter and is compared with the pure model; (d) call
  sequences in one interpreter against the same calls in fresh interpreters, and request
  sequences against one `--as-server` process.
-/
import YalafiVerif.Spec.Globals
import YalafiVerif.Generated.Tables
import YalafiVerif.Model.Tex2txt
namespace Yalafi

-- both lists are sorted: one pass along them instead of a search per entry
theorem all_contains_of_isSublist {α} [BEq α] [LawfulBEq α] {l m : List α} (h : l.isSublist m = true) :
    l.all (fun g => m.contains g) = true := by
  rw [List.all_eq_true]
  intro g hg
  exact List.contains_iff_mem.mpr ((List.isSublist_iff_sublist.mp h).subset hg)

theorem C17_globals_accounted :
    Generated.moduleGlobals.all (fun g => examinedGlobals.contains g) = true :=
  all_contains_of_isSublist (by decide +kernel)

/-- every function that changes a module-level mutable object in place (item assignment or a
    mutating method on a module-level dict / list / set of its own module, found by the AST scan of
    the working tree) is on the examined list: a new writer of shared state breaks this obligation -/
theorem C17_writers_accounted :
    Generated.moduleWriters.all (fun g => examinedWriters.contains g) = true :=
  all_contains_of_isSublist (by decide +kernel)

/-- every call starts with empty definitions, packages, unknowns, flows, glossary; the
    rotating placeholder lists are those of the tables -/
theorem C17_initialState_fresh (T : PTables) (o : Options) (multi : Bool) (fs : FS) :
    let st := initialState T o multi fs
    st.macros = [] ∧ st.envs = [] ∧ st.packages = [] ∧ st.globalOptions = [] ∧ st.unknowns = [] ∧
    st.extracted = [] ∧ st.glossary = [] ∧ st.itemStack.length = 1 ∧
    st.rots = T.langs.map (fun l => { code := l.code, inl := l.inlineRepl, disp := l.displayRepl, chg := l.langChange }) := by
  simp [initialState]

end Yalafi
