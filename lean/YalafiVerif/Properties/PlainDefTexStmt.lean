/-
  Properties/PlainDefTexStmt.lean — C09 "user macro definitions expand by TeX substitution": the end-to-end
  theorems for definitions made with `\def` (undelimited parameters), Proofs/PlainDefTex*.lean.
-/
import YalafiVerif.Proofs.PlainDefTex
import YalafiVerif.Proofs.PlainDefTexNest
import YalafiVerif.Generated.Init
namespace Yalafi

/-- **a definition made with `\def\name#1#2…#n{body}` expands by substitution**, end to end on the filter
    model, in documents that may also use `\newcommand{\name}[n]{body}`.

    Documents: `render segs` over inert text, definitions `\newcommand{\name}[n]{body}` and
    `\def\name#1#2…#n{body}` (undelimited parameters `#1 … #n` in order, `0 ≤ n ≤ 9`; body = pieces
    `lit s` (inert text) | `par k` (`#k`, `1 ≤ k ≤ n`), any number of occurrences) and uses
    `\name{a1}…{am}` (`m ≥ 1`, every argument braced, non-empty, inert, brace-free) with at least as many
    groups as the definition in force has parameters.

    Claim: `tex2txt` succeeds and text / 1-based positions are `delLines (segMarks [] 0 segs)`, the
    reference of `C09_newcommand_args_e2e` (`PlainMacroArgs.bodyMarks`, `startCur`, `groupMarks`):
    * text keeps its own positions; a definition of either kind leaves no text (one Action mark) and is
      in force BEHIND it; `\def` and `\newcommand` may redefine each other, also with another number of
      parameters: the latest earlier definition counts; a use before the definition is an unknown macro;
    * a use of a defined name is replaced by the body with every `#k` replaced by the text of the k-th
      argument, every character of an argument mapped to ITS OWN source position; literal characters of
      the body are placed as described at `C09_newcommand_args_e2e`;
    * groups beyond the n-th, and all groups of a use of an undefined name, are copied; an undefined
      name goes to `unknowns`;
    * then `remove_pure_action_lines` (`delLines`); no diagnostic is added. -/
theorem C09_def_e2e (T : PTables) (o : Options) (fs : FS) (thresh : Nat)
    (segs : List PlainDefTex.Seg) (fuel : Nat) (st1 : PState)
    (hdefs : o.defs = []) (hextr : o.extr = []) (hrepl : o.hasRepl = false) (hunkn : o.unkn = false)
    (hinit : initParser T fuel o (initialState T o false fs) = .ok ((), st1))
    (hok : PlainDefTex.SegsOk T st1 segs)
    (hf : (PlainDefTex.render segs).length + PlainDefTex.segInserted [] 0 segs + 6 ≤ fuel) :
    ∃ r, tex2txt T fuel (PlainDefTex.render segs) o false thresh fs = .ok r ∧
      r.txt = (PlainMacro.delLines (PlainDefTex.segMarks [] 0 segs)).map (·.1) ∧
      r.pos = (PlainMacro.delLines (PlainDefTex.segMarks [] 0 segs)).map (·.2 + 1) ∧
      r.unknowns = (PlainDefTex.segUnknowns [] segs).eraseDups ∧
      r.diags = st1.diags ∧ r.parts = [] :=
  PlainDefTex.tex2txt_def T o fs thresh segs fuel st1 hdefs hextr hrepl hunkn hinit hok hf

def defExample : List PlainDefTex.Seg :=
  [.txt "A ".toList, .use "pq".toList ["o".toList], .txt " B\n".toList,
   .ddef "pq".toList 2 [.lit "(".toList, .par 2, .lit ",".toList, .par 1, .lit ")".toList],
   .txt "\nX ".toList, .use "pq".toList ["uu".toList, "v w".toList], .txt " Y\n".toList,
   .defn "pq".toList 1 [.lit "<".toList, .par 1, .lit ">".toList],
   .txt "\nU ".toList, .use "pq".toList ["k".toList, "l".toList], .txt " V\n".toList,
   .ddef "pq".toList 0 [.lit "!".toList],
   .txt "\nW ".toList, .use "pq".toList ["m".toList], .txt ".\n".toList]

theorem defExample_render :
    PlainDefTex.render defExample
      = ("A \\pq{o} B\n\\def\\pq#1#2{(#2,#1)}\nX \\pq{uu}{v w} Y\n" ++
         "\\newcommand{\\pq}[1]{<#1>}\nU \\pq{k}{l} V\n\\def\\pq{!}\nW \\pq{m}.\n").toList := by
  rw [String.toList_append, String.toList_ofList, String.toList_ofList]; decide +kernel

/-- the document (a use before any definition; a two-parameter `\def`; a redefinition with
    `\newcommand` and one parameter, used with a surplus group; a redefinition with a parameterless
    `\def`) satisfies all side conditions for the parser initialised from the tables of the current
    /repo -/
theorem C09_def_current :
    PlainDefTex.SegsOk Generated.theTables Generated.stDefault defExample := by
  rw [Generated.stDefault_eq]; decide +kernel

theorem C09_def_current_ref :
    (PlainMacro.delLines (PlainDefTex.segMarks [] 0 defExample)).map (·.1)
        = "A o B\nX (v w,uu) Y\nU <k>l V\nW !m.\n".toList ∧
    (PlainMacro.delLines (PlainDefTex.segMarks [] 0 defExample)).map (·.2 + 1)
        = [1, 2, 7, 9, 10, 11, 33, 34, 39, 43, 44, 45, 45, 39, 40, 40, 47, 48, 49, 76, 77, 82, 82, 82, 85, 87,
           88, 89, 101, 102, 103, 107, 109, 110] ∧
    (PlainDefTex.segUnknowns [] defExample).eraseDups = ["\\pq".toList] := by
  rw [String.toList_ofList, String.toList_ofList]; decide +kernel

/-- … and so `tex2txt` on the real tables yields exactly that (instance of the theorem):
    `\pq{o}` in front of the first definition is an unknown macro (its group is copied); `\pq{uu}{v w}`
    under `\def\pq#1#2{(#2,#1)}` gives `(v w,uu)`, the argument characters at their own positions
    43–45 and 39–40; under the later `\newcommand{\pq}[1]{<#1>}` `\pq{k}{l}` gives `<k>l`; under the
    last `\def\pq{!}` `\pq{m}` gives `!m` -/
theorem C09_def_current_e2e :
    ∃ r, tex2txt Generated.theTables Generated.bigFuel
        ("A \\pq{o} B\n\\def\\pq#1#2{(#2,#1)}\nX \\pq{uu}{v w} Y\n" ++
         "\\newcommand{\\pq}[1]{<#1>}\nU \\pq{k}{l} V\n\\def\\pq{!}\nW \\pq{m}.\n").toList
        Generated.defaultOptions false 0 [] = .ok r ∧
      r.txt = "A o B\nX (v w,uu) Y\nU <k>l V\nW !m.\n".toList ∧
      r.pos = [1, 2, 7, 9, 10, 11, 33, 34, 39, 43, 44, 45, 45, 39, 40, 40, 47, 48, 49, 76, 77, 82, 82, 82, 85,
               87, 88, 89, 101, 102, 103, 107, 109, 110] ∧
      r.unknowns = ["\\pq".toList] ∧ r.diags = Generated.stDefault.diags := by
  obtain ⟨r, h1, h2, h3, h4, h5, _⟩ := C09_def_e2e Generated.theTables Generated.defaultOptions []
    0 defExample Generated.bigFuel Generated.stDefault rfl rfl rfl rfl Generated.initParser_default
    C09_def_current (by decide +kernel)
  obtain ⟨e1, e2, e3⟩ := C09_def_current_ref
  rw [defExample_render] at h1
  exact ⟨r, h1, h2.trans e1, h3.trans e2, h4.trans e3, h5⟩

/-- the same run as a Boolean test (it follows from the instance above) -/
theorem C09_def_current_eval :
    (match tex2txt Generated.theTables Generated.bigFuel
        ("A \\pq{o} B\n\\def\\pq#1#2{(#2,#1)}\nX \\pq{uu}{v w} Y\n" ++
         "\\newcommand{\\pq}[1]{<#1>}\nU \\pq{k}{l} V\n\\def\\pq{!}\nW \\pq{m}.\n").toList
        Generated.defaultOptions false 0 [] with
     | .ok r =>
       r.txt == "A o B\nX (v w,uu) Y\nU <k>l V\nW !m.\n".toList &&
       r.pos == [1, 2, 7, 9, 10, 11, 33, 34, 39, 43, 44, 45, 45, 39, 40, 40, 47, 48, 49, 76, 77, 82, 82, 82, 85,
                 87, 88, 89, 101, 102, 103, 107, 109, 110] &&
       r.unknowns == ["\\pq".toList]
     | _ => false) = true := by
  obtain ⟨r, h1, h2, h3, h4, _⟩ := C09_def_current_e2e
  rw [h1]
  simp only [h2, h3, h4, beq_self_eq_true, Bool.and_self]

/-- **nested uses expand fully**, end to end on the filter model.

    Documents: `render segs` over inert text, definitions `\newcommand{\name}[n]{body}` and
    `\def\name#1…#n{body}` whose body is a list of pieces `lit s` (inert text) | `par k` (`#k`) | `cs m`
    (the name `\m`) | `lb` (`{`) | `rb` (`}`) with balanced braces — so a body may CALL other user macros,
    `\m{…}{…}`, the arguments being such bodies again, to any depth — and uses `\name` followed by
    arguments `br sp s` (`{s}`, inert text) or `tk sp c` (one unbraced character, see
    `C09_single_token_args_e2e`), each possibly behind white space `sp`.

    Reference (`PlainDefTexNest.segMarks F`): text keeps its positions; a definition leaves one mark and
    is in force behind it; a use of a defined name is given to the abstract machine
    `PlainDefTexNest.evalPE env F (usePE p name args)`: a macro name is replaced by the INSTANTIATED body
    (`inst`) of the definition in force at the time of the use, which is put in front of the remaining
    elements and evaluated in turn (`F` = number of machine steps allowed).  In `inst`, `#k` becomes the
    k-th actual argument — the characters of an argument of the document always carry THEIR OWN source
    positions, however deep they are handed down and however often they are copied — and every literal
    character, name or brace of a body is pinned to a position inside the outermost call: the front of
    the value that is referenced last in the body (the call position if there is none), resp. the end
    of the value substituted before.

    Claim: if the machine succeeds within `F` steps (`segMarks F [] 0 segs = some marks`; this contains
    "non-recursive": a recursive definition never terminates; and the class restrictions listed in
    Proofs/PlainDefTexNest.lean: called names defined with non-empty bodies, the groups directly behind
    the name, no empty group) then `tex2txt` succeeds, text / 1-based positions are `delLines marks`,
    `unknowns` are the names used at top level while undefined, no diagnostic is added. -/
theorem C09_nested_uses_e2e (T : PTables) (o : Options) (fs : FS) (thresh : Nat)
    (segs : List PlainDefTexNest.Seg) (fuel : Nat) (st1 : PState) (F : Nat) (marks : List PlainMacro.Mark)
    (hdefs : o.defs = []) (hextr : o.extr = []) (hrepl : o.hasRepl = false) (hunkn : o.unkn = false)
    (hinit : initParser T fuel o (initialState T o false fs) = .ok ((), st1))
    (hok : PlainDefTexNest.SegsOk T st1 segs)
    (hm : PlainDefTexNest.segMarks F [] 0 segs = some marks)
    (hf : 2 * marks.length + 6 ≤ fuel) :
    ∃ r, tex2txt T fuel (PlainDefTexNest.render segs) o false thresh fs = .ok r ∧
      r.txt = (PlainMacro.delLines marks).map (·.1) ∧
      r.pos = (PlainMacro.delLines marks).map (·.2 + 1) ∧
      r.unknowns = (PlainDefTexNest.segUnknowns [] segs).eraseDups ∧
      r.diags = st1.diags ∧ r.parts = [] :=
  PlainDefTexNest.tex2txt_nested T o fs thresh segs fuel st1 F marks hdefs hextr hrepl hunkn hinit hok hm hf

/-- what the machine does with a two-level call, as an equation for EVERY argument text `x`:
    under `\newcommand{\inner}[1]{<#1>}`, `\newcommand{\outer}[1]{a\inner{#1}b}` the use `\outer{x}` at
    position `p` yields `a<x>b`: `a` and `<` at the first character of `x` (`p+7`), `x` with its own
    positions, `>` and `b` at the last token of `x`; the `none`s are the Action marks (they matter for
    the removal of blank lines only) -/
theorem C09_nested_uses_machine (p : Nat) (x : Str) :
    PlainDefTexNest.evalPE
        [("outer".toList, 1, [.lit "a".toList, .cs "inner".toList, .lb, .par 1, .rb, .lit "b".toList]),
         ("inner".toList, 1, [.lit "<".toList, .par 1, .lit ">".toList])] 30
        (PlainDefTexNest.usePE p "outer".toList [.br [] x])
      = some ([none, some ('a', p + 7), none, some ('<', p + 7), none, none] ++
              ((posText (p + 7) x).map some ++
               [none, none, some ('>', p + 7 + PlainMacroArgs.lastTokStart x),
                some ('b', p + 7 + PlainMacroArgs.lastTokStart x)])) := by
  simp [PlainDefTexNest.evalPE, PlainDefTexNest.usePE, PlainDefTexNest.argsPE, PlainDefTexNest.spPE,
    PlainDefTexNest.lookupDefN, PlainDefTexNest.dropSp, PlainDefTexNest.noSkip, PlainDefTexNest.takeGroups,
    PlainDefTexNest.takeArg, PlainDefTexNest.splitGroup, PlainDefTexNest.inst, PlainDefTexNest.instCur,
    PlainDefTexNest.valAt, PlainDefTexNest.hdOf, PlainDefTexNest.lstOf, PlainDefTexNest.PE.hd,
    PlainDefTexNest.PE.lst]

/-- the document of the `_current` instance (three levels: `\two` calls `\outer` calls `\inner`; `#1`
    is used twice inside an argument of a nested call) -/
def nestedExample : List PlainDefTexNest.Seg :=
  [.defn "inner".toList 1 [.lit "<".toList, .par 1, .lit ">".toList], .txt "\n".toList,
   .defn "outer".toList 1 [.lit "a".toList, .cs "inner".toList, .lb, .par 1, .rb, .lit "b".toList],
   .txt "\n".toList,
   .defn "two".toList 2 [.cs "outer".toList, .lb, .par 2, .rb, .lit "+".toList, .cs "inner".toList, .lb,
     .par 1, .lit "|".toList, .par 1, .rb],
   .txt "\nX ".toList, .use "outer".toList [.br [] "x".toList], .txt " Y ".toList,
   .use "two".toList [.br [] "p q".toList, .br [] "r".toList], .txt ".\n".toList]

theorem nestedExample_render :
    PlainDefTexNest.render nestedExample
      = ("\\newcommand{\\inner}[1]{<#1>}\n\\newcommand{\\outer}[1]{a\\inner{#1}b}\n" ++
         "\\newcommand{\\two}[2]{\\outer{#2}+\\inner{#1|#1}}\nX \\outer{x} Y \\two{p q}{r}.\n").toList := by
  rw [String.toList_append, String.toList_ofList, String.toList_ofList]; decide +kernel

/-- the document satisfies all side conditions for the parser initialised from the tables of the
    current /repo -/
theorem C09_nested_uses_current :
    PlainDefTexNest.SegsOk Generated.theTables Generated.stDefault nestedExample := by
  rw [Generated.stDefault_eq]; decide +kernel

/-- the reference machine succeeds on it within 60 steps per use; its output, evaluated:
    `\outer{x}` ↦ `a<x>b`, all literals at position 123 = the `x` of the call (1-based), `x` itself at 123;
    `\two{p q}{r}` ↦ `a<r>b+<p q|p q>`: `r` at its own position 138, both copies of `p q` at their own
    positions 133–135, every literal inside the call -/
theorem C09_nested_uses_current_ref :
    ∃ marks, PlainDefTexNest.segMarks 60 [] 0 nestedExample = some marks ∧ marks.length = 55 ∧
      (PlainMacro.delLines marks).map (·.1) = "X a<x>b Y a<r>b+<p q|p q>.\n".toList ∧
      (PlainMacro.delLines marks).map (·.2 + 1)
        = [114, 115, 123, 123, 123, 123, 123, 125, 126, 127, 138, 138, 138, 138, 138, 138, 133, 133, 134, 135,
           135, 133, 134, 135, 135, 140, 141] ∧
      (PlainDefTexNest.segUnknowns [] nestedExample).eraseDups = [] := by
  refine ⟨(PlainDefTexNest.segMarks 60 [] 0 nestedExample).getD [], ?_, ?_, ?_, ?_, ?_⟩ <;> decide +kernel

/-- … and so `tex2txt` on the real tables yields exactly that (instance of the theorem) -/
theorem C09_nested_uses_current_e2e :
    ∃ r, tex2txt Generated.theTables Generated.bigFuel
        ("\\newcommand{\\inner}[1]{<#1>}\n\\newcommand{\\outer}[1]{a\\inner{#1}b}\n" ++
         "\\newcommand{\\two}[2]{\\outer{#2}+\\inner{#1|#1}}\nX \\outer{x} Y \\two{p q}{r}.\n").toList
        Generated.defaultOptions false 0 [] = .ok r ∧
      r.txt = "X a<x>b Y a<r>b+<p q|p q>.\n".toList ∧
      r.pos = [114, 115, 123, 123, 123, 123, 123, 125, 126, 127, 138, 138, 138, 138, 138, 138, 133, 133, 134,
               135, 135, 133, 134, 135, 135, 140, 141] ∧
      r.unknowns = [] ∧ r.diags = Generated.stDefault.diags := by
  obtain ⟨marks, hm, hl, e1, e2, e3⟩ := C09_nested_uses_current_ref
  obtain ⟨r, h1, h2, h3, h4, h5, _⟩ := C09_nested_uses_e2e Generated.theTables Generated.defaultOptions []
    0 nestedExample Generated.bigFuel Generated.stDefault 60 marks rfl rfl rfl rfl
    Generated.initParser_default C09_nested_uses_current hm (by rw [hl]; decide)
  rw [nestedExample_render] at h1
  exact ⟨r, h1, h2.trans e1, h3.trans e2, h4.trans e3, h5⟩

/-- the same run as a Boolean test (it follows from the instance above) -/
theorem C09_nested_uses_current_eval :
    (match tex2txt Generated.theTables Generated.bigFuel
        ("\\newcommand{\\inner}[1]{<#1>}\n\\newcommand{\\outer}[1]{a\\inner{#1}b}\n" ++
         "\\newcommand{\\two}[2]{\\outer{#2}+\\inner{#1|#1}}\nX \\outer{x} Y \\two{p q}{r}.\n").toList
        Generated.defaultOptions false 0 [] with
     | .ok r =>
       r.txt == "X a<x>b Y a<r>b+<p q|p q>.\n".toList &&
       r.pos == [114, 115, 123, 123, 123, 123, 123, 125, 126, 127, 138, 138, 138, 138, 138, 138, 133, 133, 134,
                 135, 135, 133, 134, 135, 135, 140, 141] &&
       r.unknowns.isEmpty
     | _ => false) = true := by
  obtain ⟨r, h1, h2, h3, h4, _⟩ := C09_nested_uses_current_e2e
  rw [h1]
  simp only [h2, h3, h4, beq_self_eq_true, Bool.and_self, List.isEmpty_nil]

/-- **an unbraced argument is ONE token**, end to end on the filter model (this is
    `C09_nested_uses_e2e` read for uses with arguments `tk sp c`; same documents, same reference).

    What the reference (`PlainDefTexNest.takeGroups` / `takeArg` / `dropSp` inside `evalPE`) says about a
    use `\name` followed by arguments, for a macro defined by `\newcommand` or by `\def` with `n`
    parameters:
    * white space of the document behind the name and in front of each of the first `n` arguments is
      skipped (it leaves no text); at most one line break (two are a paragraph: not covered);
    * an argument is a brace group `{s}` or ONE visible character `c` — `\pq ab` hands `a` to `#1` and `b`
      to `#2`; `\pq  c {d e}f` hands `c`, `d e`; `f` is ordinary text behind the use;
    * the character keeps ITS OWN source position wherever the body puts it (between two Action marks,
      like a braced argument); literal characters of the body behind `#k` are pinned to that position;
    * arguments beyond the `n`-th are not consumed: white space, characters, groups are copied;
    * a use of an undefined name: an Action mark, the white space directly behind the name is skipped
      (this is what the model does for every macro name), the rest is copied; the name is listed.
    "One token" for the scanner is one character of text; a special sequence of the tables that starts
    at the character (e.g. `--`) would be ONE token and go to the macro as a whole — excluded by the
    side condition `txtAt` in `argsOkB` (with `\def\pq#1#2{(#2,#1)}`, `\pq a--b` would hand `--` to `#2`; no
    declaration here evaluates that case).  The character must not be active, a brace, `%`, `#`, `$`, `\` or white space. -/
theorem C09_single_token_args_e2e (T : PTables) (o : Options) (fs : FS) (thresh : Nat)
    (segs : List PlainDefTexNest.Seg) (fuel : Nat) (st1 : PState) (F : Nat) (marks : List PlainMacro.Mark)
    (hdefs : o.defs = []) (hextr : o.extr = []) (hrepl : o.hasRepl = false) (hunkn : o.unkn = false)
    (hinit : initParser T fuel o (initialState T o false fs) = .ok ((), st1))
    (hok : PlainDefTexNest.SegsOk T st1 segs)
    (hm : PlainDefTexNest.segMarks F [] 0 segs = some marks)
    (hf : 2 * marks.length + 6 ≤ fuel) :
    ∃ r, tex2txt T fuel (PlainDefTexNest.render segs) o false thresh fs = .ok r ∧
      r.txt = (PlainMacro.delLines marks).map (·.1) ∧
      r.pos = (PlainMacro.delLines marks).map (·.2 + 1) ∧
      r.unknowns = (PlainDefTexNest.segUnknowns [] segs).eraseDups ∧
      r.diags = st1.diags ∧ r.parts = [] :=
  PlainDefTexNest.tex2txt_nested T o fs thresh segs fuel st1 F marks hdefs hextr hrepl hunkn hinit hok hm hf

/-- what the machine does with one use of a flat binary macro and two unbraced characters, as an
    equation: `\pq ab` at position `p` with body `(#2,#1)`: `a` (position `p+4`) is `#1`, `b` (`p+5`) is `#2`,
    the blank at `p+3` vanishes -/
theorem C09_single_token_args_machine (p : Nat) :
    PlainDefTexNest.evalPE
        [("pq".toList, 2, [.lit "(".toList, .par 2, .lit ",".toList, .par 1, .lit ")".toList])] 20
        (PlainDefTexNest.usePE p "pq".toList [.tk " ".toList 'a', .tk [] 'b'])
      = some [none, some ('(', p + 4), none, some ('b', p + 5), none, some (',', p + 5), none,
              some ('a', p + 4), none, some (')', p + 4)] := by
  simp [PlainDefTexNest.evalPE, PlainDefTexNest.usePE, PlainDefTexNest.argsPE, PlainDefTexNest.spPE,
    PlainDefTexNest.lookupDefN, PlainDefTexNest.dropSp, PlainDefTexNest.noSkip, PlainDefTexNest.takeGroups,
    PlainDefTexNest.takeArg, PlainDefTexNest.inst, PlainDefTexNest.instCur, PlainDefTexNest.valAt,
    PlainDefTexNest.hdOf, PlainDefTexNest.lstOf, PlainDefTexNest.PE.hd, PlainDefTexNest.PE.lst]

/-- the document of the `_current` instance:
    `\def\pq#1#2{(#2,#1)}` / `\newcommand{\rr}[1]{<\pq{#1}{#1}>}` /
    `X \pq{uu}{vv} Y \pq ab Z \pq  c {d e}f \rr⏎gh \zz i{j}.` -/
def tokExample : List PlainDefTexNest.Seg :=
  [.ddef "pq".toList 2 [.lit "(".toList, .par 2, .lit ",".toList, .par 1, .lit ")".toList], .txt "\n".toList,
   .defn "rr".toList 1 [.lit "<".toList, .cs "pq".toList, .lb, .par 1, .rb, .lb, .par 1, .rb, .lit ">".toList],
   .txt "\nX ".toList, .use "pq".toList [.br [] "uu".toList, .br [] "vv".toList], .txt " Y ".toList,
   .use "pq".toList [.tk " ".toList 'a', .tk [] 'b'], .txt " Z ".toList,
   .use "pq".toList [.tk "  ".toList 'c', .br " ".toList "d e".toList, .tk [] 'f'], .txt " ".toList,
   .use "rr".toList [.tk "\n".toList 'g'], .txt "h ".toList,
   .use "zz".toList [.tk " ".toList 'i', .br [] "j".toList], .txt ".\n".toList]

theorem tokExample_render :
    PlainDefTexNest.render tokExample
      = ("\\def\\pq#1#2{(#2,#1)}\n\\newcommand{\\rr}[1]{<\\pq{#1}{#1}>}\n" ++
         "X \\pq{uu}{vv} Y \\pq ab Z \\pq  c {d e}f \\rr\ngh \\zz i{j}.\n").toList := by
  rw [String.toList_append, String.toList_ofList, String.toList_ofList]; decide +kernel

/-- the document (a `\def`-defined binary macro used with braced, with unbraced and with mixed
    arguments, blanks in front of them; a `\newcommand`-defined macro that calls it, used with an
    unbraced argument behind a line break; an undefined name) satisfies all side conditions for the
    parser initialised from the tables of the current /repo -/
theorem C09_single_token_args_current :
    PlainDefTexNest.SegsOk Generated.theTables Generated.stDefault tokExample := by
  rw [Generated.stDefault_eq]; decide +kernel

/-- the reference machine succeeds on it within 40 steps per use; its output, evaluated:
    `\pq ab` ↦ `(b,a)` with `a` at 77, `b` at 78 (1-based; their own positions), `(` at 77 (front of the
    argument referenced last, `#1`), `,` at 78, `)` at 77; `\pq  c {d e}f` ↦ `(d e,c)` and `f` stays text;
    `\rr⏎g` ↦ `<(g,g)>` everything at 100 = the `g`; `\zz i{j}` ↦ `ij`, `\zz` unknown -/
theorem C09_single_token_args_current_ref :
    ∃ marks, PlainDefTexNest.segMarks 40 [] 0 tokExample = some marks ∧ marks.length = 74 ∧
      (PlainMacro.delLines marks).map (·.1) = "X (vv,uu) Y (b,a) Z (d e,c)f <(g,g)>h ij.\n".toList ∧
      (PlainMacro.delLines marks).map (·.2 + 1)
        = [57, 58, 63, 67, 68, 68, 63, 64, 64, 70, 71, 72, 77, 78, 78, 77, 77, 79, 80, 81, 87, 90, 91, 92, 92,
           87, 87, 94, 95, 100, 100, 100, 100, 100, 100, 100, 101, 102, 107, 109, 111, 112] ∧
      (PlainDefTexNest.segUnknowns [] tokExample).eraseDups = ["\\zz".toList] := by
  refine ⟨(PlainDefTexNest.segMarks 40 [] 0 tokExample).getD [], ?_, ?_, ?_, ?_, ?_⟩ <;> decide +kernel

/-- … and so `tex2txt` on the real tables yields exactly that (instance of the theorem) -/
theorem C09_single_token_args_current_e2e :
    ∃ r, tex2txt Generated.theTables Generated.bigFuel
        ("\\def\\pq#1#2{(#2,#1)}\n\\newcommand{\\rr}[1]{<\\pq{#1}{#1}>}\n" ++
         "X \\pq{uu}{vv} Y \\pq ab Z \\pq  c {d e}f \\rr\ngh \\zz i{j}.\n").toList
        Generated.defaultOptions false 0 [] = .ok r ∧
      r.txt = "X (vv,uu) Y (b,a) Z (d e,c)f <(g,g)>h ij.\n".toList ∧
      r.pos = [57, 58, 63, 67, 68, 68, 63, 64, 64, 70, 71, 72, 77, 78, 78, 77, 77, 79, 80, 81, 87, 90, 91, 92,
               92, 87, 87, 94, 95, 100, 100, 100, 100, 100, 100, 100, 101, 102, 107, 109, 111, 112] ∧
      r.unknowns = ["\\zz".toList] ∧ r.diags = Generated.stDefault.diags := by
  obtain ⟨marks, hm, hl, e1, e2, e3⟩ := C09_single_token_args_current_ref
  obtain ⟨r, h1, h2, h3, h4, h5, _⟩ := C09_single_token_args_e2e Generated.theTables Generated.defaultOptions []
    0 tokExample Generated.bigFuel Generated.stDefault 40 marks rfl rfl rfl rfl
    Generated.initParser_default C09_single_token_args_current hm (by rw [hl]; decide)
  rw [tokExample_render] at h1
  exact ⟨r, h1, h2.trans e1, h3.trans e2, h4.trans e3, h5⟩

/-- the same run as a Boolean test (it follows from the instance above) -/
theorem C09_single_token_args_current_eval :
    (match tex2txt Generated.theTables Generated.bigFuel
        ("\\def\\pq#1#2{(#2,#1)}\n\\newcommand{\\rr}[1]{<\\pq{#1}{#1}>}\n" ++
         "X \\pq{uu}{vv} Y \\pq ab Z \\pq  c {d e}f \\rr\ngh \\zz i{j}.\n").toList
        Generated.defaultOptions false 0 [] with
     | .ok r =>
       r.txt == "X (vv,uu) Y (b,a) Z (d e,c)f <(g,g)>h ij.\n".toList &&
       r.pos == [57, 58, 63, 67, 68, 68, 63, 64, 64, 70, 71, 72, 77, 78, 78, 77, 77, 79, 80, 81, 87, 90, 91, 92,
                 92, 87, 87, 94, 95, 100, 100, 100, 100, 100, 100, 100, 101, 102, 107, 109, 111, 112] &&
       r.unknowns == ["\\zz".toList]
     | _ => false) = true := by
  obtain ⟨r, h1, h2, h3, h4, _⟩ := C09_single_token_args_current_e2e
  rw [h1]
  simp only [h2, h3, h4, beq_self_eq_true, Bool.and_self]

end Yalafi
