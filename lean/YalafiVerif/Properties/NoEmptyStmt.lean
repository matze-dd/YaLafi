/-
  Properties/NoEmptyStmt.lean — C07, the crash site in `glossaries.cap_first`:
  the filter model never raises in `glossaries.cap_first` (`toks[i].txt[0]` of an empty `TextToken`).

  Claim.  For EVERY source text, option record, file system and fuel, `tex2txt` of the model does not end in
  `.crash "glossaries.py:cap_first:txt[0]"`; hence (with `C07_tex2txt_no_crash`) the only crash sites left are the
  two markers of code that is not modelled (`opaque module`, `opaque handler`).

  Side conditions (both decidable, both proved for the tables translated from /repo by `decide +kernel`):
  * `hw  : T.WFInv`          the well-formedness of the range bundle (C01/C07), used for the scanner facts
                             (token positions, class invariants) and the bookkeeping `envOk`;
  * `hne : tblOkB T = true`  (1) declared macro/environment texts (`repl`, `defaults`, `extract`) contain
                             no empty text token, no `MathBeginToken`, and control tokens with empty text;
                             (2) no declared MACRO has handler `.theorem _`/`.proof` and no declared environment
                             has one of them as `end_func` (the handlers whose result may START with an empty
                             text token); (3) a `remove` environment has no handler and an empty replacement
                             (so that the output handed back by an UNCLOSED `remove` environment is preceded
                             only by action/paragraph/language tokens); (4) `envOk` of the range bundle;
                             (5) `biblatex.cite_text ≠ ""`; (6) no entry of the `upper()` table is `""`
                             (`cap_first`/`cap_all` never produce an empty text).

  How it is proved (`Proofs/NoEmpty*.lean`): induction on fuel over the 21 functions of the mutual block, with
  a buffer-ORDER invariant (`Pre`: Skip* ++ [one arbitrary token]? ++ non-empty*), a class of "output" lists that
  contain no token that can start a call (`ANC`), and token positions `< n` (without them the claim is FALSE in
  the abstract: a split error mark at a position `≥ n` starts with an empty text token).

  Where the model makes empty text tokens: an EMPTY text token is created at five kinds of places:
    1. `.theorem []`  — `\newtheorem{thm}{}` … `\begin{thm}`
    2. `.proof` if the current language settings did not exist (`proofName` falls back to `""`; excluded by
       the range bundle's `G.langs`, not needed here)
    3. `expand_item`: `item_default_label = ['']` — EVERY plain `\item` of an `itemize`/default environment
       pushes `TextToken(start, '')` back to the buffer, behind action/language/space tokens
    4. `latex_error` marks at `pos ≥ len(latex)` (first half `mark[:0]`); excluded by positions `< n`
    5. output-only tokens (`\verb||`, placeholders, special tokens replaced by `""`): they re-enter a buffer
       only through an unclosed `remove` environment, as a tail without any macro/begin/end/item token.
  None of them reaches `cap_first`: that is the theorem.

  The cleveref handlers (`.readSed`, `.crefWarn`, `.cref`, `.crefrange`, `ModuleDef.crefInject`) are
  covered: `Proofs/NoEmptyHandlerC.lean` (replacement strings are scanner tokens: a text token of the scanner is
  never empty; macros (re)defined by `h_read_sed` have scanner-token bodies and handlers that are not `isFront`);
  the tokens a package injects on loading are `InjOk` (`NE` whenever the place of the `\usepackage` lies inside
  the text).  `handler_step` in `Proofs/NoEmptyMain.lean` is one `cases` naming one lemma per handler.

  Files: `Proofs/NoEmptyDefs.lean` (invariant, `Post'`, the 21 specifications), `NoEmptyBase1/2/2b.lean` (leaf lemmas),
  `NoEmptyStepSeq/Env/Args/Work/Math.lean`, `NoEmptyHandlerA/B/C.lean` (step lemmas), `NoEmptyMain.lean` (induction),
  `NoEmptyTop.lean` (`initParser`, `parse`, `tex2txt`).

  NOT covered: nothing is said about `fatal`/`outOfFuel`; the two opaque crash markers remain in `allowedCrash`
  (this file does not show them unreachable).
-/
import YalafiVerif.Proofs.NoEmptyMain
import YalafiVerif.Properties.C07Base
import YalafiVerif.Generated.Init
import YalafiVerif.Generated.WF
namespace Yalafi

open NoEmpty

/-- the filter model never raises in `glossaries.cap_first`, whatever the input -/
theorem C07_no_capfirst_crash (T : PTables) (hw : T.WFInv) (hne : tblOkB T = true)
    (fuel : Nat) (latex : Str) (o : Options) (multi : Bool) (thresh : Nat) (fs : FS) :
    tex2txt T fuel latex o multi thresh fs ≠ .crash "glossaries.py:cap_first:txt[0]" :=
  tex2txt_noCapFirst hne hw (NoEmpty.allSpecs hne hw) fuel latex o multi thresh fs

theorem C07_tblOk_current : tblOkB Generated.theTables = true := by decide +kernel

theorem C07_no_capfirst_crash_current (fuel : Nat) (latex : Str) (o : Options) (multi : Bool) (thresh : Nat)
    (fs : FS) :
    tex2txt Generated.theTables fuel latex o multi thresh fs ≠ .crash "glossaries.py:cap_first:txt[0]" :=
  C07_no_capfirst_crash Generated.theTables Generated.wfInv C07_tblOk_current fuel latex o multi thresh fs

/-- corollary: a crash of the filter model can only be one of the two markers of code that is not
    modelled -/
theorem C07_tex2txt_crash_only_opaque (T : PTables) (hw : T.WFInv) (hne : tblOkB T = true)
    (fuel : Nat) (latex : Str) (o : Options) (multi : Bool) (thresh : Nat) (fs : FS) (site : String)
    (h : tex2txt T fuel latex o multi thresh fs = .crash site) :
    site = "opaque module (not modelled)" ∨ site = "opaque handler (not modelled)" := by
  have h1 := C07_tex2txt_no_crash T hw fuel latex o multi thresh fs site h
  have h2 := C07_no_capfirst_crash T hw hne fuel latex o multi thresh fs
  simp only [allowedCrash, List.mem_cons, List.not_mem_nil, or_false] at h1
  rcases h1 with h1 | h1 | h1
  · exact Or.inl h1
  · exact Or.inr h1
  · subst h1; exact absurd h h2

theorem C07_tex2txt_crash_only_opaque_current (fuel : Nat) (latex : Str) (o : Options) (multi : Bool)
    (thresh : Nat) (fs : FS) (site : String)
    (h : tex2txt Generated.theTables fuel latex o multi thresh fs = .crash site) :
    site = "opaque module (not modelled)" ∨ site = "opaque handler (not modelled)" :=
  C07_tex2txt_crash_only_opaque Generated.theTables Generated.wfInv C07_tblOk_current fuel latex o multi thresh fs
    site h

/-- the heart: `cap_first` cannot raise on a token list whose text tokens are non-empty -/
theorem C07_capFirst_total (T : PTables) (ts : List Tok) (h : ∀ t ∈ ts, t.kind = .text → t.txt ≠ []) :
    capFirst T ts ≠ none := by
  unfold capFirst
  split
  · simp
  · rename_i i hi
    split
    · simp
    · rename_i t ht
      have hmem : t ∈ ts := List.mem_of_getElem? ht
      have hk : t.kind = .text := by
        have := List.findIdx?_eq_some_iff_getElem.1 hi
        obtain ⟨hlt, hp, _⟩ := this
        have e : ts[i]? = some ts[i] := List.getElem?_eq_getElem hlt
        rw [e] at ht; injection ht with ht; subst ht
        simpa using hp
      have := h t hmem hk
      cases htx : t.txt with
      | nil => exact absurd htx this
      | cons c cs => simp

/-- non-vacuity of the remark "an empty text token IS created": a split error mark at a position behind
    the text starts with an empty text token (source 4 of the header) -/
example : (latexErrorToks Generated.theTables.toTables "x".toList 5 5).head?.map (·.txt) = some [] := by
  decide +kernel

end Yalafi
