/-
  Properties/C13.lean — phrase replacement keeps text and position map consistent.

  `replace_phrases` on its own: `C13_substitute_spec`, `C13_substitute_positions` — `substitute`
  for an arbitrary list of disjoint, increasing, non-empty match spans (the regex engine is
  abstracted); `C13_findSpans_ok`, `C13_match_boundaries`, `C13_match_no_par_break` — `findSpans`
  (the hand-written matcher for the pattern `replace_phrases` builds) produces such spans, matches
  a phrase that starts / ends with a letter at `\b` only, and takes fewer line breaks than the
  phrase has words; `C13_replacePhrases` — a whole file of rules.
  In the filter, every source text: `C13_tex2txt_repl_commutes` (`--repl` = `replace_phrases` on the
  text and map returned without it), `C13_tex2txt_repl_ok` (equal lengths, the positions are among
  those returned without it), `C13_tex2txt_repl_commutes_ml` (multi-language mode: the pieces of
  the main language only).
  `C13_tex2txt_plain_repl`: sources of inert characters, the output in closed form; instance on
  the tables of /repo.  Checked on the implementation: that the model (matcher and
  `substitute`) agrees with `replace_phrases` of /repo, whose spans come from Python's `re`.
-/
import YalafiVerif.Proofs.Replace
import YalafiVerif.Proofs.PlainRepl
import YalafiVerif.Proofs.ReplGeneral
import YalafiVerif.Generated.Init
namespace Yalafi

/-- C13 (bookkeeping, full): equal lengths, and the output is exactly the per-index
    specification — for *any* position list (also non-monotonic) and any replacement. -/
theorem C13_substitute_spec (txt : Str) (pos : List Nat) (ms : List Span) (repl : Str)
    (hlen : txt.length = pos.length) (hok : SpansOk 0 txt.length ms) :
    (substitute txt pos ms repl).1.length = (substitute txt pos ms repl).2.length ∧
    (substitute txt pos ms repl).1.zip (substitute txt pos ms repl).2 =
      (List.range txt.length).flatMap (substSpecAt txt pos ms repl) :=
  substitute_spec txt pos ms repl hlen hok

/-- C13: every position in the result was a position of the input -/
theorem C13_substitute_positions (txt : Str) (pos : List Nat) (ms : List Span) (repl : Str)
    (hlen : txt.length = pos.length) (hok : SpansOk 0 txt.length ms) :
    ∀ p ∈ (substitute txt pos ms repl).2, p ∈ pos :=
  substitute_positions txt pos ms repl hlen hok

/-- the matcher yields spans of the shape `substitute` is verified for -/
theorem C13_findSpans_ok (T : Tables) (ph : Phrase) (txt : Str) :
    SpansOk 0 txt.length (findSpans T ph txt.length 0 none txt) :=
  findSpans_ok T ph txt

/-- the text matched by a phrase of `n` words (no line break inside a word) holds at most `n - 1`
    line breaks, as many as there are gaps between the words: a phrase of two words does not match
    across a paragraph break -/
theorem C13_match_no_par_break (ws : List Str) (s : Str) (m : Nat)
    (hws : ∀ w ∈ ws, ∀ c ∈ w, c ≠ nl)
    (h : matchWords ws s = some m) : countNl (s.take m) + 1 ≤ ws.length ∨ ws = [] :=
  matchWords_nl ws s m hws h

/-- a phrase starting (ending) with a letter matches only at a `\b` word boundary -/
theorem C13_match_boundaries (T : Tables) (ph : Phrase) (prev : Option Char) (s : Str) (m : Nat)
    (h : matchAt T ph prev s = some m) :
    (ph.bLeft = true → wordBoundary T prev s.head? = true) ∧
    (ph.bRight = true → wordBoundary T ((s.take m).getLast?) (s.drop m).head? = true) ∧ 1 ≤ m :=
  matchAt_boundaries T ph prev s m h

/-- `#` starts a comment; a line without left-hand side is ignored -/
theorem C13_parseRule_comment (T : Tables) (l r : Str) (h : ∀ c ∈ l, c ≠ '#') :
    parseRule T (l ++ '#' :: r) = parseRule T l :=
  parseRule_comment T l r h

theorem C13_parseRule_no_lhs (T : Tables) (line : Str)
    (h : (splitWs (line.takeWhile (· != '#'))).head? = some ['&'] ∨ splitWs (line.takeWhile (· != '#')) = []) :
    parseRule T line = none :=
  parseRule_no_lhs T line h

/-- C13 for a whole replacement file: lengths stay equal and positions stay inside the
    input positions, for every rule list applied in sequence -/
theorem C13_replacePhrases (T : Tables) (txt : Str) (pos : List Nat) (lines : List Str)
    (hlen : txt.length = pos.length) :
    (replacePhrases T txt pos lines).1.length = (replacePhrases T txt pos lines).2.length ∧
    ∀ p ∈ (replacePhrases T txt pos lines).2, p ∈ pos :=
  replacePhrases_ok T txt pos lines hlen

/-- **phrase replacement end to end on the filter model**: for a source of inert characters and any
    replacement list (`--repl`), `tex2txt` returns exactly `replace_phrases` of the source with the
    identity map (so everything above applies to the filter's output): text and position list have
    equal length and every reported position lies in 1 … len(source); no unknowns,
    no diagnostic beyond those of the initialisation -/
theorem C13_tex2txt_plain_repl (T : PTables) (o : Options) (fs : FS) (thresh : Nat) (src : Str) (fuel : Nat)
    (st1 : PState) (hdefs : o.defs = []) (hextr : o.extr = []) (hrepl : o.hasRepl = true)
    (hunkn : o.unkn = false)
    (hinit : initParser T fuel o (initialState T o false fs) = .ok ((), st1))
    (h : ∀ c ∈ src, inertChar T st1 c = true) (hf : src.length + 2 ≤ fuel) :
    ∃ r, tex2txt T fuel src o false thresh fs = .ok r ∧
      r.txt = (replacePhrases T.toTables src (List.range src.length) o.repl).1 ∧
      r.pos = (replacePhrases T.toTables src (List.range src.length) o.repl).2.map (· + 1) ∧
      r.txt.length = r.pos.length ∧ (∀ p ∈ r.pos, 1 ≤ p ∧ p ≤ src.length) ∧
      r.unknowns = [] ∧ r.diags = st1.diags :=
  tex2txt_plain_repl T o fs thresh src fuel st1 hdefs hextr hrepl hunkn hinit h hf

/-- **for EVERY source text**: the option `--repl` does nothing but apply `replace_phrases` to the text and the
    position list that the filter returns without it (all theorems above then apply to the filter's output) -/
theorem C13_tex2txt_repl_commutes (T : PTables) (fuel : Nat) (latex : Str) (o : Options) (thresh : Nat) (fs : FS)
    (r0 : T2TResult) (hunkn : o.unkn = false)
    (h0 : tex2txt T fuel latex { o with hasRepl := false } false thresh fs = .ok r0) :
    tex2txt T fuel latex { o with hasRepl := true } false thresh fs =
      .ok { r0 with
            txt := (replacePhrases T.toTables r0.txt (r0.pos.map (· - 1)) o.repl).1,
            pos := (replacePhrases T.toTables r0.txt (r0.pos.map (· - 1)) o.repl).2.map (· + 1) } :=
  tex2txt_repl_commutes T fuel latex o thresh fs r0 hunkn h0

/-- … hence, for every source: equal lengths, and for every position `p` reported with the list there is a
    position `q` reported without it with `p - 1 = q - 1` (0-based, truncated: `p = q` unless one of them is 0;
    `p` is at most the source length whenever C01 holds for the run without the list) -/
theorem C13_tex2txt_repl_ok (T : PTables) (fuel : Nat) (latex : Str) (o : Options) (thresh : Nat) (fs : FS)
    (r0 : T2TResult) (hunkn : o.unkn = false)
    (h0 : tex2txt T fuel latex { o with hasRepl := false } false thresh fs = .ok r0)
    (hlen : r0.txt.length = r0.pos.length) :
    ∃ r, tex2txt T fuel latex { o with hasRepl := true } false thresh fs = .ok r ∧
      r.txt.length = r.pos.length ∧ (∀ p ∈ r.pos, p - 1 ∈ r0.pos.map (· - 1)) ∧
      r.unknowns = r0.unknowns ∧ r.diags = r0.diags :=
  tex2txt_repl_ok T fuel latex o thresh fs r0 hunkn h0 hlen

/-- **multi-language mode, every source text**: `--repl` rewrites exactly the pieces of the MAIN language, each by
    `replace_phrases` on its own text and map (`replPart`); pieces of the other languages, unknowns, diagnostics unchanged -/
theorem C13_tex2txt_repl_commutes_ml (T : PTables) (fuel : Nat) (latex : Str) (o : Options) (thresh : Nat) (fs : FS)
    (r0 : T2TResult)
    (h0 : tex2txt T fuel latex { o with hasRepl := false } true thresh fs = .ok r0) :
    tex2txt T fuel latex { o with hasRepl := true } true thresh fs =
      .ok { r0 with parts := r0.parts.map (replPart T o) } :=
  tex2txt_repl_commutes_ml T fuel latex o thresh fs r0 h0

/-- the default options with a replacement list -/
def replOptions (lines : List Str) : Options := { Generated.defaultOptions with repl := lines, hasRepl := true }

/-- initialisation of the parser does not look at the replacement list -/
theorem initParser_repl (lines : List Str) :
    initParser Generated.theTables Generated.bigFuel (replOptions lines)
      (initialState Generated.theTables (replOptions lines) false []) = .ok ((), Generated.stDefault) :=
  Generated.initParser_default

/-- instance for the tables of the current /repo: the rule `z. B. & zum Beispiel` on a German sentence -/
theorem C13_tex2txt_plain_repl_current :
    ∃ r, tex2txt Generated.theTables Generated.bigFuel "Das ist z. B. so.".toList
          (replOptions ["z. B. & zum Beispiel".toList]) false 2 [] = .ok r ∧
      r.txt = "Das ist zum Beispiel so.".toList ∧
      r.pos = [1, 2, 3, 4, 5, 6, 7, 8, 9, 10, 11, 12, 13, 13, 13, 13, 13, 13, 13, 13, 14, 15, 16, 17] := by
  obtain ⟨r, hr, ht, hp, _⟩ := C13_tex2txt_plain_repl Generated.theTables (replOptions ["z. B. & zum Beispiel".toList]) [] 2
    "Das ist z. B. so.".toList Generated.bigFuel Generated.stDefault rfl rfl rfl rfl (initParser_repl _)
    (by rw [Generated.stDefault_eq, String.toList_ofList]; decide +kernel) (by rw [String.toList_ofList]; decide)
  refine ⟨r, hr, ?_⟩
  rw [ht, hp, String.toList_ofList, String.toList_ofList, String.toList_ofList]; decide +kernel

/-- non-vacuity of `SpansOk`: a concrete list of two spans -/
example : SpansOk 0 9 [⟨0, 2⟩, ⟨5, 3⟩] := by simp [SpansOk]

end Yalafi
