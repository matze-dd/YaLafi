/-
  Properties/C19.lean — the unknowns list.

  Proved (all inputs): the only writer of `unknowns`, `addUnknown`, appends a name at the end iff
  the use is not in maths mode and the name is not yet listed (`C19_addUnknown_spec`,
  `C19_addUnknown_nodup`, `C19_addUnknown_math`, `C19_addUnknown_prefix`); the list of every result
  is duplicate-free (`C19_tex2txt_nodup`); `--unkn` prints the list of the run without it, one name
  per line (`C19_unkn_commutes`, `C19_unkn_output`).  That a declared name never is listed holds on the grammar of
  `C19_unknowns_e2e` (`C19_declared_never_listed`, PlainUnkn2Stmt.lean), not for all inputs.
  Completeness ("every undeclared name used in text is listed"): `C19_unknowns_complete` for
  documents of inert text and undeclared control words, `C19_unknowns_e2e` with environments and
  maths, `C19_unkn_output_mix3` on the 22-kind union grammar; beyond those grammars it is checked
  against the reference semantics of generated documents.
-/
import YalafiVerif.Model.Tex2txt
import YalafiVerif.Proofs.Inv.Tex2txt
import YalafiVerif.Generated.WF
import YalafiVerif.Proofs.PlainUnknown
import YalafiVerif.Generated.Init
import YalafiVerif.Properties.PlainUnkn2Stmt
import YalafiVerif.Properties.PlainMix3Stmt
import YalafiVerif.Proofs.UnknGeneral
namespace Yalafi

theorem C19_addUnknown_spec (name : Str) (math : Bool) (st : PState) :
    addUnknown name math st = .ok ((), if math || st.unknowns.contains name then st
                                       else { st with unknowns := st.unknowns ++ [name] }) := by
  simp only [addUnknown, M.modify]

theorem C19_addUnknown_nodup (name : Str) (math : Bool) (st st' : PState) (h : st.unknowns.Nodup)
    (hr : addUnknown name math st = .ok ((), st')) : st'.unknowns.Nodup := by
  rw [C19_addUnknown_spec] at hr
  injection hr with hr; injection hr with _ hr
  subst hr
  split
  · exact h
  · rename_i hc
    simp only [Bool.or_eq_true, not_or, Bool.not_eq_true] at hc
    have hn : name ∉ st.unknowns := by
      intro hm
      have := List.contains_iff_mem.mpr hm
      simp_all
    rw [List.nodup_append]
    refine ⟨h, by simp, ?_⟩
    intro a ha b hb
    simp only [List.mem_singleton] at hb
    subst hb
    intro hab
    subst hab
    exact hn ha

/-- names used only in maths mode are not listed -/
theorem C19_addUnknown_math (name : Str) (st : PState) : addUnknown name true st = .ok ((), st) := by
  rw [C19_addUnknown_spec]; simp

/-- earlier entries keep their place: order of first use -/
theorem C19_addUnknown_prefix (name : Str) (math : Bool) (st st' : PState)
    (hr : addUnknown name math st = .ok ((), st')) : st.unknowns <+: st'.unknowns := by
  rw [C19_addUnknown_spec] at hr
  injection hr with hr; injection hr with _ hr
  subst hr
  split
  · exact List.prefix_refl _
  · exact List.prefix_append _ _

/-- end to end on the whole filter model (bundle invariant `G0.unk`): the unknowns list of every
    result is duplicate-free, for every source, option record, file system and fuel -/
theorem C19_tex2txt_nodup (T : PTables) (hw : T.WFInv) (fuel : Nat) (latex : Str) (o : Options) (multi : Bool)
    (thresh : Nat) (fs : FS) (r : T2TResult) (h : tex2txt T fuel latex o multi thresh fs = .ok r) :
    r.unknowns.Nodup :=
  tex2txt_unknowns_nodup T hw fuel latex o multi thresh fs r h

theorem C19_tex2txt_nodup_current (fuel : Nat) (latex : Str) (o : Options) (multi : Bool) (thresh : Nat) (fs : FS)
    (r : T2TResult) (h : tex2txt Generated.theTables fuel latex o multi thresh fs = .ok r) : r.unknowns.Nodup :=
  tex2txt_unknowns_nodup Generated.theTables Generated.wfInv fuel latex o multi thresh fs r h

/-- **completeness and exactness of the unknowns list, end to end**, on documents made of inert
    text and undeclared control words (`Seg`, `render`; the decidable side conditions `SegsOk` say
    that each `\\name` really is one macro token of the scanner — not `\\begin`, `\\end`, `\\item`,
    `\\verb`, `\\def`, an accent, a special sequence, not followed by a letter — and is not declared
    in the initialised parser `st1`): the list holds exactly the control words of the document,
    each once, in order of first use; no diagnostics are added; with `--unkn` the output is the
    list, one name per line; otherwise the output text is a subsequence of the text segments
    whose non-blank characters carry exactly their source positions. -/
theorem C19_unknowns_complete (T : PTables) (o : Options) (fs : FS) (thresh : Nat)
    (segs : List Seg) (fuel : Nat) (st1 : PState)
    (hdefs : o.defs = []) (hextr : o.extr = []) (hrepl : o.hasRepl = false)
    (hinit : initParser T fuel o (initialState T o false fs) = .ok ((), st1))
    (hok : SegsOk T st1 segs) (hf : (render segs).length + 2 ≤ fuel) :
    ∃ r, tex2txt T fuel (render segs) o false thresh fs = .ok r ∧
      r.unknowns = (controlWords segs).eraseDups ∧
      r.diags = st1.diags ∧
      (o.unkn = true → r.txt = strJoin [nl] (controlWords segs).eraseDups ++ [nl]) ∧
      (o.unkn = false →
        List.Sublist r.txt (textOf segs) ∧
        nonBlankPairs (r.txt, r.pos)
          = ((textSegs 0 segs).filter (fun cp => !isSpace cp.1)).map (fun cp => (cp.1, cp.2 + 1))) := by
  obtain ⟨r, h1, h2, h3, _, h5, h6⟩ :=
    tex2txt_unknowns_complete T o fs thresh segs fuel st1 hdefs hextr hrepl hinit hok hf
  exact ⟨r, h1, h2, h3, h5, fun hu => ⟨(h6 hu).2.2.1, (h6 hu).2.2.2⟩⟩

/-- completeness of the unknowns list for the CURRENT code (tables translated from /repo, default
    options, parser initialisation evaluated by the kernel) -/
theorem C19_unknowns_complete_current (segs : List Seg) (thresh : Nat)
    (hok : SegsOk Generated.theTables Generated.stDefault segs)
    (hf : (render segs).length + 2 ≤ Generated.bigFuel) :
    ∃ r, tex2txt Generated.theTables Generated.bigFuel (render segs) Generated.defaultOptions false thresh [] = .ok r ∧
      r.unknowns = (controlWords segs).eraseDups ∧ r.diags = Generated.stDefault.diags := by
  obtain ⟨r, h1, h2, h3, _⟩ := C19_unknowns_complete Generated.theTables Generated.defaultOptions [] thresh segs
    Generated.bigFuel Generated.stDefault rfl rfl rfl Generated.initParser_default hok hf
  exact ⟨r, h1, h2, h3⟩

/-- a concrete document satisfies the side conditions on the real tables (and `\\LaTeX`, which is
    declared, does not) -/
theorem C19_example_current :
    SegsOk Generated.theTables Generated.stDefault
      [.txt "Hello ".toList, .cw "foo".toList, .txt " world ".toList, .cw "bar".toList, .cw "foo".toList, .txt ", end.".toList] ∧
    ¬ SegsOk Generated.theTables Generated.stDefault [.txt "Use ".toList, .cw "LaTeX".toList, .txt " here.".toList] := by
  rw [Generated.stDefault_eq]; (repeat rw [String.toList_ofList]); decide +kernel

/-! ### the OUTPUT of `--unkn`, for every source text (Proofs/UnknGeneral.lean) -/

/-- **for every source text**: option `--unkn` does not change the run of the filter; the result is the result without
    the option with the text replaced by the unknowns, one per line in their order (first use), and every position the
    dummy number -/
theorem C19_unkn_commutes (T : PTables) (fuel : Nat) (latex : Str) (o : Options) (thresh : Nat) (fs : FS)
    (r0 : T2TResult)
    (h0 : tex2txt T fuel latex { o with unkn := false } false thresh fs = .ok r0) :
    tex2txt T fuel latex { o with unkn := true } false thresh fs =
      .ok { r0 with txt := unknText r0.unknowns, pos := List.replicate (unknText r0.unknowns).length 1 } :=
  tex2txt_unkn_commutes T fuel latex o thresh fs r0 h0

theorem C19_unkn_output (T : PTables) (fuel : Nat) (latex : Str) (o : Options) (thresh : Nat) (fs : FS)
    (r : T2TResult) (hu : o.unkn = true)
    (h : tex2txt T fuel latex o false thresh fs = .ok r) :
    r.txt = unknText r.unknowns ∧ r.pos = List.replicate r.txt.length 1 :=
  tex2txt_unkn_output T fuel latex o thresh fs r hu h

/-- **end to end with `--unkn`** on the 22-kind union grammar: the printed text is exactly the list of the names that are
    undeclared at their use in the text (`unkNames`: undeclared control words, uses of a user macro before its
    definition; names in formulas, displayed equations, comments, `\verb` are not among them), each once, in order of
    first use, one per line -/
theorem C19_unkn_output_mix3 (T : PTables) (o : Options) (fs : FS) (thresh : Nat)
    (segs : List PlainMix3.Seg) (fuel : Nat) (st1 : PState) (repls drepls : List Str)
    (hdefs : o.defs = []) (hextr : o.extr = []) (hrepl : o.hasRepl = false) (hunkn : o.unkn = true)
    (hinit : initParser T fuel o (initialState T o false fs) = .ok ((), st1))
    (hok : PlainMix3.SegsOk T st1 repls drepls segs)
    (hf : (PlainMix3.render segs).length + PlainMix3.inserted [] 0 segs + 6 ≤ fuel) :
    ∃ r, tex2txt T fuel (PlainMix3.render segs) o false thresh fs = .ok r ∧
      r.txt = unknText ((PlainMix3.unkNames [] segs).eraseDups) ∧
      r.pos = List.replicate r.txt.length 1 ∧
      r.unknowns = (PlainMix3.unkNames [] segs).eraseDups := by
  obtain ⟨r0, h0, _, _, hu, _⟩ :=
    C03_mix3_e2e T { o with unkn := false } fs thresh segs fuel st1 repls drepls hdefs hextr hrepl rfl hinit hok hf
  have h1 := tex2txt_unkn_commutes T fuel (PlainMix3.render segs) o thresh fs r0 h0
  have ho : ({ o with unkn := true } : Options) = o := by cases o; simp_all
  rw [ho] at h1
  refine ⟨_, h1, ?_, ?_, ?_⟩
  · simp [hu]
  · simp
  · simp [hu]

/-- … on the tables translated from /repo, with `Options(unkn=True)`, for the 17-line example document that uses all 22
    kinds: the side conditions hold (`C03_mix3_example_current`), and the printed list is `\pair` (the one use that
    precedes its definition), `\textbf`, `\emph` (not declared by YaLafi without packages), `\foo`, `\bar`; `\alpha` in the
    formula and the later uses of `\pair` are not listed -/
theorem C19_unkn_output_mix3_current (thresh : Nat) :
    ∃ r, tex2txt Generated.theTables Generated.bigFuel (PlainMix3.render C03_mix3_doc)
          { Generated.defaultOptions with unkn := true } false thresh [] = .ok r ∧
      r.txt = unknText ((PlainMix3.unkNames [] C03_mix3_doc).eraseDups) ∧
      r.pos = List.replicate r.txt.length 1 ∧
      r.unknowns = (PlainMix3.unkNames [] C03_mix3_doc).eraseDups :=
  C19_unkn_output_mix3 Generated.theTables { Generated.defaultOptions with unkn := true } [] thresh C03_mix3_doc
    Generated.bigFuel Generated.stDefault C03_mix3_repls C03_mix3_drepls rfl rfl rfl rfl
    Generated.initParser_default C03_mix3_example_current C03_mix3_example_fuel

theorem C19_unkn_output_mix3_example :
    unknText ((PlainMix3.unkNames [] C03_mix3_doc).eraseDups) = "\\pair\n\\textbf\n\\emph\n\\foo\n\\bar\n".toList := by
  rw [String.toList_ofList]; decide +kernel

end Yalafi
