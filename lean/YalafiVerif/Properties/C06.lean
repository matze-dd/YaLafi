/-
  Properties/C06.lean — plain prose is a fixed point; special sequences follow the table.

  Proved for all inputs: at every offset the scanner returns the *longest* key of the special
  table that is a prefix there (and no special token if none is), a character that starts
  no special sequence, no white space, `%`, `#` or `\` is a one-character text token, and
  the *generated* table contains the documented entries (`decide` on the table translated
  from /repo on this run).  The step "a Special token becomes its table value at the same
  offset" is the `special` branch of `expandSequence` (covered by `seq_step`, C01).
  End to end on the whole filter model: `C06_plain_fixed_point` (inert text is returned unchanged)
  and `C06_specials_follow_table` (Proofs/Plain.lean, Proofs/PlainSpecial.lean).
-/
import YalafiVerif.Proofs.Scanner
import YalafiVerif.Generated.Tables
import YalafiVerif.Proofs.Plain
import YalafiVerif.Proofs.PlainSpecial
import YalafiVerif.Generated.WF
import YalafiVerif.Generated.Init
namespace Yalafi

theorem C06_longest_match (T : Tables) (h : T.WFScan) (rest : Str) (t : Str)
    (hm : matchSpecial T rest = some t) :
    startsWith rest t = true ∧ t ∈ T.special.map (·.1) ∧
    ∀ k ∈ T.special.map (·.1), startsWith rest k = true → k.length ≤ t.length :=
  matchSpecial_longest T h rest t hm

theorem C06_no_match (T : Tables) (h : T.WFScan) (rest : Str) (hm : matchSpecial T rest = none) :
    ∀ k ∈ T.special.map (·.1), startsWith rest k = false :=
  matchSpecial_none T h rest hm

/-- every other character is copied: an ordinary character is a one-character text token at
    its own offset -/
theorem C06_scan_text_char (T : Tables) (src : Str) (start : Nat) (c : Char) (cs : Str)
    (h1 : isSpace c = false) (h2 : c ≠ '%') (h3 : c ≠ '#') (h4 : c ≠ '\\')
    (h5 : matchSpecial T (c :: cs) = none) :
    nextToken T src start (c :: cs) = { tok := { kind := .text, pos := start, txt := [c] }, len := 1 } := by
  simp [nextToken, h1, h2, h3, h4, h5]

/-- the table translated from the current /repo contains the documented replacements -/
theorem C06_tables_documented :
    let T := Generated.theTables.toTables
    T.specialVal "--".toList = some [Char.ofNat 0x2013] ∧ T.specialVal "---".toList = some [Char.ofNat 0x2014] ∧
    T.specialVal "``".toList = some [Char.ofNat 0x201C] ∧ T.specialVal "''".toList = some [Char.ofNat 0x201D] ∧
    T.specialVal "~".toList = some [Char.ofNat 0xA0] ∧ T.specialVal "\\,".toList = some [Char.ofNat 0x202F] ∧
    T.specialVal "\\%".toList = some ['%'] ∧ T.specialVal "\\&".toList = some ['&'] ∧
    T.specialVal "\\$".toList = some ['$'] ∧ T.specialVal "\\#".toList = some ['#'] ∧
    T.specialVal "\\_".toList = some ['_'] ∧ T.specialVal "\\{".toList = some ['{'] ∧
    T.specialVal "\\}".toList = some ['}'] ∧ T.specialVal "\\\\".toList = some [' '] ∧
    T.specialVal "&".toList = some [' '] := by
  (repeat rw [String.toList_ofList]); decide

/-- **plain prose is a fixed point**, end to end on the filter model: if every character of the
    source is inert — white space, or a character that is none of the syntactic `% # \ $ { }`,
    starts no special sequence of the table and is no active character of the language settings
    (`inertChar`) — then, for default options (no `--defs`, `--extr`, `--repl`, `--unkn`) and
    enough fuel (two more than the length), the filter returns the source itself and the i-th
    output character maps to source position i; there are no unknowns and no new diagnostics.
    `hinit`: the parser was initialised (`Parser.__init__`) with result state `st1`. -/
theorem C06_plain_fixed_point (T : PTables) (o : Options) (fs : FS) (thresh : Nat) (src : Str) (fuel : Nat)
    (st1 : PState) (hdefs : o.defs = []) (hextr : o.extr = []) (hrepl : o.hasRepl = false)
    (hunkn : o.unkn = false)
    (hinit : initParser T fuel o (initialState T o false fs) = .ok ((), st1))
    (h : ∀ c ∈ src, inertChar T st1 c = true) (hf : src.length + 2 ≤ fuel) :
    ∃ r, tex2txt T fuel src o false thresh fs = .ok r ∧ r.txt = src ∧
      r.pos = (List.range src.length).map (· + 1) ∧ r.unknowns = [] ∧ r.diags = st1.diags :=
  tex2txt_plain T o fs thresh src fuel st1 hdefs hextr hrepl hunkn hinit h hf

/-- the same for the weaker, position-dependent condition `inertText` (a lone `-`, `'` or a `"`
    that completes no short macro are admitted), with the complete result -/
theorem C06_plain_fixed_point_text (T : PTables) (o : Options) (fs : FS) (thresh : Nat) (src : Str) (fuel : Nat)
    (st1 : PState) (hdefs : o.defs = []) (hextr : o.extr = []) (hrepl : o.hasRepl = false)
    (hunkn : o.unkn = false)
    (hinit : initParser T fuel o (initialState T o false fs) = .ok ((), st1))
    (h : inertText T st1 src = true) (hf : src.length + 2 ≤ fuel) :
    tex2txt T fuel src o false thresh fs
      = .ok { toks := (scan T.toTables src).toks, txt := src,
              pos := (List.range src.length).map (· + 1), parts := [], unknowns := [],
              diags := st1.diags, foreign := false } :=
  tex2txt_plain_text T o fs thresh src fuel st1 hdefs hextr hrepl hunkn hinit h hf

/-- **special sequences follow the table**, end to end on the filter model: for a source made of
    copied characters and special sequences (`specText`: at every offset outside a matched key
    either the longest matching key of the table is a `plainSpecialKey` — not white space, `%`,
    `#`, `$`, `\\(`, `$$`, `\\[`, `\\\\`, `{`, `}` — or no key matches and the character is copied),
    on which no line consists of white space and blank-valued special sequences only (`linesOK`:
    C05's case), the output text and its positions are those of the reference `refSpecial`:
    left to right, the longest matching key is replaced by its table value mapped to the offset
    where the key starts, every other character is copied with its own offset.  No unknowns, no
    new diagnostics.  `hnl`: no table value contains a line break. -/
theorem C06_specials_follow_table (T : PTables) (o : Options) (fs : FS) (thresh : Nat) (src : Str)
    (fuel : Nat) (st1 : PState)
    (hwf : T.toTables.WFScan) (hnl : ∀ e ∈ T.special, hasNl e.2 = false)
    (hdefs : o.defs = []) (hextr : o.extr = []) (hrepl : o.hasRepl = false) (hunkn : o.unkn = false)
    (hinit : initParser T fuel o (initialState T o false fs) = .ok ((), st1))
    (h : specText T st1 src = true) (hlines : linesOK T.toTables src = true)
    (hf : src.length + 2 ≤ fuel) :
    ∃ r, tex2txt T fuel src o false thresh fs = .ok r ∧
      r.txt = (refSpecial T.toTables src 0).1 ∧
      r.pos = (refSpecial T.toTables src 0).2.map (· + 1) ∧
      r.unknowns = [] ∧ r.diags = st1.diags :=
  tex2txt_special T o fs thresh src fuel st1 hwf hnl hdefs hextr hrepl hunkn hinit h hlines hf

/-- the table translated from the current /repo satisfies the two table hypotheses -/
theorem C06_specials_tables_current :
    Generated.theTables.toTables.WFScan ∧ (∀ e ∈ Generated.theTables.special, hasNl e.2 = false) :=
  ⟨Generated.wfScan, by decide +kernel⟩

/-- the fixed-point theorem for the CURRENT code: tables translated from /repo, default options,
    parser initialisation evaluated by the kernel (`Generated.initParser_default`) -/
theorem C06_plain_fixed_point_current (src : Str) (thresh : Nat)
    (h : ∀ c ∈ src, inertChar Generated.theTables Generated.stDefault c = true)
    (hf : src.length + 2 ≤ Generated.bigFuel) :
    ∃ r, tex2txt Generated.theTables Generated.bigFuel src Generated.defaultOptions false thresh [] = .ok r ∧
      r.txt = src ∧ r.pos = (List.range src.length).map (· + 1) ∧ r.unknowns = [] ∧
      r.diags = Generated.stDefault.diags :=
  C06_plain_fixed_point Generated.theTables Generated.defaultOptions [] thresh src Generated.bigFuel
    Generated.stDefault rfl rfl rfl rfl Generated.initParser_default h hf

/-- … and these ASCII characters are inert for it (letters, digits, blank, line break, tab and the
    punctuation that starts no special sequence): the premise is satisfiable on the real tables -/
theorem C06_inert_ascii_current :
    ∀ c ∈ "ABCDEFGHIJKLMNOPQRSTUVWXYZabcdefghijklmnopqrstuvwxyz0123456789 \n\t.,;:!?()/*=+<>|@[]\"".toList,
      inertChar Generated.theTables Generated.stDefault c = true := by
  rw [Generated.stDefault_eq, String.toList_ofList]; decide +kernel

theorem C06_specials_follow_table_current (src : Str) (thresh : Nat)
    (h : specText Generated.theTables Generated.stDefault src = true)
    (hlines : linesOK Generated.theTables.toTables src = true)
    (hf : src.length + 2 ≤ Generated.bigFuel) :
    ∃ r, tex2txt Generated.theTables Generated.bigFuel src Generated.defaultOptions false thresh [] = .ok r ∧
      r.txt = (refSpecial Generated.theTables.toTables src 0).1 ∧
      r.pos = (refSpecial Generated.theTables.toTables src 0).2.map (· + 1) ∧
      r.unknowns = [] ∧ r.diags = Generated.stDefault.diags :=
  C06_specials_follow_table Generated.theTables Generated.defaultOptions [] thresh src Generated.bigFuel
    Generated.stDefault C06_specials_tables_current.1 C06_specials_tables_current.2 rfl rfl rfl rfl
    Generated.initParser_default h hlines hf

/-- a concrete text with special sequences satisfies the premises on the real tables -/
theorem C06_specials_example_current :
    specText Generated.theTables Generated.stDefault "A -- B~C, 100\\% sure: ``x'' --- y.".toList = true ∧
    linesOK Generated.theTables.toTables "A -- B~C, 100\\% sure: ``x'' --- y.".toList = true := by
  rw [Generated.stDefault_eq, String.toList_ofList]; decide +kernel

end Yalafi
