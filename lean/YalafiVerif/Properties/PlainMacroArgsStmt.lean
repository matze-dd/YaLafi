/-
  Properties/PlainMacroArgsStmt.lean — C09 "user macro definitions expand by TeX substitution", C04
  "generated text maps into the construct", C02 "arguments handed to user-defined macros keep their own
  offsets": the end-to-end theorem for definitions WITH parameters (the class of
  Proofs/PlainMacroArgs.lean; the theorem itself is in Proofs/PlainDefs.lean).
-/
import YalafiVerif.Proofs.PlainDefs
import YalafiVerif.Generated.Init
namespace Yalafi

/-- **a user definition with parameters expands by substitution**, end to end on the filter model.

    Documents: `render segs` over inert text, definitions `\newcommand{\name}[n]{body}` (`0 ≤ n ≤ 9`,
    body = pieces `lit s` (inert text) | `par k` (`#k`, `1 ≤ k ≤ n`), any number of occurrences) and
    uses `\name{a1}…{am}` (`m ≥ 1`, every argument braced, non-empty, inert, brace-free; white space and
    line breaks allowed) with at least as many groups as the definition in force has parameters.

    Claim: `tex2txt` succeeds and text / 1-based positions are `delLines (segMarks [] 0 segs)`:
    * text keeps its own positions; a definition leaves no text (one Action mark);
    * a use of a name defined EARLIER (latest definition wins) is replaced by the body with every `#k`
      replaced by the text of the k-th argument; every character that comes from an argument maps to
      ITS OWN source position inside the braces of the use — also when `#k` occurs several times (all
      copies map to the same source characters);
    * a literal character of the body maps (this is what the model does, `generate_replacements`):
      in front of the first `#k` to the first character of the argument that is referenced LAST in the
      body (to the backslash of the use only if the body contains no `#k`); behind a `#k` to the last
      token of the k-th argument (its last character; if the argument ends in white space, the first
      character of that trailing white space);
    * brace groups beyond the n-th, and all groups of a use of an undefined name, are copied (their
      text with its own positions); an undefined name goes to `unknowns` (once, order of first use);
    * then `remove_pure_action_lines`: every line that consists of white space only and holds a
      definition, use or brace is deleted with its line break (`delLines`);
    * no diagnostic is added. -/
theorem C09_newcommand_args_e2e (T : PTables) (o : Options) (fs : FS) (thresh : Nat)
    (segs : List PlainMacroArgs.Seg) (fuel : Nat) (st1 : PState)
    (hdefs : o.defs = []) (hextr : o.extr = []) (hrepl : o.hasRepl = false) (hunkn : o.unkn = false)
    (hinit : initParser T fuel o (initialState T o false fs) = .ok ((), st1))
    (hok : PlainMacroArgs.SegsOk T st1 segs)
    (hf : (PlainMacroArgs.render segs).length + PlainMacroArgs.segInserted [] 0 segs + 6 ≤ fuel) :
    ∃ r, tex2txt T fuel (PlainMacroArgs.render segs) o false thresh fs = .ok r ∧
      r.txt = (PlainMacro.delLines (PlainMacroArgs.segMarks [] 0 segs)).map (·.1) ∧
      r.pos = (PlainMacro.delLines (PlainMacroArgs.segMarks [] 0 segs)).map (·.2 + 1) ∧
      r.unknowns = (PlainMacroArgs.segUnknowns [] segs).eraseDups ∧
      r.diags = st1.diags ∧ r.parts = [] :=
  PlainMacroArgs.tex2txt_newcommand_args T o fs thresh segs fuel st1 hdefs hextr hrepl hunkn hinit hok hf

/-- … and if no line is blank and marked (`linesKept`), the output is the expansion
    `PlainMacroArgs.expand [] 0 segs` itself -/
theorem C09_newcommand_args_kept_e2e (T : PTables) (o : Options) (fs : FS) (thresh : Nat)
    (segs : List PlainMacroArgs.Seg) (fuel : Nat) (st1 : PState)
    (hdefs : o.defs = []) (hextr : o.extr = []) (hrepl : o.hasRepl = false) (hunkn : o.unkn = false)
    (hinit : initParser T fuel o (initialState T o false fs) = .ok ((), st1))
    (hok : PlainMacroArgs.SegsOk T st1 segs)
    (hf : (PlainMacroArgs.render segs).length + PlainMacroArgs.segInserted [] 0 segs + 6 ≤ fuel)
    (hk : PlainMacro.linesKept true false (PlainMacroArgs.segMarks [] 0 segs) = true) :
    ∃ r, tex2txt T fuel (PlainMacroArgs.render segs) o false thresh fs = .ok r ∧
      r.txt = (PlainMacroArgs.expand [] 0 segs).map (·.1) ∧
      r.pos = (PlainMacroArgs.expand [] 0 segs).map (·.2 + 1) ∧
      r.unknowns = (PlainMacroArgs.segUnknowns [] segs).eraseDups ∧ r.diags = st1.diags :=
  PlainMacroArgs.tex2txt_newcommand_args_kept T o fs thresh segs fuel st1 hdefs hextr hrepl hunkn hinit hok hf hk

/-- the document of the `_current` instance:
    `\newcommand{\pp}[2]{a#2b#2c#1}` / `X \pp{uu}{v w} Y \pp{p q }{r}.` -/
def argsExample : List PlainMacroArgs.Seg :=
  [.defn "pp".toList 2 [.lit "a".toList, .par 2, .lit "b".toList, .par 2, .lit "c".toList, .par 1],
   .txt "\nX ".toList, .use "pp".toList ["uu".toList, "v w".toList], .txt " Y ".toList,
   .use "pp".toList ["p q ".toList, "r".toList], .txt ".\n".toList]

/-- the context-free conditions on the tables (`PlainMacroArgs.tablesOk`) hold for the tables of the
    current /repo, and the document satisfies the context-free conditions `segsOkSimple` -/
theorem C09_newcommand_args_simple_current :
    PlainMacroArgs.tablesOk Generated.theTables = true ∧
    PlainMacroArgs.segsOkSimple Generated.theTables Generated.stDefault argsExample = true := by
  rw [Generated.stDefault_eq]; decide +kernel

/-- a concrete document (a two-parameter macro used twice, `#2` twice in the body) satisfies all side
    conditions for the parser initialised from the tables of the current /repo: `segsOk` by
    `segsOk_of_simple`, the other three evaluated -/
theorem C09_newcommand_args_current :
    PlainMacroArgs.SegsOk Generated.theTables Generated.stDefault argsExample := by
  have h : noEmptyActive Generated.theTables Generated.stDefault = true ∧
      PlainMacro.ncOk Generated.stDefault = true ∧ PlainMacroArgs.arityOk [] argsExample = true := by
    rw [Generated.stDefault_eq]; decide +kernel
  exact ⟨h.1, h.2.1, PlainMacroArgs.segsOk_of_simple _ _ C09_newcommand_args_simple_current.1 _
    C09_newcommand_args_simple_current.2, h.2.2⟩

/-- the reference output for that document, evaluated:
    text `X av wbv wcuu Y arbrcp q .` with the positions the theorem claims -/
theorem C09_newcommand_args_current_ref :
    (PlainMacro.delLines (PlainMacroArgs.segMarks [] 0 argsExample)).map (·.1)
        = "X av wbv wcuu Y arbrcp q .\n".toList ∧
    (PlainMacro.delLines (PlainMacroArgs.segMarks [] 0 argsExample)).map (·.2 + 1)
        = [32, 33, 38, 42, 43, 44, 44, 42, 43, 44, 44, 38, 39, 46, 47, 48, 53, 59, 59, 59, 59, 53, 54, 55,
           56, 61, 62] ∧
    (PlainMacroArgs.segUnknowns [] argsExample).eraseDups = [] := by
  rw [String.toList_ofList]; decide +kernel

/-- … and so `tex2txt` on the real tables yields exactly that (instance of the theorem) -/
theorem C09_newcommand_args_current_e2e :
    ∃ r, tex2txt Generated.theTables Generated.bigFuel (PlainMacroArgs.render argsExample)
        Generated.defaultOptions false 0 [] = .ok r ∧
      r.txt = "X av wbv wcuu Y arbrcp q .\n".toList ∧
      r.pos = [32, 33, 38, 42, 43, 44, 44, 42, 43, 44, 44, 38, 39, 46, 47, 48, 53, 59, 59, 59, 59, 53, 54,
               55, 56, 61, 62] ∧
      r.unknowns = [] ∧ r.diags = Generated.stDefault.diags := by
  obtain ⟨r, h1, h2, h3, h4, h5, _⟩ := C09_newcommand_args_e2e Generated.theTables Generated.defaultOptions []
    0 argsExample Generated.bigFuel Generated.stDefault rfl rfl rfl rfl Generated.initParser_default
    C09_newcommand_args_current (by decide +kernel)
  obtain ⟨e1, e2, e3⟩ := C09_newcommand_args_current_ref
  exact ⟨r, h1, h2.trans e1, h3.trans e2, h4.trans e3, h5⟩

end Yalafi
