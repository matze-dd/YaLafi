/-
  Properties/C05.lean — text flow: no paragraph break invented or lost, no words glued.

  Proved for all inputs, on the model of `remove_pure_action_lines` and of the scanner:
  white space with at least two line breaks is a paragraph token, otherwise a space token;
  without Action tokens (nothing vanished) the pass is the identity on non-empty tokens;
  the pass never loses, duplicates, reorders or re-positions a visible character; its
  output text is the input text with some white-space characters deleted.
  End to end on the whole filter model (Properties/PlainVanishStmt.lean, imported here):
  `C05_vanish_e2e` — for documents of inert text and vanishing macros (`\\label{key}`, `\\index{key}`,
  … : declared with one mandatory argument, no handler, text-less replacement) the output is the
  source with the calls cut out, every remaining character at its own position, a line that held
  only such calls and white space disappears with its line break and every other line break
  and blank line survives; corollaries `C05_vanish_same_line` (no line break added or removed
  around a call inside a text line), `C05_vanish_no_par` (a call alone on its line between two
  text lines does not become a paragraph break), `C03_vanish_no_key` (no output position lies
  inside a call), instances on the current tables.
  On the union grammars (Properties/PlainMixStmt.lean … PlainMix4Stmt.lean): `C05_mix_lines` … —
  a line of the main flow is deleted iff it holds white space and at least one vanished construct;
  `C05_mix_kept`, `C05_mix_nothing_added`, `C05_mix_last_line`.  The layout relation between two
  words (blank line in the output iff in the source as TeX reads it; white space is not glued away)
  is a theorem there: `C05_paragraph_relation`, `C05_same_paragraph` (Properties/PlainParaStmt.lean,
  grammar of `C03_mix2_e2e`), `C05_paragraph_relation_mix3`, `C05_paragraph_iff_mix3`,
  `C05_same_paragraph_mix3` (Properties/PlainParaMix3Stmt.lean, with the exact exceptions);
  `C05_par_e2e`, `C05_par_break` (Properties/PlainParEnvStmt.lean): `\par` and environments declared
  with `add_pars` give a blank line.  Outside these grammars the relation is checked on the
  implementation against a TeX-style reading of generated separators.
-/
import YalafiVerif.Proofs.Scanner
import YalafiVerif.Proofs.Lines
import YalafiVerif.Properties.PlainVanishStmt
import YalafiVerif.Properties.PlainMixStmt
import YalafiVerif.Properties.PlainMix2Stmt
import YalafiVerif.Properties.PlainMix3Stmt
import YalafiVerif.Properties.PlainMix4Stmt
import YalafiVerif.Properties.PlainParaStmt
import YalafiVerif.Properties.PlainParEnvStmt
import YalafiVerif.Properties.PlainParaMix3Stmt
namespace Yalafi

theorem C05_scanSpace_kind (start : Nat) (rest : Str) :
    (scanSpace start rest).tok.kind = (if countNl (rest.takeWhile isSpace) < 2 then Kind.space else Kind.par) :=
  scanSpace_kind start rest

theorem C05_removeLines_noaction_id (ts : List Tok) (h : ∀ t ∈ ts, isAction t = false) :
    removeLines ts = some (ts.filter keepOut) :=
  removeLines_noaction_id ts h

theorem C05_removeLines_nonblank (ts out : List Tok)
    (hc : ∀ t ∈ ts, (isAction t = true ∨ isLang t = true) → t.txt = [])
    (hr : removeLines ts = some out) :
    nonBlankPairs (getTxtPos out) = nonBlankPairs (getTxtPos ts) :=
  removeLines_nonblank ts out hc hr

theorem C05_removeLines_sublist (ts out : List Tok)
    (hc : ∀ t ∈ ts, (isAction t = true ∨ isLang t = true) → t.txt = [])
    (hr : removeLines ts = some out) :
    List.Sublist (getTxtPos out).1 (getTxtPos ts).1 :=
  removeLines_sublist ts out hc hr

end Yalafi
