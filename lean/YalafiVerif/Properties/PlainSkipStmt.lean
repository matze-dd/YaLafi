/-
  Properties/PlainSkipStmt.lean — C03 "… nothing from comments, LT-SKIP regions, \LTskip arguments …
  appears", end to end on the filter model:
  (A) `C03_skip_region_e2e`: documents of inert text and skipped regions
      `%%% LT-SKIP-BEGIN ⏎ hidden ⏎ %%% LT-SKIP-END ⏎` with ARBITRARY hidden source text (`hiddenOk`);
      corollaries `C03_skip_no_leak`, `C19_skip_not_listed`; the source-level form
      `C03_skip_source_e2e` for the exact class of sources (`Skip.skipText`).
      Proofs, side conditions and what is not covered: Proofs/PlainSkipSeg.lean (documents),
      Proofs/PlainSkip.lean (sources, scanner, skip pre-pass), Proofs/PlainSkipScan.lean (the
      scanner re-synchronises at the END marker).
  (B) `C03_ltmacros_e2e`: documents of inert text and calls `\LTskip{a}`, `\LTadd{a}`,
      `\LTalter{a}{b}` (more generally: declared macros whose replacement is empty or one `#k`).
      Proofs, side conditions and what is not covered: Proofs/PlainSkipLt.lean.
-/
import YalafiVerif.Proofs.PlainSkipLt
import YalafiVerif.Proofs.PlainSkipSeg
import YalafiVerif.Generated.Init
import YalafiVerif.Generated.WF
namespace Yalafi

/-! ## (A) skipped regions -/

/-- **skipped regions, end to end on the filter model.**  For every document `Skip.render st1 segs`
    of inert text and skipped regions `%%% LT-SKIP-BEGIN bt ⏎ hidden %%% LT-SKIP-END et ⏎ ws` whose
    `hidden` is arbitrary source text — macros, braces, `$`, `\verb|…|`, verbatim environments, comment
    lines, nested BEGIN markers, unbalanced anything — subject to `Skip.hiddenOk` (the END marker is
    the first thing on its line; the scanner meets no error and no earlier END marker in the hidden
    text) (`Skip.SegsOk`: all side conditions, computable), well-formed scanner tables, `st1` the
    state after `Parser.__init__`, no `--defs --extr --repl --unkn`, single-language mode, fuel =
    source length + 2: `tex2txt` succeeds; the output text with its (1-based) positions is
    `Skip.plain st1 0 segs`: the characters of the text segments, every one at its own source position,
    and NOTHING of a region (not the marker lines, not the hidden text; the closing comment takes
    its line break and the indentation `ws` of the next line with it, or — in front of a blank line
    — leaves the line break to the following text); no line is removed.  No unknowns,
    no diagnostic beyond those of the initialisation. -/
theorem C03_skip_region_e2e (T : PTables) (o : Options) (fs : FS) (thresh : Nat)
    (segs : List Skip.Seg) (fuel : Nat) (st1 : PState) (hwf : T.toTables.WFScan)
    (hdefs : o.defs = []) (hextr : o.extr = []) (hrepl : o.hasRepl = false) (hunkn : o.unkn = false)
    (hinit : initParser T fuel o (initialState T o false fs) = .ok ((), st1))
    (hok : Skip.SegsOk T st1 segs) (hf : (Skip.render st1 segs).length + 2 ≤ fuel) :
    ∃ r, tex2txt T fuel (Skip.render st1 segs) o false thresh fs = .ok r ∧
      r.txt = (Skip.plain st1 0 segs).map (·.1) ∧
      r.pos = (Skip.plain st1 0 segs).map (·.2 + 1) ∧
      r.unknowns = [] ∧ r.diags = st1.diags := by
  obtain ⟨r, h1, h2, h3, h4, h5, _⟩ :=
    Skip.tex2txt_skip_regions T o fs thresh segs fuel st1 hwf hdefs hextr hrepl hunkn hinit hok hf
  exact ⟨r, h1, h2, h3, h4, h5⟩

/-- **nothing of a skipped region leaks**: no output position lies inside a region —
    `Skip.regions st1 0 segs` lists the regions as (0-based start, length), from the `%` of the
    BEGIN marker to the end of the closing comment token; output positions are 1-based.  (With
    `C03_skip_region_e2e`: every output character is the source character at its position.) -/
theorem C03_skip_no_leak (T : PTables) (o : Options) (fs : FS) (thresh : Nat)
    (segs : List Skip.Seg) (fuel : Nat) (st1 : PState) (hwf : T.toTables.WFScan)
    (hdefs : o.defs = []) (hextr : o.extr = []) (hrepl : o.hasRepl = false) (hunkn : o.unkn = false)
    (hinit : initParser T fuel o (initialState T o false fs) = .ok ((), st1))
    (hok : Skip.SegsOk T st1 segs) (hf : (Skip.render st1 segs).length + 2 ≤ fuel) :
    ∃ r, tex2txt T fuel (Skip.render st1 segs) o false thresh fs = .ok r ∧
      ∀ q ∈ r.pos, ∀ sp ∈ Skip.regions st1 0 segs, q ≤ sp.1 ∨ sp.1 + sp.2 < q := by
  obtain ⟨r, h1, _, h3, _⟩ :=
    C03_skip_region_e2e T o fs thresh segs fuel st1 hwf hdefs hextr hrepl hunkn hinit hok hf
  refine ⟨r, h1, ?_⟩
  intro q hq sp hsp
  rw [h3] at hq
  obtain ⟨cp, hcp, rfl⟩ := List.mem_map.mp hq
  rcases Skip.plain_pos_outside hcp hsp with h | h
  · left; omega
  · right; omega

/-- **C19: names inside a skipped region are not listed**: whatever undeclared macros and
    environments the hidden texts use, the unknowns list is empty (the text segments are inert) -/
theorem C19_skip_not_listed (T : PTables) (o : Options) (fs : FS) (thresh : Nat)
    (segs : List Skip.Seg) (fuel : Nat) (st1 : PState) (hwf : T.toTables.WFScan)
    (hdefs : o.defs = []) (hextr : o.extr = []) (hrepl : o.hasRepl = false) (hunkn : o.unkn = false)
    (hinit : initParser T fuel o (initialState T o false fs) = .ok ((), st1))
    (hok : Skip.SegsOk T st1 segs) (hf : (Skip.render st1 segs).length + 2 ≤ fuel) :
    ∃ r, tex2txt T fuel (Skip.render st1 segs) o false thresh fs = .ok r ∧ r.unknowns = [] := by
  obtain ⟨r, h1, _, _, h4, _⟩ :=
    C03_skip_region_e2e T o fs thresh segs fuel st1 hwf hdefs hextr hrepl hunkn hinit hok hf
  exact ⟨r, h1, h4⟩

/-- **the source-level form** (no segmentation, no condition on where the END marker stands, ordinary
    comments allowed outside the regions): for every source of the class `Skip.skipText` — at every
    offset outside comments and regions stands an inert character, a `%` that starts an ordinary
    comment, or a `%` whose comment token starts with the BEGIN marker and behind which the scanner
    (run on the real rest of the source) reaches, without an error, a comment token that starts
    with the END marker — the output is `Skip.stripSkip`: the source with the regions and the
    comments cut out, every remaining character at its own position. -/
theorem C03_skip_source_e2e (T : PTables) (o : Options) (fs : FS) (thresh : Nat) (src : Str)
    (fuel : Nat) (st1 : PState)
    (hdefs : o.defs = []) (hextr : o.extr = []) (hrepl : o.hasRepl = false) (hunkn : o.unkn = false)
    (hinit : initParser T fuel o (initialState T o false fs) = .ok ((), st1))
    (h : Skip.skipText T st1 src = true) (hf : src.length + 2 ≤ fuel) :
    ∃ r, tex2txt T fuel src o false thresh fs = .ok r ∧
      r.txt = (Skip.stripSkip T.toTables st1 src).map (·.1) ∧
      r.pos = (Skip.stripSkip T.toTables st1 src).map (·.2 + 1) ∧
      r.unknowns = [] ∧ r.diags = st1.diags := by
  obtain ⟨toks, ht⟩ := Skip.tex2txt_skip_text T o fs thresh src fuel st1 hdefs hextr hrepl hunkn hinit h hf
  exact ⟨_, ht, rfl, rfl, rfl, rfl⟩

/-- the end-to-end theorem for the CURRENT code (tables translated from /repo, default options,
    parser initialisation evaluated by the kernel) -/
theorem C03_skip_region_e2e_current (segs : List Skip.Seg) (thresh : Nat)
    (hok : Skip.SegsOk Generated.theTables Generated.stDefault segs)
    (hf : (Skip.render Generated.stDefault segs).length + 2 ≤ Generated.bigFuel) :
    ∃ r, tex2txt Generated.theTables Generated.bigFuel (Skip.render Generated.stDefault segs)
          Generated.defaultOptions false thresh [] = .ok r ∧
      r.txt = (Skip.plain Generated.stDefault 0 segs).map (·.1) ∧
      r.pos = (Skip.plain Generated.stDefault 0 segs).map (·.2 + 1) ∧
      r.unknowns = [] ∧ r.diags = Generated.stDefault.diags :=
  C03_skip_region_e2e Generated.theTables Generated.defaultOptions [] thresh segs Generated.bigFuel
    Generated.stDefault Generated.wfScan rfl rfl rfl rfl Generated.initParser_default hok hf

theorem C03_skip_markers_current :
    Generated.stDefault.skipBegin = "%%% LT-SKIP-BEGIN".toList ∧
    Generated.stDefault.skipEnd = "%%% LT-SKIP-END".toList := by
  rw [Generated.stDefault_eq, String.toList_ofList, String.toList_ofList]; decide +kernel

/-- `Text A.⏎%%% LT-SKIP-BEGIN⏎\foo{hidden $x$ \verb|z|}⏎%%% LT-SKIP-END⏎Text B.` -/
def C03_skip_doc : List Skip.Seg :=
  [.txt "Text A.\n".toList,
   .skip [] "\\foo{hidden $x$ \\verb|z|}\n".toList [] [],
   .txt "Text B.".toList]

/-- a document with everything in the hidden text: the first region starts behind visible text
    and has a remark on its BEGIN line; its hidden text holds a verbatim environment that contains
    an END marker line (no comment token: the region goes on), a comment line with unbalanced
    braces and a dangling `\verb`, a nested BEGIN marker, an undeclared macro with an open brace, an
    open `$` and `\[`; its END marker is indented, has a remark behind it, and the next text line is
    indented, too.  Then an empty region in front of a blank line, and a region at the very end of
    the source, without a final line break. -/
def C03_skip_doc2 : List Skip.Seg :=
  [.txt "Text A. ".toList,
   .skip " junk".toList
     "  \\begin{verbatim}\n%%% LT-SKIP-END\n\\end{verbatim}\n% a comment line }}} \\verb\n%%% LT-SKIP-BEGIN\n\\unknown{ $ \\[\n   ".toList
     " trailing".toList "   ".toList,
   .txt "Text B.\n".toList,
   .skipPar [] [] [],
   .txt "\n\nText C.\n".toList,
   .skipPar [] "x\n".toList []]

/-- the side conditions hold for them on the real tables -/
theorem C03_skip_example_current :
    Skip.SegsOk Generated.theTables Generated.stDefault C03_skip_doc ∧
    Skip.SegsOk Generated.theTables Generated.stDefault C03_skip_doc2 := by
  rw [Generated.stDefault_eq, C03_skip_doc2]; unfold C03_skip_doc; (repeat rw [String.toList_ofList]); decide +kernel

/-- … and this is what the theorem says about them: the reference output, text and positions -/
theorem C03_skip_example_ref :
    (Skip.plain Generated.stDefault 0 C03_skip_doc).map (·.1) = "Text A.\nText B.".toList ∧
    (Skip.plain Generated.stDefault 0 C03_skip_doc).map (·.2 + 1)
      = [1, 2, 3, 4, 5, 6, 7, 8, 69, 70, 71, 72, 73, 74, 75] ∧
    (Skip.plain Generated.stDefault 0 C03_skip_doc2).map (·.1)
      = "Text A. Text B.\n\n\nText C.\n".toList ∧
    (Skip.plain Generated.stDefault 0 C03_skip_doc2).map (·.2 + 1)
      = [1, 2, 3, 4, 5, 6, 7, 8, 173, 174, 175, 176, 177, 178, 179, 180, 214, 215, 216, 217, 218,
         219, 220, 221, 222, 223] := by
  rw [Generated.stDefault_eq, C03_skip_doc2]; unfold C03_skip_doc; (repeat rw [String.toList_ofList]); decide +kernel

/-- … which is what the model computes (by the theorem, from the two evaluations above): text, positions,
    no unknowns (`\foo`, `\unknown` are not listed), no diagnostics -/
theorem C03_skip_example_eval :
    (match tex2txt Generated.theTables Generated.bigFuel (Skip.render Generated.stDefault C03_skip_doc)
        Generated.defaultOptions false 0 [] with
     | .ok r => r.txt == "Text A.\nText B.".toList && r.unknowns.isEmpty && r.diags.isEmpty &&
        r.pos == [1, 2, 3, 4, 5, 6, 7, 8, 69, 70, 71, 72, 73, 74, 75]
     | _ => false) = true ∧
    (match tex2txt Generated.theTables Generated.bigFuel (Skip.render Generated.stDefault C03_skip_doc2)
        Generated.defaultOptions false 0 [] with
     | .ok r => r.txt == "Text A. Text B.\n\n\nText C.\n".toList && r.unknowns.isEmpty &&
        r.diags.isEmpty &&
        r.pos == [1, 2, 3, 4, 5, 6, 7, 8, 173, 174, 175, 176, 177, 178, 179, 180, 214, 215, 216, 217,
          218, 219, 220, 221, 222, 223]
     | _ => false) = true := by
  obtain ⟨ht1, hp1, ht2, hp2⟩ := C03_skip_example_ref
  have hd : Generated.stDefault.diags = [] := by rw [Generated.stDefault_eq]; rfl
  obtain ⟨r1, e1, a1, b1, c1, d1⟩ := C03_skip_region_e2e_current C03_skip_doc 0 C03_skip_example_current.1
    (by rw [Generated.stDefault_eq]; decide +kernel)
  -- the length first, as an equation: a rewrite below `+` or `≤` makes the kernel evaluate both sides of it
  have hl : (Skip.render Generated.stDefault C03_skip_doc2).length = 258 := by
    rw [Generated.stDefault_eq, C03_skip_doc2]; (repeat rw [String.toList_ofList]); decide +kernel
  obtain ⟨r2, e2, a2, b2, c2, d2⟩ := C03_skip_region_e2e_current C03_skip_doc2 0 C03_skip_example_current.2
    (by rw [hl]; decide)
  simp [e1, a1, b1, c1, d1, ht1, hp1, e2, a2, b2, c2, d2, ht2, hp2, hd]

/-- the source-level theorem on the real tables: an END marker that is NOT at the beginning of its
    line (outside `hiddenOk`), and an ordinary comment outside the region -/
theorem C03_skip_source_example_current :
    Skip.skipText Generated.theTables Generated.stDefault
      "A % remark\n%%% LT-SKIP-BEGIN\nhidden \\x %%% LT-SKIP-END\nB".toList = true ∧
    (Skip.stripSkip Generated.theTables.toTables Generated.stDefault
      "A % remark\n%%% LT-SKIP-BEGIN\nhidden \\x %%% LT-SKIP-END\nB".toList)
      = [('A', 0), (' ', 1), ('B', 55)] := by
  rw [Generated.stDefault_eq, String.toList_ofList]; decide +kernel

/-! ## (B) the LT macros -/

/-- **`\LTskip`, `\LTadd`, `\LTalter`, end to end on the filter model.**  For every document
    `render segs` of inert text and calls `\name{a1}…{an}` of projection macros — declared macros
    with `n` mandatory arguments, no handler, whose replacement is empty (`\LTskip`) or one reference
    `#k` (`\LTadd`: `#1`, `\LTalter`: `#2`) — with inert, non-empty arguments (`PlainSkipLt.SegsOk`: all
    side conditions, computable), `st1` the state after `Parser.__init__`, no
    `--defs --extr --repl --unkn`, single-language mode, fuel = source length + 2: `tex2txt`
    succeeds; the output text with its (1-based) positions is `delLines (marks st1 0 segs)`: every
    text character at its own source position; `\LTskip{a}` contributes one mark and NO character;
    `\LTadd{a}` contributes the characters of `a` at their own positions (between marks);
    `\LTalter{a}{b}` contributes the characters of `b` at their own positions and nothing of `a`;
    then every line is deleted, together with its line break, that consists only of white space and
    at least one mark (`PlainMacro.delLines`).  No unknowns,
    no diagnostic beyond those of the initialisation. -/
theorem C03_ltmacros_e2e (T : PTables) (o : Options) (fs : FS) (thresh : Nat)
    (segs : List PlainSkipLt.Seg) (fuel : Nat) (st1 : PState)
    (hdefs : o.defs = []) (hextr : o.extr = []) (hrepl : o.hasRepl = false) (hunkn : o.unkn = false)
    (hinit : initParser T fuel o (initialState T o false fs) = .ok ((), st1))
    (hok : PlainSkipLt.SegsOk T st1 segs) (hf : (PlainSkipLt.render segs).length + 2 ≤ fuel) :
    ∃ r, tex2txt T fuel (PlainSkipLt.render segs) o false thresh fs = .ok r ∧
      r.txt = (PlainMacro.delLines (PlainSkipLt.marks st1 0 segs)).map (·.1) ∧
      r.pos = (PlainMacro.delLines (PlainSkipLt.marks st1 0 segs)).map (·.2 + 1) ∧
      r.unknowns = [] ∧ r.diags = st1.diags := by
  obtain ⟨r, h1, h2, h3, h4, h5, _⟩ :=
    PlainSkipLt.tex2txt_ltmacros T o fs thresh segs fuel st1 hdefs hextr hrepl hunkn hinit hok hf
  exact ⟨r, h1, h2, h3, h4, h5⟩

/-- **nothing of a skipped or replaced argument leaks**: no output position lies in a hidden part
    of a call — `PlainSkipLt.hidden st1 0 segs` lists, as (0-based start, length), for `\LTskip{a}` the
    whole call, for `\LTadd{a}` the name with the opening brace and the closing brace, for
    `\LTalter{a}{b}` everything up to and including the `{` in front of `b` (so all of `a`) and the
    closing brace; output positions are 1-based.  (With `C03_ltmacros_e2e`: every output character is
    the source character at its position.) -/
theorem C03_ltmacros_no_leak (T : PTables) (o : Options) (fs : FS) (thresh : Nat)
    (segs : List PlainSkipLt.Seg) (fuel : Nat) (st1 : PState)
    (hdefs : o.defs = []) (hextr : o.extr = []) (hrepl : o.hasRepl = false) (hunkn : o.unkn = false)
    (hinit : initParser T fuel o (initialState T o false fs) = .ok ((), st1))
    (hok : PlainSkipLt.SegsOk T st1 segs) (hf : (PlainSkipLt.render segs).length + 2 ≤ fuel) :
    ∃ r, tex2txt T fuel (PlainSkipLt.render segs) o false thresh fs = .ok r ∧
      ∀ q ∈ r.pos, ∀ sp ∈ PlainSkipLt.hidden st1 0 segs, q ≤ sp.1 ∨ sp.1 + sp.2 < q := by
  obtain ⟨r, h1, _, h3, _⟩ := C03_ltmacros_e2e T o fs thresh segs fuel st1 hdefs hextr hrepl hunkn hinit hok hf
  refine ⟨r, h1, ?_⟩
  intro q hq sp hsp
  rw [h3] at hq
  obtain ⟨cp, hcp, rfl⟩ := List.mem_map.mp hq
  rcases PlainSkipLt.marks_pos_outside hok.2 (PlainVanish.delLines_mem hcp) hsp with h | h
  · left; omega
  · right; omega

/-- the end-to-end theorem for the CURRENT code (tables translated from /repo, default options,
    parser initialisation evaluated by the kernel) -/
theorem C03_ltmacros_e2e_current (segs : List PlainSkipLt.Seg) (thresh : Nat)
    (hok : PlainSkipLt.SegsOk Generated.theTables Generated.stDefault segs)
    (hf : (PlainSkipLt.render segs).length + 2 ≤ Generated.bigFuel) :
    ∃ r, tex2txt Generated.theTables Generated.bigFuel (PlainSkipLt.render segs) Generated.defaultOptions
          false thresh [] = .ok r ∧
      r.txt = (PlainMacro.delLines (PlainSkipLt.marks Generated.stDefault 0 segs)).map (·.1) ∧
      r.pos = (PlainMacro.delLines (PlainSkipLt.marks Generated.stDefault 0 segs)).map (·.2 + 1) ∧
      r.unknowns = [] ∧ r.diags = Generated.stDefault.diags :=
  C03_ltmacros_e2e Generated.theTables Generated.defaultOptions [] thresh segs Generated.bigFuel
    Generated.stDefault rfl rfl rfl rfl Generated.initParser_default hok hf

/-- in the current tables `\LTskip` outputs nothing, `\LTadd` its first and `\LTalter` its second
    argument -/
theorem C03_ltmacros_sel_current :
    PlainSkipLt.selOf Generated.stDefault "LTskip".toList = none ∧
    PlainSkipLt.selOf Generated.stDefault "LTadd".toList = some 1 ∧
    PlainSkipLt.selOf Generated.stDefault "LTalter".toList = some 2 := by
  rw [Generated.stDefault_eq, String.toList_ofList, String.toList_ofList, String.toList_ofList]; decide +kernel

/-- `Text B \LTskip{gone} and \LTadd{added} \LTalter{shown}{taken}.⏎\LTskip{a line of its own}⏎End.` -/
def C03_ltmacros_doc : List PlainSkipLt.Seg :=
  [.txt "Text B ".toList, PlainSkipLt.ltSkip "gone".toList, .txt " and ".toList,
   PlainSkipLt.ltAdd "added".toList, .txt " ".toList,
   PlainSkipLt.ltAlter "shown".toList "taken".toList, .txt ".\n".toList,
   PlainSkipLt.ltSkip "a line of its own".toList, .txt "\nEnd.".toList]

/-- the side conditions hold for it on the real tables -/
theorem C03_ltmacros_example_current :
    PlainSkipLt.SegsOk Generated.theTables Generated.stDefault C03_ltmacros_doc := by
  rw [Generated.stDefault_eq]; unfold C03_ltmacros_doc; (repeat rw [String.toList_ofList]); decide +kernel

/-- … and this is what the theorem says about it: the reference output, text and positions -/
theorem C03_ltmacros_example_ref :
    (PlainMacro.delLines (PlainSkipLt.marks Generated.stDefault 0 C03_ltmacros_doc)).map (·.1)
      = "Text B  and added taken.\nEnd.".toList ∧
    (PlainMacro.delLines (PlainSkipLt.marks Generated.stDefault 0 C03_ltmacros_doc)).map (·.2 + 1)
      = [1, 2, 3, 4, 5, 6, 7, 21, 22, 23, 24, 25, 33, 34, 35, 36, 37, 39, 56, 57, 58, 59, 60, 62, 63,
         91, 92, 93, 94] := by
  rw [Generated.stDefault_eq]; unfold C03_ltmacros_doc; (repeat rw [String.toList_ofList]); decide +kernel

/-- … which is what the model computes (by the theorem, from the two evaluations above) -/
theorem C03_ltmacros_example_eval :
    (match tex2txt Generated.theTables Generated.bigFuel (PlainSkipLt.render C03_ltmacros_doc)
        Generated.defaultOptions false 0 [] with
     | .ok r => r.txt == "Text B  and added taken.\nEnd.".toList && r.unknowns.isEmpty &&
        r.pos == [1, 2, 3, 4, 5, 6, 7, 21, 22, 23, 24, 25, 33, 34, 35, 36, 37, 39, 56, 57, 58, 59, 60,
          62, 63, 91, 92, 93, 94]
     | _ => false) = true := by
  obtain ⟨r, e, a, b, c, _⟩ := C03_ltmacros_e2e_current C03_ltmacros_doc 0 C03_ltmacros_example_current
    (by decide +kernel)
  simp [e, a, b, c, C03_ltmacros_example_ref.1, C03_ltmacros_example_ref.2]

end Yalafi
