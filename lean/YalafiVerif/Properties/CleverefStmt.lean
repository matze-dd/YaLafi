/-
  Properties/CleverefStmt.lean — package `cleveref` (yalafi/packages/cleveref.py) in the model.

  The module is translated like every other package: its macros carry the handlers `.readSed`
  (`\YYCleverefInput`), `.crefWarn` (`\cref` … before a sed file is read), and — created by
  `.readSed` — `.cref tables` / `.crefrange tables` (the closures `h_make_cref(refs[ref])` with
  the dictionaries they capture).  The three regular expressions of the sed reader are the
  hand-written matchers of Model/Cleveref.lean (tied to Python `re` by harness/corr_cref.py).

  Theorems:
  * `C07_no_opaque_module_current`: no module of the current tables is opaque, no declared macro
    or environment has an opaque handler (the two `opaque …` crash markers of `allowedCrash`
    are unreachable for the current tables);
  * `cref_tokens_fixed` / `crefrange_tokens_fixed` (C04), `cref_loop` (C04 in `expand_sequence`,
    Proofs/PlainCref.lean) with `cref_loop_example_current` (its side conditions on the real tables);
  * `readSed_replaces_tables` (C17);
  * `cref_example_eval`, `cref_stale_example_eval`, `cref_nopoorman_example_eval`: documents evaluated by the
    kernel on the real tables with a sed file in the file system of the state.
-/
import YalafiVerif.Generated.Init
import YalafiVerif.Spec.Inv
import YalafiVerif.Proofs.PlainCref
namespace Yalafi
open Cleveref

def isOpaqueH : Handler → Bool
  | .opaqueH _ => true
  | _ => false

/-- every bundled package / class module is translated (none is marked opaque), and no macro or
    environment declared anywhere in the tables has a handler the translator did not recognise -/
theorem C07_no_opaque_module_current :
    (∀ m ∈ Generated.theTables.packageModules ++ Generated.theTables.classModules, m.isOpaque = false) ∧
    (∀ m ∈ Generated.theTables.packageModules ++ Generated.theTables.classModules,
      ∀ d ∈ m.macros ++ m.envs, isOpaqueH d.handler = false ∧ isOpaqueH d.endFunc = false) ∧
    (∀ d ∈ Generated.theTables.macroDefsPython ++ Generated.theTables.noSpecialsMacros ++
        Generated.theTables.environmentDefs, isOpaqueH d.handler = false ∧ isOpaqueH d.endFunc = false) ∧
    Generated.unknownHandlers = [] := by
  decide +kernel

/-- the module is there, with the inject rule -/
theorem cleveref_translated_current :
    ((findModule Generated.theTables false "cleveref".toList).map (fun m => (m.crefInject, m.isOpaque, m.macros.map (·.handler))))
      = some (true, false, [.readSed, .none, .crefWarn, .crefWarn, .crefWarn, .crefWarn]) := by
  decide +kernel

open PlainCref (AtCall genToks crefHit CallOk Piece)

/-- what `\cref{…}` computes: a hit in the table the closure captured returns the scanned replacement
    text, every token at the position of the call and position-fixed, and only adds the scanner
    messages to the diagnostics; a miss is `latex_error` at the call with the message of the module -/
theorem cref_call (T : PTables) (fuel : Nat) (plain star : List (Str × Str)) (buf : Buf) (mac : MacroDef)
    (a0 a1 : List Tok) (rest : List (List Tok)) (pos : Nat) (st : PState) :
    callHandler T (fuel + 1) (.cref plain star) buf mac (a0 :: a1 :: rest) pos st =
      match lookupLast (if (getTextDirect a0).isEmpty then plain else star) (getTextDirect a1) with
      | some str => .ok (genToks T str pos, { st with diags := st.diags ++ (scan T.toTables str).diags })
      | none => latexError T.toTables (fmt T.crefMsgs.crefUndef [mac.name, getTextDirect a1]) pos st :=
  PlainCref.cref_call T fuel plain star buf mac a0 a1 rest pos st

/-- **C04 for `\cref` / `\Cref`**: every token a call returns is position-fixed; they all carry the
    position of the call (a hit: the generated text maps to the backslash of the call), or they are the
    error mark `latex_error` puts at the call (a miss).  No side condition. -/
theorem cref_tokens_fixed (T : PTables) (fuel : Nat) (plain star : List (Str × Str)) (buf : Buf) (mac : MacroDef)
    (a0 a1 : List Tok) (rest : List (List Tok)) (pos : Nat) (st st' : PState) (r : List Tok)
    (h : callHandler T (fuel + 1) (.cref plain star) buf mac (a0 :: a1 :: rest) pos st = .ok (r, st')) :
    (∀ t ∈ r, t.fix = true) ∧
    ((∀ t ∈ r, t.pos = pos) ∨ ∃ err, r = latexErrorToks T.toTables err pos st.latex.length) :=
  PlainCref.cref_tokens_fixed T fuel plain star buf mac a0 a1 rest pos st st' r h

/-- **C04 for `\crefrange` / `\Crefrange`** -/
theorem crefrange_tokens_fixed (T : PTables) (fuel : Nat) (plain star : List ((Str × Str) × Str)) (buf : Buf)
    (mac : MacroDef) (a0 a1 a2 : List Tok) (rest : List (List Tok)) (pos : Nat) (st st' : PState) (r : List Tok)
    (h : callHandler T (fuel + 1) (.crefrange plain star) buf mac (a0 :: a1 :: a2 :: rest) pos st = .ok (r, st')) :
    (∀ t ∈ r, t.fix = true) ∧
    ((∀ t ∈ r, t.pos = pos) ∨ ∃ err, r = latexErrorToks T.toTables err pos st.latex.length) :=
  PlainCref.crefrange_tokens_fixed T fuel plain star buf mac a0 a1 a2 rest pos st st' r h

/-- **C04 in the main loop**: a token buffer made of tokens that are copied and of calls `\cref{label}`
    (side conditions computed by `Piece.okB`: declared as `h_read_sed` declares it, label known, its
    replacement text scans without message into tokens that are copied) — `expand_sequence` appends
    the copied tokens and, for every call, an Action token and the replacement text, every generated
    token at the position of the backslash of its call and pinned; same state. -/
theorem cref_loop (T : PTables) (st : PState) (envStop : Option Str) (rest : Buf) (ps : List Piece)
    (fuel : Nat) (out : List Tok) (hs : noEmptyActive T st = true) (hok : ps.all (Piece.okB T st) = true) :
    (∃ fuel', fuel ≤ fuel' ∧
      expandSequence T (fuel + PlainCref.cost T ps) (PlainCref.flat ps ++ rest) envStop out st
        = expandSequence T fuel' rest envStop (out ++ PlainCref.outP T ps) st) ∧
    (∀ hd lb b rb str, Piece.call hd lb b rb str ∈ ps →
      ∀ t ∈ Piece.out T (.call hd lb b rb str), t.pos = hd.pos ∧ (t = mkAction hd.pos ∨ t.fix = true)) :=
  ⟨PlainCref.seq_pieces T st envStop rest hs ps fuel out (PlainCref.pieces_ok_of hok),
   fun hd lb b rb str _ => PlainCref.outP_call_at T hd lb b rb str⟩

/-- the macro `h_read_sed` defines for `\cref` / `\Cref`: the closure `h_make_cref(refs[name])` over the two
    dictionaries (no star / star) built from the lines of the file -/
def crefMacroOf (ls : List SedLine) (name : Str) : MacroDef :=
  { name := name, args := ['*', 'A'], handler := .cref (refTable ls name []) (refTable ls name ['*']) }

/-- … and for `\crefrange` / `\Crefrange` -/
def crefrangeMacroOf (ls : List SedLine) (name : Str) : MacroDef :=
  { name := name, args := ['*', 'A', 'A'], handler := .crefrange (rangeTable ls name []) (rangeTable ls name ['*']) }

/-- **C17 for the sed tables**: after `\YYCleverefInput` (the part of `h_read_sed` behind the file access,
    when it succeeds) the four reference macros are exactly the closures over the tables of THIS file —
    whatever the macro table held before (the tables of an earlier sed file, a `\renewcommand{\cref}`, the
    warning macros of the package): nothing of an earlier file survives in them -/
theorem readSed_replaces_tables (T : PTables) (sed : Str) (st st' : PState)
    (h : readSedText T sed st = .ok ((), st')) :
    lookupMacro st' nameCref = some (crefMacroOf (sedLines sed) nameCref) ∧
    lookupMacro st' nameCrefU = some (crefMacroOf (sedLines sed) nameCrefU) ∧
    lookupMacro st' nameCrefrange = some (crefrangeMacroOf (sedLines sed) nameCrefrange) ∧
    lookupMacro st' nameCrefrangeU = some (crefrangeMacroOf (sedLines sed) nameCrefrangeU) := by
  have hm := PlainCref.readSedText_macros T sed st st' h
  exact ⟨hm (crefMacroOf (sedLines sed) nameCref) (by simp [crefMacros, crefMacroOf]),
    hm (crefMacroOf (sedLines sed) nameCrefU) (by simp [crefMacros, crefMacroOf]),
    hm (crefrangeMacroOf (sedLines sed) nameCrefrange) (by simp [crefMacros, crefrangeMacroOf]),
    hm (crefrangeMacroOf (sedLines sed) nameCrefrangeU) (by simp [crefMacros, crefrangeMacroOf])⟩

/-- the parser state after `Parser.__init__` and reading a sed file with one reference whose replacement
    text is two words -/
def stCref : PState :=
  match readSedText Generated.theTables "s/\\\\cref{eq:1}/Qword eq/g\n".toList Generated.stDefault with
  | .ok (_, s) => s
  | _ => Generated.stDefault

/-- the token buffer of `a \cref{eq:1} b` -/
def loopDoc : List Piece :=
  [.tok { kind := .text, pos := 0, txt := ['a'] }, .tok { kind := .space, pos := 1, txt := [' '] },
   .call { kind := .xmacro, pos := 2, txt := "\\cref".toList } { kind := .special, pos := 7, txt := ['{'] }
     [{ kind := .text, pos := 8, txt := ['e'] }, { kind := .text, pos := 9, txt := ['q'] },
      { kind := .text, pos := 10, txt := [':'] }, { kind := .text, pos := 11, txt := ['1'] }]
     { kind := .special, pos := 12, txt := ['}'] } "Qword eq".toList,
   .tok { kind := .space, pos := 13, txt := [' '] }, .tok { kind := .text, pos := 14, txt := ['b'] }]

/-- it is what the scanner makes of that text; all side conditions hold in `stCref`; the tokens the
    loop appends read `a Qword eq b`, the eight generated characters at the backslash (offset 2) -/
theorem cref_loop_example_current :
    PlainCref.flat loopDoc = (scan Generated.theTables.toTables "a \\cref{eq:1} b".toList).toks ∧
    noEmptyActive Generated.theTables stCref = true ∧
    loopDoc.all (Piece.okB Generated.theTables stCref) = true ∧
    getTxtPos (PlainCref.outP Generated.theTables loopDoc)
      = ("a Qword eq b".toList, [0, 1, 2, 2, 2, 2, 2, 2, 2, 2, 13, 14]) := by
  unfold stCref; rw [Generated.stDefault_eq, String.toList_ofList, String.toList_ofList, String.toList_ofList]; decide +kernel

/-- a sed file as cleveref's poorman mode writes it -/
def sedExample : Str :=
  ("s/\\\\cref{eq:1}/eq.\\\\nobreakspace \\\\textup {(\\\\ref {eq:1})}/g\n" ++
   "s/\\\\Cref\\*{eq:1}/Equation\\\\nobreakspace \\\\textup {(\\\\ref {eq:1})}/g\n" ++
   "s/\\\\crefrange{eq:1}{eq:2}/eqs.\\\\nobreakspace \\\\textup {(\\\\ref {eq:1})} to\\\\nobreakspace \\\\textup {(\\\\ref {eq:2})}/g\n" ++
   "s/\\\\[cC]refname{.*}{.*}{.*}//g\n").toList

def docExample : Str :=
  "\\usepackage[poorman]{cleveref}\n\\YYCleverefInput{main.sed}\nSee \\cref{eq:1}. \\Cref*{eq:1} and \\crefrange{eq:1}{eq:2}.".toList

/-- the lines of `sedExample` one by one: the filter reads this text, so it stays a literal, and four short
    literals cost the kernel less than a long one (see the head of Generated/Init.lean) -/
theorem sedExample_eq : sedExample =
    "s/\\\\cref{eq:1}/eq.\\\\nobreakspace \\\\textup {(\\\\ref {eq:1})}/g\n".toList ++
    "s/\\\\Cref\\*{eq:1}/Equation\\\\nobreakspace \\\\textup {(\\\\ref {eq:1})}/g\n".toList ++
    "s/\\\\crefrange{eq:1}{eq:2}/eqs.\\\\nobreakspace \\\\textup {(\\\\ref {eq:1})} to\\\\nobreakspace \\\\textup {(\\\\ref {eq:2})}/g\n".toList ++
    "s/\\\\[cC]refname{.*}{.*}{.*}//g\n".toList := by
  unfold sedExample; simp only [String.toList_append]

/-- the initialisation with the sed file in the file system, run once for the two documents below -/
theorem initParser_sed :
    initParser Generated.theTables Generated.bigFuel Generated.defaultOptions
        (initialState Generated.theTables Generated.defaultOptions false [("main.sed".toList, sedExample)])
      = .ok ((), Generated.withBuiltins
          (initialState Generated.theTables Generated.defaultOptions false [("main.sed".toList, sedExample)])) :=
  Generated.initParser_builtins (f := 999997) rfl rfl (by
    rw [sedExample_eq, String.toList_ofList, String.toList_ofList, String.toList_ofList, String.toList_ofList,
      String.toList_ofList]
    decide +kernel)

/-- the generated words map to the backslash of their call (1-based positions 63, 76, 93); `\textup` of the
    replacement text is an unknown macro of the default tables (reported once) -/
theorem cref_example_eval :
    (match tex2txt Generated.theTables Generated.bigFuel docExample Generated.defaultOptions false 0
        [("main.sed".toList, sedExample)] with
     | .ok r => r.txt == "See eq.\u00a0(0). Equation\u00a0(0) and eqs.\u00a0(0) to\u00a0(0).".toList &&
        r.pos == [59, 60, 61, 62, 63, 63, 63, 63, 63, 63, 63, 74, 75, 76, 76, 76, 76, 76, 76, 76, 76, 76, 76, 76, 76,
          88, 89, 90, 91, 92, 93, 93, 93, 93, 93, 93, 93, 93, 93, 93, 93, 93, 93, 93, 93, 115] &&
        r.unknowns == ["\\textup".toList] && r.diags.isEmpty
     | _ => false) = true := by
  rw [tex2txt_of_init initParser_sed, sedExample_eq]; decide +kernel

/-- a label the sed file does not know: error mark at the call, the message of the module on stderr -/
theorem cref_stale_example_eval :
    (match tex2txt Generated.theTables Generated.bigFuel
        "\\usepackage[poorman]{cleveref}\n\\YYCleverefInput{main.sed}\nSee \\cref{eq:9} end.".toList
        Generated.defaultOptions false 0 [("main.sed".toList, sedExample)] with
     | .ok r => r.txt == "See  LATEXXXERROR  end.".toList &&
        r.pos == [59, 60, 61, 62, 63, 63, 63, 63, 63, 63, 63, 63, 63, 63, 63, 63, 63, 63, 74, 75, 76, 77, 78] &&
        r.diags == [{ line := 3, col := 5, msg :=
          "No replacement for \\cref{eq:9} known.\n*** Run LaTeX again to build a new sed file.\n".toList }]
     | _ => false) = true := by
  rw [tex2txt_of_init initParser_sed, sedExample_eq]; decide +kernel

/-- without the option 'poorman' the package warns at the `\usepackage`; a reference before any
    `\YYCleverefInput` warns as well -/
theorem cref_nopoorman_example_eval :
    (match tex2txt Generated.theTables Generated.bigFuel
        "A\\usepackage{cleveref} \\cref{x}".toList
        Generated.defaultOptions false 0 [] with
     | .ok r => r.txt == "A LATEXXXERROR   LATEXXXERROR ".toList &&
        r.pos == [1, 2, 2, 2, 2, 2, 2, 2, 2, 2, 2, 2, 2, 2, 2, 23, 24, 24, 24, 24, 24, 24, 24, 24, 31, 31, 31, 31, 31, 31] &&
        r.diags.map (fun d => (d.line, d.col)) == [(1, 2), (1, 24)] &&
        r.diags.map (·.msg) == [Generated.theTables.crefMsgs.poorman, Generated.theTables.crefMsgs.sedNotLoaded]
     | _ => false) = true := by
  rw [Generated.tex2txt_default]; decide +kernel

end Yalafi
