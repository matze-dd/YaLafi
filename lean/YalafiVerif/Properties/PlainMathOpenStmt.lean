/-
  Properties/PlainMathOpenStmt.lean — C08 "LaTeX problems yield the full error mark at the right
  place, and only then", end to end on the filter model for UNTERMINATED INLINE MATHS
  (proofs: Proofs/PlainMathOpen.lean, Proofs/PlainMathOpenTok.lean).
-/
import YalafiVerif.Proofs.PlainMathOpen
import YalafiVerif.Generated.Init
namespace Yalafi

open PlainMath PlainMathOpen

/-- **an unterminated inline formula yields exactly one diagnostic at the line and column of its
    `$` and the complete error mark at that position; the text behind the end of its paragraph is
    kept.**  `src = render pre ++ "$" ++ body ++ w ++ render post`: `pre` and `post` are documents of
    inert text and well-formed simple inline formulas (the class of `PlainMath.tex2txt_inline_math`),
    the `$` opens a formula with simple maths material `body` that is never closed — it is cut by the
    paragraph break `w` (a maximal run of white space with at least two line breaks), or `w = []`,
    `post = []` and it runs to the end of the text (all side conditions on the document: `OSegsOk`).
    Then, with `P` = 0-based offset of the `$`:

    * text: output of `pre`, then the complete mark `errMark` = `" " ++ T.mark ++ " "` (plus the message
      in verbose mode), then `openText`: the placeholder whose turn it is and the closing punctuation
      of the maths material read so far (nothing if `body` is blank), then the output of `post`.
      The paragraph break `w` ITSELF IS DROPPED (the model and `expand_math_section` consume the
      paragraph token): `post` is glued to the mark / placeholder;
    * positions (1-based): the first `mx = min |mark| (number of characters from the `$` to the end)`
      characters of the mark at the `$` (`P + 1`), the others — only if the mark is longer than the
      rest of the source — at the last position of the source; the placeholder at the first character
      of `body` that is no white space; `pre` and `post` as in `PlainMath.refMath`: every text
      character at its own position;
    * diagnostics: exactly one more, "missing end of maths", line = line breaks in front of the `$`
      + 1, column = characters between the last line break and the `$` + 1;
    * nothing is reported as unknown. -/
theorem C08_math_unterminated (T : PTables) (o : Options) (fs : FS) (thresh : Nat)
    (pre : List PlainMath.Seg) (body w : Str) (post : List PlainMath.Seg)
    (fuel : Nat) (st1 : PState) (rot : Rot) (repls : List Str)
    (hdefs : o.defs = []) (hextr : o.extr = []) (hrepl : o.hasRepl = false) (hunkn : o.unkn = false)
    (hinit : initParser T fuel o (initialState T o false fs) = .ok ((), st1))
    (hok : OSegsOk T st1 (pre.map ofMath ++ .opn body w :: post.map ofMath))
    (hm : markVisible T.toTables = true)
    (hrot : rotOf st1 (curSettings st1) = some rot) (hrepls : rot.inl = repls)
    (hne : repls ≠ []) (hvis : VisibleRepls repls)
    (hls : (settingsOf T (curSettings st1)).isSome = true)
    (hf : (PlainMath.render pre ++ '$' :: (body ++ (w ++ PlainMath.render post))).length + 3 ≤ fuel) :
    let src := PlainMath.render pre ++ '$' :: (body ++ (w ++ PlainMath.render post))
    let P := (PlainMath.render pre).length
    let mark := errMark T.toTables errMathEnd
    let mx := min mark.length (body.length + w.length + (PlainMath.render post).length + 1)
    let k := nForm pre
    let d := latexErrorDiag errMathEnd P src
    ∃ r, tex2txt T fuel src o false thresh fs = .ok r ∧
      r.txt = (refMath T repls 0 0 pre).1 ++ mark ++ openText T repls k body
        ++ (refMath T repls (openNext k body) (P + (body.length + 1 + w.length)) post).1 ∧
      r.pos = (refMath T repls 0 0 pre).2.map (· + 1)
        ++ List.replicate mx (P + 1) ++ List.replicate (mark.length - mx) (P + mx)
        ++ List.replicate (openText T repls k body).length (P + 2 + leadBlanks body)
        ++ (refMath T repls (openNext k body) (P + (body.length + 1 + w.length)) post).2.map (· + 1) ∧
      r.unknowns = [] ∧
      r.diags = st1.diags ++ [d] ∧
      d.msg = errMathEnd ∧ d.line = countNl (PlainMath.render pre) + 1 ∧
      d.col = (afterLastNl (PlainMath.render pre)).length + 1 :=
  tex2txt_math_unterminated T o fs thresh pre body w post fuel st1 rot repls hdefs hextr hrepl hunkn hinit
    hok hm hrot hrepls hne hvis hls hf

/-- situation (A): the open formula runs to the end of the text, `src = render pre ++ "$" ++ body` -/
theorem C08_math_unterminated_end (T : PTables) (o : Options) (fs : FS) (thresh : Nat)
    (pre : List PlainMath.Seg) (body : Str)
    (fuel : Nat) (st1 : PState) (rot : Rot) (repls : List Str)
    (hdefs : o.defs = []) (hextr : o.extr = []) (hrepl : o.hasRepl = false) (hunkn : o.unkn = false)
    (hinit : initParser T fuel o (initialState T o false fs) = .ok ((), st1))
    (hok : OSegsOk T st1 (pre.map ofMath ++ [.opn body []]))
    (hm : markVisible T.toTables = true)
    (hrot : rotOf st1 (curSettings st1) = some rot) (hrepls : rot.inl = repls)
    (hne : repls ≠ []) (hvis : VisibleRepls repls)
    (hls : (settingsOf T (curSettings st1)).isSome = true)
    (hf : (PlainMath.render pre ++ '$' :: body).length + 3 ≤ fuel) :
    let src := PlainMath.render pre ++ '$' :: body
    let P := (PlainMath.render pre).length
    let mark := errMark T.toTables errMathEnd
    let mx := min mark.length (body.length + 1)
    let k := nForm pre
    let d := latexErrorDiag errMathEnd P src
    ∃ r, tex2txt T fuel src o false thresh fs = .ok r ∧
      r.txt = (refMath T repls 0 0 pre).1 ++ mark ++ openText T repls k body ∧
      r.pos = (refMath T repls 0 0 pre).2.map (· + 1)
        ++ List.replicate mx (P + 1) ++ List.replicate (mark.length - mx) (P + mx)
        ++ List.replicate (openText T repls k body).length (P + 2 + leadBlanks body) ∧
      r.unknowns = [] ∧
      r.diags = st1.diags ++ [d] ∧
      d.msg = errMathEnd ∧ d.line = countNl (PlainMath.render pre) + 1 ∧
      d.col = (afterLastNl (PlainMath.render pre)).length + 1 :=
  tex2txt_math_unterminated_end T o fs thresh pre body fuel st1 rot repls hdefs hextr hrepl hunkn hinit
    hok hm hrot hrepls hne hvis hls hf

/-- general form: any sequence of inert text, well-formed simple inline formulas and open formulas
    (each cut by a paragraph break, the last one possibly by the end of the text): one diagnostic per
    open formula, in order; text and positions are `orefSegs` -/
theorem C08_math_segments (T : PTables) (o : Options) (fs : FS) (thresh : Nat)
    (segs : List OSeg) (fuel : Nat) (st1 : PState) (rot : Rot) (repls : List Str)
    (hdefs : o.defs = []) (hextr : o.extr = []) (hrepl : o.hasRepl = false) (hunkn : o.unkn = false)
    (hinit : initParser T fuel o (initialState T o false fs) = .ok ((), st1))
    (hok : OSegsOk T st1 segs)
    (hm : markVisible T.toTables = true)
    (hrot : rotOf st1 (curSettings st1) = some rot) (hrepls : rot.inl = repls)
    (hne : repls ≠ []) (hvis : VisibleRepls repls)
    (hls : (settingsOf T (curSettings st1)).isSome = true)
    (hf : (orender segs).length + 3 ≤ fuel) :
    ∃ r, tex2txt T fuel (orender segs) o false thresh fs = .ok r ∧
      r.txt = (orefSegs T (orender segs).length repls 0 0 segs).1 ∧
      r.pos = (orefSegs T (orender segs).length repls 0 0 segs).2.map (· + 1) ∧
      r.unknowns = [] ∧ r.diags = st1.diags ++ odiagsSegs (orender segs) 0 segs :=
  tex2txt_math_open_segs T o fs thresh segs fuel st1 rot repls hdefs hextr hrepl hunkn hinit hok hm hrot
    hrepls hne hvis hls hf

/-- the whole mark occurs in the plain text as one contiguous piece (it starts with
    `" " ++ T.mark ++ " "`); its first character is mapped to the `$` (1-based `P + 1`), all its
    characters into the range from the `$` to the end of the source -/
theorem C08_math_mark_complete (T : PTables) (o : Options) (fs : FS) (thresh : Nat)
    (pre : List PlainMath.Seg) (body w : Str) (post : List PlainMath.Seg)
    (fuel : Nat) (st1 : PState) (rot : Rot) (repls : List Str)
    (hdefs : o.defs = []) (hextr : o.extr = []) (hrepl : o.hasRepl = false) (hunkn : o.unkn = false)
    (hinit : initParser T fuel o (initialState T o false fs) = .ok ((), st1))
    (hok : OSegsOk T st1 (pre.map ofMath ++ .opn body w :: post.map ofMath))
    (hm : markVisible T.toTables = true)
    (hrot : rotOf st1 (curSettings st1) = some rot) (hrepls : rot.inl = repls)
    (hne : repls ≠ []) (hvis : VisibleRepls repls)
    (hls : (settingsOf T (curSettings st1)).isSome = true)
    (hf : (PlainMath.render pre ++ '$' :: (body ++ (w ++ PlainMath.render post))).length + 3 ≤ fuel) :
    let src := PlainMath.render pre ++ '$' :: (body ++ (w ++ PlainMath.render post))
    let P := (PlainMath.render pre).length
    ∃ r a b pa pm pb, tex2txt T fuel src o false thresh fs = .ok r ∧
      r.txt = a ++ errMark T.toTables errMathEnd ++ b ∧ r.pos = pa ++ pm ++ pb ∧
      pa.length = a.length ∧ pm.length = (errMark T.toTables errMathEnd).length ∧
      pm.head? = some (P + 1) ∧ (∀ q ∈ pm, P + 1 ≤ q ∧ q ≤ src.length) ∧
      (∃ v, errMark T.toTables errMathEnd = ' ' :: (T.mark ++ ' ' :: v)) :=
  tex2txt_math_mark_complete T o fs thresh pre body w post fuel st1 rot repls hdefs hextr hrepl hunkn hinit
    hok hm hrot hrepls hne hvis hls hf

/-- no text behind the paragraph break that ends the open formula is lost: every character of the
    inert text `s` behind it is in the plain text, at its own (1-based) position -/
theorem C08_math_text_kept (T : PTables) (o : Options) (fs : FS) (thresh : Nat)
    (pre : List PlainMath.Seg) (body w s : Str)
    (fuel : Nat) (st1 : PState) (rot : Rot) (repls : List Str)
    (hdefs : o.defs = []) (hextr : o.extr = []) (hrepl : o.hasRepl = false) (hunkn : o.unkn = false)
    (hinit : initParser T fuel o (initialState T o false fs) = .ok ((), st1))
    (hok : OSegsOk T st1 (pre.map ofMath ++ [.opn body w, .txt s]))
    (hm : markVisible T.toTables = true)
    (hrot : rotOf st1 (curSettings st1) = some rot) (hrepls : rot.inl = repls)
    (hne : repls ≠ []) (hvis : VisibleRepls repls)
    (hls : (settingsOf T (curSettings st1)).isSome = true)
    (hf : (PlainMath.render pre ++ '$' :: (body ++ (w ++ s))).length + 3 ≤ fuel) :
    let src := PlainMath.render pre ++ '$' :: (body ++ (w ++ s))
    ∃ r a pa, tex2txt T fuel src o false thresh fs = .ok r ∧
      r.txt = a ++ s ∧ r.pos = pa ++ List.range' (src.length - s.length + 1) s.length ∧
      pa.length = a.length :=
  tex2txt_math_text_kept T o fs thresh pre body w s fuel st1 rot repls hdefs hextr hrepl hunkn hinit
    hok hm hrot hrepls hne hvis hls hf

/-- the converse (`PlainMath.tex2txt_inline_math`): a document of inert text and WELL-FORMED simple
    inline formulas adds no diagnostic, and its plain text consists of the text segments and the
    placeholders only (`refMath`) — no mark is inserted -/
theorem C08_math_silent (T : PTables) (o : Options) (fs : FS) (thresh : Nat)
    (segs : List PlainMath.Seg) (fuel : Nat) (st1 : PState) (rot : Rot) (repls : List Str)
    (hdefs : o.defs = []) (hextr : o.extr = []) (hrepl : o.hasRepl = false) (hunkn : o.unkn = false)
    (hinit : initParser T fuel o (initialState T o false fs) = .ok ((), st1))
    (hok : PlainMath.SegsOk T st1 segs)
    (hrot : rotOf st1 (curSettings st1) = some rot) (hrepls : rot.inl = repls)
    (hne : repls ≠ []) (hvis : VisibleRepls repls)
    (hls : (settingsOf T (curSettings st1)).isSome = true)
    (hf : (PlainMath.render segs).length + 2 ≤ fuel) :
    ∃ r, tex2txt T fuel (PlainMath.render segs) o false thresh fs = .ok r ∧
      r.diags = st1.diags ∧ r.txt = (refMath T repls 0 0 segs).1 := by
  obtain ⟨r, h, h1, _, _, h4⟩ := PlainMath.tex2txt_inline_math T o fs thresh segs fuel st1 rot repls hdefs
    hextr hrepl hunkn hinit hok hrot hrepls hne hvis hls hf
  exact ⟨r, h, h4, h1⟩

/-! ### the current code -/

/-- the inline collection of the default language after initialisation of the CURRENT code -/
def C08_replsCurrent : List Str :=
  ((rotOf Generated.stDefault (curSettings Generated.stDefault)).map (·.inl)).getD []

/-- `"Abc $a$\nfoo $x+1 def,\n\nNext $y$ para."`: an open formula in the second line, cut by a
    paragraph break, behind and in front of well-formed formulas -/
def C08_preCurrent : List PlainMath.Seg := [.txt "Abc ".toList, .math "a".toList, .txt "\nfoo ".toList]
def C08_postCurrent : List PlainMath.Seg := [.txt "Next ".toList, .math "y".toList, .txt " para.".toList]

/-- the hypotheses about tables and initialised parser hold for the tables translated from /repo
    (the mark is a visible one-line text, the placeholder collection exists, is not empty and its
    entries are visible one-line texts, the language settings exist), and concrete documents satisfy
    the side conditions: situation (B) `"Abc $a$\nfoo $x+1 def,\n\nNext $y$ para."`, situation (A)
    `"Abc $a$\nfoo $x+1 def ghi"`, a lone `$` at the end (`"Price: 5 $"`), and three open formulas in a
    row -/
theorem C08_math_current_facts :
    markVisible Generated.theTables.toTables = true ∧
    (rotOf Generated.stDefault (curSettings Generated.stDefault)).isSome = true ∧
    C08_replsCurrent ≠ [] ∧
    (∀ r ∈ C08_replsCurrent, hasNl r = false ∧ isBlank r = false) ∧
    (settingsOf Generated.theTables (curSettings Generated.stDefault)).isSome = true ∧
    osegsOk Generated.theTables Generated.stDefault
      (C08_preCurrent.map ofMath ++ .opn "x+1 def,".toList "\n\n".toList :: C08_postCurrent.map ofMath) = true ∧
    osegsOk Generated.theTables Generated.stDefault
      (C08_preCurrent.map ofMath ++ [.opn "x+1 def ghi".toList []]) = true ∧
    osegsOk Generated.theTables Generated.stDefault [.txt "Price: 5 ".toList, .opn [] []] = true ∧
    osegsOk Generated.theTables Generated.stDefault
      [.opn "x".toList "\n\n".toList, .opn "y".toList "\n \n".toList, .opn "z".toList []] = true := by
  unfold C08_replsCurrent
  rw [Generated.stDefault_eq]; unfold C08_preCurrent C08_postCurrent; (repeat rw [String.toList_ofList]); decide +kernel

/-- the reference output of the document of situation (B) on the current tables -/
theorem C08_math_ref_current :
    let src := PlainMath.render C08_preCurrent
      ++ '$' :: ("x+1 def,".toList ++ ("\n\n".toList ++ PlainMath.render C08_postCurrent))
    src = "Abc $a$\nfoo $x+1 def,\n\nNext $y$ para.".toList ∧
    refMath Generated.theTables C08_replsCurrent 0 0 C08_preCurrent
      = ("Abc C-C-C\nfoo ".toList, [0, 1, 2, 3, 5, 5, 5, 5, 5, 7, 8, 9, 10, 11]) ∧
    errMark Generated.theTables.toTables errMathEnd = " LATEXXXERROR ".toList ∧
    openText Generated.theTables C08_replsCurrent (nForm C08_preCurrent) "x+1 def,".toList = "D-D-D,".toList ∧
    (refMath Generated.theTables C08_replsCurrent (openNext (nForm C08_preCurrent) "x+1 def,".toList)
      ((PlainMath.render C08_preCurrent).length + ("x+1 def,".toList.length + 1 + "\n\n".toList.length))
      C08_postCurrent) = ("Next E-E-E para.".toList, [23, 24, 25, 26, 27, 29, 29, 29, 29, 29, 31, 32, 33, 34, 35, 36]) ∧
    latexErrorDiag errMathEnd (PlainMath.render C08_preCurrent).length src
      = { line := 2, col := 5, msg := "missing end of maths".toList } := by
  unfold C08_replsCurrent
  rw [Generated.stDefault_eq]; (repeat rw [String.toList_ofList]); decide +kernel

/-- **the theorem applies to the current code**: for `"Abc $a$\nfoo $x+1 def,\n\nNext $y$ para."`
    the filter (model on the tables translated from /repo, default options) returns
    `"Abc C-C-C\nfoo  LATEXXXERROR D-D-D,Next E-E-E para."`, the mark at position 13 (the `$` of line 2,
    column 5), exactly one diagnostic -/
theorem C08_math_unterminated_current (thresh : Nat) :
    ∃ r, tex2txt Generated.theTables Generated.bigFuel
        "Abc $a$\nfoo $x+1 def,\n\nNext $y$ para.".toList Generated.defaultOptions false thresh [] = .ok r ∧
      r.txt = "Abc C-C-C\nfoo  LATEXXXERROR D-D-D,Next E-E-E para.".toList ∧
      r.pos = [1, 2, 3, 4, 6, 6, 6, 6, 6, 8, 9, 10, 11, 12,
               13, 13, 13, 13, 13, 13, 13, 13, 13, 13, 13, 13, 13, 13, 14, 14, 14, 14, 14, 14,
               24, 25, 26, 27, 28, 30, 30, 30, 30, 30, 32, 33, 34, 35, 36, 37] ∧
      r.unknowns = [] ∧
      r.diags = Generated.stDefault.diags ++ [{ line := 2, col := 5, msg := "missing end of maths".toList }] := by
  obtain ⟨hm, hrot, hne, hvis, hls, hok, _⟩ := C08_math_current_facts
  obtain ⟨rot, hrot'⟩ := Option.isSome_iff_exists.mp hrot
  have hrepls : rot.inl = C08_replsCurrent := by
    simp only [C08_replsCurrent, hrot', Option.map_some, Option.getD_some]
  obtain ⟨e1, e2, e3, e4, e5, e6⟩ := C08_math_ref_current
  obtain ⟨r, h, h1, h2, h3, h4, _⟩ := C08_math_unterminated Generated.theTables Generated.defaultOptions []
    thresh C08_preCurrent "x+1 def,".toList "\n\n".toList C08_postCurrent Generated.bigFuel
    Generated.stDefault rot C08_replsCurrent rfl rfl rfl rfl Generated.initParser_default hok hm hrot' hrepls
    hne hvis hls (by decide +kernel)
  rw [e1] at h
  refine ⟨r, h, ?_, ?_, h3, ?_⟩
  · rw [h1, e2, e3, e4, e5]; conv => rhs; rw [String.toList_ofList]
    decide +kernel
  · rw [h2, e2, e3, e4, e5]; decide +kernel
  · rw [h4, e6]

/-- situation (A) on the current code: for `"Abc $x+1 def ghi"` the filter returns
    `"Abc  LATEXXXERROR C-C-C"`; the mark (14 characters) is longer than the rest of the source behind
    the `$` (12 characters): its first 12 characters are mapped to the `$` (position 5), the last two
    to the last position 16; the placeholder to `x` (position 6); one diagnostic at line 1, column 5 -/
theorem C08_math_unterminated_end_current (thresh : Nat) :
    ∃ r, tex2txt Generated.theTables Generated.bigFuel
        "Abc $x+1 def ghi".toList Generated.defaultOptions false thresh [] = .ok r ∧
      r.txt = "Abc  LATEXXXERROR C-C-C".toList ∧
      r.pos = [1, 2, 3, 4, 5, 5, 5, 5, 5, 5, 5, 5, 5, 5, 5, 5, 16, 16, 6, 6, 6, 6, 6] ∧
      r.unknowns = [] ∧
      r.diags = Generated.stDefault.diags ++ [{ line := 1, col := 5, msg := "missing end of maths".toList }] := by
  obtain ⟨hm, hrot, hne, hvis, hls, _⟩ := C08_math_current_facts
  obtain ⟨rot, hrot'⟩ := Option.isSome_iff_exists.mp hrot
  have hrepls : rot.inl = C08_replsCurrent := by
    simp only [C08_replsCurrent, hrot', Option.map_some, Option.getD_some]
  have hok : OSegsOk Generated.theTables Generated.stDefault
      ([PlainMath.Seg.txt "Abc ".toList].map ofMath ++ [.opn "x+1 def ghi".toList []]) := by
    unfold OSegsOk; rw [Generated.stDefault_eq]; decide +kernel
  obtain ⟨r, h, h1, h2, h3, h4, _⟩ := C08_math_unterminated_end Generated.theTables Generated.defaultOptions []
    thresh [.txt "Abc ".toList] "x+1 def ghi".toList Generated.bigFuel
    Generated.stDefault rot C08_replsCurrent rfl rfl rfl rfl Generated.initParser_default hok hm hrot' hrepls
    hne hvis hls (by decide +kernel)
  refine ⟨r, h, ?_, ?_, h3, ?_⟩
  · rw [h1]; unfold C08_replsCurrent; rw [Generated.stDefault_eq]; conv => rhs; rw [String.toList_ofList]
    decide +kernel
  · rw [h2]; unfold C08_replsCurrent; rw [Generated.stDefault_eq]; decide +kernel
  · rw [h4, Generated.stDefault_eq]; conv => rhs; rw [String.toList_ofList]
    decide +kernel

end Yalafi
