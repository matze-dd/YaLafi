/-
  Properties/SystemMix3Stmt.lean — SYSTEM-LEVEL statements (C14) on the union grammar of TWENTY-TWO
  construct kinds (`PlainMix3`, the grammar of `C03_mix3_e2e`: the fourteen kinds of `PlainMix2` plus
  accent calls, rich inline formulas in both delimiters, `\newcommand` with parameters and uses,
  `\[…\]` and equation environments, list environments with `\item`): the filter's theorem
  `C03_mix3_e2e` COMPOSED with the shell's pipeline (`map_match_position`, the report generators, the
  HTML highlight, the sort of the matches).  The lift of `C14_flagged_word_e2e`, `C14_sorted_e2e`
  of Properties/SystemStmt.lean; proofs: Proofs/SystemWordMix3.lean.

  C14 "When the proofreader flags a word of the plain text, the shell reports it at the 1-based line
  and column, with the length, of that very word in the LaTeX file — identically in the text report,
  the JSON and XML outputs (xml-b in bytes), the HTML highlight; the reports are ordered by the
  position in the file":
    `C14_copied_run_mix3`, `C14_copied_run_footnote_mix3`   every run of character marks of the
                                    reference is a run of the output
    `C14_flagged_run_mix3_e2e`      … through the shell, for every such run that is the stretch of the
                                    file at its position (text, `\verb` content, note, title, ARGUMENT
                                    of a use where the body substitutes it)
    `C14_flagged_word_mix3_e2e`     a word of a `txt` segment (also inside groups, arguments of
                                    undeclared macros, list items, behind displayed equations)
    `C14_flagged_word_head_mix3_e2e`, `C14_flagged_word_foot_mix3_e2e`   … of a title, a footnote body
    `C14_sorted_mix3_e2e`           two flagged words are reported in the order of the file
    `…_current`, `…_example…`       instances on the tables of the current /repo, on the 17-line
                                    document `C03_mix3_doc`
-/
import YalafiVerif.Proofs.SystemWordMix3
import YalafiVerif.Properties.PlainMix3Stmt
import YalafiVerif.Generated.Init
namespace Yalafi
open SystemWord Reports Html

/-- **a copied run is contiguous** on the 22-kind grammar: every run of character marks
    `some (c₀, p), some (c₁, p+1), …` of the reference (`(posText p w).map some`: the text of a
    segment, the content of `\verb`, the note of a citation, the title of a heading, an argument of a
    use at the place where the body of the definition substitutes it) whose first and last
    characters are no white space appears in the plain text as one block, and the map entries there
    are `p+1, p+2, …`. -/
theorem C14_copied_run_mix3 (T : PTables) (o : Options) (fs : FS) (thresh : Nat)
    (segs : List PlainMix3.Seg) (fuel : Nat) (st1 : PState) (repls drepls : List Str)
    (hdefs : o.defs = []) (hextr : o.extr = []) (hrepl : o.hasRepl = false) (hunkn : o.unkn = false)
    (hinit : initParser T fuel o (initialState T o false fs) = .ok ((), st1))
    (hok : PlainMix3.SegsOk T st1 repls drepls segs)
    (hf : (PlainMix3.render segs).length + PlainMix3.inserted [] 0 segs + 6 ≤ fuel)
    (A B : List PlainMacro.Mark) (p : Nat) (w : Str)
    (hmarks : PlainMix3.marks T st1 repls drepls [] st1.itemStack 0 0 0 segs
      = A ++ ((posText p w).map some ++ B))
    (hw : wordEnds w = true) :
    ∃ r, tex2txt T fuel (PlainMix3.render segs) o false thresh fs = .ok r ∧
      r.txt.length = r.pos.length ∧
      ∃ off, off + w.length ≤ r.txt.length ∧ RunAt r.pos off w.length (p + 1) ∧
        (r.txt.drop off).take w.length = w := by
  obtain ⟨r, h1, h2, h3, _⟩ := PlainMix3.tex2txt_mix3 T o fs thresh segs fuel st1 repls drepls hdefs hextr hrepl hunkn hinit hok hf
  exact ⟨r, h1, copied_run_marks h2 h3 A B p w hmarks hw⟩

/-- … and every stretch of the detached flows with consecutive positions (a stretch of a footnote
    body) -/
theorem C14_copied_run_footnote_mix3 (T : PTables) (o : Options) (fs : FS) (thresh : Nat)
    (segs : List PlainMix3.Seg) (fuel : Nat) (st1 : PState) (repls drepls : List Str)
    (hdefs : o.defs = []) (hextr : o.extr = []) (hrepl : o.hasRepl = false) (hunkn : o.unkn = false)
    (hinit : initParser T fuel o (initialState T o false fs) = .ok ((), st1))
    (hok : PlainMix3.SegsOk T st1 repls drepls segs)
    (hf : (PlainMix3.render segs).length + PlainMix3.inserted [] 0 segs + 6 ≤ fuel)
    (F1 F2 : List (Char × Nat)) (p : Nat) (w : Str)
    (hflows : PlainMix3.flows 0 segs = F1 ++ (posText p w ++ F2)) :
    ∃ r, tex2txt T fuel (PlainMix3.render segs) o false thresh fs = .ok r ∧
      r.txt.length = r.pos.length ∧
      ∃ off, off + w.length ≤ r.txt.length ∧ RunAt r.pos off w.length (p + 1) ∧
        (r.txt.drop off).take w.length = w := by
  obtain ⟨r, h1, h2, h3, _⟩ := PlainMix3.tex2txt_mix3 T o fs thresh segs fuel st1 repls drepls hdefs hextr hrepl hunkn hinit hok hf
  exact ⟨r, h1, run_of_output h2 h3 _ F2 p w (by rw [hflows, List.append_assoc])⟩

/-- **a flagged word, end to end through filter and shell** (the union grammar of twenty-two
    construct kinds, hypotheses of `C03_mix3_e2e`).  Let `w` be a stretch of a text segment of the
    document (`segs = pre ++ .txt (a ++ w ++ b) :: post`) whose first and last character are no white
    space — a word or a phrase, at any depth of groups and arguments of undeclared macros, in the
    text of a list item, behind displayed equations, definitions, uses, accents —,
    `p = |render pre| + |a|`, `l = |w|`.  Then
    * `w` stands at offset `p` of the LaTeX file: `src[p … p+l) = w`;
    * `tex2txt` succeeds and `w` appears in the plain text at an offset `off` whose `l` map entries
      are `p+1, …, p+l`;
    * for EVERY plain offset `off` with these map entries (the proofreader flags this occurrence)
      and any padding of the map: `map_match_position` yields offset `p` and length `l`;
      the text report prints the line and column of the first character of `w` in the file;
      JSON `offset` / `length` are `p` / `l`; JSON `priv` and XML name (0-based) that line and
      column and the line and column of the last character of `w`; XML-b the same lines and the
      UTF-8 byte lengths of the line prefixes (all in `WordReported`); the HTML highlight is
      `src[p : p+l] = w` on that line (`HtmlWord`). -/
theorem C14_flagged_word_mix3_e2e (T : PTables) (o : Options) (fs : FS) (thresh : Nat)
    (segs : List PlainMix3.Seg) (fuel : Nat) (st1 : PState) (repls drepls : List Str)
    (hdefs : o.defs = []) (hextr : o.extr = []) (hrepl : o.hasRepl = false) (hunkn : o.unkn = false)
    (hinit : initParser T fuel o (initialState T o false fs) = .ok ((), st1))
    (hok : PlainMix3.SegsOk T st1 repls drepls segs)
    (hf : (PlainMix3.render segs).length + PlainMix3.inserted [] 0 segs + 6 ≤ fuel)
    (pre post : List PlainMix3.Seg) (a w b : Str) (hsegs : segs = pre ++ .txt (a ++ (w ++ b)) :: post)
    (hw : wordEnds w = true) :
    ((PlainMix3.render segs).drop ((PlainMix3.render pre).length + a.length)).take w.length = w ∧
    (PlainMix3.render pre).length + a.length + w.length ≤ (PlainMix3.render segs).length ∧
    ∃ r, tex2txt T fuel (PlainMix3.render segs) o false thresh fs = .ok r ∧
      r.txt.length = r.pos.length ∧
      (∃ off, off + w.length ≤ r.txt.length ∧
        RunAt r.pos off w.length ((PlainMix3.render pre).length + a.length + 1) ∧
        (r.txt.drop off).take w.length = w) ∧
      ∀ (off : Nat) (pad : List Int),
        RunAt r.pos off w.length ((PlainMix3.render pre).length + a.length + 1) →
        mapMatch (natMap r.pos ++ pad) (PlainMix3.render segs) (off : Int) (some (.int w.length))
          = .ok ((((PlainMix3.render pre).length + a.length : Nat) : Int), (w.length : Int)) ∧
        reportAll (natMap r.pos ++ pad) (PlainMix3.render segs) (off : Int) (some (.int w.length))
          = .ok (locate (PlainMix3.render segs) (((PlainMix3.render pre).length + a.length : Nat) : Int) (w.length : Int)) ∧
        WordReported (PlainMix3.render segs) ((PlainMix3.render pre).length + a.length) w.length
          (locate (PlainMix3.render segs) (((PlainMix3.render pre).length + a.length : Nat) : Int) (w.length : Int)) ∧
        ((∀ c ∈ pad, 0 ≤ c) → HtmlWord (PlainMix3.render segs) (natMap r.pos ++ pad) off w.length
          ((PlainMix3.render pre).length + a.length)) :=
  flagged_word_mix3 T o fs thresh segs fuel st1 repls drepls hdefs hextr hrepl hunkn hinit hok hf
    pre post a w b hsegs hw

/-- **every run of copied characters, through filter and shell.**  `SystemWord.FlaggedAt T o fs
    thresh fuel src p w` is the conclusion of `C14_flagged_word_mix3_e2e` for the file `src`, the
    offset `p` and the word `w` (the word stands at `p` in the file; `tex2txt` succeeds; the word is a
    run of the output with the map entries `p+1 …`; every flagged occurrence with these map entries is
    reported at offset `p`, length `|w|`, with the line and column of the word in the file, in all
    formats, and highlighted in the HTML report).  It holds for EVERY run of character marks of the
    reference (`hmarks`) with visible ends that does not start with a backslash and IS the stretch of
    the file at its position (`hsrc`, decidable): text, `\verb` contents, notes of citations, titles,
    arguments of uses of user macros where the body substitutes them. -/
theorem C14_flagged_run_mix3_e2e (T : PTables) (o : Options) (fs : FS) (thresh : Nat)
    (segs : List PlainMix3.Seg) (fuel : Nat) (st1 : PState) (repls drepls : List Str)
    (hdefs : o.defs = []) (hextr : o.extr = []) (hrepl : o.hasRepl = false) (hunkn : o.unkn = false)
    (hinit : initParser T fuel o (initialState T o false fs) = .ok ((), st1))
    (hok : PlainMix3.SegsOk T st1 repls drepls segs)
    (hf : (PlainMix3.render segs).length + PlainMix3.inserted [] 0 segs + 6 ≤ fuel)
    (A B : List PlainMacro.Mark) (p : Nat) (w : Str)
    (hmarks : PlainMix3.marks T st1 repls drepls [] st1.itemStack 0 0 0 segs
      = A ++ ((posText p w).map some ++ B))
    (hw : wordEnds w = true) (hbs : w.head? ≠ some '\\')
    (hsrc : ((PlainMix3.render segs).drop p).take w.length = w) :
    FlaggedAt T o fs thresh fuel (PlainMix3.render segs) p w := by
  obtain ⟨r, h1, h2, h3, _⟩ := PlainMix3.tex2txt_mix3 T o fs thresh segs fuel st1 repls drepls hdefs hextr hrepl hunkn hinit hok hf
  exact flaggedAt_of_marks h1 h2 h3 A B p w hmarks hw hbs hsrc

/-- **a flagged word of the title of a heading** `\name{a w b}`: `FlaggedAt` (the conclusion of
    `C14_flagged_word_mix3_e2e`) at the offset `|render pre| + |name| + 2 + |a|` of `w` in the file -/
theorem C14_flagged_word_head_mix3_e2e (T : PTables) (o : Options) (fs : FS) (thresh : Nat)
    (segs : List PlainMix3.Seg) (fuel : Nat) (st1 : PState) (repls drepls : List Str)
    (hdefs : o.defs = []) (hextr : o.extr = []) (hrepl : o.hasRepl = false) (hunkn : o.unkn = false)
    (hinit : initParser T fuel o (initialState T o false fs) = .ok ((), st1))
    (hok : PlainMix3.SegsOk T st1 repls drepls segs)
    (hf : (PlainMix3.render segs).length + PlainMix3.inserted [] 0 segs + 6 ≤ fuel)
    (pre post : List PlainMix3.Seg) (name a w b : Str)
    (hsegs : segs = pre ++ .head name (a ++ (w ++ b)) :: post)
    (hw : wordEnds w = true) :
    FlaggedAt T o fs thresh fuel (PlainMix3.render segs)
      ((PlainMix3.render pre).length + name.length + 2 + a.length) w :=
  flagged_word_head3 T o fs thresh segs fuel st1 repls drepls hdefs hextr hrepl hunkn hinit hok hf
    pre post name a w b hsegs hw

/-- **a flagged word of a footnote body** `\footnote{a w b}` (the body is moved behind the main
    text; its characters keep their own positions): `FlaggedAt` at the offset
    `|render pre| + 10 + |a|` of `w` in the file -/
theorem C14_flagged_word_foot_mix3_e2e (T : PTables) (o : Options) (fs : FS) (thresh : Nat)
    (segs : List PlainMix3.Seg) (fuel : Nat) (st1 : PState) (repls drepls : List Str)
    (hdefs : o.defs = []) (hextr : o.extr = []) (hrepl : o.hasRepl = false) (hunkn : o.unkn = false)
    (hinit : initParser T fuel o (initialState T o false fs) = .ok ((), st1))
    (hok : PlainMix3.SegsOk T st1 repls drepls segs)
    (hf : (PlainMix3.render segs).length + PlainMix3.inserted [] 0 segs + 6 ≤ fuel)
    (pre post : List PlainMix3.Seg) (a w b : Str)
    (hsegs : segs = pre ++ .foot (a ++ (w ++ b)) :: post)
    (hne : w ≠ []) :
    FlaggedAt T o fs thresh fuel (PlainMix3.render segs)
      ((PlainMix3.render pre).length + 10 + a.length) w :=
  flagged_word_foot3 T o fs thresh segs fuel st1 repls drepls hdefs hextr hrepl hunkn hinit hok hf
    pre post a w b hsegs hne

/-! ## (C) the reports are ordered by the position in the file -/

/-- **two flagged words are reported in the order of the file** (the 22-kind union grammar).  Two
    words of text segments, the first one standing first in the file: both appear in the plain text,
    and whenever the proofreader flags them (matches `m1`, `m2` anywhere in its answer `ms`, offsets
    with the map entries of the words), the shell's sort puts `m1` in front of `m2`. -/
theorem C14_sorted_mix3_e2e (T : PTables) (o : Options) (fs : FS) (thresh : Nat)
    (segs : List PlainMix3.Seg) (fuel : Nat) (st1 : PState) (repls drepls : List Str)
    (hdefs : o.defs = []) (hextr : o.extr = []) (hrepl : o.hasRepl = false) (hunkn : o.unkn = false)
    (hinit : initParser T fuel o (initialState T o false fs) = .ok ((), st1))
    (hok : PlainMix3.SegsOk T st1 repls drepls segs)
    (hf : (PlainMix3.render segs).length + PlainMix3.inserted [] 0 segs + 6 ≤ fuel)
    (pre1 post1 : List PlainMix3.Seg) (a1 w1 b1 : Str) (hsegs1 : segs = pre1 ++ .txt (a1 ++ (w1 ++ b1)) :: post1)
    (pre2 post2 : List PlainMix3.Seg) (a2 w2 b2 : Str) (hsegs2 : segs = pre2 ++ .txt (a2 ++ (w2 ++ b2)) :: post2)
    (hw1 : wordEnds w1 = true) (hw2 : wordEnds w2 = true)
    (hlt : (PlainMix3.render pre1).length + a1.length < (PlainMix3.render pre2).length + a2.length) :
    ∃ r, tex2txt T fuel (PlainMix3.render segs) o false thresh fs = .ok r ∧
      (∃ off1 off2, RunAt r.pos off1 w1.length ((PlainMix3.render pre1).length + a1.length + 1) ∧
        RunAt r.pos off2 w2.length ((PlainMix3.render pre2).length + a2.length + 1)) ∧
      ∀ (pad : List Int) (ms out : List RawMatch) (m1 m2 : RawMatch) (off1 off2 : Nat),
        sortMatches (natMap r.pos ++ pad) ms = .ok out → m1 ∈ ms → m2 ∈ ms →
        m1.offset = (off1 : Int) → m2.offset = (off2 : Int) →
        RunAt r.pos off1 w1.length ((PlainMix3.render pre1).length + a1.length + 1) →
        RunAt r.pos off2 w2.length ((PlainMix3.render pre2).length + a2.length + 1) →
        ∃ X Y Z, out = X ++ m1 :: (Y ++ m2 :: Z) :=
  sorted_of_flagged
    (flagged_word_mix3 T o fs thresh segs fuel st1 repls drepls hdefs hextr hrepl hunkn hinit hok hf
      pre1 post1 a1 w1 b1 hsegs1 hw1)
    (flagged_word_mix3 T o fs thresh segs fuel st1 repls drepls hdefs hextr hrepl hunkn hinit hok hf
      pre2 post2 a2 w2 b2 hsegs2 hw2)
    (wordEnds_pos hw1) (wordEnds_pos hw2) hlt

/-! ## instances on the tables of the current /repo -/

/-- `C14_flagged_word_mix3_e2e` for the CURRENT code (tables translated from /repo, default options,
    parser initialisation evaluated by the kernel), the map padded as the shell pads it -/
theorem C14_flagged_word_mix3_e2e_current (segs : List PlainMix3.Seg) (repls drepls : List Str) (thresh : Nat)
    (hok : PlainMix3.SegsOk Generated.theTables Generated.stDefault repls drepls segs)
    (hf : (PlainMix3.render segs).length + PlainMix3.inserted [] 0 segs + 6 ≤ Generated.bigFuel)
    (pre post : List PlainMix3.Seg) (a w b : Str) (hsegs : segs = pre ++ .txt (a ++ (w ++ b)) :: post)
    (hw : wordEnds w = true) :
    ((PlainMix3.render segs).drop ((PlainMix3.render pre).length + a.length)).take w.length = w ∧
    ∃ r, tex2txt Generated.theTables Generated.bigFuel (PlainMix3.render segs) Generated.defaultOptions
          false thresh [] = .ok r ∧
      (∃ off, off + w.length ≤ r.txt.length ∧
        RunAt r.pos off w.length ((PlainMix3.render pre).length + a.length + 1) ∧
        (r.txt.drop off).take w.length = w) ∧
      ∀ (off : Nat), RunAt r.pos off w.length ((PlainMix3.render pre).length + a.length + 1) →
        reportAll (natMap r.pos ++ shellPad r.pos) (PlainMix3.render segs) (off : Int) (some (.int w.length))
          = .ok (locate (PlainMix3.render segs) (((PlainMix3.render pre).length + a.length : Nat) : Int) (w.length : Int)) ∧
        WordReported (PlainMix3.render segs) ((PlainMix3.render pre).length + a.length) w.length
          (locate (PlainMix3.render segs) (((PlainMix3.render pre).length + a.length : Nat) : Int) (w.length : Int)) ∧
        HtmlWord (PlainMix3.render segs) (natMap r.pos ++ shellPad r.pos) off w.length
          ((PlainMix3.render pre).length + a.length) := by
  exact FlaggedAt.shell (C14_flagged_word_mix3_e2e Generated.theTables Generated.defaultOptions []
    thresh segs Generated.bigFuel Generated.stDefault repls drepls rfl rfl rfl rfl Generated.initParser_default
    hok hf pre post a w b hsegs hw)

/-- `C14_sorted_mix3_e2e` for the CURRENT code -/
theorem C14_sorted_mix3_e2e_current (segs : List PlainMix3.Seg) (repls drepls : List Str) (thresh : Nat)
    (hok : PlainMix3.SegsOk Generated.theTables Generated.stDefault repls drepls segs)
    (hf : (PlainMix3.render segs).length + PlainMix3.inserted [] 0 segs + 6 ≤ Generated.bigFuel)
    (pre1 post1 : List PlainMix3.Seg) (a1 w1 b1 : Str) (hsegs1 : segs = pre1 ++ .txt (a1 ++ (w1 ++ b1)) :: post1)
    (pre2 post2 : List PlainMix3.Seg) (a2 w2 b2 : Str) (hsegs2 : segs = pre2 ++ .txt (a2 ++ (w2 ++ b2)) :: post2)
    (hw1 : wordEnds w1 = true) (hw2 : wordEnds w2 = true)
    (hlt : (PlainMix3.render pre1).length + a1.length < (PlainMix3.render pre2).length + a2.length) :
    ∃ r, tex2txt Generated.theTables Generated.bigFuel (PlainMix3.render segs) Generated.defaultOptions
          false thresh [] = .ok r ∧
      (∃ off1 off2, RunAt r.pos off1 w1.length ((PlainMix3.render pre1).length + a1.length + 1) ∧
        RunAt r.pos off2 w2.length ((PlainMix3.render pre2).length + a2.length + 1)) ∧
      ∀ (ms out : List RawMatch) (m1 m2 : RawMatch) (off1 off2 : Nat),
        sortMatches (natMap r.pos ++ shellPad r.pos) ms = .ok out → m1 ∈ ms → m2 ∈ ms →
        m1.offset = (off1 : Int) → m2.offset = (off2 : Int) →
        RunAt r.pos off1 w1.length ((PlainMix3.render pre1).length + a1.length + 1) →
        RunAt r.pos off2 w2.length ((PlainMix3.render pre2).length + a2.length + 1) →
        ∃ X Y Z, out = X ++ m1 :: (Y ++ m2 :: Z) := by
  obtain ⟨r, h1, h2, h3⟩ := C14_sorted_mix3_e2e Generated.theTables Generated.defaultOptions [] thresh segs
    Generated.bigFuel Generated.stDefault repls drepls rfl rfl rfl rfl Generated.initParser_default hok hf
    pre1 post1 a1 w1 b1 hsegs1 pre2 post2 a2 w2 b2 hsegs2 hw1 hw2 hlt
  exact ⟨r, h1, h2, fun ms out m1 m2 o1 o2 => h3 (shellPad r.pos) ms out m1 m2 o1 o2⟩

/-- the 17-line document `C03_mix3_doc` of Properties/PlainMix3Stmt.lean, the word `inner` (the text
    of the `\item` of an `itemize` nested in an `enumerate`, behind two displayed equations, a
    definition and four uses): the side conditions of the theorem hold — the document is
    `pre ++ .txt ("" ++ "inner" ++ "\n") :: post` with `|render pre| = 436`; and the word `more`
    behind the displayed equation `\[ a+b = c. \]`: `pre' ++ .txt ("\n" ++ "more" ++ " ") :: post'`
    with `|render pre'| + 1 = 334` -/
theorem C14_flagged_word_mix3_example_current :
    PlainMix3.SegsOk Generated.theTables Generated.stDefault C03_mix3_repls C03_mix3_drepls C03_mix3_doc ∧
    (PlainMix3.render C03_mix3_doc).length + PlainMix3.inserted [] 0 C03_mix3_doc + 6 ≤ Generated.bigFuel ∧
    C03_mix3_doc = C03_mix3_doc.take 63 ++ .txt ([] ++ ("inner".toList ++ "\n".toList)) :: C03_mix3_doc.drop 64 ∧
    wordEnds "inner".toList = true ∧
    (PlainMix3.render (C03_mix3_doc.take 63)).length + ([] : Str).length = 436 ∧
    C03_mix3_doc = C03_mix3_doc.take 51 ++ .txt ("\n".toList ++ ("more".toList ++ " ".toList)) :: C03_mix3_doc.drop 52 ∧
    wordEnds "more".toList = true ∧
    (PlainMix3.render (C03_mix3_doc.take 51)).length + "\n".toList.length = 334 :=
  ⟨C03_mix3_example_current, C03_mix3_example_fuel,
    by rw [String.toList_ofList, String.toList_ofList, String.toList_ofList, String.toList_ofList]; decide +kernel⟩

/-- … so the theorem says about it (no evaluation of the filter, only of `locate` on the source):
    `inner` appears in the plain text, and wherever the proofreader flags five characters whose map
    entries are `437 … 441`, the shell reports line 11, column 7, length 5 in all formats (source
    line 11 is `\item inner`) -/
theorem C14_flagged_word_mix3_example :
    ∃ r, tex2txt Generated.theTables Generated.bigFuel (PlainMix3.render C03_mix3_doc)
          Generated.defaultOptions false 0 [] = .ok r ∧
      (∃ off, RunAt r.pos off 5 437 ∧ (r.txt.drop off).take 5 = "inner".toList) ∧
      ∀ (off : Nat), RunAt r.pos off 5 437 →
        reportAll (natMap r.pos ++ shellPad r.pos) (PlainMix3.render C03_mix3_doc) (off : Int) (some (.int 5))
          = .ok { offset := 436, length := 5, lin := 11, col := 7, json := ⟨10, 6, 10, 11⟩,
                  xml := ⟨10, 6, 10, 11⟩, xmlb := ⟨10, 6, 10, 11⟩ } := by
  obtain ⟨hok, hfuel, hsegs, hw, hp, _⟩ := C14_flagged_word_mix3_example_current
  obtain ⟨_, r, h1, ⟨off, _, h2, h3⟩, h4⟩ := C14_flagged_word_mix3_e2e_current C03_mix3_doc C03_mix3_repls
    C03_mix3_drepls 0 hok hfuel _ _ _ _ _ hsegs hw
  rw [hp] at h2 h4
  have hl : "inner".toList.length = 5 := rfl
  rw [hl] at h2 h3 h4
  have hloc : locate (PlainMix3.render C03_mix3_doc) ((436 : Nat) : Int) ((5 : Nat) : Int)
      = { offset := 436, length := 5, lin := 11, col := 7, json := ⟨10, 6, 10, 11⟩,
          xml := ⟨10, 6, 10, 11⟩, xmlb := ⟨10, 6, 10, 11⟩ } := by decide +kernel
  refine ⟨r, h1, ⟨off, h2, h3⟩, ?_⟩
  intro off' hrun
  have := (h4 off' hrun).1
  rw [hloc] at this
  exact this

/-- … and (C) for `more` (file offset 334) and `inner` (file offset 436): whatever the order of the
    proofreader's answer, `more` is reported first -/
theorem C14_sorted_mix3_example :
    ∃ r, tex2txt Generated.theTables Generated.bigFuel (PlainMix3.render C03_mix3_doc)
          Generated.defaultOptions false 0 [] = .ok r ∧
      (∃ off1 off2, RunAt r.pos off1 4 335 ∧ RunAt r.pos off2 5 437) ∧
      ∀ (ms out : List RawMatch) (m1 m2 : RawMatch) (off1 off2 : Nat),
        sortMatches (natMap r.pos ++ shellPad r.pos) ms = .ok out → m1 ∈ ms → m2 ∈ ms →
        m1.offset = (off1 : Int) → m2.offset = (off2 : Int) →
        RunAt r.pos off1 4 335 → RunAt r.pos off2 5 437 →
        ∃ X Y Z, out = X ++ m1 :: (Y ++ m2 :: Z) := by
  obtain ⟨hok, hfuel, hsegs2, hw2, hp2, hsegs1, hw1, hp1⟩ := C14_flagged_word_mix3_example_current
  have h := C14_sorted_mix3_e2e_current C03_mix3_doc C03_mix3_repls C03_mix3_drepls 0 hok hfuel
    _ _ _ _ _ hsegs1 _ _ _ _ _ hsegs2 hw1 hw2 (by rw [hp1, hp2]; decide)
  rw [hp1, hp2] at h
  exact h

/-- … and the whole pipeline: the output of `tex2txt` as `C03_mix3_e2e_current` and
    `C03_mix3_example_ref` give it, on it the shell evaluated by the kernel (the shell's padding,
    `map_match_position`, the generators), for the proofreader's answers "offset 184, length 5" (the
    word `inner` in the plain text `… 1. one (p, q)\n  inner\n 2. two E-E-E …`), "offset 153, length
    4" (`more`, behind the first displayed equation), "offset 219, length 5" (`note.` in the footnote
    body, which stands at the END of the plain text), "offset 8, length 5" (`Intro`, the title of the
    heading) and "offset 115, length 2" (`bc`, the second argument of `\pair{a}{bc}`, which the body
    `(#1, #2)` of the definition substitutes).  Source line 11 is `\item inner` (`inner` at column 7,
    offset 436); line 7 is `more \begin{equation}= z,\end{equation}` (`more` at column 1, offset 334);
    `note.` stands at line 4, column 146 (offset 208); `Intro` at line 3, column 10 (offset 56);
    `bc` at line 5, column 45 (offset 280).  The HTML highlight of the first answer is `src[436:441]`
    on line 11 (0-based 10). -/
theorem C14_flagged_word_mix3_example_eval :
    (match tex2txt Generated.theTables Generated.bigFuel (PlainMix3.render C03_mix3_doc)
        Generated.defaultOptions false 0 [] with
     | .ok r =>
       (r.txt.drop 184).take 5 == "inner".toList && decide (RunAt r.pos 184 5 437) &&
       (r.txt.drop 153).take 4 == "more".toList && decide (RunAt r.pos 153 4 335) &&
       (r.txt.drop 219).take 5 == "note.".toList && decide (RunAt r.pos 219 5 209) &&
       (r.txt.drop 8).take 5 == "Intro".toList && decide (RunAt r.pos 8 5 57) &&
       (r.txt.drop 115).take 2 == "bc".toList && decide (RunAt r.pos 115 2 281) &&
       (match reportAll (natMap r.pos ++ shellPad r.pos) (PlainMix3.render C03_mix3_doc) 184 (some (.int 5)),
              reportAll (natMap r.pos ++ shellPad r.pos) (PlainMix3.render C03_mix3_doc) 153 (some (.int 4)),
              reportAll (natMap r.pos ++ shellPad r.pos) (PlainMix3.render C03_mix3_doc) 219 (some (.int 5)),
              reportAll (natMap r.pos ++ shellPad r.pos) (PlainMix3.render C03_mix3_doc) 8 (some (.int 5)),
              reportAll (natMap r.pos ++ shellPad r.pos) (PlainMix3.render C03_mix3_doc) 115 (some (.int 2)),
              computeH Generated.theTables.toTables (PlainMix3.render C03_mix3_doc)
                (natMap r.pos ++ shellPad r.pos) 0 184 5 with
        | .ok L1, .ok L2, .ok L3, .ok L4, .ok L5, .ok h =>
          L1 == { offset := 436, length := 5, lin := 11, col := 7, json := ⟨10, 6, 10, 11⟩,
                  xml := ⟨10, 6, 10, 11⟩, xmlb := ⟨10, 6, 10, 11⟩ } &&
          L2 == { offset := 334, length := 4, lin := 7, col := 1, json := ⟨6, 0, 6, 4⟩,
                  xml := ⟨6, 0, 6, 4⟩, xmlb := ⟨6, 0, 6, 4⟩ } &&
          L3 == { offset := 208, length := 5, lin := 4, col := 146, json := ⟨3, 145, 3, 150⟩,
                  xml := ⟨3, 145, 3, 150⟩, xmlb := ⟨3, 145, 3, 150⟩ } &&
          L4 == { offset := 56, length := 5, lin := 3, col := 10, json := ⟨2, 9, 2, 14⟩,
                  xml := ⟨2, 9, 2, 14⟩, xmlb := ⟨2, 9, 2, 14⟩ } &&
          L5 == { offset := 280, length := 2, lin := 5, col := 45, json := ⟨4, 44, 4, 46⟩,
                  xml := ⟨4, 44, 4, 46⟩, xmlb := ⟨4, 44, 4, 46⟩ } &&
          h == { idx := 0, unsure := false, beg := 436, fin := 441, beglin := 10, endlin := 11, lin := 10 } &&
          slice (PlainMix3.render C03_mix3_doc) 436 441 == "inner".toList
        | _, _, _, _, _, _ => false)
     | _ => false) = true := by
  obtain ⟨r, h1, h2, h3, _⟩ := C03_mix3_e2e_current C03_mix3_doc C03_mix3_repls C03_mix3_drepls 0
    C03_mix3_example_current C03_mix3_example_fuel
  rw [C03_mix3_example_ref.1] at h2
  rw [C03_mix3_example_ref.2.1] at h3
  rw [h1]
  dsimp only
  rw [h2, h3, String.toList_ofList]
  decide +kernel

/-- (C) on the same document: the proofreader answers `note.` (plain offset 219, file offset 208),
    `inner` (plain offset 184, file offset 436) and `more` (plain offset 153, file offset 334) in this
    order; the shell's sort reports the footnote word first, then `more`, then `inner` — the order
    of the file, not of the plain text -/
theorem C14_sorted_mix3_example_eval :
    (match tex2txt Generated.theTables Generated.bigFuel (PlainMix3.render C03_mix3_doc)
        Generated.defaultOptions false 0 [] with
     | .ok r =>
       (match sortMatches (natMap r.pos ++ shellPad r.pos)
                [{ offset := 219, rest := .null }, { offset := 184, rest := .null },
                 { offset := 153, rest := .null }] with
        | .ok out => out.map (·.offset) == [219, 153, 184]
        | _ => false)
     | _ => false) = true := by
  obtain ⟨r, h1, _, h3, _⟩ := C03_mix3_e2e_current C03_mix3_doc C03_mix3_repls C03_mix3_drepls 0
    C03_mix3_example_current C03_mix3_example_fuel
  rw [C03_mix3_example_ref.2.1] at h3
  rw [h1]
  dsimp only
  rw [h3]
  decide +kernel

/-- the footnote word, the title word and the argument `bc` of `\pair{a}{bc}` of the same document:
    the hypotheses of `C14_flagged_word_foot_mix3_e2e`, `C14_flagged_word_head_mix3_e2e` and
    `C14_flagged_run_mix3_e2e` hold (the marks of `bc` are the marks 146 and 147 of the reference) -/
theorem C14_flagged_extra_mix3_example_current :
    (C03_mix3_doc = C03_mix3_doc.take 27 ++ .foot ("A ".toList ++ ("note.".toList ++ [])) :: C03_mix3_doc.drop 28 ∧
      (PlainMix3.render (C03_mix3_doc.take 27)).length + 10 + "A ".toList.length = 208) ∧
    (C03_mix3_doc = C03_mix3_doc.take 4 ++ .head "section".toList ([] ++ ("Intro".toList ++ [])) :: C03_mix3_doc.drop 5 ∧
      wordEnds "Intro".toList = true ∧
      (PlainMix3.render (C03_mix3_doc.take 4)).length + "section".toList.length + 2 + ([] : Str).length = 56) ∧
    (PlainMix3.marks Generated.theTables Generated.stDefault C03_mix3_repls C03_mix3_drepls []
        Generated.stDefault.itemStack 0 0 0 C03_mix3_doc
      = (PlainMix3.marks Generated.theTables Generated.stDefault C03_mix3_repls C03_mix3_drepls []
          Generated.stDefault.itemStack 0 0 0 C03_mix3_doc).take 146
        ++ ((posText 280 "bc".toList).map some
          ++ (PlainMix3.marks Generated.theTables Generated.stDefault C03_mix3_repls C03_mix3_drepls []
              Generated.stDefault.itemStack 0 0 0 C03_mix3_doc).drop 148) ∧
      wordEnds "bc".toList = true ∧
      ((PlainMix3.render C03_mix3_doc).drop 280).take "bc".toList.length = "bc".toList) := by
  rw [Generated.stDefault_eq]; decide +kernel

/-- … so the three theorems apply: `FlaggedAt` for `note.` at file offset 208, `Intro` at 56, `bc`
    at 280 -/
theorem C14_flagged_extra_mix3_example :
    FlaggedAt Generated.theTables Generated.defaultOptions [] 0 Generated.bigFuel
      (PlainMix3.render C03_mix3_doc) 208 "note.".toList ∧
    FlaggedAt Generated.theTables Generated.defaultOptions [] 0 Generated.bigFuel
      (PlainMix3.render C03_mix3_doc) 56 "Intro".toList ∧
    FlaggedAt Generated.theTables Generated.defaultOptions [] 0 Generated.bigFuel
      (PlainMix3.render C03_mix3_doc) 280 "bc".toList := by
  obtain ⟨hok, hfuel, _⟩ := C14_flagged_word_mix3_example_current
  obtain ⟨⟨f1, f2⟩, ⟨g1, g2, g3⟩, ⟨u1, u2, u3⟩⟩ := C14_flagged_extra_mix3_example_current
  refine ⟨?_, ?_, ?_⟩
  · have := C14_flagged_word_foot_mix3_e2e Generated.theTables Generated.defaultOptions [] 0 C03_mix3_doc
      Generated.bigFuel Generated.stDefault C03_mix3_repls C03_mix3_drepls rfl rfl rfl rfl
      Generated.initParser_default hok hfuel _ _ _ _ _ f1 (by rw [String.toList_ofList]; decide)
    rw [f2] at this
    exact this
  · have := C14_flagged_word_head_mix3_e2e Generated.theTables Generated.defaultOptions [] 0 C03_mix3_doc
      Generated.bigFuel Generated.stDefault C03_mix3_repls C03_mix3_drepls rfl rfl rfl rfl
      Generated.initParser_default hok hfuel _ _ _ _ _ _ g1 g2
    rw [g3] at this
    exact this
  · exact C14_flagged_run_mix3_e2e Generated.theTables Generated.defaultOptions [] 0 C03_mix3_doc
      Generated.bigFuel Generated.stDefault C03_mix3_repls C03_mix3_drepls rfl rfl rfl rfl
      Generated.initParser_default hok hfuel _ _ 280 _ u1 u2 (by rw [String.toList_ofList]; decide) u3

end Yalafi
