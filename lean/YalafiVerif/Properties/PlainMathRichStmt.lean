/-
  Properties/PlainMathRichStmt.lean — C10 END TO END for the FULL body class of the property
  (Proofs/PlainMathRich.lean, Proofs/PlainMathRichSrc.lean, Proofs/PlainMathRichE2E.lean):

  "Every inline formula $...$ or \(...\) consisting of maths only is rendered as exactly one
  placeholder taken from the inline collection of the current language, followed by the formula's
  last character if that is one of . , ; : and surrounded by a blank where the formula starts or
  ends with maths space; successive formulas receive successive placeholders, cyclically.  No
  character of the formula source appears, and all generated characters map inside the formula."
  Quantifier: "all formula bodies over letters, digits, operators, sub/superscripts, fractions,
  unknown maths macros, braces and maths spaces".

  Documents: inert text and inline formulas with BOTH delimiters, the body a sequence of
      `.chars s`   letters / digits / ASCII operators / punctuation / white space
      `.cw name`   undeclared control words (`\alpha`, `\frac`, `\sqrt`)
      `.spec t`    `^` `_` `&` …, braces `{` `}` (any nesting, balanced or not) and `\!` (ignored),
                   maths space `\,` `\;` `\:` `\ ` `~`
  Not covered: formulas of maths space / ignored tokens only (`C10_rich_only_space_eval`: the model
  emits a single blank for `$\,$`, no placeholder, no rotation); declared macros in formulas
  (`\quad`, `\qquad`, `\mbox{…}`); a paragraph break in a formula; touching formulas; displayed
  formulas; `--defs`, `--extr`, `--repl`, `--unkn`, multi-language mode.
-/
import YalafiVerif.Proofs.PlainMathRichE2E
import YalafiVerif.Generated.Init
namespace Yalafi

/-- **C10 end to end, full body class.**  `segs` is a document of inert text and inline formulas
    `$body$` / `\(body\)` (`PlainMathRich.Seg`, `PlainMathRich.render`); all side conditions on the
    document are in the decidable `PlainMathRich.SegsOk T st1 segs` (text inert; delimiters scanned
    as such, no `$$`; body characters none of `% # \ $ { }`, no special sequence at them; control
    words undeclared and neither `\text`-like, maths space nor ignored; special sequences scanned as
    such and ignored, maths space, or with a table entry; at least one maths token that is not
    maths space); `st1` is the state after `Parser.__init__`; no `--defs`, `--extr`, `--repl`,
    `--unkn`; single-language mode; `repls` is the inline placeholder collection of the current
    language, not empty, every entry visible and without line break; the language settings exist.
    With one unit of fuel per source character plus two, `tex2txt` succeeds and

    * the output text is the text segments with the `k`-th formula (k = 1, 2, …) replaced by
      `fTxt T (placeholder repls k) m` = [blank if the first maths token of the body is maths
      space] ++ entry `k mod length` of the collection ++ [the last character of the maths tokens'
      texts that is no white space, if it is one of `math_punctuation`] ++ [blank if the last maths
      token is maths space], where `m = mtoks T … body` are the maths tokens of the body (one per
      character that is no white space, per control word, per special sequence that is not
      ignored);
    * every text character maps to its own source position, every character of a replacement to
      `anchor m`, the position of the FIRST MATHS TOKEN of the body (reported 1-based);
    * nothing is reported as unknown (names inside maths are not listed) and no diagnostic is added. -/
theorem C10_inline_rich_e2e (T : PTables) (o : Options) (fs : FS) (thresh : Nat)
    (segs : List PlainMathRich.Seg) (fuel : Nat) (st1 : PState) (rot : Rot) (repls : List Str)
    (hdefs : o.defs = []) (hextr : o.extr = []) (hrepl : o.hasRepl = false) (hunkn : o.unkn = false)
    (hinit : initParser T fuel o (initialState T o false fs) = .ok ((), st1))
    (hok : PlainMathRich.SegsOk T st1 segs)
    (hrot : rotOf st1 (curSettings st1) = some rot) (hrepls : rot.inl = repls)
    (hne : repls ≠ []) (hvis : PlainMath.VisibleRepls repls)
    (hls : (settingsOf T (curSettings st1)).isSome = true)
    (hf : (PlainMathRich.render segs).length + 2 ≤ fuel) :
    ∃ r, tex2txt T fuel (PlainMathRich.render segs) o false thresh fs = .ok r ∧
      r.txt = (PlainMathRich.refRich T repls 0 0 segs).1 ∧
      r.pos = (PlainMathRich.refRich T repls 0 0 segs).2.map (· + 1) ∧
      r.unknowns = [] ∧ r.diags = st1.diags :=
  PlainMathRich.tex2txt_inline_rich T o fs thresh segs fuel st1 rot repls hdefs hextr hrepl hunkn hinit
    hok hrot hrepls hne hvis hls hf

/-- **no character of the formula source appears** (except the closing punctuation mark): under
    the hypotheses of `C10_inline_rich_e2e`, every character of the output is a character of a text
    segment, a character of a placeholder of the collection, a blank, or a `math_punctuation`
    character; and the text a single formula is replaced by (`fTxt`) consists of characters of its
    placeholder, blanks and `math_punctuation` characters only. -/
theorem C10_rich_no_source (T : PTables) (o : Options) (fs : FS) (thresh : Nat)
    (segs : List PlainMathRich.Seg) (fuel : Nat) (st1 : PState) (rot : Rot) (repls : List Str)
    (hdefs : o.defs = []) (hextr : o.extr = []) (hrepl : o.hasRepl = false) (hunkn : o.unkn = false)
    (hinit : initParser T fuel o (initialState T o false fs) = .ok ((), st1))
    (hok : PlainMathRich.SegsOk T st1 segs)
    (hrot : rotOf st1 (curSettings st1) = some rot) (hrepls : rot.inl = repls)
    (hne : repls ≠ []) (hvis : PlainMath.VisibleRepls repls)
    (hls : (settingsOf T (curSettings st1)).isSome = true)
    (hf : (PlainMathRich.render segs).length + 2 ≤ fuel) :
    (∃ r, tex2txt T fuel (PlainMathRich.render segs) o false thresh fs = .ok r ∧
      ∀ c ∈ r.txt, c ∈ PlainMathRich.textOf segs ∨ (∃ ph ∈ repls, c ∈ ph) ∨ c = ' ' ∨
        T.mathPunctuation.contains [c] = true) ∧
    (∀ ph m, ∀ c ∈ PlainMathRich.fTxt T ph m,
      c ∈ ph ∨ c = ' ' ∨ T.mathPunctuation.contains [c] = true) := by
  obtain ⟨r, h1, h2, _⟩ := C10_inline_rich_e2e T o fs thresh segs fuel st1 rot repls hdefs hextr hrepl
    hunkn hinit hok hrot hrepls hne hvis hls hf
  refine ⟨⟨r, h1, ?_⟩, PlainMathRich.fTxt_chars T⟩
  rw [h2]
  exact PlainMathRich.refRich_chars T repls hne segs 0 0

/-- **all generated characters map inside the formula**: for a formula of the class that starts
    at offset `p` (0-based), the position `anchor (mtoks …)` that `refRich` gives to every character
    of its replacement lies strictly between the delimiters — it is the offset of a character of the
    body (the first character of the first maths token). -/
theorem C10_rich_span (T : PTables) (st : PState) (par : Bool) (body : List PlainUnkn2.MPart) (R : Str)
    (p : Nat) (h : PlainMathRich.mathOk T st par body R = true) :
    p + (PlainMathRich.opn par).length
      ≤ PlainMathRich.anchor (PlainMathRich.mtoks T (p + (PlainMathRich.opn par).length) body) ∧
    PlainMathRich.anchor (PlainMathRich.mtoks T (p + (PlainMathRich.opn par).length) body)
      < p + (PlainMathRich.opn par).length + (PlainUnkn2.renderM body).length :=
  PlainMathRich.anchor_inside T st par body R p h

/-- **successive formulas receive successive placeholders, cyclically**: formula `k` (k = 1, 2, …)
    gets entry `k mod n` of the collection (`placeholder`, used by `refRich`); the entry of formula
    `k + 1` is the cyclic successor of the entry of formula `k`; formula `k + n` gets the entry of
    formula `k`; the first `n - 1` formulas get the entries 1, …, `n - 1` (the collection is rotated
    BEFORE the placeholder is taken, so entry 0 is used by formula `n`). -/
theorem C10_rich_rotation (repls : List Str) (k : Nat) :
    PlainMath.placeholder repls k = repls.getD (k % repls.length) [] ∧
    PlainMath.placeholder repls (k + 1) = repls.getD ((k % repls.length + 1) % repls.length) [] ∧
    PlainMath.placeholder repls (k + repls.length) = PlainMath.placeholder repls k ∧
    (k < repls.length → PlainMath.placeholder repls k = repls.getD k []) :=
  ⟨rfl, PlainMathRich.placeholder_succ repls k, PlainMathRich.placeholder_cyclic repls k,
    PlainMathRich.placeholder_lt repls k⟩

/-! ### the current code -/

/-- the inline collection of the default language after initialisation of the CURRENT code -/
def C10r_repls : List Str :=
  ((rotOf Generated.stDefault (curSettings Generated.stDefault)).map (·.inl)).getD []

/-- the hypotheses about the initialised parser hold for the tables translated from /repo -/
theorem C10r_current_facts :
    (rotOf Generated.stDefault (curSettings Generated.stDefault)).isSome = true ∧
    C10r_repls = ["B-B-B".toList, "C-C-C".toList, "D-D-D".toList, "E-E-E".toList, "F-F-F".toList,
                  "G-G-G".toList] ∧
    (settingsOf Generated.theTables (curSettings Generated.stDefault)).isSome = true := by
  unfold C10r_repls
  rw [Generated.stDefault_eq]; (repeat rw [String.toList_ofList]); decide +kernel

theorem C10r_repls_visible : PlainMath.VisibleRepls C10r_repls := by
  rw [C10r_current_facts.2.1]
  intro r hr
  simp only [List.mem_cons, List.not_mem_nil, or_false] at hr
  rcases hr with rfl | rfl | rfl | rfl | rfl | rfl <;> decide

/-- C10 end to end, full body class, for the CURRENT code (tables translated from /repo, parser
    initialisation evaluated by the kernel): for every document of the class the filter returns
    the reference output -/
theorem C10_inline_rich_e2e_current (segs : List PlainMathRich.Seg) (thresh : Nat)
    (hok : PlainMathRich.SegsOk Generated.theTables Generated.stDefault segs)
    (hf : (PlainMathRich.render segs).length + 2 ≤ Generated.bigFuel) :
    ∃ r, tex2txt Generated.theTables Generated.bigFuel (PlainMathRich.render segs)
        Generated.defaultOptions false thresh [] = .ok r ∧
      r.txt = (PlainMathRich.refRich Generated.theTables C10r_repls 0 0 segs).1 ∧
      r.pos = (PlainMathRich.refRich Generated.theTables C10r_repls 0 0 segs).2.map (· + 1) ∧
      r.unknowns = [] ∧ r.diags = Generated.stDefault.diags := by
  obtain ⟨h1, h2, h3⟩ := C10r_current_facts
  obtain ⟨rot, hrot⟩ := Option.isSome_iff_exists.mp h1
  have hr : rot.inl = C10r_repls := by simp [C10r_repls, hrot]
  exact C10_inline_rich_e2e Generated.theTables Generated.defaultOptions [] thresh segs Generated.bigFuel
    Generated.stDefault rot C10r_repls rfl rfl rfl rfl Generated.initParser_default hok hrot hr
    (by rw [h2]; simp) C10r_repls_visible h3 hf

/-- `Let $\alpha_1^{2n} + \frac{a}{b}$ and \(x\,\) hold, $\,y.$ and $\sqrt{2}$.` -/
def C10r_exampleDoc : List PlainMathRich.Seg :=
  [.txt "Let ".toList,
   .math false [.cw "alpha".toList, .spec "_".toList, .chars "1".toList, .spec "^".toList,
     .spec "{".toList, .chars "2n".toList, .spec "}".toList, .chars " + ".toList, .cw "frac".toList,
     .spec "{".toList, .chars "a".toList, .spec "}".toList, .spec "{".toList, .chars "b".toList,
     .spec "}".toList],
   .txt " and ".toList, .math true [.chars "x".toList, .spec "\\,".toList], .txt " hold, ".toList,
   .math false [.spec "\\,".toList, .chars "y.".toList], .txt " and ".toList,
   .math false [.cw "sqrt".toList, .spec "{".toList, .chars "2".toList, .spec "}".toList],
   .txt ".".toList]

theorem C10r_exampleDoc_src : PlainMathRich.render C10r_exampleDoc =
    "Let $\\alpha_1^{2n} + \\frac{a}{b}$ and \\(x\\,\\) hold, $\\,y.$ and $\\sqrt{2}$.".toList := by
  rw [String.toList_ofList]; decide +kernel

/-- the side conditions hold for the example on the real tables, and the reference output is:
    the four formulas get the entries 1, 2, 3, 4 of the collection; `\(x\,\)` ends with maths space
    (blank behind `D-D-D`), `$\,y.$` starts with maths space and ends with a full stop (blank in
    front of `E-E-E`, `.` behind it); the replacements sit at the 0-based offsets 5 (`\alpha`), 40
    (`x`), 53 (`\,` — the first maths token, not `y`) and 64 (`\sqrt`) -/
theorem C10_rich_example_current :
    PlainMathRich.SegsOk Generated.theTables Generated.stDefault C10r_exampleDoc ∧
    PlainMathRich.refRich Generated.theTables C10r_repls 0 0 C10r_exampleDoc
      = ("Let C-C-C and D-D-D  hold,  E-E-E. and F-F-F.".toList,
         [0, 1, 2, 3, 5, 5, 5, 5, 5, 33, 34, 35, 36, 37, 40, 40, 40, 40, 40, 40, 45, 46, 47, 48, 49,
          50, 51, 53, 53, 53, 53, 53, 53, 53, 58, 59, 60, 61, 62, 64, 64, 64, 64, 64, 73]) := by
  rw [Generated.stDefault_eq, C10r_current_facts.2.1]; (repeat rw [String.toList_ofList]); decide +kernel

/-- … so, for the current code, the filter maps the example to
    `Let C-C-C and D-D-D  hold,  E-E-E. and F-F-F.` with these (1-based) positions, no unknowns (not
    `\alpha`, `\frac`, `\sqrt`) and
    no diagnostic beyond those of the initialisation -/
theorem C10_rich_example_output :
    ∃ r, tex2txt Generated.theTables Generated.bigFuel (PlainMathRich.render C10r_exampleDoc)
        Generated.defaultOptions false 0 [] = .ok r ∧
      r.txt = "Let C-C-C and D-D-D  hold,  E-E-E. and F-F-F.".toList ∧
      r.pos = [1, 2, 3, 4, 6, 6, 6, 6, 6, 34, 35, 36, 37, 38, 41, 41, 41, 41, 41, 41, 46, 47, 48, 49,
               50, 51, 52, 54, 54, 54, 54, 54, 54, 54, 59, 60, 61, 62, 63, 65, 65, 65, 65, 65, 74] ∧
      r.unknowns = [] ∧ r.diags = Generated.stDefault.diags := by
  obtain ⟨r, h1, h2, h3, h4, h5⟩ := C10_inline_rich_e2e_current C10r_exampleDoc 0
    C10_rich_example_current.1 (by decide +kernel)
  refine ⟨r, h1, ?_, ?_, h4, h5⟩
  · rw [h2, C10_rich_example_current.2]
  · rw [h3, C10_rich_example_current.2]; rfl

/-- the same as a Boolean test of the whole filter on the source text, written out (from
    `C10_rich_example_output` and `C10r_exampleDoc_src`) -/
theorem C10_rich_example_eval :
    (match tex2txt Generated.theTables Generated.bigFuel
        "Let $\\alpha_1^{2n} + \\frac{a}{b}$ and \\(x\\,\\) hold, $\\,y.$ and $\\sqrt{2}$.".toList
        Generated.defaultOptions false 0 [] with
     | .ok r => r.txt == "Let C-C-C and D-D-D  hold,  E-E-E. and F-F-F.".toList &&
                r.pos == [1, 2, 3, 4, 6, 6, 6, 6, 6, 34, 35, 36, 37, 38, 41, 41, 41, 41, 41, 41, 46, 47,
                          48, 49, 50, 51, 52, 54, 54, 54, 54, 54, 54, 54, 59, 60, 61, 62, 63, 65, 65,
                          65, 65, 65, 74] &&
                r.unknowns == []
     | _ => false) = true := by
  obtain ⟨r, h1, h2, h3, h4, _⟩ := C10_rich_example_output
  rw [C10r_exampleDoc_src] at h1
  simp only [h1, h2, h3, h4, beq_self_eq_true, Bool.and_self]

/-- a second document on the real tables: unbalanced braces, a formula that starts AND ends with
    maths space (behind ignored tokens), `;` as the last visible character in front of `~` and `\!`,
    a line break between the formulas, and a `\(…\)` formula of special sequences only:
    `a ${\; x^}}\beta ;~\!$` / `\(--&''\)`  ↦  `a  C-C-C; ` / `D-D-D` -/
theorem C10_rich_example2_current :
    let doc : List PlainMathRich.Seg :=
      [.txt "a ".toList,
       .math false [.spec "{".toList, .spec "\\;".toList, .chars " x".toList, .spec "^".toList,
         .spec "}".toList, .spec "}".toList, .cw "beta".toList, .chars " ;".toList, .spec "~".toList,
         .spec "\\!".toList],
       .txt "\n".toList, .math true [.spec "--".toList, .spec "&".toList, .spec "''".toList]]
    PlainMathRich.render doc = "a ${\\; x^}}\\beta ;~\\!$\n\\(--&''\\)".toList ∧
    PlainMathRich.SegsOk Generated.theTables Generated.stDefault doc ∧
    PlainMathRich.refRich Generated.theTables C10r_repls 0 0 doc
      = ("a  C-C-C; \nD-D-D".toList, [0, 1, 4, 4, 4, 4, 4, 4, 4, 4, 22, 25, 25, 25, 25, 25]) := by
  rw [Generated.stDefault_eq, C10r_current_facts.2.1]; (repeat rw [String.toList_ofList]); decide +kernel

/-- OUTSIDE the class — a formula of maths space only: the model (kernel evaluation on the real
    tables) renders `A $\,$ B` as `A   B`: one blank at the position of `\,`, NO placeholder; and
    the collection is not rotated (the next formula gets the entry `C-C-C` of a first formula) -/
theorem C10_rich_only_space_eval :
    (match tex2txt Generated.theTables Generated.bigFuel "A $\\,$ B $x$".toList
        Generated.defaultOptions false 0 [] with
     | .ok r => r.txt == "A   B C-C-C".toList && r.pos == [1, 2, 4, 7, 8, 9, 11, 11, 11, 11, 11]
     | _ => false) = true := by
  rw [Generated.tex2txt_default]; decide +kernel

/-- the side conditions reject what they should: a formula of maths space only, of braces only,
    a declared macro (`\quad`), a `\text`-like macro (`\mbox`), touching formulas (`$a$$b$`), a
    closing delimiter of the other kind inside the body, a paragraph break in a formula -/
theorem C10_rich_rejects_current :
    ¬ PlainMathRich.SegsOk Generated.theTables Generated.stDefault [.math false [.spec "\\,".toList]] ∧
    ¬ PlainMathRich.SegsOk Generated.theTables Generated.stDefault
        [.math false [.spec "{".toList, .spec "}".toList]] ∧
    ¬ PlainMathRich.SegsOk Generated.theTables Generated.stDefault [.math false [.cw "quad".toList]] ∧
    ¬ PlainMathRich.SegsOk Generated.theTables Generated.stDefault [.math false [.cw "mbox".toList]] ∧
    ¬ PlainMathRich.SegsOk Generated.theTables Generated.stDefault
        [.math false [.chars "a".toList], .math false [.chars "b".toList]] ∧
    ¬ PlainMathRich.SegsOk Generated.theTables Generated.stDefault
        [.math false [.chars "a".toList, .spec "\\)".toList]] ∧
    ¬ PlainMathRich.SegsOk Generated.theTables Generated.stDefault
        [.math true [.chars "a\n\nb".toList]] := by
  rw [Generated.stDefault_eq]; decide +kernel

end Yalafi
