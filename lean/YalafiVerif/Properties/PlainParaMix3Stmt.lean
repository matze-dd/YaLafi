/-
  Properties/PlainParaMix3Stmt.lean — C05 "text flow is preserved", the PARAGRAPH-LEVEL reading, on
  the union grammar of TWENTY-TWO construct kinds (`PlainMix3.Seg`, the grammar of `C03_mix3_e2e`: the
  fourteen kinds of `PlainMix2` plus accent calls, rich inline formulas in both delimiters,
  `\newcommand` with parameters and uses, `\[…\]` and equation environments, list environments with
  `\item`): the relation between two words of a document.  The lift of `C05_paragraph_relation`,
  `C05_same_paragraph` (Properties/PlainParaStmt.lean).  A corollary layer over `C03_mix3_e2e`.
  Proofs, definitions, what the model does with displayed equations and list environments, what is
  not covered: Proofs/PlainParaMix3.lean (header).
-/
import YalafiVerif.Proofs.PlainParaMix3
import YalafiVerif.Properties.PlainMix3Stmt
import YalafiVerif.Generated.Init
namespace Yalafi

open PlainMix3.Para in
/-- **the paragraph relation between two text characters, 22-kind grammar.**  The document is
    `docAB A u a Mid b v B = A ++ .txt (u ++ [a]) :: (Mid ++ .txt (b :: v) :: B)` — two visible text
    characters `a` (0-based source position `posA A u`) and `b` (`posB A u Mid`), the source between
    them is `render Mid`.  Under the side conditions of `C03_mix3_e2e` for the document, `tex2txt`
    succeeds and its output, characters with (1-based) positions, is

        U ++ (a, posA + 1) :: (S ++ (b, posB + 1) :: V),      S = `between … Mid`

    (`S` = the output characters strictly between `a` and `b` = `PlainPara.sep` of the marks of `Mid`
    in its place — definitions in force, label generators, numbers of formulas and displayed
    equations behind `A`).  `srcView Mid` = the layout of the source between `a` and `b` as TeX reads
    it: text by the class of its characters, comments dropped, every other construct ONE INK BLOB —
    a control word WITH the white space it swallows, a call with its arguments, a definition, a use
    with its groups, an accent call, a displayed equation from `\[` to `\]` / `\begin{equation}` to
    `\end{equation}`, `\begin{itemize}`, `\item` WITH the white space behind it, `\end{itemize}`.

    * (i)+(ii) NO INVENTED, NO LOST BREAK: `S` holds a blank line (two line breaks with white space
      only between them) IFF `srcView Mid` does — under `midViewOk` (computable): the marks of every
      construct in `Mid` other than text and comments read as one ink blob (`blobOk`: no blank line
      inside, no leading `white space* line break`, the last character that is no blank is visible).
      In the model a displayed equation and `\item` generate NO line break (`mark, two blanks,
      placeholder, punctuation, mark` resp. `mark, blank, label, blank` stay in the line), so they
      satisfy it.  EXACT EXCEPTIONS (`midViewOk = false`): `\begin` / `\end` of a list environment
      declared with `add_pars` (they generate two line breaks — none on the tables of the current
      /repo); an accent call with an empty or white-space value (none on the real tables); a
      construct whose OUTPUT holds a blank line or starts / ends with a line break: an argument of a
      use of a user macro with a blank line inside (`\p{x⏎⏎y}`: the output has the blank line, the view
      has one blob — the raw source has the blank line too), a title, note, `\verb` content,
      placeholder, label, special value with such line breaks;
    * … without any condition, on the level of marks: `S` holds a blank line IFF the marks of `Mid`
      do (a text-less mark = a vanished construct counts as ink);
    * (i) on the raw source (under `midViewOk`): if `render Mid` with the comments cut out holds no
      blank line, `S` holds none;
    * (iii) NOT GLUED: if `srcView Mid` holds white space (a white-space character of a `txt`
      segment), `S` holds white space;
    * nothing is added: `S` is a subsequence of the output characters of `Mid` (`PlainMix3.plain`). -/
theorem C05_paragraph_relation_mix3 (T : PTables) (o : Options) (fs : FS) (thresh : Nat)
    (A : List PlainMix3.Seg) (u : Str) (a : Char) (Mid : List PlainMix3.Seg) (b : Char) (v : Str)
    (B : List PlainMix3.Seg) (fuel : Nat) (st1 : PState) (repls drepls : List Str)
    (hdefs : o.defs = []) (hextr : o.extr = []) (hrepl : o.hasRepl = false) (hunkn : o.unkn = false)
    (hinit : initParser T fuel o (initialState T o false fs) = .ok ((), st1))
    (hok : PlainMix3.SegsOk T st1 repls drepls (docAB A u a Mid b v B))
    (hf : (PlainMix3.render (docAB A u a Mid b v B)).length
            + PlainMix3.inserted [] 0 (docAB A u a Mid b v B) + 6 ≤ fuel)
    (ha : isSpace a = false) (hb : isSpace b = false) :
    ∃ r, tex2txt T fuel (PlainMix3.render (docAB A u a Mid b v B)) o false thresh fs = .ok r ∧
      ∃ U V, r.txt = (U ++ (a, posA A u) :: (between T st1 repls drepls A u Mid
                        ++ (b, posB A u Mid) :: V)).map (·.1) ∧
        r.pos = (U ++ (a, posA A u) :: (between T st1 repls drepls A u Mid
                        ++ (b, posB A u Mid) :: V)).map (·.2 + 1) ∧
        U = PlainPara.pre (frontMarks T st1 repls drepls A u) ∧
        V = PlainPara.post (backMarks T st1 repls drepls A u Mid v B)
              ++ PlainMix3.flows 0 (docAB A u a Mid b v B) ∧
        (midViewOk T st1 repls drepls A u Mid = true →
          PlainPara.hasBlank ((between T st1 repls drepls A u Mid).map PlainPara.clsP)
            = PlainPara.hasBlank (srcView Mid)) ∧
        PlainPara.hasBlank ((between T st1 repls drepls A u Mid).map PlainPara.clsP)
          = PlainPara.hasBlank ((midMarks T st1 repls drepls A u Mid).map PlainPara.clsM) ∧
        (midViewOk T st1 repls drepls A u Mid = true →
          PlainPara.hasBlankLine (PlainMix3.render (stripCom Mid)) = false →
          PlainPara.hasBlank ((between T st1 repls drepls A u Mid).map PlainPara.clsP) = false) ∧
        ((srcView Mid).any (fun c => c != .ink) = true →
          (between T st1 repls drepls A u Mid).any (fun cp => isSpace cp.1) = true) ∧
        List.Sublist (between T st1 repls drepls A u Mid)
          (PlainMix3.plain T st1 repls drepls (SystemWord.envAfter [] A)
            (SystemWord.stkAfter st1 st1.itemStack A) (PlainMix3.nFormulas A) (PlainMix3.nDisplays A)
            (posA A u + 1) Mid) := by
  obtain ⟨r, h1, h2, h3, _⟩ :=
    PlainMix3.tex2txt_mix3 T o fs thresh _ fuel st1 repls drepls hdefs hextr hrepl hunkn hinit hok hf
  rw [ref_docAB T st1 repls drepls A u a Mid b v B ha hb] at h2 h3
  refine ⟨r, h1, _, _, ?_, ?_, rfl, rfl, ?_, ?_, ?_, ?_, ?_⟩
  · rw [h2]; simp only [List.append_assoc, List.cons_append]
  · rw [h3]; simp only [List.append_assoc, List.cons_append]
  · exact between_blank T st1 repls drepls A u Mid
  · exact between_blank_marks T st1 repls drepls A u Mid
  · intro hn hraw
    exact between_blank_raw T st1 repls drepls A u Mid hn (spcVis_mid T st1 A u a Mid b v B hok.2.1) hraw
  · exact between_space T st1 repls drepls A u Mid
  · exact between_sublist T st1 repls drepls A u Mid

open PlainMix3.Para in
/-- **no invented, no lost paragraph break — the readable form.**  If no construct between `a` and
    `b` OUTPUTS a line break (`midOutNoNl`, computable: for every construct of `Mid` other than text
    and comments, `PlainMix3.plain` of the construct in its place — special value, `\verb` content,
    placeholder and punctuation of a formula or displayed equation, reference placeholder, note,
    title, EXPANSION of a use, label of an item, the line breaks of `add_pars` — holds no line
    break, and the value of an accent call holds a visible character), then the output between `a`
    and `b` holds a blank line IFF the source view does.  Displayed equations and `\item` satisfy
    the condition (they generate no line break in the model); on the tables of the current /repo
    `\begin{enumerate}` … `\end{itemize}` do, too. -/
theorem C05_paragraph_iff_mix3 (T : PTables) (o : Options) (fs : FS) (thresh : Nat)
    (A : List PlainMix3.Seg) (u : Str) (a : Char) (Mid : List PlainMix3.Seg) (b : Char) (v : Str)
    (B : List PlainMix3.Seg) (fuel : Nat) (st1 : PState) (repls drepls : List Str)
    (hdefs : o.defs = []) (hextr : o.extr = []) (hrepl : o.hasRepl = false) (hunkn : o.unkn = false)
    (hinit : initParser T fuel o (initialState T o false fs) = .ok ((), st1))
    (hok : PlainMix3.SegsOk T st1 repls drepls (docAB A u a Mid b v B))
    (hf : (PlainMix3.render (docAB A u a Mid b v B)).length
            + PlainMix3.inserted [] 0 (docAB A u a Mid b v B) + 6 ≤ fuel)
    (ha : isSpace a = false) (hb : isSpace b = false)
    (hout : midOutNoNl T st1 repls drepls A u Mid = true) :
    ∃ r U S V, tex2txt T fuel (PlainMix3.render (docAB A u a Mid b v B)) o false thresh fs = .ok r ∧
      r.txt = (U ++ (a, posA A u) :: (S ++ (b, posB A u Mid) :: V)).map (·.1) ∧
      r.pos = (U ++ (a, posA A u) :: (S ++ (b, posB A u Mid) :: V)).map (·.2 + 1) ∧
      S = between T st1 repls drepls A u Mid ∧
      PlainPara.hasBlankLine (S.map (·.1)) = PlainPara.hasBlank (srcView Mid) ∧
      (PlainPara.hasBlankLine (PlainMix3.render (stripCom Mid)) = false →
        PlainPara.hasBlankLine (S.map (·.1)) = false) := by
  obtain ⟨r, h1, U, V, h2, h3, _, _, h4, _, h5, _, _⟩ :=
    C05_paragraph_relation_mix3 T o fs thresh A u a Mid b v B fuel st1 repls drepls hdefs hextr hrepl hunkn
      hinit hok hf ha hb
  have hv : midViewOk T st1 repls drepls A u Mid = true := viewOk_of_outNoNl T st1 repls drepls Mid _ _ _ _ _ hout
  have e : PlainPara.hasBlankLine ((between T st1 repls drepls A u Mid).map (·.1))
      = PlainPara.hasBlank ((between T st1 repls drepls A u Mid).map PlainPara.clsP) := by
    simp only [PlainPara.hasBlankLine, List.map_map, Function.comp_def]
    rfl
  refine ⟨r, U, _, V, h1, h2, h3, rfl, ?_, ?_⟩
  · rw [e]; exact h4 hv
  · intro hraw
    rw [e]; exact h5 hv hraw

open PlainMix3.Para in
/-- **two words separated only by white space, comments and vanishing constructs** (`gap st1 Mid`:
    white space, `%` comments, unknown control words with the white space they swallow, vanishing
    calls `\label{…}` / `\index{…}`, braces, footnotes, DEFINITIONS `\newcommand…`, `\begin{name}` /
    `\end{name}` of list environments without `add_pars`).  Then between `a` and `b` the output holds
    ONLY WHITE SPACE; it holds a blank line — `a` and `b` are in different output paragraphs — IFF the
    source between them holds a blank line outside comments and not counting the white space behind
    a control word (`srcView`); in particular a line that becomes blank only because its constructs
    vanished (a line with a `\newcommand`, with `\begin{enumerate}`) is no paragraph break, a line
    that is blank in the source is one; if the source holds any white space between them (outside
    comments, not behind a control word) the words are not glued; every position in `S` lies
    strictly between those of `a` and `b`. -/
theorem C05_same_paragraph_mix3 (T : PTables) (o : Options) (fs : FS) (thresh : Nat)
    (A : List PlainMix3.Seg) (u : Str) (a : Char) (Mid : List PlainMix3.Seg) (b : Char) (v : Str)
    (B : List PlainMix3.Seg) (fuel : Nat) (st1 : PState) (repls drepls : List Str)
    (hdefs : o.defs = []) (hextr : o.extr = []) (hrepl : o.hasRepl = false) (hunkn : o.unkn = false)
    (hinit : initParser T fuel o (initialState T o false fs) = .ok ((), st1))
    (hok : PlainMix3.SegsOk T st1 repls drepls (docAB A u a Mid b v B))
    (hf : (PlainMix3.render (docAB A u a Mid b v B)).length
            + PlainMix3.inserted [] 0 (docAB A u a Mid b v B) + 6 ≤ fuel)
    (ha : isSpace a = false) (hb : isSpace b = false) (hgap : gap st1 Mid = true) :
    ∃ r U S V, tex2txt T fuel (PlainMix3.render (docAB A u a Mid b v B)) o false thresh fs = .ok r ∧
      r.txt = (U ++ (a, posA A u) :: (S ++ (b, posB A u Mid) :: V)).map (·.1) ∧
      r.pos = (U ++ (a, posA A u) :: (S ++ (b, posB A u Mid) :: V)).map (·.2 + 1) ∧
      (∀ cp ∈ S, isSpace cp.1 = true) ∧
      PlainPara.hasBlankLine (S.map (·.1)) = PlainPara.hasBlank (srcView Mid) ∧
      ((srcView Mid).any (fun c => c != .ink) = true → S ≠ []) ∧
      (∀ cp ∈ S, posA A u < cp.2 ∧ cp.2 < posB A u Mid) := by
  obtain ⟨r, h1, U, V, h2, h3, _, _, h4, _, _, h5, _⟩ :=
    C05_paragraph_relation_mix3 T o fs thresh A u a Mid b v B fuel st1 repls drepls hdefs hextr hrepl hunkn
      hinit hok hf ha hb
  refine ⟨r, U, between T st1 repls drepls A u Mid, V, h1, h2, h3,
    between_gap T st1 repls drepls A u Mid hgap, ?_, ?_, between_gap_pos T st1 repls drepls A u Mid hgap⟩
  · have := h4 (viewOk_of_gap T st1 repls drepls Mid _ _ _ _ _ hgap)
    rw [← this]
    simp only [PlainPara.hasBlankLine, List.map_map, Function.comp_def]
    rfl
  · intro h hS
    have := h5 h
    rw [hS] at this
    simp at this

/-! ### the current code -/

open PlainMix3.Para in
/-- the paragraph relation for the CURRENT code (tables translated from /repo, default options,
    parser initialisation evaluated by the kernel): (i)+(ii) and (iii) -/
theorem C05_paragraph_relation_mix3_current (A : List PlainMix3.Seg) (u : Str) (a : Char)
    (Mid : List PlainMix3.Seg) (b : Char) (v : Str) (B : List PlainMix3.Seg) (repls drepls : List Str)
    (thresh : Nat)
    (hok : PlainMix3.SegsOk Generated.theTables Generated.stDefault repls drepls (docAB A u a Mid b v B))
    (hf : (PlainMix3.render (docAB A u a Mid b v B)).length
            + PlainMix3.inserted [] 0 (docAB A u a Mid b v B) + 6 ≤ Generated.bigFuel)
    (ha : isSpace a = false) (hb : isSpace b = false)
    (hview : midViewOk Generated.theTables Generated.stDefault repls drepls A u Mid = true) :
    ∃ r U S V, tex2txt Generated.theTables Generated.bigFuel (PlainMix3.render (docAB A u a Mid b v B))
        Generated.defaultOptions false thresh [] = .ok r ∧
      r.txt = (U ++ (a, posA A u) :: (S ++ (b, posB A u Mid) :: V)).map (·.1) ∧
      r.pos = (U ++ (a, posA A u) :: (S ++ (b, posB A u Mid) :: V)).map (·.2 + 1) ∧
      S = between Generated.theTables Generated.stDefault repls drepls A u Mid ∧
      PlainPara.hasBlank (S.map PlainPara.clsP) = PlainPara.hasBlank (srcView Mid) ∧
      ((srcView Mid).any (fun c => c != .ink) = true → S.any (fun cp => isSpace cp.1) = true) := by
  obtain ⟨r, h1, U, V, h2, h3, _, _, h4, _, _, h5, _⟩ :=
    C05_paragraph_relation_mix3 Generated.theTables Generated.defaultOptions [] thresh A u a Mid b v B
      Generated.bigFuel Generated.stDefault repls drepls rfl rfl rfl rfl Generated.initParser_default
      hok hf ha hb
  exact ⟨r, U, _, V, h1, h2, h3, rfl, h4 hview, h5⟩

open PlainMix3.Para in
/-- `C05_same_paragraph_mix3` for the CURRENT code -/
theorem C05_same_paragraph_mix3_current (A : List PlainMix3.Seg) (u : Str) (a : Char)
    (Mid : List PlainMix3.Seg) (b : Char) (v : Str) (B : List PlainMix3.Seg) (repls drepls : List Str)
    (thresh : Nat)
    (hok : PlainMix3.SegsOk Generated.theTables Generated.stDefault repls drepls (docAB A u a Mid b v B))
    (hf : (PlainMix3.render (docAB A u a Mid b v B)).length
            + PlainMix3.inserted [] 0 (docAB A u a Mid b v B) + 6 ≤ Generated.bigFuel)
    (ha : isSpace a = false) (hb : isSpace b = false) (hgap : gap Generated.stDefault Mid = true) :
    ∃ r U S V, tex2txt Generated.theTables Generated.bigFuel (PlainMix3.render (docAB A u a Mid b v B))
        Generated.defaultOptions false thresh [] = .ok r ∧
      r.txt = (U ++ (a, posA A u) :: (S ++ (b, posB A u Mid) :: V)).map (·.1) ∧
      r.pos = (U ++ (a, posA A u) :: (S ++ (b, posB A u Mid) :: V)).map (·.2 + 1) ∧
      (∀ cp ∈ S, isSpace cp.1 = true) ∧
      PlainPara.hasBlankLine (S.map (·.1)) = PlainPara.hasBlank (srcView Mid) ∧
      ((srcView Mid).any (fun c => c != .ink) = true → S ≠ []) ∧
      (∀ cp ∈ S, posA A u < cp.2 ∧ cp.2 < posB A u Mid) :=
  C05_same_paragraph_mix3 Generated.theTables Generated.defaultOptions [] thresh A u a Mid b v B
    Generated.bigFuel Generated.stDefault repls drepls rfl rfl rfl rfl Generated.initParser_default hok hf
    ha hb hgap

/-- the tail of the example document: `⏎\end{enumerate}⏎five⏎` behind `four` -/
def C05_para3_tail : List PlainMix3.Seg :=
  [.txt "\n".toList, .en "enumerate".toList, .txt "\nfive\n".toList]

/-- the definition `\newcommand{\p}[1]{<#1>}` -/
def C05_para3_defn : PlainMix3.Seg := .defn "p".toList 1 [.lit "<".toList, .par 1, .lit ">".toList]

/-- the front of the example document: `One\newcommand{\p}[1]{<#1>}⏎\begin{enumerate}⏎\item ` -/
def C05_para3_front : List PlainMix3.Seg :=
  [.txt "One".toList, C05_para3_defn, .txt "\n".toList, .beg "enumerate".toList, .txt "\n".toList,
   .item " ".toList]

/-- The example document

        One\newcommand{\p}[1]{<#1>}
        \begin{enumerate}
        \item two \p{x} three
        \[ a = b. \]

        four
        \end{enumerate}
        five

    cut at `One` / `two`: between them a definition, a line break, a line that holds only
    `\begin{enumerate}`, its line break, `\item` and its blank. -/
def C05_para3_doc1 : List PlainMix3.Seg :=
  PlainMix3.Para.docAB [] "On".toList 'e'
    [C05_para3_defn, .txt "\n".toList, .beg "enumerate".toList, .txt "\n".toList, .item " ".toList]
    't' "wo ".toList
    ([.use "p".toList ["x".toList], .txt " three\n".toList, .disp " a = b. ".toList, .txt "\n\nfour".toList]
      ++ C05_para3_tail)

/-- … cut at `three` / `four`: a line break, a displayed equation on its own line, a blank line -/
def C05_para3_doc2 : List PlainMix3.Seg :=
  PlainMix3.Para.docAB (C05_para3_front ++ [.txt "two ".toList, .use "p".toList ["x".toList]])
    " thre".toList 'e' [.txt "\n".toList, .disp " a = b. ".toList, .txt "\n\n".toList] 'f' "our".toList
    C05_para3_tail

/-- … cut at `four` / `five`: a line that holds only `\end{enumerate}` (a gap) -/
def C05_para3_doc3 : List PlainMix3.Seg :=
  PlainMix3.Para.docAB
    (C05_para3_front ++ [.txt "two ".toList, .use "p".toList ["x".toList], .txt " three\n".toList,
      .disp " a = b. ".toList])
    "\n\nfou".toList 'r' [.txt "\n".toList, .en "enumerate".toList, .txt "\n".toList] 'f' "ive\n".toList []

/-- the three cuts are the same source text; the side conditions hold for them on the real
    tables; `midViewOk` and the readable `midOutNoNl` hold for the first two pieces between the
    words; the third one is a gap -/
theorem C05_para3_example_current :
    PlainMix3.render C05_para3_doc1
      = "One\\newcommand{\\p}[1]{<#1>}\n\\begin{enumerate}\n\\item two \\p{x} three\n\\[ a = b. \\]\n\nfour\n\\end{enumerate}\nfive\n".toList ∧
    PlainMix3.render C05_para3_doc2 = PlainMix3.render C05_para3_doc1 ∧
    PlainMix3.render C05_para3_doc3 = PlainMix3.render C05_para3_doc1 ∧
    PlainMix3.SegsOk Generated.theTables Generated.stDefault C03_mix3_repls C03_mix3_drepls C05_para3_doc1 ∧
    PlainMix3.SegsOk Generated.theTables Generated.stDefault C03_mix3_repls C03_mix3_drepls C05_para3_doc2 ∧
    PlainMix3.SegsOk Generated.theTables Generated.stDefault C03_mix3_repls C03_mix3_drepls C05_para3_doc3 ∧
    PlainMix3.Para.midViewOk Generated.theTables Generated.stDefault C03_mix3_repls C03_mix3_drepls
      [] "On".toList
      [C05_para3_defn, .txt "\n".toList, .beg "enumerate".toList, .txt "\n".toList, .item " ".toList] = true ∧
    PlainMix3.Para.midViewOk Generated.theTables Generated.stDefault C03_mix3_repls C03_mix3_drepls
      (C05_para3_front ++ [.txt "two ".toList, .use "p".toList ["x".toList]]) " thre".toList
      [.txt "\n".toList, .disp " a = b. ".toList, .txt "\n\n".toList] = true ∧
    PlainMix3.Para.midOutNoNl Generated.theTables Generated.stDefault C03_mix3_repls C03_mix3_drepls
      [] "On".toList
      [C05_para3_defn, .txt "\n".toList, .beg "enumerate".toList, .txt "\n".toList, .item " ".toList] = true ∧
    PlainMix3.Para.midOutNoNl Generated.theTables Generated.stDefault C03_mix3_repls C03_mix3_drepls
      (C05_para3_front ++ [.txt "two ".toList, .use "p".toList ["x".toList]]) " thre".toList
      [.txt "\n".toList, .disp " a = b. ".toList, .txt "\n\n".toList] = true ∧
    PlainMix3.Para.gap Generated.stDefault [.txt "\n".toList, .en "enumerate".toList, .txt "\n".toList] = true := by
  rw [Generated.stDefault_eq, String.toList_ofList]; decide +kernel

open PlainMix3.Para PlainPara in
/-- … and this is what the theorem says about the three pairs of words (output between them with
    0-based positions; blank line in the source view):
    `One` / `two`: one line break (the one behind the definition; the `\begin{enumerate}` line is
    gone with its line break), then the blank, the label `1.` and the blank of `\item` — no blank
    line: same paragraph, not glued;
    `three` / `four`: a line break, the line `␣␣V-V-V.` of the displayed equation (two blanks at the
    backslash, placeholder and full stop pinned into the body), its line break and the line break
    of the blank line — a blank line, in the source view too;
    `four` / `five`: one line break — the `\end{enumerate}` line is gone with its line break. -/
theorem C05_para3_example_ref :
    between Generated.theTables Generated.stDefault C03_mix3_repls C03_mix3_drepls [] "On".toList
        [C05_para3_defn, .txt "\n".toList, .beg "enumerate".toList, .txt "\n".toList, .item " ".toList]
      = [('\n', 27), (' ', 46), ('1', 46), ('.', 46), (' ', 46)] ∧
    hasBlank (srcView [C05_para3_defn, .txt "\n".toList, .beg "enumerate".toList, .txt "\n".toList,
        .item " ".toList]) = false ∧
    between Generated.theTables Generated.stDefault C03_mix3_repls C03_mix3_drepls
        (C05_para3_front ++ [.txt "two ".toList, .use "p".toList ["x".toList]]) " thre".toList
        [.txt "\n".toList, .disp " a = b. ".toList, .txt "\n\n".toList]
      = [('\n', 67), (' ', 68), (' ', 68), ('V', 71), ('-', 71), ('V', 71), ('-', 71), ('V', 71),
         ('.', 71), ('\n', 80), ('\n', 81)] ∧
    hasBlank (srcView [.txt "\n".toList, .disp " a = b. ".toList, .txt "\n\n".toList]) = true ∧
    between Generated.theTables Generated.stDefault C03_mix3_repls C03_mix3_drepls
        (C05_para3_front ++ [.txt "two ".toList, .use "p".toList ["x".toList], .txt " three\n".toList,
          .disp " a = b. ".toList]) "\n\nfou".toList
        [.txt "\n".toList, .en "enumerate".toList, .txt "\n".toList]
      = [('\n', 86)] ∧
    hasBlank (srcView [.txt "\n".toList, .en "enumerate".toList, .txt "\n".toList]) = false := by
  rw [Generated.stDefault_eq]; decide +kernel

/-- … which is what the model computes (evaluated by the kernel): text and positions -/
theorem C05_para3_example_eval :
    (match tex2txt Generated.theTables Generated.bigFuel (PlainMix3.render C05_para3_doc1)
        Generated.defaultOptions false 0 [] with
     | .ok r =>
       r.txt == "One\n 1. two <x> three\n  V-V-V.\n\nfour\nfive\n".toList &&
       r.pos == [1, 2, 3, 28, 47, 47, 47, 47, 53, 54, 55, 56, 60, 60, 60, 62, 63, 64, 65, 66, 67,
         68, 69, 69, 72, 72, 72, 72, 72, 72, 81, 82, 83, 84, 85, 86, 87, 104, 105, 106, 107, 108]
     | _ => false) = true := by
  rw [Generated.tex2txt_default]; decide +kernel

open PlainMix3.Para PlainPara in
/-- ONE OF THE EXCEPTIONS (an argument with a blank line), on a concrete document of the grammar
    (all side conditions of `C03_mix3_e2e` hold on the real tables):

        \newcommand{\p}[1]{<#1>}
        One
        \p{x

        y}
        two

    The argument of the use holds a blank line.  The output between `One` and `two` is
    `⏎<x⏎⏎y>⏎` — it HOLDS a blank line; the source view (the use with its argument = one ink blob)
    holds none; `midViewOk` is false; the raw source holds the blank line. -/
theorem C05_para3_exception :
    PlainMix3.SegsOk Generated.theTables Generated.stDefault C03_mix3_repls C03_mix3_drepls
      (docAB [C05_para3_defn, .txt "\n".toList] "On".toList 'e'
        [.txt "\n".toList, .use "p".toList ["x\n\ny".toList], .txt "\n".toList] 't' "wo\n".toList []) ∧
    between Generated.theTables Generated.stDefault C03_mix3_repls C03_mix3_drepls
        [C05_para3_defn, .txt "\n".toList] "On".toList
        [.txt "\n".toList, .use "p".toList ["x\n\ny".toList], .txt "\n".toList]
      = [('\n', 28), ('<', 32), ('x', 32), ('\n', 33), ('\n', 34), ('y', 35), ('>', 35), ('\n', 37)] ∧
    hasBlank (srcView [.txt "\n".toList, .use "p".toList ["x\n\ny".toList], .txt "\n".toList]) = false ∧
    midViewOk Generated.theTables Generated.stDefault C03_mix3_repls C03_mix3_drepls
        [C05_para3_defn, .txt "\n".toList] "On".toList
        [.txt "\n".toList, .use "p".toList ["x\n\ny".toList], .txt "\n".toList] = false ∧
    hasBlankLine (PlainMix3.render (stripCom [.txt "\n".toList, .use "p".toList ["x\n\ny".toList],
        .txt "\n".toList])) = true := by
  rw [Generated.stDefault_eq]; decide +kernel

end Yalafi
