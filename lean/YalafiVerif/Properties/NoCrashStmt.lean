/-
  Properties/NoCrashStmt.lean — the last step of C07 on the model:
  THE FILTER MODEL NEVER ENDS IN `.crash`, whatever the input.

  Claim.  For the tables translated from the current /repo, and for EVERY fuel, source text, option record, mode
  (`multi`), threshold and file system, `tex2txt` of the model is never `.crash site`, for any `site`
  (`C07_tex2txt_never_crashes_current`).  It ends in `.ok …`, `.fatal …` (`utils.fatal`, a regular exit of the
  filter) or `.outOfFuel` (an artefact of the model: not enough fuel); nothing is claimed about which of them.

  Parametric form (`C07_tex2txt_never_crashes`): three decidable conditions on the tables,
  * `hw  : T.WFInv`                       the well-formedness of the range bundle (first induction on fuel,
                                          `C07_tex2txt_no_crash`: a crash site is in `allowedCrash`);
  * `hne : NoEmpty.tblOkB T = true`       second induction (`C07_no_capfirst_crash`: not the `cap_first` site);
  * `hop : noOpaqueB T = true`            third induction (this file): no module of the tables is marked
                                          `isOpaque`, and no macro or environment declared in the tables
                                          (`macroDefsPython`, `noSpecialsMacros`, `environmentDefs`) or in a module
                                          (`macros`, `envs`) has handler or `end_func` `.opaqueH _`.
  All three are proved for `Generated.theTables` by `decide +kernel`
  (`Generated.wfInv`, `C07_tblOk_current`, `C07_noOpaque_current`).  `noOpaqueB` follows from the first three
  facts of `C07_no_opaque_module_current` (Properties/CleverefStmt.lean): `C07_noOpaque_of_facts` (this direction only).

  How the third step is proved (`Proofs/NoOpaque*.lean`): the two markers are produced at exactly two places of
  Model/Expander.lean, `modifyParameters` (`if mod.isOpaque`) and `callHandler` (`| .opaqueH _`).  Invariant of
  the parser state: every definition in `st.macros` and `st.envs` has handler and `end_func` ≠ `.opaqueH _`
  (no other field of `PState` stores a definition).  It holds initially (both lists empty), and every function of
  the mutual block keeps it: definitions are loaded from the tables / modules (`TOk T`), or created by the model
  with handler `.none` (`\newcommand`, `\def`, sed macros, `initExtractions`, the local `\item` macro),
  `.theorem _` (`\newtheorem`), `.cref ..` / `.crefrange ..` (`h_read_sed`).  A module handed to `initPackage` /
  `modifyParameters` is a module of the tables (`findModule`), `emptyModule`, or `builtinModule`: never opaque.
  Induction on fuel over the 21 functions (`NoOpaque.AllGood`), one generic tactic (`good`) for the monadic
  structure, `handler_step` = one `cases` on the handler.

  NOT covered: nothing is said about `fatal` / `outOfFuel`; the statement is about the MODEL (its tie to the
  Python code is the differential correspondence check), for tables that satisfy the three conditions (the current
  ones do; a future /repo with a handler the translator does not recognise makes `noOpaqueB` false and the
  `_current` instance fails to build — as intended).
-/
import YalafiVerif.Proofs.NoOpaqueMain
import YalafiVerif.Properties.NoEmptyStmt
import YalafiVerif.Properties.CleverefStmt
import YalafiVerif.Generated.Init
import YalafiVerif.Generated.WF
namespace Yalafi

open NoOpaque

/-- third step alone: under `noOpaqueB T` the filter model never ends in one of the two `opaque …` markers -/
theorem C07_tex2txt_no_opaque_crash (T : PTables) (hop : noOpaqueB T = true)
    (fuel : Nat) (latex : Str) (o : Options) (multi : Bool) (thresh : Nat) (fs : FS) :
    tex2txt T fuel latex o multi thresh fs ≠ .crash "opaque module (not modelled)" ∧
    tex2txt T fuel latex o multi thresh fs ≠ .crash "opaque handler (not modelled)" :=
  tex2txt_noOpaque (noOpaqueB_TOk T hop) fuel latex o multi thresh fs

/-- **C07 on the model**: for tables that satisfy the three decidable conditions, the filter model never ends in
    `.crash`, for every fuel, source text, options, mode, threshold and file system -/
theorem C07_tex2txt_never_crashes (T : PTables) (hw : T.WFInv) (hne : NoEmpty.tblOkB T = true)
    (hop : noOpaqueB T = true)
    (fuel : Nat) (latex : Str) (o : Options) (multi : Bool) (thresh : Nat) (fs : FS) (site : String) :
    tex2txt T fuel latex o multi thresh fs ≠ .crash site := by
  intro h
  have h3 := C07_tex2txt_no_opaque_crash T hop fuel latex o multi thresh fs
  rcases C07_tex2txt_crash_only_opaque T hw hne fuel latex o multi thresh fs site h with h1 | h1
  · subst h1; exact h3.1 h
  · subst h1; exact h3.2 h

theorem C07_noOpaque_current : noOpaqueB Generated.theTables = true := by decide +kernel

/-- **C07 for the current /repo**: the filter model NEVER ends in `.crash`, whatever the input -/
theorem C07_tex2txt_never_crashes_current (fuel : Nat) (latex : Str) (o : Options) (multi : Bool) (thresh : Nat)
    (fs : FS) (site : String) :
    tex2txt Generated.theTables fuel latex o multi thresh fs ≠ .crash site :=
  C07_tex2txt_never_crashes Generated.theTables Generated.wfInv C07_tblOk_current C07_noOpaque_current
    fuel latex o multi thresh fs site

theorem C07_tex2txt_outcome_current (fuel : Nat) (latex : Str) (o : Options) (multi : Bool) (thresh : Nat)
    (fs : FS) :
    (∃ r, tex2txt Generated.theTables fuel latex o multi thresh fs = .ok r) ∨
    (∃ m, tex2txt Generated.theTables fuel latex o multi thresh fs = .fatal m) ∨
    tex2txt Generated.theTables fuel latex o multi thresh fs = .outOfFuel := by
  have h := C07_tex2txt_never_crashes_current fuel latex o multi thresh fs
  cases hx : tex2txt Generated.theTables fuel latex o multi thresh fs with
  | ok r => exact Or.inl ⟨r, rfl⟩
  | fatal m => exact Or.inr (Or.inl ⟨m, rfl⟩)
  | crash c => exact absurd hx (h c)
  | outOfFuel => exact Or.inr (Or.inr rfl)

/-- `noOpaqueB` follows from the first three facts `C07_no_opaque_module_current` decides (the converse is not stated) -/
theorem C07_noOpaque_of_facts (T : PTables)
    (h1 : ∀ m ∈ T.packageModules ++ T.classModules, m.isOpaque = false)
    (h2 : ∀ m ∈ T.packageModules ++ T.classModules,
      ∀ d ∈ m.macros ++ m.envs, isOpaqueH d.handler = false ∧ isOpaqueH d.endFunc = false)
    (h3 : ∀ d ∈ T.macroDefsPython ++ T.noSpecialsMacros ++ T.environmentDefs,
      isOpaqueH d.handler = false ∧ isOpaqueH d.endFunc = false) :
    noOpaqueB T = true := by
  have e : ∀ h, opq h = isOpaqueH h := by intro h; cases h <;> rfl
  simp only [noOpaqueB, modOkB, dOkB, Bool.and_eq_true, List.all_eq_true, Bool.not_eq_true', e]
  refine ⟨fun m hm => ⟨⟨h1 m hm, fun d hd => h2 m hm d (List.mem_append_left _ hd)⟩,
    fun d hd => h2 m hm d (List.mem_append_right _ hd)⟩, h3⟩

/-- … so `noOpaqueB` of the current tables also follows from `C07_no_opaque_module_current` -/
theorem C07_noOpaque_current' : noOpaqueB Generated.theTables = true :=
  C07_noOpaque_of_facts Generated.theTables C07_no_opaque_module_current.1 C07_no_opaque_module_current.2.1
    C07_no_opaque_module_current.2.2.1

/-- non-vacuity of the precondition of `callHandler`'s specification: the marker IS produced by an opaque
    handler (so the table condition is needed) -/
example (T : PTables) (buf : Buf) (mac : MacroDef) (st : PState) :
    callHandler T 1 (.opaqueH []) buf mac [] 0 st = .crash "opaque handler (not modelled)" := by
  simp only [callHandler]; rfl


end Yalafi
