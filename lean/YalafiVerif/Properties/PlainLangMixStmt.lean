/-
  Properties/PlainLangMixStmt.lean — C12 "… the language in force at the word according to the initial
  language, \selectlanguage, \foreignlanguage and the otherlanguage environments, including nesting
  …", end to end on the model, for documents that MIX all language constructs of package babel
  (multi-language mode).
  Proofs: Proofs/PlainLangMixML.lean (`get_txt_pos_ml` on any token list, as a plan),
  Proofs/PlainLangMix.lean (expander), Proofs/PlainLangMixSrc.lean (documents, side conditions,
  scanner), Proofs/PlainLangMixE2E.lean (end to end; its header lists the grammar, the reference and
  all side conditions), Proofs/PlainLangMixCor.lean (`langAt`, corollaries).
-/
import YalafiVerif.Proofs.PlainLangMixCor
import YalafiVerif.Properties.PlainForeignStmt
import YalafiVerif.Generated.Init
namespace Yalafi
namespace PlainLangMix
open Generated
open PlainForeign (lcOf partOf)

/-- **C12 for mixed language constructs, end to end** (`Proofs/PlainLangMixE2E.lean`, `tex2txt_mix`).
    The source is `render segs`, a flat list of segments: inert text `txt s`, `sel name` =
    `\selectlanguage{name}`, `frn name body` = `\foreignlanguage{name}{body}`, `beg star name` =
    `\begin{otherlanguage[*]}{name}`, `fin star sp` = `\end{otherlanguage[*]}` with the white space `sp`
    behind it — in any order, environments nested to any depth (`env star name body sp = beg star
    name :: body ++ [fin star sp]` with an arbitrary `body`), not even necessarily balanced.
    Hypotheses: no `--defs`, `--extr`, `--repl`; `st1` is the parser state after `Parser.__init__` in
    MULTI-LANGUAGE mode, its multi-language flag is set and its language stack is not empty; every
    settings code has a non-empty language-change collection and `en` is a settings code (`lcOk`);
    `segsOk T st1 segs` (computable; header of `Proofs/PlainLangMixE2E.lean`: babel's macros and
    environments are declared, `{` directly behind the names, names and texts inert FOR THE LANGUAGE
    IN FORCE where they stand — the parser state is threaded through the document —, the white space
    behind `\end{otherlanguage[*]}` belongs to the `fin` segment); one unit of fuel per source
    character plus two.  NO hypothesis on the three `…_break` flags of `babel.py`.
    Then `tex2txt` succeeds, nothing is reported as unknown, no diagnostic is added, and
    `r.parts = refParts T o.lang thresh (lcOf st1) segs`:

    * `segMarks` / `delLines`: every text character keeps its own source position; the blank or line
      break directly behind `\end{otherlanguage}` (no star) is swallowed; a line that holds only
      white space and language commands is deleted with its line break;
    * `secsOf` (the stack discipline of `get_txt_pos_ml`: `sel` replaces the top, `frn` / `beg` push,
      the end of `frn` / `fin` pop; cut where the top changes) — see `C12_mix_word_language`;
    * `planOf` / `renderGroups`: a section of at most `thresh` words that was opened by a
      non-breaking, non-returning switch (`\foreignlanguage`, `\begin{otherlanguage}`) and behind
      which the text continues in the language in front of it is represented in the surrounding
      piece by ONE placeholder of the surrounding language's collection (rotated first, mapped to the
      first visible character of the section) and the piece continues; longer ones, hard switches
      and switches back cut the piece;
    * `groupSecs`, `shiftParts`: grouped by language code, positions 1-based. -/
theorem C12_mixed_languages_e2e (T : PTables) (o : Options) (fs : FS) (thresh : Nat) (segs : List Seg)
    (fuel : Nat) (st1 : PState)
    (hdefs : o.defs = []) (hextr : o.extr = []) (hrepl : o.hasRepl = false)
    (hinit : initParser T fuel o (initialState T o true fs) = .ok ((), st1))
    (hml : st1.multiLanguage = true) (hstk : st1.langStack ≠ [])
    (hlc : lcOk (lcOf st1) = true)
    (hok : segsOk T st1 segs = true)
    (hf : (render segs).length + 2 ≤ fuel) :
    ∃ r, tex2txt T fuel (render segs) o true thresh fs = .ok r ∧
      r.parts = refParts T o.lang thresh (lcOf st1) segs ∧ r.unknowns = [] ∧
      r.diags = st1.diags := by
  obtain ⟨r, h1, h2, h3, h4, _⟩ := tex2txt_mix T o fs thresh segs fuel st1 hdefs hextr hrepl
    hinit hml hstk hlc hok hf
  exact ⟨r, h1, h2, h3, h4⟩

/-- **every word under the language in force.**  Under the hypotheses of `C12_mixed_languages_e2e`:
    for every text character `c` of the source at (0-based) position `p` that is no white space
    (`textChars 0 segs`: the text segments and the texts of the insertions, cf.
    `C12_mix_textChars_source`) the result has, under the key `langAt T [o.lang] 0 segs p`, a piece of
    text that holds `c` with the position `p + 1`.  `langAt` is the reference stack discipline ON THE
    DOCUMENT (`Proofs/PlainLangMixCor.lean`): the stack starts as `[o.lang]`; `\selectlanguage`
    replaces its top; `\foreignlanguage{name}{text}` has the language of `name` on `text` and leaves
    the stack as it was; `\begin{otherlanguage[*]}{name}` pushes, `\end{otherlanguage[*]}` pops (unless
    one entry is left); the language in force is the top. -/
theorem C12_mix_word_language (T : PTables) (o : Options) (fs : FS) (thresh : Nat) (segs : List Seg)
    (fuel : Nat) (st1 : PState)
    (hdefs : o.defs = []) (hextr : o.extr = []) (hrepl : o.hasRepl = false)
    (hinit : initParser T fuel o (initialState T o true fs) = .ok ((), st1))
    (hml : st1.multiLanguage = true) (hstk : st1.langStack ≠ [])
    (hlc : lcOk (lcOf st1) = true)
    (hok : segsOk T st1 segs = true)
    (hf : (render segs).length + 2 ≤ fuel) :
    ∃ r, tex2txt T fuel (render segs) o true thresh fs = .ok r ∧
      ∀ c p, (c, p) ∈ textChars 0 segs → isSpace c = false →
        ∃ tp ∈ partOf r.parts (langAt T [o.lang] 0 segs p), (c, p + 1) ∈ PlainForeign.tpChars tp := by
  obtain ⟨r, h1, h2, _⟩ := tex2txt_mix T o fs thresh segs fuel st1 hdefs hextr hrepl
    hinit hml hstk hlc hok hf
  refine ⟨r, h1, ?_⟩
  intro c p hm hv
  rw [h2]
  exact refParts_word_language T o.lang thresh (lcOf st1) segs c p hm hv

theorem nodup_of_map {α β} (f : α → β) {l : List α} (h : (l.map f).Nodup) : l.Nodup := by
  rw [List.Nodup, List.pairwise_map] at h
  exact h.imp (fun hab e => hab (by rw [e]))

/-- **every word exactly once, at its own position.**  Under the hypotheses of
    `C12_mixed_languages_e2e` the parts are the rendering of the plan `refPlan`, whose pieces consist
    of VERBATIM sections of the text (`Comp.own`, and the inclusions, which are pieces of their own)
    and of PLACEHOLDERS (`Comp.ph`, one per inclusion).  Among the verbatim components of all pieces
    together (`planSecs`, every character with its own 0-based source position)
    * every text character that is no white space occurs EXACTLY ONCE;
    * every character that occurs is a text character of the source, standing in a piece whose
      language is `langAt` of its position; no source position occurs twice;
    * a verbatim component has the language of the piece it is part of.
    (The other characters of the parts are those of the placeholders — at most `thresh`-word
    inclusions —, which carry the position of the first visible character of the inclusion they
    stand for; that is why a bare "this position occurs once in `r.parts`" would be false.) -/
theorem C12_mix_word_once (T : PTables) (o : Options) (fs : FS) (thresh : Nat) (segs : List Seg)
    (fuel : Nat) (st1 : PState)
    (hdefs : o.defs = []) (hextr : o.extr = []) (hrepl : o.hasRepl = false)
    (hinit : initParser T fuel o (initialState T o true fs) = .ok ((), st1))
    (hml : st1.multiLanguage = true) (hstk : st1.langStack ≠ [])
    (hlc : lcOk (lcOf st1) = true)
    (hok : segsOk T st1 segs = true)
    (hf : (render segs).length + 2 ≤ fuel) :
    ∃ r, tex2txt T fuel (render segs) o true thresh fs = .ok r ∧
      r.parts = PlainLang.shiftParts (PlainLang.groupSecs
        (renderGroups (lcOf st1) (refPlan T o.lang thresh segs))) ∧
      (∀ c p, (c, p) ∈ textChars 0 segs → isSpace c = false →
        ((planSecs (refPlan T o.lang thresh segs)).flatMap secChars).count (c, p) = 1) ∧
      (∀ s ∈ planSecs (refPlan T o.lang thresh segs), ∀ cp ∈ secChars s,
        cp ∈ textChars 0 segs ∧ s.lang = langAt T [o.lang] 0 segs cp.2) ∧
      (((planSecs (refPlan T o.lang thresh segs)).flatMap secChars).map (·.2)).Nodup ∧
      (∀ g ∈ refPlan T o.lang thresh segs, ∀ s, Comp.own s ∈ g.comps → s.lang = g.lang) := by
  obtain ⟨r, h1, h2, _⟩ := tex2txt_mix T o fs thresh segs fuel st1 hdefs hextr hrepl
    hinit hml hstk hlc hok hf
  obtain ⟨hperm, hnd, _⟩ := refPlan_once T o.lang thresh segs
  have hnd' : (((planSecs (refPlan T o.lang thresh segs)).flatMap secChars).map (·.2)).Nodup :=
    ((hperm.map _).nodup_iff).mpr hnd
  refine ⟨r, h1, h2, ?_, ?_, hnd', planOf_own_lang thresh _⟩
  · intro c p hm hv
    have hmem : (c, p) ∈ (planSecs (refPlan T o.lang thresh segs)).flatMap secChars :=
      (hperm.mem_iff).mpr (refItems_visible T segs c p hm hv)
    rw [(nodup_of_map _ hnd').count, if_pos hmem]
  · intro s hs cp hcp
    exact refSecs_lang T o.lang segs s (((planOf_perm thresh _).mem_iff).mp hs) cp hcp

/-- **nesting.**  What the model does — and the reference `langAt` with it: `\end{otherlanguage[*]}`
    POPS the stack.  So behind a closed environment (`body` balanced: every environment opened in it
    is closed in it) the language stack, hence the language in force at every later position, is
    the one IN FRONT of the environment — also if a `\selectlanguage` occurred inside: it replaced
    the entry the environment had pushed, and that entry is gone (as in LaTeX, where the switch is
    local to the group of the environment).  `stk` is any non-empty stack, e.g. `[o.lang]` at the
    beginning or the stack inside an outer environment. -/
theorem C12_mix_nesting (T : PTables) (stk : List Str) (hstk : stk ≠ []) (star star' : Bool) (name : Str)
    (body : List Seg) (sp : Str) (hb : balanced 0 body = true) (rest : List Seg) (p q : Nat)
    (hq : p + lenSegs (.beg star name :: (body ++ [.fin star' sp])) ≤ q) :
    stkAfter T stk (.beg star name :: (body ++ [.fin star' sp])) = stk ∧
    langAt T stk p (.beg star name :: (body ++ [.fin star' sp]) ++ rest) q
      = langAt T stk (p + lenSegs (.beg star name :: (body ++ [.fin star' sp]))) rest q :=
  ⟨stkAfter_env T stk hstk star star' name body sp hb,
   langAt_env T stk hstk star star' name body sp hb rest p q hq⟩

theorem C12_mix_textChars_source (segs : List Seg) (c : Char) (p : Nat) (h : (c, p) ∈ textChars 0 segs) :
    (render segs)[p]? = some c :=
  (textChars_render segs 0 (c, p) h).2

/-- `English text. \begin{otherlanguage}{german} Deutscher Text mit \foreignlanguage{french}{un mot}
    darin. \end{otherlanguage} Back to English. \selectlanguage{russian} Русский текст.` -/
def exSegs : List Seg :=
  [.txt "English text. ".toList, .beg false "german".toList, .txt " Deutscher Text mit ".toList,
   .frn "french".toList "un mot".toList, .txt " darin. ".toList, .fin false " ".toList,
   .txt "Back to English. ".toList, .sel "russian".toList, .txt " Русский текст.".toList]

theorem exSegs_render : render exSegs =
    "English text. \\begin{otherlanguage}{german} Deutscher Text mit \\foreignlanguage{french}{un mot} darin. \\end{otherlanguage} Back to English. \\selectlanguage{russian} Русский текст.".toList := by
  unfold exSegs; (repeat rw [String.toList_ofList]); decide +kernel

theorem exSegs_ok : segsOk theTables stBabel exSegs = true := by
  rw [stBabel_eq]; unfold exSegs; (repeat rw [String.toList_ofList]); decide +kernel

theorem stBabel_lcOk : lcOk (lcOf stBabel) = true := by rw [stBabel_eq]; decide +kernel

/-- the expected parts (`ml_continue_thresh = 2`): the French insertion (two words) inside the German
    environment leaves the placeholder `L-L-L` of the GERMAN collection, mapped to position 89 = the
    `u` of `un mot`, and the German sentence continues in the same piece; the German environment (more
    than two words) and the hard switch to Russian cut the English text; the blank behind
    `\end{otherlanguage}` (position 123) does not occur -/
def exParts : Parts :=
  [("en-GB".toList,
      [("English text. ".toList, List.range' 1 14), ("Back to English. ".toList, List.range' 124 17)]),
   ("fr".toList, [("un mot".toList, List.range' 89 6)]),
   ("de-DE".toList,
      [(" Deutscher Text mit L-L-L darin. ".toList,
          List.range' 44 20 ++ [89, 89, 89, 89, 89] ++ List.range' 96 8)]),
   ("ru-RU".toList, [(" Русский текст.".toList, List.range' 165 15)])]

theorem exSegs_ref : refParts theTables babelOptions.lang 2 (lcOf stBabel) exSegs = exParts := by
  rw [stBabel_eq]; unfold exSegs exParts; (repeat rw [String.toList_ofList]); decide +kernel

/-- **the end-to-end theorem applies to the current code** (tables translated from /repo, package
    babel loaded, `--lang en-GB`, multi-language mode, `ml_continue_thresh = 2`).  The Python code
    gives the same on this document (`cd /repo && /venv/bin/python`, `tex2txt.tex2txt(doc,
    Options(pack='babel', lang='en-GB'), multi_language=True, modify_parms=…ml_continue_thresh = 2)`):
    `'en-GB': [['English text. ', [1..14]], ['Back to English. ', [124..140]]], 'fr': [['un mot',
    [89..94]]], 'de-DE': [[' Deutscher Text mit L-L-L darin. ', [44..63, 89, 89, 89, 89, 89, 96..103]]],
    'ru-RU': [[' Русский текст.', [165..179]]]`. -/
theorem C12_mixed_languages_e2e_current :
    ∃ r, tex2txt theTables bigFuel (render exSegs) babelOptions true 2 [] = .ok r ∧
      r.parts = exParts ∧ r.unknowns = [] ∧ r.diags = [] := by
  obtain ⟨r, h1, h2, h3, h4⟩ := C12_mixed_languages_e2e theTables babelOptions [] 2 exSegs bigFuel
    stBabel rfl rfl rfl initParser_babel PlainLang.stBabel_multi PlainForeign.stBabel_stack
    stBabel_lcOk exSegs_ok (by decide +kernel)
  exact ⟨r, h1, by rw [h2, exSegs_ref], h3, by rw [h4, PlainLang.stBabel_diags]⟩

/-- the same as a test on the output of the model (so that one SEES the output that is claimed):
    a corollary of the theorem -/
example : (match tex2txt theTables bigFuel (render exSegs) babelOptions true 2 [] with
    | .ok r => decide (r.parts = exParts ∧ r.unknowns = [] ∧ r.diags = [])
    | _ => false) = true := by
  obtain ⟨r, h1, h2, h3, h4⟩ := C12_mixed_languages_e2e_current
  rw [h1]; simp [h2, h3, h4]

/-- the language in force at some positions of the example (0-based): English, German inside the
    environment, French inside the insertion, German again, English behind the environment, Russian
    behind the switch -/
example : [5, 50, 90, 100, 130, 170].map (langAt theTables [babelOptions.lang] 0 exSegs)
    = ["en-GB".toList, "de-DE".toList, "fr".toList, "de-DE".toList, "en-GB".toList, "ru-RU".toList] := by
  unfold exSegs; (repeat rw [String.toList_ofList]); decide +kernel

/-- a second document: a starred environment on lines of its own, a `\selectlanguage` INSIDE it, a
    nested unstarred environment, two adjacent insertions behind it:
    `Intro.⏎\begin{otherlanguage*}{german}⏎Ein Satz.⏎\selectlanguage{french} Une phrase
    \begin{otherlanguage}{russian}мир\end{otherlanguage}⏎encore.⏎\end{otherlanguage*}⏎Back
    \foreignlanguage{german}{zu}\foreignlanguage{french}{a b c} x.` -/
def exSegs2 : List Seg :=
  [.txt "Intro.\n".toList] ++
  env true "german".toList
    ([.txt "\nEin Satz.\n".toList, .sel "french".toList, .txt " Une phrase ".toList] ++
      env false "russian".toList [.txt "мир".toList] "\n".toList ++ [.txt "encore.\n".toList])
    "\n".toList ++
  [.txt "Back ".toList, .frn "german".toList "zu".toList, .frn "french".toList "a b c".toList,
   .txt " x.".toList]

theorem exSegs2_ok : segsOk theTables stBabel exSegs2 = true := by
  rw [stBabel_eq]; unfold exSegs2; (repeat rw [String.toList_ofList]); decide +kernel

/-- what the model computes for it equals the reference; the lines of `\begin{otherlanguage*}{german}`
    and of `\end{otherlanguage*}` are gone; the Russian word (one word) is cut out of the FRENCH piece
    (the `\selectlanguage{french}` inside the German environment) and replaced by `L-L-L` (French
    has no settings of its own: the collection of `en`) — and the line break behind
    `\end{otherlanguage}` is swallowed, so that the placeholder and `encore` are glued; behind the
    starred environment the text is English again although the last switch inside was to French.
    The Python code gives the same parts on this document. -/
example : (match tex2txt theTables bigFuel (render exSegs2) babelOptions true 2 [] with
    | .ok r => decide (r.parts = refParts theTables babelOptions.lang 2 (lcOf stBabel) exSegs2 ∧
        r.parts =
          [("en-GB".toList, [("Intro.\n".toList, List.range' 1 7), ("Back ".toList, List.range' 166 5),
              (" x.".toList, List.range' 230 3)]),
           ("de-DE".toList, [("Ein Satz.\n".toList, List.range' 39 10), ("zu".toList, [196, 197])]),
           ("ru-RU".toList, [("мир".toList, [114, 115, 116])]),
           ("fr".toList, [(" Une phrase L-L-Lencore.\n".toList,
                List.range' 72 12 ++ [114, 114, 114, 114, 114] ++ List.range' 137 8),
              ("a b c".toList, List.range' 224 5)])])
    | _ => false) = true := by
  obtain ⟨r, h1, h2, _⟩ := C12_mixed_languages_e2e theTables babelOptions [] 2 exSegs2 bigFuel
    stBabel rfl rfl rfl initParser_babel PlainLang.stBabel_multi PlainForeign.stBabel_stack
    stBabel_lcOk exSegs2_ok (by decide +kernel)
  rw [h1]; simp only [h2, true_and, decide_eq_true_eq]
  rw [stBabel_eq]; (repeat rw [String.toList_ofList]); decide +kernel

/-- a SHORT environment is replaced by a placeholder like a short insertion, and the blank behind
    `\end{otherlanguage}` is swallowed: `A \begin{otherlanguage}{german}Hallo\end{otherlanguage} B.`
    gives `A L-L-LB.` — the placeholder is glued to the next word (the Python code gives the same) -/
example : refParts theTables babelOptions.lang 2 (lcOf stBabel)
      [.txt "A ".toList, .beg false "german".toList, .txt "Hallo".toList, .fin false " ".toList,
       .txt "B.".toList]
    = [("de-DE".toList, [("Hallo".toList, [32, 33, 34, 35, 36])]),
       ("en-GB".toList, [("A L-L-LB.".toList, [1, 2, 32, 32, 32, 32, 32, 57, 58])])] := by
  rw [stBabel_eq]; (repeat rw [String.toList_ofList]); decide +kernel

/-- the side conditions reject: babel not loaded; white space behind `\end{otherlanguage}` that is
    not part of the `fin` segment; the active character `"` in text inside a German environment -/
example : segsOk theTables stDefault [.beg false "german".toList, .fin false []] = false := by
  rw [stDefault_eq]; decide +kernel
example : segsOk theTables stBabel [.beg false "german".toList, .fin false [], .txt " a".toList] = false := by
  rw [stBabel_eq]; decide +kernel
example : segsOk theTables stBabel
    [.beg false "german".toList, .txt "sagt \"a".toList, .fin false []] = false := by
  rw [stBabel_eq, String.toList_ofList, String.toList_ofList]; decide +kernel
/-- … and accept an unbalanced `\end{otherlanguage}` (nothing is popped) and a paragraph break behind
    `\end{otherlanguage}` (it stays) -/
example : segsOk theTables stBabel
    [.txt "a".toList, .fin false "\n\n".toList, .txt "b".toList, .fin true [], .txt "c".toList] = true := by
  rw [stBabel_eq]; decide +kernel

end PlainLangMix
end Yalafi
