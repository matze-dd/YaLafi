/-
  Properties/PlainExtractStmt.lean — C18, first half (extraction), end to end:
  "With an extraction list the output consists of exactly the first mandatory arguments of the
  listed macros, in order of appearance, and nothing else; occurrences in comments are not
  reported."  Proofs: Proofs/PlainExtract.lean (document class, side conditions, what is not
  covered: see the header of that file).
-/
import YalafiVerif.Proofs.PlainExtract
import YalafiVerif.Generated.Init
namespace Yalafi

open PlainExtract in
/-- **C18 (extraction), end to end.**  `--extr` is given (`o.extr ≠ []`; `extrList o.extr` = its
    comma-separated parts with a backslash in front); the document `render segs` consists of inert
    text (`.txt`), comment lines `%text⏎` with arbitrary text (`.com`), calls `\name{body}` of
    macros whose first mandatory argument is extracted in the state
    `initExtractions T st1 (extrList o.extr)` in which `parse` expands the document (`.call`; such
    a macro is in the list: `C18_extract_listed`), and calls `\name{body}` of declared macros that
    are not extracted there (`.skip`); `st1` is the state after `Parser.__init__`; no `--defs`,
    `--repl`, `--unkn`, single-language mode; one unit of fuel per source character plus four.
    Then `tex2txt` succeeds, and

    * `r.txt` is, for each `.call` in source order, three line breaks, the body, one line break —
      nothing else (`flowsText`);
    * `r.pos` (1-based): every body character maps to its own source position, the three line
      breaks in front of a body to its first character, the line break behind it to the start of
      its last token (`refOut`);
    * `r.unknowns = []`, no diagnostic is added, the ghost flag `foreign` is unset. -/
theorem C18_extract_e2e (T : PTables) (o : Options) (fs : FS) (thresh : Nat)
    (segs : List PlainExtract.Seg) (fuel : Nat) (st1 : PState)
    (hdefs : o.defs = []) (hextr : o.extr ≠ []) (hrepl : o.hasRepl = false) (hunkn : o.unkn = false)
    (hinit : initParser T fuel o (initialState T o false fs) = .ok ((), st1))
    (hst : PlainExtract.stateOk T (initExtractions T st1 (extrList o.extr)) = true)
    (hok : PlainExtract.segsOk T (initExtractions T st1 (extrList o.extr)) segs = true)
    (hf : (PlainExtract.render segs).length + 4 ≤ fuel) :
    ∃ r, tex2txt T fuel (PlainExtract.render segs) o false thresh fs = .ok r ∧
      r.txt = flowsText segs ∧
      r.txt = (PlainExtract.refOut segs).map (·.1) ∧
      r.pos = (PlainExtract.refOut segs).map (fun cp => cp.2 + 1) ∧
      r.unknowns = [] ∧ r.diags = st1.diags ∧ r.foreign = false :=
  PlainExtract.tex2txt_extract T o fs thresh segs fuel st1 hdefs hextr hrepl hunkn hinit hst hok hf

open PlainExtract in
/-- **C18 (extraction): exactly the bodies.**  Under the same hypotheses: the visible (non-blank)
    characters of the output are the visible characters of the concatenated bodies of the
    extracted calls, in source order; paired with `r.pos` they are the visible body characters at
    their own 1-based source positions (`bodiesOut`); every output position — also those of the
    separating line breaks — is the position of a body character (none lies in a text segment, a
    comment or a call that is not extracted); every body character is the source character at its
    position. -/
theorem C18_extract_exact (T : PTables) (o : Options) (fs : FS) (thresh : Nat)
    (segs : List PlainExtract.Seg) (fuel : Nat) (st1 : PState)
    (hdefs : o.defs = []) (hextr : o.extr ≠ []) (hrepl : o.hasRepl = false) (hunkn : o.unkn = false)
    (hinit : initParser T fuel o (initialState T o false fs) = .ok ((), st1))
    (hst : PlainExtract.stateOk T (initExtractions T st1 (extrList o.extr)) = true)
    (hok : PlainExtract.segsOk T (initExtractions T st1 (extrList o.extr)) segs = true)
    (hf : (PlainExtract.render segs).length + 4 ≤ fuel) :
    ∃ r, tex2txt T fuel (PlainExtract.render segs) o false thresh fs = .ok r ∧
      r.txt = flowsText segs ∧
      r.txt.filter (fun c => !isSpace c) = (bodies segs).flatten.filter (fun c => !isSpace c) ∧
      (r.txt.zip r.pos).filter (fun cp => !isSpace cp.1)
        = ((bodiesOut 0 segs).filter (fun cp => !isSpace cp.1)).map (fun cp => (cp.1, cp.2 + 1)) ∧
      (∀ q ∈ r.pos, 1 ≤ q ∧ ∃ c, (c, q - 1) ∈ bodiesOut 0 segs) ∧
      (∀ cp ∈ bodiesOut 0 segs, (PlainExtract.render segs)[cp.2]? = some cp.1) :=
  PlainExtract.tex2txt_extract_exact T o fs thresh segs fuel st1 hdefs hextr hrepl hunkn hinit hst hok hf

/-- **only listed macros are extracted.**  After `init_extractions` a macro with a non-empty
    extraction text is in the extraction list; hence in a document that satisfies `segsOk` every
    macro whose body is reported (`.call`) is listed. -/
theorem C18_extract_listed (T : PTables) (st1 : PState) (l : List Str) :
    (∀ n m, lookupMacro (initExtractions T st1 l) n = some m → m.extract ≠ [] → n ∈ l) ∧
    (∀ segs, PlainExtract.segsOk T (initExtractions T st1 l) segs = true →
      ∀ n ∈ PlainExtract.callNames segs, n ∈ l) :=
  ⟨fun n m => PlainExtract.initExtractions_listed T st1 l n m, PlainExtract.calls_listed T st1 l⟩

/-- what `init_extractions` does to the declarations: a declared macro keeps its name and argument
    codes, loses handler and replacement, and has an extraction text only if it is listed
    (`updDecl`); a listed name that is not declared is declared with one mandatory argument, which
    is extracted (`newDecl`) -/
theorem C18_extract_decls (T : PTables) (st1 : PState) (l : List Str) (n : Str) :
    (∀ m, lookupMacro st1 n = some m →
      lookupMacro (initExtractions T st1 l) n = some (PlainExtract.updDecl T l m)) ∧
    (lookupMacro st1 n = none → n ∈ l →
      lookupMacro (initExtractions T st1 l) n = some (PlainExtract.newDecl T n)) :=
  ⟨fun m => PlainExtract.initExtractions_declared T st1 l n m,
   PlainExtract.initExtractions_undeclared T st1 l n⟩

namespace ExtractCurrent
open Generated PlainExtract

/-- `--extr footnote` -/
def oFootnote : Options := { extr := "footnote".toList }
/-- `--extr foo` (`\foo` is not declared in the tables) -/
def oFoo : Options := { extr := "foo".toList }
/-- `--extr foo,section,footnote` -/
def oMixed : Options := { extr := "foo,section,footnote".toList }

/-- `"Alpha\footnote{first note} beta gamma\footnote{second}.\n"` -/
def segsFootnote : List PlainExtract.Seg :=
  [.txt "Alpha".toList, .call "footnote".toList "first note".toList, .txt " beta gamma".toList,
   .call "footnote".toList "second".toList, .txt ".\n".toList]

/-- `"A \foo{one two} B\footnote{hidden note}\nC \section{Title}\foo{three}\label{l:1}\n% \foo{hidden}\nD"`:
    two calls of the listed, undeclared `\foo`; `\footnote`, `\section`, `\label` are declared and
    not listed; a comment line with a call of `\foo` -/
def segsFoo : List PlainExtract.Seg :=
  [.txt "A ".toList, .call "foo".toList "one two".toList, .txt " B".toList,
   .skip "footnote".toList "hidden note".toList, .txt "\nC ".toList,
   .skip "section".toList "Title".toList, .call "foo".toList "three".toList,
   .skip "label".toList "l:1".toList, .txt "\n".toList, .com " \\foo{hidden}".toList,
   .txt "D".toList]

/-- `"\section{Intro}\nText\footnote{a\n b\n\nc d  } more \foo{it's 1-2}\caption{cap}\n%\foo{x}\n%\n\foo{z}"` -/
def segsMixed : List PlainExtract.Seg :=
  [.call "section".toList "Intro".toList, .txt "\nText".toList,
   .call "footnote".toList "a\n b\n\nc d  ".toList, .txt " more ".toList,
   .call "foo".toList "it's 1-2".toList, .skip "caption".toList "cap".toList, .txt "\n".toList,
   .com "\\foo{x}".toList, .com [], .call "foo".toList "z".toList]

end ExtractCurrent

open Generated PlainExtract ExtractCurrent in
/-- (1) `--extr footnote`, a macro that is declared with an extraction of its own: the
    initialisation is that of the default options, the state and document conditions hold on the
    tables of the current /repo -/
theorem C18_extract_footnote_current :
    initParser theTables bigFuel oFootnote (initialState theTables oFootnote false []) = .ok ((), stDefault) ∧
    PlainExtract.stateOk theTables (initExtractions theTables stDefault (extrList oFootnote.extr)) = true ∧
    PlainExtract.segsOk theTables (initExtractions theTables stDefault (extrList oFootnote.extr))
      segsFootnote = true :=
  ⟨initParser_default,
    by rw [stDefault_eq]; unfold oFootnote segsFootnote; (repeat rw [String.toList_ofList]); decide +kernel⟩

open Generated PlainExtract ExtractCurrent in
/-- (2) `--extr foo` for a name that is not declared: `init_extractions` declares `\foo` with one
    mandatory argument (`callDeclOk`); `\footnote`, `\section`, `\label` are declared, not listed,
    and lose handler, replacement and extraction (`skipDeclOk`; shown for `\footnote`, which has
    the extraction text `#2` before); the comment line `% \foo{hidden}` is an ordinary comment -/
theorem C18_extract_foo_current :
    initParser theTables bigFuel oFoo (initialState theTables oFoo false []) = .ok ((), stDefault) ∧
    ((lookupMacro stDefault "\\foo".toList).isNone = true ∧
     (lookupMacro (initExtractions theTables stDefault (extrList oFoo.extr)) "\\foo".toList).map
         (fun m => (m.args, m.handler, m.repl, m.extract))
       = some ("A".toList, Handler.none, [], [{ kind := .arg 1, pos := 0, txt := "#1".toList }])) ∧
    ((lookupMacro stDefault "\\footnote".toList).map (fun m => (m.args, m.handler, m.repl, m.extract))
       = some ("OA".toList, Handler.none, [], [{ kind := .arg 2, pos := 0, txt := "#2".toList }]) ∧
     (lookupMacro (initExtractions theTables stDefault (extrList oFoo.extr)) "\\footnote".toList).map
         (fun m => (m.args, m.handler, m.repl, m.extract))
       = some ("OA".toList, Handler.none, [], [])) ∧
    PlainExtract.stateOk theTables (initExtractions theTables stDefault (extrList oFoo.extr)) = true ∧
    PlainExtract.segsOk theTables (initExtractions theTables stDefault (extrList oFoo.extr)) segsFoo = true :=
  ⟨initParser_default, by rw [stDefault_eq]; unfold oFoo; (repeat rw [String.toList_ofList]); decide +kernel,
    by rw [stDefault_eq]; unfold oFoo; (repeat rw [String.toList_ofList]); decide +kernel,
    by rw [stDefault_eq]; unfold oFoo segsFoo; (repeat rw [String.toList_ofList]); decide +kernel⟩

open Generated PlainExtract ExtractCurrent in
/-- (3) `--extr foo,section,footnote`: an undeclared name, a macro declared with a handler and the
    argument codes `*OA` (its handler is deleted, the extraction text becomes `#3`), and
    `\footnote` (`OA`, `#2`); `\caption` is not listed and loses its extraction -/
theorem C18_extract_mixed_current :
    initParser theTables bigFuel oMixed (initialState theTables oMixed false []) = .ok ((), stDefault) ∧
    ((lookupMacro stDefault "\\section".toList).map (fun m => (m.args, m.handler, m.extract))
       = some ("*OA".toList, Handler.heading, []) ∧
     (lookupMacro (initExtractions theTables stDefault (extrList oMixed.extr)) "\\section".toList).map
         (fun m => (m.args, m.handler, m.repl, m.extract))
       = some ("*OA".toList, Handler.none, [], [{ kind := .arg 3, pos := 0, txt := "#3".toList }])) ∧
    PlainExtract.stateOk theTables (initExtractions theTables stDefault (extrList oMixed.extr)) = true ∧
    PlainExtract.segsOk theTables (initExtractions theTables stDefault (extrList oMixed.extr)) segsMixed = true :=
  ⟨initParser_default, by rw [stDefault_eq]; unfold oMixed; (repeat rw [String.toList_ofList]); decide +kernel,
    by rw [stDefault_eq]; unfold oMixed segsMixed; (repeat rw [String.toList_ofList]); decide +kernel⟩

theorem C18_stDefault_diags : Generated.stDefault.diags = [] := by rw [Generated.stDefault_eq]; rfl

open Generated PlainExtract ExtractCurrent in
/-- the end-to-end statement applied to (2) on the current tables: only the two bodies of `\foo`
    are reported, in order; the footnote, the section title, the label and the `\foo{hidden}` of
    the comment line are not -/
theorem C18_extract_foo_example_current (thresh : Nat) :
    ∃ r, tex2txt theTables bigFuel
        "A \\foo{one two} B\\footnote{hidden note}\nC \\section{Title}\\foo{three}\\label{l:1}\n% \\foo{hidden}\nD".toList
        oFoo false thresh [] = .ok r ∧
      r.txt = "\n\n\none two\n\n\n\nthree\n".toList ∧
      r.pos = [8, 8, 8, 8, 9, 10, 11, 12, 13, 14, 14, 63, 63, 63, 63, 64, 65, 66, 67, 67] ∧
      r.unknowns = [] ∧ r.diags = [] := by
  obtain ⟨h1, _, _, h2, h3⟩ := C18_extract_foo_current
  obtain ⟨r, hr, _, ht, hp, hu, hd, _⟩ := C18_extract_e2e theTables oFoo [] thresh segsFoo bigFuel
    stDefault rfl (by decide) rfl rfl h1 h2 h3 (by decide)
  have hsrc : PlainExtract.render segsFoo
      = "A \\foo{one two} B\\footnote{hidden note}\nC \\section{Title}\\foo{three}\\label{l:1}\n% \\foo{hidden}\nD".toList := by
    rw [String.toList_ofList]; decide
  rw [hsrc] at hr
  refine ⟨r, hr, ?_, ?_, hu, hd.trans C18_stDefault_diags⟩
  · rw [ht, String.toList_ofList]; decide
  · rw [hp]; decide

open Generated PlainExtract ExtractCurrent in
/-- the end-to-end statement applied to (1) on the current tables: `--extr footnote` reports the
    footnote bodies only -/
theorem C18_extract_footnote_example_current (thresh : Nat) :
    ∃ r, tex2txt theTables bigFuel
        "Alpha\\footnote{first note} beta gamma\\footnote{second}.\n".toList oFootnote false thresh [] = .ok r ∧
      r.txt = "\n\n\nfirst note\n\n\n\nsecond\n".toList ∧
      r.pos = [16, 16, 16, 16, 17, 18, 19, 20, 21, 22, 23, 24, 25, 25,
               48, 48, 48, 48, 49, 50, 51, 52, 53, 53] ∧
      r.unknowns = [] ∧ r.diags = [] := by
  obtain ⟨h1, h2, h3⟩ := C18_extract_footnote_current
  obtain ⟨r, hr, _, ht, hp, hu, hd, _⟩ := C18_extract_e2e theTables oFootnote [] thresh segsFootnote
    bigFuel stDefault rfl (by decide) rfl rfl h1 h2 h3 (by decide)
  have hsrc : PlainExtract.render segsFootnote
      = "Alpha\\footnote{first note} beta gamma\\footnote{second}.\n".toList := by rw [String.toList_ofList]; decide
  rw [hsrc] at hr
  refine ⟨r, hr, ?_, ?_, hu, hd.trans C18_stDefault_diags⟩
  · rw [ht, String.toList_ofList]; decide
  · rw [hp]; decide

end Yalafi
